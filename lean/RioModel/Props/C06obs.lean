/-
C06 for the MODELLED observers — "behaviourally identical" stated on the level where behaviour is modelled.

`Props/C06.lean` proves that the serde-model value is restored exactly (`action_roundtrip`,
`action_text_roundtrip`, `request_roundtrip`).  What a proxy DOES with a restored action is modelled elsewhere, on
other types: the use-time observers of C05 (`Rio.Action.Action.getStatusCode`, `filterHeaders` (+
`X-RedirectionIo-RuleIds`), `createFilterBody`, `shouldLogRequest`, `getFinalStatusCodeWithFallback`, all `&mut self`
on `rules_applied`) and the router of C01 (`Rio.Router.RouterG.matchReq`).  This file connects the types, through
`ofJsonAction readId` and `reqOfJson ipOf instant` (Proofs/JsonObs.lean).

What is and is not proved here.  Proved: the JSON carries every field the modelled observers / the modelled
matcher read, and nothing they read is altered by the round trip (through the JSON text).  Given the round trip,
the equalities of observations are congruences — the content is in (a) the round-trip theorems, (b) the totality
of `ofJsonAction` / `reqOfJson` on the serde types (no observer input is missing from the JSON) and (c)
`model_action_recovered` (nothing is lost or conflated on the way back, which fails without the `u16` bound).  Not
proved: that the Rust observers are the modelled ones (that is C05's / C01's correspondence), and the body-filter
OUTPUT beyond the selected filter list (C03 / C04 model the chains on their own types; here only the text-filter
probe `Probe.runChain` of the action model is covered).  The implementation-side oracle of harness c06 (same status
code, headers, body, log decision, applied ids on the real restored action) remains the check of the real code.
-/
import RioModel.Props.C06b
import RioModel.Proofs.JsonObs
import RioModel.Model.RouterLayers

namespace Rio.C06
open Rio.Action Rio.Action.Spec

theorem fromRoutesRule_u16 (R : List Rule) (q : Req) (draw : Rule → Nat) (hR : ∀ r ∈ R, r.U16) :
    (fromRoutesRule R q draw).U16 := by
  rw [Rio.C05.action_eq_spec]
  exact spec_action_u16 q _ fun r hr => hR r (Rio.C05.contributing_mem R q draw r hr).1

theorem stateAfter_u16 (R : List Rule) (q : Req) (draw : Rule → Nat) (hR : ∀ r ∈ R, r.U16)
    (allow : Bool) (c : Nat) (ops : List Op) :
    (stateAfter allow c (fromRoutesRule R q draw) ops).U16 := by
  rw [action_eq_applied, stateAfter_spec]
  exact withApplied_u16 _ _
    (spec_action_u16 q _ fun r hr => hR r (Rio.C05.contributing_mem R q draw r hr).1)

/-- A reader that reads back what `showId` renders makes `showId` injective (the hypothesis of Props/C06b). -/
theorem injective_of_reader (showId : RuleId → String) (readId : String → RuleId)
    (hleft : ∀ i, readId (showId i) = i) : Function.Injective showId :=
  Function.LeftInverse.injective hleft

/-- Conversely every injective rendering has such a reader (so `hleft` asks no more than C06b's `hinj`). -/
theorem exists_reader_of_injective (showId : RuleId → String) (hinj : Function.Injective showId) :
    ∃ readId : String → RuleId, ∀ i, readId (showId i) = i := by
  classical
  refine ⟨fun s => if h : ∃ i, showId i = s then Classical.choose h else [], ?_⟩
  intro i
  have h : ∃ j, showId j = showId i := ⟨i, rfl⟩
  simp only [h, dite_true]
  exact hinj (Classical.choose_spec h)

/-- **Nothing is lost between the action model and the JSON.** -/
theorem model_action_recovered (showId : RuleId → String) (readId : String → RuleId)
    (hleft : ∀ i, readId (showId i) = i) (R : List Rule) (q : Req) (draw : Rule → Nat)
    (hR : ∀ r ∈ R, r.U16) :
    ofJsonAction readId (toJsonAction showId (fromRoutesRule R q draw)) = fromRoutesRule R q draw :=
  ofJson_toJson showId readId hleft _ (fromRoutesRule_u16 R q draw hR)

/-- The bound is needed: status codes 301 and 65837 are different in the action model and the same `u16`. -/
example : u16 301 = u16 65837 := by decide

/-- **The restored action under the C05 observers** (any serde-model action, e.g. one received from an agent this
model knows nothing about): the action restored from the JSON TEXT exists and, read into the action model,
gives — for every sequence of observer calls with a response code per call (results AND applied-rule ids after
every call), for the complete `filter_headers` on any header list, and for the text body-filter chain built from
the selected filters on any body — what the original gives. -/
theorem action_observers_roundtrip (readId : String → RuleId) (a : Rio.Json.Action) (h : a.WF) :
    ∃ a', Rio.Json.deActionText (Rio.Json.print (Rio.Json.serAction a)).toList = some a' ∧
      Rio.Json.deAction (Rio.Json.serAction a) = some a' ∧
      (∀ allow ops, runOpsC allow (ofJsonAction readId a') ops = runOpsC allow (ofJsonAction readId a) ops) ∧
      (∀ lower showId headers c add,
        (ofJsonAction readId a').filterHeadersFull lower showId headers c add =
          (ofJsonAction readId a).filterHeadersFull lower showId headers c add) ∧
      (∀ c body,
        Probe.runChain (Probe.chainOf ((ofJsonAction readId a').createFilterBody c).1) body =
          Probe.runChain (Probe.chainOf ((ofJsonAction readId a).createFilterBody c).1) body) :=
  ⟨a, action_text_roundtrip a h, action_roundtrip a h, fun _ _ => rfl, fun _ _ _ _ _ => rfl, fun _ _ => rfl⟩

/-- **C06 ∘ C05**: the action the library computes (`Action::from_routes_rule` on any matched rules, request and
sampling draws), printed as JSON text, read back and used: for every sequence of (observer, response code) calls,
the result of each call and the applied-rule ids after it are those of the ORIGINAL action, i.e. (C05) those of
the specification table over the contributing rules. -/
theorem model_action_observers (showId : RuleId → String) (readId : String → RuleId)
    (hleft : ∀ i, readId (showId i) = i) (R : List Rule) (q : Req) (draw : Rule → Nat)
    (hR : ∀ r ∈ R, r.U16) :
    ∃ a', Rio.Json.deActionText
          (Rio.Json.print (Rio.Json.serAction (toJsonAction showId (fromRoutesRule R q draw)))).toList = some a' ∧
      ofJsonAction readId a' = fromRoutesRule R q draw ∧
      ∀ allow (ops : List (Op × Nat)),
        runOpsC allow (ofJsonAction readId a') ops = runOpsC allow (fromRoutesRule R q draw) ops ∧
        runOpsC allow (ofJsonAction readId a') ops =
          Spec.observeC q (contributing q draw (sortRules R)) allow [] ops := by
  have hinj := injective_of_reader showId readId hleft
  have hrec := model_action_recovered showId readId hleft R q draw hR
  refine ⟨_, model_action_text_roundtrip showId hinj R q draw, hrec, fun allow ops => ?_⟩
  rw [hrec]
  exact ⟨rfl, Rio.C05.observations_mixed_codes R q draw allow ops⟩

/-- … in particular the complete `filter_headers` (selection, the C13 header actions, the
`X-RedirectionIo-RuleIds` header) on the restored action returns the headers it returns on the original. -/
theorem model_action_headers (showId : RuleId → String) (readId : String → RuleId)
    (hleft : ∀ i, readId (showId i) = i) (R : List Rule) (q : Req) (draw : Rule → Nat)
    (hR : ∀ r ∈ R, r.U16) (lower : String → String) (headers : List Rio.Header.Header) (c : Nat) (add : Bool) :
    ∃ a', Rio.Json.deActionText
          (Rio.Json.print (Rio.Json.serAction (toJsonAction showId (fromRoutesRule R q draw)))).toList = some a' ∧
      (ofJsonAction readId a').filterHeadersFull lower showId headers c add =
        (fromRoutesRule R q draw).filterHeadersFull lower showId headers c add := by
  have hinj := injective_of_reader showId readId hleft
  refine ⟨_, model_action_text_roundtrip showId hinj R q draw, ?_⟩
  rw [model_action_recovered showId readId hleft R q draw hR]

/-- **Hand-over in the middle of use**: a proxy that has already made the calls `ops1` serialises the action it
holds; whoever restores it and continues with `ops2` observes exactly the rest of the uninterrupted sequence
(results and applied-rule ids, which include the ids inserted before the hand-over). -/
theorem observed_action_handover (showId : RuleId → String) (readId : String → RuleId)
    (hleft : ∀ i, readId (showId i) = i) (R : List Rule) (q : Req) (draw : Rule → Nat)
    (hR : ∀ r ∈ R, r.U16) (allow : Bool) (c : Nat) (ops1 ops2 : List Op) :
    ∃ a', Rio.Json.deAction (Rio.Json.serAction
          (toJsonAction showId (stateAfter allow c (fromRoutesRule R q draw) ops1))) = some a' ∧
      runOps allow c (fromRoutesRule R q draw) (ops1 ++ ops2) =
        runOps allow c (fromRoutesRule R q draw) ops1 ++ runOps allow c (ofJsonAction readId a') ops2 := by
  have hinj := injective_of_reader showId readId hleft
  refine ⟨_, observed_action_roundtrip showId hinj R q draw allow c ops1, ?_⟩
  rw [ofJson_toJson showId readId hleft _ (stateAfter_u16 R q draw hR allow c ops1)]
  exact runOps_append allow c _ ops1 ops2

open Rio.Json in
/-- **A restored request matches the same rules.**  For every matcher tower `O` of the router model (C01: the
specification-level tower `towerOps E` and the tree-level tower `towerTOps T` are instances), every router state
`S`, every conversion of the two atoms: the request restored from the JSON text exists and, seen as the router
model's request, is matched by the same routes in the same order, gets the same trace and the same final route;
and the part the action computation reads (`sampling_override`, the skipped query parameters) is unchanged, so for
any assignment `ruleOf` of handlers to routes the action computed from the restored request is the action computed
from the original. -/
theorem request_match_roundtrip (O : Rio.Router.MOps) (S : Rio.Router.RouterG O) (P : Codec)
    (ipOf : Ip → Rio.Router.Ip) (instant : DateTime → Nat) (q : Request) (h : q.WF) :
    ∃ q', deRequestText P (print (serRequest q)).toList = some q' ∧
      deRequest P (serRequest q) = some q' ∧
      Rio.Router.RouterG.matchReq O S (reqOfJson ipOf instant q') =
        Rio.Router.RouterG.matchReq O S (reqOfJson ipOf instant q) ∧
      Rio.Router.RouterG.trace O S (reqOfJson ipOf instant q') =
        Rio.Router.RouterG.trace O S (reqOfJson ipOf instant q) ∧
      Rio.Router.RouterG.getRoute O S (reqOfJson ipOf instant q') =
        Rio.Router.RouterG.getRoute O S (reqOfJson ipOf instant q) ∧
      ∀ (ruleOf : Rio.Router.Route → Rule) (draw : Rule → Nat),
        fromRoutesRule ((Rio.Router.RouterG.matchReq O S (reqOfJson ipOf instant q')).map ruleOf)
            (actionReqOfJson q') draw =
          fromRoutesRule ((Rio.Router.RouterG.matchReq O S (reqOfJson ipOf instant q)).map ruleOf)
            (actionReqOfJson q) draw :=
  ⟨q, request_text_roundtrip P q h, request_roundtrip P q h, rfl, rfl, rfl, fun _ _ => rfl⟩

private def mkRule (id : RuleId) (rank : Nat) (status : Option Nat) (codes : Option (List Nat)) : Rule :=
  { id := id, rank := rank, statusCode := status, target := some "/t", responseStatusCodes := codes,
    excludeResponseStatusCodes := none, sampling := none,
    headerFilters := some [⟨"add", "X-A", "1", none, none⟩],
    bodyFilters := some [.text ⟨.append, "<!-- x -->", none, none⟩],
    logOverride := some true, reset := none, stop := none, redirectUnitId := none,
    configurationLogUnitId := none, targetHash := none }

private def exRules : List Rule := [mkRule [97] 1 (some 301) none, mkRule [98] 2 (some 410) (some [404])]

example : ∀ r ∈ exRules, r.U16 := by
  intro r hr
  simp only [exRules, List.mem_cons, List.mem_nil_iff, or_false] at hr
  rcases hr with rfl | rfl <;>
    refine ⟨by decide, fun c hc => ?_⟩ <;> simp [mkRule, codesOf] at hc <;> omega

/-- the hypotheses of `model_action_observers` can be met: `showUnary` (Props/C06b) is injective, hence has a reader -/
example : ∃ readId : String → RuleId, ∀ i, readId (showUnary i) = i :=
  exists_reader_of_injective showUnary showUnary_injective

/-- and the observers do observe something on such an action (the closed form `Spec.action` of
`fromRoutesRule`, C05 `action_eq_spec`, which the kernel can evaluate): the conditional rule `b` is the primary
status rule, the unconditional `a` its fallback — nothing at request time, 410 for a backend 404 (attributed to
`b`), 301 for a backend 500 (attributed to `a`) -/
example :
    runOpsC true (Spec.action ⟨none, none⟩ exRules) [(.status, 0), (.status, 404), (.status, 500)] =
      [(.status 0, []), (.status 410, [[98]]), (.status 301, [[98], [97]])] := by
  decide +kernel

example :
    Rio.Json.reqOfJson Rio.Json.ipNum Rio.Json.unixSeconds
      { path_and_query_skipped := ⟨"/a?x=1", some "/a", some "x=1", "/a?x=1"⟩, path_and_query := some "/a?x=1",
        host := some "a.com", scheme := some "https", method := none, headers := [⟨"X-A", "v"⟩],
        remote_addr := some (.v4 ⟨10, 0, 0, 1⟩), created_at := some ⟨2020, 1, 1, 0, 0, 0, 0⟩,
        sampling_override := none } =
      { scheme := some "https", host := some "a.com", method := none, headers := [("X-A", "v")],
        ip := some ⟨false, 167772161⟩, createdAt := some 1577836800, path := "/a" } := by
  decide +kernel

end Rio.C06
