/-
C05, the unit trace — `action::UnitTrace` and every place the library feeds it.

Model: Model/UnitTrace.lean.  Tied to the code by harness c05 / drv_c05: every case also runs
`from_routes_rule` and the observer sequence with a real `UnitTrace` and compares its serialised
content before and after `squash_with_target_unit_traces`, `diff` and `rule_ids_contains` with the
model (and checks on the implementation that no returned value changes: oracle `trace-interference`).

How this instantiates the abstract `UT` of the project-level analyses (Model/LoopAnalysis.lean, Props/C19b.lean): `UT := UnitTrace`,
`utRuleIds t = t.ruleIdsApplied`, `utUnitIds t = t.unitIdsApplied`, `utDiff = UnitTrace.diff`;
`evalUnit` / `evalTest` are `proxyPipeline false` / `proxyPipeline true` below, up to the body stage:
the api pipelines feed an HTML probe body through HTML filters, whose trace writes live inside the
chain model of the filters and are NOT modelled here (the body stage of this file is the text-filter chain).
-/
import RioModel.Proofs.UnitTrace
import RioModel.Props.C05

namespace Rio.C05
open Rio.Action Rio.Action.Spec

/-- `from_routes_rule` computes the same action with and without a trace. -/
theorem fold_non_interference (R : List Rule) (q : Req) (draw : Rule → Nat) (t : Option UnitTrace) :
    (fromRoutesRuleT R q draw t).1 = fromRoutesRule R q draw :=
  congrArg Prod.fst (foldRoutesT_eq q draw Action.empty t (sortRules R))

/-- Each observer returns the same value and leaves the same action, whatever trace it is given. -/
theorem observer_non_interference (lower : String → String) (showId : RuleId → String) (a : Action)
    (hs : List Rio.Header.Header) (allow add : Bool) (c fb : Nat) (t : Option UnitTrace) :
    (a.getStatusCodeT c t).1 = a.getStatusCode c ∧
    (a.getFinalT c fb t).1 = a.getFinalStatusCodeWithFallback c fb ∧
    (a.filterHeadersFullT lower showId hs c add t).1 = a.filterHeadersFull lower showId hs c add ∧
    (a.shouldLogRequestT allow c t).1 = a.shouldLogRequest allow c :=
  ⟨congrArg Prod.fst (getStatusCodeT_eq a c t), congrArg Prod.fst (getFinalT_eq a c fb t),
   congrArg Prod.fst (filterHeadersFullT_eq lower showId a hs c add t),
   congrArg Prod.fst (shouldLogRequestT_eq a allow c t)⟩

/-- The five header actions and the header pipeline: same headers as the untraced pipeline of C13. -/
theorem header_pipeline_non_interference (lower : String → String) (fs : List HeaderFilter)
    (hs : List Rio.Header.Header) (t : Option UnitTrace) :
    (filterHeadersT lower fs hs t).1 = Rio.Header.filterHeaders lower (fs.map toHeaderOp) hs :=
  congrArg Prod.fst (filterHeadersT_eq lower fs hs t)

/-- The text-filter chain: same body. -/
theorem text_chain_non_interference (fs : List BodyFilter) (body : String) (t : Option UnitTrace) :
    (ProbeT.runChain (ProbeT.chainOf fs) body t).1 = Probe.runChain (Probe.chainOf fs) body := by
  rw [ProbeT.runChain_eq, ProbeT.chainOf_forget]

/-- **Non-interference of a whole pipeline**: for every sequence of observer calls, every returned
value, the applied-rule ids after each call and the final action are the same with any trace as with
`None`; and with `None` no trace appears. -/
theorem trace_non_interference (env : EnvT) (c : Nat) (a : Action) (t : Option UnitTrace) (ops : List Op) :
    (runOpsT env c a t ops).1 = (runOpsT env c a none ops).1 ∧
    (runOpsT env c a t ops).2.1 = (runOpsT env c a none ops).2.1 ∧
    (runOpsT env c a none ops).2.2 = none := by
  rw [runOpsT_eq env c a t ops, runOpsT_eq env c a none ops]
  exact ⟨rfl, rfl, rfl⟩

/-- … and the applied-rule ids it reports are those of the untraced observers of C05. -/
theorem traced_applied_ids (env : EnvT) (c : Nat) (a : Action) (t : Option UnitTrace) (ops : List Op) :
    (runOpsT env c a t ops).1.map (·.2) = (runOps env.allowLogConfig c a ops).map (·.2) := by
  induction ops generalizing a t with
  | nil => rfl
  | cons op rest ih =>
    simp only [runOpsT, runOps, List.map_cons, runOpT_action]
    rw [ih]

/-- The trace after the fold = the trace before + the `configuration::reset` / `configuration::stop`
writes of the effective reset rules reached and of the effective stop rule (`foldOps`). -/
theorem fold_trace (R : List Rule) (q : Req) (draw : Rule → Nat) (t : UnitTrace) :
    (fromRoutesRuleT R q draw (some t)).2 = some (t.applyAll (foldOps q draw (sortRules R))) :=
  congrArg Prod.snd (foldRoutesT_eq q draw Action.empty (some t) (sortRules R))

/-- The trace after any observer sequence = the trace before + a list of writes that depends on the
action, the response code and the arguments only — never on the trace. -/
theorem trace_is_write_only (env : EnvT) (c : Nat) (a : Action) (t : UnitTrace) (ops : List Op) :
    (runOpsT env c a (some t) ops).2.2 = some (t.applyAll (seqOps env c a ops)) :=
  congrArg (·.2.2) (runOpsT_eq env c a (some t) ops)

/-- `get_status_code`: the rule the status is attributed to (`statusAt`), and — whenever some rule is
applied, primary or fallback — the redirect unit of the PRIMARY status rule under target `status_code`. -/
theorem status_writes (q : Req) (C : List Rule) (s : List RuleId) (c : Nat) :
    statusOps (withApplied (Spec.action q C) s) c =
      match primaryFallback carriesStatus C with
      | none => []
      | some (p, _) =>
        match (statusAt C c).2 with
        | none => []
        | some id =>
          .ruleId id :: (match p.redirectUnitId with | some u => [.addWithTarget "status_code" u] | none => []) := by
  unfold statusOps
  simp only [withApplied, Spec.action]
  cases h : primaryFallback carriesStatus C with
  | none => rfl
  | some pf =>
    obtain ⟨p, fb⟩ := pf
    simp only [Option.map_some, ← statusAt_eq h]
    cases (statusAt C c).2 with
    | none => rfl
    | some id =>
      simp only [statusUpdateOf]
      cases p.redirectUnitId <;> rfl

/-- `should_log_request`: the log unit under `configuration::log` iff the PRIMARY log rule admits the
code (`handled`); the unit is the fallback rule's when there is a fallback (the quirk of `merge`). -/
theorem log_writes (q : Req) (C : List Rule) (s : List RuleId) (c : Nat) :
    logOps (withApplied (Spec.action q C) s) c =
      match primaryFallback carriesLog C with
      | none => []
      | some (p, fb) =>
        if admits p c then
          configUnitOps (match fb with | some f => f.configurationLogUnitId | none => p.configurationLogUnitId)
            "configuration::log"
        else [] := by
  unfold logOps
  simp only [withApplied, Spec.action]
  cases h : primaryFallback carriesLog C with
  | none => rfl
  | some pf =>
    obtain ⟨p, fb⟩ := pf
    simp only [Option.map_some, logOverrideOf, logGetLogOverride_eq, ← admits.eq_1]
    cases admits p c <;> cases fb <;> rfl

/-- `filter_headers`: the writes of the header actions over the filters selected for the code (`headerFiltersAt`), run on
the headers as they evolve; then the applied-rule ids, in `LinkedHashSet` order. -/
theorem header_writes (lower : String → String) (q : Req) (C : List Rule) (d : List RuleId)
    (hs : List Rio.Header.Header) (c : Nat) :
    filterHeadersOps lower (withApplied (Spec.action q C) (dedupLast d)) hs c =
      headerOps lower (headerFiltersAt q C c) hs ++
        (dedupLast (d ++ insertedBy q C c .headers)).map TOp.ruleId := by
  unfold filterHeadersOps
  rw [filterHeaders_spec, foldl_lhsInsert_dedupLast]
  rfl

/-- **`rule_ids_applied` in closed form**: after the fold and any observer sequence on a fresh trace,
it is the `LinkedHashSet` (keep the last occurrence) of the rule ids written, in order. -/
theorem rule_ids_applied_closed_form (ops : List TOp) :
    (UnitTrace.empty.applyAll ops).ruleIdsApplied = dedupLast (ops.filterMap TOp.rule?) := by
  rw [applyAll_ruleIds]
  exact foldl_lhsInsert_nil _

/-- In the proxy order the rule ids recorded by `filter_headers` are exactly
`get_applied_rule_ids()` at that moment (C05 `observations_eq_spec` gives its closed form). -/
theorem header_rule_ids (lower : String → String) (a : Action) (hs : List Rio.Header.Header) (c : Nat) :
    (filterHeadersOps lower a hs c).filterMap TOp.rule? = (a.filterHeaders c true).action.rulesApplied := by
  unfold filterHeadersOps
  rw [List.filterMap_append]
  have h1 : ∀ l : List RuleId, (l.map TOp.ruleId).filterMap TOp.rule? = l := by
    intro l; induction l <;> simp_all [TOp.rule?]
  have h2 : (headerOps lower (a.filterHeaders c true).filters hs).filterMap TOp.rule? = [] :=
    List.filterMap_eq_nil_iff.mpr (headerOps_rule lower _ hs)
  rw [h1, h2, List.nil_append]

/-- Where an applied unit id can come from, for response code `c`: `S` = the matched rules sorted. -/
inductive UnitSource (q : Req) (draw : Rule → Nat) (S : List Rule) (c : Nat) (u : String) : Prop
  /-- `configuration_reset_unit_id` of an effective `reset` or `stop` rule (contributing or not: a reset
  rule that was itself discarded by a later reset still reports its unit) -/
  | config (r : Rule) : r ∈ S → effective q draw r = true → (isReset r = true ∨ isStop r = true) →
      r.configurationResetUnitId = some u → UnitSource q draw S c u
  /-- `redirect_unit_id` of a contributing rule carrying a status code -/
  | status (r : Rule) : r ∈ contributing q draw S → carriesStatus r = true → r.redirectUnitId = some u →
      UnitSource q draw S c u
  /-- `id` of a header filter (incl. the `Location` filter, whose id is the redirect unit) of a contributing
  rule whose condition admits `c` -/
  | header (r : Rule) (f : HeaderFilterAction) : r ∈ contributing q draw S → admits r c = true →
      f ∈ ruleHeaderFilters q r → f.filter.id = some u → UnitSource q draw S c u
  /-- `id` of a text body filter of a contributing rule whose condition admits `c` -/
  | body (r : Rule) (tf : TextBodyFilter) : r ∈ contributing q draw S → admits r c = true →
      (∃ f ∈ ruleBodyFilters r, f.filter = .text tf) → tf.id = some u → UnitSource q draw S c u
  /-- `configuration_log_unit_id` of a contributing rule carrying a log override -/
  | log (r : Rule) : r ∈ contributing q draw S → carriesLog r = true → r.configurationLogUnitId = some u →
      UnitSource q draw S c u

theorem foldOps_units (q : Req) (draw : Rule → Nat) (S : List Rule) (op : TOp) (u : String)
    (hop : op ∈ foldOps q draw S) (hu : op.unit? = some u) :
    ∃ r ∈ S, effective q draw r = true ∧ (isReset r = true ∨ isStop r = true) ∧
      r.configurationResetUnitId = some u := by
  induction S with
  | nil => cases hop
  | cons r rest ih =>
    unfold foldOps at hop
    have hcfg : ∀ target, op ∈ configUnitOps r.configurationResetUnitId target →
        r.configurationResetUnitId = some u := fun target h => configUnitOps_unit _ target op u h hu
    cases he : effective q draw r
    · simp only [he, Bool.false_eq_true, if_false] at hop
      obtain ⟨x, hx, h⟩ := ih hop
      exact ⟨x, List.mem_cons_of_mem _ hx, h⟩
    · simp only [he, if_true, List.mem_append] at hop
      rcases hop with h | h
      · cases hr : isReset r
        · simp [hr] at h
        · simp only [hr, if_true] at h
          exact ⟨r, by simp, he, .inl hr, hcfg _ h⟩
      · cases hs : isStop r
        · simp only [hs, Bool.false_eq_true, if_false] at h
          obtain ⟨x, hx, h'⟩ := ih h
          exact ⟨x, List.mem_cons_of_mem _ hx, h'⟩
        · simp only [hs, if_true] at h
          exact ⟨r, by simp, he, .inr hs, hcfg _ h⟩

theorem opOps_units (env : EnvT) (q : Req) (draw : Rule → Nat) (S : List Rule) (c : Nat) (d : List RuleId)
    (op : Op) (w : TOp) (u : String)
    (hw : w ∈ opOps env c (withApplied (Spec.action q (contributing q draw S)) (dedupLast d)) op)
    (hu : w.unit? = some u) : UnitSource q draw S c u := by
  have hstatus : ∀ (s : List RuleId) (c' : Nat) (w : TOp), w.unit? = some u →
      w ∈ statusOps (withApplied (Spec.action q (contributing q draw S)) s) c' → UnitSource q draw S c u := by
    intro s c' w hu hw
    rw [status_writes] at hw
    cases hpf : primaryFallback carriesStatus (contributing q draw S) with
    | none => simp [hpf] at hw
    | some pf =>
      obtain ⟨p, fb⟩ := pf
      have hm := primaryFallback_mem carriesStatus _ p fb hpf
      simp only [hpf] at hw
      cases hid : (statusAt (contributing q draw S) c').2 with
      | none => simp [hid] at hw
      | some id =>
        simp only [hid, List.mem_cons] at hw
        rcases hw with rfl | hw
        · cases hu
        · cases hru : p.redirectUnitId with
          | none => simp [hru] at hw
          | some x =>
            simp only [hru, List.mem_singleton] at hw
            subst hw
            simp only [TOp.unit?, Option.some.injEq] at hu
            exact .status p hm.1.1 hm.1.2 (by rw [hru, hu])
  cases op with
  | status => exact hstatus _ c w hu hw
  | final fb =>
    simp only [opOps, List.mem_append] at hw
    rcases hw with h | h
    · exact hstatus _ c w hu h
    · split at h
      · rw [getStatusCode_spec] at h
        exact hstatus _ fb w hu h
      · cases h
  | log =>
    simp only [opOps] at hw
    rw [log_writes] at hw
    cases hpf : primaryFallback carriesLog (contributing q draw S) with
    | none => simp [hpf] at hw
    | some pf =>
      obtain ⟨p, fb⟩ := pf
      have hm := primaryFallback_mem carriesLog _ p fb hpf
      simp only [hpf] at hw
      split at hw
      · cases fb with
        | none => exact .log p hm.1.1 hm.1.2 (configUnitOps_unit _ _ w u hw hu)
        | some f =>
          have hf := hm.2 f rfl
          exact .log f hf.1 hf.2.1 (configUnitOps_unit _ _ w u hw hu)
      · cases hw
  | headers =>
    simp only [opOps] at hw
    rw [header_writes] at hw
    rcases List.mem_append.mp hw with h | h
    · obtain ⟨f, hf, hid⟩ := headerOps_units env.lower _ _ w u h hu
      simp only [headerFiltersAt, List.mem_flatMap, List.mem_filter, List.mem_map] at hf
      obtain ⟨r, ⟨hr, ha⟩, fa, hfa, rfl⟩ := hf
      exact .header r fa hr ha hfa hid
    · obtain ⟨id, _, rfl⟩ := List.mem_map.mp h
      cases hu
  | body =>
    simp only [opOps] at hw
    split at hw
    · cases hw
    · rw [createFilterBody_spec] at hw
      obtain ⟨tf, htf, hid⟩ := ProbeT.chainOps_units _ _ w u hw hu
      simp only [bodyFiltersAt, List.mem_flatMap, List.mem_filter, List.mem_map] at htf
      obtain ⟨r, ⟨hr, ha⟩, fa, hfa, hfe⟩ := htf
      exact .body r tf hr ha ⟨fa, hfa, hfe⟩ hid

theorem seqOps_units (env : EnvT) (q : Req) (draw : Rule → Nat) (S : List Rule) (c : Nat) (ops : List Op)
    (d : List RuleId) (w : TOp) (u : String)
    (hw : w ∈ seqOps env c (withApplied (Spec.action q (contributing q draw S)) (dedupLast d)) ops)
    (hu : w.unit? = some u) : UnitSource q draw S c u := by
  induction ops generalizing d with
  | nil => cases hw
  | cons op rest ih =>
    simp only [seqOps, List.mem_append] at hw
    rcases hw with h | h
    · exact opOps_units env q draw S c d op w u h hu
    · rw [runOp_spec] at h
      exact ih _ h

/-- **Attribution of unit ids.**  Run `from_routes_rule` and then ANY sequence of observers for response
code `c` with a fresh trace, then `squash_with_target_unit_traces`: every id in `unit_ids_applied` has a `UnitSource`. -/
theorem unit_ids_attributed (env : EnvT) (R : List Rule) (q : Req) (draw : Rule → Nat) (c : Nat)
    (ops : List Op) (t : UnitTrace) (u : String)
    (ht : (runOpsT env c (fromRoutesRuleT R q draw (some UnitTrace.empty)).1
            (fromRoutesRuleT R q draw (some UnitTrace.empty)).2 ops).2.2 = some t)
    (hu : u ∈ t.squash.unitIdsApplied) : UnitSource q draw (sortRules R) c u := by
  rw [fold_trace, fold_non_interference, trace_is_write_only, ← applyAll_append] at ht
  simp only [Option.some.injEq] at ht
  subst ht
  obtain ⟨w, hw, hwu⟩ := squash_units _ u hu
  rcases List.mem_append.mp hw with h | h
  · obtain ⟨r, hr, he, hrs, hcu⟩ := foldOps_units q draw _ w u h hwu
    exact .config r hr he hrs hcu
  · have e : fromRoutesRule R q draw =
        withApplied (Spec.action q (contributing q draw (sortRules R))) (dedupLast []) :=
      action_eq_withApplied R q draw
    rw [e] at h
    exact seqOps_units env q draw _ c ops [] w u h hwu

def unitsOfRule (q : Req) (r : Rule) : List String :=
  r.configurationResetUnitId.toList ++ r.redirectUnitId.toList ++ r.configurationLogUnitId.toList ++
    (ruleHeaderFilters q r).filterMap (·.filter.id) ++
    (ruleBodyFilters r).filterMap fun f => match f.filter with | .text tf => tf.id | .html _ => none

/-- Every `UnitSource` is a unit id OF A MATCHED RULE: some `r ∈ R` has `u` among its own unit ids. -/
theorem unit_source_matched (R : List Rule) (q : Req) (draw : Rule → Nat) (c : Nat) (u : String)
    (h : UnitSource q draw (sortRules R) c u) : ∃ r ∈ R, u ∈ unitsOfRule q r := by
  unfold unitsOfRule
  cases h with
  | config r hr _ _ hcu =>
    exact ⟨r, (sortRules_perm R).subset hr, by simp [hcu]⟩
  | status r hr _ hru =>
    exact ⟨r, (contributing_mem R q draw r hr).1, by simp [hru]⟩
  | header r f hr _ hf hid =>
    refine ⟨r, (contributing_mem R q draw r hr).1, ?_⟩
    simp only [List.mem_append, List.mem_filterMap]
    exact .inl (.inr ⟨f, hf, hid⟩)
  | body r tf hr _ hf hid =>
    refine ⟨r, (contributing_mem R q draw r hr).1, ?_⟩
    obtain ⟨f, hf, hfe⟩ := hf
    simp only [List.mem_append, List.mem_filterMap]
    exact .inr ⟨f, hf, by simp [hfe, hid]⟩
  | log r hr _ hlu =>
    exact ⟨r, (contributing_mem R q draw r hr).1, by simp [hlu]⟩

/-- `squash_with_target_unit_traces`: afterwards a unit id is applied iff it was applied before or is
still registered under some target; the applied set is sorted; the registry is empty. -/
theorem squash_spec (t : UnitTrace) :
    (∀ u, u ∈ t.squash.unitIdsApplied ↔ u ∈ t.unitIdsApplied ∨ ∃ e ∈ t.withTarget, u ∈ e.2) ∧
    t.squash.unitIdsApplied.Pairwise (fun a b => decide (a ≤ b) = true) ∧
    t.squash.withTarget = [] := by
  refine ⟨mem_squash t, ?_, rfl⟩
  unfold UnitTrace.squash UnitTrace.sortStrings
  apply List.pairwise_mergeSort
  · intro a b c h1 h2
    simp only [decide_eq_true_eq] at *
    exact String.le_trans h1 h2
  · intro a b
    simp only [Bool.or_eq_true, decide_eq_true_eq]
    exact String.le_total a b

/-- **override vs add under the same target.**  `override_unit_id_with_target(th, u)` forgets every
unit registered under `th` before it; `add_unit_id_with_target(th, u)` keeps them.  So of two header
filters with the same target hash, a later `override`/`replace`/`remove` unit supersedes an earlier
unit, a later `add`/`default` unit joins it. -/
theorem override_vs_add (t : UnitTrace) (th u : String) :
    (∀ e ∈ (t.overrideUnitIdWithTarget th u).withTarget, e.1 = th → e.2 = [u]) ∧
    (∀ e ∈ t.withTarget, e.1 = th → ∀ x ∈ e.2,
      ∃ e' ∈ (t.addUnitIdWithTarget th u).withTarget, e'.1 = th ∧ x ∈ e'.2) ∧
    (∃ e' ∈ (t.addUnitIdWithTarget th u).withTarget, e'.1 = th ∧ u ∈ e'.2) := by
  refine ⟨?_, ?_, ?_⟩
  · intro e he hth
    simp only [UnitTrace.overrideUnitIdWithTarget, UnitTrace.wtOverride, UnitTrace.wtAdd] at he
    have hnone : (t.withTarget.filter (fun e => !(e.1 == th))).any (fun e => e.1 == th) = false := by
      simp only [List.any_eq_false, List.mem_filter, Bool.not_eq_true', beq_eq_false_iff_ne, and_imp]
      intro x _ hx
      simpa using hx
    simp only [hnone, Bool.false_eq_true, if_false, List.mem_append, List.mem_filter, List.mem_singleton] at he
    rcases he with ⟨_, h⟩ | h
    · simp [hth] at h
    · rw [h]
  · intro e he hth x hx
    simp only [UnitTrace.addUnitIdWithTarget, UnitTrace.wtAdd]
    have hany : t.withTarget.any (fun e => e.1 == th) = true := by
      simp only [List.any_eq_true, beq_iff_eq]
      exact ⟨e, he, hth⟩
    simp only [hany, if_true, List.mem_map]
    refine ⟨(e.1, sInsert e.2 u), ⟨e, he, by simp [hth]⟩, hth, (mem_sInsert _ _ _).mpr (.inl hx)⟩
  · simp only [UnitTrace.addUnitIdWithTarget, UnitTrace.wtAdd]
    cases hany : t.withTarget.any (fun e => e.1 == th)
    · simp only [Bool.false_eq_true, if_false, List.mem_append, List.mem_singleton]
      exact ⟨(th, [u]), .inr rfl, rfl, by simp⟩
    · simp only [if_true, List.mem_map]
      simp only [List.any_eq_true, beq_iff_eq] at hany
      obtain ⟨e, he, hth⟩ := hany
      exact ⟨(e.1, sInsert e.2 u), ⟨e, he, by simp [hth]⟩, hth, (mem_sInsert _ _ _).mpr (.inr rfl)⟩

/-- Kernel-checked instance (the registry `squash` reads, by `squash_spec`): `add a; override b` under one
target leaves only `b` there; `override a; add b` leaves both; a unit under another target is untouched;
`unit_ids_seen` keeps everything. -/
theorem override_vs_add_example :
    (UnitTrace.empty.applyAll [.addWithTarget "h" "a", .addWithTarget "k" "z", .overrideWithTarget "h" "b"]).withTarget
      = [("k", ["z"]), ("h", ["b"])] ∧
    (UnitTrace.empty.applyAll [.overrideWithTarget "h" "a", .addWithTarget "h" "b"]).withTarget = [("h", ["a", "b"])] ∧
    (UnitTrace.empty.applyAll [.addWithTarget "h" "a", .addWithTarget "k" "z", .overrideWithTarget "h" "b"]).unitIdsSeen
      = ["a", "z", "b"] := by
  decide

/-- **`diff` is set difference**: exactly the ids of `other` that are not applied, each once. -/
theorem diff_spec (t : UnitTrace) (other : List String) :
    (∀ u, u ∈ t.diff other ↔ u ∈ other ∧ u ∉ t.unitIdsApplied) ∧ (t.diff other).Nodup :=
  ⟨mem_diff t other, nodup_diff t other⟩

/-- `rule_ids_contains` is membership in `get_rule_ids_applied`. -/
theorem rule_ids_contains_spec (t : UnitTrace) (id : RuleId) :
    t.ruleIdsContains id = true ↔ id ∈ t.ruleIdsApplied := by
  simp [UnitTrace.ruleIdsContains]

/-- `unit_ids.rs` (`withLog = false`) / `test_examples.rs` (`withLog = true`), `create_result`:
fold with a fresh trace, `get_status_code(0)`, if that is 0 `get_status_code(backend)`, then
`filter_headers([], backend', false)`, the body chain, optionally `should_log_request(true, final)`,
then `squash`.  (`backend` = `example.response_status_code.unwrap_or(200)`; body stage = text chain.) -/
def proxyPipeline (withLog : Bool) (env : EnvT) (R : List Rule) (q : Req) (draw : Rule → Nat) (backend : Nat) :
    Option UnitTrace :=
  let f := fromRoutesRuleT R q draw (some UnitTrace.empty)
  let s0 := f.1.getStatusCodeT 0 f.2
  let st : (Nat × Nat) × Action × Option UnitTrace :=
    if s0.1.1 != 0 then ((s0.1.1, s0.1.1), s0.1.2, s0.2)
    else
      let s1 := s0.1.2.getStatusCodeT backend s0.2
      ((s1.1.1, backend), s1.1.2, s1.2)
  let h := st.2.1.filterHeadersFullT env.lower env.showId [] st.1.2 false st.2.2
  let b := runOpT { env with headers := [] } st.1.2 h.1.2 h.2 .body
  let l := if withLog then (b.1.2.shouldLogRequestT true st.1.1 b.2).2 else b.2
  l.map UnitTrace.squash

/-- The pipelines are functions of the SET of matched rules (distinct ids): what
`permInv_of_sorted` (Props/C19b.lean) asks of `evalUnit` / `evalTest`. -/
theorem proxyPipeline_perm_invariant (withLog : Bool) (env : EnvT) (q : Req) (draw : Rule → Nat) (backend : Nat)
    {R R' : List Rule} (h : R.Perm R') (hn : NodupIds R) :
    proxyPipeline withLog env R q draw backend = proxyPipeline withLog env R' q draw backend := by
  unfold proxyPipeline fromRoutesRuleT
  rw [sortRules_congr h hn.keyInj]

private def mkU (id : RuleId) (rank : Nat) (status : Option Nat) (codes : Option (List Nat)) (reset : Bool)
    (ru cu : Option String) (hf : Option (List HeaderFilter)) : Rule :=
  { id := id, rank := rank, statusCode := status, target := none, responseStatusCodes := codes,
    excludeResponseStatusCodes := none, sampling := none, headerFilters := hf, bodyFilters := none,
    logOverride := none, reset := some reset, stop := none, redirectUnitId := ru,
    configurationLogUnitId := none, targetHash := none, configurationResetUnitId := cu }

/-- Two rules, already sorted: `b` (rank 2, reset with unit `cu-b`, header `add` unit `h1` under target
`t`) and `a` (rank 1, 302 on 404 with unit `ru-a`, header `override` unit `h2` under the same target).
For code 404, proxy order status → headers: the registry `squash` reads holds the reset unit, the
redirect unit and `h2` — `h1` was superseded by the override under the same target (but stays in
`unit_ids_seen`); for code 200 rule `a` is not admitted: `h1` survives, `ru-a` / `h2` never appear. -/
example :
    let S := [mkU [98] 2 none none true none (some "cu-b")
                (some [⟨"add", "X-A", "1", some "h1", some "t"⟩]),
              mkU [97] 1 (some 302) (some [404]) false (some "ru-a") none
                (some [⟨"override", "X-A", "2", some "h2", some "t"⟩])]
    let env : EnvT := ⟨id, fun _ => "", [], "", true⟩
    let run (c : Nat) : Option UnitTrace :=
      (runOpsT env c (foldRoutesT ⟨none, none⟩ (fun _ => 1) Action.empty (some UnitTrace.empty) S).1
        (foldRoutesT ⟨none, none⟩ (fun _ => 1) Action.empty (some UnitTrace.empty) S).2
        [.status, .headers]).2.2
    ((run 404).map fun t => (t.withTarget, t.unitIdsSeen, t.ruleIdsApplied)) =
      some ([("configuration::reset", ["cu-b"]), ("status_code", ["ru-a"]), ("t", ["h2"])],
            ["cu-b", "ru-a", "h1", "h2"], [[98], [97]]) ∧
    ((run 200).map fun t => (t.withTarget, t.unitIdsSeen, t.ruleIdsApplied)) =
      some ([("configuration::reset", ["cu-b"]), ("t", ["h1"])], ["cu-b", "h1"], [[98]]) :=
  ⟨rfl, rfl⟩

end Rio.C05
