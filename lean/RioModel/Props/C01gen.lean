/-
C01 (rule matching is exact) — the leaf predicates for date, time of day, week day and ip range REGENERATED FROM
THE SOURCE.

`Rio.Consts.genRouteDateTimeMatch / genRouteTimeMatch / genRouteWeekdayMatch / genRouteIpMatchInRange /
NotInRange` are translated on every run from `match_datetime` of src/router/route_datetime.rs, route_time.rs,
route_weekday.rs and from `match_ip` of src/router/route_ip.rs (tools/consts.d/w4_translate_time.py, section
`w4_translate_time`).  Proofs/TimeGen.lean shows they are the hand-written primitives; here the `window_*`
theorems of Props/C01prim.lean are restated for the translated definitions, and the router model's date condition and
ip test (`DCond.eval`, `RouteIp.matchIp`; the date / ip clauses of the specification `sat` of `match_exact` apply the same
`matchInstant` / `matchIp`) are expressed through them — so a source change that alters a leaf
predicate (a `<` that becomes `<=`, swapped bounds, a dropped negation) breaks a proof, not only the
correspondence.  What stays abstract in the translation: chrono's values (bounds and instants are `Nat`s ordered
like the chrono values), `Weekday` equality, `AnyIpCidr::contains` (modelled and proved in Props/C01prim).
-/
import RioModel.Props.C01prim
import RioModel.Proofs.TimeGen
import RioModel.Proofs.RouterGen

namespace Rio.C01
open Rio.Consts Rio.TimeWindow Rio.TimeGen

theorem gen_time_primitives_eq_model (w : Window) (r : RouteWeekday) (t : Nat) :
    genRouteDateTimeMatch w.start w.stop t = matchDateTime w t ∧
    genRouteTimeMatch w.start w.stop (timeOfDay t) = matchTime w t ∧
    genRouteWeekdayMatch r.days (TimeWindow.weekdayOf t) = r.matchDateTime t :=
  ⟨genRouteDateTimeMatch_eq w t, gen_matchTime w t, gen_matchWeekday r t⟩

/-- `DateTimeCondition::match_value` of the router model (`DCond.eval`; its arms are the clauses of `dateOk` in `sat`) computes
with the translated predicates; `gen_match_ip_eq_model`: so does `match_ip`, in the CIDR model of Props/C01prim and in the
router model -/
theorem gen_date_condition_eq_model (c : Router.DCond) (q : Router.Req) :
    c.eval q =
      match q.createdAt with
      | none => false
      | some t =>
        match c with
        | .dateRange rs => rs.any fun r => genRouteDateTimeMatch r.start r.stop t
        | .timeRange rs => rs.any fun r => genRouteTimeMatch r.start r.stop (Router.timeOfDay t)
        | .weekdays ws => genRouteWeekdayMatch ws (Router.weekdayOf t) :=
  gen_dcond c q

theorem gen_match_ip_eq_model (k : Cidr.RouteIp) (a : Cidr.IpAddr) (k' : Router.RouteIp) (a' : Router.Ip) :
    (k.matchIp a =
      match k with
      | .inRange c => genRouteIpMatchInRange Cidr.AnyIpCidr.contains c a
      | .notInRange c => genRouteIpMatchNotInRange Cidr.AnyIpCidr.contains c a) ∧
    (k'.matchIp a' =
      match k' with
      | .inRange c => genRouteIpMatchInRange Router.Cidr.contains c a'
      | .notInRange c => genRouteIpMatchNotInRange Router.Cidr.contains c a') :=
  ⟨gen_matchIp k a, gen_router_matchIp k' a'⟩

/-- the `window_*` theorems of Props/C01prim for the translated `RouteDateTime` / `RouteTime::match_datetime`: start inclusive,
end exclusive, a missing bound open -/
theorem window_closed_form_gen (start stop : Option Nat) (t : Nat) :
    (genRouteDateTimeMatch start stop t = true ↔ (∀ s, start = some s → s ≤ t) ∧ (∀ e, stop = some e → t < e)) ∧
    (genRouteTimeMatch start stop t = true ↔ (∀ s, start = some s → s ≤ t) ∧ (∀ e, stop = some e → t < e)) := by
  have h := window_closed_form ⟨start, stop⟩ t
  exact ⟨by rw [genRouteDateTimeMatch_eq ⟨start, stop⟩ t]; exact h,
         by rw [genRouteTimeMatch_eq ⟨start, stop⟩ t]; exact h⟩

theorem window_boundaries_gen {s e : Nat} (h : s < e) :
    genRouteDateTimeMatch (some s) (some e) s = true ∧ genRouteDateTimeMatch (some s) (some e) (e - 1) = true ∧
    genRouteDateTimeMatch (some s) (some e) e = false ∧
    (0 < s → genRouteDateTimeMatch (some s) (some e) (s - 1) = false) ∧
    genRouteTimeMatch (some s) (some e) s = true ∧ genRouteTimeMatch (some s) (some e) (e - 1) = true ∧
    genRouteTimeMatch (some s) (some e) e = false ∧
    (0 < s → genRouteTimeMatch (some s) (some e) (s - 1) = false) := by
  have hb := window_boundaries h
  have e1 := fun t => genRouteDateTimeMatch_eq ⟨some s, some e⟩ t
  have e2 := fun t => genRouteTimeMatch_eq ⟨some s, some e⟩ t
  simp only at e1 e2
  simp only [e1, e2]
  exact ⟨hb.1, hb.2.1, hb.2.2.1, hb.2.2.2, hb.1, hb.2.1, hb.2.2.1, hb.2.2.2⟩

theorem window_open_bounds_gen (t b : Nat) :
    genRouteDateTimeMatch none none t = true ∧
    (genRouteDateTimeMatch none (some b) t = true ↔ t < b) ∧
    (genRouteDateTimeMatch (some b) none t = true ↔ b ≤ t) ∧
    genRouteTimeMatch none none t = true ∧
    (genRouteTimeMatch none (some b) t = true ↔ t < b) ∧
    (genRouteTimeMatch (some b) none t = true ↔ b ≤ t) := by
  have h := window_open_bounds t b
  have e1 := fun (s e : Option Nat) => genRouteDateTimeMatch_eq ⟨s, e⟩ t
  have e2 := fun (s e : Option Nat) => genRouteTimeMatch_eq ⟨s, e⟩ t
  simp only at e1 e2
  simp only [e1, e2]
  exact ⟨h.1, h.2.1, h.2.2, h.1, h.2.1, h.2.2⟩

/-- the translated `RouteTime::match_datetime` does not wrap either: a window across midnight (end ≤ start) matches no
instant (`time_window_wrap_empty`) -/
theorem time_window_wrap_empty_gen {s e : Nat} (h : e ≤ s) (t : Nat) :
    genRouteTimeMatch (some s) (some e) (timeOfDay t) = false := by
  rw [gen_matchTime ⟨some s, some e⟩ t]
  exact time_window_wrap_empty h t

theorem time_periodic_gen (start stop : Option Nat) (t : Nat) :
    genRouteTimeMatch start stop (timeOfDay (t + nsPerDay)) = genRouteTimeMatch start stop (timeOfDay t) := by
  rw [gen_matchTime ⟨start, stop⟩, gen_matchTime ⟨start, stop⟩]
  exact (time_periodic ⟨start, stop⟩ t).1

/-- PIN OF THE GENERATED TEXT (not a restated property). -/
theorem weekday_member_gen (r : RouteWeekday) (t : Nat) :
    genRouteWeekdayMatch r.days (TimeWindow.weekdayOf t) = true ↔ TimeWindow.weekdayOf t ∈ r.days := by
  simp [genRouteWeekdayMatch]

/-- PIN OF THE GENERATED TEXT (not a restated property). -/
theorem not_in_range_gen {κ β : Type} (contains : κ → β → Bool) (c : κ) (a : β) :
    genRouteIpMatchNotInRange contains c a = !genRouteIpMatchInRange contains c a := rfl

example : genRouteTimeMatch (some 79200) (some 7200) (timeOfDay 1709247600) = false := by decide
example : genRouteDateTimeMatch (some 10) (some 20) 10 = true ∧ genRouteDateTimeMatch (some 10) (some 20) 20 = false := by
  decide

/-! ### `match_request` of the host / scheme / method / ip layers, regenerated (section `w4_translate_router`)

`Rio.Consts.genHostMatchRequest`, `genSchemeMatchRequest`, `genMethodMatchRequest`, `genIpMatchRequest` are translated
from src/router/request_matcher/{host,scheme,method,ip}.rs; Proofs/RouterGen.lean instantiates their parameters (next
layer, map / tree lookups, the entries of the iterated maps) from the router model's layer states and proves them equal to the model's
`Host.matchReq`, `Scheme.matchReq`, `Method.matchReq`, `Ip.matchReq`.  `towerOpsGen E` is the router tower with the four
translated `match_request`s; `match_exact` and the any-host clauses are restated for it. -/

section RouterLayers
open Rio.Router Rio.RouterGen

theorem gen_layers_eq_model (I : MOps) {P : Type} [DecidableEq P] (H : HostCfg P) (q : Req)
    (sh : LState I (HKeyG P)) (ss : LState I String) (sm : LState I MKey) (si : LState I RouteIp) :
    genHost I H sh q = Host.matchReq H I sh q ∧ genScheme I ss q = Scheme.matchReq I ss q ∧
    genMethod I sm q = Method.matchReq I sm q ∧ genIp I si q = Ip.matchReq I si q :=
  ⟨genHost_eq I H sh q, genScheme_eq I ss q, genMethod_eq I sm q, genIp_eq I si q⟩

theorem gen_tower_eq_model (E : Env) : towerOpsGen E = towerOps E := towerOpsGen_eq E

/-- **C01 main statement for the router whose scheme / host / ip / method `match_request` are the regenerated code.** -/
theorem match_exact_gen (E : Env) (R : List Route) (hR : NodupIds R) (q : Req) :
    ((RouterG.matchReq (towerOpsGen E) (RouterG.build (towerOpsGen E) R) q).map (·.id)).Nodup ∧
    ∀ r, r ∈ RouterG.matchReq (towerOpsGen E) (RouterG.build (towerOpsGen E) R) q ↔ r ∈ R ∧ sat E R r q = true := by
  rw [towerOpsGen_eq]
  exact match_exact E R hR q

theorem always_any_host_gen (E : Env) (hE : E.alwaysAnyHost = true) (R : List Route) (hR : NodupIds R) (q : Req)
    (r : Route) :
    r ∈ RouterG.matchReq (towerOpsGen E) (RouterG.build (towerOpsGen E) R) q ↔ r ∈ R ∧ triggersOk E r q = true := by
  rw [(match_exact_gen E R hR q).2 r, always_any_host E hE R r q]

theorem fallback_any_host_gen (E : Env) (hE : E.alwaysAnyHost = false) (R : List Route) (hR : NodupIds R) (q : Req)
    (r : Route) :
    r ∈ RouterG.matchReq (towerOpsGen E) (RouterG.build (towerOpsGen E) R) q ↔
      r ∈ R ∧ triggersOk E r q = true ∧
        (hostBound r = true ∨
          ¬ ∃ r' ∈ R, hostBound r' = true ∧ schemeKey r' = schemeKey r ∧ triggersOk E r' q = true) := by
  rw [(match_exact_gen E R hR q).2 r, fallback_any_host E hE R r q]

/-- PIN OF THE GENERATED TEXT (not a restated property).  The any-host clause, closed form of the translated
`HostMatcher::match_request` (any next layer, any lookups). -/
theorem host_any_clause_gen {ρ μ η : Type} (next : μ → List ρ) (treeFind : η → List μ) (staticGet : η → Option μ)
    (anyHost : μ) (always : Bool) (host : Option η) (bound : List ρ)
    (hb : bound =
      match host with
      | none => []
      | some h => (treeFind h).flatMap next ++ ((staticGet h).map next).getD []) :
    Rio.Consts.genHostMatchRequest next treeFind staticGet anyHost always host =
      if always || bound.isEmpty then bound ++ next anyHost else bound :=
  genHostMatchRequest_closed next treeFind staticGet anyHost always host bound hb

/-- PIN OF THE GENERATED TEXT (not a restated property).  The method clause, closed form of the translated
`MethodMatcher::match_request`. -/
theorem method_clause_gen {ρ μ η ε : Type} (next : μ → List ρ) (listed : ε → η → Bool) (methodsGet : η → Option μ)
    (excl : List (ε × μ)) (anyMethod : μ) (m : η) :
    Rio.Consts.genMethodMatchRequest next listed methodsGet excl anyMethod m =
      next anyMethod ++ ((methodsGet m).map next).getD [] ++
        excl.flatMap (fun e => if !listed e.1 m then next e.2 else []) := by
  unfold Rio.Consts.genMethodMatchRequest
  simp only [methodLoop_eq]
  cases methodsGet m <;> simp

/-- PIN OF THE GENERATED TEXT (not a restated property).  The ip clause incl. report-once (`pushNew`), closed form of
the translated `IpMatcher::match_request`. -/
theorem ip_clause_gen {μ κ α : Type} (next : μ → List Route) (matchIp : κ → α → Bool) (matchers : List (κ × μ))
    (noMatcher : μ) (addr : Option α) :
    Rio.Consts.genIpMatchRequest next matchIp (fun r : Route => r.id) matchers noMatcher addr =
      match addr with
      | none => next noMatcher
      | some a => matchers.foldl (fun acc e => if matchIp e.1 a then pushNew acc (next e.2) else acc) (next noMatcher) := by
  unfold Rio.Consts.genIpMatchRequest
  cases addr with
  | none => rfl
  | some a => simp only [ipLoop1_eq]

/-- PIN OF THE GENERATED TEXT (not a restated property).  The scheme clause, closed form of the translated
`SchemeMatcher::match_request`. -/
theorem scheme_clause_gen {ρ μ η : Type} (next : μ → List ρ) (schemesGet : η → Option μ) (anyScheme : μ)
    (scheme : Option η) :
    Rio.Consts.genSchemeMatchRequest next schemesGet anyScheme scheme =
      next anyScheme ++ ((scheme.bind schemesGet).map next).getD [] := by
  unfold Rio.Consts.genSchemeMatchRequest
  cases scheme with
  | none => simp
  | some sc => simp only [Option.bind_some]; cases schemesGet sc <;> simp

end RouterLayers

end Rio.C01
