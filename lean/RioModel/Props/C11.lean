/-
C11 — rule application is deterministic under any match order.

`ruleLe` is the model of `impl Ord for Rule` (through `Route::cmp`), `sortRules` of `routes.sort()`,
`fromRoutesRule` of `Action::from_routes_rule`; `NodupIds R` says the matched rules have pairwise distinct ids (what
the router guarantees, C01).  `draw : Rule → Nat` is the random draw of the sampling test: the theorems
hold for every fixed assignment of draws to rules, in particular with sampling disabled.

Router-level independence from the *insertion* order needs C01 (the match result is the set of
satisfying rules whatever the history): it is proved in Props/C11b.lean (`router_order_invariant`,
`router_state_invariant`, `incremental_action_eq_rebuilt`) and tested differentially by harness `c11`, which builds real
routers with permuted insertion orders.
-/
import RioModel.Proofs.ActionSort

namespace Rio.C11
open Rio.Action

/-- A sorting function, as far as this property is concerned: returns a sorted permutation. Nothing
else (e.g. stability) is assumed of Rust's `sort`. -/
structure LawfulSort (sort : List Rule → List Rule) : Prop where
  perm : ∀ l, (sort l).Perm l
  sorted : ∀ l, (sort l).Pairwise (fun a b => ruleLe a b = true)

/-- The order of `Rule::cmp` is a total preorder … -/
theorem order_total_preorder :
    (∀ a b : Rule, ruleLe a b = true ∨ ruleLe b a = true) ∧
    (∀ a b c : Rule, ruleLe a b = true → ruleLe b c = true → ruleLe a c = true) :=
  ⟨fun a b => by simpa using ruleLe_total a b, ruleLe_trans⟩

/-- … whose ties are exactly the pairs with the same rank and the same id. -/
theorem order_ties (a b : Rule) :
    (ruleLe a b = true ∧ ruleLe b a = true) ↔ (a.rank = b.rank ∧ a.id = b.id) := by
  constructor
  · exact fun h => ruleLe_antisymm a b h.1 h.2
  · intro ⟨hr, hi⟩
    rw [ruleLe_iff, ruleLe_iff]
    have : ∀ d x, idLe d x x := fun d x => (idLe_total d x x).elim id id
    exact ⟨.inr ⟨hr, hi ▸ this _ _⟩, .inr ⟨hr.symm, hi ▸ this _ _⟩⟩

/-- "Rules applied by descending rank, ties broken by id": with the comparison directions currently
read from the source, `a` is sorted before-or-equal `b` iff `a.rank > b.rank`, or the ranks are
equal and `a.id ≥ b.id` bytewise.  (This is the only theorem of the file that depends on the
regenerated directions: it breaks if `Rule::cmp` changes direction.) -/
theorem order_closed_form (a b : Rule) :
    ruleLe a b = true ↔ (a.rank > b.rank ∨ (a.rank = b.rank ∧ bytesLe b.id a.id)) := by
  rw [ruleLe_iff, keyCmp_nat_lt]
  simp [Rio.Consts.ruleCmpRankDescending, Rio.Consts.ruleCmpIdDescending, idLe]

theorem sortRules_lawful : LawfulSort sortRules := ⟨sortRules_perm, sortRules_sorted⟩

theorem LawfulSort.eq_sortRules {sort : List Rule → List Rule} (hs : LawfulSort sort) {R : List Rule}
    (hn : NodupIds R) : sort R = sortRules R :=
  (sortRules_eq_of_sorted (hs.perm R) (hs.sorted R) hn.keyInj).symm

/-- The sorted order is a function of the *set* of matched rules: any sorting function gives the same
list on two permutations of a rule list with distinct ids. -/
theorem sort_perm_invariant {sort : List Rule → List Rule} (hs : LawfulSort sort)
    {R R' : List Rule} (h : R.Perm R') (hn : NodupIds R) : sort R = sort R' := by
  rw [hs.eq_sortRules hn, hs.eq_sortRules (hn.perm h), sortRules_congr h hn.keyInj]

/-- Any two lawful sorting functions agree (on lists with distinct ids): the result does not depend on
the sorting algorithm, nor on its stability. -/
theorem sort_unique {sort sort' : List Rule → List Rule} (hs : LawfulSort sort) (hs' : LawfulSort sort')
    {R : List Rule} (hn : NodupIds R) : sort R = sort' R := by
  rw [hs.eq_sortRules hn, hs'.eq_sortRules hn]

/-- The action is a function of the set of matched rules: permuting the match vector does not change
it (for every request and every assignment of sampling draws to rules). -/
theorem action_perm_invariant (q : Req) (draw : Rule → Nat) {R R' : List Rule}
    (h : R.Perm R') (hn : NodupIds R) : fromRoutesRule R q draw = fromRoutesRule R' q draw := by
  unfold fromRoutesRule
  rw [sortRules_congr h hn.keyInj]

/-- … and it is the fold over *the* sorted permutation, whichever lawful sort produced it. -/
theorem action_sort_independent (q : Req) (draw : Rule → Nat) {sort : List Rule → List Rule}
    (hs : LawfulSort sort) {R R' : List Rule} (h : R.Perm R') (hn : NodupIds R) :
    foldRoutes q draw Action.empty (sort R') = fromRoutesRule R q draw := by
  unfold fromRoutesRule
  rw [hs.eq_sortRules (hn.perm h), sortRules_congr h hn.keyInj]

/-- Hence every observation made on the action is order independent as well. -/
theorem observations_perm_invariant (q : Req) (draw : Rule → Nat) (allowLog : Bool) (c : Nat)
    (ops : List Op) {R R' : List Rule} (h : R.Perm R') (hn : NodupIds R) :
    runOps allowLog c (fromRoutesRule R q draw) ops = runOps allowLog c (fromRoutesRule R' q draw) ops := by
  rw [action_perm_invariant q draw h hn]

/-- Bridge to C01 (insertion order / rebuild): for ANY router representation and match function, if
two router states return the same *set* of rules for a request — which is what C01 proves of two
routers built from the same rules in different orders (both return exactly the satisfying rules, once
each) — then the actions computed from the two match results are equal. -/
theorem router_order_invariant_of_match_perm {State : Type} (matchRequest : State → List Rule)
    (s s' : State) (q : Req) (draw : Rule → Nat)
    (hC01 : (matchRequest s).Perm (matchRequest s')) (hn : NodupIds (matchRequest s)) :
    fromRoutesRule (matchRequest s) q draw = fromRoutesRule (matchRequest s') q draw :=
  action_perm_invariant q draw hC01 hn

private def mk (id : RuleId) (rank : Nat) (status : Option Nat) : Rule :=
  { id := id, rank := rank, statusCode := status, target := none, responseStatusCodes := none,
    excludeResponseStatusCodes := none, sampling := none, headerFilters := none, bodyFilters := none,
    logOverride := none, reset := none, stop := none, redirectUnitId := none,
    configurationLogUnitId := none, targetHash := none }

/-- Three rules with a rank tie and conflicting status codes: the hypotheses hold, the two orders are
genuinely different lists, and the actions coincide. -/
example :
    let R := [mk [97] 1 (some 301), mk [98] 1 (some 302), mk [99] 2 (some 410)]
    let R' := [mk [99] 2 (some 410), mk [98] 1 (some 302), mk [97] 1 (some 301)]
    R.Perm R' ∧ NodupIds R ∧ R ≠ R' ∧
      fromRoutesRule R ⟨none, none⟩ (fun _ => 1) = fromRoutesRule R' ⟨none, none⟩ (fun _ => 1) := by
  intro R R'
  have hp : R.Perm R' := by decide
  have hn : NodupIds R := by unfold NodupIds; decide
  exact ⟨hp, hn, by decide, action_perm_invariant _ _ hp hn⟩

/-- Without distinct ids the statement is false: two matched rules with the same rank and id but
different effects (what defect D1 produced before its repair) are applied in match order. -/
theorem perm_invariant_needs_distinct_ids :
    ¬ (∀ (R R' : List Rule), R.Perm R' →
        fromRoutesRule R ⟨none, none⟩ (fun _ => 1) = fromRoutesRule R' ⟨none, none⟩ (fun _ => 1)) := by
  intro h
  have := h [mk [97] 1 (some 301), mk [97] 1 (some 302)] [mk [97] 1 (some 302), mk [97] 1 (some 301)]
    (by decide)
  -- both match vectors are already sorted (the two rules tie), so the sort leaves them alone
  unfold fromRoutesRule sortRules at this
  rw [List.mergeSort_of_pairwise (by decide), List.mergeSort_of_pairwise (by decide)] at this
  have := congrArg (fun a => a.statusCodeUpdate.map (·.statusCode)) this
  revert this
  decide

end Rio.C11
