/-
C03 — body filtering is invariant under chunking of the response stream (`ChunkInvariant`).

Before fe7eac6 it was FALSE of the code for html filters (finding D4: the tokenizer context was lost at a chunk cut inside
a raw-text zone / comment / declaration / CDATA).  Since fe7eac6 `HtmlFilterBodyAction` carries the tokenizer context
across chunks (`last_context`, `Tokenizer::new_fragment`) and keeps every token that was ended by the end of the data.

`chunk_invariant` proves it for the chain `FilterBodyAction::new` builds from any html and text filters (no
`Content-Encoding`), under the laws of the tokenizer, which Props/C03tok.lean discharges for the tokenizer model.
-/
import RioModel.Proofs.FilterText
import RioModel.Proofs.FilterTotal
import RioModel.Proofs.FilterPipe
import RioModel.Proofs.FilterNoFail
import RioModel.Model.FilterHtml
import RioModel.Props.C04

namespace Rio.C03
open Rio.Filter

variable {D E : Type}

/-- the quantifier of the property, by the model's scanner; the proofs use `V` (complete valid UTF-8,
Proofs/FilterUtf8.lean): `V_of_validBody` -/
def ValidBody (b : Bytes) : Prop := utf8Scan b = .ok

/-- **Full statement** of C03 for a chain `ch` (as built by `Chain.new`), tokenizer `tk`, selector oracle `ev`. -/
def ChunkInvariant (tk : Tokenize) (ev : Bytes → Bytes → Bool) (codec : Codec D E) (ch : Chain D E) : Prop :=
  ∀ cs : List Bytes, ValidBody cs.flatten → ch.run tk ev codec cs = ch.run tk ev codec [cs.flatten]

theorem V_of_validBody {b : Bytes} (h : ValidBody b) : V b := by
  have : utf8Split b = some (b, []) := by unfold utf8Split; rw [h]
  exact V_utf8Split this

/-- `<textarea><p></textarea>` -/
def witnessBody : Bytes :=
  [60, 116, 101, 120, 116, 97, 114, 101, 97, 62, 60, 112, 62, 60, 47, 116, 101, 120, 116, 97, 114, 101, 97, 62]

/-- one filter: prepend_child on path [p], no selector, value `$` -/
def witnessChain : Chain Unit Unit :=
  Chain.new noCodec id [.html "prepend_child" [[112]] none [36]] []

/-- the cut: `<textarea><p>` ‖ `</textarea>` -/
def witnessChunks : List Bytes := [witnessBody.take 13, witnessBody.drop 13]

/-- **The D4 witness is repaired** (kernel-evaluated on the tokenizer model; the same input is replayed against the real
code in corpus/C03): both runs leave the body unchanged (`<p>` is text of the textarea), where the two-chunk run used to
insert `$` after a `<p>` re-tokenised as a start tag. -/
theorem witness_fixed :
    witnessChain.run htmlTokenize evalStandIn noCodec [witnessBody] = witnessBody ∧
    witnessChain.run htmlTokenize evalStandIn noCodec witnessChunks = witnessBody := by
  decide +kernel

/-- **The other three D4 witnesses are repaired too** (same filter; cut inside a comment `<!-` ‖ `-<p>-->`, inside a CDATA
section `<![C` ‖ `DATA[<p>]]>`, inside a declaration `<?x` ‖ ` <p>?>`): every run leaves the body unchanged.  The same
inputs are replayed against the real code from corpus/C03/d4-witnesses.jsonl on every run. -/
theorem d4_witnesses_fixed :
    (witnessChain.run htmlTokenize evalStandIn noCodec [[60, 33, 45], [45, 60, 112, 62, 45, 45, 62]] =
      [60, 33, 45, 45, 60, 112, 62, 45, 45, 62]) ∧
    (witnessChain.run htmlTokenize evalStandIn noCodec [[60, 33, 91, 67], [68, 65, 84, 65, 91, 60, 112, 62, 93, 93, 62]] =
      [60, 33, 91, 67, 68, 65, 84, 65, 91, 60, 112, 62, 93, 93, 62]) ∧
    (witnessChain.run htmlTokenize evalStandIn noCodec [[60, 63, 120], [32, 60, 112, 62, 63, 62]] =
      [60, 63, 120, 32, 60, 112, 62, 63, 62]) := by
  decide +kernel

/-- **Chains of text filters are invariant under chunking**: for arbitrary bytes (no UTF-8 hypothesis), every
chunking, including the `break` of `do_filter` on an empty intermediate result and the feeding order of `do_end`. -/
theorem text_chunk_invariant (tk : Tokenize) (ev : Bytes → Bytes → Bool) (codec : Codec D E)
    (ch : Chain D E) (hall : AllText ch.items) (herr : ch.inError = false) (cs : List Bytes) :
    ch.run tk ev codec cs = ch.run tk ev codec [cs.flatten] := by
  rw [run_text tk ev codec ch hall herr cs, run_text tk ev codec ch hall herr [cs.flatten], List.flatten_singleton]

/-- `run_text` (Proofs/FilterPipe.lean) under the property's name; `textTotal`: each stage in turn appends, prepends or
substitutes its content, once. -/
theorem text_closed_form (tk : Tokenize) (ev : Bytes → Bytes → Bool) (codec : Codec D E)
    (ch : Chain D E) (hall : AllText ch.items) (herr : ch.inError = false) (cs : List Bytes) :
    ch.run tk ev codec cs = textTotal ch.items cs.flatten :=
  run_text tk ev codec ch hall herr cs

theorem new_text_only (lower : String → String) (fs : List BodyFilter) (headers : List (String × String))
    (henc : headerValue lower Rio.Consts.filterHeaderContentEncoding headers = none)
    (htext : ∀ f ∈ fs, ∃ a c, f = .text a c) :
    AllText (Chain.new noCodec lower fs headers).items ∧ (Chain.new noCodec lower fs headers).inError = false := by
  rw [new_plain noCodec lower fs headers henc]
  refine ⟨?_, rfl⟩
  intro st hst
  obtain ⟨f, hf, hnew⟩ := List.mem_filterMap.mp hst
  obtain ⟨a, c, rfl⟩ := htext f hf
  simp only [Stage.new] at hnew
  injection hnew with hnew
  exact ⟨_, hnew.symm⟩

/-- C03 for text filters, stated on `FilterBodyAction::new`. -/
theorem text_filters_chunk_invariant (tk : Tokenize) (ev : Bytes → Bytes → Bool) (lower : String → String)
    (fs : List BodyFilter) (headers : List (String × String))
    (henc : headerValue lower Rio.Consts.filterHeaderContentEncoding headers = none)
    (htext : ∀ f ∈ fs, ∃ a c, f = .text a c) (cs : List Bytes) :
    (Chain.new noCodec lower fs headers).run tk ev noCodec cs =
      (Chain.new noCodec lower fs headers).run tk ev noCodec [cs.flatten] := by
  obtain ⟨h1, h2⟩ := new_text_only lower fs headers henc htext
  exact text_chunk_invariant tk ev noCodec _ h1 h2 cs

/-- **Splitting lemma** (one html stage, every cut), from the restart law of the stream tokenizer (`RestartLaw`,
Proofs/FilterStreamLaws.lean). -/
theorem split_lemma (tk : Tokenize) (ev : Bytes → Bytes → Bool) (hr : RestartLaw tk) (s s1 : HtmlSt) (x r o1 : Bytes)
    (hc : Ctx s.ctx) (h1 : filterHtml tk ev s x = some (s1, o1)) :
    htmlTotal tk ev s (x ++ r) = (htmlTotal tk ev s1 r).map fun t => o1 ++ t :=
  total_split tk ev hr s s1 x r o1 hc h1

/-- **Chunk invariance of one html stage**, every non-empty schedule on which no call fails. -/
theorem html_stage_chunk_invariant (tk : Tokenize) (ev : Bytes → Bytes → Bool) (codec : Codec D E) (hr : RestartLaw tk)
    (s : HtmlSt) (hc : Ctx s.ctx) (cs : List Bytes) (hne : cs ≠ []) (hok : seqRun tk ev s cs ≠ none) :
    ({ items := [.html s] } : Chain D E).run tk ev codec cs =
      ({ items := [.html s] } : Chain D E).run tk ev codec [cs.flatten] := by
  cases hr' : seqRun tk ev s cs with
  | none => exact absurd hr' hok
  | some r =>
    rw [run_single_html tk ev codec cs s r.1 r.2 hr',
      run_html_one tk ev codec s _ _ (seqRun_total tk ev hr cs s r.1 r.2 hne hc hr')]

/-- **Chunk invariance for a chain of any number of fresh html and text stages, every schedule** (the empty list of
chunks included), when no call fails. -/
theorem chain_chunk_invariant (tk : Tokenize) (ev : Bytes → Bytes → Bool) (codec : Codec D E)
    (hl : LosslessS tk) (hr : RestartLaw tk)
    (items : List (Stage D E)) (hp : AllPlain items) (hinit : ∀ st ∈ items, StageInit tk st) (cs : List Bytes)
    (hok : runG tk ev codec items cs none ≠ none) (hok1 : runG tk ev codec items [cs.flatten] none ≠ none) :
    ({ items := items } : Chain D E).run tk ev codec cs =
      ({ items := items } : Chain D E).run tk ev codec [cs.flatten] := by
  -- both runs are the closed form of the same stream
  have hg := good_of_init tk ev codec hl hr hp hinit
  have h1 := run_total tk ev codec items cs hg hok
  have h2 := run_total tk ev codec items [cs.flatten] hg hok1
  rw [List.flatten_singleton] at h2
  exact Option.some.inj (h1.symm.trans h2)

/-- where `hnil` enters: it is the third conjunct of `StageInit` -/
theorem stage_new_init (tk : Tokenize) (hnil : (tk.stream [] []).1 = []) (f : BodyFilter) (ct : Option String)
    (st : Stage Unit Unit) (h : Stage.new f ct = some st) : StageInit tk st := by
  cases f with
  | html action path sel value =>
    obtain ⟨v, _, rfl⟩ := stage_new_html h
    exact ⟨Or.inl rfl, rfl, hnil⟩
  | text a c =>
    simp only [Stage.new] at h
    injection h with h; subst h
    trivial

/-- **C03, the full statement.**  For the chain `FilterBodyAction::new` builds from ANY list of html and text filters
whose values are valid UTF-8 (they are Rust `String`s), without `Content-Encoding`: for every valid UTF-8 body and EVERY
way of cutting it into chunks — inside tags, comments, declarations, CDATA, raw-text elements, multi-byte characters,
with empty chunks or no chunk at all — the concatenated output is byte-identical to the output for the body delivered as
one chunk.  Hypotheses: the laws of the tokenizer only (`hnil`, no token of the empty input, is used for the empty schedule
only: `htmlTotal_nil`); no call fails by `runG_ok` (valid body). -/
theorem chunk_invariant {tk : Tokenize} (hl : LosslessAll tk) (hv : TokValidAll tk) (hr : RestartLaw tk)
    (hnil : (tk.stream [] []).1 = []) (ev : Bytes → Bytes → Bool) (lower : String → String)
    (fs : List BodyFilter) (headers : List (String × String))
    (henc : headerValue lower Rio.Consts.filterHeaderContentEncoding headers = none)
    (hval : ∀ f ∈ fs, V (Rio.C04.filterValue f)) :
    ChunkInvariant tk ev noCodec (Chain.new noCodec lower fs headers) := by
  intro cs hbody
  have hvb : V cs.flatten := V_of_validBody hbody
  rw [new_plain noCodec lower fs headers henc]
  generalize headerValue lower Rio.Consts.filterHeaderContentType headers = ct
  have hdown : Down (fs.filterMap fun f => (Stage.new f ct : Option (Stage Unit Unit))) := by
    intro st hst
    obtain ⟨f, hf, hnew⟩ := List.mem_filterMap.mp hst
    exact Rio.C04.stage_new_down f ct st (hval f hf) hnew
  have hinit : ∀ st ∈ (fs.filterMap fun f => (Stage.new f ct : Option (Stage Unit Unit))), StageInit tk st := by
    intro st hst
    obtain ⟨f, hf, hnew⟩ := List.mem_filterMap.mp hst
    exact stage_new_init tk hnil f ct st hnew
  apply chain_chunk_invariant tk ev noCodec hl.stream hr _ (Rio.C04.allPlain_of_down hdown) hinit cs
  · obtain ⟨out, h, _⟩ := runG_ok hl hv ev noCodec _ cs none hdown (by simpa using hvb)
    rw [h]; simp
  · obtain ⟨out, h, _⟩ := runG_ok hl hv ev noCodec _ [cs.flatten] none hdown (by simpa using hvb)
    rw [h]; simp

/-! ### what the repair costs: an unfinished construct is kept until it is finished

A comment / declaration / CDATA section / raw-text content (`<script>`, `<style>`, `<textarea>`, …) / tag that is still
open at the end of a chunk is kept whole in `last_buffer` until the chunk that closes it (or `end()`) arrives. -/

/-- **What one call keeps**: `last_buffer` after the call is the suffix of the validated data that follows the processed
tokens, then the incomplete character; and that suffix is (a) the remainder reported at the `ErrorToken` (an unfinished
tag), or (b) a last text token containing `<` followed by that remainder, or (c) begins with the first token cut by the
end of the data (`isCut`: the open comment / declaration / raw text / tag) — nothing before it is kept. -/
theorem held_bytes {tk : Tokenize} (hl : LosslessS tk) (ev : Bytes → Bytes → Bool) (s s' : HtmlSt) (x o : Bytes)
    (h : filterHtml tk ev s x = some (s', o)) :
    ∃ data pending, utf8Split (s.last ++ x) = some (data, pending) ∧
      s'.last = (view tk s.ctx data).tail ++ pending ∧
      rawsOf (view tk s.ctx data).todo ++ (view tk s.ctx data).tail = data ∧
      ((view tk s.ctx data).tail = (tk.stream s.ctx data).2.1 ∨
       (∃ t : Tok, t.kind = .text ∧ hasLt t.raw = true ∧ (view tk s.ctx data).tail = t.raw ++ (tk.stream s.ctx data).2.1) ∨
       (∃ c rest, (cutSplit (tk.stream s.ctx data).1).2 = c :: rest ∧ isCut c = true ∧
          (view tk s.ctx data).tail = c.tok.raw ++ (rawsOf (toksOf rest) ++ (tk.stream s.ctx data).2.1))) := by
  obtain ⟨data, pending, sf, hsp, _, rfl⟩ := filterHtml_some tk ev h
  refine ⟨data, pending, hsp, rfl, view_todo_tail tk hl s.ctx data, ?_⟩
  unfold view
  simp only
  cases hpost : (cutSplit (tk.stream s.ctx data).1).2 with
  | nil =>
    simp only [List.isEmpty_nil, if_true, toksOf, List.map_nil, rawsOf, List.flatMap_nil, List.append_nil]
    unfold splitHeld
    split
    · rename_i t ht
      split
      · rename_i hc
        right; left
        exact ⟨t, hc.1, hc.2, rfl⟩
      · left; simp
    · left; simp
  | cons c rest =>
    right; right
    refine ⟨c, rest, rfl, ?_, ?_⟩
    · unfold cutSplit at hpost
      simp only at hpost
      have := List.head_dropWhile_not _ (by rw [hpost]; exact List.cons_ne_nil c rest)
      simpa [hpost] using this
    · simp [toksOf, rawsOf, List.append_assoc]

/-- the hypotheses of `text_filters_chunk_invariant` can be met: three text filters -/
example (cs : List Bytes) :
    (Chain.new noCodec id [.text .prepend [80], .text .append [65], .text .replace [88]] []).run htmlTokenize evalStandIn noCodec cs =
    (Chain.new noCodec id [.text .prepend [80], .text .append [65], .text .replace [88]] []).run htmlTokenize evalStandIn noCodec [cs.flatten] :=
  text_filters_chunk_invariant _ _ id _ [] rfl (by
    intro f hf; simp at hf; rcases hf with rfl | rfl | rfl <;> exact ⟨_, _, rfl⟩) cs

end Rio.C03
