/-
C14 — `FilterBodyAction::new` TRANSLATED from the source (`Rio.Consts.genChainNew`, loops `genChainNewLoop1` = the header scan,
`genChainNewLoop2` = the stage construction; tools/consts.d/tr_w18_chain.py, feature `compress` on) equals the hand-written `Chain.new`, and the
gating clauses of C14 restated for the translated definition.  Parameters of the translated text: `lower` (`to_lowercase`),
`itemNew` (`FilterBodyActionItem::new`), `getEncodingFilters`, the two stage constructors `Decode(Box::new(_))` / `Encode(Box::new(_))`.
The header names compared with are the string literals of the source; the equality ties them to the regenerated
`filterHeaderContentType` / `filterHeaderContentEncoding` the model uses.
-/
import RioModel.Proofs.ChainGen
import RioModel.Props.C04gen3
import RioModel.Props.C14

namespace Rio.C14
open Rio.Consts Rio.Filter

variable {D E : Type}

/-- **translated `new` = model `Chain.new`** (chain and `in_error`; `getEncodingFilters` := the regenerated list of supported
encodings + the codec's constructor, as the model has it). -/
theorem gen_chain_new_eq_model (codec : Codec D E) (lower : String → String) (fs : List BodyFilter)
    (headers : List (String × String)) :
    genChainNew lower (fun f c => (Stage.new f c : Option (Stage D E))) (genEncFilters codec) Stage.decode Stage.encode fs headers =
      ((Chain.new codec lower fs headers).items, (Chain.new codec lower fs headers).inError) :=
  new_gen_eq codec lower fs headers

/-- the two loops of `new`: the header scan is `headerValue` for the two names (last header wins, lower-cased), the second loop
keeps the stages `itemNew` builds, in order — for ANY `itemNew`. -/
theorem gen_chain_new_loops_eq_model {σ φ : Type} (lower : String → String) (itemNew : φ → Option String → Option σ)
    (headers : List (String × String)) (fs : List φ) (ct : Option String) (acc : List σ) :
    genChainNewLoop1 lower headers none none =
      (headerValue lower filterHeaderContentType headers, headerValue lower filterHeaderContentEncoding headers) ∧
    genChainNewLoop2 itemNew fs acc ct = acc ++ fs.filterMap fun f => itemNew f ct :=
  ⟨newLoop1_eq lower headers none none, newLoop2_eq itemNew ct fs acc⟩

section
variable {σ φ δ κ : Type} (lower : String → String) (itemNew : φ → Option String → Option σ)
  (getEncodingFilters : String → Option (δ × κ)) (mkDecode : δ → σ) (mkEncode : κ → σ)

/-- **`unsupported_passthrough` for the translated `new`**, for ANY `itemNew` / `get_encoding_filters` / constructors: when
the (last, lower-cased) `Content-Encoding` is one `get_encoding_filters` rejects, the chain is EMPTY (and not in error) whatever the
filters are (keeping the stages there is seeded/r8b-3). -/
theorem unsupported_passthrough_gen (fs : List φ) (headers : List (String × String)) (enc : String)
    (henc : headerValue lower filterHeaderContentEncoding headers = some enc)
    (hno : getEncodingFilters enc = none) :
    genChainNew lower itemNew getEncodingFilters mkDecode mkEncode fs headers = ([], false) := by
  rw [genChainNew_eq, henc]
  dsimp only
  rw [hno]
  split
  · rename_i hemp
    rw [List.isEmpty_iff.mp hemp]
  · rfl

/-- `supported_chain_shape`, ANY parameters: a supported encoding and at least one stage ⇒ decode stage first, the stages
in order, encode stage last. -/
theorem supported_chain_shape_gen (fs : List φ) (headers : List (String × String)) (enc : String) (d : δ) (e : κ)
    (henc : headerValue lower filterHeaderContentEncoding headers = some enc)
    (hsup : getEncodingFilters enc = some (d, e))
    (hne : (fs.filterMap fun f => itemNew f (headerValue lower filterHeaderContentType headers)) ≠ []) :
    genChainNew lower itemNew getEncodingFilters mkDecode mkEncode fs headers =
      (mkDecode d :: (fs.filterMap fun f => itemNew f (headerValue lower filterHeaderContentType headers)) ++ [mkEncode e], false) := by
  rw [genChainNew_eq, henc, if_neg (by rwa [List.isEmpty_iff])]
  dsimp only
  rw [hsup]

/-- no stage ⇒ no codec stage, no header ⇒ the plain stages (`empty_chain_no_codec` and the `None` arm) -/
theorem plain_chain_shape_gen (fs : List φ) (headers : List (String × String))
    (h : (fs.filterMap fun f => itemNew f (headerValue lower filterHeaderContentType headers)) = [] ∨
      headerValue lower filterHeaderContentEncoding headers = none) :
    genChainNew lower itemNew getEncodingFilters mkDecode mkEncode fs headers =
      ((fs.filterMap fun f => itemNew f (headerValue lower filterHeaderContentType headers)), false) := by
  rw [genChainNew_eq]
  rcases h with h | h
  · rw [h]; rfl
  · rw [h]
    split <;> rfl

end

/-- the clause end to end on the translated definitions: an unsupported encoding ⇒ the translated `new` builds a chain on which the
translated `filter` / `end` return every chunk unchanged (any stage implementation). -/
theorem unsupported_passthrough_run_gen {σ φ δ κ ε : Type} (lower : String → String) (itemNew : φ → Option String → Option σ)
    (getEncodingFilters : String → Option (δ × κ)) (mkDecode : δ → σ) (mkEncode : κ → σ)
    (itemFilter : σ → List Nat → σ × Except ε (List Nat)) (itemEnd : σ → σ × Except ε (List Nat))
    (heldHtml : σ → Option (σ × List Nat))
    (fs : List φ) (headers : List (String × String)) (enc : String)
    (henc : headerValue lower filterHeaderContentEncoding headers = some enc)
    (hno : getEncodingFilters enc = none) (cs : List (List Nat)) :
    Rio.C04.genChainRun itemFilter itemEnd heldHtml
      (genChainNew lower itemNew getEncodingFilters mkDecode mkEncode fs headers).1
      (genChainNew lower itemNew getEncodingFilters mkDecode mkEncode fs headers).2 cs = some cs.flatten := by
  rw [unsupported_passthrough_gen lower itemNew getEncodingFilters mkDecode mkEncode fs headers enc henc hno]
  exact Rio.C04.passthrough_empty_gen itemFilter itemEnd heldHtml cs

/-- `unsupported_passthrough` through the equivalence (model parameters) -/
theorem unsupported_passthrough_gen_model (codec : Codec D E) (lower : String → String) (fs : List BodyFilter)
    (headers : List (String × String)) (enc : String)
    (henc : headerValue lower filterHeaderContentEncoding headers = some enc)
    (hno : filterSupportedEncodings.contains enc = false) :
    (genChainNew lower (fun f c => (Stage.new f c : Option (Stage D E))) (genEncFilters codec) Stage.decode Stage.encode fs headers).1 = [] := by
  rw [gen_chain_new_eq_model]
  exact unsupported_passthrough codec lower fs headers enc henc hno

/-- a `to_lowercase` defined on the strings of the examples (`String.toLower` does not reduce in proofs) -/
def exLower (s : String) : String :=
  if s = "Content-Encoding" then "content-encoding" else if s = "ZSTD" then "zstd" else if s = "GZip" then "gzip" else s

/-- an unsupported encoding (`Content-Encoding: zstd`, mixed case) with a text filter: empty chain -/
example : genChainNew exLower (fun f c => (Stage.new f c : Option (Stage Unit Unit))) (genEncFilters noCodec)
    Stage.decode Stage.encode [.text .append [65]] [("Content-Encoding", "ZSTD")] = ([], false) := by
  apply unsupported_passthrough_gen (enc := "zstd")
  · simp [headerValue, filterHeaderContentEncoding, exLower]
  · simp [genEncFilters, filterSupportedEncodings]

/-- a supported one: decode, text, encode -/
example : ((genChainNew exLower (fun f c => (Stage.new f c : Option (Stage Unit Unit))) (genEncFilters noCodec)
    Stage.decode Stage.encode [.text .append [65]] [("Content-Encoding", "GZip")]).1.map Stage.kind) = ["decode", "text", "encode"] := by
  rw [supported_chain_shape_gen (enc := "gzip") (d := ()) (e := ())]
  · simp [Stage.new, Stage.kind]
  · simp [headerValue, filterHeaderContentEncoding, exLower]
  · simp [genEncFilters, filterSupportedEncodings, noCodec]
  · simp [Stage.new]

end Rio.C14
