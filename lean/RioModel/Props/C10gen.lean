/-
C10 (variables and capture) — `Route::capture`, `Rule::variables`, `StaticOrDynamic::replace` TRANSLATED FROM THE SOURCE on
every run; parameters and instantiation of the last two in their section comments.

`Rio.Consts.genRouteCapture`: `Route::capture` of src/router/route.rs, by tools/consts.d/tr_w22_capture.py.

PARAMETERS of the translation (callees not translated): `str::to_lowercase` (`lower`), `StaticOrDynamic::capture`
(`sodCapture`), the `name` field and `capture` of a `RouteHeader` (`headerName`, `headerCapture`), `HashMap::extend`
(`extend`).  In `gen_route_capture_eq_model` they are instantiated as the hand model has them: a `HashMap` is an
association list with distinct keys, the map returned by a `capture` callee is `extendMap []` of the engine's raw group list
(`sodCapture E`, `capOf E`), `extend` is `extendMap`; the rule header is the pair (name, marker string) of
`Rule.routeHeaders`.  No index / arithmetic / unwrap occurs in the function: no side condition.
-/
import RioModel.Proofs.MarkerGen
import RioModel.Props.C10

namespace Rio.C10
open Rio.Marker Rio.Consts Rio.MarkerGen

/-- **translated `Route::capture` = hand-written `Rule.capture`**. -/
theorem gen_route_capture_eq_model (E : Engine) (cf : CaseFns) (r : Rule) (cfg : Config) (q : Request) :
    genRouteCapture cf.lower (fun d s => extendMap [] (sodCapture E d s)) (fun h : Str × MarkerString => h.1)
        (fun h s => extendMap [] (capOf E h.2 s)) extendMap
        (r.pathSoD cf cfg) (r.hostSoD cf cfg) (r.routeHeaders cfg) q.path q.host q.headers
      = r.capture E cf cfg q := by
  rw [genRouteCapture_unfold]
  unfold Rule.capture innerStep
  -- the code extends by the MAP a callee built from the raw group list, the model by the raw list
  simp only [extendMap_normalise]
  congr 1
  cases r.hostSoD cf cfg <;> cases q.host <;> rfl

/-- **A rejected header line changes no capture** (the TRANSLATED definition, every instantiation of its parameters): a
request header line `x` whose capture is neutral for `extend` for every rule header of the same (lower-cased) name — for the
code: `MarkerString::capture` returned the empty map because the anchored capture regex does not match the value — can be
removed from the request, wherever it stands (before or AFTER an accepted line: a lookup of the last line only would drop the
capture, seeded/r9b-2). -/
theorem gen_rejected_header_line_changes_no_capture {σ δ η κ : Type} [BEq σ]
    (lower : σ → σ) (sodCap : δ → σ → κ) (headerName : η → σ) (headerCapture : η → σ → κ) (extend : κ → κ → κ)
    (pq : δ) (host : Option δ) (headers : List η) (path : σ) (rhost : Option σ) (pre post : List (σ × σ)) (x : σ × σ)
    (hx : ∀ h ∈ headers, (lower x.1 != lower (headerName h)) = false → ∀ acc, extend acc (headerCapture h x.2) = acc) :
    genRouteCapture lower sodCap headerName headerCapture extend pq host headers path rhost (pre ++ x :: post) =
      genRouteCapture lower sodCap headerName headerCapture extend pq host headers path rhost (pre ++ post) := by
  rw [genRouteCapture_unfold, genRouteCapture_unfold]
  exact List.foldl_rel (r := Eq) rfl fun h hm acc _ e =>
    e ▸ foldl_inner_remove lower headerName headerCapture extend h pre post x (hx h hm) acc

/-- The same for the hand model through the equivalence: a header line whose value the engine's anchored capture
rejects (`caps = none`) for every rule header of that name changes no capture. -/
theorem rejected_header_line_changes_no_capture (E : Engine) (cf : CaseFns) (r : Rule) (cfg : Config) (q : Request)
    (pre post : List (Str × Str)) (x : Str × Str)
    (hx : ∀ h ∈ r.routeHeaders cfg, (cf.lower x.1 != cf.lower h.1) = false →
      E.caps h.2.ignoreCase h.2.capture x.2 = none) :
    r.capture E cf cfg { q with headers := pre ++ x :: post } = r.capture E cf cfg { q with headers := pre ++ post } := by
  rw [← gen_route_capture_eq_model, ← gen_route_capture_eq_model]
  apply gen_rejected_header_line_changes_no_capture
  intro h hm hn acc
  simp [capOf, hx h hm hn, extendMap]

/-- **Every line is read, later lines extend / override earlier ones** (translated definition): with one rule header, a
further request header line of that name extends the capture of the request without it. -/
theorem gen_capture_last_line_extends {σ δ η κ : Type} [BEq σ]
    (lower : σ → σ) (sodCap : δ → σ → κ) (headerName : η → σ) (headerCapture : η → σ → κ) (extend : κ → κ → κ)
    (pq : δ) (host : Option δ) (h : η) (path : σ) (rhost : Option σ) (pre : List (σ × σ)) (x : σ × σ)
    (hx : (lower x.1 != lower (headerName h)) = false) :
    genRouteCapture lower sodCap headerName headerCapture extend pq host [h] path rhost (pre ++ [x]) =
      extend (genRouteCapture lower sodCap headerName headerCapture extend pq host [h] path rhost pre)
        (headerCapture h x.2) := by
  rw [genRouteCapture_unfold, genRouteCapture_unfold]
  simp [List.foldl_append, innerStep, hx]

/-- The accepted line followed by a rejected one (the capture stays), and by a second accepted one, on a concrete instance:
strings are numbers, a capture is the singleton list of the value, values `≥ 100` are rejected, `extend` appends. -/
theorem gen_capture_witnesses :
    let cap : Nat → Nat → List Nat := fun _ v => if v < 100 then [v] else []
    genRouteCapture (σ := Nat) id (fun (_ : Nat) s => [s]) (fun h : Nat × Nat => h.1) (fun h v => cap h.2 v) (· ++ ·)
        0 (some 1) [(7, 0)] 10 (some 20) [(7, 30), (8, 31), (7, 200)] = [10, 20, 30] ∧
    genRouteCapture (σ := Nat) id (fun (_ : Nat) s => [s]) (fun h : Nat × Nat => h.1) (fun h v => cap h.2 v) (· ++ ·)
        0 (some 1) [(7, 0)] 10 (some 20) [(7, 30), (7, 40)] = [10, 20, 30, 40] ∧
    genRouteCapture (σ := Nat) id (fun (_ : Nat) s => [s]) (fun h : Nat × Nat => h.1) (fun h v => cap h.2 v) (· ++ ·)
        0 (some 1) [(7, 0)] 10 none [(7, 30)] = [10, 30] := by
  decide +kernel

/-- non-vacuity of the hypothesis of `gen_rejected_header_line_changes_no_capture`: the rejected line `(7, 200)` above. -/
example : ∀ h ∈ [((7, 0) : Nat × Nat)], (id ((7, 200) : Nat × Nat).1 != id h.1) = false →
    ∀ acc : List Nat, acc ++ (if ((7, 200) : Nat × Nat).2 < 100 then [((7, 200) : Nat × Nat).2] else []) = acc := by
  intro h _ _ acc; simp

/-! ### `Rule::variables` (src/api/rule.rs)

`Rio.Consts.genRuleVariables` (tools/consts.d/tr_w22_capture.py); the final `sort_by` with its comparator closure
`key_b.len().cmp(&key_a.len()).then_with(|| key_a.cmp(key_b))` stands AFTER the branch (not inside the legacy arm: seeded/r8d-3).
PARAMETERS: `Rule::get_marker` (checked textually to be `find` on the name), `Marker::transform`, `Variable.name`,
`Variable::get_value`, the `HashMap` of `input` (`emptyMap`, `insert`, `iter` = its iteration sequence; the argument
`markers_captured` is ITS iteration sequence), `slice::sort_by` on the first components (`sortByKey`), `str::len`, `String::cmp`.
Instantiation in the equivalence, as the hand model has it: the map `input` is an association list, `insert` appends (the
captured names are the keys of a HashMap: distinct, no overwrite), it iterates in insertion order (ANY order gives the
same sorted list: `Rio.C10.variables_order_deterministic`), `sort_by` is the stable insertion sort `sortBy` on the
comparator's `Less`, `len` = UTF-8 length `blen`, `cmp` = `strCmp` (from `strLt`). -/

/-- **translated `Rule::variables` = hand-written `Rule.vars`**. -/
theorem gen_rule_variables_eq_model (cf : CaseFns) (r : Rule) (captured : List (Str × Str)) (q : Request) :
    genRuleVariables r.getMarker (fun (m : ApiMarker) v => applyTransformers cf m.transformers v) Variable.name
        (fun v input q => Variable.getValue cf v input q) ([] : List (Str × Str)) (fun m k v => m ++ [(k, v)]) id
        (fun ord l => sortBy (fun a b => ord a b == .lt) l) blen strCmp r.variables captured q
      = r.vars cf captured q := by
  rw [genRuleVariables_unfold]
  unfold Rule.vars sortVars Rule.variablesUnsorted
  have hcmp : (fun a b => ((compare (blen b) (blen a)).then (strCmp a b) == Ordering.lt)) = varBefore := by
    funext a b; exact gen_comparator_eq_varBefore a b
  simp only [hcmp, id]
  rw [foldl_append_map _ (fun x => match r.getMarker x.1 with
        | none => x
        | some m => (x.1, applyTransformers cf m.transformers x.2))
      (by intro acc x; cases r.getMarker x.1 <;> rfl), List.nil_append]
  rfl

/-- The same with `insert` a real `HashMap::insert` on the association-list map (an existing key is REMOVED, the entry
appended): equal to the model when the captured names are distinct — which they are, `markers_captured` being a HashMap. -/
theorem gen_rule_variables_eq_model_hashmap (cf : CaseFns) (r : Rule) (captured : List (Str × Str)) (q : Request)
    (hnd : (names captured).Nodup) :
    genRuleVariables r.getMarker (fun (m : ApiMarker) v => applyTransformers cf m.transformers v) Variable.name
        (fun v input q => Variable.getValue cf v input q) ([] : List (Str × Str)) (fun m k v => extendMap m [(k, v)]) id
        (fun ord l => sortBy (fun a b => ord a b == .lt) l) blen strCmp r.variables captured q
      = r.vars cf captured q := by
  rw [← gen_rule_variables_eq_model, genRuleVariables_unfold, genRuleVariables_unfold]
  -- with distinct names both loops build the list of transformed captures
  rw [foldl_insert_map _ (fun x => match r.getMarker x.1 with
        | none => x.2
        | some m => applyTransformers cf m.transformers x.2)
      (by intro acc x; cases r.getMarker x.1 <;> rfl) captured [] (by simpa [names] using hnd),
    foldl_append_map _ (fun x => (x.1, match r.getMarker x.1 with
        | none => x.2
        | some m => applyTransformers cf m.transformers x.2))
      (by intro acc x; cases r.getMarker x.1 <;> rfl)]

/-- **substitution** for the translated `Rule::variables`: substituting its result into a template is the
simultaneous longest-match substitution of the unsorted variable list — the final sort is there in BOTH branches. -/
theorem gen_rule_variables_substitution (cf : CaseFns) (r : Rule) (captured : List (Str × Str)) (q : Request) (t : Str) :
    replaceVars t (genRuleVariables r.getMarker (fun (m : ApiMarker) v => applyTransformers cf m.transformers v)
        Variable.name (fun v input q => Variable.getValue cf v input q) ([] : List (Str × Str))
        (fun m k v => m ++ [(k, v)]) id (fun ord l => sortBy (fun a b => ord a b == .lt) l) blen strCmp
        r.variables captured q)
      = subst (r.variablesUnsorted cf captured q) t := by
  rw [gen_rule_variables_eq_model]
  exact substitution _ t

/-- The translated function sorts in both branches, whatever the parameters are: its result is `sortByKey` of the
code's comparator applied to a list. -/
theorem gen_rule_variables_sorted {σ μ ν ι ρ : Type}
    (getMarker : σ → Option μ) (transform : μ → σ → σ) (varName : ν → σ) (getValue : ν → ι → ρ → σ)
    (emptyMap : ι) (insert : ι → σ → σ → ι) (iter : ι → List (σ × σ))
    (sortByKey : (σ → σ → Ordering) → List (σ × σ) → List (σ × σ)) (len : σ → Nat) (cmp : σ → σ → Ordering)
    (vars : List ν) (captured : List (σ × σ)) (req : ρ) :
    ∃ l, genRuleVariables getMarker transform varName getValue emptyMap insert iter sortByKey len cmp vars captured req =
      sortByKey (fun a b => (compare (len b) (len a)).then (cmp a b)) l ∧
      (vars.isEmpty = false → l = vars.map fun v => (varName v, getValue v
        (captured.foldl (fun inp p => match getMarker p.1 with
            | none => insert inp p.1 p.2
            | some m => insert inp p.1 (transform m p.2)) emptyMap) req)) := by
  refine ⟨_, genRuleVariables_unfold .., ?_⟩
  intro h; rw [h]; rfl

/-- Concrete evaluation (strings are numbers, `len` = the number itself, insertion sort by `Less`): legacy branch with a
transformed marker, and declared variables; both come out sorted longest-first. -/
theorem gen_rule_variables_witnesses :
    let ins : (Nat → Nat → Ordering) → List (Nat × Nat) → List (Nat × Nat) := fun ord l =>
      l.foldr (fun x acc => (acc.takeWhile fun y => ord y.1 x.1 == .lt) ++ x :: (acc.dropWhile fun y => ord y.1 x.1 == .lt)) []
    genRuleVariables (σ := Nat) (ν := Nat × Nat) (ρ := Unit) (fun n => if n = 2 then some 100 else none) (fun m v => m + v)
        (fun v => v.1) (fun v inp _ => v.2 + inp.length) ([] : List (Nat × Nat)) (fun m k v => m ++ [(k, v)]) id ins id compare
        [] [(1, 10), (2, 20), (3, 30)] () = [(3, 30), (2, 120), (1, 10)] ∧
    genRuleVariables (σ := Nat) (ν := Nat × Nat) (ρ := Unit) (fun n => if n = 2 then some 100 else none) (fun m v => m + v)
        (fun v => v.1) (fun v inp _ => v.2 + inp.length) ([] : List (Nat × Nat)) (fun m k v => m ++ [(k, v)]) id ins id compare
        [(5, 0), (9, 1)] [(1, 10), (2, 20), (3, 30)] () = [(9, 4), (5, 3)] := by
  decide +kernel

/-! ### `StaticOrDynamic::replace` (src/marker/mod.rs)

`Rio.Consts.genReplace` / `genReplaceLoop` / `genReplaceFor` (tools/consts.d/tr_w22_replace.py): the one-pass scan.
PARAMETERS: the `str` / `String` operations `find`, `&s[..n]`, `&s[n..]`, `starts_with`, `len`, `push_str`, `push`,
`String::with_capacity`.  The equivalence assumes `Rio.MarkerGen.StrLaws` of them relative to a reading `toChars : σ → Str`
(what the Rust operations do AT THE OFFSETS THE CODE USES: an offset returned by `find`, that offset + 1 behind the one-byte
`@`, `name.len()` behind a successful `starts_with(name)` — where the slices do not panic; nothing is assumed elsewhere).
The `while let` is translated with explicit FUEL and the outcome `none` when it runs out; the theorem shows that any fuel above
the number of chars of the template suffices (so the outcome is always `some`). -/

/-- **translated `StaticOrDynamic::replace` = hand-written `replaceVars`** under `StrLaws`, for every variable list (sorted
or not) and every fuel above the template's length. -/
theorem gen_replace_eq_model {σ : Type} {toChars : σ → Str} {find : σ → Char → Option Nat} {sliceTo sliceFrom : σ → Nat → σ}
    {startsWith : σ → σ → Bool} {len : σ → Nat} {append : σ → σ → σ} {push : σ → Char → σ} {withCapacity : Nat → σ}
    (L : StrLaws toChars find sliceTo sliceFrom startsWith len append push withCapacity)
    (vars : List (σ × σ)) (fuel : Nat) (str : σ) (hfuel : (toChars str).length < fuel) :
    ∃ r, genReplace find sliceTo sliceFrom startsWith len append push withCapacity fuel str vars = some r ∧
      toChars r = replaceVars (toChars str) (varsChars toChars vars) :=
  genReplace_spec L vars fuel str hfuel

/-- **substitution** for the translated `replace`: on the variable list as `Rule::variables` sorts it,
the translated scan computes the simultaneous longest-match substitution. -/
theorem gen_replace_substitution {σ : Type} {toChars : σ → Str} {find : σ → Char → Option Nat} {sliceTo sliceFrom : σ → Nat → σ}
    {startsWith : σ → σ → Bool} {len : σ → Nat} {append : σ → σ → σ} {push : σ → Char → σ} {withCapacity : Nat → σ}
    (L : StrLaws toChars find sliceTo sliceFrom startsWith len append push withCapacity)
    (vars : List (σ × σ)) (vs : List (Str × Str)) (hsorted : varsChars toChars vars = sortVars vs)
    (fuel : Nat) (str : σ) (hfuel : (toChars str).length < fuel) :
    ∃ r, genReplace find sliceTo sliceFrom startsWith len append push withCapacity fuel str vars = some r ∧
      toChars r = subst vs (toChars str) := by
  obtain ⟨r, hr, hc⟩ := genReplace_spec L vars fuel str hfuel
  exact ⟨r, hr, by rw [hc, hsorted]; exact substitution vs (toChars str)⟩

/-- The laws are satisfiable, and on that instance (strings = char lists, char offsets) the translated function IS the model. -/
theorem gen_replace_eq_model_chars (t : Str) (vars : List (Str × Str)) :
    genReplace (fun s c => findChar c s) (fun s n => s.take n) (fun s n => s.drop n) (fun a n => pre n a) List.length
      (· ++ ·) (fun a c => a ++ [c]) (fun _ => []) (t.length + 1) t vars = some (replaceVars t vars) := by
  obtain ⟨r, hr, hc⟩ := genReplace_spec charLaws vars (t.length + 1) t (by simp)
  rw [hr]
  simp only [id] at hc
  rw [hc]
  congr 2
  simp [varsChars]

/-- The failure outcome is real: without fuel the translated loop reports `none` instead of a truncated string. -/
theorem gen_replace_needs_fuel (t : Str) (vars : List (Str × Str)) :
    genReplace (fun s c => findChar c s) (fun s n => s.take n) (fun s n => s.drop n) (fun a n => pre n a) List.length
      (· ++ ·) (fun a c => a ++ [c]) (fun _ => []) 0 t vars = none := rfl

/-- Concrete evaluations: first entry in LIST order wins (the sort matters), a value is not rescanned, stray `@`. -/
theorem gen_replace_witnesses :
    genReplace (fun s c => findChar c s) (fun s n => s.take n) (fun s n => s.drop n) (fun a n => pre n a) List.length
      (· ++ ·) (fun a c => a ++ [c]) (fun _ => []) 9 ['/', '@', 'i', 'd', '2', '@', '!', '@', 'x']
      [(['i', 'd', '2'], ['9']), (['i', 'd'], ['7']), (['x'], ['@', 'i', 'd'])] = some ['/', '9', '@', '!', '@', 'i', 'd'] ∧
    genReplace (fun s c => findChar c s) (fun s n => s.take n) (fun s n => s.drop n) (fun a n => pre n a) List.length
      (· ++ ·) (fun a c => a ++ [c]) (fun _ => []) 9 ['@', 'i', 'd', '2']
      [(['i', 'd'], ['7']), (['i', 'd', '2'], ['9'])] = some ['7', '2'] := by
  decide +kernel

end Rio.C10
