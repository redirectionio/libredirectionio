/-
C04, final form on the tokenizer model of the real tokenizer: all tokenizer laws are discharged, for both entry points
(`Tokenizer::new`: append_child / prepend_child; `Tokenizer::new_fragment(data, last_context)`: the filter loop) —
`LosslessAll`, `TokValid`, `TokValidS`, `CtxClosed`, `TagSpanS` — so the conservativity theorems have NO tokenizer
hypothesis left.
-/
import RioModel.Props.C04
import RioModel.Proofs.HtmlTokRecords
import RioModel.Proofs.HtmlTokLaws

namespace Rio.C04
open Rio.Filter Rio.Consts

/-- token boundaries of the tokenizer model are character boundaries (both entry points, every accepted context), and
the contexts it reports are accepted contexts -/
theorem tokenizer_tokValid : TokValidAll htmlTokenize :=
  ⟨htmlTokenize_tokValid, htmlTokenize_tokValidS, htmlTokenize_ctxClosed⟩

/-- tag tokens of the tokenizer model start with `<` and end with `>` (stream tokenizer, every context) -/
theorem tokenizer_tagSpan : TagSpanS htmlTokenize := htmlTokenize_tagSpanS

/-- **C04 for uncompressed chains, unconditional in the tokenizer.**  For every list of filters without
`replace_text` whose values are valid UTF-8 (Rust `String`s) — any number of html filters, append / prepend / replace,
any selectors — every selector oracle, every chunking of ARBITRARY bytes, and whether or not the chain fails on
invalid UTF-8 inside `filter()` or `end()`: the concatenated output is the concatenated input edited only by
insertions of whole values of the insert filters and substitutions of `<`…`>` spans by whole values of the replace
filters.  Nothing is lost, duplicated or reordered. -/
theorem conservative_final (ev : Bytes → Bytes → Bool) (lower : String → String)
    (fs : List BodyFilter) (headers : List (String × String))
    (henc : headerValue lower filterHeaderContentEncoding headers = none)
    (hntr : ∀ f ∈ fs, isTextReplace f = false)
    (hval : ∀ f ∈ fs, V (filterValue f))
    (cs : List Bytes) :
    Edit (fs.flatMap filterIns) (fs.flatMap filterRep) cs.flatten
      ((Chain.new noCodec lower fs headers).run htmlTokenize ev noCodec cs) :=
  conservative_multi htmlTokenize_losslessAll tokenizer_tokValid ev lower fs headers henc hntr hval
    (fun _ => htmlTokenize_tagSpanS) cs

/-- the same for at most one html filter, without any hypothesis on the values -/
theorem conservative_final_one (ev : Bytes → Bytes → Bool) (lower : String → String)
    (fs : List BodyFilter) (headers : List (String × String))
    (henc : headerValue lower filterHeaderContentEncoding headers = none)
    (hntr : ∀ f ∈ fs, isTextReplace f = false)
    (hone : (fs.filter isHtmlFilter).length ≤ 1)
    (cs : List Bytes) :
    Edit (fs.flatMap filterIns) (fs.flatMap filterRep) cs.flatten
      ((Chain.new noCodec lower fs headers).run htmlTokenize ev noCodec cs) :=
  conservative_concrete ev lower fs headers henc hntr hone (fun _ => htmlTokenize_tagSpanS) cs

/-- insert-only lists, any number of html filters: no substitution at all -/
theorem insert_only_final (ev : Bytes → Bytes → Bool) (lower : String → String)
    (fs : List BodyFilter) (headers : List (String × String))
    (henc : headerValue lower filterHeaderContentEncoding headers = none)
    (hins : ∀ f ∈ fs, isTextReplace f = false ∧ filterRep f = [])
    (hval : ∀ f ∈ fs, V (filterValue f))
    (cs : List Bytes) :
    Edit (fs.flatMap filterIns) [] cs.flatten
      ((Chain.new noCodec lower fs headers).run htmlTokenize ev noCodec cs) := by
  have hrep : fs.flatMap filterRep = [] := by
    rw [List.flatMap_eq_nil_iff]; exact fun f hf => (hins f hf).2
  have := conservative_final ev lower fs headers henc (fun f hf => (hins f hf).1) hval cs
  rw [hrep] at this
  exact this

/-- the `?` exits `raw_as_string()?` / `buffered_as_string()?` do not fire on the tokenizer model: every raw span and
every remainder of a complete valid buffer is complete valid UTF-8 -/
theorem raw_and_buffered_valid (d : Bytes) (hd : V d) (k : Nat) :
    (∀ t ∈ (htmlTokenize d).1, V t.raw) ∧ V (rawsOf ((htmlTokenize d).1.drop k) ++ (htmlTokenize d).2) :=
  ⟨htmlTokenize_tokValid d hd,
   V_append (V_rawsOf fun t ht => htmlTokenize_tokValid d hd t (List.mem_of_mem_drop ht))
     (V_rest htmlTokenize_losslessAll tokenizer_tokValid hd)⟩

/-! ### the `?` exits of `filter` / `append_child` / `prepend_child` other than the UTF-8 validation never fire

`htmlStream?` / `htmlTokenize?` are `none` exactly when some failure exit of the tokenizing loop is taken (`next()?`,
`raw()` / `buffered()` out of range, `tag_name()?`, fuel).  On a complete valid buffer they are
`some`, whatever the context (`htmlStream?_isSome_of_valid`, `htmlTokenize?_isSome_of_valid`), and every
`raw_as_string()` / `buffered_as_string()` succeeds.  The buffers that reach the tokenizer are always complete valid,
and the context the stage remembers is always an accepted one: -/

/-- in `filter`: the buffer tokenised is the validated part of `last_buffer ++ input`, the context is `last_context` -/
theorem filter_question_marks (s : HtmlSt) (x data pending : Bytes) (hc : Ctx s.ctx)
    (h : utf8Split (s.last ++ x) = some (data, pending)) :
    (htmlStream? s.ctx data).isSome = true ∧ (∀ t ∈ (htmlTokenize.stream s.ctx data).1, V t.tok.raw) ∧
      V (htmlTokenize.stream s.ctx data).2.1 := by
  have hd : V data := V_utf8Split h
  refine ⟨htmlStream?_isSome_of_valid s.ctx data hd, htmlTokenize_tokValidS s.ctx data hc hd, ?_⟩
  have hl := htmlTokenize_losslessS s.ctx data
  have hd' := hd
  rw [← hl] at hd'
  refine V_of_append_left hd' (V_rawsOf ?_)
  intro t ht
  simp only [toksOf, List.mem_map] at ht
  obtain ⟨x', hx', rfl⟩ := ht
  exact htmlTokenize_tokValidS s.ctx data hc hd x' hx'

/-- in `append_child` / `prepend_child`: the buffer tokenised is a buffered element followed by a tag token, all valid
by the invariant `HV` (values valid UTF-8), which every call of the stage preserves together with "the remembered context
is an accepted one" -/
theorem visitor_question_marks (ev : Bytes → Bytes → Bool) (s s' : HtmlSt) (x o : Bytes) (hs : HV s) (hc : Ctx s.ctx)
    (h : filterHtml htmlTokenize ev s x = some (s', o)) :
    HV s' ∧ Ctx s'.ctx ∧ V o ∧ ∀ l ∈ s'.stack, (htmlTokenize? l.buffer).isSome = true := by
  obtain ⟨h1, h2, h3⟩ := filterHtml_V htmlTokenize_losslessAll tokenizer_tokValid ev s s' x o hs hc h
  exact ⟨h1, h2, h3, fun l hl => htmlTokenize?_isSome_of_valid l.buffer (h1.2 l hl)⟩

/-- any complete valid buffer (what `append_child(content: String, ..)` receives) tokenises without a failure exit -/
theorem valid_buffer_tokenizes (d : Bytes) (hd : V d) : (htmlTokenize? d).isSome = true :=
  htmlTokenize?_isSome_of_valid d hd

end Rio.C04
