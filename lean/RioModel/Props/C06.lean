/-
C06 — an action survives JSON serialisation unchanged (agent → proxy hand-off), and so does a
request.

`serX` / `deX` are the derived `Serialize` / `Deserialize` impls of the Rust types on the level of
JSON values (ordered key/value lists with duplicates, see Model/Json.lean); `print` is
`serde_json::to_string`.  The only hypothesis on an action is `Action.WF`: its two
`LinkedHashSet`s are duplicate-free – an invariant of the Rust type (`deAction_wf`,
`linked_hash_set_nodup`), not an assumption about the library's logic.  For a request the
hypothesis `Request.WF` says that `created_at` denotes an instant chrono can represent (calendar and
clock fields in range) – again an invariant of the Rust type (`deRequest_wf`).  `IpAddr` and
`DateTime<Utc>` are concrete values with hand-written models of their `Display` / `Serialize` output and
of readers that accept exactly the canonical texts (Model/JsonAtoms.lean; `ip_print_parse`,
`datetime_print_parse` are laws of these models — that std / chrono print and read like them is held by
the differential check only); the real parsers' behaviour on non-canonical spellings is an oracle
`P : Codec` of which nothing is assumed.

Levels.  Proved here: the serde-model VALUE is restored exactly, through the JSON value and through the
JSON text.  The `*_behaviour` theorems below are the congruence corollaries for an arbitrary function of
the serde-model type.  Behaviour under the MODELLED observers (C05) and the MODELLED router (C01) is in
Props/C06obs.lean; behaviour of the real code on the real restored action is checked by the
implementation-side oracle of harness c06, not proved.
-/
import RioModel.Proofs.JsonAction
import RioModel.Proofs.JsonSchema
import RioModel.Proofs.JsonText
import RioModel.Proofs.JsonAtoms

namespace Rio.C06
open Rio.Json

/-- **C06 headline**: deserialising the serialisation of an action yields exactly that action. -/
theorem action_roundtrip (a : Action) (h : a.WF) : deAction (serAction a) = some a :=
  Rio.Json.action_roundtrip a h

/-- Congruence corollary of `action_roundtrip` (no further content): `obs` ranges over functions of the SERDE-MODEL
action.  The modelled observers of the library live on the action model of C05; "the restored action behaves like the
original" is stated for THEM in Props/C06obs.lean (`action_observers_roundtrip`, `model_action_observers`,
`observed_action_handover`). -/
theorem action_behaviour {β : Type} (obs : Action → β) (a : Action) (h : a.WF) :
    ∃ a', deAction (serAction a) = some a' ∧ obs a' = obs a ∧
      print (serAction a') = print (serAction a) :=
  ⟨a, action_roundtrip a h, rfl, rfl⟩

theorem action_reserialize (a : Action) (h : a.WF) :
    (deAction (serAction a)).map (fun a' => print (serAction a')) = some (print (serAction a)) := by
  rw [action_roundtrip a h]; rfl

/-- Serialisation loses nothing. -/
theorem serAction_injective (a b : Action) (ha : a.WF) (hb : b.WF)
    (h : serAction a = serAction b) : a = b := by
  have h1 := action_roundtrip a ha
  rw [h, action_roundtrip b hb] at h1
  exact (Option.some.inj h1).symm

/-! ### The untagged `BodyFilter` union (`Text` is tried before `HTML`) -/

/-- The JSON of an HTML filter is rejected by the `Text` variant (no `content` key) … -/
theorem deText_serHtml (h : HtmlBodyFilter) : deTextBodyFilter (serHtmlBodyFilter h) = none :=
  Rio.Json.deText_serHtml h

/-- … and accepted, unchanged, by the `HTML` variant. -/
theorem deHtml_serHtml (h : HtmlBodyFilter) : deHtmlBodyFilter (serHtmlBodyFilter h) = some h :=
  htmlBodyFilter_roundtrip h

/-- The JSON of a text filter is accepted, unchanged, by the `Text` variant … -/
theorem deText_serText (t : TextBodyFilter) : deTextBodyFilter (serTextBodyFilter t) = some t :=
  textBodyFilter_roundtrip t

/-- … and would be rejected by the `HTML` variant: the variant order is immaterial for
serialised values. -/
theorem deHtml_serText (t : TextBodyFilter) : deHtmlBodyFilter (serTextBodyFilter t) = none :=
  Rio.Json.deHtml_serText t

/-- Hence a body filter keeps its variant and its fields, at any nesting the recursion limit of
serde_json allows (inside an action the filter sits under 3 containers). -/
theorem bodyFilter_roundtrip (base : Nat) (hb : base + 2 ≤ recursionLimit) (f : BodyFilter) :
    deBodyFilter base (serBodyFilter f) = some f :=
  Rio.Json.bodyFilter_roundtrip base hb f

/-- Any action obtained by deserialisation (what a proxy holds) is well-formed. -/
theorem deAction_wf (j : Json) (a : Action) (h : deAction j = some a) : a.WF :=
  Rio.Json.deAction_wf j a h

/-- Any sequence of `LinkedHashSet::insert` calls starting from the empty set (what the library
does when it builds and merges actions and records applied rules) yields a duplicate-free
list. -/
theorem linked_hash_set_nodup (xs : List String) : (xs.foldl insertBack []).Nodup :=
  foldl_insertBack_is_nodup xs [] (by simp)

/-- So the round trip can be iterated. -/
theorem action_roundtrip_twice (j : Json) (a : Action) (h : deAction j = some a) :
    deAction (serAction a) = some a :=
  action_roundtrip a (deAction_wf j a h)

/-- An agent that predates `rule_traces`, `rules_applied` and `log_override` (and omits a
`null` `status_code_update`) is still understood: the minimal object denotes the action with
those fields at their defaults. -/
theorem action_minimal_form (hf : List HeaderFilterAction) (bf : List BodyFilterAction)
    (ids : List String) (h : ids.Nodup) :
    deAction (.obj [("header_filters", serVec serHeaderFilterAction hf),
                    ("body_filters", serVec serBodyFilterAction bf),
                    ("rule_ids", serSet ids)])
      = some ⟨none, hf, bf, ids, [], [], none⟩ := by
  simp [deAction, reqField_eq, optField_eq, defaultField_eq, Found.elim_one, Found.elim_missing, find_nil, find_cons_self,
    find_cons_ne, deVec_headerFilterAction,
    deVec_bodyFilterAction, deSet_serSet _ h]

/-- The field names `Action` reads. -/
def actionKeys : List String :=
  ["status_code_update", "header_filters", "body_filters", "rule_ids", "rule_traces",
   "rules_applied", "log_override"]

/-- `deAction` reads the seven keys `actionKeys` and nothing else. -/
theorem deAction_congr (kvs kvs' : List (String × Json))
    (h : ∀ k ∈ actionKeys, find kvs k = find kvs' k) :
    deAction (.obj kvs) = deAction (.obj kvs') := by
  simp only [actionKeys, List.mem_cons, List.mem_nil_iff, or_false, forall_eq_or_imp, forall_eq] at h
  obtain ⟨h1, h2, h3, h4, h5, h6, h7⟩ := h
  simp only [deAction, reqField, optField, defaultField, h1, h2, h3, h4, h5, h6, h7]

/-- Unknown fields are ignored wherever they are inserted (a newer agent may add fields). -/
theorem deAction_unknown_field (pre post : List (String × Json)) (k : String) (v : Json)
    (hk : k ∉ actionKeys) :
    deAction (.obj (pre ++ (k, v) :: post)) = deAction (.obj (pre ++ post)) := by
  apply deAction_congr
  intro k' hk'
  apply find_append_ne
  intro heq
  exact hk (heq ▸ hk')

/-- The order of the keys of the object does not matter (as long as no key of `Action` is
repeated – a repeated key is an error in any order). -/
theorem deAction_key_order (kvs kvs' : List (String × Json)) (hp : kvs.Perm kvs')
    (hu : ∀ k ∈ actionKeys, countKey kvs k ≤ 1) :
    deAction (.obj kvs) = deAction (.obj kvs') :=
  deAction_congr kvs kvs' (fun k hk => find_perm kvs kvs' k hp (hu k hk))

/-- `IpAddr::from_str` reads back what `Display` wrote, for every IPv4 and IPv6 address
(IPv4-mapped form, `::` compression of the first longest zero run, lower-case hex). -/
theorem ip_print_parse (x : Ip) : parseIp (showIp x) = some x := parseIp_showIp x

/-- chrono reads back what `Serialize` wrote, for every representable UTC instant (years with
sign and more than four digits, leap seconds, 0 / 3 / 6 / 9 fractional digits). -/
theorem datetime_print_parse (d : DateTime) (h : d.Valid) : parseDt (showDt d) = some d :=
  parseDt_showDt d h

/-- A request restored from its JSON is the same request, whatever the oracle `P` answers … -/
theorem request_roundtrip (P : Codec) (q : Request) (h : q.WF) :
    deRequest P (serRequest q) = some q :=
  Rio.Json.request_roundtrip P q h

/-- Congruence corollary of `request_roundtrip` (no further content).  That a restored request MATCHES THE SAME RULES
is stated for the router model of C01 in Props/C06obs.lean (`request_match_roundtrip`). -/
theorem request_behaviour {β : Type} (P : Codec) (obs : Request → β) (q : Request) (h : q.WF) :
    ∃ q', deRequest P (serRequest q) = some q' ∧ obs q' = obs q ∧
      print (serRequest q') = print (serRequest q) :=
  ⟨q, request_roundtrip P q h, rfl, rfl⟩

/-- Every request obtained by deserialisation is well-formed (so `Request.WF` holds of whatever a
proxy holds, and the round trip can be iterated) – no law of the oracle is needed. -/
theorem deRequest_wf (P : Codec) (j : Json) (q : Request) (h : deRequest P j = some q) : q.WF :=
  Rio.Json.deRequest_wf P j q h

/-! ### The text level: what travels from the agent to the proxy is a string

`render` / `print` model `serde_json::to_string`, `parseText` models the reader of
`serde_json::from_str` (Model/JsonText.lean: white space, escapes incl. surrogate pairs, number
classification, separators), `deActionText = parseText >=> deAction`. -/

/-- The reader inverts the printer on every value the printer can be asked to print faithfully
(no floats, integers within `i64 ∪ u64`). -/
theorem reader_inverts_printer (j : Json) (hp : Printable j) : parseText (render j) = some j :=
  parseText_render j hp

/-- Different values never print alike (escaping and separators are unambiguous). -/
theorem printer_injective (j j' : Json) (hp : Printable j) (hp' : Printable j')
    (h : render j = render j') : j = j' :=
  render_injective j j' hp hp' h

/-- **C06 on the text level**: `from_str(to_string(a)) = a`. -/
theorem action_text_roundtrip (a : Action) (h : a.WF) :
    deActionText (print (serAction a)).toList = some a := by
  simp only [print, String.toList_ofList, deActionText,
    parseText_render _ (printable_serAction a), Option.bind_some]
  exact action_roundtrip a h

theorem action_text_injective (a b : Action) (ha : a.WF) (hb : b.WF)
    (h : print (serAction a) = print (serAction b)) : a = b := by
  have h1 := action_text_roundtrip a ha
  rw [h, action_text_roundtrip b hb] at h1
  exact (Option.some.inj h1).symm

theorem request_text_roundtrip (P : Codec) (q : Request) (h : q.WF) :
    deRequestText P (print (serRequest q)).toList = some q := by
  simp only [print, String.toList_ofList, deRequestText,
    parseText_render _ (printable_serRequest q), Option.bind_some]
  exact request_roundtrip P q h

/-! ### Tie to the source by regeneration (tools/consts.d/w4_serde.py) -/

/-- Of the serde schema extracted from /repo/src on this run, the field types and `#[serde(..)]` attributes of
`Action` in declaration order, its type-level attributes, `untagged` and the variant order of `BodyFilter` are those the
model was transcribed from.  The whole schema of every type on the path is pinned literally by `Rio.Json.schema_*`
(Proofs/JsonSchema.lean, imported): any change to one of the derives breaks the build of this module. -/
theorem schema_tie :
    Rio.Consts.serdeActionAttrs = [] ∧
    Rio.Consts.serdeAction.map (·.2.1) =
      ["Option<StatusCodeUpdate>", "Vec<HeaderFilterAction>", "Vec<BodyFilterAction>",
       "LinkedHashSet<String>", "Vec<RuleTrace>", "LinkedHashSet<String>", "Option<LogOverride>"] ∧
    Rio.Consts.serdeAction.map (·.2.2) = ["", "", "", "", "default", "default", ""] ∧
    Rio.Consts.serdeBodyFilterAttrs = ["untagged"] ∧
    Rio.Consts.serdeBodyFilter.map (·.1) = ["Text", "HTML"] :=
  ⟨schema_Action.1, by rw [schema_Action.2]; rfl, by rw [schema_Action.2]; rfl, schema_BodyFilter.1,
    by rw [schema_BodyFilter.2]; rfl⟩

/-- The keys the model's serialisers emit are the extracted keys in the extracted order, for
every type on the path. -/
theorem ser_keys_tie (a : Action) (q : Request) :
    objKeys (serAction a) = schemaKeys Rio.Consts.serdeAction ∧
    objKeys (serRequest q) = schemaKeys Rio.Consts.serdeRequest ∧
    (∀ s, objKeys (serStatusCodeUpdate s) = schemaKeys Rio.Consts.serdeStatusCodeUpdate) ∧
    (∀ l, objKeys (serLogOverride l) = schemaKeys Rio.Consts.serdeLogOverride) ∧
    (∀ t, objKeys (serRuleTrace t) = schemaKeys Rio.Consts.serdeRuleTrace) ∧
    (∀ f, objKeys (serHeaderFilterAction f) = schemaKeys Rio.Consts.serdeHeaderFilterAction) ∧
    (∀ f, objKeys (serBodyFilterAction f) = schemaKeys Rio.Consts.serdeBodyFilterAction) ∧
    (∀ f, objKeys (serHeaderFilter f) = schemaKeys Rio.Consts.serdeHeaderFilter) ∧
    (∀ f, objKeys (serHtmlBodyFilter f) = schemaKeys Rio.Consts.serdeHtmlBodyFilter) ∧
    (∀ f, objKeys (serTextBodyFilter f) = schemaKeys Rio.Consts.serdeTextBodyFilter) ∧
    (∀ p, objKeys (serPathAndQuery p) = schemaKeys Rio.Consts.serdePathAndQuery) ∧
    (∀ h, objKeys (serHeader h) = schemaKeys Rio.Consts.serdeHeader) ∧
    [TextAction.append, .prepend, .replace].map TextAction.name = schemaKeys Rio.Consts.serdeTextAction :=
  ⟨serAction_keys a, serRequest_keys q, serStatusCodeUpdate_keys, serLogOverride_keys,
   serRuleTrace_keys, serHeaderFilterAction_keys, serBodyFilterAction_keys, serHeaderFilter_keys,
   serHtmlBodyFilter_keys, serTextBodyFilter_keys, serPathAndQuery_keys, serHeader_keys,
   textAction_names⟩

def exAction : Action where
  status_code_update := some ⟨302, [404, 410], true, 301, some "r2", some "r1", some "u1", some "status_code"⟩
  header_filters := [⟨⟨"override", "Location", "/t?a=\"1\"", some "u1", none⟩, [404], false, some "r2"⟩]
  body_filters :=
    [⟨.text ⟨.append, "tail\n", none, some "h"⟩, [], false, some "r1"⟩,
     ⟨.html ⟨"append_child", "<b>v</b>", some "<i>in</i>", ["html", "body"], some "div.c", some "u2", none⟩,
      [200], true, some "r2"⟩]
  rule_ids := ["r1", "r2"]
  rule_traces := [⟨"r1", [], false⟩, ⟨"r2", [404, 410], true⟩]
  rules_applied := ["r2"]
  log_override := some ⟨false, some "r2", [500], false, some true, some "r1", none⟩

example : exAction.WF := by simp [exAction, Action.WF]

example : deAction (serAction exAction) = some exAction :=
  action_roundtrip exAction (by simp [exAction, Action.WF])

/-- the hypothesis is needed: a list with a repeated id is not the image of any set, and the
round trip (faithfully to `LinkedHashSet::insert`) reorders it. -/
example : deSet (serSet ["a", "b", "a"]) = some ["b", "a"] := by
  simp [deSet, serSet, mapOpt, deString, insertBack, List.erase]

/-- an oracle that knows nothing: the theorems do not depend on it -/
def exCodec : Codec where
  parseIp := fun _ => none
  parseDt := fun _ => none

def exRequest : Request where
  path_and_query_skipped := ⟨"/x?a=1", some "/x?a=1", some "utm_source=b", "/x?a=1&utm_source=b"⟩
  path_and_query := some "/x?a=1&utm_source=b"
  host := some "example.org"
  scheme := none
  method := some "GET"
  headers := [⟨"X-A", "1"⟩, ⟨"x-a", "é"⟩]
  remote_addr := some (.v6 ⟨[0x2001, 0xdb8, 0, 0, 1, 0, 0, 1], rfl⟩)
  created_at := some ⟨2016, 12, 31, 23, 59, 60, 500000000⟩
  sampling_override := some false

example : exRequest.WF := by decide

example : deRequest exCodec (serRequest exRequest) = some exRequest :=
  request_roundtrip exCodec exRequest (by decide)

/-- the validity hypothesis is a real restriction: the 30th of February is not an instant (chrono
cannot hold it, and its text is refused by both readers) -/
example : ¬ (⟨2024, 2, 30, 0, 0, 0, 0⟩ : DateTime).Valid := by decide

end Rio.C06
