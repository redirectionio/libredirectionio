/-
C12 (router level) — `Router::cache` is transparent and terminates.

`RouterG.cache` (Model/RouterLayers.lean) is `Router::cache(limit)` of src/router/mod.rs: the
`while prev_cache_limit > 0` loop with its `level` / `retry` counters over the outermost matcher's
`cache(limit, level)`, which every matcher passes down (always-present bucket, then the keyed
buckets, the budget threaded through; `HostMatcher`: tree, static buckets, tree buckets, any-host;
`PathAndQueryMatcher`: `regex_tree_rule.cache(limit, Some(level))`).  Over the tower on the real
regex-tree model (`towerTOps`) it fills `compiled` cells of the trees' regexes (`Tree.treeCache`, C12
tree level); over the specification-level tower it changes nothing.
-/
import RioModel.Proofs.RouterTreeTop
import RioModel.Props.C02
import RioModel.Model.RouterTreeParse

namespace Rio.C12
open Rio.Router Rio.Regex Rio.Tree

theorem cache_repr {O : MOps} (OL : MLaws O) (S : RouterG O) (L : List Route) (limit : Option Nat)
    (h : RReprG OL S L) : RReprG OL (RouterG.cache O limit S) L := g_cache OL S L limit h

/-- `len()` / `get_route_by_id` / `routes()` are untouched. -/
theorem cache_keeps_rules (O : MOps) (S : RouterG O) (limit : Option Nat) :
    (RouterG.cache O limit S).routes = S.routes := rfl

/-- **cache_terminates.**  The loop of `Router::cache` stops within `prev_cache_limit + 7`
iterations (the fuel `RouterG.cache` runs it with), for every limit incl. `None` and values that wrap
to a negative `i64`: each iteration lowers the budget or consumes one of six retries.  (`.2.2` of `cacheLoop`: the
fuel ran out.) -/
theorem cache_terminates {O : MOps} (OL : MLaws O) (S : RouterG O) (limit : Option Nat) :
    (RouterG.cacheLoop O ((RouterG.cachePrev O limit S).toNat + 7) (RouterG.cachePrev O limit S) 0 0
      S.matcher).2.2 = false := by
  apply cacheLoop_terminates OL
  · unfold RouterG.cachePrev
    cases limit with
    | some l => exact asI64_lt l
    | none => simp only; omega
  · omega
  · omega

theorem match_cache (E : Env) (S : Router E) (L : List Route) (h : RRepr E S L) (limit : Option Nat)
    (q : Req) : (RouterG.matchReq (towerOps E) (RouterG.cache (towerOps E) limit S) q).Perm (S.matchReq E q) :=
  g_match_perm _ _ _ L L (cache_repr _ S L limit h) h (fun _ => Iff.rfl) q

theorem cache_terminates_spec (E : Env) (S : Router E) (limit : Option Nat) :
    (RouterG.cacheLoop (towerOps E) ((RouterG.cachePrev _ limit S).toNat + 7) (RouterG.cachePrev _ limit S)
      0 0 S.matcher).2.2 = false := cache_terminates (towerLaws E) S limit

section
variable (T : TEnv) (Good : List Char → Prop) (hPS : PrefixSound T.engine Good)

/-- **match_cache** over the real trees.  In every state reached by a valid history (`RReprT`), caching does not change
the answer to any request (as a multiset of rules). -/
theorem match_cache_tree (S : RouterT T) (L : List Route) (h : RReprT T Good hPS S L)
    (limit : Option Nat) (q : Req) :
    (RouterG.matchReq (towerTOps T) (RouterG.cache (towerTOps T) limit S) q).Perm
      (RouterG.matchReq (towerTOps T) S q) :=
  g_match_perm _ _ _ L L (cache_repr _ S L limit h) h (fun _ => Iff.rfl) q

/-- **trace_cache.**  … nor the rules listed by the explain trace. -/
theorem trace_cache_tree (S : RouterT T) (L : List Route) (h : RReprT T Good hPS S L)
    (limit : Option Nat) (q : Req) :
    (routesOfList (RouterG.trace (towerTOps T) (RouterG.cache (towerTOps T) limit S) q)).Perm
      (routesOfList (RouterG.trace (towerTOps T) S q)) := by
  exact (g_trace_perm _ _ L (cache_repr _ S L limit h) q).trans
    ((match_cache_tree T Good hPS S L h limit q).trans (g_trace_perm _ _ L h q).symm)

include hPS in
theorem cache_terminates_tree (S : RouterT T) (limit : Option Nat) :
    (RouterG.cacheLoop (towerTOps T) ((RouterG.cachePrev _ limit S).toNat + 7) (RouterG.cachePrev _ limit S)
      0 0 S.matcher).2.2 = false := cache_terminates (towerTLaws T Good hPS) S limit

include hPS in
/-- No matcher of the tower returns more budget than it received (in particular the `u64`
subtractions `left - 1` of the trees never underflow: `Tree.treeCache` returns `some`). -/
theorem cache_budget_le_tree (m : (towerTOps T).M) (limit level : Nat) :
    ((towerTOps T).cache limit level m).2 ≤ limit := (towerTLaws T Good hPS).cache_le m limit level

def dropCacheOps (h : List Op) : List Op :=
  h.filter (fun op => match op with | .cache _ => false | _ => true)

theorem dropCacheOps_cons {op : Op} (hnc : ∀ l, op ≠ .cache l) (h : List Op) :
    dropCacheOps (op :: h) = op :: dropCacheOps h := by
  cases op with
  | cache l => exact absurd rfl (hnc l)
  | _ => rfl

theorem liveOps_dropCacheOps (h : List Op) : ∀ L : List Route, liveOps (dropCacheOps h) L = liveOps h L := by
  induction h with
  | nil => intro L; rfl
  | cons op h ih =>
    intro L
    cases op with
    | cache n => exact ih L
    | _ => exact ih _

theorem validHistory_dropCacheOps (h : List Op) :
    ∀ L : List Route, ValidHistory h L → ValidHistory (dropCacheOps h) L := by
  induction h with
  | nil => intro L _; trivial
  | cons op h ih =>
    intro L hv
    cases op with
    | cache n => exact ih _ hv.2
    | _ => exact ⟨hv.1, ih _ hv.2⟩

include hPS in
theorem repr_run_dropCacheOps (h : List Op) (hv : ValidHistory h [])
    (hg : ∀ op ∈ h, ∀ r ∈ Rio.C02.opRoutes op, TreeGood T Good r) :
    RReprT T Good hPS (runOpsG (towerTOps T) h (RouterG.empty _)) (liveOps h []) ∧
    RReprT T Good hPS (runOpsG (towerTOps T) (dropCacheOps h) (RouterG.empty _)) (liveOps h []) := by
  have h0 := g_empty (towerTLaws T Good hPS)
  have hr2 := Rio.C02.repr_run_tree T Good hPS (dropCacheOps h) (RouterG.empty _) [] h0
    (validHistory_dropCacheOps h [] hv) (fun op hop => hg op (List.mem_filter.mp hop).1)
  rw [liveOps_dropCacheOps] at hr2
  exact ⟨Rio.C02.repr_run_tree T Good hPS h (RouterG.empty _) [] h0 hv hg, hr2⟩

include hPS in
/-- **Caching is transparent along every history**: a valid history (inserted rules in the domain
of C08) and the same history without its `cache` calls lead to routers that answer every request
alike and have the same size. -/
theorem cache_transparent_router_tree (h : List Op) (hv : ValidHistory h [])
    (hg : ∀ op ∈ h, ∀ r ∈ Rio.C02.opRoutes op, TreeGood T Good r) (q : Req) :
    (RouterG.matchReq (towerTOps T) (runOpsG (towerTOps T) h (RouterG.empty _)) q).Perm
        (RouterG.matchReq (towerTOps T) (runOpsG (towerTOps T) (dropCacheOps h) (RouterG.empty _)) q) ∧
      RouterG.len (towerTOps T) (runOpsG (towerTOps T) h (RouterG.empty _)) =
        RouterG.len (towerTOps T) (runOpsG (towerTOps T) (dropCacheOps h) (RouterG.empty _)) := by
  obtain ⟨hr1, hr2⟩ := repr_run_dropCacheOps T Good hPS h hv hg
  exact ⟨g_match_perm _ _ _ _ _ hr1 hr2 (fun _ => Iff.rfl) q,
    by rw [g_len _ _ _ hr1, g_len _ _ _ hr2]⟩

end

/-! ### Non-vacuity: a concrete router over the real trees (engine `stdEngine`), cached with budget 5 -/

def exT : TEnv := tenvOf ⟨true, false, true, false⟩

def exR : Route :=
  { id := "r", priority := 0, scheme := none,
    host := some (.dyn [.plus .lower, .lit '.', .lit 'C', .lit 'o', .lit 'm']), ips := none,
    methods := none, excludeMethods := none, headers := [], datetime := none,
    time := none, weekdays := none, path := .dyn [.lit '/', .lit 'A', .lit '/', .plus .digit] }

def exQ : Req :=
  { scheme := none, host := some "abc.com", method := none, headers := [], ip := none,
    createdAt := none, path := "/a/12" }

set_option maxRecDepth 100000 in
example :
    (RouterG.matchReq (towerTOps exT)
      (RouterG.cache (towerTOps exT) (some 5) (RouterG.build (towerTOps exT) [exR])) exQ).map (·.id) = ["r"] ∧
    (RouterG.matchReq (towerTOps exT) (RouterG.build (towerTOps exT) [exR]) exQ).map (·.id) = ["r"] := by
  decide +kernel

end Rio.C12
