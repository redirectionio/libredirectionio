/-
C17 (tree part) — the trace of the regex radix tree agrees with matching.

`regex_radix_tree/trace.rs` (`Item::trace`, `Node::trace`, `Leaf::trace`) is modelled in Model/Tree.lean
(`Item.trace`, `Trace`); the router turns a tree trace into its own trace with `tree_trace_to_trace`
(`router/request_matcher/{path_and_query,host}.rs`): the routes of a node are `values` when `matched`
(else none), children exist only below matched nodes – `Trace.found` is that extraction.

All theorems hold for every engine and every tree (no invariant, no domain hypothesis): the trace and
`find` make the same `is_match` calls on the same regexes.  The `…_scan` corollaries add C08's
hypotheses to relate the trace to the linear scan.
-/
import RioModel.Proofs.TreeCache
import RioModel.Props.C08

namespace Rio.C17
open Rio.Regex Rio.Tree

variable {ι V : Type} [DecidableEq ι]

/-- The values listed under the matched leaves of `trace t s` are exactly the values
`find t s` returns, in the same order. -/
theorem trace_values_eq_find (E : Engine) (t : Item ι V) (s : List Char) :
    (t.trace E s).found = t.find E s := trace_found_eq_find E t s

/-- `count` of a trace node is `len()` of the sub-tree it traces (whether or not it matched). -/
theorem tree_trace_count (E : Engine) (t : Item ι V) (s : List Char) : (t.trace E s).count = t.len :=
  trace_count E t s

/-- `regex` of a trace node is the `regex()` of the item (node prefix / leaf pattern / "" for `Empty`). -/
theorem tree_trace_regex (E : Engine) (t : Item ι V) (s : List Char) : (t.trace E s).regex = t.regex :=
  trace_regex E t s

/-- A leaf's trace: its `matched` flag is `is_match` of its regex, it has no children and lists *all* its values
(also when it did not match – the router drops them then). -/
theorem tree_trace_leaf (E : Engine) (rx : LazyRegex) (vs : List (ι × V)) (s : List Char) :
    ((Item.leaf rx vs).trace E s).matched = rx.isMatch E s ∧
    ((Item.leaf rx vs).trace E s).children = [] ∧
    ((Item.leaf rx vs).trace E s).values = vs.map (·.2) := by
  rw [trace_leaf]; exact ⟨rfl, rfl, rfl⟩

/-- A node's trace: `matched` is `is_match` of the prefix regex; the children are the traces of all its children,
in order, iff it matched (none otherwise); it lists no values itself. -/
theorem tree_trace_node (E : Engine) (rx : LazyRegex) (cs : List (Item ι V)) (s : List Char) :
    ((Item.node rx cs).trace E s).matched = rx.isMatch E s ∧
    ((Item.node rx cs).trace E s).children =
      (if rx.isMatch E s then cs.map fun c => c.trace E s else []) ∧
    ((Item.node rx cs).trace E s).values = [] := by
  rw [trace_node]; exact ⟨rfl, rfl, rfl⟩

/-- The trace of the empty tree: matched, count 0, nothing below. -/
theorem tree_trace_empty (E : Engine) (ic : Bool) (s : List Char) :
    ((Item.empty ic : Item ι V).trace E s) = .mk [] 0 true [] [] := trace_empty E ic s

/-- With C08's hypotheses the matched values of the trace are the linear scan of the stored entries. -/
theorem trace_values_eq_scan {E : Engine} {Good : List Char → Prop} (hPS : PrefixSound E Good) {ic : Bool}
    (t : Item ι V) (hinv : C08.Inv ic t) (hdom : C08.InDomain Good t) (s : List Char) :
    (t.trace E s).found = C08.scanOf E ic t.contents s := by
  rw [trace_values_eq_find]; exact C08.find_spec hPS t hinv hdom s

/-- … and the root count is the number of stored entries. -/
theorem tree_trace_count_contents (E : Engine) (t : Item ι V) (s : List Char) :
    (t.trace E s).count = t.contents.length := by
  rw [tree_trace_count, C08.len_spec]

set_option maxRecDepth 100000 in
example :
    let t : Item Nat Nat := (((Item.empty false).insert "/a(?:x)/b".toList 2 20).insert "/a(?:x)".toList 1 11).insert
      "/b".toList 3 30
    (t.trace stdEngine "/ax".toList).found = [11] ∧ (t.trace stdEngine "/ax".toList).count = 3 ∧
    (t.trace stdEngine "/ax".toList).children.length = 2 := by decide +kernel

end Rio.C17
