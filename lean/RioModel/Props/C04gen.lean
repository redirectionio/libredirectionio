/-
C04 / C15 (HTML body filters) — `enter` and `first` of the three visitors REGENERATED FROM THE SOURCE.

`Rio.Consts.genBodyAppendEnter / genBodyPrependEnter / genBodyReplaceEnter / genBody*First` are translated on every
run from src/filter/html_body_action/body_append.rs, body_prepend.rs, body_replace.rs (tools/consts.d/w4_translate_visitor.py,
section `w4_translate_visitor`).  Proofs/VisitorGen.lean relates the code's state (`element_tree`, `position`) to the
zipper of the visitor model (`Rep`) and shows that the translated functions compute what `Visitor.enter` /
`Visitor.first` compute and preserve the relation.  Here: that equality as property theorems (`gen_visitor_*`), and
two PINS OF THE GENERATED TEXT (`enter_descends_gen`, `enter_last_level_gen`: the generated definitions with the `if`
resolved — tripwires for a change of the generated text, no knowledge beyond `gen_visitor_enter_eq_model`).
The translation renders `v[i]` as `(v[i]?).getD []` and `opt.as_ref().unwrap()` as `opt.getD []`, i.e. it TOTALISES two
Rust panics; `gen_visitor_index_in_range` shows that under `Rep` the index is in range (the default is never used), and
the `unwrap` is guarded by `is_some() &&` / `is_none() ||` in the source; the two pins carry `pos < tree.length`.
`leave` and `new` of the three visitors: Props/C04gen2.lean.
-/
import RioModel.Proofs.VisitorGen

namespace Rio.C04
open Rio.Consts Rio.Filter Rio.VisitorGen

theorem gen_visitor_first_eq_model {tree : List Bytes} {pos : Nat} {v : Visitor} (h : Rep tree pos v) :
    genBodyAppendFirst tree = v.first ∧ genBodyPrependFirst tree = v.first ∧ genBodyReplaceFirst tree = v.first :=
  ⟨h.first, h.first, h.first⟩

/-- under `Rep` the translated `enter` of the three visitors is the model's: same result, related states, same `is_buffering` -/
theorem gen_visitor_enter_eq_model {tree : List Bytes} {pos : Nat} {v : Visitor} (h : Rep tree pos v) (data : Bytes) :
    (v.kind = .append →
      (genBodyAppendEnter tree pos v.sel v.content data).1 = (v.enter data).1 ∧
      Rep tree (genBodyAppendEnter tree pos v.sel v.content data).2 (v.enter data).2) ∧
    (v.kind = .prepend →
      (genBodyPrependEnter tree pos v.sel v.content v.isBuffering data).1 = (v.enter data).1 ∧
      Rep tree (genBodyPrependEnter tree pos v.sel v.content v.isBuffering data).2.1 (v.enter data).2 ∧
      (genBodyPrependEnter tree pos v.sel v.content v.isBuffering data).2.2 = (v.enter data).2.isBuffering) ∧
    (v.kind = .replace →
      (genBodyReplaceEnter tree pos v.sel v.content v.isBuffering data).1 = (v.enter data).1 ∧
      Rep tree (genBodyReplaceEnter tree pos v.sel v.content v.isBuffering data).2.1 (v.enter data).2 ∧
      (genBodyReplaceEnter tree pos v.sel v.content v.isBuffering data).2.2 = (v.enter data).2.isBuffering) :=
  ⟨fun hk => genAppendEnter_eq hk h data, fun hk => genPrependEnter_eq hk h data,
   fun hk => genReplaceEnter_eq hk h data⟩

/-- the state built by `new` (position 0 of a non-empty element tree) is represented, so the theorems apply from the
start and, by preservation, after every further `enter` (the code's `leave` preserves `Rep` too, below 2^31 elements:
`gen_visitor_leave_eq_model`, Props/C04gen2.lean) -/
theorem gen_visitor_initial (kind : VKind) (first : Bytes) (rest : List Bytes) (sel : Option Bytes) (content : Bytes) :
    Rep (first :: rest) 0 { kind := kind, cur := first, after := rest, sel := sel, content := content } :=
  rep_new kind first rest sel content

/-- the indices the translated `enter` / `first` evaluate: the `getD []` default of the translation is never used (the
Rust indexing does not panic there) -/
theorem gen_visitor_index_in_range {tree : List Bytes} {pos : Nat} {v : Visitor} (h : Rep tree pos v) :
    pos < tree.length ∧ tree[pos]? = some v.cur ∧ 0 < tree.length ∧
    (v.after ≠ [] → pos + 1 < tree.length) := by
  have hl := h.len
  exact ⟨by omega, h.get, by omega, h.more.mpr⟩

/-- PIN OF THE GENERATED TEXT (not a restated property).  **Descent** (`position + 1 < len`, hence `position` in range);
the result is (next_enter, next_leave, start buffering, data). -/
theorem enter_descends_gen (tree : List Bytes) (pos : Nat) (sel : Option Bytes) (content data : Bytes) (b : Bool)
    (h : pos + 1 < tree.length) :
    genBodyAppendEnter tree pos sel content data =
      ((some ((tree[pos + 1]?).getD []), some ((tree[pos]?).getD []), false, data), pos + 1) ∧
    genBodyPrependEnter tree pos sel content b data =
      ((some ((tree[pos + 1]?).getD []), some ((tree[pos]?).getD []), false, data), pos + 1, b) ∧
    genBodyReplaceEnter tree pos sel content b data =
      ((some ((tree[pos + 1]?).getD []), some ((tree[pos]?).getD []), false, data), pos + 1, b) :=
  ⟨genAppendEnter_descend h, genPrependEnter_descend h, genReplaceEnter_descend h⟩

set_option linter.unusedVariables false in
/-- PIN OF THE GENERATED TEXT (not a restated property).  **The last level** (`position + 1 ≥ len`, `position` in range —
outside it the Rust code panics). -/
theorem enter_last_level_gen (tree : List Bytes) (pos : Nat) (sel : Option Bytes) (content data : Bytes) (b : Bool)
    (hp : pos < tree.length) (h : ¬ pos + 1 < tree.length) :
    genBodyAppendEnter tree pos sel content data =
      ((none, some ((tree[pos]?).getD []), (sel.isSome && !(sel.getD []).isEmpty), data), pos) ∧
    genBodyPrependEnter tree pos sel content b data =
      (if sel.isNone || (sel.getD []).isEmpty then ((none, some ((tree[pos]?).getD []), b, data ++ content), pos, b)
       else ((none, some ((tree[pos]?).getD []), true, data), pos, true)) ∧
    genBodyReplaceEnter tree pos sel content b data = ((none, some ((tree[pos]?).getD []), true, data), pos, true) :=
  ⟨genAppendEnter_last h, genPrependEnter_last h, genReplaceEnter_last h⟩

example :
    genBodyAppendEnter [[104], [98]] 0 (some [112]) [120] [60] = ((some [98], some [104], false, [60]), 1) ∧
    genBodyAppendEnter [[104], [98]] 1 (some [112]) [120] [60] = ((none, some [98], true, [60]), 1) ∧
    genBodyPrependEnter [[104]] 0 none [120] false [60] = ((none, some [104], false, [60, 120]), 0, false) ∧
    genBodyReplaceEnter [[104]] 0 none [120] false [60] = ((none, some [104], true, [60]), 0, true) ∧
    genBodyReplaceFirst [[104], [98]] = [104] := by
  refine ⟨?_, ?_, ?_, ?_, ?_⟩ <;> rfl

end Rio.C04
