/-
C04, STRONG form (valid UTF-8 bodies, uncompressed chains): what each stage of the chain does to the WHOLE stream it
receives, stage by stage, with token-level certificates (`Edit` / `IsSpan` alone are too permissive).

  * a replace stage:  its output is the one-pass rendering `RScript` (Proofs/FilterStrong.lean) of the tokens of its input
    (the tokenizer run on the whole input of the stage) in which NON-OVERLAPPING ELEMENT SPANS of the target, the LAST
    element of the filter's path, are replaced by the value, every other token kept in place; nothing is inserted;
    arbitrary bytes cannot be deleted;
  * an insert stage (append_child / prepend_child): `Edit [value] []` of its input — insertions of whole copies of the
    value only (tight w.r.t. loss / duplication / reordering of input bytes) — and the number of copies is bounded by the
    number of tag tokens of the input that are named on the filter's path (`insert_count`, by `count_of_len` of
    Proofs/FilterCount.lean);
  * a text stage: exactly `input ++ value` / `value ++ input` / `value` (replace_text: the value exactly once);
  * the chain: relational composition in order (`PipeSpec`): stage k works on the OUTPUT of stage k-1, so a replace stage
    can swallow values inserted by EARLIER stages only as part of an element span of its own input.

`conservative_strong_final`: for the chain `FilterBodyAction::new` builds, every valid UTF-8 body, EVERY schedule of chunks
(by C03's full chunk invariance the schedule is irrelevant), on the tokenizer model, no hypothesis left.

For invalid UTF-8 bodies (the chain fails and passes through) the weak relation `Edit` is proved in Props/C04.lean and
Props/C04tok.lean (`conservative_final`), the strong form for chains that start with their html stage in Props/C04err.lean.
-/
import RioModel.Proofs.HtmlTokRestartLaws
import RioModel.Props.C03
import RioModel.Props.C04tok
import RioModel.Proofs.FilterScript

namespace Rio.C04
open Rio.Filter

/-- Without replace values `Edit` is tight: with no value at all it is equality; insert-only, the input is a subsequence of
the output (`Edit_ins_sublist`: nothing lost, duplicated or moved; `Edit_no_reorder` is an instance). -/
theorem Edit_nil_nil {a b : Bytes} (h : Edit [] [] a b) : a = b := by
  induction h with
  | refl => rfl
  | ins hv => simp at hv
  | rep hv => simp at hv

theorem Edit_ins_sublist {I : List Bytes} {a b : Bytes} (h : Edit I [] a b) : a.Sublist b := by
  induction h with
  | refl => exact List.Sublist.refl _
  | @ins p q v _ _ ih =>
    refine ih.trans ?_
    have : (p ++ q).Sublist (p ++ (v ++ q)) :=
      List.Sublist.append (List.Sublist.refl p) (List.sublist_append_right v q)
    rw [List.append_assoc]
    exact this
  | rep hv => simp at hv

/-- the relation has teeth: reordering is not an insert-only edit -/
theorem Edit_no_reorder : ¬ Edit [[9]] [] [1, 2] [2, 1] := by
  intro h
  have := Edit_ins_sublist h
  have := this.eq_of_length (by simp)
  simp at this

/-- what a stage makes of the whole stream `a` it receives (`b` = everything it emits, `end()` included) -/
def StageSpec (tk : Tokenize) : Stage Unit Unit → Bytes → Bytes → Prop
  | .text s, a, b => b = stageTotal s a
  | .html s, a, b =>
    match s.visitor.kind with
    | .replace => ∃ tgt o', (pathOf s.visitor).getLast? = some tgt ∧
        RScript tgt s.visitor.content (view tk [] a).all o' ∧ b = o' ++ (view tk [] a).rem
    | _ => Edit [s.visitor.content] [] a b ∧
        b.length ≤ a.length + s.visitor.content.length * ((view tk [] a).all.filter (onPath (pathOf s.visitor))).length
  | _, a, b => a = b

theorem stageSpec_insert {tk : Tokenize} {s : HtmlSt} (hk : s.visitor.kind ≠ .replace) (a b : Bytes) :
    StageSpec tk (.html s) a b ↔ Edit [s.visitor.content] [] a b ∧
      b.length ≤ a.length + s.visitor.content.length * ((view tk [] a).all.filter (onPath (pathOf s.visitor))).length := by
  rw [StageSpec]
  split
  · exact absurd ‹_› hk
  · rfl

/-- the chain: stage k works on the output of stage k-1; every intermediate stream is complete valid UTF-8 -/
def PipeSpec (tk : Tokenize) : List (Stage Unit Unit) → Bytes → Bytes → Prop
  | [], a, b => a = b
  | st :: rest, a, c => ∃ b, StageSpec tk st a b ∧ V b ∧ PipeSpec tk rest b c

/-- the same with the stages' own closed forms `stOne` (= `filter(whole stream)` then `end()`) -/
def PipeOne (tk : Tokenize) (ev : Bytes → Bytes → Bool) : List (Stage Unit Unit) → Bytes → Bytes → Prop
  | [], a, b => a = b
  | st :: rest, a, c => ∃ b, stOne tk ev st a = some b ∧ V b ∧ PipeOne tk ev rest b c

/-- a stage as `FilterBodyAction::new` builds it -/
def StageFresh : Stage Unit Unit → Prop
  | .html s => ∃ v : Visitor, s = HtmlSt.new v ∧ v.before = [] ∧ v.isBuffering = false
  | _ => True

theorem stageFresh_new {v : Visitor} (hb : v.before = []) (hnb : v.isBuffering = false) :
    StageFresh (.html (HtmlSt.new v)) :=
  ⟨v, rfl, hb, hnb⟩

theorem vis_of_insert {v : Visitor} (hk : v.kind ≠ .replace) : visIns v = [v.content] ∧ visRep v = [] := by
  unfold visIns visRep
  cases hkk : v.kind with
  | append => exact ⟨rfl, rfl⟩
  | prepend => exact ⟨rfl, rfl⟩
  | replace => exact absurd hkk hk

/-- `stOne` of a fresh html stage on a valid stream in closed form: the ledger of the token loop over all tokens of the stream,
then the unfinished tail.  Every theorem below about a fresh html stage starts by rewriting with it. -/
theorem stOne_new (tk : Tokenize) (ev : Bytes → Bytes → Bool) (v : Visitor) (a : Bytes) (ha : V a) :
    stOne tk ev (.html (HtmlSt.new v) : Stage Unit Unit) a =
      some (ledger ((view tk [] a).all.foldl (stepTok tk ev) (HtmlSt.new v, [])).1
          ((view tk [] a).all.foldl (stepTok tk ev) (HtmlSt.new v, [])).2 ++ (view tk [] a).rem) := by
  have hsp : utf8Split ((HtmlSt.new v).last ++ a) = some (a, []) := by
    simpa [HtmlSt.new] using utf8Split_of_V ha
  show htmlTotal tk ev (HtmlSt.new v) a = _
  rw [total_formula tk ev (HtmlSt.new v) a a [] hsp, List.append_nil]
  rfl

section
variable {tk : Tokenize} (hl : LosslessAll tk) (hv : TokValidAll tk) (hr : RestartLaw tk) (ev : Bytes → Bytes → Bool)
include hl hv hr

omit hl hv hr in
theorem fold_replace (v : Visitor) (hk : v.kind = .replace) (hb : v.before = []) (hnb : v.isBuffering = false)
    (T : List Tok) :
    ∃ tgt, (pathOf v).getLast? = some tgt ∧ RScript tgt v.content T
      (ledger (T.foldl (stepTok tk ev) (HtmlSt.new v, [])).1 (T.foldl (stepTok tk ev) (HtmlSt.new v, [])).2) := by
  have hne : pathOf v ≠ [] := List.append_ne_nil_of_right_ne_nil _ (List.cons_ne_nil _ _)
  have htgt := List.getLast?_eq_some_getLast hne
  exact ⟨_, htgt, fold_replace_strong tk ev v hk hb hnb htgt T⟩

omit hv hr in
/-- the insert case of `StageSpec` for the token loop: `a` = the tokens `T` followed by a tail the loop does not see, `b` = what
it leaves of them -/
theorem fold_insert (v : Visitor) (hb : v.before = []) (hk : v.kind ≠ .replace) (T : List Tok) (tail : Bytes) {a b : Bytes}
    (ha : rawsOf T ++ tail = a)
    (hout : ledger (T.foldl (stepTok tk ev) (HtmlSt.new v, [])).1 (T.foldl (stepTok tk ev) (HtmlSt.new v, [])).2 ++ tail = b) :
    Edit [v.content] [] a b ∧ b.length ≤ a.length + v.content.length * (T.filter (onPath (pathOf v))).length := by
  subst ha hout
  obtain ⟨_, _, _, e⟩ := fold_spec hl ev T (HtmlSt.new v) [] (fun hk' => absurd hk' hk) (fun hk' => absurd hk' hk)
  rw [show (HtmlSt.new v).visitor = v from rfl, (vis_of_insert hk).1, (vis_of_insert hk).2,
    show ledger (HtmlSt.new v) [] = [] from rfl, List.nil_append] at e
  refine ⟨Edit.appR tail e, ?_⟩
  have hlen := fold_len_new hl.plain ev v hb T
  have hmul := Nat.mul_le_mul_left v.content.length (insTok_count_le v (pathOf v) T)
  rw [List.length_append, List.length_append]
  omega

omit hv hr in
/-- The length bound with the finer count `insTok`: the tag tokens named on the path at which THIS visitor can insert (openers
for prepend_child without selector, closers otherwise); `insert_one_tight_final` (Props/C04ins.lean) needs it. -/
theorem stage_one_len2 (v : Visitor) (hb : v.before = []) (a b : Bytes) (ha : V a)
    (h : stOne tk ev (.html (HtmlSt.new v) : Stage Unit Unit) a = some b) :
    b.length ≤ a.length + v.content.length * ((view tk [] a).all.filter (insTok v (pathOf v))).length := by
  rw [stOne_new tk ev v a ha] at h
  injection h with h
  have hlen := fold_len_new hl.plain ev v hb (view tk [] a).all
  have hrem := congrArg List.length (view_all_rem tk hl.stream [] a)
  rw [← h]
  simp only [List.length_append] at hrem ⊢
  omega

omit hv hr in
/-- `stage_one_len2` with the coarser count `onPath` (`insTok_count_le`), the one `StageSpec` states: at most one copy per tag
token of the input named on the path -/
theorem stage_one_len (v : Visitor) (hb : v.before = []) (a b : Bytes) (ha : V a)
    (h : stOne tk ev (.html (HtmlSt.new v) : Stage Unit Unit) a = some b) :
    b.length ≤ a.length + v.content.length * ((view tk [] a).all.filter (onPath (pathOf v))).length :=
  Nat.le_trans (stage_one_len2 hl ev v hb a b ha h)
    (Nat.add_le_add_left (Nat.mul_le_mul_left _ (insTok_count_le v _ _)) _)

omit hv hr in
/-- What a fresh stage makes of a whole valid stream satisfies `StageSpec` — the step from `PipeOne` to `PipeSpec`
(`pipeOne_spec`).  Replace: `fold_replace`; insert: `fold_insert`; text: `stOne` is `stageTotal`. -/
theorem stage_one_spec (st : Stage Unit Unit) (hf : StageFresh st) (a b : Bytes) (ha : V a)
    (h : stOne tk ev st a = some b) : StageSpec tk st a b := by
  cases st with
  | text s =>
    simp only [stOne] at h
    injection h with h
    exact h.symm
  | html s =>
    obtain ⟨v, rfl, hb, hnb⟩ := hf
    have hout := h
    rw [stOne_new tk ev v a ha] at hout
    injection hout with hout
    by_cases hk : v.kind = .replace
    · simp only [StageSpec, HtmlSt.new, hk]
      obtain ⟨tgt, htgt, hr⟩ := fold_replace ev v hk hb hnb (view tk [] a).all
      exact ⟨tgt, _, htgt, hr, hout.symm⟩
    · exact (stageSpec_insert hk a b).mpr
        (fold_insert hl ev v hb hk (view tk [] a).all (view tk [] a).rem (view_all_rem tk hl.stream [] a) hout)
  | decode d => simp [stOne] at h
  | encode e => simp [stOne] at h

omit hr in
theorem pipeOne_of_total : ∀ (items : List (Stage Unit Unit)) (a out : Bytes), Down items →
    (∀ st ∈ items, Good tk ev noCodec st) → V a → pipeTotal tk ev items a = some out → PipeOne tk ev items a out
  | [], _, _, _, _, _, h => Option.some.inj h
  | st :: rest, a, out, hd, hg, ha, h => by
    obtain ⟨b, hb, hrest⟩ := Option.bind_eq_some_iff.mp h
    have hst := hg st (by simp)
    -- the stage's output on the whole stream is valid: it is what the stage emits when fed `a` in one call
    obtain ⟨st1, os, st2, nd, e1, e2, vb⟩ := stTotal_ok hl hv ev noCodec st [a] none (hd st (by simp)) (by simpa using ha)
    have hone := stFeed_total tk ev noCodec [a] st st1 st2 os none nd hst.1 (fun _ => hst) e1 e2
    rw [List.flatten_singleton, Option.getD_none, List.append_nil, hb] at hone
    have vb' : V b := by rw [Option.some.inj hone]; exact vb
    exact ⟨b, hb, vb', pipeOne_of_total rest b out (fun s h => hd s (by simp [h])) (fun s h => hg s (by simp [h])) vb' hrest⟩

/-- **Closed form of a chain on a valid stream** delivered as one chunk. -/
theorem run_pipe : ∀ (items : List (Stage Unit Unit)) (a : Bytes), Down items →
    (∀ st ∈ items, StageInit tk st) → V a →
    ∃ out, runG tk ev noCodec items [a] none = some out ∧ V out ∧ PipeOne tk ev items a out := by
  intro items a hd hi ha
  obtain ⟨out, r1, r2⟩ := runG_ok hl hv ev noCodec items [a] none hd (by simpa using ha)
  have hg := good_of_init tk ev noCodec hl.stream hr (allPlain_of_down hd) hi
  have ht := runG_total tk ev noCodec items [a] none out hg r1
  rw [List.flatten_singleton, Option.getD_none, List.append_nil] at ht
  exact ⟨out, r1, r2, pipeOne_of_total hl hv ev items a out hd hg ha ht⟩

omit hv hr in
/-- `stage_one_spec` stage by stage; `PipeOne` says that every intermediate stream is valid, which the next stage's
`stage_one_spec` asks of its input. -/
theorem pipeOne_spec : ∀ (items : List (Stage Unit Unit)) (a c : Bytes), (∀ st ∈ items, StageFresh st) → V a →
    PipeOne tk ev items a c → PipeSpec tk items a c
  | [], _, _, _, _, h => h
  | st :: rest, a, c, hf, ha, ⟨b, h1, h2, h3⟩ =>
    ⟨b, stage_one_spec hl ev st (hf st (by simp)) a b ha h1, h2,
      pipeOne_spec rest b c (fun s h => hf s (by simp [h])) h2 h3⟩

end

/-- every stage `Stage.new` builds is `StageFresh`: `HtmlBodyVisitor::new` stands at the first path element and does not
buffer (`visitor_new_shape`, Proofs/FilterNew.lean) -/
theorem stage_new_fresh (f : BodyFilter) (ct : Option String) (st : Stage Unit Unit) (h : Stage.new f ct = some st) :
    StageFresh st := by
  cases f with
  | html action path sel value =>
    obtain ⟨v, hv, rfl⟩ := stage_new_html h
    obtain ⟨k, p, ps, rfl, rfl⟩ := visitor_new_shape hv
    exact ⟨_, rfl, rfl, rfl⟩
  | text a c =>
    simp only [Stage.new] at h
    injection h with h; subst h
    trivial

/-- **Closed form of the chain** (abstract laws): every schedule of a valid body gives the composition, in order, of what
each stage makes of the whole stream it receives (`stOne` = `filter(whole stream)` followed by `end()`). -/
theorem run_closed_form {tk : Tokenize} (hl : LosslessAll tk) (hv : TokValidAll tk) (hr : RestartLaw tk)
    (hnil : (tk.stream [] []).1 = []) (ev : Bytes → Bytes → Bool) (lower : String → String)
    (fs : List BodyFilter) (headers : List (String × String))
    (henc : headerValue lower Rio.Consts.filterHeaderContentEncoding headers = none)
    (hval : ∀ f ∈ fs, V (filterValue f)) (cs : List Bytes) (hbody : Rio.C03.ValidBody cs.flatten) :
    PipeOne tk ev (Chain.new noCodec lower fs headers).items cs.flatten
      ((Chain.new noCodec lower fs headers).run tk ev noCodec cs) := by
  rw [Rio.C03.chunk_invariant hl hv hr hnil ev lower fs headers henc hval cs hbody]
  have hvb : V cs.flatten := Rio.C03.V_of_validBody hbody
  rw [new_plain noCodec lower fs headers henc]
  generalize headerValue lower Rio.Consts.filterHeaderContentType headers = ct
  have hmem : ∀ st ∈ (fs.filterMap fun f => (Stage.new f ct : Option (Stage Unit Unit))),
      ∃ f ∈ fs, Stage.new f ct = some st := fun st hst => List.mem_filterMap.mp hst
  obtain ⟨out, r1, _, r3⟩ := run_pipe hl hv hr ev _ cs.flatten
    (fun st hst => by obtain ⟨f, hf, hn⟩ := hmem st hst; exact stage_new_down f ct st (hval f hf) hn)
    (fun st hst => by obtain ⟨f, hf, hn⟩ := hmem st hst; exact Rio.C03.stage_new_init tk hnil f ct st hn) hvb
  rw [run_of_runG tk ev noCodec [cs.flatten] _ out r1]
  exact r3

/-- **C04, strong form** (abstract tokenizer laws).  For the chain `FilterBodyAction::new` builds from any html and text
filters with valid UTF-8 values (no `Content-Encoding`), every valid UTF-8 body and EVERY schedule of chunks: the
concatenated output is related to the body by the composition, in order, of the stage specifications `StageSpec`. -/
theorem conservative_strong {tk : Tokenize} (hl : LosslessAll tk) (hv : TokValidAll tk) (hr : RestartLaw tk)
    (hnil : (tk.stream [] []).1 = []) (ev : Bytes → Bytes → Bool) (lower : String → String)
    (fs : List BodyFilter) (headers : List (String × String))
    (henc : headerValue lower Rio.Consts.filterHeaderContentEncoding headers = none)
    (hval : ∀ f ∈ fs, V (filterValue f)) (cs : List Bytes) (hbody : Rio.C03.ValidBody cs.flatten) :
    PipeSpec tk (Chain.new noCodec lower fs headers).items cs.flatten
      ((Chain.new noCodec lower fs headers).run tk ev noCodec cs) := by
  refine pipeOne_spec hl ev _ _ _ (fun st hst => ?_) (Rio.C03.V_of_validBody hbody)
    (run_closed_form hl hv hr hnil ev lower fs headers henc hval cs hbody)
  rw [new_plain noCodec lower fs headers henc] at hst
  obtain ⟨f, _, hn⟩ := List.mem_filterMap.mp hst
  exact stage_new_fresh f _ st hn

/-- **C04, strong form, on the tokenizer model — no hypothesis left** besides "body and values are valid UTF-8". -/
theorem conservative_strong_final (ev : Bytes → Bytes → Bool) (lower : String → String)
    (fs : List BodyFilter) (headers : List (String × String))
    (henc : headerValue lower Rio.Consts.filterHeaderContentEncoding headers = none)
    (hval : ∀ f ∈ fs, V (filterValue f)) (cs : List Bytes) (hbody : Rio.C03.ValidBody cs.flatten) :
    PipeSpec htmlTokenize (Chain.new noCodec lower fs headers).items cs.flatten
      ((Chain.new noCodec lower fs headers).run htmlTokenize ev noCodec cs) :=
  conservative_strong htmlTokenize_losslessAll tokenizer_tokValid htmlTokenize_restartLaw htmlStream_nil_nil
    ev lower fs headers henc hval cs hbody

/-- the length bound of `StageSpec` as a number of copies: with `N` the tag tokens of the input named on the filter's path,
at most one copy per such token -/
theorem insert_count {c a b : Bytes} {N : Nat} (hc : c ≠ []) (h : Edit [c] [] a b)
    (hlen : b.length ≤ a.length + c.length * N) : ∃ k, k ≤ N ∧ InsN c k a b :=
  count_of_len hc h hlen

/-- the chain `FilterBodyAction::new` builds from ONE html filter is its fresh stage (`chain_new_one_html`,
Proofs/FilterNew.lean, read at `items`) -/
theorem chain_of_one_html (lower : String → String) (headers : List (String × String)) (action : String)
    (p : Bytes) (ps : List Bytes) (sel : Option Bytes) (value : Bytes) (k : VKind)
    (henc : headerValue lower Rio.Consts.filterHeaderContentEncoding headers = none)
    (hct : htmlAllowed (headerValue lower Rio.Consts.filterHeaderContentType headers) = true)
    (hk : Visitor.new action (p :: ps) sel value = some { kind := k, cur := p, after := ps, sel := sel, content := value }) :
    (Chain.new noCodec lower [.html action (p :: ps) sel value] headers).items =
      [(.html (HtmlSt.new { kind := k, cur := p, after := ps, sel := sel, content := value }) : Stage Unit Unit)] :=
  congrArg Chain.items (chain_new_one_html lower headers action p ps sel value k henc hct hk)

/-- the chain of ONE html filter on a valid body, every schedule, tokenizer model: its output is what the filter's fresh stage
makes of the whole body -/
theorem run_one_html (ev : Bytes → Bytes → Bool) (lower : String → String) (headers : List (String × String))
    (action : String) (p : Bytes) (ps : List Bytes) (sel : Option Bytes) (value : Bytes) (kd : VKind)
    (henc : headerValue lower Rio.Consts.filterHeaderContentEncoding headers = none)
    (hct : htmlAllowed (headerValue lower Rio.Consts.filterHeaderContentType headers) = true)
    (hnew : Visitor.new action (p :: ps) sel value = some { kind := kd, cur := p, after := ps, sel := sel, content := value })
    (hval : V value) (cs : List Bytes) (hbody : Rio.C03.ValidBody cs.flatten) :
    stOne htmlTokenize ev (.html (HtmlSt.new { kind := kd, cur := p, after := ps, sel := sel, content := value }) :
        Stage Unit Unit) cs.flatten =
      some ((Chain.new noCodec lower [.html action (p :: ps) sel value] headers).run htmlTokenize ev noCodec cs) := by
  have hpipe := run_closed_form htmlTokenize_losslessAll tokenizer_tokValid htmlTokenize_restartLaw htmlStream_nil_nil ev
    lower [.html action (p :: ps) sel value] headers henc (List.forall_mem_singleton.mpr hval) cs hbody
  rw [chain_of_one_html lower headers action p ps sel value kd henc hct hnew] at hpipe
  obtain ⟨b, h1, _, h3⟩ := hpipe
  rw [h1, show b = _ from h3]

/-- **One `replace` filter, on the tokenizer model**, every valid UTF-8 body and every schedule of chunks: the replace
case of `StageSpec` (head of the file), with `T ++ rem` the tokenization of the body (`T` = its tokens, `rem` = an
unfinished tail).  No other byte of the body is removed, nothing is inserted. -/
theorem replace_one_final (ev : Bytes → Bytes → Bool) (lower : String → String) (headers : List (String × String))
    (p : Bytes) (ps : List Bytes) (sel : Option Bytes) (value : Bytes)
    (henc : headerValue lower Rio.Consts.filterHeaderContentEncoding headers = none)
    (hct : htmlAllowed (headerValue lower Rio.Consts.filterHeaderContentType headers) = true)
    (hval : V value) (cs : List Bytes) (hbody : Rio.C03.ValidBody cs.flatten) :
    ∃ tgt o', (p :: ps).getLast? = some tgt ∧
      RScript tgt value (view htmlTokenize [] cs.flatten).all o' ∧
      (Chain.new noCodec lower [.html Rio.Consts.filterActionReplace (p :: ps) sel value] headers).run htmlTokenize ev noCodec cs =
        o' ++ (view htmlTokenize [] cs.flatten).rem := by
  have h := run_one_html ev lower headers _ p ps sel value .replace henc hct (visitor_new_replace p ps sel value) hval cs hbody
  exact stage_one_spec htmlTokenize_losslessAll ev _ (stageFresh_new rfl rfl) _ _ (Rio.C03.V_of_validBody hbody) h

/-- **One `append_child` / `prepend_child` filter, on the tokenizer model.**  The output is the body with `k` whole copies
of the value inserted (`InsN`: nothing lost, duplicated or reordered), and `k` is at most the number of tag tokens of the
body whose name is on the filter's path. -/
theorem insert_one_final (ev : Bytes → Bytes → Bool) (lower : String → String) (headers : List (String × String))
    (action : String) (hact : action = Rio.Consts.filterActionAppend ∨ action = Rio.Consts.filterActionPrepend)
    (p : Bytes) (ps : List Bytes) (sel : Option Bytes) (value : Bytes) (hne : value ≠ [])
    (henc : headerValue lower Rio.Consts.filterHeaderContentEncoding headers = none)
    (hct : htmlAllowed (headerValue lower Rio.Consts.filterHeaderContentType headers) = true)
    (hval : V value) (cs : List Bytes) (hbody : Rio.C03.ValidBody cs.flatten) :
    ∃ k, k ≤ ((view htmlTokenize [] cs.flatten).all.filter (onPath (p :: ps))).length ∧
      InsN value k cs.flatten
        ((Chain.new noCodec lower [.html action (p :: ps) sel value] headers).run htmlTokenize ev noCodec cs) := by
  obtain ⟨kd, hkd, -, hnew⟩ := visitor_new_insert hact p ps sel value
  have h := run_one_html ev lower headers action p ps sel value kd henc hct hnew hval cs hbody
  have hs := stage_one_spec htmlTokenize_losslessAll ev _ (stageFresh_new rfl rfl) _ _ (Rio.C03.V_of_validBody hbody) h
  obtain ⟨e, l⟩ := (stageSpec_insert hkd _ _).mp hs
  exact insert_count hne e l

/-- non-vacuity: `<div><p>a</p>x<br><p>b</p></div>` with `replace` on path `div, p` and value `<i>R</i>`: both `p` elements
are element spans and are replaced, every other token is kept (kernel-evaluated on the tokenizer model) -/
theorem replace_example :
    (Chain.new noCodec id [.html "replace" [[100, 105, 118], [112]] none [60, 105, 62, 82, 60, 47, 105, 62]] []).run
        htmlTokenize evalStandIn noCodec
        [[60, 100, 105, 118, 62, 60, 112, 62, 97, 60, 47, 112, 62, 120, 60, 98, 114, 62] ++
          [60, 112, 62, 98, 60, 47, 112, 62, 60, 47, 100, 105, 118, 62]] =
      [60, 100, 105, 118, 62] ++ [60, 105, 62, 82, 60, 47, 105, 62] ++ [120, 60, 98, 114, 62] ++
        [60, 105, 62, 82, 60, 47, 105, 62] ++ [60, 47, 100, 105, 118, 62] := by
  decide +kernel

/-! ### clause "out == b when no element path of F starts in b" (the property's quantifier text) -/

/-- a fresh html stage whose first path element names no start / self-closing tag of the stream is the identity -/
theorem stOne_untargeted {tk : Tokenize} (hl : LosslessS tk) (ev : Bytes → Bytes → Bool) (v : Visitor) (a : Bytes) (ha : V a)
    (hno : ∀ t ∈ (view tk [] a).all, (t.kind = .startTag ∨ t.kind = .selfClosing) → t.name ≠ v.first) :
    stOne tk ev (.html (HtmlSt.new v) : Stage Unit Unit) a = some a := by
  rw [stOne_new tk ev v a ha, fold_untargeted tk ev (view tk [] a).all (HtmlSt.new v) [] rfl rfl
    (fun t ht hk => by
      intro e
      simp only [HtmlSt.new] at e
      injection e with e
      exact hno t ht hk e.symm)]
  have := view_all_rem tk hl [] a
  simp only [ledger, HtmlSt.new, flat_nil, List.nil_append, List.append_nil]
  rw [this]

/-- **Identity when nothing is targeted.**  A list of html filters none of whose paths starts at an element of the body
(no start / self-closing tag of the body's token stream carries the first name of a path): for every valid UTF-8 body and
every schedule the output is the body, byte for byte. -/
theorem untargeted_identity {tk : Tokenize} (hl : LosslessAll tk) (hv : TokValidAll tk) (hr : RestartLaw tk)
    (hnil : (tk.stream [] []).1 = []) (ev : Bytes → Bytes → Bool) (lower : String → String)
    (fs : List BodyFilter) (headers : List (String × String))
    (henc : headerValue lower Rio.Consts.filterHeaderContentEncoding headers = none)
    (hval : ∀ f ∈ fs, V (filterValue f)) (cs : List Bytes) (hbody : Rio.C03.ValidBody cs.flatten)
    (hno : ∀ action p ps sel value, BodyFilter.html action (p :: ps) sel value ∈ fs →
      ∀ t ∈ (view tk [] cs.flatten).all, (t.kind = .startTag ∨ t.kind = .selfClosing) → t.name ≠ p)
    (hhtml : ∀ f ∈ fs, ∃ a p s v, f = .html a p s v) :
    (Chain.new noCodec lower fs headers).run tk ev noCodec cs = cs.flatten := by
  have hpipe := run_closed_form hl hv hr hnil ev lower fs headers henc hval cs hbody
  have hvb : V cs.flatten := Rio.C03.V_of_validBody hbody
  rw [new_plain noCodec lower fs headers henc] at hpipe ⊢
  generalize headerValue lower Rio.Consts.filterHeaderContentType headers = ct at hpipe ⊢
  generalize (Chain.run tk ev noCodec
    ({ items := fs.filterMap fun f => (Stage.new f ct : Option (Stage Unit Unit)) } : Chain Unit Unit) cs) = out at hpipe ⊢
  have hid : ∀ st ∈ (fs.filterMap fun f => (Stage.new f ct : Option (Stage Unit Unit))),
      stOne tk ev st cs.flatten = some cs.flatten := by
    intro st hst
    obtain ⟨f, hf, hn⟩ := List.mem_filterMap.mp hst
    obtain ⟨action, path, sel, value, rfl⟩ := hhtml f hf
    obtain ⟨v, hvn, rfl⟩ := stage_new_html hn
    obtain ⟨k, p, ps, rfl, rfl⟩ := visitor_new_shape hvn
    exact stOne_untargeted hl.stream ev _ cs.flatten hvb (hno action p ps sel value hf)
  have key : ∀ (items : List (Stage Unit Unit)) (c : Bytes), (∀ st ∈ items, stOne tk ev st cs.flatten = some cs.flatten) →
      PipeOne tk ev items cs.flatten c → c = cs.flatten := by
    intro items
    induction items with
    | nil => intro c _ h; exact h.symm
    | cons st rest ih =>
      intro c hall ⟨b, h1, _, h3⟩
      rw [hall st (by simp)] at h1
      injection h1 with h1
      subst h1
      exact ih c (fun s hs => hall s (by simp [hs])) h3
  exact key _ out hid hpipe

/-! ### clause "when no filter … cannot be built …, the body passes through": such an html filter builds no stage -/

/-- `HtmlBodyVisitor::new` returns `None` for an empty `element_tree` or an unknown action: no stage is built, the filter
contributes nothing (whatever its value) -/
theorem unbuildable_html_skipped (action : String) (path : List Bytes) (sel : Option Bytes) (value : Bytes)
    (ct : Option String)
    (h : path = [] ∨ (action ≠ Rio.Consts.filterActionAppend ∧ action ≠ Rio.Consts.filterActionPrepend ∧
      action ≠ Rio.Consts.filterActionReplace) ∨ htmlAllowed ct = false) :
    (Stage.new (.html action path sel value) ct : Option (Stage Unit Unit)) = none := by
  simp only [Stage.new]
  split
  · rename_i hct
    rcases h with rfl | ⟨h1, h2, h3⟩ | h
    · simp [Visitor.new]
    · cases path with
      | nil => simp [Visitor.new]
      | cons p ps => simp [Visitor.new, h1, h2, h3]
    · rw [h] at hct; cases hct
  · rfl

/-- the chain is built from the buildable filters alone, in order: a filter for which `Stage.new` is `none`
(`unbuildable_html_skipped`) can be struck from the list -/
theorem chain_of_buildable (lower : String → String) (fs : List BodyFilter) (headers : List (String × String))
    (henc : headerValue lower Rio.Consts.filterHeaderContentEncoding headers = none) :
    (Chain.new noCodec lower fs headers).items =
      (fs.filter fun f => ((Stage.new f (headerValue lower Rio.Consts.filterHeaderContentType headers) :
        Option (Stage Unit Unit))).isSome).filterMap
        fun f => Stage.new f (headerValue lower Rio.Consts.filterHeaderContentType headers) := by
  rw [new_plain noCodec lower fs headers henc]
  simp only
  induction fs with
  | nil => rfl
  | cons f fs ih =>
    simp only [List.filterMap_cons, List.filter_cons]
    cases hn : (Stage.new f (headerValue lower Rio.Consts.filterHeaderContentType headers) : Option (Stage Unit Unit)) with
    | none => simpa using ih
    | some st => simp [hn, ih]

/-- **`replace_text` emits its value exactly once**, whatever the body (arbitrary bytes) and the chunking. -/
theorem replace_text_exact (tk : Tokenize) (ev : Bytes → Bytes → Bool) (lower : String → String)
    (headers : List (String × String)) (c : Bytes)
    (henc : headerValue lower Rio.Consts.filterHeaderContentEncoding headers = none) (cs : List Bytes) :
    (Chain.new noCodec lower [.text .replace c] headers).run tk ev noCodec cs = c := by
  obtain ⟨h1, h2⟩ := Rio.C03.new_text_only lower [.text .replace c] headers henc
    (by intro f hf; simp at hf; subst hf; exact ⟨_, _, rfl⟩)
  rw [Rio.C03.text_closed_form tk ev noCodec _ h1 h2 cs, new_plain noCodec lower _ headers henc]
  simp [Stage.new, textTotal, stageTotal]

/-! ### compressed chains: the error path is NOT safe (known finding O6 `error-inside-compressed-chain`)

All conservativity theorems above are for uncompressed chains.  Inside a compressed chain an internal error after part
of the body has been re-encoded cannot become a pass-through: the output mixes re-encoded bytes with raw compressed
bytes.  Full statement as a definition, kernel-checked counterexample on the model (scripted decoder: first chunk decodes
to `<p>x</p>`, second chunk to the invalid byte 0xFF; identity encoder).  What IS proved for compressed chains is C14
(`Rio.C14.compressed_equiv_final`, no failure) and `passthrough_after_error` (the chunks after the failing one). -/

/-- **Full statement** (compressed chains): a chain that fails internally hands the client the stream it was given -/
def CompressedFailSafe {D E : Type} (tk : Tokenize) (ev : Bytes → Bytes → Bool) (codec : Codec D E) (ch : Chain D E) : Prop :=
  ∀ cs : List Bytes, (ch.feed tk ev codec cs).1.inError = true → ch.run tk ev codec cs = cs.flatten

def o6Dec : ScriptDec := { outs := [[60, 112, 62, 120, 60, 47, 112, 62], [255]], fin := some [] }

/-- decode, `append_child` of `$` into `p`, encode -/
def o6Chain : Chain ScriptDec Unit :=
  { items := [.decode o6Dec, .html (HtmlSt.new { kind := .append, cur := [112], content := [36] }), .encode ()] }

/-- the compressed chunks `[1,2,3]`, `[4,5,6]`: the output is the re-encoded `<p>x$</p>` followed by the RAW second
compressed chunk — neither the pass-through `[1,2,3,4,5,6]` nor a coherent encoded stream -/
theorem o6_outputs :
    o6Chain.run htmlTokenize evalStandIn (scriptCodec o6Dec) [[1, 2, 3], [4, 5, 6]] =
      [60, 112, 62, 120, 36, 60, 47, 112, 62] ++ [4, 5, 6] ∧
    (o6Chain.feed htmlTokenize evalStandIn (scriptCodec o6Dec) [[1, 2, 3], [4, 5, 6]]).1.inError = true := by
  decide +kernel

/-- **The full statement fails for compressed chains** (known finding O6, signature `error-inside-compressed-chain`). -/
theorem compressed_fail_safe_fails :
    ¬ CompressedFailSafe htmlTokenize evalStandIn (scriptCodec o6Dec) o6Chain := by
  intro h
  have h1 := h [[1, 2, 3], [4, 5, 6]] o6_outputs.2
  rw [o6_outputs.1] at h1
  exact absurd h1 (by decide)

end Rio.C04
