/-
C10 — which engine laws are PROVED, for which executable engine.

1. For the derivative engine (`Regex.engineOf G`: `tokTop` splitter + parser `G` of group bodies + Brzozowski-derivative
   matcher — it READS the pattern string), Proofs/MarkerRouterBridge.lean proves the matching law `full_iff` on every haystack
   (`Bridge.engineOf_full_iff`).  Here: the unanchored-search law follows for `searchOf full` ("some infix is fully
   matched"), so the two matching fields of `EngineLawsAt` hold for that engine on every token list with good groups
   and every haystack (`verified_engine_full`, `verified_engine_search`).  The captures law is not proved for it (the
   engine has no captures).
2. For the executable engine the DRIVER runs (`Marker.stdEngine`: regex parser + leftmost-first backtracking matcher
   with captures), all five laws are discharged BY EVALUATION at the haystack of a concrete request, and
   `rule_end_to_end` is instantiated with it (`rule_end_to_end_instance`): concrete rule `/p/@id/x`, marker `[0-9]+`,
   target / header filter / body filter, request `/p/42/x`.  So the hypotheses of `rule_end_to_end` are jointly
   satisfiable with an engine that reads its pattern.
-/
import RioModel.Proofs.MarkerRouterBridge
import RioModel.Props.C10
import RioModel.Model.MarkerStd

namespace Rio.C10
open Rio.Marker

/-- The derivative engine satisfies the matching law on every haystack. -/
theorem verified_engine_full (G : List Char → Option Regex.Re) (ic : Bool) (ts : List Tok)
    (hg : Bridge.TokGood ts) (s : Str) :
    (Regex.engineOf G).full ic (renderRegex ts) s = true ↔
      ∃ vs, Decomp (Bridge.markerLang G ic) (Bridge.litEq ic) ts s vs :=
  Bridge.engineOf_full_iff G ic ts hg s

/-- … and the unanchored search derived from it ("some infix is fully matched") satisfies the search law. -/
theorem verified_engine_search (G : List Char → Option Regex.Re) (ic : Bool) (ts : List Tok)
    (hg : Bridge.TokGood ts) (s : Str) :
    searchOf ((Regex.engineOf G).full ic) (renderRegex ts) s = true ↔
      ∃ a mid b vs, s = a ++ mid ++ b ∧ Decomp (Bridge.markerLang G ic) (Bridge.litEq ic) ts mid vs :=
  searchOf_iff _ _ _ ts (Bridge.engineOf_full_iff G ic ts hg) s

def re09 : Str := ['[','0','-','9',']','+']

/-- path `/p/@id/x`, marker `id = [0-9]+`, target `/t/@id`, one header filter `h=@id`, one body filter `b@id`. -/
def demoRule : Rule :=
  { path := ['/','p','/','@','i','d','/','x']
    host := none
    headers := []
    markers := [{ name := ['i','d'], regex := re09, transformers := [] }]
    variables := []
    target := some ['/','t','/','@','i','d']
    headerFilters := [['h','=','@','i','d']]
    bodyFilters := [['b','@','i','d']] }

def demoCfg : Config := ⟨false, false, false⟩
def demoReq : Request := Request.fromConfig asciiCase demoCfg ['/','p','/','4','2','/','x'] none none none []

def digitsL (_ : Str) (v : Str) : Prop := v ≠ [] ∧ ∀ c ∈ v, c.isDigit = true

theorem demo_tokens :
    pathTokens demoRule = [.lit '/', .lit 'p', .lit '/', .grp ['i','d'] re09, .lit '/', .lit 'x'] := by decide +kernel

theorem demo_decomp :
    Decomp digitsL (fun a b => a == b) (pathTokens demoRule) ['/','p','/','4','2','/','x'] [(['i','d'], ['4','2'])] := by
  rw [demo_tokens]
  refine .lit (by decide +kernel) (.lit (by decide +kernel) (.lit (by decide +kernel) ?_))
  have : (['4','2','/','x'] : Str) = ['4','2'] ++ ['/','x'] := rfl
  rw [this]
  refine .grp ⟨by decide +kernel, by decide +kernel⟩ (.lit (by decide +kernel) (.lit (by decide +kernel) .nil))

/-- All five laws hold for the driver's engine at the haystack of the request — by evaluation. -/
theorem demo_laws :
    EngineLawsAt digitsL (fun a b => a == b) (stdEngine.full false) stdEngine.search (stdEngine.caps false)
      (pathTokens demoRule) ['/','p','/','4','2','/','x'] := by
  have hcaps : stdEngine.caps false (renderCapture (pathTokens demoRule)) ['/','p','/','4','2','/','x']
      = some [(['i','d'], ['4','2'])] := by decide +kernel
  refine ⟨?_, ?_, ?_, ?_, ?_⟩
  · exact iff_of_true (by decide +kernel) ⟨_, demo_decomp⟩
  · exact iff_of_true (by decide +kernel) ⟨[], _, [], _, by simp, demo_decomp⟩
  · intro m hm
    obtain rfl := Option.some.inj (hcaps.symm.trans hm)
    exact ⟨_, demo_decomp, fun _ => rfl⟩
  · intro _; rw [hcaps]; rfl
  · intro m hm
    obtain rfl := Option.some.inj (hcaps.symm.trans hm)
    decide +kernel

/-- **Non-vacuity of `rule_end_to_end`**: every hypothesis holds for this rule, this request and the executable engine
the driver runs; the conclusion, evaluated: the rule matches, Location `/t/42`, header filter `h=42`, body `<>b42`. -/
theorem rule_end_to_end_instance :
    demoRule.matches stdEngine asciiCase demoCfg demoReq = true ∧
    demoRule.outcome asciiCase ['<','>'] (demoRule.capture stdEngine asciiCase demoCfg demoReq) demoReq =
      { location := [['/','t','/','4','2']], headers := [['h','=','4','2']], body := ['<','>','b','4','2'], html := [],
        target := some ['/','t','/','4','2'] } := by
  have hq : demoReq.path = ['/','p','/','4','2','/','x'] := by decide +kernel
  have hqm : demoReq.matching = ['/','p','/','4','2','/','x'] := by decide +kernel
  have hinst : instOf (pathTokens demoRule) (fun _ => ['4','2']) = ['/','p','/','4','2','/','x'] := by
    rw [demo_tokens]; decide +kernel
  have hacc : ∀ n re, Tok.grp n re ∈ pathTokens demoRule → digitsL re ((fun _ => (['4','2'] : Str)) n) := by
    intro n re _
    show digitsL re ['4','2']
    exact ⟨by decide +kernel, by decide +kernel⟩
  have h := rule_end_to_end stdEngine asciiCase demoCfg demoRule demoReq ['<','>']
    digitsL digitsL (fun a b => a == b) (fun a b => a == b) (by simp) (by simp) rfl
    ⟨pathTokens demoRule |> renderRegex, pathTokens demoRule |> renderCapture, false⟩ (by decide +kernel) (by decide +kernel) (by decide +kernel)
    (fun _ => ['4','2']) (fun _ => ['4','2'])
    (by rw [hqm]; exact demo_laws) (by rw [hq]; exact demo_laws)
    (by rw [hqm, hinst]) hacc (by rw [hq, hinst])
    (by
      apply delimitedOr_of_delimited
      rw [demo_tokens]
      simp only [Delimited]
      exact ⟨by decide +kernel, fun w hw x hx => slash_ne_digit (hw.2 x hx), trivial⟩)
    hacc [] (Or.inl ⟨rfl, rfl⟩)
  refine ⟨h.1, ?_⟩
  rw [h.2]
  decide +kernel

end Rio.C10
