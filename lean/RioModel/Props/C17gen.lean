/-
C17 (the trace lists what matching returns) — `trace` of the two CONDITION-GROUP layers (HeaderMatcher, DateTimeMatcher) with
the "mimic cache behaviour" memo, TRANSLATED FROM THE SOURCE.

`Rio.Consts.genHeaderTrace` / `genDateTimeTrace` (`Loop1` = the group loop, `Loop2` = the loop over one group's conditions) are
translated on every run from src/router/request_matcher/header.rs / datetime.rs (tools/consts.d/tr_w15_memo.py → section
`tr_w15_memo`).  Abstract: the next layer's `trace(request)` / `len()`, the condition evaluation, the memo (`BTreeMap::new / get /
insert`; any implementation simulating an association list), `Trace::new` (checked by shape to be the plain constructor) and the
two `TraceInfo` variants.  The equality with the router model's `DateTime.trace` / `Header.trace` needs `LensFit` (every bucket's
`len()` is below 2^64: the code computes `matcher.len() as u64`; without the bound it is FALSE of the unbounded model counts,
`…_unbounded_fails`).
With the `if executed` guard around the memo insertion of a `trace` dropped (seeded/c02-5, seeded/r8a-3) the generated text changes and
`dtTraceLoop2_eq` / `hdTraceLoop2_dt` (Proofs/RouterMemoGen.lean) fail.
-/
import RioModel.Props.C17
import RioModel.Proofs.RouterMemoGen

namespace Rio.C17
open Rio.Consts Rio.Router Rio.RouterMemoGen

/-- **translated = model** for `trace` of both layers, in layer states whose bucket lengths are `usize` values -/
theorem gen_memo_trace_eq_model {σd σh : Type} (I : MOps) (E : Env) (Md : MemoImpl σd DCond) (Mh : MemoImpl σh HCond)
    (sd : LState I (List DCond)) (sh : LState I (List HCond)) (q : Req) (hd : LensFit I sd) (hh : LensFit I sh) :
    genDateTimeTr I Md sd q = DateTime.trace I sd q ∧ genHeaderTr I E Mh sh q = Header.trace E I sh q :=
  ⟨genDateTimeTr_eq I Md sd q hd, genHeaderTr_eq I E Mh sh q hh⟩

/-- non-vacuity of `LensFit`: the empty layer -/
example (I : MOps) : LensFit I (lEmpty I : LState I (List DCond)) := by
  intro g hg; simp [lEmpty] at hg

/-- the statement without the bound -/
def TraceEqUnbounded : Prop :=
  ∀ (I : MOps) (s : LState I (List DCond)) (q : Req),
    genDateTimeTr I (MemoImpl.assoc DCond) s q = DateTime.trace I s q

/-- a next layer whose state is its own length -/
def lenOps : MOps where
  M := Nat
  empty := 0
  insert := fun _ n => n + 1
  remove := fun _ n => (n, none)
  batchRemove := fun _ n => n
  matchReq := fun _ _ => []
  trace := fun _ _ => []
  len := fun n => n
  cache := fun limit _ n => (n, limit)

/-- one empty group whose bucket has length 2^64 -/
def bigState : LState lenOps (List DCond) := ⟨(0 : Nat), [([], (2 ^ 64 : Nat))], 0⟩

def traceCounts : List Trace → List Nat
  | [] => []
  | .mk _ _ n _ _ :: ts => n :: traceCounts ts

/-- **Without the `usize` bound the equality is false** (of the MODEL's unbounded counts; no `usize` can hold the witness):
a bucket of 2^64 routes is traced with `count = 0` by the code's `as u64`, with `count = 2^64` by the model. -/
theorem gen_memo_trace_eq_model_unbounded_fails : ¬ TraceEqUnbounded := by
  intro h
  have := h lenOps bigState default
  have := congrArg traceCounts this
  simp [genDateTimeTr, genDateTimeTrace, genDateTimeTraceLoop1, genDateTimeTraceLoop2, DateTime.trace, traceGroups,
    traceGroup, traceCounts, lenOps, bigState, mkTraceM, genAsU64] at this

/-- the partial statement that holds (date-time layer, the model's own memo) -/
theorem gen_memo_trace_eq_model_partial (I : MOps) (s : LState I (List DCond)) (q : Req) (h : LensFit I s) :
    genDateTimeTr I (MemoImpl.assoc DCond) s q = DateTime.trace I s q :=
  genDateTimeTr_eq I _ s q h

/-- the translated loop over ONE group's conditions (`Loop2`) is `traceGroup`: same `matched`, the memo it leaves simulates
`traceGroup`'s — from every state (`matched`, `executed`, payload so far) -/
theorem gen_trace_group_eq_model {σ C μ τ ι ν χ : Type} [DecidableEq C] (M : MemoImpl σ C) (nextTrace : μ → List τ)
    (lenOf : μ → Nat) (ev : C → Bool) (condOf : C → χ) (nameOf : C → ν) (mv : χ → ν → Bool)
    (mk : Bool → Bool → Nat → List τ → ι → τ) (grpD : List (GenTraceInfoDateTimeCondition C) → ι)
    (grpH : List (GenTraceInfoHeaderCondition ν χ) → ι) (cs : List C) (s : σ) (l : List (C × Bool)) (m e : Bool)
    (isD : List (GenTraceInfoDateTimeCondition C)) (isH : List (GenTraceInfoHeaderCondition ν χ)) (h : M.R s l) :
    ((genDateTimeTraceLoop2 nextTrace lenOf M.new M.get M.insert ev mk grpD cs s m e isD).2.1 = (traceGroup ev cs m e l).1 ∧
      M.R (genDateTimeTraceLoop2 nextTrace lenOf M.new M.get M.insert ev mk grpD cs s m e isD).1 (traceGroup ev cs m e l).2) ∧
    ((genHeaderTraceLoop2 nextTrace lenOf M.new M.get M.insert condOf nameOf mv mk grpH cs s m e isH).2.1 =
        (traceGroup (fun c => mv (condOf c) (nameOf c)) cs m e l).1 ∧
      M.R (genHeaderTraceLoop2 nextTrace lenOf M.new M.get M.insert condOf nameOf mv mk grpH cs s m e isH).1
        (traceGroup (fun c => mv (condOf c) (nameOf c)) cs m e l).2) :=
  ⟨dtTraceLoop2_eq M nextTrace lenOf ev mk grpD cs s l m e isD h,
   hdTraceLoop2_eq M nextTrace lenOf condOf nameOf mv mk grpH cs s l m e isH h⟩

/-- **`trace_memo_exact` for the translated code** (both layers): from `matched = executed = true` and a memo state that
simulates a sound memo, the `matched` flag the translated loop ends with is the conjunction of the group's conditions, and
the memo it leaves again simulates a sound memo (this is what the `if executed` guard is for: without it a condition that
was evaluated but not "executed" would be memoised with `matched = false`). -/
theorem trace_memo_exact_gen {σ C μ τ ι ν χ : Type} [DecidableEq C] (M : MemoImpl σ C) (nextTrace : μ → List τ)
    (lenOf : μ → Nat) (ev : C → Bool) (condOf : C → χ) (nameOf : C → ν) (mv : χ → ν → Bool)
    (mk : Bool → Bool → Nat → List τ → ι → τ) (grpD : List (GenTraceInfoDateTimeCondition C) → ι)
    (grpH : List (GenTraceInfoHeaderCondition ν χ) → ι) (cs : List C) (s : σ) (l : List (C × Bool)) (h : M.R s l) :
    (MemoSound ev l →
      (genDateTimeTraceLoop2 nextTrace lenOf M.new M.get M.insert ev mk grpD cs s true true []).2.1 = cs.all ev ∧
      ∃ l', M.R (genDateTimeTraceLoop2 nextTrace lenOf M.new M.get M.insert ev mk grpD cs s true true []).1 l' ∧
        MemoSound ev l') ∧
    (MemoSound (fun c => mv (condOf c) (nameOf c)) l →
      (genHeaderTraceLoop2 nextTrace lenOf M.new M.get M.insert condOf nameOf mv mk grpH cs s true true []).2.1 =
        cs.all (fun c => mv (condOf c) (nameOf c)) ∧
      ∃ l', M.R (genHeaderTraceLoop2 nextTrace lenOf M.new M.get M.insert condOf nameOf mv mk grpH cs s true true []).1 l' ∧
        MemoSound (fun c => mv (condOf c) (nameOf c)) l') := by
  constructor
  · intro hs
    have e := dtTraceLoop2_eq M nextTrace lenOf ev mk grpD cs s l true true [] h
    have sp := trace_memo_exact ev cs l hs
    exact ⟨e.1.trans sp.1, _, e.2, sp.2⟩
  · intro hs
    have e := hdTraceLoop2_eq M nextTrace lenOf condOf nameOf mv mk grpH cs s l true true [] h
    have sp := trace_memo_exact (fun c => mv (condOf c) (nameOf c)) cs l hs
    exact ⟨e.1.trans sp.1, _, e.2, sp.2⟩

/-- **The per-condition payload of a traced group** (`TraceInfo::HeaderGroup / DateTimeGroup { conditions }`; not in the
hand-written model), both layers, from the state a group starts in and a memo simulating a sound one: one entry per
condition of the group, in order, carrying the condition (header: its name and value condition); `result` is
`Some(the condition's value)` while every earlier condition of the group held and `None` afterwards (`infoResults`) —
whether the value came from the memo or from an evaluation. -/
theorem trace_condition_results_gen {σ C μ τ ι ν χ : Type} [DecidableEq C] (M : MemoImpl σ C) (nextTrace : μ → List τ)
    (lenOf : μ → Nat) (ev : C → Bool) (condOf : C → χ) (nameOf : C → ν) (mv : χ → ν → Bool)
    (mk : Bool → Bool → Nat → List τ → ι → τ) (grpD : List (GenTraceInfoDateTimeCondition C) → ι)
    (grpH : List (GenTraceInfoHeaderCondition ν χ) → ι) (cs : List C) (s : σ) (l : List (C × Bool)) (h : M.R s l) :
    (MemoSound ev l →
      (genDateTimeTraceLoop2 nextTrace lenOf M.new M.get M.insert ev mk grpD cs s true true []).2.2.2.map (·.result) =
        infoResults ev cs true ∧
      (genDateTimeTraceLoop2 nextTrace lenOf M.new M.get M.insert ev mk grpD cs s true true []).2.2.2.map (·.condition) =
        cs) ∧
    (MemoSound (fun c => mv (condOf c) (nameOf c)) l →
      (genHeaderTraceLoop2 nextTrace lenOf M.new M.get M.insert condOf nameOf mv mk grpH cs s true true []).2.2.2.map
          (·.result) = infoResults (fun c => mv (condOf c) (nameOf c)) cs true ∧
      (genHeaderTraceLoop2 nextTrace lenOf M.new M.get M.insert condOf nameOf mv mk grpH cs s true true []).2.2.2.map
          (fun i => (i.name, i.condition)) = cs.map (fun c => (nameOf c, condOf c))) := by
  constructor
  · intro hs
    simpa using dtTraceLoop2_infos M nextTrace lenOf ev mk grpD cs s l true [] h hs
  · intro hs
    simpa using hdTraceLoop2_infos M nextTrace lenOf condOf nameOf mv mk grpH cs s l true [] h hs

/-- **`trace_routes` for the two layers, translated pair**: in every state of the layer that represents a rule list `L`
with distinct ids (`Repr` of the layer's law record: reached by any valid history, see C02) and whose bucket lengths are
`usize` values, the routes listed by `get_routes_from_traces` over the TRANSLATED `trace` are exactly the routes the
TRANSLATED `match_request` returns — for any next layer satisfying the layer laws. -/
theorem trace_routes_gen_layers {σd σh : Type} {I : MOps} (IL : MLaws I) (E : Env) (Md : MemoImpl σd DCond)
    (Mh : MemoImpl σh HCond) (q : Req) (r : Route) :
    (∀ (s : LState I (List DCond)) (L : List Route), (dateTimeLaws IL).Repr s L → UIds L → LensFit I s →
      (r ∈ routesOfList (genDateTimeTr I Md s q) ↔ r ∈ genDateTimeMatch I Md s q)) ∧
    (∀ (s : LState I (List HCond)) (L : List Route), (headerLaws IL E).Repr s L → UIds L → LensFit I s →
      (r ∈ routesOfList (genHeaderTr I E Mh s q) ↔ r ∈ genHeaderMatch I E Mh s q)) :=
  ⟨fun s L h hU hl => genDateTime_mem_routesOfList IL Md s L q r h hU hl,
   fun s L h hU hl => genHeader_mem_routesOfList IL E Mh s L q r h hU hl⟩

/-- non-vacuity: the empty layer represents the empty list -/
example {I : MOps} (IL : MLaws I) : (dateTimeLaws IL).Repr (dateTimeOps I).empty [] ∧ UIds ([] : List Route) :=
  ⟨(dateTimeLaws IL).repr_empty, by simp [UIds]⟩

/-- **`trace_lists_once` for the two layers**: every id is listed once by `get_routes_from_traces` over the translated
traces (unconditionally) -/
theorem trace_lists_once_gen_layers {σd σh : Type} (I : MOps) (E : Env) (Md : MemoImpl σd DCond) (Mh : MemoImpl σh HCond)
    (sd : LState I (List DCond)) (sh : LState I (List HCond)) (q : Req) :
    ((routesOfList (genDateTimeTr I Md sd q)).map (·.id)).Nodup ∧
    ((routesOfList (genHeaderTr I E Mh sh q)).map (·.id)).Nodup :=
  ⟨trace_lists_once _, trace_lists_once _⟩

/-! Evaluated example on the translated code (conditions are numbers, `even` the evaluation, bucket `m` has length `m` and
traces as `[m]`; a trace node is the tuple of the arguments of `Trace::new`).  Group `[3, 2]`: 3 fails, 2 is evaluated but
NOT executed (`result = None`) and NOT memoised; group `[2]`: 2 is evaluated again (`cached = false`) and matches. -/

example :
    genDateTimeTrace (τ := Nat ⊕ (Bool × Bool × Nat × List Nat × List (Option Bool × Nat × Bool)))
      (fun m : Nat => [Sum.inl m]) (fun m => m) (MemoImpl.inPlace Nat).new
      (MemoImpl.inPlace Nat).get (MemoImpl.inPlace Nat).insert (fun c => c % 2 == 0)
      (fun m e n ch info => Sum.inr (m, e, n, ch.filterMap (fun x => match x with | .inl a => some a | .inr _ => none), info))
      (fun is => is.map (fun i => (i.result, i.condition, i.cached))) 9 [([3, 2], 5), ([2], 6)] =
      [.inl 9, .inr (false, true, 5, [], [(some false, 3, false), (none, 2, false)]),
        .inr (true, true, 6, [6], [(some true, 2, false)])] := by
  rfl

end Rio.C17
