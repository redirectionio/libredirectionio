/-
C04, STRONG form THROUGH THE ERROR PATHS: arbitrary bytes, uncompressed chains whose first stage is an
html stage (the first stage that sees raw chunk bytes is the only one that can fail inside `filter()`: every html stage
emits a `String`).

After ANY number of successful calls of a fresh html stage on ARBITRARY bytes, what it has emitted followed by what it
still holds is the strong rendering of the VALIDATED prefix of the bytes received, then the unfinished tail and the
incomplete character verbatim (`PrefixSpec`; for `append_child` / `prepend_child` it says instead: the bytes received with
whole copies of the value inserted, and how many at most); the call that fails gives the held bytes back, and everything
after it passes through (`run_fail_at`).  So with ONE replace filter no non-markup byte is lost, duplicated or reordered
also when the chain fails (`replace_one_anybytes_final`; `insert_one_anybytes_final` for the other two); for longer chains
the bytes are accounted for stage by stage (`FlushSpec`), and a later `replace_text` stage swallows what it received (its
closed form), as the code does.
-/
import RioModel.Props.C04strong

namespace Rio.C04
open Rio.Filter

/-- what a fresh html stage with visitor `v` has emitted and still holds (`b`) after receiving the bytes `P` in calls that
all succeeded.  `replace`: the strong rendering (`RScript`) of the validated prefix `data`, then `rem` and `pending`
verbatim.  `append_child` / `prepend_child`: `P` with whole copies of the value inserted (`Edit [v.content] []`), at most
one per tag token of `data` named on the path. -/
def PrefixSpec (tk : Tokenize) (v : Visitor) (P b : Bytes) : Prop :=
  ∃ data pending, utf8Split P = some (data, pending) ∧
    match v.kind with
    | .replace => ∃ tgt o', (pathOf v).getLast? = some tgt ∧
        RScript tgt v.content (view tk [] data).all o' ∧ b = o' ++ (view tk [] data).rem ++ pending
    | _ => Edit [v.content] [] P b ∧
        b.length ≤ P.length + v.content.length * ((view tk [] data).all.filter (onPath (pathOf v))).length

section
variable {tk : Tokenize} (hl : LosslessAll tk) (hr : RestartLaw tk) (hnil : (tk.stream [] []).1 = [])
  (ev : Bytes → Bytes → Bool)
include hl hr hnil

/-- successful calls from a state without context and kept bytes, then `end()`, emit what one call on the concatenation
and `end()` would (`seqRun_total`).  `hnil`, no token in the empty buffer, serves the empty schedule alone (`htmlTotal_nil`);
every theorem of the file that takes it passes it down to here, and `htmlStream_nil_nil` discharges it for the model. -/
theorem prefix_total (s : HtmlSt) (hc : s.ctx = []) (hlast : s.last = []) (ps : List Bytes) (s' : HtmlSt) (o : Bytes)
    (h : seqRun tk ev s ps = some (s', o)) : htmlTotal tk ev s ps.flatten = some (o ++ endHtml s') := by
  cases ps with
  | nil =>
    simp only [seqRun] at h
    injection h with h
    injection h with h1 h2
    subst h1 h2
    simpa using htmlTotal_nil tk ev hl.stream s hlast (by rw [hc]; exact hnil)
  | cons p ps => exact seqRun_total tk ev hr (p :: ps) s s' o (by simp) (by rw [hc]; exact Or.inl rfl) h

/-- **Strong prefix theorem** (arbitrary bytes): see `PrefixSpec`. -/
theorem prefix_spec (v : Visitor) (hb : v.before = []) (hnb : v.isBuffering = false) (ps : List Bytes) (s' : HtmlSt)
    (o : Bytes) (h : seqRun tk ev (HtmlSt.new v) ps = some (s', o)) :
    PrefixSpec tk v ps.flatten (o ++ endHtml s') := by
  have htot := prefix_total hl hr hnil ev (HtmlSt.new v) rfl rfl ps s' o h
  cases hsp : utf8Split ((HtmlSt.new v).last ++ ps.flatten) with
  | none =>
    have := filterHtml_none_of tk ev (HtmlSt.new v) ps.flatten hsp
    simp [htmlTotal, this] at htot
  | some dp =>
    obtain ⟨data, pending⟩ := dp
    have hsp' : utf8Split ps.flatten = some (data, pending) := by simpa [HtmlSt.new] using hsp
    have hdp : data ++ pending = ps.flatten := (utf8Split_spec hsp').2
    rw [total_formula tk ev (HtmlSt.new v) ps.flatten data pending hsp] at htot
    injection htot with htot
    have hc : (HtmlSt.new v).ctx = [] := rfl
    rw [hc] at htot
    have hrem := view_all_rem tk hl.stream [] data
    refine ⟨data, pending, hsp', ?_⟩
    split
    · obtain ⟨tgt, htgt, hr⟩ := fold_replace ev v ‹_› hb hnb (view tk [] data).all
      exact ⟨tgt, _, htgt, hr, htot.symm⟩
    · exact fold_insert hl ev v hb ‹_› (view tk [] data).all ((view tk [] data).rem ++ pending)
        (by rw [← List.append_assoc, hrem, hdp]) (by rw [← List.append_assoc, htot])

theorem prefix_spec_list (v : Visitor) (hb : v.before = []) (hnb : v.isBuffering = false) (ps : List Bytes) (s' : HtmlSt)
    (os : List Bytes) (h : seqRunL tk ev (HtmlSt.new v) ps = some (s', os)) :
    PrefixSpec tk v ps.flatten (os.flatten ++ endHtml s') :=
  prefix_spec hl hr hnil ev v hb hnb ps s' os.flatten (by rw [seqRunL_flat, h]; rfl)

end

section
variable {D E : Type} (tk : Tokenize) (ev : Bytes → Bytes → Bool) (codec : Codec D E)

theorem feed_of_feedG : ∀ (cs : List Bytes) (items items1 : List (Stage D E)) (os : Bytes),
    feedG tk ev codec items cs = some (items1, os) →
    ∃ outs, ({ items := items } : Chain D E).feed tk ev codec cs = ({ items := items1 }, outs) ∧ outs.flatten = os :=
  Rio.Filter.feed_of_feedG tk ev codec

theorem feed_append (c : Chain D E) : ∀ (a b : List Bytes),
    c.feed tk ev codec (a ++ b) =
      (((c.feed tk ev codec a).1.feed tk ev codec b).1, (c.feed tk ev codec a).2 ++ ((c.feed tk ev codec a).1.feed tk ev codec b).2) := by
  intro a
  induction a generalizing c with
  | nil => intro b; simp [Chain.feed]
  | cons x xs ih =>
    intro b
    simp only [List.cons_append, Chain.feed]
    rw [ih]

/-- **The run of a chain whose call on `x` fails** after the calls on `pre` succeeded (the held bytes last stage first =
oldest bytes first). -/
theorem run_fail_at (items items_k : List (Stage D E)) (pre : List Bytes) (x : Bytes) (rest : List Bytes) (outs : Bytes)
    (hfeed : feedG tk ev codec items pre = some (items_k, outs))
    (hfail : (doFilter tk ev codec items_k x).2 = none) :
    ({ items := items } : Chain D E).run tk ev codec (pre ++ x :: rest) =
      outs ++ flushHtml (doFilter tk ev codec items_k x).1 ++ x ++ rest.flatten := by
  obtain ⟨os, f1, f2⟩ := feed_of_feedG tk ev codec pre items items_k outs hfeed
  cases hd : doFilter tk ev codec items_k x with
  | mk items' r =>
    rw [hd] at hfail
    simp only at hfail
    subst hfail
    have hfil := failing_call_output tk ev codec { items := items_k } x items' rfl hd
    have herr := feed_in_error tk ev codec ({ items := items', inError := true } : Chain D E) rfl rest
    simp only [Chain.run, Chain.runOuts, feed_append, f1, Chain.feed, hfil, herr, Chain.end, if_true]
    simp [f2, List.append_assoc]

theorem flushHtml_cons_html (s : HtmlSt) (rest : List (Stage D E)) :
    flushHtml (Stage.html s :: rest) = flushHtml rest ++ endHtml s :=
  Rio.Filter.flushHtml_cons (.html s) rest

/-- **A failure inside the first (html) stage**: the later stages only ever see what the first stage emitted; what it holds
and the remaining input go out verbatim. -/
theorem fail_in_first_html (h0 h_k : HtmlSt) (post post_k : List (Stage D E)) (pre : List Bytes) (x : Bytes)
    (rest : List Bytes) (os : List Bytes) (outs : Bytes)
    (hs : seqRunL tk ev h0 pre = some (h_k, os)) (hx : filterHtml tk ev h_k x = none)
    (hp : feedG tk ev codec post (nonEmpty os) = some (post_k, outs)) :
    ({ items := .html h0 :: post } : Chain D E).run tk ev codec (pre ++ x :: rest) =
      outs ++ flushHtml post_k ++ endHtml h_k ++ x ++ rest.flatten := by
  have hfeed : feedG tk ev codec (.html h0 :: post) pre = some (.html h_k :: post_k, outs) := by
    rw [feedG_cons, stFeed_html, hs]
    simp [hp]
  have hd : doFilter tk ev codec (.html h_k :: post_k) x = (.html h_k :: post_k, none) :=
    doFilter_cons_none tk ev codec post_k (Stage.filter_html_none tk ev codec hx)
  have := run_fail_at tk ev codec _ _ pre x rest outs hfeed (by rw [hd])
  rw [this, hd, flushHtml_cons_html]
  simp [List.append_assoc]

theorem first_failure (s : HtmlSt) : ∀ cs : List Bytes,
    (∃ s' os, seqRunL tk ev s cs = some (s', os)) ∨
    (∃ pre x rest s_k os, cs = pre ++ x :: rest ∧ seqRunL tk ev s pre = some (s_k, os) ∧ filterHtml tk ev s_k x = none) := by
  intro cs
  induction cs generalizing s with
  | nil => exact Or.inl ⟨s, [], rfl⟩
  | cons c cs ih =>
    cases hf : filterHtml tk ev s c with
    | none => exact Or.inr ⟨[], c, cs, s, [], rfl, rfl, hf⟩
    | some r =>
      obtain ⟨s1, o1⟩ := r
      rcases ih s1 with ⟨s', os, h⟩ | ⟨pre, x, rest, s_k, os, h1, h2, h3⟩
      · exact Or.inl ⟨s', o1 :: os, by simp [seqRunL, hf, h]⟩
      · exact Or.inr ⟨c :: pre, x, rest, s_k, o1 :: os, by simp [h1], by simp [seqRunL, hf, h2], h3⟩

end

/-- where the stage stops filtering: after all chunks when no call fails, otherwise at the FIRST chunk it rejects -/
def StopsAt (tk : Tokenize) (ev : Bytes → Bytes → Bool) (v : Visitor) (cs : List Bytes) (k : Nat) : Prop :=
  (k = cs.length ∧ ∃ s' os, seqRunL tk ev (HtmlSt.new v) cs = some (s', os)) ∨
  (∃ s_k os x, seqRunL tk ev (HtmlSt.new v) (cs.take k) = some (s_k, os) ∧ cs[k]? = some x ∧
    filterHtml tk ev s_k x = none)

section
variable {tk : Tokenize} (hl : LosslessAll tk) (hv : TokValidAll tk) (ev : Bytes → Bytes → Bool)
include hl hv

theorem seqRunL_V : ∀ (ps : List Bytes) (s s' : HtmlSt) (os : List Bytes), HV s → Ctx s.ctx →
    seqRunL tk ev s ps = some (s', os) → ∀ o ∈ os, V o
  | [], _, _, os, _, _, h => by
    simp only [seqRunL] at h
    injection h with h; injection h with _ h2; subst h2
    intro o ho; simp at ho
  | p :: ps, s, s', os, hh, hc, h => by
    simp only [seqRunL] at h
    cases hf : filterHtml tk ev s p with
    | none => simp [hf] at h
    | some r =>
      obtain ⟨s1, o1⟩ := r
      simp only [hf, Option.map_eq_some_iff] at h
      obtain ⟨⟨s2, os2⟩, h1, h2⟩ := h
      injection h2 with h2 h3
      subst h2 h3
      obtain ⟨a1, a2, a3⟩ := filterHtml_V hl hv ev s s1 p o1 hh hc hf
      intro o ho
      simp only [List.mem_cons] at ho
      rcases ho with rfl | ho
      · exact a3
      · exact seqRunL_V ps s1 _ os2 a1 a2 h1 o ho

theorem feedG_down : ∀ (ps : List Bytes) (items : List (Stage Unit Unit)), Down items → (∀ p ∈ ps, V p) →
    ∃ items' out, feedG tk ev noCodec items ps = some (items', out)
  | [], items, _, _ => ⟨items, [], rfl⟩
  | p :: ps, items, hd, hp => by
    obtain ⟨items1, o, d1, d2, _⟩ := doFilter_down hl hv ev noCodec items p hd (hp p (by simp))
    obtain ⟨items2, out, f⟩ := feedG_down ps items1 d2 (fun q hq => hp q (by simp [hq]))
    exact ⟨items2, o ++ out, by simp [feedG, d1, f]⟩

/-- **C04 through the error path, structural decomposition** (abstract laws): a chain `html (new v) :: post` (later stages
with valid values), ARBITRARY bytes, every schedule.  The later stages' contribution `outs`, `post_k` is only given
operationally here (the bytes the first stage EMITTED, fed to them) — see `error_path_strong_full` for its specification. -/
theorem error_path_strong (hr : RestartLaw tk) (hnil : (tk.stream [] []).1 = []) (v : Visitor) (hb : v.before = [])
    (hnb : v.isBuffering = false) (hcv : V v.content) (post : List (Stage Unit Unit)) (hd : Down post) (cs : List Bytes) :
    (∃ s' os, seqRunL tk ev (HtmlSt.new v) cs = some (s', os)) ∨
    (∃ pre x rest h_k os post_k outs, cs = pre ++ x :: rest ∧
      seqRunL tk ev (HtmlSt.new v) pre = some (h_k, os) ∧ filterHtml tk ev h_k x = none ∧
      feedG tk ev noCodec post (nonEmpty os) = some (post_k, outs) ∧
      ({ items := .html (HtmlSt.new v) :: post } : Chain Unit Unit).run tk ev noCodec cs =
        outs ++ flushHtml post_k ++ endHtml h_k ++ x ++ rest.flatten ∧
      PrefixSpec tk v pre.flatten (os.flatten ++ endHtml h_k)) := by
  rcases first_failure tk ev (HtmlSt.new v) cs with h | ⟨pre, x, rest, h_k, os, rfl, h2, h3⟩
  · exact Or.inl h
  · right
    have hHV : HV (HtmlSt.new v) := ⟨hcv, by intro l hl'; simp [HtmlSt.new] at hl'⟩
    have hV := seqRunL_V hl hv ev pre (HtmlSt.new v) h_k os hHV (Or.inl rfl) h2
    obtain ⟨post_k, outs, hp⟩ := feedG_down hl hv ev (nonEmpty os) post hd
      (fun p hp' => hV p (by unfold nonEmpty at hp'; exact (List.mem_filter.mp hp').1))
    refine ⟨pre, x, rest, h_k, os, post_k, outs, rfl, h2, h3, hp,
      fail_in_first_html tk ev noCodec (HtmlSt.new v) h_k post post_k pre x rest os outs h2 h3 hp, ?_⟩
    exact prefix_spec_list hl hr hnil ev v hb hnb pre h_k os h2

omit hv in
/-- **One html stage, ARBITRARY bytes, every schedule, failing or not**: the strong rendering `PrefixSpec` of the chunks
before the FIRST rejected one (`StopsAt`), then the other chunks verbatim. -/
theorem one_html_anybytes (hr : RestartLaw tk) (hnil : (tk.stream [] []).1 = []) (v : Visitor) (hb : v.before = [])
    (hnb : v.isBuffering = false) (cs : List Bytes) :
    ∃ k B, k ≤ cs.length ∧ StopsAt tk ev v cs k ∧ PrefixSpec tk v (cs.take k).flatten B ∧
      ({ items := [.html (HtmlSt.new v)] } : Chain Unit Unit).run tk ev noCodec cs = B ++ (cs.drop k).flatten := by
  rcases first_failure tk ev (HtmlSt.new v) cs with ⟨s', os, h⟩ | ⟨pre, x, rest, h_k, os, rfl, h2, h3⟩
  · have hs : seqRun tk ev (HtmlSt.new v) cs = some (s', os.flatten) := by rw [seqRunL_flat, h]; rfl
    refine ⟨cs.length, os.flatten ++ endHtml s', Nat.le_refl _, Or.inl ⟨rfl, s', os, h⟩, ?_, ?_⟩
    · rw [List.take_length]
      exact prefix_spec_list hl hr hnil ev v hb hnb cs s' os h
    · rw [run_single_html tk ev noCodec cs (HtmlSt.new v) s' os.flatten hs]
      simp
  · have hp : feedG tk ev noCodec ([] : List (Stage Unit Unit)) (nonEmpty os) = some ([], os.flatten) := by
      rw [feedG_nil, nonEmpty_flatten]
    have hrun := fail_in_first_html tk ev noCodec (HtmlSt.new v) h_k [] [] pre x rest os os.flatten h2 h3 hp
    refine ⟨pre.length, os.flatten ++ endHtml h_k, by simp,
      Or.inr ⟨h_k, os, x, by rw [List.take_left' rfl]; exact h2, by simp, h3⟩, ?_, ?_⟩
    · rw [List.take_left']
      · exact prefix_spec_list hl hr hnil ev v hb hnb pre h_k os h2
      · rfl
    · rw [hrun, List.drop_left']
      · simp [flushHtml, List.append_assoc]
      · rfl

end

/-! ### the later stages: what `outs ++ flushHtml post_k` is, in terms of what the first stage emitted

The later stages are never ended in a failing run: each has received the bytes `a` the stage before it EMITTED, has emitted
`e` itself and still holds `h`; `flushHtml` gives the held bytes back verbatim, last stage first, WITHOUT passing them through
the stages behind.  `MidSpec`: an html stage — `e ++ h` is the strong rendering `PrefixSpec` of `a`; a text stage — it holds
nothing and `e` is a PREFIX of its closed form `stageTotal` (the statement says no more; in `mid_spec` the rest is what the
stage would still emit at `end()`.  append_text: `e = a`, its value is never emitted; prepend_text: `value ++ a` once it has
been called; replace_text: its value, i.e. the bytes it received ARE swallowed — the code does exactly this,
`replace_text` is no conservative filter). -/

def heldOf : Stage Unit Unit → Bytes
  | .html s => endHtml s
  | _ => []

-- from here on the name shadows `Rio.Filter.flushHtml_cons`, which says the same with `Rio.Filter.held` (`heldOf` for
-- any `D`, `E`)
theorem flushHtml_cons (st : Stage Unit Unit) (rest : List (Stage Unit Unit)) :
    flushHtml (st :: rest) = flushHtml rest ++ heldOf st := by
  rw [Rio.Filter.flushHtml_cons]
  cases st <;> rfl

/-- one later stage in a failing run: received `a`, emitted `e`, holds `h` -/
def MidSpec (tk : Tokenize) : Stage Unit Unit → Bytes → Bytes → Bytes → Prop
  | .html s, a, e, h => ∃ v : Visitor, s = HtmlSt.new v ∧ v.before = [] ∧ v.isBuffering = false ∧ PrefixSpec tk v a (e ++ h)
  | .text s, a, e, h => h = [] ∧ ∃ t, stageTotal s a = e ++ t
  | _, _, _, _ => False

/-- the later stages in order: stage j receives what stage j-1 emitted; the held bytes bypass the stages behind -/
def FlushSpec (tk : Tokenize) : List (Stage Unit Unit) → Bytes → Bytes → Prop
  | [], a, out => out = a
  | st :: rest, a, out => ∃ e h out', MidSpec tk st a e h ∧ FlushSpec tk rest e out' ∧ out = out' ++ h

section
variable {tk : Tokenize} (hl : LosslessAll tk) (hr : RestartLaw tk) (hnil : (tk.stream [] []).1 = [])
  (ev : Bytes → Bytes → Bool)
include hl hr hnil

theorem mid_spec (st st1 : Stage Unit Unit) (hfresh : StageFresh st) (hplain : isPlain st = true) (ps os1 : List Bytes)
    (hfe : stFeed tk ev noCodec st ps = some (st1, os1)) : MidSpec tk st ps.flatten os1.flatten (heldOf st1) := by
  cases st with
  | html s =>
    obtain ⟨v, rfl, hb, hnb⟩ := hfresh
    rw [stFeed_html] at hfe
    cases hsl : seqRunL tk ev (HtmlSt.new v) ps with
    | none => simp [hsl] at hfe
    | some r2 =>
      obtain ⟨s1, os2⟩ := r2
      simp only [hsl, Option.map_some] at hfe
      injection hfe with hfe
      injection hfe with e1 e2
      subst e1 e2
      exact ⟨v, rfl, hb, hnb, prefix_spec_list hl hr hnil ev v hb hnb ps s1 os2 hsl⟩
  | text s =>
    obtain ⟨s1', os', g1, g2⟩ := stFeed_text tk ev noCodec ps s
    rw [g1] at hfe
    injection hfe with hfe
    injection hfe with e1 e2
    subst e1 e2
    refine ⟨rfl, stageTotal s1' [], ?_⟩
    simpa using g2 []
  | decode d => simp [isPlain] at hplain
  | encode e => simp [isPlain] at hplain

/-- **What fresh later stages have emitted and hold after being fed the pieces `ps`** (no `end()`): `FlushSpec`. -/
theorem flush_spec : ∀ (post : List (Stage Unit Unit)) (ps : List Bytes) (post_k : List (Stage Unit Unit)) (outs : Bytes),
    (∀ st ∈ post, StageFresh st ∧ isPlain st = true) → feedG tk ev noCodec post ps = some (post_k, outs) →
    FlushSpec tk post ps.flatten (outs ++ flushHtml post_k)
  | [], ps, post_k, outs, _, h => by
    rw [feedG_nil] at h
    injection h with h; injection h with h1 h2; subst h1 h2
    simp [FlushSpec, flushHtml]
  | st :: rest, ps, post_k, outs, hf, h => by
    rw [feedG_cons] at h
    cases hfe : stFeed tk ev noCodec st ps with
    | none => simp [hfe] at h
    | some r =>
      obtain ⟨st1, os1⟩ := r
      simp only [hfe, Option.map_eq_some_iff] at h
      obtain ⟨⟨rest_k, outs'⟩, h1, h2⟩ := h
      injection h2 with h2 h3
      subst h2 h3
      have ih := flush_spec rest (nonEmpty os1) rest_k outs' (fun s hs => hf s (by simp [hs])) h1
      rw [nonEmpty_flatten] at ih
      obtain ⟨hfresh, hplain⟩ := hf st (by simp)
      exact ⟨os1.flatten, heldOf st1, outs' ++ flushHtml rest_k, mid_spec hl hr hnil ev st st1 hfresh hplain ps os1 hfe, ih,
        by rw [flushHtml_cons]; simp [List.append_assoc]⟩

end

section
variable {tk : Tokenize} (hl : LosslessAll tk) (hv : TokValidAll tk) (ev : Bytes → Bytes → Bool)
include hl hv

/-- **C04, strong form through the error path, chains of any length that START with the html stage** (abstract laws).
As `error_path_strong`, and in addition the contribution of the later stages is SPECIFIED: `outs ++ flushHtml post_k` is the
`FlushSpec` rendering of the bytes `os.flatten` the first stage emitted.  So the bytes of the body are accounted for stage by
stage also when the chain fails; a later `replace_text` swallows what it receives (closed form `MidSpec`), which is what
the code does. -/
theorem error_path_strong_full (hr : RestartLaw tk) (hnil : (tk.stream [] []).1 = []) (v : Visitor) (hb : v.before = [])
    (hnb : v.isBuffering = false) (hcv : V v.content) (post : List (Stage Unit Unit)) (hd : Down post)
    (hfresh : ∀ st ∈ post, StageFresh st) (cs : List Bytes) :
    (∃ s' os, seqRunL tk ev (HtmlSt.new v) cs = some (s', os)) ∨
    (∃ pre x rest h_k os mid, cs = pre ++ x :: rest ∧
      seqRunL tk ev (HtmlSt.new v) pre = some (h_k, os) ∧ filterHtml tk ev h_k x = none ∧
      ({ items := .html (HtmlSt.new v) :: post } : Chain Unit Unit).run tk ev noCodec cs =
        mid ++ endHtml h_k ++ x ++ rest.flatten ∧
      PrefixSpec tk v pre.flatten (os.flatten ++ endHtml h_k) ∧
      FlushSpec tk post os.flatten mid) := by
  rcases error_path_strong hl hv ev hr hnil v hb hnb hcv post hd cs with h | ⟨pre, x, rest, h_k, os, post_k, outs, e1, e2, e3, e4, e5, e6⟩
  · exact Or.inl h
  · right
    have hplain : ∀ st ∈ post, StageFresh st ∧ isPlain st = true :=
      fun st hst => ⟨hfresh st hst, allPlain_of_down hd st hst⟩
    have hfl := flush_spec hl hr hnil ev post (nonEmpty os) post_k outs hplain e4
    rw [nonEmpty_flatten] at hfl
    exact ⟨pre, x, rest, h_k, os, outs ++ flushHtml post_k, e1, e2, e3, by rw [e5], e6, hfl⟩

end

/-- the same on the tokenizer model, no tokenizer hypothesis -/
theorem error_path_strong_full_final (ev : Bytes → Bytes → Bool) (v : Visitor) (hb : v.before = [])
    (hnb : v.isBuffering = false) (hcv : V v.content) (post : List (Stage Unit Unit)) (hd : Down post)
    (hfresh : ∀ st ∈ post, StageFresh st) (cs : List Bytes) :
    (∃ s' os, seqRunL htmlTokenize ev (HtmlSt.new v) cs = some (s', os)) ∨
    (∃ pre x rest h_k os mid, cs = pre ++ x :: rest ∧
      seqRunL htmlTokenize ev (HtmlSt.new v) pre = some (h_k, os) ∧ filterHtml htmlTokenize ev h_k x = none ∧
      ({ items := .html (HtmlSt.new v) :: post } : Chain Unit Unit).run htmlTokenize ev noCodec cs =
        mid ++ endHtml h_k ++ x ++ rest.flatten ∧
      PrefixSpec htmlTokenize v pre.flatten (os.flatten ++ endHtml h_k) ∧
      FlushSpec htmlTokenize post os.flatten mid) :=
  error_path_strong_full htmlTokenize_losslessAll tokenizer_tokValid ev htmlTokenize_restartLaw htmlStream_nil_nil
    v hb hnb hcv post hd hfresh cs

/-- **One `replace` filter, ANY bytes (invalid UTF-8 included), ANY schedule, whether or not the chain fails.**  There is a
number `k` of chunks (all of them when no call fails; otherwise the chunks before the FIRST failing one: `StopsAt`) such that, with
`data ++ pending` the validated part and the incomplete last character of the first `k` chunks and `T ++ rem` the
tokenization of `data`: the output is `o' ++ rem ++ pending` followed by the remaining chunks VERBATIM, where `o'` renders `T`
replacing only non-overlapping element spans of the target (`RScript`).  No byte outside such a span is lost, duplicated or
reordered, also when invalid UTF-8 arrives after bytes were held back. -/
theorem replace_one_anybytes_final (ev : Bytes → Bytes → Bool) (lower : String → String) (headers : List (String × String))
    (p : Bytes) (ps : List Bytes) (sel : Option Bytes) (value : Bytes)
    (henc : headerValue lower Rio.Consts.filterHeaderContentEncoding headers = none)
    (hct : htmlAllowed (headerValue lower Rio.Consts.filterHeaderContentType headers) = true) (cs : List Bytes) :
    ∃ k data pending tgt o', k ≤ cs.length ∧
      StopsAt htmlTokenize ev { kind := .replace, cur := p, after := ps, sel := sel, content := value } cs k ∧
      utf8Split (cs.take k).flatten = some (data, pending) ∧
      (p :: ps).getLast? = some tgt ∧ RScript tgt value (view htmlTokenize [] data).all o' ∧
      (Chain.new noCodec lower [.html Rio.Consts.filterActionReplace (p :: ps) sel value] headers).run htmlTokenize ev noCodec cs =
        o' ++ (view htmlTokenize [] data).rem ++ pending ++ (cs.drop k).flatten := by
  have hch := chain_new_one_html lower headers _ p ps sel value .replace henc hct (visitor_new_replace p ps sel value)
  obtain ⟨k, B, hk, hst, ⟨data, pending, h1, h2⟩, h3⟩ := one_html_anybytes htmlTokenize_losslessAll ev htmlTokenize_restartLaw
    htmlStream_nil_nil { kind := .replace, cur := p, after := ps, sel := sel, content := value } rfl rfl cs
  simp only at h2
  obtain ⟨tgt, o', e1, e2, e3⟩ := h2
  refine ⟨k, data, pending, tgt, o', hk, hst, h1, by simpa [pathOf] using e1, e2, ?_⟩
  rw [hch, h3, e3]

/-- **One `append_child` / `prepend_child` filter, ANY bytes, ANY schedule, failing or not**: the output is `B` followed by
the chunks from the failing one on verbatim, where `B` is the first `k` chunks with whole copies of the value inserted
(`Edit [value] []`), at most one per tag token of the validated prefix named on the path. -/
theorem insert_one_anybytes_final (ev : Bytes → Bytes → Bool) (lower : String → String) (headers : List (String × String))
    (action : String) (hact : action = Rio.Consts.filterActionAppend ∨ action = Rio.Consts.filterActionPrepend)
    (p : Bytes) (ps : List Bytes) (sel : Option Bytes) (value : Bytes)
    (henc : headerValue lower Rio.Consts.filterHeaderContentEncoding headers = none)
    (hct : htmlAllowed (headerValue lower Rio.Consts.filterHeaderContentType headers) = true) (cs : List Bytes) :
    ∃ (v : Visitor) (k : Nat) (B data pending : Bytes), Visitor.new action (p :: ps) sel value = some v ∧ k ≤ cs.length ∧
      StopsAt htmlTokenize ev v cs k ∧ utf8Split (cs.take k).flatten = some (data, pending) ∧
      Edit [value] [] (cs.take k).flatten B ∧
      B.length ≤ (cs.take k).flatten.length + value.length * ((view htmlTokenize [] data).all.filter (onPath (p :: ps))).length ∧
      (Chain.new noCodec lower [.html action (p :: ps) sel value] headers).run htmlTokenize ev noCodec cs =
        B ++ (cs.drop k).flatten := by
  obtain ⟨kd, hkd, -, hnew⟩ := visitor_new_insert hact p ps sel value
  have hch := chain_new_one_html lower headers action p ps sel value kd henc hct hnew
  obtain ⟨k, B, hk, hst, ⟨data, pending, h1, h2⟩, h3⟩ := one_html_anybytes htmlTokenize_losslessAll ev htmlTokenize_restartLaw
    htmlStream_nil_nil { kind := kd, cur := p, after := ps, sel := sel, content := value } rfl rfl cs
  split at h2
  · exact absurd ‹_› hkd
  · exact ⟨_, k, B, data, pending, hnew, hk, hst, h1, h2.1, h2.2, by rw [hch, h3]⟩

/-- the general form on the tokenizer model: `html (new v) :: post`, any later stages with valid values -/
theorem error_path_strong_final (ev : Bytes → Bytes → Bool) (v : Visitor) (hb : v.before = [])
    (hnb : v.isBuffering = false) (hcv : V v.content) (post : List (Stage Unit Unit)) (hd : Down post) (cs : List Bytes) :
    (∃ s' os, seqRunL htmlTokenize ev (HtmlSt.new v) cs = some (s', os)) ∨
    (∃ pre x rest h_k os post_k outs, cs = pre ++ x :: rest ∧
      seqRunL htmlTokenize ev (HtmlSt.new v) pre = some (h_k, os) ∧ filterHtml htmlTokenize ev h_k x = none ∧
      feedG htmlTokenize ev noCodec post (nonEmpty os) = some (post_k, outs) ∧
      ({ items := .html (HtmlSt.new v) :: post } : Chain Unit Unit).run htmlTokenize ev noCodec cs =
        outs ++ flushHtml post_k ++ endHtml h_k ++ x ++ rest.flatten ∧
      PrefixSpec htmlTokenize v pre.flatten (os.flatten ++ endHtml h_k)) :=
  error_path_strong htmlTokenize_losslessAll tokenizer_tokValid ev htmlTokenize_restartLaw htmlStream_nil_nil v hb hnb hcv post hd cs

def exHeaders : List (String × String) := [("content-type", "text/html")]

/-- `<div>a<p>x</p>b<p>y` ‖ `0xFF` ‖ `z</p></div>q` -/
def exChunks : List Bytes :=
  [[60, 100, 105, 118, 62, 97, 60, 112, 62, 120, 60, 47, 112, 62, 98, 60, 112, 62, 121], [255],
   [122, 60, 47, 112, 62, 60, 47, 100, 105, 118, 62, 113]]

/-- `replace_one_anybytes_final` instantiated (chunks `<p>`, `0xFF`): the hypotheses are decidable
facts about the headers -/
example :=
  replace_one_anybytes_final evalStandIn id exHeaders [100, 105, 118] [[112]] none [78, 69, 87] (by decide) (by decide)
    [[60, 112, 62], [255]]

/-- an evaluated FAILING run (replace `p` under `div` by `NEW`; the second chunk is invalid UTF-8): the first `p` element was
replaced, `<p>y` was held and comes back verbatim, then the failing chunk and the rest — `<div>aNEWb<p>y` `0xFF`
`z</p></div>q` -/
theorem replace_anybytes_run :
    (Chain.new noCodec id [.html Rio.Consts.filterActionReplace [[100, 105, 118], [112]] none [78, 69, 87]] exHeaders).run
        htmlTokenize evalStandIn noCodec exChunks =
      [60, 100, 105, 118, 62, 97, 78, 69, 87, 98, 60, 112, 62, 121] ++ [255] ++
        [122, 60, 47, 112, 62, 60, 47, 100, 105, 118, 62, 113] := by
  decide +kernel

/-- the visitor of `replace_anybytes_run`: replace `p` under `div` by `NEW` -/
def exV : Visitor := { kind := .replace, cur := [100, 105, 118], after := [[112]], content := [78, 69, 87] }
/-- a later stage: `append_child` of `$` into `div` -/
def exPost : List (Stage Unit Unit) := [.html (HtmlSt.new { kind := .append, cur := [100, 105, 118], content := [36] })]

theorem exChunks_fail : (seqRunL htmlTokenize evalStandIn (HtmlSt.new exV) exChunks).isNone = true := by
  decide +kernel

/-- **The SECOND disjunct of `error_path_strong_full_final` is inhabited** (two html stages, the failing run above): the
first disjunct is refuted by evaluation, so the theorem yields the decomposition with `PrefixSpec` and `FlushSpec`. -/
theorem error_path_example :
    ∃ pre x rest h_k os mid, exChunks = pre ++ x :: rest ∧
      seqRunL htmlTokenize evalStandIn (HtmlSt.new exV) pre = some (h_k, os) ∧
      filterHtml htmlTokenize evalStandIn h_k x = none ∧
      ({ items := .html (HtmlSt.new exV) :: exPost } : Chain Unit Unit).run htmlTokenize evalStandIn noCodec exChunks =
        mid ++ endHtml h_k ++ x ++ rest.flatten ∧
      PrefixSpec htmlTokenize exV pre.flatten (os.flatten ++ endHtml h_k) ∧
      FlushSpec htmlTokenize exPost os.flatten mid := by
  have hd : Down exPost := by
    intro st hst
    simp only [exPost, List.mem_singleton] at hst
    subst hst
    exact ⟨⟨⟨by show V [36]; unfold V; decide, by intro l hl; simp [HtmlSt.new] at hl⟩, Or.inl rfl⟩, V_nil⟩
  have hf : ∀ st ∈ exPost, StageFresh st := by
    intro st hst
    simp only [exPost, List.mem_singleton] at hst
    subst hst
    exact ⟨_, rfl, rfl, rfl⟩
  rcases error_path_strong_full_final evalStandIn exV rfl rfl (by show V [78, 69, 87]; unfold V; decide) exPost hd hf
      exChunks with ⟨s', os, h⟩ | h
  · have := exChunks_fail
    rw [h] at this
    simp at this
  · exact h

/-- ... and what that run emits: the second stage saw only `<div>aNEWb`, holds nothing, the first stage's held `<p>y`, the
failing chunk and the rest follow verbatim -/
theorem error_path_example_run :
    ({ items := .html (HtmlSt.new exV) :: exPost } : Chain Unit Unit).run htmlTokenize evalStandIn noCodec exChunks =
      [60, 100, 105, 118, 62, 97, 78, 69, 87, 98, 60, 112, 62, 121] ++ [255] ++
        [122, 60, 47, 112, 62, 60, 47, 100, 105, 118, 62, 113] := by
  decide +kernel

end Rio.C04
