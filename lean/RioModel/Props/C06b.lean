/-
C06 ∘ C05 — every action the library computes survives the JSON round trip.

`Rio.C06.action_roundtrip` holds for every action satisfying the representation invariant
`Action.WF` (its two `LinkedHashSet`s are duplicate-free).  Here the invariant is DISCHARGED for every
action the C05 model of `Action::from_routes_rule` builds, and for every state the use-time observers
(`get_status_code`, `filter_headers`, `create_filter_body`, `should_log_request`,
`get_final_status_code_with_fallback`) leave behind — so the round trip holds of what an agent really
sends and of what a proxy really holds, for all matched rules, requests, draws, response codes and
observer sequences.  `toJsonAction showId` translates the action model into the serde model field by
field (Proofs/ActionJsonBridge.lean); `showId` renders an id and only has to be injective.
-/
import RioModel.Props.C05
import RioModel.Props.C06
import RioModel.Proofs.ActionJsonBridge
import RioModel.Proofs.SepJoin

namespace Rio.C06
open Rio.Action Rio.Action.Spec

/-- C05's closed form of the computed action, with the (still empty) `rules_applied` in the form the observer lemmas
(`stateAfter_spec`, `withApplied_spec_wf`) extend. -/
theorem action_eq_applied (R : List Rule) (q : Req) (draw : Rule → Nat) :
    fromRoutesRule R q draw = withApplied (Spec.action q (contributing q draw (sortRules R))) (dedupLast []) :=
  Rio.C05.action_eq_withApplied R q draw

theorem model_action_wf (showId : RuleId → String) (hinj : Function.Injective showId)
    (R : List Rule) (q : Req) (draw : Rule → Nat) :
    (toJsonAction showId (fromRoutesRule R q draw)).WF := by
  rw [action_eq_applied]
  exact withApplied_spec_wf showId hinj q _ []

/-- **Round trip of every computed action** (value level): `from_value(to_value(action)) = action`. -/
theorem model_action_roundtrip (showId : RuleId → String) (hinj : Function.Injective showId)
    (R : List Rule) (q : Req) (draw : Rule → Nat) :
    Rio.Json.deAction (Rio.Json.serAction (toJsonAction showId (fromRoutesRule R q draw))) =
      some (toJsonAction showId (fromRoutesRule R q draw)) :=
  action_roundtrip _ (model_action_wf showId hinj R q draw)

/-- … and on the text level: `from_str(to_string(action)) = action`. -/
theorem model_action_text_roundtrip (showId : RuleId → String) (hinj : Function.Injective showId)
    (R : List Rule) (q : Req) (draw : Rule → Nat) :
    Rio.Json.deActionText
        (Rio.Json.print (Rio.Json.serAction (toJsonAction showId (fromRoutesRule R q draw)))).toList =
      some (toJsonAction showId (fromRoutesRule R q draw)) :=
  action_text_roundtrip _ (model_action_wf showId hinj R q draw)

/-- The action a proxy holds after any sequence of observer calls (its `rules_applied` set has grown)
is well-formed too … -/
theorem observed_action_wf (showId : RuleId → String) (hinj : Function.Injective showId)
    (R : List Rule) (q : Req) (draw : Rule → Nat) (allowLog : Bool) (c : Nat) (ops : List Op) :
    (toJsonAction showId (stateAfter allowLog c (fromRoutesRule R q draw) ops)).WF := by
  rw [action_eq_applied, stateAfter_spec]
  exact withApplied_spec_wf showId hinj q _ _

/-- … hence round-trips (e.g. when it is logged or handed over after use). -/
theorem observed_action_roundtrip (showId : RuleId → String) (hinj : Function.Injective showId)
    (R : List Rule) (q : Req) (draw : Rule → Nat) (allowLog : Bool) (c : Nat) (ops : List Op) :
    Rio.Json.deAction (Rio.Json.serAction
        (toJsonAction showId (stateAfter allowLog c (fromRoutesRule R q draw) ops))) =
      some (toJsonAction showId (stateAfter allowLog c (fromRoutesRule R q draw) ops)) :=
  action_roundtrip _ (observed_action_wf showId hinj R q draw allowLog c ops)

/-- Congruence corollary of `model_action_roundtrip` (no further content): `obs` is any function of the SERDE-MODEL
action; for the modelled observers of C05 see Props/C06obs.lean (`model_action_observers`). -/
theorem model_action_behaviour {β : Type} (obs : Rio.Json.Action → β) (showId : RuleId → String)
    (hinj : Function.Injective showId) (R : List Rule) (q : Req) (draw : Rule → Nat) :
    ∃ a', Rio.Json.deAction (Rio.Json.serAction (toJsonAction showId (fromRoutesRule R q draw))) = some a' ∧
      obs a' = obs (toJsonAction showId (fromRoutesRule R q draw)) :=
  ⟨_, model_action_roundtrip showId hinj R q draw, rfl⟩

/-- The two independently written models of `LinkedHashSet::insert` (the action model's `lhsInsert`, the serde model's
`insertBack`) build the same sets: the `rules_applied` of any observer sequence, rendered, is the
fold of `insertBack` over the rendered insertions — the list `linked_hash_set_nodup` speaks about. -/
theorem linked_hash_set_models_agree (showId : RuleId → String) (hinj : Function.Injective showId)
    (inserted : List RuleId) :
    (inserted.foldl lhsInsert []).map showId = (inserted.map showId).foldl Rio.Json.insertBack [] :=
  foldl_lhsInsert_map showId hinj inserted [] List.nodup_nil

/-- An injective rendering exists (so the hypothesis of the theorems above can be met): each byte `n`
as `n` letters `a` followed by `b`.  (The driver renders ids by UTF-8 decoding, which is injective on
the ids that occur: they are the UTF-8 bytes of Rust `String`s, `Rio.Action.utf8_inj`.) -/
def unary : RuleId → List Char
  | [] => []
  | n :: l => List.replicate n 'a' ++ 'b' :: unary l

theorem unary_injective : Function.Injective unary := by
  have hb : ∀ n, 'b' ∉ List.replicate n 'a' := fun n h => by simpa using List.eq_of_mem_replicate h
  intro l1
  induction l1 with
  | nil =>
    intro l2 h
    cases l2 with
    | nil => rfl
    | cons m t => simp [unary] at h
  | cons n l ih =>
    intro l2 h
    cases l2 with
    | nil => simp [unary] at h
    | cons m t =>
      -- the `a`s before the first `b` are the first byte
      obtain ⟨h1, h2⟩ := Rio.Sep.append_cons_inj (hb n) (hb m) h
      rw [show n = m by simpa using congrArg List.length h1, ih h2]

def showUnary (l : RuleId) : String := String.ofList (unary l)

theorem showUnary_injective : Function.Injective showUnary := by
  intro a b h
  unfold showUnary at h
  exact unary_injective (String.ofList_injective h)

private def mk (id : RuleId) (rank : Nat) (status : Option Nat) : Rule :=
  { id := id, rank := rank, statusCode := status, target := some "/t", responseStatusCodes := some [404],
    excludeResponseStatusCodes := none, sampling := none, headerFilters := none, bodyFilters := none,
    logOverride := some true, reset := none, stop := none, redirectUnitId := none,
    configurationLogUnitId := none, targetHash := none }

example :
    let a := toJsonAction showUnary
      (fromRoutesRule [mk [97] 1 (some 301), mk [98] 2 none] ⟨none, none⟩ (fun _ => 1))
    Rio.Json.deAction (Rio.Json.serAction a) = some a ∧ a.WF :=
  ⟨model_action_roundtrip showUnary showUnary_injective _ _ _,
   model_action_wf showUnary showUnary_injective _ _ _⟩

end Rio.C06
