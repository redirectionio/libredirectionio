/-
C12 (capture clause) — warming the regex cache does not change what markers capture.

`Router::cache` ends with `route.compile()` on the routes, which replaces the `LazyRegex` inside the
`Arc<RwLock<..>>` of the path and host marker strings by a compiled copy.  The model is Model/MarkerCache.lean.

What the model says about sharing: clones of a marker string / route / router copy the `Arc`, i.e. the HANDLE of the
cell; the theorems quantify over arbitrary handles and arbitrary sequences of compile operations on arbitrary
handles, so they cover "compile through one clone, capture through another" and every sequential interleaving.
What it does not say: the `Err` arms of `RwLock::read/write` (a lock poisoned by a panic in another thread:
`capture` would then return nothing, `compile` false) and true concurrency — the `RwLock` is assumed to make each
`compile` / `capture` atomic, so that a concurrent execution is one of the interleavings covered here.
-/
import RioModel.Proofs.MarkerCache

namespace Rio.C12
open Rio.Marker Rio.MarkerCache
variable {R : Type} (lib : RegexLib R)

/-- `LazyRegex::compile` preserves `regex`, `original` and `ignore_case`; only `compiled` changes. -/
theorem lazy_compile_preserves (r : LazyRegex R) :
    (r.compile lib).regex = r.regex ∧ (r.compile lib).original = r.original ∧
    (r.compile lib).ignoreCase = r.ignoreCase ∧ (r.compile lib).compiled = r.createRegex lib :=
  ⟨rfl, rfl, rfl, rfl⟩

/-- A fresh cell is consistent, `compile` keeps cells consistent (whether or not the pattern compiles). -/
theorem lazy_consistent (p : Str) (ic : Bool) (r : LazyRegex R) :
    (LazyRegex.newLeaf p ic : LazyRegex R).Consistent lib ∧ (r.compile lib).Consistent lib :=
  ⟨Or.inl rfl, compile_consistent lib r⟩

/-- The regex handed out by `LazyRegex::regex()` is the same before and after `compile()`, for any number of
calls. -/
theorem lazy_regex_cache_indep (r : LazyRegex R) (h : r.Consistent lib) (k : Nat) :
    (r.compileN lib k).regexOf lib = r.regexOf lib ∧ (r.compileN lib k).Consistent lib := by
  induction k generalizing r with
  | zero => exact ⟨rfl, h⟩
  | succ k ih =>
    have := ih (r.compile lib) (compile_consistent lib r)
    simp only [LazyRegex.compileN]
    exact ⟨this.1.trans (regexOf_compile lib r h), this.2⟩

/-- **capture_cache_indep.**  After `compile` of the marker string `m`, every marker string `m'` — `m` itself, a
clone sharing its cell, or an unrelated one — captures from every string what it captured before. -/
theorem capture_cache_indep (st : Store R) (hst : StoreOK lib st) (m m' : MString) (s : Str) :
    m'.captureOn lib (m.compile lib st).1 s = m'.captureOn lib st s :=
  (sim_compileString lib st hst m).2 m' s

/-- … for any number of compile calls, through any handles, `StaticOrDynamic::compile`, `Route::compile` and
the budgeted loop at the end of `Router::cache`, in any order; and the store stays consistent. -/
theorem capture_cache_indep_ops (st : Store R) (hst : StoreOK lib st) (ops : List Op) (m' : MString) (s : Str) :
    m'.captureOn lib (runOps lib st ops) s = m'.captureOn lib st s ∧ StoreOK lib (runOps lib st ops) :=
  ⟨(sim_runOps lib st hst ops).2 m' s, (sim_runOps lib st hst ops).1⟩

/-- The same for what `Route::capture` reads of a route's path and host (`StaticOrDynamic::capture`). -/
theorem sod_capture_cache_indep_ops (st : Store R) (hst : StoreOK lib st) (ops : List Op) (x : SoD) (s : Str) :
    x.captureOn lib (runOps lib st ops) s = x.captureOn lib st s := by
  cases x with
  | static _ => rfl
  | dynamic m => exact (capture_cache_indep_ops lib st hst ops m s).1

/-- `Route::compile` returns the number of marker strings among path and host (what `Router::cache` subtracts
from its budget): at most 2, and 0 for a route without markers there. -/
theorem route_compile_count (st : Store R) (rt : Route) :
    (rt.compile lib st).2 =
      (match rt.pathAndQuery with | .dynamic _ => 1 | .static _ => 0) +
      (match rt.host with | some (.dynamic _) => 1 | _ => 0) := by
  unfold Route.compile
  cases hp : rt.pathAndQuery with
  | static s =>
    cases hh : rt.host with
    | none => simp [SoD.compile]
    | some x => cases x <;> simp [SoD.compile, compileString_snd]
  | dynamic m =>
    cases hh : rt.host with
    | none => simp [SoD.compile, compileString_snd]
    | some x => cases x <;> simp [SoD.compile, compileString_snd]

/-- Tie to the stateless model used by C10 (`capOf`): a marker string whose cell was created by `new_leaf` from its
capture pattern — compiled or not — captures what the C10 engine parameter `caps` returns, when `caps ic p s`
is read as "build `^p$` with the flag, then `captures`". -/
theorem capture_eq_stateless (st : Store R) (ops : List Op) (m : MString)
    (hst : StoreOK lib st)
    (hcell : st[m.cell]? = some (LazyRegex.newLeaf m.capture m.ignoreCase)) (s : Str) :
    m.captureOn lib (runOps lib st ops) s =
      (((lib.build m.ignoreCase (['^'] ++ m.capture ++ ['$'])).bind fun c => lib.captures c s).getD []) := by
  rw [(capture_cache_indep_ops lib st hst ops m s).1]
  simp only [MString.captureOn, hcell, LazyRegex.regexOf, LazyRegex.newLeaf, LazyRegex.createRegex]
  cases lib.build m.ignoreCase (['^'] ++ m.capture ++ ['$']) <;> simp

/-! ### Non-vacuity: two clones sharing one cell, an unrelated string, a pattern that does not compile -/

example :
    let lib : RegexLib Str := ⟨fun _ p => if p.contains '(' then none else some p, fun c s => if c = s then some [(['m'], s)] else none⟩
    let st : Store Str := [LazyRegex.newLeaf ['a'] false, LazyRegex.newLeaf ['('] false]
    let m : MString := ⟨['a'], ['a'], false, 0⟩
    let clone : MString := m
    let bad : MString := ⟨['('], ['('], false, 1⟩
    StoreOK lib st ∧
    clone.captureOn lib (runOps lib st [.compileString m, .compileString bad, .compileString m]) ['^','a','$']
      = [(['m'], ['^','a','$'])] ∧
    bad.captureOn lib (runOps lib st [.compileString bad]) ['('] = [] := by
  refine ⟨?_, by decide +kernel, by decide +kernel⟩
  intro r hr
  simp at hr
  rcases hr with rfl | rfl <;> exact Or.inl rfl

end Rio.C12
