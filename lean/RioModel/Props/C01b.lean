/-
`impl IntoRoute<Rule> for Rule` — what the conversion from a rule source to a route guarantees
(Model/IntoRoute.lean; tied to the code by the `into_route` cases of harness c05 / drv_c05, which
compare every field of the real `Route` with the model on generated rule JSON).

All theorems hold for ARBITRARY external parsers `P` (crates `cidr` / `chrono`).

Totality.  `intoRoute` is a total Lean function into `Route` (not into `Except Panic Route`): every
step of the Rust code is modelled by a total operation — parse errors are `Option`s that are dropped
or left open, `self.source.host.as_ref()?` is `Option.map`, there is no indexing, no `unwrap`, no
arithmetic that can overflow (`0 - rank as i64` with `rank : u16`).  So, as far as the model is
faithful (that is what the correspondence checks), `into_route` cannot panic on any deserialisable
rule; the remaining callee with its own panic sites is `MarkerString::new` (C10 / C07).
-/
import RioModel.Model.IntoRoute
import RioModel.Proofs.RouterTop
import RioModel.Model.RouterParse

namespace Rio.C01
open Rio.Router Rio.IntoRoute

theorem intoRoute_id (P : Parsers) (cfg : Cfg) (src : RuleSource) : (intoRoute P cfg src).id = src.id := rfl

/-- `priority = 0 - rank`: a higher rank is a lower priority, never positive. -/
theorem intoRoute_priority (P : Parsers) (cfg : Cfg) (src : RuleSource) :
    (intoRoute P cfg src).priority = 0 - (src.rank : Int) ∧ (intoRoute P cfg src).priority ≤ 0 := by
  refine ⟨rfl, ?_⟩
  show (0 : Int) - (src.rank : Int) ≤ 0
  omega

/-- **`ips = Some([])` is never produced** — the well-formedness `WFRoute` that
`remove_returns` (C02) needs holds of every route `IntoRoute` builds, for every source (also
`ips: []`, also when every cidr is unparsable). -/
theorem intoRoute_wf (P : Parsers) (cfg : Cfg) (src : RuleSource) : WFRoute (intoRoute P cfg src) := by
  unfold WFRoute intoRoute routeIps
  simp only
  cases src.ips with
  | none => simp
  | some l => exact Rio.Util.ite_isEmpty_ne_some_nil _

/-- The same for the three date constraints. -/
theorem intoRoute_no_empty_list (P : Parsers) (cfg : Cfg) (src : RuleSource) :
    (intoRoute P cfg src).ips ≠ some [] ∧ (intoRoute P cfg src).datetime ≠ some [] ∧
    (intoRoute P cfg src).time ≠ some [] ∧ (intoRoute P cfg src).weekdays ≠ some [] := by
  refine ⟨intoRoute_wf P cfg src, ?_, ?_, ?_⟩
  · exact Rio.Util.ite_isEmpty_ne_some_nil _
  · exact Rio.Util.ite_isEmpty_ne_some_nil _
  · unfold intoRoute routeWeekdays
    simp only
    cases src.weekdays with
    | none => simp
    | some l => exact Rio.Util.ite_isEmpty_ne_some_nil _

/-- The route's ranges are exactly the parsable source ranges, in order, each with its polarity; the
trigger disappears altogether (`None` = any client) iff none is parsable. -/
theorem route_ips_spec (P : Parsers) (l : List IpSource) :
    let parsed := l.filterMap fun ip =>
      match P.cidr ip.range with
      | some c => some (if ip.neg then RouteIp.notInRange c else RouteIp.inRange c)
      | none => none
    routeIps P (some l) = if parsed = [] then none else some parsed := by
  intro parsed
  unfold routeIps
  show (if parsed.isEmpty then none else some parsed) = _
  cases parsed <;> simp

/-- A rule whose ip constraints are ALL unparsable loses its ip trigger: it applies to every client
(and to requests without a client address). -/
theorem unparsable_ips_match_everyone (P : Parsers) (l : List IpSource)
    (h : ∀ ip ∈ l, P.cidr ip.range = none) : routeIps P (some l) = none := by
  rw [route_ips_spec]
  have : (l.filterMap fun ip =>
      match P.cidr ip.range with
      | some c => some (if ip.neg then RouteIp.notInRange c else RouteIp.inRange c)
      | none => none) = [] := by
    rw [List.filterMap_eq_nil_iff]
    intro ip hip
    simp [h ip hip]
  simp [this]

/-- `RouteDateTime::from_range` / `RouteTime::from_range`: the window is kept and the bound that
does not parse is dropped — a typo in a start (end) date makes the rule apply from the beginning
(until the end) of time. -/
theorem unparsable_bound_is_open (parse : String → Option Nat) (s e : String)
    (hs : parse s = none) :
    rangeOf parse (some s, some e) = ⟨none, parse e⟩ ∧
    rangeOf parse (some e, some s) = ⟨parse e, none⟩ ∧
    rangeOf parse (some s, none) = ⟨none, none⟩ := by
  simp [rangeOf, hs]

/-- … so a window with both bounds unparsable matches every instant. -/
theorem unparsable_window_matches_always (parse : String → Option Nat) (s e : String)
    (hs : parse s = none) (he : parse e = none) (t : Nat) :
    (rangeOf parse (some s, some e)).matchInstant t = true := by
  simp [rangeOf, hs, he, DRange.matchInstant]

/-- Unparsable week-day names are dropped; if none remains the trigger disappears. -/
theorem route_weekdays_spec (P : Parsers) (l : List String) :
    routeWeekdays P (some l) = if l.filterMap P.weekday = [] then none else some (l.filterMap P.weekday) := by
  unfold routeWeekdays
  cases h : l.filterMap P.weekday <;> simp [h]

def valueKinds : List (String × (String → HKind)) :=
  [("is_equals", .isEquals), ("is_not_equal_to", .isNotEqualTo), ("contains", .contains),
   ("does_not_contain", .doesNotContain), ("ends_with", .endsWith), ("starts_with", .startsWith)]

/-- `is_defined` / `is_not_defined`: no value needed, none used. -/
theorem header_defined (ic : Bool) (ms : List Char) (name : String) (v : Option String) :
    headerOf ic ms ⟨name, "is_defined", v⟩ = some ⟨name, .isDefined⟩ ∧
    headerOf ic ms ⟨name, "is_not_defined", v⟩ = some ⟨name, .isNotDefined⟩ := by
  simp [headerOf]

theorem headerOf_value_kind (ic : Bool) (ms : List Char) (name : String) (kf : String × (String → HKind))
    (hk : kf ∈ valueKinds) (v : Option String) :
    headerOf ic ms ⟨name, kf.1, v⟩ = v.map fun s => ⟨name, kf.2 (if ic then s.toLower else s)⟩ := by
  simp only [valueKinds, List.mem_cons, List.mem_nil_iff, or_false] at hk
  rcases hk with rfl | rfl | rfl | rfl | rfl | rfl <;> simp only [headerOf]

/-- The six value kinds: the constructor of the table, the value lower-cased iff
`ignore_header_case`; without a value the condition is skipped. -/
theorem header_value_kinds (ic : Bool) (ms : List Char) (name : String) (kf : String × (String → HKind))
    (hk : kf ∈ valueKinds) :
    (∀ v, headerOf ic ms ⟨name, kf.1, some v⟩ = some ⟨name, kf.2 (if ic then v.toLower else v)⟩) ∧
    headerOf ic ms ⟨name, kf.1, none⟩ = none :=
  ⟨fun v => headerOf_value_kind ic ms name kf hk (some v), headerOf_value_kind ic ms name kf hk none⟩

/-- `match_regex`: kept iff the value contains a listed marker (`MarkerString::new` returns `None`
otherwise); the pattern is NOT lower-cased. -/
theorem header_match_regex (ic : Bool) (ms : List Char) (name : String) (v : Option String) :
    headerOf ic ms ⟨name, "match_regex", v⟩ =
      match v with
      | none => none
      | some s =>
        if (tokenize ms s.toList).all Tok.isLit then none
        else some ⟨name, .matchRegex (tokenize ms s.toList)⟩ := by
  cases v <;> simp [headerOf]

/-- Every other `type` string is skipped (logged as unsupported), whatever its value: the table has
exactly nine entries, compared case-sensitively. -/
theorem header_unknown_kind (ic : Bool) (ms : List Char) (h : HeaderDesc)
    (hk : h.kind ∉ ["is_defined", "is_not_defined", "is_equals", "is_not_equal_to", "contains",
      "does_not_contain", "ends_with", "starts_with", "match_regex"]) :
    headerOf ic ms h = none := by
  simp only [List.mem_cons, List.mem_nil_iff, or_false, not_or] at hk
  obtain ⟨h1, h2, h3, h4, h5, h6, h7, h8, h9⟩ := hk
  unfold headerOf
  extract_lets v
  split
  case h_10 => rfl  -- the default arm; the nine before it contradict `hk`
  all_goals contradiction

theorem headerOf_shape (ic : Bool) (ms : List Char) (h : HeaderDesc) :
    headerOf ic ms h = none ∨ ∃ k, headerOf ic ms h = some ⟨h.name, k⟩ := by
  unfold headerOf
  extract_lets v
  have hv : ∀ f, v f = none ∨ ∃ k, v f = some ⟨h.name, k⟩ := by
    intro f
    show Option.map _ h.value = none ∨ ∃ k, Option.map _ h.value = _
    cases h.value
    · exact .inl rfl
    · exact .inr ⟨_, rfl⟩
  -- arms in order: `h_1`, `h_2` (not) defined, `h_3` … `h_8` the value kinds (`hv`), `h_9` `match_regex`, `h_10` default
  split
  case h_1 | h_2 => exact .inr ⟨_, rfl⟩
  case h_9 =>
    split
    · exact .inl rfl
    · extract_lets toks
      split
      · exact .inl rfl
      · exact .inr ⟨_, rfl⟩
  case h_10 => exact .inl rfl
  all_goals exact hv _

/-- The produced condition always carries the source's header name, unchanged (it is lower-cased
later, by `HeaderMatcher::insert`). -/
theorem header_name_kept (ic : Bool) (ms : List Char) (h : HeaderDesc) (rh : RouteHeader)
    (hr : headerOf ic ms h = some rh) : rh.name = h.name := by
  rcases headerOf_shape ic ms h with e | ⟨k, e⟩
  · rw [e] at hr; cases hr
  · rw [e] at hr; cases hr; rfl

/-! ### `exclude_methods: Some(false)` is exclusion (DESIGN §6-O5) -/

private def o5Src (ex : Option Bool) : RuleSource :=
  { id := "m", rank := 1, scheme := none, host := none, path := [47, 97], query := none, markers := [],
    ips := none, methods := some ["GET"], excludeMethods := ex, headers := none,
    datetime := none, time := none, weekdays := none }

private def o5Cfg : Cfg := ⟨false, false, false, true⟩

private def o5Req (m : String) : Req :=
  { scheme := none, host := none, method := some m, headers := [], ip := none, createdAt := none,
    path := "/a" }

/-- Kernel-checked witness, through `IntoRoute` and the whole router: a rule with `methods: ["GET"]`
and `exclude_methods: false` does NOT match a `GET` request and DOES match a `POST` request — exactly
like `exclude_methods: true`, and unlike an absent flag. -/
theorem exclude_methods_false_is_exclusion :
    let E := envOf o5Cfg
    let answer (ex : Option Bool) (m : String) : List String :=
      ((Router.build E [intoRoute Parsers.std o5Cfg (o5Src ex)]).matchReq E (o5Req m)).map (·.id)
    answer (some false) "GET" = [] ∧ answer (some false) "POST" = ["m"] ∧
    answer (some true) "GET" = [] ∧ answer (some true) "POST" = ["m"] ∧
    answer none "GET" = ["m"] ∧ answer none "POST" = [] := by
  decide

end Rio.C01
