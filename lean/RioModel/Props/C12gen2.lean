/-
C12 — the two cache LOOPS, TRANSLATED from the source on every run (section w9_tr_w34_cacheloops, plugin
tools/consts.d/w9_tr_w34_cacheloops.py -> Generated/Consts.lean), against the hand-written model.

* `Router::cache` (src/router/mod.rs): `genRouterCacheInit` (the `match limit` with `limit as i64` and the default
  `(routes.len() / 10).clamp(100, 10_000) as i64`), `genRouterCacheLoop` (the `while prev_cache_limit > 0` loop with `level`,
  `retry`, the two casts and the `break`, EXPLICIT FUEL, result carries `fuelOut`), `genRouterCacheRoutes` / `genRouterCacheTail`
  (the budgeted `route.compile()` loop).  Model: `RouterG.cachePrev / cacheLoop / cache`, `MarkerCache.compileRoutes`.
* `RegexTreeMap::cache` (src/regex_radix_tree/tree.rs): `genTreeCacheLoop` (the `while left > 0` level loop, explicit fuel,
  the callee `Item::cache` may panic = `none`), `genTreeCache`.  Model: `Tree.cacheLoop / treeCache`.

Abstract parameters are instantiated by the model's callees: `matcherCache := O.cache` (any outermost matcher),
`rootCache := Item.cache E` (proved equal to the TRANSLATED `Item::cache` in Props/C12gen.lean, `gen_item_cache_recursion_unique`),
`routeCompile := MarkerCache.Route.compile lib`, `routesLen := S.routes.length`.
-/
import RioModel.Proofs.CacheLoopGen
import RioModel.Props.C12router
import RioModel.Props.C12

namespace Rio.C12
open Rio.Consts Rio.Router Rio.Regex Rio.Tree Rio.CacheLoopGen

/-- The translated initial values are the model's `cachePrev` (and `level = retry = 0`), for every limit incl. `None`
(the `as i64` of the clamped value is exact) and limits `≥ 2^63` (both wrap alike). -/
theorem gen_router_cache_init_eq_model (O : MOps) (limit : Option Nat) (S : RouterG O) :
    genRouterCacheInit limit S.routes.length = (RouterG.cachePrev O limit S, 0, 0) := router_init_eq O limit S

/-- **translated loop = model loop**, for every `prev_cache_limit < 2^63` (an `i64`; needed so that `prev as u64` under the
guard `prev > 0` is the model's `prev.toNat`).
The translated result additionally carries the final `level` and `retry`. -/
theorem gen_router_cache_loop_eq_model (O : MOps) (fuel : Nat) (prev : Int) (level retry : Nat) (m : O.M)
    (h : prev < 2 ^ 63) :
    proj (genRouterCacheLoop O.cache fuel m prev level retry) = RouterG.cacheLoop O fuel prev level retry m :=
  router_loop_eq O fuel prev level retry m h

/-- The hypothesis of `gen_router_cache_loop_eq_model` holds for the initial value, whatever the limit. -/
theorem gen_router_cache_init_lt (limit : Option Nat) (n : Nat) : (genRouterCacheInit limit n).1 < 2 ^ 63 := by
  unfold genRouterCacheInit
  cases limit with
  | some l => exact asI64_lt l
  | none => exact asI64_lt _

/-- The translated initialiser followed by the translated loop is the model's loop from `cachePrev`: matcher, remaining budget and
`fuelOut` alike.  The fuel `prev + 7` is the one `RouterG.cache` (Model/RouterLayers.lean) passes: a turn lowers the budget or counts
one of six retries, and one more sees the exit (`cacheLoop_terminates`, Proofs/RouterTop.lean). -/
theorem gen_router_cache_run (O : MOps) (limit : Option Nat) (S : RouterG O) :
    proj (genRouterCacheLoop O.cache ((genRouterCacheInit limit S.routes.length).1.toNat + 7) S.matcher
        (genRouterCacheInit limit S.routes.length).1 (genRouterCacheInit limit S.routes.length).2.1
        (genRouterCacheInit limit S.routes.length).2.2) =
      RouterG.cacheLoop O ((RouterG.cachePrev O limit S).toNat + 7) (RouterG.cachePrev O limit S) 0 0 S.matcher := by
  have hlt := gen_router_cache_init_lt limit S.routes.length
  rw [gen_router_cache_init_eq_model O limit S] at hlt ⊢
  exact gen_router_cache_loop_eq_model O _ _ 0 0 S.matcher hlt

/-- `Router::cache(limit)` assembled from the translated pieces (init, then the loop with the model's fuel) leaves the
matcher of the model's `RouterG.cache`. -/
theorem gen_router_cache_eq_model (O : MOps) (limit : Option Nat) (S : RouterG O) :
    (genRouterCacheLoop O.cache ((genRouterCacheInit limit S.routes.length).1.toNat + 7) S.matcher
        (genRouterCacheInit limit S.routes.length).1 (genRouterCacheInit limit S.routes.length).2.1
        (genRouterCacheInit limit S.routes.length).2.2).1 = (RouterG.cache O limit S).matcher :=
  congrArg (·.1) (gen_router_cache_run O limit S)

/-- **cache_terminates for the TRANSLATED loop**: with the fuel `prev_cache_limit + 7` the translated
`while prev_cache_limit > 0` loop of `Router::cache` never reports `fuelOut`, for every limit (incl. `None` and values that wrap
to a negative `i64`) and every outermost matcher satisfying the layer laws (budget returned ≤ budget given). -/
theorem cache_terminates_gen {O : MOps} (OL : MLaws O) (S : RouterG O) (limit : Option Nat) :
    (genRouterCacheLoop O.cache ((genRouterCacheInit limit S.routes.length).1.toNat + 7) S.matcher
        (genRouterCacheInit limit S.routes.length).1 (genRouterCacheInit limit S.routes.length).2.1
        (genRouterCacheInit limit S.routes.length).2.2).2.2.2.2 = false :=
  (congrArg (·.2.2) (gen_router_cache_run O limit S)).trans (cache_terminates OL S limit)

/-- More fuel changes nothing once the loop has stopped: the fuel is not a hidden bound (directly on the translated loop). -/
theorem gen_router_cache_loop_fuel_mono {μ : Type} (f : Nat → Nat → μ → μ × Nat) (fuel : Nat) :
    ∀ (m : μ) (prev : Int) (level retry : Nat),
      (genRouterCacheLoop f fuel m prev level retry).2.2.2.2 = false →
      genRouterCacheLoop f (fuel + 1) m prev level retry = genRouterCacheLoop f fuel m prev level retry := by
  induction fuel with
  | zero => intro m prev level retry h; simp [genRouterCacheLoop] at h
  | succ fuel ih =>
    intro m prev level retry h
    rw [genRouterCacheLoop] at h ⊢
    conv => rhs; rw [genRouterCacheLoop]
    by_cases hp : prev > 0
    · simp only [hp, if_true] at h ⊢
      by_cases h1 : genAsI64 (f (genI64AsU64 prev) level m).2 = prev
      · by_cases h2 : retry + 1 > 5
        · simp only [h1, h2, if_true]
        · simp only [h1, h2, if_true, if_false] at h ⊢; exact ih _ _ _ _ h
      · simp only [h1, if_false] at h ⊢; exact ih _ _ _ _ h
    · simp only [hp, if_false]

/-- `cache_terminates_gen` needs its hypothesis `MLaws` (returned budget ≤ given budget): with a matcher whose `cache` returns
`limit + 1` the TRANSLATED loop started with budget 1 is still running when a fuel of 100 is used up. -/
theorem cache_terminates_gen_needs_budget_law :
    (genRouterCacheLoop (μ := Unit) (fun l _ m => (m, l + 1)) 100 () 1 0 0).2.2.2.2 = true := by decide

/-- The budgeted `for route in self.routes.values()` loop: translated = `MarkerCache.compileRoutes` on the store of cells
(`route.compile() as i64` is exact: a route compiles at most 2 cells). -/
theorem gen_router_cache_routes_eq_model {R : Type} (lib : Rio.MarkerCache.RegexLib R) (rts : List Rio.MarkerCache.Route)
    (st : Rio.MarkerCache.Store R) (left : Int) :
    (genRouterCacheRoutes (fun rt st => Rio.MarkerCache.Route.compile lib st rt) rts st left).1
      = Rio.MarkerCache.compileRoutes lib st rts left := routes_loop_eq lib rts st left

variable {ι V : Type}

/-- **translated level loop = model loop**; the model conflates "fuel ran out" and "callee panicked" into `none`, the
translation keeps them apart (`tproj` forgets the difference). -/
theorem gen_tree_cache_loop_eq_model (E : Engine) (fuel : Nat) (root : Item ι V) (left lvl : Nat) :
    (genTreeCacheLoop (fun l lv c r => Item.cache E r l lv c) fuel root left lvl).bind tproj
      = Tree.cacheLoop E fuel root left lvl := tree_loop_eq E fuel root left lvl

/-- `RegexTreeMap::cache(limit, level)`: translated (with the model's fuel `limit + 1`) = `treeCache`, both arms of
`if let Some(level) = level`. -/
theorem gen_tree_cache_eq_model (E : Engine) (root : Item ι V) (limit : Nat) (level : Option Nat) :
    (genTreeCache (fun l lv c r => Item.cache E r l lv c) (limit + 1) root limit level).bind
        (fun r => if r.2.2 then none else some (r.1, r.2.1))
      = treeCache E root limit level := by
  cases level with
  | some lvl =>
    simp only [genTreeCache, treeCache]
    cases Item.cache E root limit lvl 0 <;> simp
  | none =>
    simp only [genTreeCache, treeCache]
    rw [← gen_tree_cache_loop_eq_model E (limit + 1) root limit 0]
    cases genTreeCacheLoop (fun l lv c r => Item.cache E r l lv c) (limit + 1) root limit 0 with
    | none => rfl
    | some r => simp [tproj]

/-- **cache_total for the TRANSLATED `RegexTreeMap::cache`**: no panic (no `u64` underflow in the callee), the level
loop stops within `limit + 1` iterations (`fuelOut = false`), and the returned budget is at most the given one. -/
theorem cache_total_gen [DecidableEq ι] (E : Engine) (t : Item ι V) (limit : Nat) (level : Option Nat) :
    ∃ t' n, genTreeCache (fun l lv c r => Item.cache E r l lv c) (limit + 1) t limit level = some (t', n, false) ∧
      n ≤ limit := by
  obtain ⟨t', n, h, hn⟩ := cache_total E t limit level
  rw [← gen_tree_cache_eq_model] at h
  cases hg : genTreeCache (fun l lv c r => Item.cache E r l lv c) (limit + 1) t limit level with
  | none => rw [hg] at h; simp at h
  | some r =>
    rw [hg] at h
    obtain ⟨a, b, c⟩ := r
    cases c with
    | true => simp at h
    | false =>
      simp at h
      exact ⟨a, b, by rw [h.1, h.2], by omega⟩

/-- the default budget: 0 routes ↦ 100, 50 000 routes ↦ 5 000, 10^6 routes ↦ 10 000; a limit `2^63` wraps negative -/
example : (genRouterCacheInit none 0).1 = 100 ∧ (genRouterCacheInit none 50000).1 = 5000 ∧
    (genRouterCacheInit none 1000000).1 = 10000 ∧ (genRouterCacheInit (some (2 ^ 63)) 0).1 = -(2 ^ 63) := by decide

/-- a matcher that spends 1 per call down to 0: budget 3 is used up in 3 rounds, no retry, fuel not exhausted -/
example : genRouterCacheLoop (μ := Nat) (fun l _ m => (m + 1, l - 1)) 10 0 3 0 0 = (3, 0, 3, 0, false) := by decide

/-- a matcher that never spends: six retries, then `break` (level 5 reached, retry 6) -/
example : genRouterCacheLoop (μ := Nat) (fun l _ m => (m + 1, l)) 10 0 3 0 0 = (6, 3, 5, 6, false) := by decide

/-- the tree loop with a callee that spends 1 per level for two levels and then nothing -/
example : genTreeCacheLoop (τ := Nat) (fun l lv _ r => some (r + 1, if lv < 2 then l - 1 else l)) 10 0 5 0
    = some (3, 3, 2, false) := by decide

/-- the route loop stops as soon as the budget is used up (second route not compiled) -/
example : genRouterCacheTail (α := Nat) (σ := List Nat) (fun a st => (a :: st, 2)) [1, 2, 3] [] 2 = ([1], 0) := by decide

end Rio.C12
