/-
C17, third clause — the per-step actions listed by the action trace end in the action the live
pipeline computes when ranks are distinct.

`traceActions routes q draw` is the model of `TraceAction::from_trace_rules` (Model/ActionTrace.lean)
given the listing `routes` of `Trace::get_routes_from_traces`; `fromRoutesRule` is
`Action::from_routes_rule` (C05).  Both draw the sampling decision of a rule from the same
`draw : Rule → Nat` (the code draws independently in the two calls: the clause is about what the
steps mean, it is exact when no matched rule is sampled or the request carries an override).

The theorems up to `trace_skipped_step` are about the action code alone; from `explainSteps` on they are composed
with the router theorems (`Rio.C17.trace_perm_match`, the representation relation `RRepr` reached by every valid
history) through the projection `ruleOf : Route → Rule` (a parameter, see Proofs/ActionBridge.lean).
-/
import RioModel.Proofs.ActionTrace
import RioModel.Props.C05
import RioModel.Props.C11b
import RioModel.Props.C17

namespace Rio.C17
open Rio.Action Rio.Action.Spec

/-- The loop of `from_trace_rules` and the loop of `from_routes_rule` agree on ANY common rule order:
the action of the last step is the folded action (and `Action::default()` when there is no step). -/
theorem trace_fold_last (q : Req) (draw : Rule → Nat) (S : List Rule) :
    lastAction (traceFold q draw Action.empty S) = foldRoutes q draw Action.empty S :=
  lastOr_traceFold q draw Action.empty S

/-- What distinct ranks are used for: the trace sorts by rank only (stable), the live
pipeline by rank then id.  Whenever the rank-sorted listing happens to be sorted for `Rule::cmp` too
— i.e. rules of equal rank are listed by descending id — the clause holds (distinct (rank, id) keys). -/
theorem trace_action_last_of_sorted (R : List Rule) (q : Req) (draw : Rule → Nat)
    (hs : (traceSort R).Pairwise (fun a b => ruleLe a b = true)) (hk : KeyInj R) :
    lastAction (traceActions R q draw) = fromRoutesRule R q draw := by
  unfold traceActions fromRoutesRule
  rw [trace_fold_last, sortRules_eq_of_sorted (traceSort_perm R) hs hk]

/-- For pairwise distinct ranks, the last step of the action trace shows the
action the live pipeline computes. -/
theorem trace_action_last (R : List Rule) (q : Req) (draw : Rule → Nat) (h : DistinctRanks R) :
    lastAction (traceActions R q draw) = fromRoutesRule R q draw :=
  trace_action_last_of_sorted R q draw (traceSort_ruleLe R h) h.keyInj

/-- With at least one listed rule there is a last step, and it carries that action. -/
theorem trace_action_last_step (R : List Rule) (q : Req) (draw : Rule → Nat) (h : DistinctRanks R)
    (hne : R ≠ []) :
    ∃ t, (traceActions R q draw).getLast? = some t ∧ t.action = fromRoutesRule R q draw := by
  have hne' : traceActions R q draw ≠ [] := by
    obtain ⟨x, hx⟩ := List.exists_mem_of_ne_nil R hne
    have hx' := (traceSort_perm R).mem_iff.mpr hx
    unfold traceActions
    generalize traceSort R = S at hx'
    cases S with
    | nil => cases hx'
    | cons r rest => exact List.cons_ne_nil _ _
  have hl := trace_action_last R q draw h
  rw [lastAction, List.getLast?_eq_some_getLast hne'] at hl
  exact ⟨_, List.getLast?_eq_some_getLast hne', hl⟩

/-- "… when ranks are distinct" cannot be dropped. -/
def TraceActionLastAlways : Prop :=
  ∀ (R : List Rule) (q : Req) (draw : Rule → Nat), NodupIds R →
    lastAction (traceActions R q draw) = fromRoutesRule R q draw

private def mk (id : RuleId) (rank : Nat) (status : Option Nat) (reset stop : Bool)
    (sampling : Option Nat) : Rule :=
  { id := id, rank := rank, statusCode := status, target := none, responseStatusCodes := none,
    excludeResponseStatusCodes := none, sampling := sampling, headerFilters := none, bodyFilters := none,
    logOverride := none, reset := some reset, stop := some stop, redirectUnitId := none,
    configurationLogUnitId := none, targetHash := none }

/-- Two matched rules of equal rank listed by ascending id: the trace applies `a` then `b` (302 wins),
the live pipeline `b` then `a` (301 wins).  Kernel-checked. -/
theorem trace_action_last_needs_distinct_ranks : ¬ TraceActionLastAlways := by
  intro h
  have hn : NodupIds [mk [97] 1 (some 301) false false none, mk [98] 1 (some 302) false false none] := by
    unfold NodupIds; decide
  have := h _ ⟨none, none⟩ (fun _ => 1) hn
  unfold traceActions fromRoutesRule traceSort at this
  rw [List.mergeSort_of_pairwise (by decide)] at this
  have hsort : sortRules [mk [97] 1 (some 301) false false none, mk [98] 1 (some 302) false false none]
      = [mk [98] 1 (some 302) false false none, mk [97] 1 (some 301) false false none] :=
    sortRules_eq_of_sorted (List.Perm.swap _ _ _) (by decide) hn.keyInj
  rw [hsort] at this
  have := congrArg (fun a => a.statusCodeUpdate.map (·.statusCode)) this
  revert this
  decide

/-- **The whole step list in closed form.**  The steps are the rules of the rank-sorted listing up to
and including the first rule that is kept by the sampling decision and marked `stop`; step `k` carries
the specification's action (C05) of the first `k+1` rules. -/
theorem trace_steps_spec (R : List Rule) (q : Req) (draw : Rule → Nat) :
    traceActions R q draw = Spec.traceSteps q draw (traceSort R) :=
  traceFold_eq_traceSteps q draw (traceSort R)

/-- One step per rule, in order, ending at the first effective `stop` (a sampled-out rule still gets
its step, and its `stop` flag does not end the list). -/
theorem trace_steps_rules (R : List Rule) (q : Req) (draw : Rule → Nat) :
    (traceActions R q draw).map (·.rule) = throughFirstEffectiveStop q draw (traceSort R) := by
  rw [trace_steps_spec]
  exact mapIdxFrom_map_rule _ _ _

/-- Step `k` shows the action `from_routes_rule`'s loop computes from the first `k+1` sorted rules. -/
theorem trace_step_cumulative (R : List Rule) (q : Req) (draw : Rule → Nat) (k : Nat) (t : TraceAction)
    (ht : (traceActions R q draw)[k]? = some t) :
    t.action = foldRoutes q draw Action.empty ((traceSort R).take (k + 1)) ∧
      (traceSort R)[k]? = some t.rule :=
  ⟨(traceFold_getElem? ht).1, (traceFold_getElem? ht).2.1⟩

/-- `reset` in the step list: the step of an effective `reset` rule shows that rule's own action
alone — everything listed before it is discarded. -/
theorem trace_reset_step (R : List Rule) (q : Req) (draw : Rule → Nat) (k : Nat) (t : TraceAction)
    (ht : (traceActions R q draw)[k]? = some t) (he : effective q draw t.rule = true)
    (hr : isReset t.rule = true) :
    t.action = foldRoutes q draw Action.empty [t.rule] := by
  obtain ⟨hact, hk, hpre⟩ := traceFold_getElem? ht
  rw [hact, List.take_add_one, hk]
  exact Rio.C05.reset_discards q draw Action.empty _ [] t.rule he hr fun x hx hex => by
    simpa [hex] using hpre x hx

/-- A rule skipped by the sampling decision gets a step that repeats the action before it. -/
theorem trace_skipped_step (R : List Rule) (q : Req) (draw : Rule → Nat) (k : Nat) (t : TraceAction)
    (ht : (traceActions R q draw)[k]? = some t) (he : effective q draw t.rule = false) :
    t.action = foldRoutes q draw Action.empty ((traceSort R).take k) := by
  obtain ⟨hact, hk, _⟩ := traceFold_getElem? ht
  rw [hact, List.take_add_one, hk, Option.toList_some,
    Rio.C05.skipped_rule_ignored q draw Action.empty _ [] t.rule he, List.append_nil]

/-- The action trace of a router state for a request (`TraceAction::from_trace_rules(router.trace_request(q), q)`). -/
def explainSteps (E : Rio.Router.Env) (ruleOf : Rio.Router.Route → Rule) (S : Rio.Router.Router E)
    (q : Rio.Router.Req) (rq : Req) (draw : Rule → Nat) : List TraceAction :=
  traceActions ((Rio.Router.routesOfList (S.trace E q)).map ruleOf) rq draw

/-- **Last explain step = live action**, in every router state that represents a set of live rules
(every state reachable by a valid history of insertions, removals, batch removals and change-sets),
for every request whose matched rules have pairwise distinct ranks. -/
theorem explain_last_eq_live (E : Rio.Router.Env) (ruleOf : Rio.Router.Route → Rule)
    (S : Rio.Router.Router E) (L : List Rio.Router.Route) (h : Rio.Router.RRepr E S L)
    (q : Rio.Router.Req) (rq : Req) (draw : Rule → Nat)
    (hd : DistinctRanks ((S.matchReq E q).map ruleOf)) :
    lastAction (explainSteps E ruleOf S q rq draw) = Rio.C11.liveAction E ruleOf S q rq draw := by
  unfold explainSteps Rio.C11.liveAction
  have hp : ((Rio.Router.routesOfList (S.trace E q)).map ruleOf).Perm ((S.matchReq E q).map ruleOf) :=
    (trace_perm_match E S L h q).map ruleOf
  have hd' : DistinctRanks ((Rio.Router.routesOfList (S.trace E q)).map ruleOf) := hd.perm hp.symm
  rw [trace_action_last _ rq draw hd']
  exact Rio.C11.action_perm_invariant_key rq draw hp hd'.keyInj

/-- The same after an arbitrary valid history (C02). -/
theorem explain_last_eq_live_run (E : Rio.Router.Env) (ruleOf : Rio.Router.Route → Rule)
    (hist : List Rio.Router.Op) (hv : Rio.Router.ValidHistory hist [])
    (q : Rio.Router.Req) (rq : Req) (draw : Rule → Nat)
    (hd : DistinctRanks (((Rio.Router.runOps E hist (Rio.Router.Router.empty E)).matchReq E q).map ruleOf)) :
    lastAction (explainSteps E ruleOf (Rio.Router.runOps E hist (Rio.Router.Router.empty E)) q rq draw) =
      Rio.C11.liveAction E ruleOf (Rio.Router.runOps E hist (Rio.Router.Router.empty E)) q rq draw :=
  explain_last_eq_live E ruleOf _ _ (Rio.C02.repr_run E hist _ [] (Rio.C02.repr_empty E) hv) q rq draw hd

/-- Every step of the explain trace shows a matched rule.  (That the steps are the rank-sorted listing cut after
the first effective `stop` is `trace_steps_rules`; that the listing is a permutation of the match result is
`trace_perm_match`.) -/
theorem explain_steps_are_matches (E : Rio.Router.Env) (ruleOf : Rio.Router.Route → Rule)
    (S : Rio.Router.Router E) (L : List Rio.Router.Route) (h : Rio.Router.RRepr E S L)
    (q : Rio.Router.Req) (rq : Req) (draw : Rule → Nat) (t : TraceAction)
    (ht : t ∈ explainSteps E ruleOf S q rq draw) :
    ∃ r ∈ S.matchReq E q, ruleOf r = t.rule := by
  unfold explainSteps at ht
  have hr : t.rule ∈ (traceActions ((Rio.Router.routesOfList (S.trace E q)).map ruleOf) rq draw).map (·.rule) :=
    List.mem_map.mpr ⟨t, ht, rfl⟩
  rw [trace_steps_rules] at hr
  obtain ⟨k, hk⟩ := List.mem_iff_getElem?.mp hr
  have h1 := (traceSort_perm _).subset (List.mem_iff_getElem?.mpr ⟨k, (throughFirstEffectiveStop_getElem? hk).1⟩)
  obtain ⟨r, hrm, hrr⟩ := List.mem_map.mp h1
  exact ⟨r, (trace_perm_match E S L h q).subset hrm, hrr⟩

/-- Five listed rules with distinct ranks, given in listing order: `lo` (rank 9, 410), `rs` (rank 5,
301, reset), `sk` (rank 3, stop, sampling 0: skipped), `st` (rank 2, 302, stop), `hi` (rank 1, 418).
Steps: lo, rs, sk, st — `hi` is cut; the `rs` step shows 301 alone, the `sk` step repeats it, the last
step shows 302 = the live action. -/
example :
    let R := [mk [104] 1 (some 418) false false none, mk [115] 3 none false true (some 0),
              mk [108] 9 (some 410) false false none, mk [116] 2 (some 302) false true none,
              mk [114] 5 (some 301) true false none]
    DistinctRanks R ∧
    (traceActions R ⟨none, none⟩ (fun _ => 50)).map
        (fun t => (t.rule.id, t.action.statusCodeUpdate.map (·.statusCode), t.action.ruleIds)) =
      [([108], some 410, [[108]]), ([114], some 301, [[114]]), ([115], some 301, [[114]]),
       ([116], some 302, [[114], [116]])] := by
  intro R
  refine ⟨by unfold DistinctRanks; decide, ?_⟩
  unfold traceActions
  have hs : traceSort R = [mk [108] 9 (some 410) false false none, mk [114] 5 (some 301) true false none,
      mk [115] 3 none false true (some 0), mk [116] 2 (some 302) false true none,
      mk [104] 1 (some 418) false false none] := by
    have h1 : DistinctRanks R := by unfold DistinctRanks; decide
    exact sorted_perm_unique_key (traceSort_ruleLe R h1) (by decide)
      ((traceSort_perm R).trans (by decide)) (h1.keyInj.perm (traceSort_perm R).symm)
  rw [hs]
  decide

end Rio.C17
