/-
C02, second sentence — "Deriving an updated router from a shared existing one never changes the answers of the
existing one."

In the value model of Props/C02.lean a clone is the same value and the sentence has no content.  Here
(Model/RouterShare.lean) sharing EXISTS: a world is one heap of `Arc<RwLock<LazyRegex>>` cells (the `Store` of
Model/MarkerCache.lean) and any number of routers; `clone` copies a router's buckets / trees / id map and SHARES the cells of its routes' marker strings;
`insert` allocates fresh cells; the second phase of `Router::cache` WRITES the cells of the router's routes — cells
other routers hold too.  The theorems say that no sequence of operations on OTHER routers (clones of clones, and
clones of the observed router, included) changes any observation of a router: match_request, get_route, trace,
get_trace, len, get_route_by_id, the ids, and `Route::capture` of every route it holds.  The only shared writes are
invisible by `Rio.C12.capture_cache_indep_ops` (used in Proofs/RouterShare `frame_compileRoutes`); everything else
is unshared BY THE MODEL OF CLONE (`SRouter.clone`), which is justified field by field against the Rust `Clone` impls
at its definition and tied to the ownership extractor's constants by `no_other_shared_mutable_state` below.
`isolation_needs_unshared_matcher*`: in a variant where clone shares the matcher cell the statement is FALSE.
-/
import RioModel.Proofs.RouterShare
import RioModel.Generated.Consts

namespace Rio.C02
open Rio.Router Rio.RouterShare
open Rio.Marker (Str)
open Rio.MarkerCache (RegexLib Store StoreOK)

variable {R : Type} (lib : RegexLib R) {O : MOps}

/-- **clone_isolation.**  `w.WF`: heap cells consistent, no dangling handle.  A step that `Spares j`: insert / remove /
batch_remove / apply_change_set / cache / matcher-cache on any other router, `clone` of any router incl. `j` itself.
Symmetric by construction: `j` is any router, the original or a clone. -/
theorem clone_isolation (w : World R O) (hw : w.WF lib) (nameEq : Str → Str → Bool) (steps : List Step) (j : Nat)
    (hj : j < w.routers.length) (hs : ∀ s ∈ steps, s.Spares j) :
    (w.run lib steps).obs lib nameEq j = w.obs lib nameEq j :=
  run_obs lib w hw nameEq steps j hj hs

/-- … and the world stays well formed, existing routers keep their index (so the theorem applies again). -/
theorem clone_isolation_wf (w : World R O) (hw : w.WF lib) (steps : List Step) :
    (w.run lib steps).WF lib ∧ w.routers.length ≤ (w.run lib steps).routers.length :=
  (run_frame lib w hw steps).2

/-- **Interleaved form**: along ANY run — operations on router `j` itself included, in any interleaving with
operations on its clones — the observations of router `j` change only at router `j`'s own steps. -/
theorem clone_isolation_interleaved (w : World R O) (hw : w.WF lib) (nameEq : Str → Str → Bool) (pre : List Step)
    (s : Step) (j : Nat) (hj : j < w.routers.length) (hs : s.Spares j) :
    (w.run lib (pre ++ [s])).obs lib nameEq j = (w.run lib pre).obs lib nameEq j :=
  run_step_obs lib w hw nameEq pre s j hj hs

/-- The same spelled out: router `j` is literally the same value afterwards — same buckets, same trees, same id map,
same handles, hence the same `match_request` / `get_route` / `trace` / `get_trace` / `len` / `get_route_by_id` as
functions — and every route it holds captures from every request what it captured before, although the cells
behind its handles may have been overwritten. -/
theorem clone_isolation_spelled (w : World R O) (hw : w.WF lib) (nameEq : Str → Str → Bool) (steps : List Step)
    (j : Nat) (S : SRouter O) (hS : w.routers[j]? = some S) (hs : ∀ s ∈ steps, s.Spares j) :
    (w.run lib steps).routers[j]? = some S ∧
    ∀ id rt, alookup id S.marks = some rt →
      captureRoute lib (w.run lib steps).store nameEq rt = captureRoute lib w.store nameEq rt := by
  -- the run is a frame step of the heap, and the handles of `S` were valid before it
  refine ⟨(run_spares lib w steps j (List.getElem?_eq_some_iff.mp hS).1 hs).trans hS, fun id rt hrt => ?_⟩
  exact captureRoute_frame lib (run_frame lib w hw steps).1 nameEq rt
    (hw.2 S (List.mem_of_getElem? hS) _ (mem_of_alookup hrt))

/-- **Non-interference of everything but the cells, for ANY interleaving** (operations on every router, router `i`
included): the buckets / trees / id map of router `i` after the run are what router `i`'s OWN operations make of
them (`opsOf i steps`), whatever the other routers did in between.  No hypothesis. -/
theorem core_noninterference (w : World R O) (steps : List Step) (i : Nat) (S : SRouter O)
    (hS : w.routers[i]? = some S) :
    ∃ S', (w.run lib steps).routers[i]? = some S' ∧
      S'.core = (opsOf i steps).foldl (fun C op => op.runCore C) S.core :=
  Rio.RouterShare.core_noninterference lib w steps i S hS

/-- The model with sharing refines the value model of Props/C02.lean: on `core`, every operation IS the operation of
Model/RouterOps.lean (`Op.runG`), so `run_equiv`, `remove_returns_run`, … hold of every router of every world. -/
theorem shared_refines_value_model (st : Store R) (S : SRouter O) (op : RouterShare.Op) (p : Rio.Router.Op)
    (h : op.plain = some p) : (op.run lib st S).2.core = p.runG O S.core :=
  core_op lib st S op p h

/-- `RuleChangeSet::update_existing_router(existing_router)`: the existing router `i` answers as before, and the
derived router (the last one of the new world) is `apply_change_set` run on a copy of `i`'s buckets / trees / id map
(to which `run_equiv` of Props/C02.lean applies through `shared_refines_value_model`). -/
theorem update_existing_router_isolated (w : World R O) (hw : w.WF lib) (nameEq : Str → Str → Bool) (i : Nat)
    (S : SRouter O) (hS : w.routers[i]? = some S) (added updated : List (Route × RouteTpl)) (removed : List String) :
    (w.updateExisting lib i added updated removed).obs lib nameEq i = w.obs lib nameEq i ∧
    ∃ S', (w.updateExisting lib i added updated removed).routers[w.routers.length]? = some S' ∧
      S'.core = RouterG.applyChangeSet O (added.map (·.1)) (updated.map (·.1)) removed S.core := by
  have hi : i < w.routers.length := (List.getElem?_eq_some_iff.mp hS).1
  refine ⟨clone_isolation lib w hw nameEq _ i hi ?_, ?_⟩
  · intro s hs
    simp only [List.mem_cons, List.mem_nil_iff, or_false] at hs
    rcases hs with rfl | rfl
    · trivial
    · exact fun h => Nat.lt_irrefl _ (h ▸ hi)
  · have h1 : (w.step lib (.clone i)).routers[w.routers.length]? = some S.clone := by
      simp only [World.step, hS]
      simp
    obtain ⟨S', h2, h3⟩ := Rio.RouterShare.core_noninterference lib (w.step lib (.clone i))
      [.op w.routers.length (.changeSet added updated removed)] w.routers.length S.clone h1
    refine ⟨S', h2, ?_⟩
    rw [h3]
    simp [opsOf, RouterShare.Op.runCore, SRouter.clone]

/-- The two-router reading of the property, both directions: start from one router, clone it, then operate on the
clone only (the original's observations stay) or on the original only (the clone's observations stay). -/
theorem clone_then_ops_two (st : Store R) (A : SRouter O) (hst : StoreOK lib st) (hA : A.HandlesOK st.length)
    (nameEq : Str → Str → Bool) (ops : List RouterShare.Op) :
    let w : World R O := World.step lib ⟨st, [A]⟩ (.clone 0)
    w.routers = [A, A.clone] ∧
    (w.run lib (ops.map (Step.op 1))).obs lib nameEq 0 = w.obs lib nameEq 0 ∧
    (w.run lib (ops.map (Step.op 0))).obs lib nameEq 1 = w.obs lib nameEq 1 := by
  have hw0 : World.WF lib (⟨st, [A]⟩ : World R O) := ⟨hst, by intro S hS; simp at hS; rw [hS]; exact hA⟩
  have hw := (step_frame lib _ hw0 (.clone 0)).2.1
  have hr : (World.step lib (⟨st, [A]⟩ : World R O) (.clone 0)).routers = [A, A.clone] := by simp [World.step]
  refine ⟨hr, clone_isolation lib _ hw nameEq _ 0 (by rw [hr]; simp) ?_,
    clone_isolation lib _ hw nameEq _ 1 (by rw [hr]; simp) ?_⟩
  · intro s hs
    obtain ⟨op, _, rfl⟩ := List.mem_map.mp hs
    exact Nat.succ_ne_zero 0
  · intro s hs
    obtain ⟨op, _, rfl⟩ := List.mem_map.mp hs
    exact (Nat.succ_ne_zero 0).symm

/-- `marks` (the id map seen through marker handles — what `Router::cache` iterates and `Route::capture` reads) and
`core.routes` (the same map seen through route values) keep the same keys under every operation. -/
theorem marks_in_sync (st : Store R) (S : SRouter O) (op : RouterShare.Op) (h : S.Sync) : (op.run lib st S).2.Sync :=
  sync_op lib st S op h

/-! ### Tie to the ownership extractor (tools/consts.d/w2_ownership.py → `Rio.Consts`)

`SRouter.clone` shares exactly ONE kind of mutable state (the capture cells).  The extractor lists every line of
src/router, src/regex_radix_tree, src/regex.rs, src/marker, src/api/rule.rs that mentions interior mutability or a
way to write through a shared pointer.  Every such line is accounted for by the model:
* `sharedCellLines` — the cell `MarkerString.regex_capture` (declaration, construction = `allocM`, the one write =
  `MString.compile`, reached from `SRouter.cache`): MODELLED as the heap;
* `localCellLines` — the `RefCell` of `HostMatcher::remove`, a local of one call, never stored (value model:
  `HostT.remove`, `lastHit`);
* `importLines` — `use` lines.
A new lock / cell / atomic / `unsafe` / `Arc::get_mut` in those files changes the regenerated constant and this
theorem stops checking. -/

def sharedCellLines : List String :=
  ["src/marker/mod.rs: match self.regex_capture.write() {",
   "src/marker/mod.rs: regex_capture: Arc::new(RwLock::new(LazyRegex::new_leaf(capture.as_str(), ignore_case))),",
   "src/marker/mod.rs: regex_capture: Arc<RwLock<LazyRegex>>,"]

def localCellLines : List String :=
  ["src/router/request_matcher/host.rs: *removed_in_tree.borrow_mut() = Some(value);",
   "src/router/request_matcher/host.rs: let removed_in_tree = std::cell::RefCell::new(None);"]

def importLines : List String := ["src/marker/mod.rs: use std::sync::{Arc, RwLock};"]

theorem no_other_shared_mutable_state :
    (Rio.Consts.routerInteriorMutability.all
      (fun l => decide (l ∈ sharedCellLines ++ localCellLines ++ importLines))) = true ∧
    (sharedCellLines.all (fun l => decide (l ∈ Rio.Consts.routerInteriorMutability))) = true ∧
    Rio.Consts.routerManualClones = ["Item", "Leaf", "Node", "RegexTreeMap", "UniqueRegexTreeMap"] := by
  -- each membership is witnessed by a position in the literal list, so no two different strings are compared
  refine ⟨?_, ?_, rfl⟩
  · simp only [Rio.Consts.routerInteriorMutability, sharedCellLines, localCellLines, importLines, List.cons_append,
      List.nil_append, List.all_cons, List.all_nil, List.mem_cons, true_or, or_true, decide_true, Bool.and_self]
  · simp only [Rio.Consts.routerInteriorMutability, sharedCellLines, List.all_cons, List.all_nil, List.mem_cons,
      true_or, or_true, decide_true, Bool.and_self]

/-! ### Necessity: the theorem is about sharing

Variant (NOT the code, Model/RouterShare `AWorld`): the matcher tower sits in a heap cell and clone copies the
handle.  Then isolation is false for every matcher in which inserting some route changes some answer. -/

theorem isolation_needs_unshared_matcher (O : MOps) (r : Route) (q : Req)
    (h : O.matchReq (O.insert r O.empty) q ≠ O.matchReq O.empty q) : ¬ AWorld.Isolated O := by
  intro hiso
  have := hiso ⟨[O.empty], [(0, [])]⟩ [.clone 0, .insert 1 r] 0 q (by simp)
    (by
      intro s hs
      simp only [List.mem_cons, List.mem_nil_iff, or_false] at hs
      rcases hs with rfl | rfl
      · trivial
      · exact Nat.succ_ne_zero 0)
  simp [AWorld.run, AWorld.step, AWorld.matchReq] at this
  exact h this

def isoEnv : Env where
  alwaysAnyHost := true
  hostFind := fun _ _ => true
  pathFind := fun _ _ => true
  headerRegex := fun _ _ => true
  lower := id

def isoR : Route :=
  { id := "r", priority := 0, scheme := none, host := none, ips := none, methods := none, excludeMethods := none,
    headers := [], datetime := none, time := none, weekdays := none, path := .static "/a" }

def isoQ : Req :=
  { scheme := some "https", host := some "a.com", method := none, headers := [], ip := none, createdAt := none,
    path := "/a" }

/-- … in particular for the seven-layer tower of the code: a clone that shared the matcher cell (buckets, regex
trees) would make an insert into the clone answer through the original. -/
theorem isolation_needs_unshared_matcher_tower : ¬ AWorld.Isolated (towerOps isoEnv) :=
  isolation_needs_unshared_matcher (towerOps isoEnv) isoR isoQ (by decide)

/-! ### Non-vacuity: a world in which a write through a shared cell really happens

`tinyOps`: a one-bucket matcher whose `cache` hands its whole budget back (as the tower does when there is nothing
to compile), so that the second phase of `Router::cache` runs.  Router 0 inserts a marker route (cell 0 allocated),
is cloned, the CLONE runs `cache(Some(1))`: cell 0 — which router 0 holds — is overwritten with a compiled regex. -/

def tinyOps : MOps where
  M := List Route
  empty := []
  insert := fun r m => r :: m
  remove := fun id m => (m.filter (fun r => r.id != id), m.find? (fun r => r.id == id))
  batchRemove := fun ids m => m.filter (fun r => !ids.contains r.id)
  matchReq := fun m _ => m
  trace := fun _ _ => []
  len := fun m => m.length
  cache := fun limit _ m => (m, limit)

def tinyLib : RegexLib Str :=
  ⟨fun _ p => if p.contains '(' then none else some p, fun c s => if c = s then some [(['m'], s)] else none⟩

def tinyTpl : RouteTpl := ⟨none, .dynamic ⟨['a'], ['a'], false⟩, []⟩

def tinySteps : List Step := [.op 0 (.insert isoR tinyTpl), .clone 0, .op 1 (.cache (some 1))]

def tinyWorld : World Str tinyOps := ⟨[], [⟨RouterG.empty tinyOps, []⟩]⟩

theorem tinyWorld_wf : tinyWorld.WF tinyLib :=
  ⟨by intro r hr; simp [tinyWorld] at hr, by intro S hS e he; simp [tinyWorld] at hS; subst hS; simp at he⟩

/-- the hypotheses of `clone_isolation` hold of `tinyWorld` / router 0 / the first two steps followed by the clone's
`cache`, the clone's `cache` DOES overwrite the cell router 0 holds (`compiled` goes from `none` to `some`), and
router 0 holds that very handle. -/
theorem shared_write_happens :
    tinyWorld.WF tinyLib ∧
    let w1 := tinyWorld.run tinyLib (tinySteps.take 2)
    let w2 := w1.run tinyLib (tinySteps.drop 2)
    (∀ s ∈ tinySteps.drop 2, s.Spares 0) ∧
    (w1.routers[0]?.map fun S => S.marks.map fun e => e.2.pathAndQuery) =
      some [.dynamic ⟨['a'], ['a'], false, 0⟩] ∧
    (w1.store.map fun c => c.compiled) = [none] ∧
    (w2.store.map fun c => c.compiled) = [some ['^', 'a', '$']] := by
  refine ⟨tinyWorld_wf, ?_, by decide, by decide, by decide⟩
  intro s hs
  simp only [tinySteps, List.drop_succ_cons, List.drop_zero, List.mem_cons, List.mem_nil_iff, or_false] at hs
  subst hs
  exact Nat.succ_ne_zero 0

end Rio.C02
