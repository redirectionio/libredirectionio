/-
C16 — the HTML tokenizer is lossless and total on arbitrary bytes.

Model: `RioModel/Model/Html.lean` (function-by-function port of `/repo/src/html/mod.rs`; every Rust panic possibility is
the sticky flag `panic`, a non-terminating attribute loop is the sticky flag `hang`, `Err(FromUtf8Error)` from `next()`
is the flag `utf8Err`).  All theorems quantify over *every* input (`bytes : Array Nat`, no hypothesis on the content)
and every number of calls.  `nexts n t`: the state after `n` calls of `next()`; `rawL` / `restL` / `dataL`: the bytes of
the raw span, of the unread remainder (`buffered()`), of the data span (Proofs/HtmlNext).  `accessors_ok_of_utf8` in the
comments is the name the C16 entry of MANIFEST.json gives the three accessor theorems.  Second half: the raw-text
context (`raw_tag()`, `new_fragment`; the chunked html filter reads both), restart and prefix stability down to every
`tag_attr()` call, and what the attributes of a `Simple` start tag are.
-/
import RioModel.Proofs.HtmlNext
import RioModel.Proofs.HtmlContext
import RioModel.Proofs.HtmlClosedStart

namespace Rio.C16
open Rio.Html Rio.Html.Tokenizer

/-- The invariant holds initially (`Tokenizer::new`), for every input. -/
theorem new_inv (bytes : Array Nat) : Inv (Tokenizer.new bytes) :=
  ⟨Nat.le_refl _, ⟨Nat.zero_le _, rfl, rfl, rfl⟩, TagOk_nil⟩

/-- … and for `Tokenizer::new_fragment` with any context tag. -/
theorem newFragment_inv (bytes : Array Nat) (ctx : List Nat) : Inv (Tokenizer.newFragment bytes ctx) :=
  Tokenizer.newFragment_inv bytes ctx

/-- `raw.start ≤ raw.end ≤ len`, no panic, no hang, no `Err`, every byte of `raw_tag` ≥ 32 (`TagOk`: the `u8` subtraction
`raw_tag[i] - (b'a' - b'A')` of `read_raw_end_tag` does not underflow) — preserved by `next()`. -/
theorem next_inv (t : Tokenizer) (h : Inv t) : Inv (next t) := next_inv' t h

/-- `next()` never touches the input buffer. -/
theorem next_buf (t : Tokenizer) (h : Inv t) : (next t).buf = t.buf := next_buf' t h

theorem next_starts_where_previous_ended (t : Tokenizer) (h : Inv t) : (next t).rawS = t.rawE :=
  next_rawS' t h

/-- The span fields the accessors slice with are in range after `next()`. -/
theorem next_spans (t : Tokenizer) (h : Inv t) : Spans (next t) := (next_post t h).spans

/-- Every token other than `ErrorToken` consumes at least one byte. -/
theorem progress (t : Tokenizer) (h : Inv t) (hk : (next t).token ≠ .error) : (next t).rawS < (next t).rawE :=
  (next_post t h).progress hk

/-- After any number of `next()` calls on any input no modelled panic site fired (no `usize`/`u8` underflow, no index or
slice out of range), the attribute loop always made progress, and `next()` never returned `Err`.  (Also C07 for the
tokenizer.) -/
theorem no_panic (bytes : Array Nat) (n : Nat) :
    (nexts n (Tokenizer.new bytes)).panic = false ∧ (nexts n (Tokenizer.new bytes)).hang = false ∧
    (nexts n (Tokenizer.new bytes)).utf8Err = false :=
  let i := nexts_inv n _ (new_inv bytes)
  ⟨i.ok.panic, i.ok.hang, i.ok.utf8⟩

/-- `lossless` from any state -/
theorem lossless_of (t : Tokenizer) (h : Inv t) (n : Nat) :
    ((List.range n).map fun i => rawL (nexts (i + 1) t)).flatten ++ restL (nexts n t) = restL t := by
  have c := consumed_eq n _ h
  have hle := (nexts_inv n _ h).ok.le
  rw [nexts_buf n _ h] at hle
  rw [← c.1, restL, restL, nexts_buf n _ h]
  exact (extract_split t.buf t.rawE _ t.buf.size c.2 hle).symm

theorem restL_new (bytes : Array Nat) : restL (Tokenizer.new bytes) = bytes.toList := by
  show (bytes.extract 0 bytes.size).toList = _
  rw [Array.extract_size]

/-- After any number `n` of `next()` calls, the raw spans of the `n` tokens in order followed
by the unread remainder (`buffered()`) reproduce the input exactly. -/
theorem lossless (bytes : Array Nat) (n : Nat) :
    ((List.range n).map fun i => rawL (nexts (i + 1) (Tokenizer.new bytes))).flatten
      ++ restL (nexts n (Tokenizer.new bytes)) = bytes.toList :=
  (lossless_of _ (new_inv bytes) n).trans (restL_new bytes)

/-- the slices taken by `raw()` and `buffered()` are always in range and are the spans of `lossless` -/
theorem raw_buffered_ok (bytes : Array Nat) (n : Nat) :
    (nexts n (Tokenizer.new bytes)).raw = some (rawL (nexts n (Tokenizer.new bytes))) ∧
    (nexts n (Tokenizer.new bytes)).buffered = some (restL (nexts n (Tokenizer.new bytes))) :=
  ⟨raw_eq _ (nexts_inv n _ (new_inv bytes)), buffered_eq _ (nexts_inv n _ (new_inv bytes))⟩

/-- `token_count_le` from any state … -/
theorem token_count_le_of (t : Tokenizer) (h : Inv t) (n : Nat)
    (hne : ∀ i, i < n → (nexts (i + 1) t).token ≠ .error) : n ≤ t.buf.size - t.rawE := by
  have p := nexts_progress n _ h hne
  have hle := (nexts_inv n _ h).ok.le
  rw [nexts_buf n _ h] at hle
  omega

/-- … and `terminates` -/
theorem terminates_of (t : Tokenizer) (h : Inv t) :
    ∃ i, i ≤ t.buf.size - t.rawE ∧ (nexts (i + 1) t).token = .error := by
  apply Classical.byContradiction
  intro hno
  have := token_count_le_of t h (t.buf.size - t.rawE + 1) fun i hi he => hno ⟨i, by omega, he⟩
  omega

/-- At most one token per input byte … -/
theorem token_count_le (bytes : Array Nat) (n : Nat)
    (hne : ∀ i, i < n → (nexts (i + 1) (Tokenizer.new bytes)).token ≠ .error) : n ≤ bytes.size :=
  token_count_le_of _ (new_inv bytes) n hne

/-- … hence the tokenising loop terminates: an `ErrorToken` is returned within the first `len + 1` calls. -/
theorem terminates (bytes : Array Nat) :
    ∃ i, i ≤ bytes.size ∧ (nexts (i + 1) (Tokenizer.new bytes)).token = .error :=
  terminates_of _ (new_inv bytes)

/-- `accessors_ok_of_utf8` for `tag_name()`: on a start, end or self-closing tag token
`tag_name()` never panics, and returns `Ok((Some(name), has_attr))` when the bytes of the name are valid
UTF-8 (`Err(FromUtf8Error)` otherwise) — it never returns `None`, which discharges the `unwrap()`s in
`html_filter_body.rs` / `body_append.rs`.  (`name` = the data span, ASCII-lower-cased in the model.) -/
theorem tag_name_some (t : Tokenizer) (h : Inv t) (hk : isTagLike (next t).token = true) :
    (tagName (next t)).1 =
      (if validUtf8 (dataL (next t)) then
        .ok (some ((dataL (next t)).map lowerByte), decide ((next t).nAttrRet < (next t).attrs.size))
       else .utf8Err) ∧ dataL (next t) ≠ [] := by
  have s := next_spans t h
  have i := next_inv t h
  refine ⟨(tagName_spec _ i s hk).1, ?_⟩
  have hlt := s.tagData hk
  have hle := Nat.le_trans s.dataHi i.ok.le
  intro he
  have : (dataL (next t)).length = (next t).dataE - (next t).dataS := by
    rw [dataL, Array.length_toList, Array.size_extract, Nat.min_eq_left hle]
  rw [he, List.length_nil] at this
  omega

/-- `accessors_ok_of_utf8` for `text()`: on a text, comment or doctype token `text()` never panics and
returns `Ok(Some(..))` exactly when the data span is valid UTF-8. -/
theorem text_ok_of_utf8 (t : Tokenizer) (h : Inv t) (hk : isTextLike (next t).token = true) :
    (text (next t)).1 =
      (if validUtf8 (dataL (next t)) then
        .ok (some (if (next t).convertNull || ((next t).token == .text && (dataL (next t)).contains 0)
          then replaceNul (dataL (next t)) else dataL (next t)))
       else .utf8Err) :=
  (text_spec _ (next_inv t h) (next_spans t h) hk).1

/-- `accessors_ok_of_utf8` for `tag_attr()`: in any state with in-range saved attribute spans (true
after `next()` on a start / self-closing token, and preserved by `tag_name()` and by `tag_attr()`
itself) `tag_attr()` never panics, keeps the invariants, and returns `Ok((Some(key), Some(value), more))`
when key and value bytes are valid UTF-8. -/
theorem tag_attr_ok_of_utf8 (t : Tokenizer) (h : Inv t) (ha : AttrsOk t) :
    (tagAttr t).1 ≠ .panic ∧ Inv (tagAttr t).2 ∧ AttrsOk (tagAttr t).2 ∧
    (∀ (hi : t.nAttrRet < t.attrs.size), (t.token = .startTag ∨ t.token = .selfClosing) →
      validUtf8 (t.buf.extract t.attrs[t.nAttrRet].ks t.attrs[t.nAttrRet].ke).toList = true →
      validUtf8 (t.buf.extract t.attrs[t.nAttrRet].vs t.attrs[t.nAttrRet].ve).toList = true →
      (tagAttr t).1 = .ok (some ((t.buf.extract t.attrs[t.nAttrRet].ks t.attrs[t.nAttrRet].ke).toList.map lowerByte),
        some (t.buf.extract t.attrs[t.nAttrRet].vs t.attrs[t.nAttrRet].ve).toList,
        decide (t.nAttrRet + 1 < t.attrs.size))) :=
  let ⟨np, inv, ao, _, val⟩ := tagAttr_spec t h ha
  ⟨np, inv, ao, val⟩

/-- the precondition of `tag_attr_ok_of_utf8` holds after `next()` and then `tag_name()` -/
theorem attrs_ok_after_tag_name (t : Tokenizer) (h : Inv t)
    (hk : (next t).token = .startTag ∨ (next t).token = .selfClosing) :
    Inv (tagName (next t)).2 ∧ AttrsOk (tagName (next t)).2 := by
  have s := next_spans t h
  have i := next_inv t h
  obtain ⟨-, ninv, nattrs, -, -, nbuf⟩ := tagName_spec _ i s (isTagLike_start hk)
  refine ⟨ninv, ?_⟩
  intro a ha
  rw [nattrs] at ha
  rw [nbuf]
  exact (s.attrs hk).1 a ha

/-- Calling `text()` between two `next()` calls is invisible to `next()`: it only resets the data span,
which `next()` overwrites first thing.  (So the theorems about `nexts` cover the interleaved use.) -/
theorem next_after_text (t : Tokenizer) (h : (text t).1 ≠ .panic) : next (text t).2 = next t :=
  (text_dataFrame t h).next

/-- The same for `tag_name()`. -/
theorem next_after_tag_name (t : Tokenizer) (h : (tagName t).1 ≠ .panic) : next (tagName t).2 = next t :=
  (tagName_dataFrame t h).next

/-- `tag_attr()` only advances `number_attribute_returned`. -/
theorem tag_attr_frame (t : Tokenizer) (h : (tagAttr t).1 ≠ .panic) :
    ∃ k, (tagAttr t).2 = { t with nAttrRet := k } := by
  rcases tagAttr_snd t with hp | he
  · exact absurd hp h
  · rw [he]; split
    · exact ⟨_, rfl⟩
    · exact ⟨t.nAttrRet, rfl⟩

/-! Non-vacuity: the theorems have no hypothesis on the input; `Inv` is inhabited by every initial state
(`new_inv`).  A concrete evaluation of the model, on `<a>b`: -/
example : (nexts 1 (Tokenizer.new #[60, 97, 62, 98])).token = .startTag ∧
    rawL (nexts 1 (Tokenizer.new #[60, 97, 62, 98])) = [60, 97, 62] ∧
    (nexts 2 (Tokenizer.new #[60, 97, 62, 98])).token = .text ∧
    rawL (nexts 2 (Tokenizer.new #[60, 97, 62, 98])) = [98] ∧
    (nexts 3 (Tokenizer.new #[60, 97, 62, 98])).token = .error ∧
    restL (nexts 3 (Tokenizer.new #[60, 97, 62, 98])) = [] := by
  decide +kernel

/-- `tag_name_some` is not vacuous: `<A b=c>` is a start tag named `a` with one attribute. -/
example : (tagName (next (Tokenizer.new #[60, 65, 32, 98, 61, 99, 62]))).1 matches .ok (some [97], true) := by
  decide +kernel

/-- `tag_name()` is single-use: after a successful call the data span is reset, so a SECOND call on the
same token returns `Ok((None, false))` — `tag_name_some` is about the first call after `next()`, which is the only one the
filters make. -/
theorem tag_name_second_call (t : Tokenizer) (x : Option (List Nat) × Bool) (h : (tagName t).1 = .ok x)
    (hx : x.1 ≠ none) : (tagName (tagName t).2).1 = .ok (none, false) := by
  obtain ⟨_ | n, b⟩ := x
  · exact absurd rfl hx
  · rw [tagName_snd, h]
    show (tagName (dropData t)).1 = _
    rw [tagName_of_empty _ rfl]

/-- **`new_fragment`** keeps its (lower-cased) context tag iff it is one of the ten raw-text element names
`read_start_tag` can store (both tables regenerated from the source); any other name — and "" — gives no context. -/
theorem new_fragment_context (bytes : Array Nat) (ctx : List Nat) :
    (Tokenizer.newFragment bytes ctx).rawTag = if ctx ∈ Rio.Consts.htmlFragmentRawTags then ctx else [] :=
  newFragment_rawTag bytes ctx

/-- the two tables agree: `new_fragment` accepts exactly the names `read_start_tag` can set -/
theorem context_tables_agree (s : List Nat) :
    s ∈ Rio.Consts.htmlFragmentRawTags ↔ s ∈ Rio.Consts.htmlRawDispatch.flatMap (·.2) :=
  ⟨fragment_sub_rawNames s, rawNames_sub_fragment s⟩

/-- **`raw_tag()` after `next()`**; an old context is kept only once `err` is set or in the `plaintext` context. -/
theorem raw_tag_after_next (t : Tokenizer) (h : Inv t) :
    (next t).rawTag = [] ∨
    ((next t).rawTag ∈ Rio.Consts.htmlFragmentRawTags ∧ ((next t).token = .startTag ∨ (next t).token = .selfClosing) ∧
      (next t).err = false) ∨
    ((next t).rawTag = t.rawTag ∧ (t.err = true ∨ t.rawTag = Rio.Consts.htmlPlaintext)) :=
  next_ctx t h

/-- `raw_tag()` is always "" or one of the ten names, from `new` / `new_fragment` on, for every input -/
theorem raw_tag_is_context (bytes : Array Nat) (ctx : List Nat) (n : Nat) :
    RawCtx (nexts n (Tokenizer.newFragment bytes ctx)).rawTag :=
  nexts_rawCtx n _ (newFragment_inv bytes ctx) (newFragment_rawCtx bytes ctx)

/-- **RESTART in any context**: at a token boundary where `err()` is unset, the tokenizer continues exactly like
`new_fragment(unread bytes, raw_tag())` (positions shifted by `raw.end`): same token types, spans, `err`, `raw_tag`.
(`CoreT`: HtmlSimNext; its `True` says that the second buffer is ALL of the first from `raw.end` on.) -/
theorem restart_in_context (bytes : Array Nat) (ctx : List Nat) (k n : Nat) (hn : 0 < n)
    (herr : (nexts k (Tokenizer.newFragment bytes ctx)).err = false) :
    CoreT True (nexts k (Tokenizer.newFragment bytes ctx)).rawE
      (nexts n (nexts k (Tokenizer.newFragment bytes ctx)))
      (nexts n (restartCtx (nexts k (Tokenizer.newFragment bytes ctx)))) :=
  nexts_restart_ctx n _ (nexts_inv k _ (newFragment_inv bytes ctx)) herr (raw_tag_is_context bytes ctx k) hn

/-- **a call of `next()` that sets `err` ends at the end of the data** (so `raw() ++ buffered()` of a cut token is the
unread suffix that starts at the token's first byte), and tag tokens are never cut. -/
theorem cut_token_ends_at_eof (bytes : Array Nat) (ctx : List Nat) (k : Nat)
    (herr : (nexts (k + 1) (Tokenizer.newFragment bytes ctx)).err = true) :
    (nexts (k + 1) (Tokenizer.newFragment bytes ctx)).rawE = bytes.size ∧
    isTagLike (nexts (k + 1) (Tokenizer.newFragment bytes ctx)).token = false := by
  have inv := nexts_inv k _ (newFragment_inv bytes ctx)
  obtain ⟨fb, -, -, fe, -⟩ := newFragment_fields bytes ctx
  have eg : ErrGe (nexts k (Tokenizer.newFragment bytes ctx)) :=
    nexts_errGe k _ (fun h => by rw [fe] at h; cases h)
  refine ⟨?_, ?_⟩
  · have h1 : (nexts (k + 1) (Tokenizer.newFragment bytes ctx)).rawE =
        (nexts (k + 1) (Tokenizer.newFragment bytes ctx)).buf.size := next_cut_end _ inv eg herr
    rw [Tokenizer.nexts_buf (k + 1) _ (newFragment_inv bytes ctx), fb] at h1
    exact h1
  · cases hk : isTagLike (nexts (k + 1) (Tokenizer.newFragment bytes ctx)).token with
    | false => rfl
    | true =>
      have := next_tag_not_cut _ inv hk
      rw [show next (nexts k (Tokenizer.newFragment bytes ctx)) = nexts (k + 1) (Tokenizer.newFragment bytes ctx) from rfl,
        herr] at this
      cases this

/-- not vacuous: in the context `title` the bytes `a<b></title>x` are one text token up to the end tag, then the context
is left; in no context `<b>` is a tag -/
example :
    (nexts 1 (Tokenizer.newFragment #[97, 60, 98, 62, 60, 47, 116, 105, 116, 108, 101, 62, 120] [116, 105, 116, 108, 101])).token = .text ∧
    rawL (nexts 1 (Tokenizer.newFragment #[97, 60, 98, 62, 60, 47, 116, 105, 116, 108, 101, 62, 120] [116, 105, 116, 108, 101])) = [97, 60, 98, 62] ∧
    (nexts 1 (Tokenizer.newFragment #[97, 60, 98, 62, 60, 47, 116, 105, 116, 108, 101, 62, 120] [116, 105, 116, 108, 101])).rawTag = [] ∧
    (nexts 2 (Tokenizer.newFragment #[97, 60, 98, 62, 60, 47, 116, 105, 116, 108, 101, 62, 120] [116, 105, 116, 108, 101])).token = .endTag ∧
    rawL (nexts 2 (Tokenizer.newFragment #[97, 60, 98, 62] [])) = [60, 98, 62] := by
  decide +kernel

/-- the state after `k` calls of `tag_attr()` -/
def attrCalls : Nat → Tokenizer → Tokenizer
  | 0, t => t
  | k + 1, t => attrCalls k (tagAttr t).2

/-- One `tag_attr()` on two states related by `Pre` (HtmlSimNext: `Core` without the span fields other than `raw.end`) and
`Sav` (HtmlSimTag: the saved attribute spans equal up to the shift `p`, the same `number_attribute_returned`) returns the
same and keeps all five hypotheses.  `attrCalls_sim` iterates it; `attrCalls_of_sim` starts it from a `CoreTA`
(HtmlSimNext: what `nexts_simA` and `nexts_restart_ctxA` conclude). -/
theorem tagAttr_step {F : Prop} {p : Nat} {t u : Tokenizer} (c : Pre F p t u) (sv : Sav p t u) (inv : Inv u)
    (ha : AttrsOk u) (htok : t.token = u.token) :
    (tagAttr t).1 = (tagAttr u).1 ∧ Pre F p (tagAttr t).2 (tagAttr u).2 ∧ Sav p (tagAttr t).2 (tagAttr u).2 ∧
    Inv (tagAttr u).2 ∧ AttrsOk (tagAttr u).2 ∧ (tagAttr t).2.token = (tagAttr u).2.token := by
  have s := tagAttr_sim c sv ha htok
  obtain ⟨unp, uinv, uao, -⟩ := tagAttr_spec u inv ha
  have hnt : (tagAttr t).1 ≠ .panic := by rw [s.1]; exact unp
  obtain ⟨kt, et⟩ := tag_attr_frame t hnt
  obtain ⟨ku, eu⟩ := tag_attr_frame u unp
  refine ⟨s.1, ?_, s.2, uinv, uao, ?_⟩
  · rw [et, eu]
    exact ⟨c.size, c.agree, c.full, c.rawE, c.err, c.rawTag, c.cdata, c.panic, c.hang, c.utf8⟩
  · rw [et, eu]; exact htok

theorem attrCalls_sim {F : Prop} {p : Nat} : ∀ (k : Nat) {t u : Tokenizer}, Pre F p t u → Sav p t u → Inv u →
    AttrsOk u → t.token = u.token → (tagAttr (attrCalls k t)).1 = (tagAttr (attrCalls k u)).1
  | 0, _, _, c, sv, inv, ha, htok => (tagAttr_step c sv inv ha htok).1
  | k + 1, _, _, c, sv, inv, ha, htok => by
    obtain ⟨_, c', sv', inv', ha', htok'⟩ := tagAttr_step c sv inv ha htok
    exact attrCalls_sim k c' sv' inv' ha' htok'

theorem attrCalls_of_sim {F : Prop} {p : Nat} {t u : Tokenizer} (n : Nat) (hn : 0 < n)
    (s : CoreTA F p (nexts n t) (nexts n u)) (inv : Inv u)
    (hk : (nexts n u).token = .startTag ∨ (nexts n u).token = .selfClosing) (k : Nat) :
    (tagAttr (attrCalls k (nexts n t))).1 = (tagAttr (attrCalls k (nexts n u))).1 := by
  obtain ⟨m, rfl⟩ : ∃ m, n = m + 1 := ⟨n - 1, by omega⟩
  have sp := next_spans _ (nexts_inv m _ inv)
  exact attrCalls_sim k s.1.1.toPre (s.2 (isTagLike_start hk)) (nexts_inv (m + 1) _ inv) (sp.attrs hk).1 s.1.2

/-- **prefix stability of EVERY `tag_attr()` call**: if the `n`-th `next()` did not hit the end of the data and returned a
start / self-closing tag, then for every `k` the `(k+1)`-th `tag_attr()` on the extended input returns what it returns on
the original input -/
theorem tag_attr_prefix_stable_all (bytes ext : Array Nat) (ctx : List Nat) (n : Nat) (hn : 0 < n)
    (hne : (nexts n (Tokenizer.newFragment bytes ctx)).err = false)
    (hk : (nexts n (Tokenizer.newFragment bytes ctx)).token = .startTag ∨
      (nexts n (Tokenizer.newFragment bytes ctx)).token = .selfClosing) (k : Nat) :
    (tagAttr (attrCalls k (nexts n (extend (Tokenizer.newFragment bytes ctx) ext)))).1 =
      (tagAttr (attrCalls k (nexts n (Tokenizer.newFragment bytes ctx)))).1 := by
  have inv := newFragment_inv bytes ctx
  exact attrCalls_of_sim n hn (nexts_simA n _ _ (pre_extend (Tokenizer.newFragment bytes ctx) ext) inv (Or.inr hne) hn)
    inv hk k

/-- … and after a restart (any context): every `tag_attr()` call returns the same -/
theorem tag_attr_restart_all (bytes : Array Nat) (ctx : List Nat) (k n : Nat) (hn : 0 < n)
    (herr : (nexts k (Tokenizer.newFragment bytes ctx)).err = false)
    (hk : (nexts n (restartCtx (nexts k (Tokenizer.newFragment bytes ctx)))).token = .startTag ∨
      (nexts n (restartCtx (nexts k (Tokenizer.newFragment bytes ctx)))).token = .selfClosing) (j : Nat) :
    (tagAttr (attrCalls j (nexts n (nexts k (Tokenizer.newFragment bytes ctx))))).1 =
      (tagAttr (attrCalls j (nexts n (restartCtx (nexts k (Tokenizer.newFragment bytes ctx)))))).1 := by
  have inv := nexts_inv k _ (newFragment_inv bytes ctx)
  have hc := raw_tag_is_context bytes ctx k
  exact attrCalls_of_sim n hn (nexts_restart_ctxA n _ inv herr hc hn) (restartCtx_inv _ inv hc) hk j

/-- **prefix stability of `tag_attr()`**: if the `n`-th `next()` did not hit the end of the data and returned a start /
self-closing tag, then on EVERY extension of the input the same call returns a tag with the same attribute spans, and
the first `tag_attr()` returns the same key / value / has-more (the case `k = 0` of `tag_attr_prefix_stable_all`) -/
theorem tag_attr_prefix_stable (bytes ext : Array Nat) (ctx : List Nat) (n : Nat) (hn : 0 < n)
    (hne : (nexts n (Tokenizer.newFragment bytes ctx)).err = false)
    (hk : (nexts n (Tokenizer.newFragment bytes ctx)).token = .startTag ∨
      (nexts n (Tokenizer.newFragment bytes ctx)).token = .selfClosing) :
    Sav 0 (nexts n (extend (Tokenizer.newFragment bytes ctx) ext)) (nexts n (Tokenizer.newFragment bytes ctx)) ∧
    (tagAttr (nexts n (extend (Tokenizer.newFragment bytes ctx) ext))).1 =
      (tagAttr (nexts n (Tokenizer.newFragment bytes ctx))).1 :=
  have s := nexts_simA n _ _ (pre_extend (Tokenizer.newFragment bytes ctx) ext) (newFragment_inv bytes ctx) (Or.inr hne) hn
  ⟨s.2 (isTagLike_start hk), tag_attr_prefix_stable_all bytes ext ctx n hn hne hk 0⟩

/-- **restart and `tag_attr()`**: after a restart at a token boundary (any context) a tag token has the attribute spans
of the continued tokenizer shifted by the restart position, and `tag_attr()` returns the same -/
theorem tag_attr_restart (bytes : Array Nat) (ctx : List Nat) (k n : Nat) (hn : 0 < n)
    (herr : (nexts k (Tokenizer.newFragment bytes ctx)).err = false)
    (hk : (nexts n (restartCtx (nexts k (Tokenizer.newFragment bytes ctx)))).token = .startTag ∨
      (nexts n (restartCtx (nexts k (Tokenizer.newFragment bytes ctx)))).token = .selfClosing) :
    (tagAttr (nexts n (nexts k (Tokenizer.newFragment bytes ctx)))).1 =
      (tagAttr (nexts n (restartCtx (nexts k (Tokenizer.newFragment bytes ctx))))).1 :=
  tag_attr_restart_all bytes ctx k n hn herr hk 0

/-- **the attribute texts of a start tag of the `Simple` grammar** (`Tokenizer.attrs_texts` of the closed forms, restated
so that it is audited): on `<name attrs trail (> | />)` — any name `read_tag_name` accepts, attributes in every quoting style with optional
white space around `=` — the slices `tag_attr()` takes from the saved spans are, in order, the keys and the values (without
quotes, `[]` for a bare key), and `number_attribute_returned = 0` -/
theorem attrs_texts (t : Tokenizer) (disp : Bytes) (as : List SAttr) (trail : Bytes) (e : TagEnd)
    (ok : Ok t) (he : t.err = false) (htag : t.rawTag = []) (hn : nameOK2 disp = true)
    (hok : ∀ a ∈ as, a.ok = true) (htr : ∀ b ∈ trail, isWs b = true) (hend : endOK as trail e = true)
    (h : Has t t.rawE ([60] ++ disp ++ attrsOf as ++ trail ++ e.text)) :
    (next t).attrs.toList.map (fun s => ((t.buf.extract s.ks s.ke).toList, (t.buf.extract s.vs s.ve).toList)) =
      as.map (fun a => (a.key, a.val.value)) ∧ (next t).nAttrRet = 0 :=
  Tokenizer.attrs_texts t disp as trail e ok he htag hn hok htr hend h

theorem attrCalls_state : ∀ (i : Nat) (s : Tokenizer), Inv s → AttrsOk s → (s.token = .startTag ∨ s.token = .selfClosing) →
    s.nAttrRet + i ≤ s.attrs.size → attrCalls i s = { s with nAttrRet := s.nAttrRet + i }
  | 0, s, _, _, _, _ => rfl
  | i + 1, s, inv, ha, hk, hle => by
    have sp := tagAttr_spec s inv ha
    have hlt : s.nAttrRet < s.attrs.size := by omega
    have hkb : (s.token == .startTag || s.token == .selfClosing) = true := by rcases hk with h | h <;> rw [h] <;> rfl
    have hst : (tagAttr s).2 = { s with nAttrRet := s.nAttrRet + 1 } := by
      rcases tagAttr_snd s with hp | h
      · exact absurd hp sp.1
      · rw [h, if_pos ⟨hlt, hkb⟩]
    simp only [attrCalls]
    rw [hst, attrCalls_state i ({ s with nAttrRet := s.nAttrRet + 1 } : Tokenizer)
      ⟨inv.raw, inv.ok.congr, inv.tag⟩ (show AttrsOk _ from ha) hk
      (by show s.nAttrRet + 1 + i ≤ s.attrs.size; omega)]
    show ({ s with nAttrRet := s.nAttrRet + 1 + i } : Tokenizer) = _
    rw [show s.nAttrRet + 1 + i = s.nAttrRet + (i + 1) by omega]

/-- the last clause of `tagAttr_spec` with the attribute named through `getElem?`: no index proof in the statement, so it
applies as it stands to a state written as a record update -/
theorem tagAttr_at (s : Tokenizer) (inv : Inv s) (ha : AttrsOk s) (hk : s.token = .startTag ∨ s.token = .selfClosing)
    {sp : AttrSpan} (hsp : s.attrs[s.nAttrRet]? = some sp) {k v : List Nat}
    (ek : (s.buf.extract sp.ks sp.ke).toList = k) (ev : (s.buf.extract sp.vs sp.ve).toList = v)
    (hvk : validUtf8 k = true) (hvv : validUtf8 v = true) :
    (tagAttr s).1 = .ok (some (k.map lowerByte), some v, decide (s.nAttrRet + 1 < s.attrs.size)) := by
  obtain ⟨hi, rfl⟩ := Array.getElem?_eq_some_iff.mp hsp
  subst ek ev
  exact (tagAttr_spec s inv ha).2.2.2.2 hi hk hvk hvv

/-- **the `i`-th `tag_attr()`** (0-based) on such a tag returns `(key_i lower-cased, value_i verbatim,
i + 1 < n)`, provided key and value are valid UTF-8 (else it returns `Err(FromUtf8Error)`, `tag_attr_ok_of_utf8`) -/
theorem tag_attr_ith (t : Tokenizer) (disp : Bytes) (as : List SAttr) (trail : Bytes) (e : TagEnd)
    (inv : Inv t) (he : t.err = false) (htag : t.rawTag = []) (hn : nameOK2 disp = true)
    (hok : ∀ a ∈ as, a.ok = true) (htr : ∀ b ∈ trail, isWs b = true) (hend : endOK as trail e = true)
    (h : Has t t.rawE ([60] ++ disp ++ attrsOf as ++ trail ++ e.text))
    (i : Nat) (hi : i < as.length) (hvk : validUtf8 as[i].key = true) (hvv : validUtf8 as[i].val.value = true) :
    (tagAttr (attrCalls i (next t))).1 =
      .ok (some (as[i].key.map lowerByte), some as[i].val.value, decide (i + 1 < as.length)) := by
  obtain ⟨⟨pc, _, _⟩, spans, r1, r2, r3⟩ := start_tag_closed t disp as trail e inv.ok he htag hn hok htr hend h
  have hk : (next t).token = .startTag ∨ (next t).token = .selfClosing := by
    rw [pc.token]; cases e <;> simp [TagEnd.kind]
  have i1 := next_inv t inv
  have ha : AttrsOk (next t) := ((next_spans t inv).attrs hk).1
  have hlen : spans.length = as.length := r2.length
  have hsz : (next t).attrs.size = as.length := by rw [r1]; simpa using hlen
  have hi' : i < spans.length := by rw [hlen]; exact hi
  obtain ⟨k1, k2, v1, v2⟩ := r2.get i hi' hi
  rw [attrCalls_state i (next t) i1 ha hk (by rw [r3, hsz]; omega), r3, Nat.zero_add]
  have := tagAttr_at { next t with nAttrRet := i } ⟨i1.raw, i1.ok.congr, i1.tag⟩ ha hk
    (sp := spans[i]) (by show (next t).attrs[i]? = _; rw [r1]; simp [hi'])
    (by show ((next t).buf.extract _ _).toList = _; rw [pc.buf, k2]; exact extract_of_has k1)
    (by show ((next t).buf.extract _ _).toList = _; rw [pc.buf, v2]; exact extract_of_has v1) hvk hvv
  rw [this]
  show Res.ok (_, _, decide (i + 1 < (next t).attrs.size)) = _
  rw [hsz]

/-! Non-vacuity of `attrs_texts` / `tag_attr_ith`, the four `example`s below: `<A b=c D='e f' g>` — unquoted value,
single-quoted value with a space and an upper-case key, bare key — satisfies the hypotheses, the texts are
`[(b, c), (D, e f), (g, "")]` and the three `tag_attr()` calls return `(b, c, true)`, `(d, e f, true)`, `(g, "", false)`
(kernel evaluation of the model). -/
def exAttrs : List SAttr :=
  [{ ws := [32], key := [98], val := .unq [99] }, { ws := [32], key := [68], val := .sq [101, 32, 102] },
   { ws := [32], key := [103], val := .none }]

def exTag : List Nat := [60, 65, 32, 98, 61, 99, 32, 68, 61, 39, 101, 32, 102, 39, 32, 103, 62]

example : exTag = [60] ++ [65] ++ attrsOf exAttrs ++ [] ++ TagEnd.gt.text := by decide

example :
    (next (Tokenizer.new exTag.toArray)).attrs.toList.map (fun s =>
      (((Tokenizer.new exTag.toArray).buf.extract s.ks s.ke).toList, ((Tokenizer.new exTag.toArray).buf.extract s.vs s.ve).toList)) =
      [([98], [99]), ([68], [101, 32, 102]), ([103], [])] :=
  (attrs_texts (Tokenizer.new exTag.toArray) [65] exAttrs [] .gt ⟨Nat.zero_le _, rfl, rfl, rfl⟩ rfl rfl (by decide)
    (by decide) (by simp) rfl (has_new exTag)).1

example :
    ((tagAttr (attrCalls 0 (next (Tokenizer.new exTag.toArray)))).1 matches .ok (some [98], some [99], true)) ∧
    ((tagAttr (attrCalls 1 (next (Tokenizer.new exTag.toArray)))).1 matches .ok (some [100], some [101, 32, 102], true)) ∧
    ((tagAttr (attrCalls 2 (next (Tokenizer.new exTag.toArray)))).1 matches .ok (some [103], some [], false)) := by
  decide +kernel

/-- `tag_attr_ith` instantiated on the same tag: its hypotheses hold (second attribute, upper-case key `D` → `d`) -/
example : (tagAttr (attrCalls 1 (next (Tokenizer.new exTag.toArray)))).1 =
    .ok (some ([68].map lowerByte), some [101, 32, 102], decide (1 + 1 < exAttrs.length)) :=
  tag_attr_ith (Tokenizer.new exTag.toArray) [65] exAttrs [] .gt (new_inv _) rfl rfl (by decide) (by decide) (by simp) rfl
    (has_new exTag) 1 (by decide) (by decide) (by decide)

end Rio.C16
