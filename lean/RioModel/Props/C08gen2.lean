/-
C08 (insertion into the radix tree) for `Node::insert`, `Leaf::new`, `Leaf::insert` REGENERATED FROM THE SOURCE.

`Rio.Consts.genNodeInsert` / `genNodeInsertLoop` (src/regex_radix_tree/node.rs) and `genLeafNew` / `genLeafInsert`
(src/regex_radix_tree/leaf.rs) are translated on every run by tools/consts.d/w4_translate_w23_tree_insert.py: the node's own
prefix size `chars().count() as u32` (chars, with the truncating cast kept as `% 2^32`), the split with early `return`, the
child-selection loop with `self.children[i]` (explicit panic outcome), `remove` + `insert` + `push`, the new cells built by
the translated `LazyRegex::new_node` / `new_leaf` (section tr_w20_lazyregex: `compiled = None`), the scanner
`genCommonPrefixCharSize` (section w4_translate_scan).  Abstract: the item / map types and constructors, `Item::regex`, the recursive
call, `get_prefix_with_char_size` and `common_prefix` (instantiated here by the model's).

The Rust side is `GItem ρ ι V` (Proofs/TreeInsertGen.lean): items whose cells are translated `GenLazyRegex ρ` records; `repI val`
is the field-by-field representation of a model item.  `Item::insert` (item.rs) is translated too (`genItemInsert` over the generated
one-layer view `GenItemView` of the enum).  Theorems: translated = model for each function, for every state and input
(the only hypothesis: the node's own prefix has < 2^32 chars), then for the whole recursion (`gInsert`, translated step iterated
with fuel), and `insert_replaces` / `inv_insert` restated for it: the translated insertion does not panic and stores exactly
the new entry plus every old entry not under (pattern, id).
-/
import RioModel.Props.C08
import RioModel.Proofs.TreeInsertGen

namespace Rio.C08
open Rio.Scan Rio.Consts Rio.Tree Rio.LazyRegexGen Rio.TreeInsertGen

variable {ρ ι V : Type} [DecidableEq ι]

/-- `Leaf::new` translated (map = association list) is the model's `newLeafItem`. -/
theorem gen_leaf_new_eq_model (val : Compiled → ρ) (p : List Char) (id : ι) (v : V) (ic : Bool) :
    (GItem.leaf (genLeafNew ([] : List (ι × V)) upsert p id v ic : List (ι × V) × GenLazyRegex ρ).1
        (genLeafNew ([] : List (ι × V)) upsert p id v ic : List (ι × V) × GenLazyRegex ρ).2 : GItem ρ ι V)
      = repI val (newLeafItem p id v ic) := leafNew_eq val p id v ic

/-- **`Leaf::insert` translated = the model's `leafInsert`** for every leaf (any cell, compiled or not). -/
theorem gen_leaf_insert_eq_model (val : Compiled → ρ) (rx : LazyRegex) (vs : List (ι × V)) (p : List Char) (id : ι) (v : V) :
    genLeafInsert GItem.node GItem.leaf ([] : List (ι × V)) upsert commonPrefix vs (toGen val rx) p id v
      = repI val (leafInsert rx vs p id v) := leafInsert_eq val rx vs p id v

/-- The translated child-selection loop is the model's `selLoop` (and never hits the index panic). -/
theorem gen_node_insert_loop_eq_model (val : Compiled → ρ) (p : List Char) (cs : List (Item ι V)) (mx : Nat) :
    (genNodeInsertLoop GItem.regex p (repL val cs) (List.range (repL val cs).length) (mx, none)).map Prod.snd
      = some (selLoop p (cs.map Item.regex) 0 mx none) := loop_eq0 val p cs mx

/-- **`Node::insert` translated = the model's `Item.insert` on a node**; `F` is the recursive call.  Hypothesis (char count): the node's
own prefix has fewer than 2^32 chars. -/
theorem gen_node_insert_eq_model (val : Compiled → ρ) (F : GItem ρ ι V → List Char → ι → V → Option (GItem ρ ι V))
    (rx : LazyRegex) (cs : List (Item ι V)) (p : List Char) (id : ι) (v : V)
    (hlen : rx.original.length < 4294967296)
    (hF : ∀ c ∈ cs, F (repI val c) p id v = some (repI val (c.insert p id v))) :
    genNodeInsert GItem.node GItem.leaf GItem.regex ([] : List (ι × V)) upsert getPrefixWithCharSize F (toGen val rx) (repL val cs) p id v
      = some (repI val ((Item.node rx cs).insert p id v)) := nodeInsert_eq val F rx cs p id v hlen hF

/-- The step equivalence WITHOUT the char-count hypothesis. -/
def GenNodeInsertFull : Prop :=
  ∀ (F : GItem Compiled Nat Nat → List Char → Nat → Nat → Option (GItem Compiled Nat Nat))
    (rx : LazyRegex) (cs : List (Item Nat Nat)) (p : List Char) (k v : Nat),
    (∀ c ∈ cs, F (repI (fun x => x) c) p k v = some (repI (fun x => x) (c.insert p k v))) →
    genNodeInsert GItem.node GItem.leaf GItem.regex ([] : List (Nat × Nat)) upsert getPrefixWithCharSize F
        (toGen (fun x => x) rx) (repL (fun x => x) cs) p k v
      = some (repI (fun x => x) ((Item.node rx cs).insert p k v))

/-- **It is false of the code as it is**: `self.regex.original.chars().count() as u32` truncates.  Witness: a node whose prefix is
2^32 times `a`, no children, inserting `b`: the source computes `max_prefix_size = 0`, does not split and pushes a leaf UNDER the
node; the model (which uses the untruncated char count) splits above it.  (Only reachable with a 4 GiB pattern; `gen_node_insert_eq_model`
is the `_partial` form with the exact hypothesis.) -/
theorem gen_node_insert_full_fails : ¬ GenNodeInsertFull := by
  intro h
  exact nodeInsert_trunc 4294967295 (by decide)
    (h (fun _ _ _ _ => none) (LazyRegex.newNode (List.replicate (4294967295 + 1) 'a') false) [] ['b'] 0 0 (by simp))

/-- the three-way `match` of the translated `Item::insert`, spelled out -/
theorem gen_item_insert_dispatch (n : Nat) (p : List Char) (id : ι) (v : V) :
    (∀ ic, gInsert (n + 1) (GItem.empty ic : GItem ρ ι V) p id v
        = some (.leaf (genLeafNew ([] : List (ι × V)) upsert p id v ic : List (ι × V) × GenLazyRegex ρ).1
                      (genLeafNew ([] : List (ι × V)) upsert p id v ic : List (ι × V) × GenLazyRegex ρ).2)) ∧
    (∀ vs (g : GenLazyRegex ρ), gInsert (n + 1) (GItem.leaf vs g) p id v = some (gLeafInsert vs g p id v)) ∧
    (∀ (g : GenLazyRegex ρ) cs, gInsert (n + 1) (GItem.node g cs) p id v = gNodeInsert (gInsert n) g cs p id v) :=
  ⟨fun _ => rfl, fun _ _ => rfl, fun _ _ => rfl⟩

/-- **The whole recursion** (`gInsert n`, Proofs/TreeInsertGen.lean: all four functions translated, recursion depth ≤ `n`): no panic,
no fuel exhaustion. -/
theorem gen_insert_eq_model (val : Compiled → ρ) (n : Nat) (t : Item ι V) (p : List Char) (id : ι) (v : V)
    (hs : Small t) (hn : sizeOf t < n) :
    gInsert n (repI val t) p id v = some (repI val (t.insert p id v)) := gInsert_eq val n t p id v hs hn

/-- **`insert_replaces` and `inv_insert` for the translated insertion**: on a tree satisfying the invariant it returns normally, and
the result represents a tree that satisfies the invariant and stores the new entry plus every old entry NOT under (p, id). -/
theorem gen_insert_replaces (val : Compiled → ρ) {ic : Bool} (n : Nat) (t : Item ι V) (p : List Char) (id : ι) (v : V)
    (hinv : Inv ic t) (hs : Small t) (hn : sizeOf t < n) :
    ∃ t' : Item ι V, gInsert n (repI val t) p id v = some (repI val t') ∧ Inv ic t' ∧
      t'.contents.Perm (⟨p, id, v⟩ :: t.contents.filter fun e => !decide (e.pat = p ∧ e.id = id)) :=
  ⟨t.insert p id v, gen_insert_eq_model val n t p id v hs hn, inv_insert t p id v hinv, insert_replaces t p id v hinv⟩

/-- so the char-count hypothesis (`Small`) is about the INPUT patterns only -/
theorem bounded_insert_preserved (t : Item ι V) (p : List Char) (id : ι) (v : V) (h : Bounded t) (hp : p.length < 4294967296) :
    Bounded (t.insert p id v) ∧ Small (t.insert p id v) :=
  ⟨bounded_insert t p id v h hp, bounded_small _ (bounded_insert t p id v h hp)⟩

/-- **Every tree reachable from `Empty` by inserting patterns shorter than 2^32 chars**; the pattern inserted last is ANY. -/
theorem gen_insert_eq_model_reachable (val : Compiled → ρ) (ic : Bool) (ops : List (List Char × ι × V))
    (hops : ∀ o ∈ ops, o.1.length < 4294967296) (n : Nat) (p : List Char) (id : ι) (v : V)
    (hn : sizeOf (insertAll (Item.empty ic) ops) < n) :
    gInsert n (repI val (insertAll (Item.empty ic) ops)) p id v
      = some (repI val ((insertAll (Item.empty ic) ops).insert p id v)) :=
  gen_insert_eq_model val n _ p id v (bounded_small _ (bounded_insertAll _ ops (Bounded.empty ic) hops)) hn

/-- The new prefix node of a split is built by `new_node`: nothing compiled is carried along (deriving it from the cell being split,
`..self.clone()`, would: seeded/r8d-2). -/
theorem gen_node_insert_split_fresh (F : GItem ρ ι V → List Char → ι → V → Option (GItem ρ ι V))
    (g : GenLazyRegex ρ) (cs : List (GItem ρ ι V)) (p : List Char) (id : ι) (v : V)
    (h : genCommonPrefixCharSize p g.original < g.original.length % 4294967296) :
    ∃ g' l, genNodeInsert GItem.node GItem.leaf GItem.regex ([] : List (ι × V)) upsert getPrefixWithCharSize F g cs p id v
        = some (.node g' [l, .node g cs]) ∧ g'.compiled = none ∧ g'.ignoreCase = g.ignoreCase := by
  refine ⟨genLazyRegexNewNode (getPrefixWithCharSize g.original (genCommonPrefixCharSize p g.original)) g.ignoreCase,
    .leaf (genLeafNew ([] : List (ι × V)) upsert p id v g.ignoreCase : List (ι × V) × GenLazyRegex ρ).1
      (genLeafNew ([] : List (ι × V)) upsert p id v g.ignoreCase : List (ι × V) × GenLazyRegex ρ).2, ?_, rfl, rfl⟩
  unfold genNodeInsert
  simp only [h, decide_true, if_true]

/-- a tree satisfying `Small`: a node over two leaves -/
example : Small (Item.node (LazyRegex.newNode "/a".toList false)
    [newLeafItem "/ab".toList (1 : Nat) (10 : Nat) false, newLeafItem "/ac".toList 2 20 false]) :=
  Small.node _ _ (by simp [LazyRegex.newNode]) (by
    intro c hc
    simp only [List.mem_cons, List.not_mem_nil, or_false] at hc
    rcases hc with rfl | rfl <;> exact Small.leaf _ _)

/-- a reachable tree: three insertions from `Empty` (hypothesis of `gen_insert_eq_model_reachable`) -/
example : ∀ o ∈ [("/ab".toList, (1 : Nat), (10 : Nat)), ("/ac".toList, 2, 20), ("/ab".toList, 1, 11)], o.1.length < 4294967296 := by
  intro o ho
  simp only [List.mem_cons, List.not_mem_nil, or_false] at ho
  rcases ho with rfl | rfl | rfl <;> simp

/-- the fuel hypothesis is satisfiable for every tree -/
example (t : Item ι V) : ∃ n, sizeOf t < n := ⟨_, Nat.lt_succ_self _⟩

/-- the translated `Leaf::insert` on concrete inputs: same pattern replaces under the id -/
example : (gLeafInsert [((1 : Nat), (10 : Nat))] (genLazyRegexNewLeaf "/ab".toList false : GenLazyRegex Unit) "/ab".toList 1 11
    : GItem Unit Nat Nat) = .leaf [(1, 11)] (genLazyRegexNewLeaf "/ab".toList false) := by
  simp [gLeafInsert, genLeafInsert, genLazyRegexNewLeaf, upsert]

/-- the translated `Node::insert` on the empty child list with a pattern below the node: pushes a fresh leaf -/
example : gNodeInsert (fun _ _ _ _ => none) (genLazyRegexNewNode [] false : GenLazyRegex Unit) ([] : List (GItem Unit Nat Nat))
    "/ab".toList 1 11 = some (.node (genLazyRegexNewNode [] false) [.leaf [(1, 11)] (genLazyRegexNewLeaf "/ab".toList false)]) := by
  simp [gNodeInsert, genNodeInsert, genNodeInsertLoop, genLazyRegexNewNode, genLeafNew, upsert]

end Rio.C08
