/-
C07 — no input makes the library panic: the slice transformer, the `request_time` variable, the redirect walker, the C API.

The models of the tokenizer, the filters, the router and the tree carry their panics explicitly and prove them unreachable in their
own property files.  This file holds the remaining lemmas of DESIGN §5/C07; the static tie for every other panic-capable construct of the source is
`tools/panic_sites.py` + `tools/panic_inventory.json`, and the search for replays is harness `c07`.
-/
import RioModel.Model.PanicSlice
import RioModel.Model.FfiNull
import RioModel.Model.PanicTime
import RioModel.Proofs.Loop

namespace Rio.C07
open Rio.Slice

/-- What the transformer returns: the requested byte range when it is a valid range, nothing otherwise. -/
theorem slice_transform_spec (bs : List Nat) (isB : Nat → Bool) (from_ : Nat) (to : Option Nat) :
    transform bs isB from_ to =
      Outcome.ok (if from_ > bs.length then []
        else (get? bs isB from_ (min (to.getD bs.length) bs.length)).getD []) := by
  unfold transform
  simp only
  split
  · rfl
  · have : (if to.getD bs.length > bs.length then bs.length else to.getD bs.length) =
        min (to.getD bs.length) bs.length := by
      split <;> omega
    rw [this]
    cases get? bs isB from_ (min (to.getD bs.length) bs.length) <;> rfl

/-- **The repaired transformer is total**: whatever the string, the boundary set and the indices
(`from > to`, indices inside a multi-byte character, huge indices), the result is a value. -/
theorem slice_transform_total (bs : List Nat) (isB : Nat → Bool) (from_ : Nat) (to : Option Nat) :
    transform bs isB from_ to ≠ Outcome.panic := by
  rw [slice_transform_spec]
  exact Outcome.noConfusion

/-- The repair in one equation: a panic became the empty string, nothing else changed. -/
theorem transform_eq_old (bs : List Nat) (isB : Nat → Bool) (from_ : Nat) (to : Option Nat) :
    transform bs isB from_ to =
      match transformOld bs isB from_ to with
      | .ok s => .ok s
      | .panic => .ok [] := by
  unfold transform transformOld
  simp only
  split
  · rfl
  · split <;> rfl

/-- The repair is conservative: where the old code returned a value, the new code returns the same. -/
theorem slice_agrees_with_old (bs : List Nat) (isB : Nat → Bool) (from_ : Nat) (to : Option Nat)
    (out : List Nat) (h : transformOld bs isB from_ to = Outcome.ok out) :
    transform bs isB from_ to = Outcome.ok out := by
  rw [transform_eq_old, h]

/-- Exactly when the code before the repair panicked (D7): `from` is inside the string and the
(clamped) range is not a valid `str` range — `from > to`, or an index off a char boundary. -/
theorem slice_old_panics_iff (bs : List Nat) (isB : Nat → Bool) (from_ : Nat) (to : Option Nat) :
    transformOld bs isB from_ to = Outcome.panic ↔
      from_ ≤ bs.length ∧
        get? bs isB from_ (if to.getD bs.length > bs.length then bs.length else to.getD bs.length) = none := by
  unfold transformOld
  simp only
  by_cases hc : from_ > bs.length
  · rw [if_pos hc]; exact ⟨nofun, fun h => absurd h.1 (by omega)⟩
  · rw [if_neg hc]
    generalize get? bs isB from_ _ = g
    cases g with
    | some s => exact ⟨nofun, fun h => nomatch h.2⟩
    | none => exact ⟨fun _ => ⟨by omega, rfl⟩, fun _ => rfl⟩

/-- D7 witnesses, on the real byte strings: `"abc"[2..1]` and `"é"[1..2]` panicked before the repair. -/
example : transformOld [97, 98, 99] (utf8Boundary [97, 98, 99]) 2 (some 1) = Outcome.panic := by decide +kernel
example : transformOld [195, 169] (utf8Boundary [195, 169]) 1 none = Outcome.panic := by decide +kernel
example : transform [97, 98, 99] (utf8Boundary [97, 98, 99]) 2 (some 1) = Outcome.ok [] := by decide +kernel
example : transform [195, 169] (utf8Boundary [195, 169]) 1 none = Outcome.ok [] := by decide +kernel
example : transform [97, 195, 169, 98] (utf8Boundary [97, 195, 169, 98]) 1 (some 3) = Outcome.ok [195, 169] := by
  decide +kernel
example : transform [97, 98, 99] (utf8Boundary [97, 98, 99]) 1 (some 1000000) = Outcome.ok [98, 99] := by decide +kernel

open Rio.Time in
/-- **The repaired rendering never panics**, whatever the instant. -/
theorem request_time_total (c : Civil) : ∃ s, requestTime c = Rio.Time.Outcome.ok s := by
  unfold requestTime
  split
  · rename_i h
    unfold rfc2822
    have : ¬ (c.year < 0 ∨ c.year > 9999) := by omega
    simp only [this, if_false]
    exact ⟨_, rfl⟩
  · exact ⟨_, rfl⟩

open Rio.Time in
/-- Exactly when the code before the repair panicked: a year outside 0..=9999 (D21). -/
theorem request_time_old_panics_iff (c : Civil) :
    (∀ s, requestTimeOld c ≠ Rio.Time.Outcome.ok s) ↔ (c.year < 0 ∨ c.year > 9999) := by
  unfold requestTimeOld rfc2822
  constructor
  · intro h
    by_cases hy : c.year < 0 ∨ c.year > 9999
    · exact hy
    · simp only [hy, if_false] at h
      exact absurd rfl (h _)
  · intro hy s
    simp [hy]

open Rio.Time in
/-- The repair changes nothing inside the range. -/
theorem request_time_agrees_with_old (c : Civil) (h : 0 ≤ c.year ∧ c.year ≤ 9999) :
    requestTime c = requestTimeOld c := by
  simp [requestTime, requestTimeOld, h]

open Rio.Loop in
/-- For every router step function, project-domain predicate, limit, url and method: at most
`max_hops` router evaluations, at most `max_hops + 1` hops. -/
theorem loop_compute_bounded {U M : Type} [DecidableEq U] [DecidableEq M]
    (step : U → M → StepOut U) (ext : U → Bool) (get : M) (maxHops : Nat) (url : U) (method : M) :
    (computeCount step ext get maxHops url method).1 = compute step ext get maxHops url method ∧
    (computeCount step ext get maxHops url method).2 ≤ maxHops ∧
    (compute step ext get maxHops url method).hops.length ≤ maxHops + 1 :=
  ⟨(computeCount_spec step ext get maxHops url method).1, (computeCount_spec step ext get maxHops url method).2,
    (compute_post step ext get maxHops url method).bound⟩

open Rio.FfiNull in
/-- **Every entry point is null-safe under every null pattern.**  `table` is regenerated from the source;
this is a `decide` over a finite table (`Rio.Consts.ffiNullTableSize` entries: every `extern "C"` function and the four helpers
pointers go through; at most 2^5 patterns each), labelled as such; removing a null check from the source breaks it. -/
theorem null_patterns : table.all Entry.safeAll = true := by decide +kernel

open Rio.FfiNull in
/-- The table is the real one (not empty), and the check is not vacuous: an entry point that dereferences
before checking is rejected, and a deref in an else-branch is accepted. -/
example : table.length = Rio.Consts.ffiNullTableSize ∧ table.length ≥ 25 := by decide +kernel
open Rio.FfiNull in
example : Entry.safeAll ⟨"bad", ["p"], [.deref 0, .guard 0]⟩ = false := by decide +kernel
open Rio.FfiNull in
example : Entry.safeAll ⟨"good", ["p", "q"], [.guard 0, .deref 0, .helper 1, .derefElse 1]⟩ = true := by decide +kernel
open Rio.FfiNull in
example : run [true, false] [.guard 0, .deref 0] = Outcome.returnedEarly 0 := by decide +kernel

end Rio.C07
