/-
C14 on the tokenizer model: compressed ≡ decompressed for html and text filters, wherever the decoder flushes, with no
tokenizer hypothesis and no no-failure hypothesis (valid UTF-8 body, valid values).
-/
import RioModel.Props.C14
import RioModel.Props.C03tok

namespace Rio.C14
open Rio.Filter Rio.C03

variable {D E : Type}

/-- **Compressed ≡ decompressed, final form.**  Under the two codec laws, for a stream that decodes to a valid UTF-8 body
`b`, fresh inner html / text stages with valid values (`Down`, `StageInit`: as `FilterBodyAction::new` builds them), and
every partition `cs` of the compressed stream: the output of `decode :: inner ++ [encode]` is a complete valid stream
that decodes to the output of the inner filters on `b`.  NO hypothesis on the decoder's flush points (the inner chain is
chunk-invariant at every cut: `Rio.C03.chunk_invariant_final`). -/
theorem compressed_equiv_final (ev : Bytes → Bytes → Bool) (codec : Codec D E) {d0 : D} {e0 : E}
    {decode : Bytes → Option Bytes} (laws : CodecLaws codec d0 e0 decode)
    (inner : List (Stage D E)) (hdown : Down inner) (hinit : ∀ st ∈ inner, StageInit htmlTokenize st)
    (z b : Bytes) (hz : decode z = some b) (hvb : V b)
    (cs : List Bytes) (hcs : cs.flatten = z) :
    decode (({ items := .decode d0 :: inner ++ [.encode e0] } : Chain D E).run htmlTokenize ev codec cs) =
      some (({ items := inner } : Chain D E).run htmlTokenize ev codec [b]) := by
  have hplain : AllPlain inner := Rio.C04.allPlain_of_down hdown
  apply compressed_equiv_html htmlTokenize ev codec laws htmlTokenize_losslessS htmlTokenize_restartLaw inner hplain hinit
    z b hz cs hcs
  · intro ps' pe' hd
    have hstream : V ((nonEmpty ps').flatten ++ (optB pe').getD []) := by
      obtain ⟨ps2, pe2, k1, k2⟩ := laws.dec z b hz cs hcs
      rw [hd] at k1
      injection k1 with k1
      injection k1 with k1a k1b
      subst k1a k1b
      rw [nonEmpty_flatten, optB_getD, k2]
      exact hvb
    obtain ⟨out, ho, _⟩ := runG_ok htmlTokenize_losslessAll Rio.C04.tokenizer_tokValid ev codec inner _ _ hdown hstream
    rw [ho]; simp
  · exact no_call_fails ev codec inner hdown [b] (by simpa using hvb)

/-- the inner stages `FilterBodyAction::new` builds satisfy the two hypotheses on `inner` (values valid UTF-8) -/
theorem new_inner_ready (fs : List BodyFilter) (ct : Option String) (hval : ∀ f ∈ fs, V (Rio.C04.filterValue f)) :
    Down (fs.filterMap fun f => (Stage.new f ct : Option (Stage Unit Unit))) ∧
    ∀ st ∈ (fs.filterMap fun f => (Stage.new f ct : Option (Stage Unit Unit))), StageInit htmlTokenize st := by
  constructor
  · intro st hst
    simp only [List.mem_filterMap] at hst
    obtain ⟨f, hf, hnew⟩ := hst
    exact Rio.C04.stage_new_down f ct st (hval f hf) hnew
  · intro st hst
    simp only [List.mem_filterMap] at hst
    obtain ⟨f, hf, hnew⟩ := hst
    exact stage_new_init htmlTokenize htmlStream_nil_nil f ct st hnew

end Rio.C14
