/-
C12 — regex caching is transparent (tree level; the router-level statement belongs to the router model).

`cache` is `RegexTreeMap::cache(limit, level)` = `treeCache` (with
`Item::cache`, `Node::cache`, `Leaf::cache`, and the level loop when `level = None`); its result is an
`Option` in the model because the `u64` subtractions `left - 1` would panic on underflow — `cache_total`
proves they never do and that the level loop terminates.

Domain: `LeafPatternsNonEmpty` — no stored pattern is the empty string.  It holds for every pattern a
rule can produce; at the raw tree API the empty pattern is a real anomaly (DESIGN §6-O3):
`cache_visible_empty_pattern` is the kernel-checked witness.
-/
import RioModel.Proofs.TreeCacheSim
import RioModel.Props.C08

namespace Rio.C12
open Rio.Regex Rio.Tree Rio.C08

variable {ι V : Type} [DecidableEq ι]

def LeafPatternsNonEmpty (t : Item ι V) : Prop := ∀ e ∈ t.contents, e.pat ≠ []

/-- A `LazyRegex` of the tree is well-formed: its `regex` string is the one `new_leaf` / `new_node` builds from `original`, and
its cached value – if any – is the value `create_regex()` builds from the CURRENT `regex` and `ignore_case` (consistency);
for a leaf the pattern is non-empty. -/
def WfRegex (rx : LazyRegex) : Prop := rx.nodeWf = true ∨ (rx.leafWf = true ∧ rx.original ≠ [])

/-- `LazyRegex::is_match` gives the same answer before and after `compile()` – whether or not the compilation
succeeded.  In the model `is_match` runs the STORED value when there is one and `compile` stores `create_regex()` of the
current fields, so this is a statement about which inputs the cached value is built from: with a `compile` that built it
from another string or without the case flag, or for a regex holding a stale value, it is false
(`stale_cached_value_is_visible`). -/
theorem is_match_cache_indep (E : Engine) (rx : LazyRegex) (h : WfRegex rx)
    (s : List Char) : (rx.compile E).isMatch E s = rx.isMatch E s := by
  have hc : WfRegex (rx.compile E) := by
    have hcons := compile_consistent E rx
    rcases h with h | ⟨h, hne⟩
    · exact Or.inl (nodeWf_iff.2 ⟨(nodeWf_iff.1 h).1, hcons⟩)
    · exact Or.inr ⟨leafWf_iff.2 ⟨(leafWf_iff.1 h).1, hcons⟩, hne⟩
  rw [← isMatch_strip E (rx.compile E) hc, compile_strip, isMatch_strip E rx h]

/-- Necessity of consistency: a leaf regex for `a` holding a cached value that was built from `b` answers for `b` – the
cached and the lazily built regex differ, `compile()` (which rebuilds from the current fields) changes the answer. -/
def staleRx : LazyRegex := ⟨['a'], .leaf ['a'], false, some ⟨.leaf ['b'], false⟩⟩

theorem stale_cached_value_is_visible :
    staleRx.consistent = false ∧ staleRx.isMatch stdEngine ['b'] = true ∧
    (staleRx.compile stdEngine).isMatch stdEngine ['b'] = false ∧
    ({ staleRx with compiled := none } : LazyRegex).isMatch stdEngine ['b'] = false := by decide +kernel

/-- … and of building with the case flag: a value built without `case_insensitive` in a case-insensitive leaf. -/
def noFlagRx : LazyRegex := ⟨['a'], .leaf ['a'], true, some ⟨.leaf ['a'], false⟩⟩

theorem cached_value_without_flag_is_visible :
    noFlagRx.consistent = false ∧ noFlagRx.isMatch stdEngine ['A'] = false ∧
    (noFlagRx.compile stdEngine).isMatch stdEngine ['A'] = true := by decide +kernel

/-- **The cached value is the lazily built one**, on every reachable tree: after any history (inserts, removes, retains,
updates, warm-ups) every `LazyRegex` of the tree carries the `regex` string its constructor built and a cached value that is
`create_regex()` of its current fields – this is part of `Inv`, established by `new` and preserved by every operation
(`C08.inv_insert` … `C08.inv_cache`); spelled out for one leaf / node of a tree satisfying `Inv`. -/
theorem cached_value_is_created {ic : Bool} {rx : LazyRegex} :
    (∀ vs : List (ι × V), Inv ic (Item.leaf rx vs) → rx.regex = .leaf rx.original ∧
      ∀ c, rx.compiled = some c → c = ⟨rx.regex, rx.ic⟩) ∧
    (∀ cs : List (Item ι V), Inv ic (Item.node rx cs) →
      rx.regex = (if rx.original.isEmpty then RxSrc.any else .node rx.original) ∧
      ∀ c, rx.compiled = some c → c = ⟨rx.regex, rx.ic⟩) := by
  constructor
  · intro vs h
    obtain ⟨h1, _⟩ := inv_leaf_iff.1 h
    exact ⟨(leafWf_iff.1 h1).1, consistent_iff.1 (leafWf_iff.1 h1).2⟩
  · intro cs h
    obtain ⟨h1, _⟩ := inv_node_iff.1 h
    exact ⟨(nodeWf_iff.1 h1).1, consistent_iff.1 (nodeWf_iff.1 h1).2⟩

/-- No `u64` underflow at the `left - 1` sites, the level loop terminates, and the returned budget is
at most the given one. -/
theorem cache_total (E : Engine) (t : Item ι V) (limit : Nat) (level : Option Nat) :
    ∃ t' n, treeCache E t limit level = some (t', n) ∧ n ≤ limit := by
  obtain ⟨t', n, h, _, hn⟩ := treeCache_spec E t limit level
  exact ⟨t', n, h, hn⟩

/-- Same for the recursive `Item::cache(left, cache_level, current_level)` at any position. -/
theorem item_cache_total (E : Engine) (t : Item ι V) (left lvl cur : Nat) :
    ∃ t' n, t.cache E left lvl cur = some (t', n) ∧ n ≤ left := by
  obtain ⟨t', n, h, _, hn, _⟩ := cache_ok E t left lvl cur
  exact ⟨t', n, h, hn⟩

/-- `RegexTreeMap::find` answers every haystack the same before and after `cache(limit, level)`: the headline of C12 at tree
level. -/
theorem find_cache (E : Engine) {ic : Bool} (t : Item ι V) (hinv : Inv ic t) (hne : LeafPatternsNonEmpty t)
    (limit : Nat) (level : Option Nat) {t' : Item ι V} {n : Nat}
    (h : treeCache E t limit level = some (t', n)) (s : List Char) : t'.find E s = t.find E s := by
  obtain ⟨hs, _, hi⟩ := treeCache_some h
  exact find_eq_of_strip_eq E hs hinv (by rw [hi]; exact hinv) hne s

/-- What is stored, `get`, `len` and the invariant are unchanged (no hypothesis needed).  The invariant includes "every
cached value is `create_regex()` of the fields next to it": `cache` preserves it in both directions. -/
theorem observations_cache (E : Engine) (t : Item ι V) (limit : Nat) (level : Option Nat)
    {t' : Item ι V} {n : Nat} (h : treeCache E t limit level = some (t', n)) :
    t'.contents = t.contents ∧ (∀ p, t'.get p = t.get p) ∧ t'.len = t.len ∧
    (∀ ic, t'.inv ic = t.inv ic) := by
  obtain ⟨hs, _, hi⟩ := treeCache_some h
  exact ⟨contents_eq_of_strip_eq hs, get_eq_of_strip_eq hs, len_eq_of_strip_eq hs, hi⟩

/-- Transparency over histories, exact.  For *every* history over {insert, remove, retain, `get_mut`-update, cache} whose
inserted patterns are non-empty – no other hypothesis: any strings as patterns, ids re-used at will – the
history and the same history with every `cache` call removed (`dropCache`) both run to completion (no
`cache` call underflows or loops) and end in trees that are equal up to cached values and answer alike.  Since `dropCache`
is idempotent and forgets limits, levels, number and position of the cache calls, any two ways of interleaving warm-ups
with the same updates are observationally identical. -/
theorem cache_transparent (E : Engine) (ic : Bool) (ops : List (Op ι V))
    (hne : ∀ p ∈ insertedPats ops, p ≠ []) :
    ∃ t t0 : Item ι V, treeRun E (.empty ic) ops = some t ∧
      treeRun E (.empty ic) (dropCache ops) = some t0 ∧
      t.strip = t0.strip ∧ Inv ic t ∧ Inv ic t0 ∧
      (∀ s, t.find E s = t0.find E s) ∧ t.contents = t0.contents ∧ (∀ p, t.get p = t0.get p) ∧
      t.len = t0.len := by
  obtain ⟨t, t0, h1, h2, hs⟩ := run_drop_cache E ops (.empty ic : Item ι V) (.empty ic) rfl
  obtain ⟨hinv, hP⟩ := run_reachable E (fun p => p ≠ []) ops (.empty ic : Item ι V) (inv_empty ic)
    (by simp) hne t h1
  have hinv0 : t0.inv ic = true :=
    (run_reachable E (fun p => p ≠ []) (dropCache ops) (.empty ic : Item ι V) (inv_empty ic) (by simp)
      (by rw [insertedPats_dropCache]; exact hne) t0 h2).1
  have hP0 : ∀ e ∈ t0.contents, e.pat ≠ [] := by rw [← contents_eq_of_strip_eq hs]; exact hP
  exact ⟨t, t0, h1, h2, hs, hinv, hinv0, find_eq_of_strip_eq E hs hinv0 hinv hP0, contents_eq_of_strip_eq hs,
    get_eq_of_strip_eq hs, len_eq_of_strip_eq hs⟩

/-- Transparency relative to the *specification*: for a history in the domain of C08, the history and its
cache-free twin both answer `find` with the linear scan of the same live entries (a corollary of
`history_spec`; `cache_transparent` above is stronger on the tree-vs-tree comparison and needs no
domain). -/
theorem cache_transparent_history {E : Engine} {Good : List Char → Prop} (hPS : PrefixSound E Good)
    {good : List Char → Bool} (hgood : ∀ p, good p = true → Good p ∧ p ≠ [])
    (ic : Bool) (ops : List (Op ι V)) (hok : histOk good [] ops = true) :
    ∃ t t0 : Item ι V, treeRun E (.empty ic) ops = some t ∧
      treeRun E (.empty ic) (dropCache ops) = some t0 ∧
      (∀ s, (t.find E s).Perm (t0.find E s)) ∧ t.len = t0.len ∧ (∀ p, (t.get p).Perm (t0.get p)) := by
  obtain ⟨t, h1, _, _, hf, hl, hg⟩ := history_spec hPS hgood ic ops hok
  obtain ⟨t0, h2, _, _, hf0, hl0, hg0⟩ :=
    history_spec hPS hgood ic (dropCache ops) (by rw [histOk_dropCache]; exact hok)
  rw [refRun_dropCache] at hf0 hl0 hg0
  exact ⟨t, t0, h1, h2, fun s => (hf s).trans (hf0 s).symm, by rw [hl, hl0],
    fun p => (hg p).trans (hg0 p).symm⟩

/-- … for the concrete engine family and rule-shaped patterns. -/
theorem cache_transparent_history_rule (G : List Char → Option Re) (ic : Bool) (ops : List (Op ι V))
    (hok : histOk rulePatB [] ops = true) :
    ∃ t t0 : Item ι V, treeRun (engineOf G) (.empty ic) ops = some t ∧
      treeRun (engineOf G) (.empty ic) (dropCache ops) = some t0 ∧
      (∀ s, (t.find (engineOf G) s).Perm (t0.find (engineOf G) s)) ∧ t.len = t0.len ∧
      (∀ p, (t.get p).Perm (t0.get p)) :=
  cache_transparent_history (prefix_sound G) (fun p hp => (rulePatB_iff p).1 hp) ic ops hok

/-- The statement of `find_cache` without `LeafPatternsNonEmpty`. -/
def FindCacheAllPatterns : Prop :=
  ∀ (t t' : Item Nat Nat) (limit n : Nat) (level : Option Nat) (s : List Char), Inv false t →
    treeCache stdEngine t limit level = some (t', n) → t'.find stdEngine s = t.find stdEngine s

def emptyPatTree : Item Nat Nat := (Item.empty false).insert [] 1 1

/-- Raw tree API, pattern `""`: uncached it matches every haystack, cached (`^$`) only the empty one. -/
theorem cache_visible_empty_pattern : ¬ FindCacheAllPatterns := by
  intro h
  have hbefore : emptyPatTree.find stdEngine "x".toList = [1] := by decide +kernel
  have hafter : (treeCache stdEngine emptyPatTree 5 none).map (fun r => r.1.find stdEngine "x".toList)
      = some [] := by decide +kernel
  cases hc : treeCache stdEngine emptyPatTree 5 none with
  | none => rw [hc] at hafter; simp at hafter
  | some r =>
    have h1 := h emptyPatTree r.1 5 r.2 none "x".toList (by decide +kernel) (by rw [hc])
    rw [hc] at hafter
    simp only [Option.map_some, Option.some.injEq] at hafter
    rw [hafter, hbefore] at h1
    exact absurd h1 (by decide)

/-- A three-pattern case-insensitive tree. -/
def demoTree : Item Nat Nat :=
  (((Item.empty true).insert "/a(?:x)/b".toList 2 20).insert "/a(?:x)".toList 1 11).insert
    "/b(?:[0-9]+)".toList 3 30

set_option maxRecDepth 100000 in
/-- The hypotheses of `find_cache` hold on it, and partially caching it (`limit = 2` of its 5 regexes)
really changes the tree: 2 regexes compiled, budget used up. -/
example : Inv true demoTree ∧ (demoTree.contents.all fun e => !e.pat.isEmpty) = true ∧
    demoTree.cachedLen = 0 ∧
    (treeCache stdEngine demoTree 2 none).map (fun r => (r.1.cachedLen, r.2)) = some (2, 0) ∧
    (treeCache stdEngine demoTree 2 none).map (fun r => r.1.find stdEngine "/A7".toList) = some [] ∧
    (treeCache stdEngine demoTree 2 none).map (fun r => r.1.find stdEngine "/B7".toList) = some [30] := by
  decide +kernel

end Rio.C12
