/-
C14 — filtering a compressed body equals filtering its decompressed form.

The codecs (flate2, brotli) are outside the model: `Codec` is an abstract pair of state machines (write+flush+drain,
finish) and `CodecLaws` are the two streaming laws (Proofs/FilterCodec.lean).  What is proved is the glue of
`FilterBodyAction`: decode stage first, encode stage last, the `break` of `do_filter` on empty data, the feeding order
of `do_end`.  The statement inherits C03: the inner chain must behave on the decoder's outputs as on the whole body
(`ChunkInvariantOn`), which is unconditional for text filters (`compressed_equiv_text`) and holds for html filters
wherever the decoder flushes (`compressed_equiv_html` under the restart law of the stream tokenizer;
`compressed_equiv_final` in Props/C14tok.lean on the tokenizer model, no hypothesis left).
-/
import RioModel.Proofs.FilterCodec
import RioModel.Proofs.FilterPipe
import RioModel.Props.C04

namespace Rio.C14
open Rio.Filter Rio.Consts

variable {D E : Type}

theorem innerOut_eq_runG (tk : Tokenize) (ev : Bytes → Bytes → Bool) (codec : Codec D E)
    (inner : List (Stage D E)) (ps : List Bytes) (pe : Bytes) :
    innerOut tk ev codec inner ps pe = runG tk ev codec inner (nonEmpty ps) (optB pe) := by
  unfold innerOut runG
  rw [innerFeed_eq_feedG]
  rfl

/-- C03 at the decoder's flush points: fed the decoder's outputs `ps` (the empty ones are skipped by the `break` of
`do_filter`) and with `do_end` started with the decoder's final output `pe`, the inner stages do not fail and produce
what they produce for the whole body in one chunk. -/
def ChunkInvariantOn (tk : Tokenize) (ev : Bytes → Bytes → Bool) (codec : Codec D E) (inner : List (Stage D E))
    (ps : List Bytes) (pe b : Bytes) : Prop :=
  innerOut tk ev codec inner ps pe = some (({ items := inner } : Chain D E).run tk ev codec [b])

/-- the general form: whatever the inner stages produce on the decoder's outputs is what the output decodes to -/
theorem compressed_glue (tk : Tokenize) (ev : Bytes → Bytes → Bool) (codec : Codec D E) {d0 : D} {e0 : E}
    {decode : Bytes → Option Bytes} (laws : CodecLaws codec d0 e0 decode)
    (inner : List (Stage D E)) (cs ps : List Bytes) (pe out : Bytes)
    (hdec : decRun codec d0 cs = some (ps, pe)) (hin : innerOut tk ev codec inner ps pe = some out) :
    decode (({ items := .decode d0 :: inner ++ [.encode e0] } : Chain D E).run tk ev codec cs) = some out :=
  full_run_spec tk ev codec laws inner cs ps pe out hdec (innerOut_eq_runG .. ▸ hin)

/-- **Compressed ≡ decompressed.**  Under the codec laws, for a stream `z` that decodes to `b` and every partition
`cs` of `z`: the decoder hands the inner stages a partition `ps`, `pe` of `b`, and if the inner chain is
chunk-invariant on it, the concatenated output of `decode :: inner ++ [encode]` is a complete valid stream whose
decoding is the output of the inner chain on `b`. -/
theorem compressed_equiv (tk : Tokenize) (ev : Bytes → Bytes → Bool) (codec : Codec D E) {d0 : D} {e0 : E}
    {decode : Bytes → Option Bytes} (laws : CodecLaws codec d0 e0 decode)
    (inner : List (Stage D E)) (z b : Bytes) (hz : decode z = some b) (cs : List Bytes) (hcs : cs.flatten = z) :
    ∃ ps pe, decRun codec d0 cs = some (ps, pe) ∧ ps.flatten ++ pe = b ∧
      (ChunkInvariantOn tk ev codec inner ps pe b →
        decode (({ items := .decode d0 :: inner ++ [.encode e0] } : Chain D E).run tk ev codec cs) =
          some (({ items := inner } : Chain D E).run tk ev codec [b])) := by
  obtain ⟨ps, pe, h1, h2⟩ := laws.dec z b hz cs hcs
  exact ⟨ps, pe, h1, h2, compressed_glue tk ev codec laws inner cs ps pe _ h1⟩

theorem innerOut_text (tk : Tokenize) (ev : Bytes → Bytes → Bool) (codec : Codec D E)
    (inner : List (Stage D E)) (h : AllText inner) (ps : List Bytes) (pe : Bytes) :
    innerOut tk ev codec inner ps pe = some (textTotal inner (ps.flatten ++ pe)) := by
  rw [innerOut_eq_runG, runG_text tk ev codec inner _ _ h, nonEmpty_flatten, optB_getD]

/-- **Compressed ≡ decompressed for text filters**, no hypothesis on the chunking or on the bytes. -/
theorem compressed_equiv_text (tk : Tokenize) (ev : Bytes → Bytes → Bool) (codec : Codec D E) {d0 : D} {e0 : E}
    {decode : Bytes → Option Bytes} (laws : CodecLaws codec d0 e0 decode)
    (inner : List (Stage D E)) (hall : AllText inner)
    (z b : Bytes) (hz : decode z = some b) (cs : List Bytes) (hcs : cs.flatten = z) :
    decode (({ items := .decode d0 :: inner ++ [.encode e0] } : Chain D E).run tk ev codec cs) =
      some (({ items := inner } : Chain D E).run tk ev codec [b]) := by
  obtain ⟨ps, pe, h1, h2, h3⟩ := compressed_equiv tk ev codec laws inner z b hz cs hcs
  apply h3
  unfold ChunkInvariantOn
  rw [innerOut_text tk ev codec inner hall ps pe, run_text tk ev codec _ hall rfl [b], h2]
  simp

/-- **Compressed ≡ decompressed for html (and text) filters, every flush point.**  Under the codec laws and the restart
law of the stream tokenizer (`RestartLaw`: every cut is safe), for fresh inner stages (`StageInit`: as
`FilterBodyAction::new` builds them), if no inner call fails (on the decoder's outputs or on `b` as one chunk).  No
hypothesis on where the decoder flushes. -/
theorem compressed_equiv_html (tk : Tokenize) (ev : Bytes → Bytes → Bool) (codec : Codec D E) {d0 : D} {e0 : E}
    {decode : Bytes → Option Bytes} (laws : CodecLaws codec d0 e0 decode) (hl : LosslessS tk) (hr : RestartLaw tk)
    (inner : List (Stage D E)) (hp : AllPlain inner) (hinit : ∀ st ∈ inner, StageInit tk st)
    (z b : Bytes) (hz : decode z = some b)
    (cs : List Bytes) (hcs : cs.flatten = z)
    (hok : ∀ ps pe, decRun codec d0 cs = some (ps, pe) → runG tk ev codec inner (nonEmpty ps) (optB pe) ≠ none)
    (hok1 : runG tk ev codec inner [b] none ≠ none) :
    decode (({ items := .decode d0 :: inner ++ [.encode e0] } : Chain D E).run tk ev codec cs) =
      some (({ items := inner } : Chain D E).run tk ev codec [b]) := by
  obtain ⟨ps, pe, h1, h2, h3⟩ := compressed_equiv tk ev codec laws inner z b hz cs hcs
  apply h3
  -- the inner run on the decoder's outputs and the plain run on `b` are the closed form of the same stream
  have hg := good_of_init tk ev codec hl hr hp hinit
  have t1 := run_total tk ev codec inner [b] hg hok1
  rw [List.flatten_singleton] at t1
  unfold ChunkInvariantOn
  rw [innerOut_eq_runG, ← t1]
  cases hr' : runG tk ev codec inner (nonEmpty ps) (optB pe) with
  | none => exact absurd hr' (hok ps pe h1)
  | some out =>
    have := runG_total tk ev codec inner _ _ out hg hr'
    rw [nonEmpty_flatten, optB_getD, h2] at this
    exact this.symm

/-- A supported `Content-Encoding` (lower-cased value br / gzip / deflate) and a non-empty list of stages: decode stage
first, encode stage last, the stages of the filters in between. -/
theorem supported_chain_shape (codec : Codec D E) (lower : String → String) (fs : List BodyFilter)
    (headers : List (String × String)) (enc : String)
    (henc : headerValue lower filterHeaderContentEncoding headers = some enc)
    (hsup : filterSupportedEncodings.contains enc = true)
    (hne : (fs.filterMap fun f => (Stage.new f (headerValue lower filterHeaderContentType headers) : Option (Stage D E))) ≠ []) :
    (Chain.new codec lower fs headers).items =
      .decode (codec.create enc).1 ::
        (fs.filterMap fun f => Stage.new f (headerValue lower filterHeaderContentType headers)) ++
        [.encode (codec.create enc).2] ∧
    (Chain.new codec lower fs headers).inError = false := by
  simp only [Chain.new, List.isEmpty_eq_false_iff.mpr hne, henc, hsup]
  simp

/-- Clause "unsupported encodings disable filtering": any other `Content-Encoding` value gives the empty chain
(and the empty chain passes every chunk through: `Rio.C04.passthrough_empty`). -/
theorem unsupported_passthrough (codec : Codec D E) (lower : String → String) (fs : List BodyFilter)
    (headers : List (String × String)) (enc : String)
    (henc : headerValue lower filterHeaderContentEncoding headers = some enc)
    (hno : filterSupportedEncodings.contains enc = false) :
    (Chain.new codec lower fs headers).items = [] :=
  Rio.C04.passthrough_unsupported_encoding codec lower fs headers enc henc hno

/-- the supported encodings are exactly br, gzip, deflate (regenerated from src/filter/encoding/mod.rs) -/
theorem supported_iff (enc : String) :
    filterSupportedEncodings.contains enc = true ↔ enc = "br" ∨ enc = "gzip" ∨ enc = "deflate" := by
  simp [filterSupportedEncodings]

/-- No filter stage, no codec stage: with an empty list of stages the body is not even decoded. -/
theorem empty_chain_no_codec (codec : Codec D E) (lower : String → String) (fs : List BodyFilter)
    (headers : List (String × String))
    (hemp : (fs.filterMap fun f => (Stage.new f (headerValue lower filterHeaderContentType headers) : Option (Stage D E))) = []) :
    (Chain.new codec lower fs headers).items = [] := by
  simp [Chain.new, hemp]

/-- the identity "codec": a stream is its own decoding, nothing is buffered -/
def idCodec : Codec Unit Unit where
  create _ := ((), ())
  decWrite _ b := some ((), b)
  decFinish _ := some []
  encWrite _ b := some ((), b)
  encFinish _ := some []

theorem writes_id (xs : List Bytes) : writes (fun (_ : Unit) (b : Bytes) => some ((), b)) () xs = some ((), xs) := by
  induction xs with
  | nil => rfl
  | cons x xs ih => simp [writes, ih]

theorem idCodec_laws : CodecLaws idCodec () () (fun z => some z) := by
  constructor
  · intro z b hz zs hzs
    injection hz with hz
    subst hz
    refine ⟨zs, [], ?_, by simp [hzs]⟩
    simp [decRun, idCodec, writes_id]
  · intro ws
    refine ⟨ws, [], ?_, by simp⟩
    simp [encRun, idCodec, writes_id]

/-- `compressed_equiv_text` instantiated: the hypotheses are satisfiable and the conclusion is about a real run. -/
example (cs : List Bytes) :
    (({ items := .decode () :: [.text { action := .prepend, content := [80] }, .text { action := .append, content := [65] }] ++ [.encode ()] } : Chain Unit Unit).run
        { plain := fun d => ([], d), stream := fun c d => ([], d, c) } (fun _ _ => false) idCodec cs) =
      (({ items := [.text { action := .prepend, content := [80] }, .text { action := .append, content := [65] }] } : Chain Unit Unit).run
        { plain := fun d => ([], d), stream := fun c d => ([], d, c) } (fun _ _ => false) idCodec [cs.flatten]) := by
  have := compressed_equiv_text { plain := fun d => ([], d), stream := fun c d => ([], d, c) } (fun _ _ => false) idCodec idCodec_laws
    [.text { action := .prepend, content := [80] }, .text { action := .append, content := [65] }]
    (by intro st h; simp at h; rcases h with rfl | rfl <;> exact ⟨_, rfl⟩)
    cs.flatten cs.flatten rfl cs rfl
  injection this

end Rio.C14
