/-
C07 — the two hand-written text parsers of the library: `Addr::from_str` (src/http/addr.rs) and the address collection of
`Log::from_proxy` (src/api/log.rs: `X-Forwarded-For`, `Forwarded`).

Neither file contains an index, slice, unwrap or arithmetic site (the static inventory lists none for them): they are built from
`trim_matches`, `split`, `splitn`, `trim`, `to_lowercase` and the two std parsers, all total.  So "no input makes a site panic" is
true for the empty set of sites; what a model can add, and what these theorems state for EVERY input string, every behaviour of the
std parsers (`Std` is a parameter) and every lower-casing function, is the exact result.

The correspondence (harness c07, families `addr_parse` and `log_ips`) compares the real `str::parse::<Addr>()` and the `ips` of the
real `Log::from_proxy` with this model, the std parsers being supplied as the table of answers the real std gave.
-/
import RioModel.Proofs.LogParse

namespace Rio.C07
open Rio.AddrParse Rio.LogParse

/-- **`Addr::from_str` is total and has exactly three outcomes**, decided by the std parsers on the trimmed text:
`IpAddr` first (no port), then `SocketAddr` (its ip and port), else `Err`. -/
theorem addr_parse_total (S : Std) (s : List Char) :
    (∃ ip, S.parseIp (trimChars inTrimSet s) = some ip ∧ parseAddr S s = .ok ip none) ∨
    (∃ ip p, S.parseIp (trimChars inTrimSet s) = none ∧ S.parseSock (trimChars inTrimSet s) = some (ip, p) ∧
      parseAddr S s = .ok ip (some p)) ∨
    (S.parseIp (trimChars inTrimSet s) = none ∧ S.parseSock (trimChars inTrimSet s) = none ∧ parseAddr S s = .err) := by
  fun_cases parseAddr S s
  case case1 t ip h => exact .inl ⟨ip, h, rfl⟩
  case case2 t h1 ip p h2 => exact .inr (.inl ⟨ip, p, h1, h2, rfl⟩)
  case case3 t h1 h2 => exact .inr (.inr ⟨h1, h2, rfl⟩)

/-- Padding with `\0 \n \r \t space` on either side never changes the result. -/
theorem addr_parse_pad (S : Std) (a b s : List Char) (ha : ∀ c ∈ a, inTrimSet c = true) (hb : ∀ c ∈ b, inTrimSet c = true) :
    parseAddr S (a ++ s ++ b) = parseAddr S s := by
  unfold parseAddr
  rw [trimChars_pad ha hb]

/-- an address that was reported was accepted by a std parser -/
theorem addr_parse_sound (S : Std) (s : List Char) (ip : String) (h : (parseAddr S s).ip? = some ip) :
    ∃ t, S.parseIp t = some ip ∨ ∃ p, S.parseSock t = some (ip, p) := by
  rcases addr_parse_total S s with ⟨i, h1, h2⟩ | ⟨i, p, _, h1, h2⟩ | ⟨_, _, h2⟩
  · rw [h2] at h; simp [Res.ip?] at h; exact ⟨_, Or.inl (h ▸ h1)⟩
  · rw [h2] at h; simp [Res.ip?] at h; exact ⟨_, Or.inr ⟨p, h ▸ h1⟩⟩
  · rw [h2] at h; simp [Res.ip?] at h

/-- `X-Forwarded-For: p1,p2,…` (pieces without comma): each piece is parsed on its own, failures are skipped, order is kept. -/
theorem xff_spec (S : Std) (pieces : List (List Char)) (hne : pieces ≠ []) (h : ∀ p ∈ pieces, ',' ∉ p) :
    xff S (joinSep ',' pieces) = pieces.filterMap fun p => (parseAddr S p).ip? := by
  unfold xff
  rw [splitOn_join ',' pieces hne h]

/-- One element `name=value` of a `Forwarded` header (after trimming; `=` not in the name): it contributes iff the trimmed,
lower-cased name is `for`, and then the value without surrounding white space and double quotes is parsed as an `Addr`. -/
theorem forwarded_pair_spec (S : Std) (lower : List Char → List Char) (pair name val : List Char)
    (ht : trim pair = name ++ '=' :: val) (hn : '=' ∉ name) :
    forwardedPair S lower pair =
      if lower (trim name) = "for".toList then (parseAddr S (stripQuotes (trim val))).ip? else none := by
  unfold forwardedPair
  rw [ht, splitFirst_append '=' name hn val]

/-- an element without `=` contributes nothing -/
theorem forwarded_pair_no_eq (S : Std) (lower : List Char → List Char) (pair : List Char) (h : '=' ∉ trim pair) :
    forwardedPair S lower pair = none := by
  unfold forwardedPair
  rw [splitFirst_none '=' _ h]

/-- `Forwarded: e1, e2, …` (elements without `,` and `;`): the elements are examined one by one, in order. -/
theorem forwarded_elements (S : Std) (lower : List Char → List Char) (els : List (List Char)) (hne : els ≠ [])
    (h : ∀ e ∈ els, ',' ∉ e ∧ ';' ∉ e) :
    forwardedFor S lower (joinSep ',' els) = els.filterMap (forwardedPair S lower) := by
  unfold forwardedFor
  have hsemi : ';' ∉ joinSep ',' els := fun hm =>
    (mem_joinSep hm).elim (by decide) fun ⟨e, he, hc⟩ => (h e he).2 hc
  rw [splitOn_single ';' _ hsemi]
  simp only [List.flatMap_cons, List.flatMap_nil, List.append_nil]
  rw [splitOn_join ',' els hne (fun e he => (h e he).1)]

/-- **`Log::from_proxy` reports only addresses a std parser accepted** (for the client ip, an `X-Forwarded-For` piece or a
`Forwarded` `for=` value), and an `X-Forwarded-For` value with n commas yields at most n + 1 of them. -/
theorem log_forwarded_total (S : Std) (lower : List Char → List Char) (clientIp : List Char)
    (headers : List (List Char × List Char)) :
    (∀ ip ∈ ips S lower clientIp headers, ∃ t, S.parseIp t = some ip ∨ ∃ p, S.parseSock t = some (ip, p)) ∧
    (∀ v, (xff S v).length ≤ countSep ',' v + 1) := by
  constructor
  · intro ip hip
    simp only [ips, List.mem_append, Option.mem_toList, List.mem_flatMap] at hip
    rcases hip with h | ⟨hd, _, h⟩
    · exact addr_parse_sound S clientIp ip (by simpa using h)
    · simp only [headerIps, List.mem_append] at h
      rcases h with h | h
      · split at h
        · simp only [xff, List.mem_filterMap] at h
          obtain ⟨piece, _, hp⟩ := h
          exact addr_parse_sound S piece ip hp
        · simp at h
      · split at h
        · simp only [forwardedFor, List.mem_filterMap] at h
          obtain ⟨pair, _, hp⟩ := h
          revert hp
          fun_cases forwardedPair S lower pair
          case case2 => exact addr_parse_sound S _ ip   -- a `for=` pair: the one branch that answers
          all_goals exact nofun
        · simp at h
  · intro v
    exact Nat.le_trans (List.length_filterMap_le _ _) (Nat.le_of_eq (splitOn_length ',' v))

/-! ### Non-vacuity: a toy `Std` that knows four texts -/

section Examples
def toyStd : Std where
  parseIp := fun t => if t = "1.2.3.4".toList then some "1.2.3.4" else if t = "::1".toList then some "::1" else none
  parseSock := fun t => if t = "1.2.3.4:80".toList then some ("1.2.3.4", 80) else if t = "[::1]:443".toList then some ("::1", 443) else none

example : parseAddr toyStd " 1.2.3.4\n".toList = .ok "1.2.3.4" none := by decide +kernel
example : parseAddr toyStd "\t[::1]:443 ".toList = .ok "::1" (some 443) := by decide +kernel
/-- a bracketed IPv6 address WITHOUT port is neither an `IpAddr` nor a `SocketAddr`: `Err` (RFC 7239 writes `for="[::1]"`) -/
example : parseAddr toyStd "[::1]".toList = .err := by decide +kernel
example : xff toyStd "1.2.3.4, bad,,::1 ".toList = ["1.2.3.4", "::1"] := by decide +kernel
example : forwardedFor toyStd id "for=1.2.3.4;by=x, for=\"[::1]:443\" ,proto=http; for = ::1 ,for=\"[\"".toList =
    ["1.2.3.4", "::1", "::1"] := by decide +kernel
example : ips toyStd id "1.2.3.4:80".toList [("x-forwarded-for".toList, "::1".toList), ("forwarded".toList, "for=1.2.3.4".toList),
    ("other".toList, "for=::1".toList)] = ["1.2.3.4", "::1", "1.2.3.4"] := by decide +kernel
end Examples

end Rio.C07
