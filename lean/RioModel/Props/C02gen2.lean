/-
Property C02, second tie for the TOP level of the router: the definitions `Rio.Consts.genRouter*` /
`genUpdateExistingRouter` are TRANSLATED on every run from `Router::insert_route`, `get_route_by_id`, `remove`, `batch_remove`,
`len`, `insert`, `apply_change_set` (src/router/mod.rs) and `RuleChangeSet::update_existing_router` (src/api/rules_message.rs) by
tools/consts.d/w9_tr_w33_router_top.py.  Here: translated = hand-written model (`RouterG O`, Model/RouterLayers.lean) for EVERY
outermost matcher `O : MOps`, every state and every input, with the instantiation of the abstract parameters documented in
Proofs/RouterTopGen.lean; then `len_remove`, the change-set ORDER and `repr_change_set` restated for the translated definitions.
The state of a router is the pair (`matcher`, `routes`) of its mutable fields.
-/
import RioModel.Proofs.RouterTopGen
import RioModel.Props.C02
import RioModel.Props.C02iso

namespace Rio.C02
open Rio.Router Rio.Router.TopGen Rio.Consts

section
variable (O : MOps)

/-- `Router::insert_route`: translated = model.  (Also for an id that is already in the map: the map entry is replaced,
the matcher only gets an `insert` - as in the code.) -/
theorem gen_router_insert_route_eq_model (S : RouterG O) (r : Route) :
    genRouterInsertRoute O.insert Route.id rInsert S.matcher S.routes r
      = ((RouterG.insert O r S).matcher, (RouterG.insert O r S).routes) := tInsertRoute_eq O S r

theorem gen_router_get_route_by_id_eq_model (S : RouterG O) (id : String) :
    genRouterGetRouteById rGet S.routes id = RouterG.getRouteById O S id := rfl

theorem gen_router_remove_eq_model (S : RouterG O) (id : String) :
    genRouterRemove O.remove rContainsKey rRemove S.matcher S.routes id
      = ((RouterG.remove O id S).2, (RouterG.remove O id S).1.matcher, (RouterG.remove O id S).1.routes) :=
  tRemove_eq O S id

theorem gen_router_batch_remove_eq_model (S : RouterG O) (ids : List String) :
    genRouterBatchRemove O.batchRemove rRetain iContains S.matcher S.routes ids
      = ((RouterG.batchRemove O ids S).matcher, (RouterG.batchRemove O ids S).routes) := rfl

theorem gen_router_len_eq_model (S : RouterG O) : genRouterLen rLen S.routes = RouterG.len O S := rfl

/-- `Router::insert(item)` = `insert_route(item.into_route(config))`, for every `into_route`. -/
theorem gen_router_insert_eq_model {τ γ : Type} (conv : τ → γ → Route) (cfg : γ) (S : RouterG O) (x : τ) :
    genRouterInsert O.insert Route.id rInsert conv cfg S.matcher S.routes x
      = ((RouterG.insert O (conv x cfg) S).matcher, (RouterG.insert O (conv x cfg) S).routes) := rfl

theorem gen_router_apply_change_set_eq_model {τ γ : Type} (conv : τ → γ → Route) (cfg : γ) (S : RouterG O)
    (added updated : List τ) (removed : List String) :
    genRouterApplyChangeSet O.insert O.batchRemove Route.id rInsert rRetain iContains iExtend conv cfg
        S.matcher S.routes added updated removed
      = ((RouterG.applyChangeSet O (added.map (fun x => conv x cfg)) (updated.map (fun x => conv x cfg)) removed S).matcher,
         (RouterG.applyChangeSet O (added.map (fun x => conv x cfg)) (updated.map (fun x => conv x cfg)) removed S).routes) :=
  tApplyChangeSet_eq O conv cfg S added updated removed

/-- `RuleChangeSet::update_existing_router`: the NEW router is the model's change-set applied to (a clone of) the existing
one; the existing router is an input VALUE of the translated function and is not part of its result (the translator
accepts only `.as_ref().clone()` on it). -/
theorem gen_update_existing_router_eq_model {τ γ : Type} (conv : τ → γ → Route) (cfg : γ) (S : RouterG O)
    (added updated : List τ) (removed : List String) :
    genUpdateExistingRouter O.insert O.batchRemove Route.id rInsert rRetain iContains iExtend conv cfg id
        added updated removed (S.matcher, S.routes)
      = ((RouterG.applyChangeSet O (added.map (fun x => conv x cfg)) (updated.map (fun x => conv x cfg)) removed S).matcher,
         (RouterG.applyChangeSet O (added.map (fun x => conv x cfg)) (updated.map (fun x => conv x cfg)) removed S).routes) :=
  tUpdateExisting_eq O conv cfg S added updated removed

theorem length_aupsert_const (v : Route) (k : String) (m : List (String × Route)) :
    (aupsert (fun _ => v) v k m).length = if (alookup k m).isSome then m.length else m.length + 1 := by
  induction m with
  | nil => simp [aupsert, alookup]
  | cons e m ih =>
    obtain ⟨k', v'⟩ := e
    by_cases h : k' = k
    · simp [aupsert, alookup, h]
    · simp only [aupsert, alookup, h, if_false, List.length_cons, ih]
      split <;> rfl

/-- inserting an id that is already present: the entry of the id map is REPLACED -/
theorem gen_router_insert_replaces (S : RouterG O) (r : Route) (id : String) :
    genRouterGetRouteById rGet (genRouterInsertRoute O.insert Route.id rInsert S.matcher S.routes r).2 id
        = (if id = r.id then some r else genRouterGetRouteById rGet S.routes id)
    ∧ genRouterLen rLen (genRouterInsertRoute O.insert Route.id rInsert S.matcher S.routes r).2
        = (if (genRouterGetRouteById rGet S.routes r.id).isSome then genRouterLen rLen S.routes
           else genRouterLen rLen S.routes + 1) := by
  constructor
  · show alookup id (aupsert (fun _ => r) r r.id S.routes) = _
    rw [alookup_aupsert]; rfl
  · exact length_aupsert_const r r.id S.routes

theorem runOpsG_inserts (rs : List Route) (S : RouterG O) :
    runOpsG O (rs.map Op.insert) S = rs.foldl (fun S r => RouterG.insert O r S) S := by
  induction rs generalizing S with
  | nil => rfl
  | cons r rs ih => exact ih (RouterG.insert O r S)

/-- **Order of the change-set**, for the translated function. -/
theorem gen_router_change_set_order {τ γ : Type} (conv : τ → γ → Route) (cfg : γ) (S : RouterG O)
    (added updated : List τ) (removed : List String) :
    genRouterApplyChangeSet O.insert O.batchRemove Route.id rInsert rRetain iContains iExtend conv cfg
        S.matcher S.routes added updated removed
      = (let S' := runOpsG O
            ([Op.batchRemove (removed ++ updated.map (fun x => (conv x cfg).id))]
              ++ updated.map (fun x => Op.insert (conv x cfg)) ++ added.map (fun x => Op.insert (conv x cfg))) S
         (S'.matcher, S'.routes)) := by
  rw [gen_router_apply_change_set_eq_model]
  -- both sides are the same three folds, one after the other
  simp only [runOpsG, RouterG.applyChangeSet, List.foldl_append, List.foldl_map, List.foldl_cons, List.foldl_nil, Op.runG,
    List.map_map, Function.comp_def]

end

/-- `len_remove` for the translated `remove` / `len`: removing a live rule makes the translated `len` one less. -/
theorem len_remove_gen_router (E : Env) (S : Router E) (L : List Route) (r : Route) (h : RRepr E S L) (hr : r ∈ L) :
    genRouterLen rLen
        (genRouterRemove (towerOps E).remove rContainsKey rRemove S.matcher S.routes r.id).2.2 + 1
      = genRouterLen rLen S.routes := by
  rw [gen_router_remove_eq_model]
  exact len_remove E S L r h hr

/-- so `remove_returns` transfers to the translated `remove` -/
theorem remove_result_gen_router (E : Env) (S : Router E) (id : String) :
    (genRouterRemove (towerOps E).remove rContainsKey rRemove S.matcher S.routes id).1 = (S.remove E id).2 := by
  rw [gen_router_remove_eq_model]

/-- `repr_change_set` for the translated `apply_change_set`: the router it leaves represents `liveChangeSet`. -/
theorem repr_change_set_gen_router {τ γ : Type} (conv : τ → γ → Route) (cfg : γ) (E : Env) (S : Router E)
    (L : List Route) (added updated : List τ) (removed : List String) (h : RRepr E S L)
    (hf : FreshAll (updated.map (fun x => conv x cfg) ++ added.map (fun x => conv x cfg))
      (L.filter (fun r => !(removed ++ (updated.map (fun x => conv x cfg)).map (·.id)).contains r.id))) :
    RRepr E
      ⟨(genRouterApplyChangeSet (towerOps E).insert (towerOps E).batchRemove Route.id rInsert rRetain iContains iExtend
          conv cfg S.matcher S.routes added updated removed).1,
       (genRouterApplyChangeSet (towerOps E).insert (towerOps E).batchRemove Route.id rInsert rRetain iContains iExtend
          conv cfg S.matcher S.routes added updated removed).2⟩
      (liveChangeSet (added.map (fun x => conv x cfg)) (updated.map (fun x => conv x cfg)) removed L) := by
  rw [gen_router_apply_change_set_eq_model]
  exact repr_change_set E S L _ _ removed h hf

/-- the same for `update_existing_router` (clone, then apply) -/
theorem repr_update_existing_gen_router {τ γ : Type} (conv : τ → γ → Route) (cfg : γ) (E : Env) (S : Router E)
    (L : List Route) (added updated : List τ) (removed : List String) (h : RRepr E S L)
    (hf : FreshAll (updated.map (fun x => conv x cfg) ++ added.map (fun x => conv x cfg))
      (L.filter (fun r => !(removed ++ (updated.map (fun x => conv x cfg)).map (·.id)).contains r.id))) :
    RRepr E
      ⟨(genUpdateExistingRouter (towerOps E).insert (towerOps E).batchRemove Route.id rInsert rRetain iContains iExtend
          conv cfg id added updated removed (S.matcher, S.routes)).1,
       (genUpdateExistingRouter (towerOps E).insert (towerOps E).batchRemove Route.id rInsert rRetain iContains iExtend
          conv cfg id added updated removed (S.matcher, S.routes)).2⟩
      (liveChangeSet (added.map (fun x => conv x cfg)) (updated.map (fun x => conv x cfg)) removed L) := by
  rw [gen_update_existing_router_eq_model]
  exact repr_change_set E S L _ _ removed h hf

/-! ### `update_existing_router` in the model WITH sharing (Model/RouterShare.lean) -/

open Rio.RouterShare in
open Rio.MarkerCache (RegexLib) in
open Rio.Marker (Str) in
/-- **The shared existing router is not changed, the derived one is the translated function's result**, in a world of
routers sharing capture-regex cells (`into_route` = the route value of the rule; the marker templates only allocate
fresh cells). -/
theorem update_existing_router_isolated_gen {R : Type} (lib : RegexLib R) {O : MOps} (w : World R O) (hw : w.WF lib)
    (nameEq : Str → Str → Bool) (i : Nat) (S : SRouter O) (hS : w.routers[i]? = some S)
    (added updated : List (Route × RouteTpl)) (removed : List String) :
    (w.updateExisting lib i added updated removed).obs lib nameEq i = w.obs lib nameEq i ∧
    ∃ S', (w.updateExisting lib i added updated removed).routers[w.routers.length]? = some S' ∧
      (S'.core.matcher, S'.core.routes) =
        genUpdateExistingRouter O.insert O.batchRemove Route.id rInsert rRetain iContains iExtend
          (fun (x : Route × RouteTpl) (_ : Unit) => x.1) () id added updated removed (S.core.matcher, S.core.routes) := by
  obtain ⟨h1, S', h2, h3⟩ := update_existing_router_isolated lib w hw nameEq i S hS added updated removed
  refine ⟨h1, S', h2, ?_⟩
  rw [gen_update_existing_router_eq_model, h3]

/-- the hypotheses of `len_remove_gen_router` are satisfiable -/
example (E : Env) : ∃ (S : Router E) (L : List Route) (r : Route), RRepr E S L ∧ r ∈ L :=
  ⟨(Router.empty E).insert E (exRoute "a" none (.static "/a")), [exRoute "a" none (.static "/a")],
    exRoute "a" none (.static "/a"), repr_insert E _ [] _ (repr_empty E) (by simp), by simp⟩

/-- the freshness hypothesis of `repr_change_set_gen_router` is satisfiable with a non-trivial change-set
(an update of the live id "a" and a new id "c"; `into_route` = identity) -/
example : FreshAll
    ([exRoute "a" (some (.static "h")) (.static "/a")].map (fun x => (fun (x : Route) (_ : Unit) => x) x ()) ++
      [exRoute "c" none (.static "/a")].map (fun x => (fun (x : Route) (_ : Unit) => x) x ()))
    ([exRoute "a" none (.static "/a")].filter (fun r => !(["b"] ++
      ([exRoute "a" (some (.static "h")) (.static "/a")].map (fun x => (fun (x : Route) (_ : Unit) => x) x ())).map (·.id)).contains r.id)) := by
  simp [FreshAll, exRoute]

/-- the translated functions compute: on the list-only matcher "all inserted routes" the translated change-set replaces "a" -/
example :
    let O : MOps := ⟨List Route, [], fun r m => r :: m, fun id m => (m.filter (·.id != id), m.find? (·.id == id)),
      fun ids m => m.filter (fun r => !ids.contains r.id), fun m _ => m, fun _ _ => [], List.length, fun _ _ m => (m, 0)⟩
    let S0 : RouterG O := RouterG.insert O (exRoute "a" none (.static "/a")) (RouterG.empty O)
    let res := genRouterApplyChangeSet O.insert O.batchRemove Route.id rInsert rRetain iContains iExtend
      (fun (x : Route) (_ : Unit) => x) () S0.matcher S0.routes
      [exRoute "c" none (.static "/a")] [exRoute "a" (some (.static "h")) (.static "/a")] ["b"]
    res.2.map Prod.fst = ["a", "c"] ∧ (genRouterGetRouteById rGet res.2 "a").map (·.host) = some (some (.static "h"))
      ∧ genRouterLen rLen res.2 = 2 := by
  decide

/-- the hypotheses of `update_existing_router_isolated_gen` are satisfiable (`tinyWorld` of Props/C02iso.lean, router 0) -/
example : tinyWorld.WF tinyLib ∧ ∃ S, tinyWorld.routers[0]? = some S := ⟨tinyWorld_wf, _, rfl⟩

end Rio.C02
