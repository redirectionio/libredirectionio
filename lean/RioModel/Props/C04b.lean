/-
C04 ∘ C05 — conservation and attribution of the response body, end to end.

`Rio.C04.conservative_final` says: the output of the body-filter chain built by
`FilterBodyAction::new(filters, headers)` is an `Edit` of the input by values of the filters.  C05 says which filters
`Action::create_filter_body(code, headers)` hands to that constructor: those of the contributing
rules whose response-status condition admits the code, in priority order.  Composed here
(`body_conservation_end_to_end`), for EVERY action the library computes.

Conversion (the two models have different filter records): `toChainFilter enc` maps the action
model's `BodyFilter` (strings, ids, target hashes, inner value) to the chain model's (`Bytes`; ids / hashes /
`inner_value` dropped — they only feed the unit trace).  `enc : String → Bytes` is the UTF-8 encoding
of a Rust `String`; what the theorems need of it is the hypothesis "values are valid UTF-8"
(`V (enc value)`), asked only of the values that are actually selected.
Hypotheses inherited from `conservative_final`: no `Content-Encoding` (uncompressed chain) and no `replace_text`
filter among the selected ones (a `replace_text` filter replaces the whole body by design).
-/
import RioModel.Props.C04tok
import RioModel.Props.C05

namespace Rio.C04
open Rio.Filter Rio.Consts

/-- `api::TextAction`. -/
def toChainTextAction : Rio.Action.TextAction → TextAction
  | .append => .append | .prepend => .prepend | .replace => .replace

/-- The action model's body filter as the chain model sees it (`FilterBodyActionItem::new` reads
`action`, `element_tree`, `css_selector`, `value` of an HTML filter, `action` and `content` of a text one). -/
def toChainFilter (enc : String → Bytes) : Rio.Action.BodyFilter → BodyFilter
  | .text t => .text (toChainTextAction t.action) (enc t.content)
  | .html h => .html h.action (h.elementTree.map enc) (h.cssSelector.map enc) (enc h.value)

def ruleChainFilters (enc : String → Bytes) (r : Rio.Action.Rule) : List BodyFilter :=
  (Rio.Action.Spec.ruleBodyFilters r).map fun f => toChainFilter enc f.filter

/-- The filters `create_filter_body(c, …)` selects, as chain filters, in closed form. -/
theorem selected_chain_filters (enc : String → Bytes) (R : List Rio.Action.Rule) (q : Rio.Action.Req)
    (draw : Rio.Action.Rule → Nat) (c : Nat) :
    (((Rio.Action.fromRoutesRule R q draw).createFilterBody c).1).map (toChainFilter enc) =
      ((Rio.Action.Spec.contributing q draw (Rio.Action.sortRules R)).filter
        (Rio.Action.Spec.admits · c)).flatMap (ruleChainFilters enc) := by
  rw [Rio.C05.action_eq_withApplied R q draw, Rio.Action.createFilterBody_spec]
  simp only [Rio.Action.Spec.bodyFiltersAt, List.map_flatMap, List.map_map, Function.comp_def]
  rfl

/-- **Conservation + attribution, end to end.**  Whatever the chunking of the backend body, the chain
`FilterBodyAction::new(create_filter_body(c, headers)…)` of the computed action edits it only by values of body filters
of the rules `A`: the contributing rules of the matched rules `R` whose response-status condition admits `c`. -/
theorem body_conservation_end_to_end (enc : String → Bytes) (ev : Bytes → Bytes → Bool)
    (lower : String → String) (R : List Rio.Action.Rule) (q : Rio.Action.Req)
    (draw : Rio.Action.Rule → Nat) (c : Nat) (headers : List (String × String))
    (henc : headerValue lower filterHeaderContentEncoding headers = none)
    (hntr : ∀ r ∈ Rio.Action.Spec.contributing q draw (Rio.Action.sortRules R),
      Rio.Action.Spec.admits r c = true → ∀ f ∈ ruleChainFilters enc r, isTextReplace f = false)
    (hval : ∀ r ∈ Rio.Action.Spec.contributing q draw (Rio.Action.sortRules R),
      Rio.Action.Spec.admits r c = true → ∀ f ∈ ruleChainFilters enc r, V (filterValue f))
    (cs : List Bytes) :
    let A := (Rio.Action.Spec.contributing q draw (Rio.Action.sortRules R)).filter (Rio.Action.Spec.admits · c)
    Edit (A.flatMap fun r => (ruleChainFilters enc r).flatMap filterIns)
         (A.flatMap fun r => (ruleChainFilters enc r).flatMap filterRep)
      cs.flatten
      ((Chain.new noCodec lower
          ((((Rio.Action.fromRoutesRule R q draw).createFilterBody c).1).map (toChainFilter enc))
          headers).run htmlTokenize ev noCodec cs) := by
  intro A
  rw [selected_chain_filters]
  have hmem : ∀ f ∈ A.flatMap (ruleChainFilters enc), ∃ r ∈ Rio.Action.Spec.contributing q draw
      (Rio.Action.sortRules R), Rio.Action.Spec.admits r c = true ∧ f ∈ ruleChainFilters enc r := by
    intro f hf
    obtain ⟨r, hr, hfr⟩ := List.mem_flatMap.mp hf
    have := List.mem_filter.mp hr
    exact ⟨r, this.1, this.2, hfr⟩
  have := conservative_final ev lower (A.flatMap (ruleChainFilters enc)) headers henc
    (fun f hf => by obtain ⟨r, hr, ha, hfr⟩ := hmem f hf; exact hntr r hr ha f hfr)
    (fun f hf => by obtain ⟨r, hr, ha, hfr⟩ := hmem f hf; exact hval r hr ha f hfr) cs
  simpa only [List.flatMap_assoc] using this

/-- Every value that can be inserted or substituted is the (encoded) `content` / `value` of a body
filter of a matched, contributing rule whose condition admits the code. -/
theorem edit_values_attributed (enc : String → Bytes) (R : List Rio.Action.Rule) (q : Rio.Action.Req)
    (draw : Rio.Action.Rule → Nat) (c : Nat) (v : Bytes)
    (hv : v ∈ ((Rio.Action.Spec.contributing q draw (Rio.Action.sortRules R)).filter
        (Rio.Action.Spec.admits · c)).flatMap (fun r => (ruleChainFilters enc r).flatMap filterIns) ∨
      v ∈ ((Rio.Action.Spec.contributing q draw (Rio.Action.sortRules R)).filter
        (Rio.Action.Spec.admits · c)).flatMap (fun r => (ruleChainFilters enc r).flatMap filterRep)) :
    ∃ r ∈ R, r ∈ Rio.Action.Spec.contributing q draw (Rio.Action.sortRules R) ∧
      Rio.Action.Spec.admits r c = true ∧
      ∃ f ∈ Rio.Action.Spec.ruleBodyFilters r, v = filterValue (toChainFilter enc f.filter) := by
  have key : ∀ (g : BodyFilter → List Bytes), (∀ f x, x ∈ g f → x = filterValue f) →
      v ∈ ((Rio.Action.Spec.contributing q draw (Rio.Action.sortRules R)).filter
        (Rio.Action.Spec.admits · c)).flatMap (fun r => (ruleChainFilters enc r).flatMap g) →
      ∃ r ∈ R, r ∈ Rio.Action.Spec.contributing q draw (Rio.Action.sortRules R) ∧
        Rio.Action.Spec.admits r c = true ∧
        ∃ f ∈ Rio.Action.Spec.ruleBodyFilters r, v = filterValue (toChainFilter enc f.filter) := by
    intro g hg h
    obtain ⟨r, hr, hv'⟩ := List.mem_flatMap.mp h
    obtain ⟨cf, hcf, hx⟩ := List.mem_flatMap.mp hv'
    obtain ⟨f, hf, rfl⟩ := List.mem_map.mp hcf
    have hr' := List.mem_filter.mp hr
    exact ⟨r, (Rio.C05.contributing_mem R q draw r hr'.1).1, hr'.1, hr'.2, f, hf, hg _ _ hx⟩
  rcases hv with h | h
  · exact key filterIns (fun _ _ => eq_filterValue_of_mem_filterIns) h
  · exact key filterRep (fun _ _ => eq_filterValue_of_mem_filterRep) h

/-- In particular: for a response code no contributing rule admits, and for actions without body
filters, the body passes through unchanged, whatever the chunking (`Edit [] []` is equality: `Edit_nil_nil`). -/
theorem body_untouched_when_nothing_selected (enc : String → Bytes) (ev : Bytes → Bytes → Bool)
    (lower : String → String) (R : List Rio.Action.Rule) (q : Rio.Action.Req)
    (draw : Rio.Action.Rule → Nat) (c : Nat) (headers : List (String × String))
    (henc : headerValue lower filterHeaderContentEncoding headers = none)
    (hnone : ∀ r ∈ Rio.Action.Spec.contributing q draw (Rio.Action.sortRules R),
      Rio.Action.Spec.admits r c = true → Rio.Action.Spec.ruleBodyFilters r = [])
    (cs : List Bytes) :
    Edit [] [] cs.flatten
      ((Chain.new noCodec lower
          ((((Rio.Action.fromRoutesRule R q draw).createFilterBody c).1).map (toChainFilter enc))
          headers).run htmlTokenize ev noCodec cs) := by
  have hrc : ∀ r ∈ Rio.Action.Spec.contributing q draw (Rio.Action.sortRules R),
      Rio.Action.Spec.admits r c = true → ruleChainFilters enc r = [] :=
    fun r hr ha => by rw [ruleChainFilters, hnone r hr ha]; rfl
  have hnil : ∀ g : BodyFilter → List Bytes,
      ((Rio.Action.Spec.contributing q draw (Rio.Action.sortRules R)).filter
        (Rio.Action.Spec.admits · c)).flatMap (fun r => (ruleChainFilters enc r).flatMap g) = [] := by
    intro g
    rw [List.flatMap_eq_nil_iff]
    intro r hr
    have := List.mem_filter.mp hr
    rw [hrc r this.1 this.2]
    rfl
  have h : Edit _ _ _ _ := body_conservation_end_to_end enc ev lower R q draw c headers henc
    (fun r hr ha f hf => by rw [hrc r hr ha] at hf; cases hf)
    (fun r hr ha f hf => by rw [hrc r hr ha] at hf; cases hf) cs
  rw [hnil filterIns, hnil filterRep] at h
  exact h

private def exRule : Rio.Action.Rule :=
  { id := [97], rank := 1, statusCode := none, target := none, responseStatusCodes := some [200],
    excludeResponseStatusCodes := none, sampling := none, headerFilters := none,
    bodyFilters := some [.text ⟨.append, "!", none, none⟩,
                         .html ⟨"append_child", "<i>x</i>", none, ["html", "body"], none, none, none⟩],
    logOverride := none, reset := none, stop := none, redirectUnitId := none,
    configurationLogUnitId := none, targetHash := none }

private def asciiEnc (s : String) : Bytes := s.toList.map Char.toNat

/-- One matched rule with a text `append` and an HTML `append_child` filter on code 200: the hypotheses
hold (ASCII values are valid UTF-8, no `replace_text`), so for every chunking and selector oracle the
body is the input with only `!` and `<i>x</i>` inserted. -/
example (ev : Bytes → Bytes → Bool) (cs : List Bytes) :
    Edit [asciiEnc "!", asciiEnc "<i>x</i>"] [] cs.flatten
      ((Chain.new noCodec id
          ((((Rio.Action.fromRoutesRule [exRule] ⟨none, none⟩ (fun _ => 1)).createFilterBody 200).1).map
            (toChainFilter asciiEnc)) []).run htmlTokenize ev noCodec cs) := by
  have hs : Rio.Action.sortRules [exRule] = [exRule] := by simp [Rio.Action.sortRules]
  have hC : Rio.Action.Spec.contributing ⟨none, none⟩ (fun _ => 1) [exRule] = [exRule] := by decide
  have h := body_conservation_end_to_end asciiEnc ev id [exRule] ⟨none, none⟩ (fun _ => 1) 200 [] rfl
    (by rw [hs, hC]; decide)
    (by
      rw [hs, hC]
      intro r hr _ f hf
      simp only [List.mem_singleton] at hr
      subst hr
      have : ruleChainFilters asciiEnc exRule =
          [.text .append (asciiEnc "!"), .html "append_child" [asciiEnc "html", asciiEnc "body"] none (asciiEnc "<i>x</i>")] := rfl
      rw [this] at hf
      simp only [List.mem_cons, List.mem_nil_iff, or_false] at hf
      rcases hf with rfl | rfl <;> rfl) cs
  rw [hs, hC] at h
  exact h

end Rio.C04
