/-
C05 — the computed action reflects exactly the matched rules, in priority order.

Vocabulary.  `R` = the matched rules (any order), `q` = the request-side inputs (sampling override,
skipped query parameters), `draw : Rule → Nat` = the random draw of the sampling test for each rule,
`fromRoutesRule R q draw` = the model of `Action::from_routes_rule`, `runOps` = a sequence of use-time
observer calls (`get_status_code`, `filter_headers`, `create_filter_body`, `should_log_request`,
`get_final_status_code_with_fallback`) on it, each followed by `get_applied_rule_ids`.
`sortRules R` lists the rules by (rank desc, id desc): LOWEST priority first — later rules override
earlier ones, so "highest priority" = last.  `C = Spec.contributing q draw (sortRules R)` = among the
rules kept by the sampling decision, the prefix through the first `stop` rule, and of that the suffix
from the last `reset` rule on.  `Spec.*` is the executable specification printed by the driver as `"s"`.
-/
import RioModel.Proofs.ActionObs
import RioModel.Proofs.ActionSort
import RioModel.Props.C13

namespace Rio.C05
open Rio.Action Rio.Action.Spec

/-- Master statement: the fold of `from_routes_rule` yields exactly the specification's action
(status update with fallback, header filters, body filters, rule ids, traces, log override) over the
contributing rules. -/
theorem action_eq_spec (R : List Rule) (q : Req) (draw : Rule → Nat) :
    fromRoutesRule R q draw = Spec.action q (contributing q draw (sortRules R)) :=
  foldRoutes_eq_spec q draw (sortRules R)

/-- The same with the (still empty) `rules_applied` set made explicit: the form the observer lemmas of
Proofs/ActionObs.lean start from. -/
theorem action_eq_withApplied (R : List Rule) (q : Req) (draw : Rule → Nat) :
    fromRoutesRule R q draw = withApplied (Spec.action q (contributing q draw (sortRules R))) [] :=
  action_eq_spec R q draw

/-- … and the sorted list can be ANY sorted permutation of the matched rules (distinct ids), e.g. the
one the specification computes with its own insertion sort: the driver's `"s"` is this right-hand side. -/
theorem action_eq_spec_of_sorted (R S : List Rule) (q : Req) (draw : Rule → Nat)
    (hp : S.Perm R) (hs : S.Pairwise (fun a b => ruleLe a b = true)) (hn : NodupIds R) :
    fromRoutesRule R q draw = Spec.action q (contributing q draw S) := by
  rw [action_eq_spec, sortRules_eq_of_sorted hp hs hn.keyInj]

theorem spec_sort_agrees (R : List Rule) (hn : NodupIds R) : Spec.insertionSort R = sortRules R :=
  (sortRules_eq_of_sorted (insertionSort_perm R) (insertionSort_sorted R) hn.keyInj).symm

/-- Header filters, body filters, rule traces and rule ids (last occurrence of each) of the action are those of the
contributing rules, in order; no rule is applied yet. -/
theorem filters_eq (R : List Rule) (q : Req) (draw : Rule → Nat) :
    let a := fromRoutesRule R q draw
    let C := contributing q draw (sortRules R)
    a.headerFilters = C.flatMap (ruleHeaderFilters q) ∧
    a.bodyFilters = C.flatMap ruleBodyFilters ∧
    a.ruleTraces = C.map ruleTrace ∧
    a.ruleIds = dedupLast (C.map (·.id)) ∧
    a.rulesApplied = [] := by
  intro a C
  have : a = Spec.action q C := action_eq_spec R q draw
  rw [this]
  exact ⟨rfl, rfl, rfl, rfl, rfl⟩

theorem contributing_sublist_effective (q : Req) (draw : Rule → Nat) (S : List Rule) :
    (contributing q draw S).Sublist (S.filter (effective q draw)) := by
  unfold contributing
  have h1 : ∀ l : List Rule, (throughFirstStop l).Sublist l := by
    intro l
    induction l with
    | nil => exact List.Sublist.refl _
    | cons r rs ih =>
      unfold throughFirstStop
      split
      · exact List.Sublist.cons_cons r (List.nil_sublist rs)
      · exact List.Sublist.cons_cons r ih
  have h2 : ∀ l : List Rule, (fromLastReset l).Sublist l := by
    intro l
    induction l with
    | nil => exact List.Sublist.refl _
    | cons r rs ih =>
      unfold fromLastReset
      split
      · exact List.Sublist.cons r ih
      · exact List.Sublist.refl _
  exact (h2 _).trans (h1 _)

theorem contributing_sublist (q : Req) (draw : Rule → Nat) (S : List Rule) :
    (contributing q draw S).Sublist S :=
  (contributing_sublist_effective q draw S).trans List.filter_sublist

theorem contributing_mem (R : List Rule) (q : Req) (draw : Rule → Nat) (r : Rule)
    (h : r ∈ contributing q draw (sortRules R)) : r ∈ R ∧ effective q draw r = true := by
  have := List.mem_filter.mp ((contributing_sublist_effective q draw _).subset h)
  exact ⟨(sortRules_perm R).subset this.1, this.2⟩

theorem rule_ids_eq (R : List Rule) (q : Req) (draw : Rule → Nat) (hn : NodupIds R) :
    (fromRoutesRule R q draw).ruleIds = (contributing q draw (sortRules R)).map (·.id) := by
  rw [(filters_eq R q draw).2.2.2.1]
  apply dedupLast_of_nodup
  have : NodupIds (contributing q draw (sortRules R)) :=
    (hn.perm (sortRules_perm R).symm).sublist (contributing_sublist q draw _)
  exact this

/-- All observers, in any sequence, on the computed action: results and applied-rule ids after every
call are those of the specification (`Spec.observe`), i.e. `statusAt`, `headerFiltersAt`,
`bodyFiltersAt`, `logAt`, and "keep the last occurrence" of the ids inserted so far. -/
theorem observations_eq_spec (R : List Rule) (q : Req) (draw : Rule → Nat) (allowLog : Bool) (c : Nat)
    (ops : List Op) :
    runOps allowLog c (fromRoutesRule R q draw) ops =
      Spec.observe q (contributing q draw (sortRules R)) allowLog c [] ops := by
  rw [action_eq_spec]
  exact runOps_spec q _ allowLog c [] ops

/-- **One action, a response code per call** — what a proxy does: the observers are `&mut self`, the
applied-rule ids accumulate across calls made with DIFFERENT codes (request time 0, then the backend's code). -/
theorem observations_mixed_codes (R : List Rule) (q : Req) (draw : Rule → Nat) (allowLog : Bool)
    (ops : List (Op × Nat)) :
    runOpsC allowLog (fromRoutesRule R q draw) ops =
      Spec.observeC q (contributing q draw (sortRules R)) allowLog [] ops := by
  rw [action_eq_spec]
  exact runOpsC_spec q _ allowLog [] ops

/-- Closed form of `get_applied_rule_ids()` after any such sequence (e.g. the content of
`X-RedirectionIo-RuleIds` emitted by a later `filter_headers`). -/
theorem applied_ids_after_mixed_codes (R : List Rule) (q : Req) (draw : Rule → Nat) (allowLog : Bool)
    (ops : List (Op × Nat)) (hne : ops ≠ []) :
    ((runOpsC allowLog (fromRoutesRule R q draw) ops).getLast?).map (·.2) =
      some (dedupLast (ops.flatMap fun oc => insertedBy q (contributing q draw (sortRules R)) oc.2 oc.1)) := by
  rw [observations_mixed_codes]
  generalize contributing q draw (sortRules R) = C
  have key : ∀ (ops : List (Op × Nat)) (done : List RuleId), ops ≠ [] →
      ((Spec.observeC q C allowLog done ops).getLast?).map (·.2) =
        some (dedupLast (done ++ ops.flatMap fun oc => insertedBy q C oc.2 oc.1)) := by
    intro ops
    induction ops with
    | nil => intro _ h; exact absurd rfl h
    | cons oc rest ih =>
      intro done _
      obtain ⟨op, c⟩ := oc
      cases rest with
      | nil => simp [Spec.observeC]
      | cons oc2 rest2 =>
        have := ih (done ++ insertedBy q C c op) (by simp)
        simp only [Spec.observeC, List.flatMap_cons, List.append_assoc] at this ⊢
        rw [List.getLast?_cons_cons]
        exact this
  simpa using key ops [] hne

/-- **The proxy order on ONE action** (`proxySequence`): every returned value and the applied ids after each call are the
specification's, the codes of the later calls being computed from the results of the earlier ones. -/
theorem proxy_order_observations (R : List Rule) (q : Req) (draw : Rule → Nat) (allowLog : Bool) (backend : Nat) :
    let a := fromRoutesRule R q draw
    let C := contributing q draw (sortRules R)
    runOpsC allowLog a
        (proxySequence (a.getStatusCode 0).1 ((a.getStatusCode 0).2.getStatusCode backend).1 backend) =
      Spec.observeC q C allowLog []
        (proxySequence (statusAt C 0).1 (statusAt C backend).1 backend) := by
  intro a C
  have e : a = withApplied (Spec.action q C) [] := action_eq_withApplied R q draw
  have h0 : (a.getStatusCode 0).1 = (statusAt C 0).1 := by rw [e, getStatusCode_spec]
  have h1 : ((a.getStatusCode 0).2.getStatusCode backend).1 = (statusAt C backend).1 := by
    rw [e, getStatusCode_spec, getStatusCode_spec]
  rw [h0, h1]
  exact observations_mixed_codes R q draw allowLog _

/-- `get_status_code(c)` on the computed action is `statusAt C c`; the rule id it inserts into `rules_applied` is the rule
that value is attributed to. -/
theorem status_closed_form (R : List Rule) (q : Req) (draw : Rule → Nat) (c : Nat) :
    let C := contributing q draw (sortRules R)
    ((fromRoutesRule R q draw).getStatusCode c).1 = (statusAt C c).1 ∧
    ((fromRoutesRule R q draw).getStatusCode c).2.rulesApplied = (statusAt C c).2.toList := by
  intro C
  have h := getStatusCode_spec q C [] c
  have e := action_eq_withApplied R q draw
  rw [e, h]
  refine ⟨rfl, ?_⟩
  cases (statusAt C c).2 <;> rfl

/-- The table behind `statusAt`: it depends only on the last two status-carrying contributing rules —
primary `p` = the last one (highest priority), candidate fallback `q` (a rule here, not the request inputs) = the one
before it. -/
theorem status_table (C : List Rule) (c : Nat) :
    statusAt C c =
      match (C.filter carriesStatus).reverse with
      | [] => (0, none)
      | [p] => if admitsStatus p c then (p.statusCode.getD 0, some p.id) else (0, none)
      | p :: q :: _ =>
        if admitsStatus p c then (p.statusCode.getD 0, some p.id)
        else if c = 0 then (0, none)
        else if unconditional q && !unconditional p then (q.statusCode.getD 0, some q.id)
        else (0, none) := by
  unfold statusAt primaryFallback
  cases (C.filter carriesStatus).reverse with
  | nil => rfl
  | cons p t =>
    cases t with
    | nil => cases admitsStatus p c <;> cases c == 0 <;> rfl
    | cons q t' =>
      simp only [beq_iff_eq]
      cases (unconditional q && !unconditional p) <;> rfl

/-- When a rule's status applies to response code `c` (the code's own table): an unconditional rule
(no code list) at request time only, or for every code when it carries the exclude flag (sic); a
conditional rule when `c` is listed, resp. not listed with the exclude flag (which includes `c = 0`
unless 0 is listed — sic). -/
theorem admitsStatus_table (p : Rule) (c : Nat) :
    admitsStatus p c = true ↔
      (codesOf p = [] ∧ (c = 0 ∨ exclOf p = true)) ∨
      (codesOf p ≠ [] ∧ ((exclOf p = true ∧ c ∉ codesOf p) ∨ (exclOf p = false ∧ c ∈ codesOf p))) := by
  unfold admitsStatus
  cases hc : codesOf p with
  | nil => cases exclOf p <;> simp
  | cons x xs =>
    cases exclOf p <;> simp

/-- … and when its filters, its trace and its log override apply. -/
theorem admits_table (p : Rule) (c : Nat) :
    admits p c = true ↔
      codesOf p = [] ∨ (exclOf p = true ∧ c ∉ codesOf p) ∨ (exclOf p = false ∧ c ∈ codesOf p) := by
  unfold admits
  cases hc : codesOf p with
  | nil => simp
  | cons x xs => cases exclOf p <;> simp

/-- `should_log_request(allow, c)` on the computed action is `(logAt C c).1`, or the configured default when that is
`none`; the rule id it inserts into `rules_applied` is the rule the decision is attributed to. -/
theorem log_closed_form (R : List Rule) (q : Req) (draw : Rule → Nat) (allowLog : Bool) (c : Nat) :
    let C := contributing q draw (sortRules R)
    ((fromRoutesRule R q draw).shouldLogRequest allowLog c).1 = (logAt C c).1.getD allowLog ∧
    ((fromRoutesRule R q draw).shouldLogRequest allowLog c).2.rulesApplied = (logAt C c).2.toList := by
  intro C
  have h := shouldLogRequest_spec q C [] allowLog c
  have e := action_eq_withApplied R q draw
  rw [e, h]
  refine ⟨rfl, ?_⟩
  cases (logAt C c).2 <;> rfl

/-- The table behind `logAt`: the log override of the last log-carrying contributing rule when its condition admits `c`,
else that of the one before it iff that one is unconditional (and the last one conditional), else none. -/
theorem log_table (C : List Rule) (c : Nat) :
    logAt C c =
      match (C.filter carriesLog).reverse with
      | [] => (none, none)
      | [p] => if admits p c then (p.logOverride, some p.id) else (none, none)
      | p :: q :: _ =>
        if admits p c then (p.logOverride, some p.id)
        else if unconditional q && !unconditional p then (q.logOverride, some q.id)
        else (none, none) := by
  unfold logAt primaryFallback
  cases (C.filter carriesLog).reverse with
  | nil => rfl
  | cons p t =>
    cases t with
    | nil => cases admits p c <;> rfl
    | cons q t' =>
      simp only
      cases (unconditional q && !unconditional p) <;> rfl

/-- End to end for `filter_headers` (with C13's `fold_spec`): the response headers returned for code
`c` are the left fold of the five reference header operations over the header filters of the
contributing rules admitting `c`, in priority order, followed by the `X-RedirectionIo-RuleIds` header
listing the admitted rules (those without header filter first: a re-inserted id moves to the back). -/
theorem filter_headers_end_to_end (lower : String → String) (showId : RuleId → String)
    (R : List Rule) (q : Req) (draw : Rule → Nat) (hs : List Rio.Header.Header) (c : Nat) :
    let C := contributing q draw (sortRules R)
    ((fromRoutesRule R q draw).filterHeadersFull lower showId hs c true).1 =
      Rio.Header.refFold lower ((headerFiltersAt q C c).map toHeaderOp) hs ++
        [⟨"X-RedirectionIo-RuleIds",
          String.intercalate ";" ((dedupLast (insertedBy q C c .headers)).map showId)⟩] := by
  intro C
  -- `dedupLast []` for `[]`: the left side of `foldl_lhsInsert_dedupLast`
  have e : fromRoutesRule R q draw = withApplied (Spec.action q C) (dedupLast []) := action_eq_withApplied R q draw
  unfold Action.filterHeadersFull
  rw [e, filterHeaders_spec, foldl_lhsInsert_dedupLast]
  simp only [if_true, List.nil_append, Rio.C13.fold_spec]

/-- Every header filter applied for response code `c` comes from a matched, contributing rule whose
response-status condition admits `c` (and it is one of that rule's header filters). -/
theorem attribution_header (R : List Rule) (q : Req) (draw : Rule → Nat) (c : Nat) (add : Bool)
    (f : HeaderFilter) (hf : f ∈ ((fromRoutesRule R q draw).filterHeaders c add).filters) :
    ∃ r, r ∈ R ∧ r ∈ contributing q draw (sortRules R) ∧ admits r c = true ∧
      f ∈ (ruleHeaderFilters q r).map (·.filter) := by
  have e := action_eq_withApplied R q draw
  rw [e, filterHeaders_spec] at hf
  simp only [headerFiltersAt, List.mem_flatMap, List.mem_filter] at hf
  obtain ⟨r, ⟨hr, ha⟩, hfr⟩ := hf
  exact ⟨r, (contributing_mem R q draw r hr).1, hr, ha, hfr⟩

/-- Same for body filters. -/
theorem attribution_body (R : List Rule) (q : Req) (draw : Rule → Nat) (c : Nat)
    (f : BodyFilter) (hf : f ∈ ((fromRoutesRule R q draw).createFilterBody c).1) :
    ∃ r, r ∈ R ∧ r ∈ contributing q draw (sortRules R) ∧ admits r c = true ∧
      f ∈ (ruleBodyFilters r).map (·.filter) := by
  have e := action_eq_withApplied R q draw
  rw [e, createFilterBody_spec] at hf
  simp only [bodyFiltersAt, List.mem_flatMap, List.mem_filter] at hf
  obtain ⟨r, ⟨hr, ha⟩, hfr⟩ := hf
  exact ⟨r, (contributing_mem R q draw r hr).1, hr, ha, hfr⟩

/-- When `statusAt` names a rule, it is a status-carrying rule of `C` whose code is the value: the primary if it admits `c`,
else (`c ≠ 0` only) the unconditional fallback of a conditional primary.  `attribution_status` and
`attribution_status_fallback` each keep a part of this, at `C` = the contributing rules. -/
theorem statusAt_named (C : List Rule) (c : Nat) (id : RuleId) (h : (statusAt C c).2 = some id) :
    ∃ r ∈ C, r.id = id ∧ carriesStatus r = true ∧ (statusAt C c).1 = r.statusCode.getD 0 ∧
      (admitsStatus r c = true ∨
        (c ≠ 0 ∧ unconditional r = true ∧ ∃ p ∈ C, carriesStatus p = true ∧
          unconditional p = false ∧ admitsStatus p c = false)) := by
  unfold statusAt at h ⊢
  cases hpf : primaryFallback carriesStatus C with
  | none => rw [hpf] at h; cases h
  | some pf =>
    obtain ⟨p, fb⟩ := pf
    have hm := primaryFallback_mem carriesStatus C p fb hpf
    simp only [hpf] at h ⊢
    cases ha : admitsStatus p c
    · simp only [ha, Bool.false_eq_true, if_false] at h ⊢
      cases hz : c == 0
      · simp only [hz, Bool.false_eq_true, if_false] at h ⊢
        cases fb with
        | none => cases h
        | some f =>
          have hf := hm.2 f rfl
          exact ⟨f, hf.1, Option.some.inj h, hf.2.1, rfl,
            .inr ⟨by simpa using hz, hf.2.2.1, p, hm.1.1, hm.1.2, hf.2.2.2, ha⟩⟩
      · simp only [hz, if_true] at h
        cases h
    · simp only [ha, if_true] at h ⊢
      exact ⟨p, hm.1.1, Option.some.inj h, hm.1.2, rfl, .inl ha⟩

/-- The same for `logAt` (request time included); `attribution_log` is this at the contributing rules. -/
theorem logAt_named (C : List Rule) (c : Nat) (id : RuleId) (h : (logAt C c).2 = some id) :
    ∃ r ∈ C, r.id = id ∧ carriesLog r = true ∧ (logAt C c).1 = r.logOverride ∧
      (admits r c = true ∨
        (unconditional r = true ∧ ∃ p ∈ C, carriesLog p = true ∧
          unconditional p = false ∧ admits p c = false)) := by
  unfold logAt at h ⊢
  cases hpf : primaryFallback carriesLog C with
  | none => rw [hpf] at h; cases h
  | some pf =>
    obtain ⟨p, fb⟩ := pf
    have hm := primaryFallback_mem carriesLog C p fb hpf
    simp only [hpf] at h ⊢
    cases ha : admits p c
    · simp only [ha, Bool.false_eq_true, if_false] at h ⊢
      cases fb with
      | none => cases h
      | some f =>
        have hf := hm.2 f rfl
        exact ⟨f, hf.1, Option.some.inj h, hf.2.1, rfl,
          .inr ⟨hf.2.2.1, p, hm.1.1, hm.1.2, hf.2.2.2, ha⟩⟩
    · simp only [ha, if_true] at h ⊢
      exact ⟨p, hm.1.1, Option.some.inj h, hm.1.2, rfl, .inl ha⟩

/-- A non-zero status code returned for `c` is the status code of a matched, contributing rule, named
by the id inserted into `rules_applied`, whose condition admits `c` — or which is the unconditional
fallback of a conditional rule that does not admit the (real) response code `c ≠ 0`. -/
theorem attribution_status (R : List Rule) (q : Req) (draw : Rule → Nat) (c : Nat) (id : RuleId)
    (h : (statusAt (contributing q draw (sortRules R)) c).2 = some id) :
    ∃ r, r ∈ R ∧ r ∈ contributing q draw (sortRules R) ∧ r.id = id ∧ carriesStatus r = true ∧
      (statusAt (contributing q draw (sortRules R)) c).1 = r.statusCode.getD 0 ∧
      (admitsStatus r c = true ∨ (c ≠ 0 ∧ unconditional r = true)) := by
  obtain ⟨r, hr, hid, hc, hv, hw⟩ := statusAt_named _ c id h
  exact ⟨r, (contributing_mem R q draw r hr).1, hr, hid, hc, hv, hw.imp_right fun hw => ⟨hw.1, hw.2.1⟩⟩

/-- The log decision is attributed like the status: when `should_log_request` names a rule, it is a matched,
contributing rule carrying a log override whose condition admits `c` — or the UNCONDITIONAL rule just below a
conditional primary rule that does not admit `c` (the fallback). -/
theorem attribution_log (R : List Rule) (q : Req) (draw : Rule → Nat) (c : Nat) (id : RuleId)
    (h : (logAt (contributing q draw (sortRules R)) c).2 = some id) :
    ∃ r, r ∈ R ∧ r ∈ contributing q draw (sortRules R) ∧ r.id = id ∧ carriesLog r = true ∧
      (logAt (contributing q draw (sortRules R)) c).1 = r.logOverride ∧
      (admits r c = true ∨
        (unconditional r = true ∧ ∃ p ∈ contributing q draw (sortRules R), carriesLog p = true ∧
          unconditional p = false ∧ admits p c = false)) := by
  obtain ⟨r, hr, rest⟩ := logAt_named _ c id h
  exact ⟨r, (contributing_mem R q draw r hr).1, hr, rest⟩

/-- `attribution_status` with the fallback clause spelled out: the fallback rule is named only for a real
response code, when it is unconditional and the primary (a contributing, status-carrying, CONDITIONAL rule) does
not admit the code. -/
theorem attribution_status_fallback (R : List Rule) (q : Req) (draw : Rule → Nat) (c : Nat) (id : RuleId)
    (h : (statusAt (contributing q draw (sortRules R)) c).2 = some id) :
    ∃ r, r ∈ R ∧ r ∈ contributing q draw (sortRules R) ∧ r.id = id ∧ carriesStatus r = true ∧
      (admitsStatus r c = true ∨
        (c ≠ 0 ∧ unconditional r = true ∧ ∃ p ∈ contributing q draw (sortRules R), carriesStatus p = true ∧
          unconditional p = false ∧ admitsStatus p c = false)) := by
  obtain ⟨r, hr, hid, hc, _, hw⟩ := statusAt_named _ c id h
  exact ⟨r, (contributing_mem R q draw r hr).1, hr, hid, hc, hw⟩

/-- An id inserted by `filter_headers` / `create_filter_body` for code `c` is the id of a contributing rule whose
response-status condition ADMITS `c` (the clause `applied_ids_attributed` leaves out; for ids inserted by
`get_status_code` / `should_log_request` see `attribution_status_fallback` / `attribution_log`). -/
theorem filter_ids_admitted (q : Req) (C : List Rule) (c : Nat) (op : Op) (hop : op = .headers ∨ op = .body)
    (id : RuleId) (h : id ∈ insertedBy q C c op) : ∃ r ∈ C, r.id = id ∧ admits r c = true := by
  rcases hop with rfl | rfl
  · simp only [insertedBy, List.mem_append, List.mem_map, List.mem_flatMap, List.mem_filter] at h
    rcases h with ⟨r, ⟨hr, ha⟩, rfl⟩ | ⟨r, ⟨hr, ha⟩, _, _, rfl⟩
    · exact ⟨r, hr, rfl, ha⟩
    · exact ⟨r, hr, rfl, ha⟩
  · simp only [insertedBy, List.mem_map, List.mem_flatMap, List.mem_filter] at h
    obtain ⟨r, ⟨hr, ha⟩, _, _, rfl⟩ := h
    exact ⟨r, hr, rfl, ha⟩

theorem insertedBy_mem (q : Req) (C : List Rule) (c : Nat) (op : Op) (i : RuleId) (h : i ∈ insertedBy q C c op) :
    ∃ r ∈ C, r.id = i := by
  have hstat : ∀ c', (statusAt C c').2 = some i → ∃ r ∈ C, r.id = i := fun c' hi =>
    let ⟨r, hr, hid, _⟩ := statusAt_named C c' i hi
    ⟨r, hr, hid⟩
  cases op with
  | status => exact hstat c (Option.mem_toList.mp h)
  | headers => exact let ⟨r, hr, hid, _⟩ := filter_ids_admitted q C c .headers (.inl rfl) i h; ⟨r, hr, hid⟩
  | body => exact let ⟨r, hr, hid, _⟩ := filter_ids_admitted q C c .body (.inr rfl) i h; ⟨r, hr, hid⟩
  | log => exact let ⟨r, hr, hid, _⟩ := logAt_named C c i (Option.mem_toList.mp h); ⟨r, hr, hid⟩
  | final fb =>
    rcases List.mem_append.mp h with h | h
    · exact hstat c (Option.mem_toList.mp h)
    · split at h
      · exact hstat fb (Option.mem_toList.mp h)
      · cases h

theorem observe_mem (q : Req) (C : List Rule) (allow : Bool) (c : Nat) (ops : List Op) (done : List RuleId)
    (res : OpResult × List RuleId) (hres : res ∈ Spec.observe q C allow c done ops) (i : RuleId) (hi : i ∈ res.2) :
    i ∈ done ∨ ∃ op, i ∈ insertedBy q C c op := by
  induction ops generalizing done with
  | nil => cases hres
  | cons op ops ih =>
    have hd : ∀ j, j ∈ done ++ insertedBy q C c op → j ∈ done ∨ ∃ op, j ∈ insertedBy q C c op := fun j hj =>
      (List.mem_append.mp hj).imp_right fun h => ⟨op, h⟩
    rcases List.mem_cons.mp hres with rfl | hres
    · exact hd i ((mem_dedupLast _ i).mp hi)
    · exact (ih _ hres).elim (hd i) .inr

/-- Every id reported by `get_applied_rule_ids` after any sequence of observers is the id of a
matched, contributing rule. -/
theorem applied_ids_attributed (R : List Rule) (q : Req) (draw : Rule → Nat) (allowLog : Bool) (c : Nat)
    (ops : List Op) (res : OpResult × List RuleId) (id : RuleId)
    (hres : res ∈ runOps allowLog c (fromRoutesRule R q draw) ops) (hid : id ∈ res.2) :
    ∃ r, r ∈ R ∧ r ∈ contributing q draw (sortRules R) ∧ r.id = id := by
  rw [observations_eq_spec] at hres
  rcases observe_mem q _ allowLog c ops [] res hres id hid with h | ⟨op, h⟩
  · cases h
  · obtain ⟨r, hr, e⟩ := insertedBy_mem q _ c op id h
    exact ⟨r, (contributing_mem R q draw r hr).1, hr, e⟩

/-- An effective `reset` rule that is reached (no effective `stop` before it) makes
the result independent of everything before it — of all lower-priority rules and of whatever had
been accumulated. -/
theorem reset_discards (q : Req) (draw : Rule → Nat) (a : Action) (pre post : List Rule) (r : Rule)
    (hr : effective q draw r = true) (hreset : isReset r = true)
    (hpre : ∀ x ∈ pre, effective q draw x = true → isStop x = false) :
    foldRoutes q draw a (pre ++ r :: post) = foldRoutes q draw Action.empty (r :: post) := by
  have h : pre.any (fun x => effective q draw x && isStop x) = false :=
    List.any_eq_false.mpr fun x hx => by
      cases he : effective q draw x
      · simp
      · simp [hpre x hx he]
  -- the loop gets through `pre`; whatever it has built there, the reset rule replaces it
  rw [foldRoutes_append, h, foldRoutes_cons, foldRoutes_cons]
  simp only [stepRule, hreset, hr, if_true, Bool.false_eq_true, if_false]

/-- Nothing after an effective `stop` rule contributes — the higher-priority rules might
as well not have matched. -/
theorem stop_cuts (q : Req) (draw : Rule → Nat) (a : Action) (pre post : List Rule) (r : Rule)
    (hr : effective q draw r = true) (hstop : isStop r = true) :
    foldRoutes q draw a (pre ++ r :: post) = foldRoutes q draw a (pre ++ [r]) := by
  have h : (pre ++ [r]).any (fun x => effective q draw x && isStop x) = true := by simp [hr, hstop]
  rw [List.append_cons, foldRoutes_append, h, if_pos rfl]

/-- A rule skipped by the sampling decision contributes nothing, not even its `stop` / `reset`. -/
theorem skipped_rule_ignored (q : Req) (draw : Rule → Nat) (a : Action) (pre post : List Rule) (r : Rule)
    (hr : effective q draw r = false) :
    foldRoutes q draw a (pre ++ r :: post) = foldRoutes q draw a (pre ++ post) := by
  -- the loop ends inside `pre` or gets to `r`, where it does nothing
  rw [foldRoutes_append, foldRoutes_cons, hr, if_neg Bool.false_ne_true, foldRoutes_append]

/-- The sampling test of `from_route_rule` (`true` = rule skipped), for every draw in `1..100`. -/
theorem sampling_0_100 (ov : Option Bool) (d : Nat) (h1 : 1 ≤ d) (h100 : d ≤ 100) :
    sampledOut none ov d = false ∧
    (sampledOut (some 0) ov d = false ↔ ov = some true) ∧
    (∀ s, 100 ≤ s → (sampledOut (some s) ov d = false ↔ ov ≠ some false)) ∧
    (∀ s, sampledOut (some s) (some true) d = false) ∧
    (∀ s, sampledOut (some s) (some false) d = true) := by
  refine ⟨rfl, ?_, ?_, ?_, ?_⟩
  · unfold sampledOut
    have : 0 < d := by omega
    cases ov with
    | none => simp [this]
    | some b => cases b <;> simp
  · intro s hs
    unfold sampledOut
    have : ¬ d > min s 100 := by omega
    cases ov with
    | none => simp [this]
    | some b => cases b <;> simp
  · intro s; simp [sampledOut]
  · intro s; simp [sampledOut]

theorem sampling_closed_form (q : Req) (draw : Rule → Nat) (r : Rule) :
    sampledOut r.sampling q.samplingOverride (draw r) = !effective q draw r :=
  sampledOut_eq q draw r

/-- Hence with rates in {none, 0, ≥100} or an override on the request, the whole action does not
depend on the random draws. -/
theorem sampling_draw_independent (R : List Rule) (q : Req) (draw draw' : Rule → Nat)
    (hd : ∀ r, 1 ≤ draw r ∧ draw r ≤ 100) (hd' : ∀ r, 1 ≤ draw' r ∧ draw' r ≤ 100)
    (hR : ∀ r ∈ R, q.samplingOverride.isSome = true ∨ r.sampling = none ∨ r.sampling = some 0 ∨
      ∃ s, 100 ≤ s ∧ r.sampling = some s) :
    fromRoutesRule R q draw = fromRoutesRule R q draw' := by
  rw [action_eq_spec, action_eq_spec]
  unfold contributing
  have : (sortRules R).filter (effective q draw) = (sortRules R).filter (effective q draw') := by
    apply List.filter_congr
    intro r hr
    have hr' : r ∈ R := (sortRules_perm R).subset hr
    unfold effective
    rcases hR r hr' with h | h | h | ⟨s, hs, h⟩
    · cases hov : q.samplingOverride with
      | none => simp [hov] at h
      | some b => cases b <;> cases r.sampling <;> rfl
    · simp [h]
    · have a1 := hd r; have a2 := hd' r
      have e1 : draw r ≠ 0 := by omega
      have e2 : draw' r ≠ 0 := by omega
      cases hov : q.samplingOverride with
      | none => simp [h, e1, e2]
      | some b => cases b <;> simp [h]
    · have a1 := hd r; have a2 := hd' r
      have e1 : draw r ≤ min s 100 := by omega
      have e2 : draw' r ≤ min s 100 := by omega
      cases hov : q.samplingOverride with
      | none => simp [h, e1, e2]
      | some b => cases b <;> simp [h]
  rw [this]

private def mk (id : RuleId) (rank : Nat) (status : Option Nat) (codes : Option (List Nat))
    (reset stop : Bool) (sampling : Option Nat) : Rule :=
  { id := id, rank := rank, statusCode := status, target := none, responseStatusCodes := codes,
    excludeResponseStatusCodes := none, sampling := sampling, headerFilters := none, bodyFilters := none,
    logOverride := none, reset := some reset, stop := some stop, redirectUnitId := none,
    configurationLogUnitId := none, targetHash := none }

/-- Six matched rules, each called by the letter whose character code is its id (`e` = `[101]`, …, `z` = `[122]`),
already in sorted order (rank desc, id desc):
`e` (rank 3, 410) is discarded by the reset of `d`; `d` (rank 2, unconditional 301, reset);
`c` (rank 2, 302 on [404]); `b` (rank 1, 500, sampling 0 → skipped, its stop flag with it);
`a` (rank 1, stop); `z` (rank 0, 418) is cut by the stop of `a`. -/
private def S : List Rule :=
  [mk [101] 3 (some 410) none false false none,
   mk [100] 2 (some 301) none true false none,
   mk [99] 2 (some 302) (some [404]) false false none,
   mk [98] 1 (some 500) none false true (some 0),
   mk [97] 1 none none false true none,
   mk [122] 0 (some 418) none false false none]

example :
    NodupIds S ∧ S.Pairwise (fun a b => ruleLe a b = true) ∧
    (contributing ⟨none, none⟩ (fun _ => 50) S).map (·.id) = [[100], [99], [97]] ∧
    -- request time: the unconditional 301 of `d` is only the fallback of the conditional `c`: nothing yet
    statusAt (contributing ⟨none, none⟩ (fun _ => 50) S) 0 = (0, none) ∧
    -- backend answers 404: `c` applies; 200: fallback to `d`
    statusAt (contributing ⟨none, none⟩ (fun _ => 50) S) 404 = (302, some [99]) ∧
    statusAt (contributing ⟨none, none⟩ (fun _ => 50) S) 200 = (301, some [100]) := by
  refine ⟨by unfold NodupIds; decide +kernel, by decide +kernel, by decide +kernel, by decide +kernel,
    by decide +kernel, by decide +kernel⟩

/-- The same list through the theorems: the model action for any permutation of `S` is the
specification's action over those three rules. -/
example (R : List Rule) (hp : S.Perm R) :
    (fromRoutesRule R ⟨none, none⟩ (fun _ => 50)).ruleTraces.map (·.id) = [[100], [99], [97]] := by
  have hn : NodupIds R := NodupIds.perm (by unfold NodupIds; decide) hp
  rw [action_eq_spec_of_sorted R S _ _ hp (by decide) hn]
  decide

end Rio.C05
