/-
C19, part 3: the theorems of Props/C19b applied to the VERY instance the driver runs.

`Model/LoopAnalysisTable2.lean` instantiates the abstract `Pipe` / `View` of `Model/LoopAnalysis.lean` from the table of
observed per-example pipeline results (case field `an2`) and `Drivers/C19.lean` runs the model's `testExamples`,
`unitIds`, `explain`, `computeImpacts` on it.  Here: that instance, with a router algebra over the table (`tableAlg`),
meets every hypothesis of part 2 (`View.WF` for a table with distinct rule ids – what the driver checks before it runs),
so the theorems of part 2 hold of the driven instance and none of their hypotheses is vacuous; the order in which
`router.routes()` listed the rules in the table does not matter (the harness compares the table up to that order); and
closed forms: the walker inside the analyses IS `Rio.Loop.compute` on the step table of the example (the chain in
`m.an2.explain[i]` is the chain the driver prints in `m.loops[i]`), so the walker theorems of part 1 hold of every chain
an analysis reports; explain fails exactly on an unbuildable request, with the prefixed message; impact reports
exactly one entry per example, in example order.
-/
import RioModel.Model.LoopAnalysisTable2
import RioModel.Props.C19
import RioModel.Props.C19b
set_option linter.unusedSectionVars false

namespace Rio.C19
open Rio.Analysis Rio.Loop
open Rio.Analysis.Table2 (TEx TRule runTest runUnit runExplain runImpact rowsOf rowsOfRules)

/-- `PermInv`: the table pipeline does not look at the ORDER of the matched routes (it does not look at them at all:
what the real pipeline computed from them is the observed entry). -/
theorem table_permInv : PermInv Table2.pipe :=
  ⟨fun _ _ _ _ _ _ => rfl, fun _ _ _ _ _ _ => rfl, fun _ _ _ _ _ _ => rfl, fun _ _ _ _ _ _ => rfl⟩

theorem table_idLe (a b : String) : Table2.pipe.idLe a b = true ↔ a ≤ b := by
  show (!decide (b < a)) = true ↔ a ≤ b
  rw [Bool.not_eq_true', decide_eq_false_iff_not, String.not_lt]

/-- `IdOrder`: `a.cmp(b) != Greater` on `String` ids is a total order. -/
theorem table_idOrder : IdOrder Table2.pipe where
  total a b := by
    rw [Bool.or_eq_true, table_idLe, table_idLe]
    exact String.le_total a b
  trans a b c h1 h2 := (table_idLe a c).2 (String.le_trans ((table_idLe a b).1 h1) ((table_idLe b c).1 h2))
  antisymm a b h1 h2 := String.le_antisymm ((table_idLe a b).1 h1) ((table_idLe b a).1 h2)

/-- `View.WF`: a table whose rule ids are distinct (keys of `router.routes()`; checked by the driver). -/
theorem table_wf (rules : List TRule) (h : (rules.map (·.id)).Nodup) : View.WF Table2.pipe (Table2.view rules) :=
  ⟨h, fun _ => by simp [NodupIds, Table2.view]⟩

/-- The router algebra of the table instance: a router is the list of its rules; matching and tracing are answered
by the table (`Table2.view`). -/
def tableAlg : Alg (List TRule) TRule Table2.Ex Unit (List String) String where
  empty _ := []
  insert r S := r :: S
  remove id S := S.filter (fun r => decide (Table2.pipe.ruleId r ≠ id))
  applyChangeSet a u d S := liveChangeSet Table2.pipe.ruleId a u d S
  view S := Table2.view S

def tableLaws : AlgLaws tableAlg Table2.pipe.ruleId (fun t : List String => t) where
  Repr S _ L := S = L ∧ NodupIds Table2.pipe.ruleId L
  repr_empty c := ⟨rfl, by simp [NodupIds]⟩
  repr_insert S c L r h hf := by
    obtain ⟨rfl, hn⟩ := h
    exact ⟨rfl, hn.cons hf⟩
  repr_remove S c L id h := by
    obtain ⟨rfl, hn⟩ := h
    exact ⟨rfl, NodupIds.filter hn _⟩
  repr_changeSet S c L D h hv := by
    obtain ⟨rfl, hn⟩ := h
    exact ⟨rfl, nodupIds_live Table2.pipe.ruleId D S hn hv⟩
  nodup S c L h := h.2
  config S c L h := rfl
  routes S c L h := by obtain ⟨rfl, _⟩ := h; exact List.Perm.refl _
  match_nodup S c L h q := by simp [NodupIds, tableAlg, Table2.view]
  match_sub S c L h q x hx := by simp [tableAlg, Table2.view] at hx
  match_perm S S' c L L' h h' hm q := List.Perm.refl _
  trace_canon S S' c L L' h h' hm q := rfl

/-- **Project ≡ stand-alone on the driven instance**: the four theorems of part 2 instantiated with `tableAlg`. -/
theorem table_project_equals_standalone (B : List TRule) (D : ChangeSet TRule String) (rules : List TRule)
    (hb : NodupIds Table2.pipe.ruleId B) (hv : ValidChangeSet Table2.pipe.ruleId D B)
    (hn : NodupIds Table2.pipe.ruleId rules) (hr : ∀ x, x ∈ rules ↔ x ∈ D.live Table2.pipe.ruleId B)
    (maxHops : Nat) (dom : Table2.Dom) :
    testExamplesProject tableAlg Table2.pipe D maxHops dom B =
      testExamplesStandalone tableAlg Table2.pipe () rules maxHops dom ∧
    (∀ id, lookupA id (unitIdsProject tableAlg Table2.pipe D B) =
      lookupA id (unitIdsStandalone tableAlg Table2.pipe () rules)) ∧
    (∀ e, (explainProject tableAlg Table2.pipe D maxHops dom e B).map (ExplainOut.project fun t => t) =
      (explainStandalone tableAlg Table2.pipe () rules maxHops dom e).map (ExplainOut.project fun t => t)) ∧
    (∀ I : ImpactSpec TRule Table2.Dom,
      (impactProject tableAlg Table2.pipe D I B).map (Impact.project fun t => t) =
        (impactStandalone tableAlg Table2.pipe () rules I).map (Impact.project fun t => t)) :=
  analyses_project_equal_standalone tableLaws table_idOrder table_permInv B () B D rules ⟨rfl, hb⟩ hv hn hr maxHops dom

/-- **Rule-order independence on the driven instance** (`rule_order_independent` with `tableAlg`). -/
theorem table_rule_order_independent (rules rules' : List TRule) (hn : NodupIds Table2.pipe.ruleId rules)
    (hp : rules.Perm rules') (maxHops : Nat) (dom : Table2.Dom) :
    testExamplesStandalone tableAlg Table2.pipe () rules maxHops dom =
      testExamplesStandalone tableAlg Table2.pipe () rules' maxHops dom ∧
    (∀ id, lookupA id (unitIdsStandalone tableAlg Table2.pipe () rules) =
      lookupA id (unitIdsStandalone tableAlg Table2.pipe () rules')) :=
  let h := rule_order_independent tableLaws table_idOrder table_permInv () rules rules' hn hp maxHops dom
  ⟨h.1, h.2.1⟩

theorem tableExt_perm {d d' : List Row} (h : d.Perm d') : tableExt d = tableExt d' :=
  funext fun _ => h.any_eq

section
variable {Rule Req Cfg Tr Ex Id UId UT Core U M Dom : Type}
variable [DecidableEq Id] [DecidableEq U] [DecidableEq M]
variable (P : Pipe Rule Req Cfg Ex Id UId UT Core U M Dom)

theorem testExamples_congr_dom (S : View Rule Req Cfg Tr) (maxHops : Nat) (dom dom' : Dom)
    (h : P.ext dom = P.ext dom') : testExamples P S maxHops dom = testExamples P S maxHops dom' := by
  unfold testExamples loop
  rw [h]

end

/-- **The table is compared up to the order of its rules, rightly**: two tables listing the same rules (distinct ids)
in a different order give the same test-examples output (whole `TestExamplesOutput`, walker included) and the same
unit-ids map. -/
theorem table_routes_order_irrelevant (rules rules' : List TRule) (hn : (rules.map (·.id)).Nodup)
    (hp : rules.Perm rules') (maxHops : Nat) :
    runTest rules maxHops = runTest rules' maxHops ∧
    ∀ id, lookupA id (runUnit rules) = lookupA id (runUnit rules') := by
  have hE : Equiv (fun t : List String => t) (Table2.view rules) (Table2.view rules') :=
    ⟨rfl, hp, fun _ => List.Perm.refl _, fun _ => rfl⟩
  have hW := table_wf rules hn
  refine ⟨?_, (unit_ids_extensional table_permInv hE hW).2.2⟩
  unfold runTest
  rw [test_examples_extensional table_idOrder table_permInv hE hW maxHops (rowsOfRules rules)]
  apply testExamples_congr_dom
  show tableExt (rowsOfRules rules) = tableExt (rowsOfRules rules')
  exact tableExt_perm (by unfold rowsOfRules; exact hp.flatMap_right _)

section
variable {Rule Req Cfg Tr Ex Id UId UT Core U M Dom : Type}
variable [DecidableEq Id] [DecidableEq U] [DecidableEq M]
variable (P : Pipe Rule Req Cfg Ex Id UId UT Core U M Dom)

/-- the `example` field of an `Impact` -/
def Impact.example : Impact Ex Core Tr U M → Ex
  | .err e _ => e
  | .ok e _ _ _ => e

/-- **impact reports exactly one entry per example, in example order** (errored examples included). -/
theorem impact_examples_in_order (S T : View Rule Req Cfg Tr) (exs : List Ex) (withLoop : Bool) (maxHops : Nat)
    (dom : Dom) : (computeImpacts P S T (some exs) withLoop maxHops dom).map Impact.example = exs := by
  simp only [computeImpacts, List.map_map]
  refine (List.map_congr_left fun e _ => ?_).trans (List.map_id exs)
  simp only [Function.comp]
  cases P.fromExample S.config e <;> rfl

/-- a rule without examples has no impact -/
theorem impact_no_examples (S T : View Rule Req Cfg Tr) (withLoop : Bool) (maxHops : Nat) (dom : Dom) :
    computeImpacts P S T none withLoop maxHops dom = [] := rfl

/-- **explain's `redirection_loop` is `Rio.Loop.compute`** run with the step function of the analysed router
(`loopStep`), from `(example.url, example.method.unwrap_or("GET"))`: hops and error of its final state. -/
theorem explain_loop_is_compute (S : View Rule Req Cfg Tr) (maxHops : Nat) (dom : Dom) (e : Ex)
    (o : ExplainOut Ex Core Tr U M) (h : explain P S maxHops dom e = .ok o) :
    o.redirectionLoop = some
      ((compute (loopStep P S e) (P.ext dom) P.get maxHops (P.url e) ((P.method e).getD P.get)).hops,
       (compute (loopStep P S e) (P.ext dom) P.get maxHops (P.url e) ((P.method e).getD P.get)).error) := by
  unfold explain at h
  cases hq : P.fromExample S.config e with
  | error msg => simp [hq] at h
  | ok q =>
    simp only [hq] at h
    cases h
    rfl

end

/-- **The walker inside the analyses, on the table, is the table's step function**: one turn of the loop for the
entry `b` at `(u, m)` is the row of `b`'s step table for `(u, m)` (`Rio.Loop.tableStep`; no row = request error). -/
theorem table_loopStep (rules : List TRule) (b : TEx) :
    loopStep Table2.pipe (Table2.view rules) b.ex = tableStep b.rows := by
  funext u m
  simp only [loopStep, Table2.pipe, TEx.ex, Table2.view]
  cases h : tableStep b.rows u m <;> simp [h]

/-- the chain of an entry on the table: `Rio.Loop.compute` on its step table -/
def tableChain (b : TEx) (dom : Table2.Dom) (maxHops : Nat) : LoopOut String String :=
  ((compute (tableStep b.rows) (tableExt dom) Rio.Consts.loopRewriteMethod maxHops b.url
      (b.method.getD Rio.Consts.loopRewriteMethod)).hops,
   (compute (tableStep b.rows) (tableExt dom) Rio.Consts.loopRewriteMethod maxHops b.url
      (b.method.getD Rio.Consts.loopRewriteMethod)).error)

theorem table_loop (rules : List TRule) (b : TEx) (dom : Table2.Dom) (maxHops : Nat) :
    loop Table2.pipe (Table2.view rules) maxHops dom b.ex = tableChain b dom maxHops := by
  unfold loop
  rw [table_loopStep]
  rfl

/-- **explain on the table**: an error exactly when the request of the example cannot be built, with the message
`Invalid example: {e}`; otherwise the entry's observed core and trace and the chain `compute` gives on its step table. -/
theorem table_explain (rules : List TRule) (maxHops : Nat) (b : TEx) :
    runExplain rules maxHops b =
      match b.reqErr with
      | some m => .error ("Invalid example: " ++ m)
      | none => .ok ⟨b.ex, b.core, b.traceS, some (tableChain b b.rows maxHops)⟩ := by
  unfold runExplain explain
  rw [table_loop]
  cases h : b.reqErr <;> simp [Table2.pipe, TEx.ex, h, Table2.view]

theorem table_explain_error (rules : List TRule) (maxHops : Nat) (b : TEx) (msg : String) :
    runExplain rules maxHops b = .error msg ↔ ∃ m, b.reqErr = some m ∧ msg = "Invalid example: " ++ m := by
  rw [table_explain]
  cases h : b.reqErr with
  | none => simp
  | some m => simp [eq_comm]

theorem table_explain_loop (rules : List TRule) (maxHops : Nat) (b : TEx)
    (o : ExplainOut Table2.Ex Lean.Json (List String) String String) (h : runExplain rules maxHops b = .ok o) :
    o.redirectionLoop = some (tableChain b b.rows maxHops) :=
  (explain_loop_is_compute _ _ maxHops b.rows b.ex o h).trans (congrArg some (table_loop rules b b.rows maxHops))

/-- **The chain explain reports is the chain the driver prints for the probe** (`m.loops[i]` = `explainLoop` on
`tables[i]`), for a table whose first row agrees with the observed `req` of the entry. -/
theorem table_explain_loop_eq_explainLoop (rules : List TRule) (maxHops : Nat) (b : TEx)
    (hc : b.reqErr.isSome = true ↔ tableStep b.rows b.url (b.method.getD Rio.Consts.loopRewriteMethod) = .reqErr) :
    (match runExplain rules maxHops b with
     | .error _ => none
     | .ok o => o.redirectionLoop) =
      (explainLoop b.rows maxHops b.url (b.method.getD Rio.Consts.loopRewriteMethod)).map
        fun st => (st.hops, st.error) := by
  rw [table_explain]
  unfold explainLoop
  cases hb : b.reqErr with
  | some m =>
    have := hc.mp (by simp [hb])
    simp [this]
  | none =>
    have hne : tableStep b.rows b.url (b.method.getD Rio.Consts.loopRewriteMethod) ≠ .reqErr := by
      intro h
      have := hc.mpr h
      simp [hb] at this
    cases hs : tableStep b.rows b.url (b.method.getD Rio.Consts.loopRewriteMethod) with
    | reqErr => exact absurd hs hne
    | resp s l => simp [tableChain]

/-- the walker theorems of part 1 hold of the chains the analyses report; here the bound -/
theorem table_explain_loop_bounded (rules : List TRule) (maxHops : Nat) (b : TEx)
    (o : ExplainOut Table2.Ex Lean.Json (List String) String String) (h : runExplain rules maxHops b = .ok o) :
    ∃ l, o.redirectionLoop = some l ∧ 1 ≤ l.1.length ∧ l.1.length ≤ maxHops + 1 :=
  ⟨_, table_explain_loop rules maxHops b o h, loop_bounded _ _ _ _ _ _⟩

/-- **test-examples on the table**: the chain attached to a reported failure is `compute` on the step table of that
example (hop limit of the case, project domains = the rows of the rule table). -/
theorem table_test_example_chain (rules : List TRule) (maxHops : Nat) (r : TRule) (b : TEx)
    (f : FailedEx Table2.Ex String String String String)
    (h : outcome Table2.pipe (Table2.view rules) maxHops (rowsOfRules rules) r b.ex = .failed f) :
    f.ex = b.ex ∧
    (f.redirectionLoop = none ∨ f.redirectionLoop = some (tableChain b (rowsOfRules rules) maxHops)) := by
  obtain ⟨_, _, _, _, hex, _, _, _, hl⟩ := test_example_reports_pipeline _ maxHops _ r b.ex f h
  rw [table_loop] at hl
  exact ⟨hex, hl⟩

/-- **impact on the table**: one entry per example in example order; an unbuildable request gives
`Cannot create query from example: {e}`, otherwise the entry's observed core, the trace of the TRACE-UNIQUE router, and
the chain iff `with_redirection_loop`. -/
theorem table_impact_entries (bs : List TEx) (withLoop : Bool) (maxHops : Nat) :
    runImpact (some bs) withLoop maxHops =
      bs.map fun b =>
        match b.reqErr with
        | some m => Impact.err b.ex ("Cannot create query from example: " ++ m)
        | none => Impact.ok b.ex b.core b.traceT
                    (if withLoop then some (tableChain b (rowsOf bs) maxHops) else none) := by
  unfold runImpact computeImpacts
  simp only [Option.map_some, List.map_map, Option.getD_some]
  apply List.map_congr_left
  intro b _
  simp only [Function.comp, table_loop]
  cases h : b.reqErr <;> simp [Table2.pipe, TEx.ex, h, Table2.view, Table2.viewT]

/-! ### Non-vacuity: a concrete table (two rules, a two-hop cycle) -/

section
private def r1 : Row := ⟨"/a", "GET", .resp 302 (some "/b"), false⟩
private def r2 : Row := ⟨"/b", "GET", .resp 302 (some "/a"), false⟩
private def e1 : TEx :=
  ⟨0, "/a", none, some ["u1"], true, none, ["r1"], ["u1"], ["u1"], Lean.Json.null, ["r1"], [], [r1, r2]⟩
private def e2 : TEx :=
  ⟨1, "/a", none, some ["u1"], true, some "bad url", [], [], [], Lean.Json.null, [], [], [⟨"/a", "GET", .reqErr, false⟩]⟩
private def xrules : List TRule := [⟨"r2", none⟩, ⟨"r1", some [e1, e2]⟩]

example : (xrules.map (·.id)).Nodup := by simp [xrules]
example : View.WF Table2.pipe (Table2.view xrules) := table_wf xrules (by simp [xrules])
example : e1.reqErr.isSome = true ↔ tableStep e1.rows e1.url (e1.method.getD Rio.Consts.loopRewriteMethod) = .reqErr := by
  simp [e1, tableStep, r1, r2, Rio.Consts.loopRewriteMethod]
example : ∃ m, runExplain xrules 5 e2 = .error ("Invalid example: " ++ m) := ⟨"bad url", by rw [table_explain]; rfl⟩
end

end Rio.C19
