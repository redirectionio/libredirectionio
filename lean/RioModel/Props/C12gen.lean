/-
C12 — the lazily compiled regex cell, for the definitions TRANSLATED on every run from src/regex.rs (`Rio.Consts.GenLazyRegex`,
`genLazyRegexNewNode` / `NewLeaf` / `CreateRegex` / `IsMatch` / `Regex` / `Compile`) and from `Leaf::cache`, `Node::cache`,
`Item::cache` of src/regex_radix_tree (`genLeafCache`, `genNodeCacheLoop`, `genNodeCache`, `genItemCache*`); generator
tools/consts.d/tr_w20_lazyregex.py.

The `regex` crate is abstract on both sides: `build` / `run` (parameters of the translated code) and `E : Engine` (the model);
`Rep`, `CrateAt`, `OkSound` relate them, see Proofs/LazyRegexGen.lean.  Which FIELDS each constructor copies, that `compiled` starts as `None`, that `is_match` runs the stored
value when there is one and otherwise builds from `regex` + `ignore_case`, that `compile` keeps the three fields and stores
`create_regex()` of them — all of that is in the translated text and is what `gen_*_eq_model` compare with the model.
-/
import RioModel.Proofs.LazyRegexGen
import RioModel.Props.C12

namespace Rio.C12
open Rio.Consts Rio.Regex Rio.Tree Rio.LazyRegexGen Rio.C08

variable {ρ : Type}

/-- **Constructors.**  The translated `LazyRegex::new_node` / `new_leaf` build the cell the model builds: `original` = the
argument, `regex` = the TEXT `^q` (`.*` for the empty prefix) / `^p$`, the case flag = the argument, `compiled = None`. -/
theorem gen_lazy_new_eq_model (val : Compiled → ρ) (s : List Char) (ic : Bool) :
    Rep val (genLazyRegexNewNode s ic) (LazyRegex.newNode s ic) ∧
    Rep val (genLazyRegexNewLeaf s ic) (LazyRegex.newLeaf s ic) ∧
    (genLazyRegexNewNode s ic : GenLazyRegex ρ).compiled = none ∧
    (genLazyRegexNewLeaf s ic : GenLazyRegex ρ).compiled = none :=
  ⟨newNode_rep val s ic, newLeaf_rep val s ic, rfl, rfl⟩

/-- **`create_regex`, `regex()`, `compile`**, for a cell `g` representing a model cell `rx` (`Rep`) and a crate that agrees
with the engine on the text of this cell (`CrateAt`). -/
theorem gen_lazy_compile_eq_model (E : Engine) {build : List Char → Bool → Option ρ} {run : ρ → List Char → Bool}
    {val : Compiled → ρ} {g : GenLazyRegex ρ} {rx : LazyRegex} (h : Rep val g rx)
    (hc : CrateAt E build run val rx.regex rx.ic) :
    genLazyRegexCreateRegex build g = (rx.createRegex E).map val ∧
    genLazyRegexRegex build g = (match rx.compiled with | some c => some c | none => rx.createRegex E).map val ∧
    Rep val (genLazyRegexCompile build g) (rx.compile E) :=
  ⟨createRegex_eq E h hc, regex_eq E h hc, compile_rep E h hc⟩

/-- **`is_match`**, whether or not a value is stored.  Same hypotheses plus `OkSound E` ("`full` / `pre` mean compiles and
matches"). -/
theorem gen_lazy_is_match_eq_model (E : Engine) (hE : OkSound E) {build : List Char → Bool → Option ρ}
    {run : ρ → List Char → Bool} {val : Compiled → ρ} {g : GenLazyRegex ρ} {rx : LazyRegex} (h : Rep val g rx)
    (hc : CrateAt E build run val rx.regex rx.ic) (s : List Char) :
    genLazyRegexIsMatch build run g s = rx.isMatch E s :=
  isMatch_eq E hE h hc s

/-- `OkSound` is needed and is only about the engine parameter: with an engine whose `full` says "matches" for a pattern that
`leafOk` says does not compile, the model's `isMatch` runs `full` while the code (translated: `match self.create_regex() { None =>
false, .. }`) answers `false`. -/
def IsMatchEqAnyEngine : Prop :=
  ∀ (E : Engine) (build : List Char → Bool → Option Compiled) (run : Compiled → List Char → Bool) (g : GenLazyRegex Compiled)
    (rx : LazyRegex), Rep id g rx → CrateAt E build run id rx.regex rx.ic →
    ∀ s, genLazyRegexIsMatch build run g s = rx.isMatch E s

theorem gen_lazy_is_match_eq_model_any_engine_fails : ¬ IsMatchEqAnyEngine := by
  intro h
  let E : Engine := ⟨fun _ _ => false, fun _ _ _ => true, fun _ _ => false, fun _ _ _ => true⟩
  let rx : LazyRegex := LazyRegex.newLeaf ['a'] false
  have := h E (stdBuild E) (fun c s => Compiled.run E c s) (toGen id rx) rx (rep_toGen id rx)
    (crateAt_std E _ _ (decodeSrc_leaf ['a'])) []
  revert this
  simp [genLazyRegexIsMatch, genLazyRegexCreateRegex, stdBuild, toGen, rx, LazyRegex.newLeaf, LazyRegex.isMatch, Compiled.ok,
    Compiled.run, decodeSrc, RxSrc.toStr, E]

/-- **`Leaf::cache`** (budget arithmetic).  Translated `Leaf::cache` and the model's `rxCache` have the same outcome for every
budget `left`: both underflow at `left - 1` (`none`), or both return related cells and the SAME remaining budget. -/
theorem gen_leaf_cache_eq_model (E : Engine) {build : List Char → Bool → Option ρ} {run : ρ → List Char → Bool}
    {val : Compiled → ρ} {g : GenLazyRegex ρ} {rx : LazyRegex} (h : Rep val g rx)
    (hc : CrateAt E build run val rx.regex rx.ic) (left : Nat) :
    CacheRel val (genLeafCache build g left) (rxCache E rx left) :=
  leafCache_rel E h hc left

/-- The `u64` subtraction of the translated `Leaf::cache` does not underflow when the budget is positive (the guard `left == 0`
of `Item::cache`), the returned budget is `left` or `left - 1`, and the budget is spent iff a value was stored by THIS call. -/
theorem gen_leaf_cache_total (build : List Char → Bool → Option ρ) (g : GenLazyRegex ρ) (left : Nat) (h : 0 < left) :
    ∃ g' n, genLeafCache build g left = some (g', n) ∧ n ≤ left ∧ left ≤ n + 1 ∧
      (n + 1 = left ↔ (g.compiled = none ∧ g'.compiled.isSome = true)) := by
  -- by cases on the two stored values (not on the spelling of the tests: `is_some()` / `is_none()` are both accepted)
  cases hg : g.compiled with
  | some r0 => exact ⟨g, left, by simp [genLeafCache, hg], Nat.le_refl _, by omega, by simp [hg]⟩
  | none =>
    cases hg' : (genLazyRegexCompile build g).compiled with
    | none =>
      exact ⟨genLazyRegexCompile build g, left, by simp [genLeafCache, hg, hg'], Nat.le_refl _, by omega, by simp [hg']⟩
    | some r1 =>
      have : ¬ left < 1 := by omega
      exact ⟨genLazyRegexCompile build g, left - 1, by simp [genLeafCache, hg, hg', this], by omega, by omega,
        by simp [hg']; omega⟩

/-- … and it does underflow at budget 0 when the compilation succeeds: `Leaf::cache` relies on its caller's guard. -/
theorem gen_leaf_cache_underflow (build : List Char → Bool → Option ρ) (g : GenLazyRegex ρ)
    (h0 : g.compiled = none) (r : ρ) (hb : build g.regex g.ignoreCase = some r) : genLeafCache build g 0 = none := by
  simp [genLeafCache, genLazyRegexCompile, genLazyRegexCreateRegex, h0, hb]

section tree
variable {ι V : Type} [DecidableEq ι]

/-- **The loop of `Node::cache`.**  `for child in &mut self.children { left = child.cache(left, cache_level, current_level + 1); }`
translated (a recursion over the children threading the budget, `none` as soon as a child underflows), with the recursive call
answered by the model's `Item.cache`, IS the model's `cacheL` at `current_level + 1`. -/
theorem gen_node_cache_loop_eq_model (E : Engine) (cs : List (Item ι V)) (left lvl cur : Nat) :
    genNodeCacheLoop (fun c l cl k => Item.cache E c l cl k) cs left lvl cur = cacheL E cs left lvl (cur + 1) :=
  nodeCacheLoop_eq E cs left lvl cur

/-- **`Item::cache` (its three arms) and `Node::cache`.**  The translated arm `Item::Empty` returns the model's budget; the
translated arms `Item::Leaf` (over the translated `Leaf::cache`) and `Item::Node` (over the translated `Node::cache`) have the
same outcome as the model's `Item.cache` on the represented item: both underflow or both return related cells, the same children
/ values and the SAME budget.  The recursive calls on the children are answered by the model (one level of the recursion is
compared; `gen_node_cache_loop_eq_model` is the loop). -/
theorem gen_item_cache_eq_model (E : Engine) {build : List Char → Bool → Option ρ} {run : ρ → List Char → Bool}
    {val : Compiled → ρ} {g : GenLazyRegex ρ} {rx : LazyRegex} (h : Rep val g rx)
    (hc : CrateAt E build run val rx.regex rx.ic) (left lvl cur : Nat) :
    (∀ ic : Bool, (genItemCacheEmpty left lvl cur).map (fun n => ((Item.empty ic : Item ι V), n)) =
        Item.cache E (.empty ic) left lvl cur) ∧
    (∀ vs : List (ι × V), LeafRel val vs (genItemCacheLeaf (fun r l => genLeafCache build r l) g left lvl cur)
        (Item.cache E (.leaf rx vs) left lvl cur)) ∧
    (∀ cs : List (Item ι V), NodeRel val (genItemCacheNode (nodeCacheFn E build) (g, cs) left lvl cur)
        (Item.cache E (.node rx cs) left lvl cur)) :=
  ⟨fun ic => itemCacheEmpty_eq E ic left lvl cur, fun vs => itemCacheLeaf_rel E h hc vs left lvl cur,
    fun cs => itemCacheNode_rel E h hc cs left lvl cur⟩

/-- **No underflow of the translated code** (`item_cache_total` through the equivalence): the translated `Item::cache`
arms never reach a failing `left - 1` / `left -= 1`, and return a budget `≤ left`. -/
theorem item_cache_total_gen (E : Engine) {build : List Char → Bool → Option ρ} {run : ρ → List Char → Bool}
    {val : Compiled → ρ} {g : GenLazyRegex ρ} {rx : LazyRegex} (h : Rep val g rx)
    (hc : CrateAt E build run val rx.regex rx.ic) (left lvl cur : Nat) :
    (∃ r, genItemCacheLeaf (fun r l => genLeafCache build r l) g left lvl cur = some r ∧ r.2 ≤ left) ∧
    (∀ cs : List (Item ι V), ∃ r, genItemCacheNode (nodeCacheFn E build) (g, cs) left lvl cur = some r ∧ r.2 ≤ left) := by
  constructor
  · obtain ⟨t', n, ht, hn⟩ := item_cache_total E (.leaf rx [] : Item Unit Unit) left lvl cur
    rcases (itemCacheLeaf_rel (ι := Unit) (V := Unit) E h hc [] left lvl cur).elim with
      ⟨_, hb⟩ | ⟨g', rx', m, ha, hb, _⟩
    · rw [ht] at hb; cases hb
    · rw [ht] at hb; cases hb
      exact ⟨_, ha, hn⟩
  · intro cs
    obtain ⟨t', n, ht, hn⟩ := item_cache_total E (.node rx cs) left lvl cur
    rcases (itemCacheNode_rel E h hc cs left lvl cur).elim with ⟨_, hb⟩ | ⟨g', cs', rx', m, ha, hb, _⟩
    · rw [ht] at hb; cases hb
    · rw [ht] at hb; cases hb
      exact ⟨_, ha, hn⟩

/-- **The translated recursion determines `Item::cache`.**  `genStep build F` is ONE step of the translated `Item::cache` – its
three translated arms, the node arm calling the translated `Node::cache` (head + loop), the leaf arm the translated `Leaf::cache` –
with every recursive call `child.cache(..)` answered by `F`.  On the trees all of whose cells are linked to the crate (`CellOf`,
`CrateAt`; values = `Compiled`): (1) the model's `Item.cache` satisfies the translated equation `F = genStep build F`; (2) every
`F` that satisfies it there IS the model's `Item.cache` there – for every tree (any depth, any number of children), budget and
levels.  So the whole-tree behaviour of the translated code (underflow or not, every stored value, the returned budget) is the
model's. -/
theorem gen_item_cache_recursion_unique (E : Engine) {build : List Char → Bool → Option Compiled}
    {run : Compiled → List Char → Bool} (t : Item ι V)
    (hc : ∀ rx, CellOf rx t → CrateAt E build run id rx.regex rx.ic) (left lvl cur : Nat) :
    genStep build (fun c l cl k => Item.cache E c l cl k) t left lvl cur = Item.cache E t left lvl cur ∧
    ∀ F : Item ι V → Nat → Nat → Nat → Option (Item ι V × Nat),
      (∀ t', (∀ rx, CellOf rx t' → CrateAt E build run id rx.regex rx.ic) →
        ∀ l cl k, F t' l cl k = genStep build F t' l cl k) →
      F t left lvl cur = Item.cache E t left lvl cur :=
  ⟨genStep_model E t hc left lvl cur, fun F hF => genStep_unique E F hF t hc left lvl cur⟩

/-- **Cache transparency and totality for any solution of the translated recursion** (through
`gen_item_cache_recursion_unique`, `find_cache`, `cache_total`): a function `F` satisfying the translated equations never
underflows, returns a budget `≤ limit`, and – on a tree satisfying the invariant with non-empty patterns – the tree it returns
answers every `find` as before. -/
theorem find_cache_gen (E : Engine) {build : List Char → Bool → Option Compiled} {run : Compiled → List Char → Bool}
    (F : Item ι V → Nat → Nat → Nat → Option (Item ι V × Nat))
    (hF : ∀ t', (∀ rx, CellOf rx t' → CrateAt E build run id rx.regex rx.ic) →
      ∀ l cl k, F t' l cl k = genStep build F t' l cl k)
    (t : Item ι V) (hc : ∀ rx, CellOf rx t → CrateAt E build run id rx.regex rx.ic) (limit lvl : Nat) :
    ∃ t' n, F t limit lvl 0 = some (t', n) ∧ n ≤ limit ∧
      ∀ ic, Inv ic t → LeafPatternsNonEmpty t → ∀ s, t'.find E s = t.find E s := by
  rw [genStep_unique E F hF t hc limit lvl 0]
  obtain ⟨t', n, h, hn⟩ := cache_total E t limit (some lvl)
  exact ⟨t', n, h, hn, fun ic hinv hne s => find_cache E t hinv hne limit (some lvl) h s⟩

end tree

/-- **`is_match` does not depend on the cache — translated code, through the equivalence**: for a well-formed model cell `rx`
(`WfRegex`), any translated cell `g` representing it and a crate agreeing with the engine on this cell's text, translated
`is_match` of translated `compile()` = translated `is_match`. -/
theorem is_match_cache_indep_gen (E : Engine) (hE : OkSound E) {build : List Char → Bool → Option ρ}
    {run : ρ → List Char → Bool} {val : Compiled → ρ} {g : GenLazyRegex ρ} {rx : LazyRegex} (hwf : WfRegex rx)
    (h : Rep val g rx) (hc : CrateAt E build run val rx.regex rx.ic) (s : List Char) :
    genLazyRegexIsMatch build run (genLazyRegexCompile build g) s = genLazyRegexIsMatch build run g s := by
  have h' := compile_rep E h hc
  have hc' : CrateAt E build run val (rx.compile E).regex (rx.compile E).ic := hc
  rw [isMatch_eq E hE h' hc' s, isMatch_eq E hE h hc s]
  exact is_match_cache_indep E rx hwf s

/-- Well-formedness of a translated cell in terms of the translated code and the crate parameters ONLY (no model, no engine):
the stored value, if any, is what `create_regex()` returns now; and a cell with the empty `original` has a regex text that – if
it compiles – matches every haystack (`new_node("")` builds `.*`; `new_leaf("")` builds `^$`, which violates this: O3). -/
def GenWf (build : List Char → Bool → Option ρ) (run : ρ → List Char → Bool) (g : GenLazyRegex ρ) : Prop :=
  (g.compiled = none ∨ g.compiled = genLazyRegexCreateRegex build g) ∧
  (g.original = [] → ∀ r, genLazyRegexCreateRegex build g = some r → ∀ s, run r s = true)

/-- **The same headline, directly on the translated code**: for ANY crate (`build`, `run` arbitrary functions) and any cell
satisfying `GenWf`, `is_match` after `compile()` = `is_match` before; and `compile()` keeps `GenWf`. -/
theorem is_match_cache_indep_gen_direct (build : List Char → Bool → Option ρ) (run : ρ → List Char → Bool)
    (g : GenLazyRegex ρ) (hwf : GenWf build run g) (s : List Char) :
    genLazyRegexIsMatch build run (genLazyRegexCompile build g) s = genLazyRegexIsMatch build run g s ∧
    GenWf build run (genLazyRegexCompile build g) := by
  obtain ⟨h1, h2⟩ := hwf
  have hcr : genLazyRegexCreateRegex build (genLazyRegexCompile build g) = genLazyRegexCreateRegex build g := rfl
  refine ⟨?_, Or.inr rfl, fun ho r hr => h2 ho r (hcr ▸ hr)⟩
  simp only [genLazyRegexIsMatch, hcr]
  simp only [genLazyRegexCompile]
  cases hb : genLazyRegexCreateRegex build g with
  | none =>
    rcases h1 with h1 | h1
    · simp [h1]
    · simp [h1, hb]
  | some r =>
    rcases h1 with h1 | h1
    · simp only [h1]
      cases ho : g.original.isEmpty
      · rfl
      · have : g.original = [] := by simpa using ho
        simp [h2 this r hb s]
    · simp [h1, hb]

/-- `GenWf` holds of whatever the translated constructors build, provided `.*` – if it compiles – matches everything and the
leaf pattern is not empty. -/
theorem genWf_new (build : List Char → Bool → Option ρ) (run : ρ → List Char → Bool) (s : List Char) (ic : Bool)
    (hany : ∀ r, build ['.', '*'] ic = some r → ∀ t, run r t = true) :
    GenWf build run (genLazyRegexNewNode s ic) ∧ (s ≠ [] → GenWf build run (genLazyRegexNewLeaf s ic)) := by
  refine ⟨⟨Or.inl rfl, ?_⟩, fun hs => ⟨Or.inl rfl, fun h => absurd h hs⟩⟩
  intro ho r hr
  have : s = [] := ho
  subst this
  apply hany r
  simpa [createRegex_eta, genLazyRegexNewNode] using hr

/-- Necessity, on the translated code: a cell holding a value built from ANOTHER text (stale) or without the case flag changes
its answer when `compile()` rebuilds from the current fields.  The crate here is the one induced by the model engine. -/
theorem stale_cached_value_is_visible_gen :
    let build := stdBuild stdEngine
    let run := fun (c : Compiled) s => Compiled.run stdEngine c s
    let stale : GenLazyRegex Compiled := toGen id staleRx
    let noflag : GenLazyRegex Compiled := toGen id noFlagRx
    genLazyRegexIsMatch build run stale ['b'] = true ∧
    genLazyRegexIsMatch build run (genLazyRegexCompile build stale) ['b'] = false ∧
    genLazyRegexIsMatch build run noflag ['A'] = false ∧
    genLazyRegexIsMatch build run (genLazyRegexCompile build noflag) ['A'] = true := by
  intro build run stale noflag
  have c1 : CrateAt stdEngine build run id staleRx.regex staleRx.ic := crateAt_std _ _ _ (decodeSrc_leaf ['a'])
  have c2 : CrateAt stdEngine build run id noFlagRx.regex noFlagRx.ic := crateAt_std _ _ _ (decodeSrc_leaf ['a'])
  have hE := okSound_engineOf parseBody
  have s := stale_cached_value_is_visible
  have n := cached_value_without_flag_is_visible
  refine ⟨?_, ?_, ?_, ?_⟩
  · rw [isMatch_eq stdEngine hE (rep_toGen id staleRx) c1]; exact s.2.1
  · rw [isMatch_eq stdEngine hE (compile_rep stdEngine (rep_toGen id staleRx) c1) c1]; exact s.2.2.1
  · rw [isMatch_eq stdEngine hE (rep_toGen id noFlagRx) c2]; exact n.2.1
  · rw [isMatch_eq stdEngine hE (compile_rep stdEngine (rep_toGen id noFlagRx) c2) c2]; exact n.2.2

/-- For EVERY engine there is a crate linked to it at every leaf cell, at `.*`, and at every node prefix not ending in `$`
(`RxSrc.toStr` is injective there); every model cell has a representing translated cell; `OkSound` holds of every `engineOf G`. -/
example (E : Engine) (p : List Char) (ic : Bool) :
    CrateAt E (stdBuild E) (fun c s => Compiled.run E c s) id (.leaf p) ic := crateAt_std E _ _ (decodeSrc_leaf p)
example (E : Engine) (ic : Bool) :
    CrateAt E (stdBuild E) (fun c s => Compiled.run E c s) id .any ic := crateAt_std E _ _ decodeSrc_any
example (E : Engine) (ic : Bool) :
    CrateAt E (stdBuild E) (fun c s => Compiled.run E c s) id (.node ['a', 'b']) ic :=
  crateAt_std E _ _ (decodeSrc_node _ (by decide))
example : OkSound stdEngine := okSound_engineOf parseBody

/-- The hypotheses of `is_match_cache_indep_gen` on a concrete cell: the leaf `ab`, case-insensitive, nothing stored. -/
example : ∃ (rx : LazyRegex) (g : GenLazyRegex Compiled), WfRegex rx ∧ Rep id g rx ∧
    CrateAt stdEngine (stdBuild stdEngine) (fun c s => Compiled.run stdEngine c s) id rx.regex rx.ic ∧ rx.original = ['a', 'b'] :=
  ⟨LazyRegex.newLeaf ['a', 'b'] true, genLazyRegexNewLeaf ['a', 'b'] true,
    Or.inr ⟨by decide, by decide⟩, newLeaf_rep id _ _, crateAt_std _ _ _ (decodeSrc_leaf _), rfl⟩

/-- `GenWf` on a concrete cell with a toy crate (values = the text and the flag; everything compiles; `.*` matches all, any
other text matches only itself without its anchors … here simply: equal to the text). -/
example : GenWf (ρ := List Char × Bool) (fun s ic => some (s, ic)) (fun r t => r.1 == ['.', '*'] || r.1 == t)
    (genLazyRegexNewNode [] false) :=
  (genWf_new _ _ [] false (by intro r hr t; simp at hr; subst hr; simp)).1

/-- The hypotheses of `gen_item_cache_recursion_unique` / `find_cache_gen`: on a two-level tree (a node `a` over the leaves `ab`,
`ac`) every cell is linked to the crate induced by the engine, and the model's `Item.cache` is a solution of the translated
recursion (so the quantification over `F` is not empty). -/
example : ∃ (t : Item Nat Nat) (F : Item Nat Nat → Nat → Nat → Nat → Option (Item Nat Nat × Nat)),
    (∀ rx, CellOf rx t → CrateAt stdEngine (stdBuild stdEngine) (fun c s => Compiled.run stdEngine c s) id rx.regex rx.ic) ∧
    (∀ t', (∀ rx, CellOf rx t' → CrateAt stdEngine (stdBuild stdEngine) (fun c s => Compiled.run stdEngine c s) id rx.regex rx.ic) →
      ∀ l cl k, F t' l cl k = genStep (stdBuild stdEngine) F t' l cl k) ∧ t.len = 2 := by
  refine ⟨.node (LazyRegex.newNode ['a'] false)
      [.leaf (LazyRegex.newLeaf ['a', 'b'] false) [(1, 1)], .leaf (LazyRegex.newLeaf ['a', 'c'] false) [(2, 2)]],
    fun c l cl k => Item.cache stdEngine c l cl k, ?_, fun t' h l cl k => (genStep_model stdEngine t' h l cl k).symm, by decide⟩
  intro rx h
  apply crateAt_std
  cases h with
  | node => decide
  | child hm hr =>
    simp only [List.mem_cons, List.not_mem_nil, or_false] at hm
    rcases hm with rfl | rfl <;> cases hr <;> decide

/-- Evaluated: what the translated constructors build. -/
example : (genLazyRegexNewLeaf ['a'] true : GenLazyRegex Unit).regex = ['^', 'a', '$'] ∧
    (genLazyRegexNewNode ['a'] true : GenLazyRegex Unit).regex = ['^', 'a'] ∧
    (genLazyRegexNewNode [] true : GenLazyRegex Unit).regex = ['.', '*'] ∧
    (genLazyRegexNewNode ['a'] true : GenLazyRegex Unit).original = ['a'] ∧
    (genLazyRegexNewNode ['a'] true : GenLazyRegex Unit).ignoreCase = true := by decide

end Rio.C12
