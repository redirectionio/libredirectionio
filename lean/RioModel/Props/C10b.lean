/-
C10 ∘ C08 ∘ C01 — a marker rule matches its instantiations through the whole router.

Setting.  `T : TEnv` is the environment of the router over the real regex-tree model (`towerTOps T`:
all seven matcher layers, `PathAndQueryMatcher` / `HostMatcher` with the radix tree of Model/Tree.lean);
`T.engine` is the regex engine, `T.render p` the regex string of the route's pattern handle `p`,
`T.icPath` / `T.icHost` the trees' case flags.  A rule with path template `t` and markers `ms`
(`(name, expression)` pairs) is a route `r` with `r.path = .dyn p` and
`T.render p = (Marker.build t ms).regex` – the string `MarkerString::new` builds (C10:
`regex_is_tokens`: it is the rendering of the token view `tokens t ms` when names are plain and
expressions contain no `@`).  `MarkerOnly r p ph`: no trigger other than that path and, optionally,
a marker host `ph`.  `RReprT T Good hPS S L`: `S` is any router state representing the live rules
`L` – every state reached by a valid history whose inserted rules satisfy `TreeGood`
(`Rio.C02.repr_run_tree`; `history_state_represented` below).

Engine laws assumed: ONE – `FullLaw E ic L ceq ts` = the field `full_iff` of the marker model's `EngineLaws`
(`^regex$` matches `s` iff `s` decomposes along the tokens), for `E.full T.icPath` on the path
tokens (and `E.full T.icHost` on the host tokens) – plus `PrefixSound E Good` (the regex tree's requirement) on the domain
`Good` of the stored patterns.  Both are PROVED for the derivative engine
`engineOf G`, every meaning `G` of group bodies, with `L := markerLang G ic`, `ceq := litEq ic`,
`Good := GoodPat`, on templates whose groups are good (`TokGood`): `engineOf_full_iff`
(Proofs/MarkerRouterBridge.lean: the marker model's and the regex model's renderings and escape tables coincide –
`render_bridge`),
`Rio.C08.prefix_sound`; the `…_engineOf` theorems below have no engine hypothesis left.
-/
import RioModel.Proofs.MarkerRouterBridge
import RioModel.Props.C10
import RioModel.Props.C02
import RioModel.Model.RouterTreeParse
set_option linter.unusedSectionVars false

namespace Rio.C10
open Rio.Router Rio.Bridge Rio.Regex Rio.Tree

section
variable (T : TEnv) (Good : List Char → Prop) (hPS : PrefixSound T.engine Good)
variable (S : RouterT T) (L : List Route) (hS : RReprT T Good hPS S L)

/-- the any-host clause for a host-less, any-scheme rule -/
def AnyHostOk (T : TEnv) (L : List Route) (q : Req) : Prop :=
  T.alwaysAnyHost = true ∨
    ∀ r' ∈ L, hostBound r' = true → schemeKey r' = none → triggersOk T.env r' q = false

include hS in
theorem marker_rule_mem_iff (r : Route) (hr : r ∈ L) (p : Pat) (ph : Option Pat) (hm : MarkerOnly r p ph)
    (q : Req) :
    r ∈ RouterG.matchReq (towerTOps T) S q ↔
      triggersOk T.env r q = true ∧ (ph.isSome = true ∨ AnyHostOk T L q) := by
  rw [g_mem_match T.env _ (towerTSpec T Good hPS) S L hS q r, sat_iff, hostBound_markerOnly r p ph hm,
    schemeKey_markerOnly r p ph hm]
  unfold AnyHostOk
  simp only [hr, true_and, not_exists, not_and, Bool.not_eq_true]
  rfl

section path
variable (t : Marker.Str) (ms : List (Marker.Str × Marker.Str))
  (hplain : Marker.namesPlain ms = true) (hre : Marker.regexNoAt ms = true)
  (Lg : List Char → List Char → Prop) (ceq : Char → Char → Bool) (hrefl : ∀ c, ceq c c = true)
  (hlaw : FullLaw T.engine T.icPath Lg ceq (Marker.tokens t ms))
  (r : Route) (hr : r ∈ L) (p : Pat) (hm : MarkerOnly r p none)
  (hp : T.render p = (Marker.build t ms).regex)

include hplain hre hlaw hm hp in
theorem marker_path_triggers (q : Req) :
    triggersOk T.env r q = true ↔ ∃ vs, Marker.Decomp Lg ceq (Marker.tokens t ms) q.path.toList vs := by
  rw [triggers_pathOnly T r p hm q, hp, (regex_is_tokens t ms hplain hre).1]
  exact hlaw q.path.toList

include hS hplain hre hrefl hlaw hr hm hp in
/-- **instantiation matches through the whole router**: if every marker value is accepted by its
expression, the request whose path is the instantiated template is answered with the rule – under
the any-host policy (the rule has no host): `always_match_any_host`, or no host-bound any-scheme
rule is fully satisfied by the request. -/
theorem marker_rule_matches (v : Marker.Str → Marker.Str)
    (hacc : ∀ n re, Marker.Tok.grp n re ∈ Marker.tokens t ms → Lg re (v n))
    (q : Req) (hq : q.path.toList = Marker.instOf (Marker.tokens t ms) v) (hany : AnyHostOk T L q) :
    r ∈ RouterG.matchReq (towerTOps T) S q := by
  rw [marker_rule_mem_iff T Good hPS S L hS r hr p none hm q]
  refine ⟨?_, Or.inr hany⟩
  rw [marker_path_triggers T t ms hplain hre Lg ceq hlaw r p hm hp q, hq]
  exact ⟨_, Marker.decomp_inst Lg ceq hrefl _ v hacc⟩

include hS hplain hre hrefl hlaw hr hm hp in
/-- match ⇔ all values accepted (and the any-host policy lets the rule through), for
delimiter-separated templates -/
theorem marker_rule_match_iff (v : Marker.Str → Marker.Str)
    (hdelim : Marker.Delimited Lg ceq v (Marker.tokens t ms))
    (q : Req) (hq : q.path.toList = Marker.instOf (Marker.tokens t ms) v) :
    r ∈ RouterG.matchReq (towerTOps T) S q ↔
      (∀ n re, Marker.Tok.grp n re ∈ Marker.tokens t ms → Lg re (v n)) ∧ AnyHostOk T L q := by
  rw [marker_rule_mem_iff T Good hPS S L hS r hr p none hm q,
    marker_path_triggers T t ms hplain hre Lg ceq hlaw r p hm hp q, hq]
  simp only [Option.isSome_none, Bool.false_eq_true, false_or,
    Marker.decomp_inst_iff Lg ceq hrefl v _ (Marker.delimitedOr_of_delimited Lg ceq v _ hdelim)]

include hS hplain hre hrefl hlaw hr hm hp in
/-- **a rejected value does not match** (delimiter-separated template): if one marker value is
rejected by its expression, the rule is not in the answer – whatever else is in the router. -/
theorem marker_rule_rejected (v : Marker.Str → Marker.Str)
    (hdelim : Marker.Delimited Lg ceq v (Marker.tokens t ms))
    (n re : Marker.Str) (hmem : Marker.Tok.grp n re ∈ Marker.tokens t ms) (hrej : ¬ Lg re (v n))
    (q : Req) (hq : q.path.toList = Marker.instOf (Marker.tokens t ms) v) :
    r ∉ RouterG.matchReq (towerTOps T) S q := by
  intro h
  exact hrej (((marker_rule_match_iff T Good hPS S L hS t ms hplain hre Lg ceq hrefl hlaw r hr p hm hp v hdelim
    q hq).mp h).1 n re hmem)

end path

section host
variable (t th : Marker.Str) (ms : List (Marker.Str × Marker.Str))
  (hplain : Marker.namesPlain ms = true) (hre : Marker.regexNoAt ms = true)
  (Lp Lh : List Char → List Char → Prop) (ceqp ceqh : Char → Char → Bool)
  (hreflp : ∀ c, ceqp c c = true) (hreflh : ∀ c, ceqh c c = true)
  (hlawp : FullLaw T.engine T.icPath Lp ceqp (Marker.tokens t ms))
  (hlawh : FullLaw T.engine T.icHost Lh ceqh (Marker.tokens th ms))
  (r : Route) (hr : r ∈ L) (p k : Pat) (hm : MarkerOnly r p (some k))
  (hp : T.render p = (Marker.build t ms).regex) (hk : T.render k = (Marker.build th ms).regex)

include hS hplain hre hreflp hreflh hlawp hlawh hr hm hp hk in
/-- a rule with marker host and marker path is answered for every request whose host and path
instantiate the two templates with accepted values -/
theorem marker_host_rule_matches (v : Marker.Str → Marker.Str)
    (haccp : ∀ n re, Marker.Tok.grp n re ∈ Marker.tokens t ms → Lp re (v n))
    (hacch : ∀ n re, Marker.Tok.grp n re ∈ Marker.tokens th ms → Lh re (v n))
    (q : Req) (hq : q.path.toList = Marker.instOf (Marker.tokens t ms) v)
    (hh : String) (hqh : q.host = some hh) (hhh : hh.toList = Marker.instOf (Marker.tokens th ms) v) :
    r ∈ RouterG.matchReq (towerTOps T) S q := by
  rw [marker_rule_mem_iff T Good hPS S L hS r hr p (some k) hm q]
  refine ⟨?_, Or.inl rfl⟩
  rw [triggers_hostPath T r p k hm q hh hqh, hp, hk, (regex_is_tokens t ms hplain hre).1,
    (regex_is_tokens th ms hplain hre).1]
  simp only [Bool.and_eq_true]
  exact ⟨(hlawh _).2 (hhh ▸ ⟨_, Marker.decomp_inst Lh ceqh hreflh _ v hacch⟩),
    (hlawp _).2 (hq ▸ ⟨_, Marker.decomp_inst Lp ceqp hreflp _ v haccp⟩)⟩

include hS hplain hre hreflp hreflh hlawp hlawh hr hm hp hk in
/-- … and not when a value of the host template is rejected (delimiter-separated host template) -/
theorem marker_host_rule_rejected (v : Marker.Str → Marker.Str)
    (hdelim : Marker.Delimited Lh ceqh v (Marker.tokens th ms))
    (n re : Marker.Str) (hmem : Marker.Tok.grp n re ∈ Marker.tokens th ms) (hrej : ¬ Lh re (v n))
    (q : Req) (hh : String) (hqh : q.host = some hh)
    (hhh : hh.toList = Marker.instOf (Marker.tokens th ms) v) :
    r ∉ RouterG.matchReq (towerTOps T) S q := by
  rw [marker_rule_mem_iff T Good hPS S L hS r hr p (some k) hm q]
  rintro ⟨h1, _⟩
  rw [triggers_hostPath T r p k hm q hh hqh, hk, (regex_is_tokens th ms hplain hre).1] at h1
  simp only [Bool.and_eq_true] at h1
  have hdec := (hlawh _).1 h1.1
  rw [hhh] at hdec
  exact hrej ((Marker.decomp_inst_iff Lh ceqh hreflh v _ (Marker.delimitedOr_of_delimited Lh ceqh v _ hdelim)).mp
    hdec n re hmem)

end host
end

/-- The rule is inserted (fresh id, patterns in the domain) into any represented state: it is live
afterwards, so the theorems above apply to it with `L := r :: L`. -/
theorem marker_rule_inserted (T : TEnv) (Good : List Char → Prop) (hPS : PrefixSound T.engine Good)
    (S : RouterT T) (L : List Route) (hS : RReprT T Good hPS S L) (r : Route)
    (hfresh : r.id ∉ L.map (·.id)) (hg : TreeGood T Good r) :
    RReprT T Good hPS (RouterG.insert (towerTOps T) r S) (r :: L) ∧ r ∈ r :: L :=
  ⟨g_insert T.env _ (towerTSpec T Good hPS) S L r hS hfresh hg, List.mem_cons_self ..⟩

/-- The states reached by valid histories whose inserted rules satisfy `TreeGood` are represented states
(this is `Rio.C02.repr_run_tree` from the empty router). -/
theorem history_state_represented (T : TEnv) (Good : List Char → Prop) (hPS : PrefixSound T.engine Good)
    (h : List Op) (hv : ValidHistory h []) (hg : ∀ op ∈ h, ∀ r ∈ Rio.C02.opRoutes op, TreeGood T Good r) :
    RReprT T Good hPS (runOpsG (towerTOps T) h (RouterG.empty _)) (liveOps h []) :=
  Rio.C02.repr_run_tree T Good hPS h _ [] (g_empty (towerTLaws T Good hPS)) hv hg

section engineOf
variable (T : TEnv) (G : List Char → Option Re) (hE : T.engine = engineOf G)

/-- The derivative engine satisfies the one law the matching theorems of C10 use (both case flags). -/
theorem engine_law_holds (ic : Bool) (ts : List Marker.Tok) (hg : TokGood ts) :
    FullLaw (engineOf G) ic (markerLang G ic) (Bridge.litEq ic) ts := engineOf_full_iff G ic ts hg

include hE in
/-- the rule's pattern is in the domain of the tree: `TreeGood` follows from the template -/
theorem marker_rule_treeGood (t : Marker.Str) (ms : List (Marker.Str × Marker.Str))
    (hplain : Marker.namesPlain ms = true) (hre : Marker.regexNoAt ms = true)
    (hg : TokGood (Marker.tokens t ms)) (hne : Marker.tokens t ms ≠ [])
    (r : Route) (p : Pat) (hm : MarkerOnly r p none) (hp : T.render p = (Marker.build t ms).regex) :
    TreeGood T GoodPat r := by
  constructor
  · intro p' hp'
    rw [dynOf, hm.path] at hp'
    cases hp'
    rw [hp, (regex_is_tokens t ms hplain hre).1]
    exact ⟨renderRegex_goodPat _ hg, renderRegex_ne_nil hne⟩
  · intro p' hp'
    rw [hm.host] at hp'
    cases hp'

include hE in
/-- **C10 ∘ C08 ∘ C01, closed form**: engine = the derivative engine `engineOf G`, marker languages `markerLang G`,
literal comparison `litEq` under the tree's case flag.  In any state reached by a valid history over
rule-shaped patterns (`RReprT … GoodPat`), a live path-marker rule whose template has good groups is
answered for every instantiation with accepted values (any-host policy permitting). -/
theorem marker_rule_matches_engineOf
    (S : RouterT T) (L : List Route)
    (hS : RReprT T GoodPat (hE ▸ Rio.C08.prefix_sound G) S L)
    (t : Marker.Str) (ms : List (Marker.Str × Marker.Str))
    (hplain : Marker.namesPlain ms = true) (hre : Marker.regexNoAt ms = true)
    (hg : TokGood (Marker.tokens t ms))
    (r : Route) (hr : r ∈ L) (p : Pat) (hm : MarkerOnly r p none)
    (hp : T.render p = (Marker.build t ms).regex)
    (v : Marker.Str → Marker.Str)
    (hacc : ∀ n re, Marker.Tok.grp n re ∈ Marker.tokens t ms → markerLang G T.icPath re (v n))
    (q : Req) (hq : q.path.toList = Marker.instOf (Marker.tokens t ms) v) (hany : AnyHostOk T L q) :
    r ∈ RouterG.matchReq (towerTOps T) S q :=
  marker_rule_matches T GoodPat _ S L hS t ms hplain hre (markerLang G T.icPath) (Bridge.litEq T.icPath)
    (litEq_refl T.icPath) (hE ▸ engineOf_full_iff G T.icPath _ hg) r hr p hm hp v hacc q hq hany

include hE in
/-- … and for a delimiter-separated template not when a value is rejected. -/
theorem marker_rule_rejected_engineOf
    (S : RouterT T) (L : List Route)
    (hS : RReprT T GoodPat (hE ▸ Rio.C08.prefix_sound G) S L)
    (t : Marker.Str) (ms : List (Marker.Str × Marker.Str))
    (hplain : Marker.namesPlain ms = true) (hre : Marker.regexNoAt ms = true)
    (hg : TokGood (Marker.tokens t ms))
    (r : Route) (hr : r ∈ L) (p : Pat) (hm : MarkerOnly r p none)
    (hp : T.render p = (Marker.build t ms).regex)
    (v : Marker.Str → Marker.Str)
    (hdelim : Marker.Delimited (markerLang G T.icPath) (Bridge.litEq T.icPath) v (Marker.tokens t ms))
    (n re : Marker.Str) (hmem : Marker.Tok.grp n re ∈ Marker.tokens t ms)
    (hrej : ¬ markerLang G T.icPath re (v n))
    (q : Req) (hq : q.path.toList = Marker.instOf (Marker.tokens t ms) v) :
    r ∉ RouterG.matchReq (towerTOps T) S q :=
  marker_rule_rejected T GoodPat _ S L hS t ms hplain hre (markerLang G T.icPath) (Bridge.litEq T.icPath)
    (litEq_refl T.icPath) (hE ▸ engineOf_full_iff G T.icPath _ hg) r hr p hm hp v hdelim n re hmem hrej q hq

end engineOf

/-! ### Non-vacuity: the closed form applied to a concrete rule (`/A/@id`, `id = [0-9]+`), the regex model's `stdEngine`,
the router built by inserting it, and the request `/A/12`; the rejected instantiation `/A/1x` is not answered -/

def exT : TEnv := tenvOf ⟨false, false, false, true⟩
def exP : Pat := [.lit '/', .lit 'A', .lit '/', .plus .digit]
def exR : Route :=
  { id := "m", priority := 0, scheme := none, host := none, ips := none, methods := none,
    excludeMethods := none, headers := [], datetime := none, time := none, weekdays := none,
    path := .dyn exP }
def exTm : Marker.Str := "/A/@id".toList
def exMs : List (Marker.Str × Marker.Str) := [("id".toList, "[0-9]+".toList)]
def exQ (path : String) : Req :=
  { scheme := none, host := none, method := none, headers := [], ip := none, createdAt := none, path := path }

set_option maxRecDepth 100000 in
example : exR ∈ RouterG.matchReq (towerTOps exT) (RouterG.build (towerTOps exT) [exR]) (exQ "/A/12") ∧
    exR ∉ RouterG.matchReq (towerTOps exT) (RouterG.build (towerTOps exT) [exR]) (exQ "/A/1x") := by
  have hE : exT.engine = engineOf parseBody := rfl
  have hplain : Marker.namesPlain exMs = true := by decide +kernel
  have hre : Marker.regexNoAt exMs = true := by decide +kernel
  have htoks : Marker.tokens exTm exMs =
      [.lit '/', .lit 'A', .lit '/', .grp "id".toList "[0-9]+".toList] := by decide +kernel
  have hg : TokGood (Marker.tokens exTm exMs) := by
    rw [htoks]; intro t ht; simp only [List.map_cons, List.map_nil, toRTok] at ht
    revert t; decide +kernel
  have hp : exT.render exP = (Marker.build exTm exMs).regex := by decide +kernel
  have hm : MarkerOnly exR exP none := ⟨rfl, rfl, rfl, rfl, rfl, rfl, rfl, rfl, rfl⟩
  have hgood := marker_rule_treeGood exT parseBody hE exTm exMs hplain hre hg (by rw [htoks]; simp) exR exP hm hp
  have hS : RReprT exT GoodPat (hE ▸ Rio.C08.prefix_sound parseBody) (RouterG.build (towerTOps exT) [exR]) [exR] :=
    g_build exT.env _ (towerTSpec exT GoodPat (hE ▸ Rio.C08.prefix_sound parseBody)) [exR]
      (by simp [NodupIds]) (by intro r hr; simp at hr; subst hr; exact hgood)
  -- the language of the marker expression: "12" is accepted, "1x" is not
  have hlang : ∀ w : List Char, markerLang parseBody false "[0-9]+".toList w ↔
      (parseBody ('?' :: ':' :: "[0-9]+".toList)).map (fun r => fmatch false r w) = some true := by
    intro w
    unfold markerLang
    cases hpb : parseBody ('?' :: ':' :: "[0-9]+".toList) with
    | none => simp
    | some r => simp [fmatch_iff]
  constructor
  · refine marker_rule_matches_engineOf exT parseBody hE _ _ hS exTm exMs hplain hre hg exR (by simp) exP hm hp
      (fun _ => "12".toList) ?_ (exQ "/A/12") (by rw [htoks]; decide +kernel) (Or.inl rfl)
    intro n re h
    rw [htoks] at h
    simp at h
    obtain ⟨rfl, rfl⟩ := h
    exact (hlang _).2 (by decide +kernel)
  · refine marker_rule_rejected_engineOf exT parseBody hE _ _ hS exTm exMs hplain hre hg exR (by simp) exP hm hp
      (fun _ => "1x".toList) ?_ "id".toList "[0-9]+".toList (by rw [htoks]; simp) ?_ (exQ "/A/1x")
      (by rw [htoks]; decide +kernel)
    · rw [htoks]; simp [Marker.Delimited]
    · intro h; have := (hlang _).1 h; revert this; decide +kernel

end Rio.C10
