/-
C09 — URL normalisation is canonical: rules and requests agree on equivalent URLs.  The model is Model/Url.lean.
URLs are byte strings (`List Nat`); `IsBytes u` says every element is < 256 (needed wherever an escaped byte has to
decode back to itself).  The encode sets are the regenerated constants of `Rio.Consts`; `SafeSet` facts about them are
proved by evaluation, so changing a set on one side only breaks `self_match`.
Bytes in the statements: 37 = `%`, 38 = `&`, 43 = `+`, 47 = `/`, 61 = `=`, 63 = `?`, 96 = back-quote.
-/
import RioModel.Proofs.Url
import RioModel.Proofs.UrlRouterBridge

namespace Rio.C09
open Rio.Url

/-- `percent_decode(utf8_percent_encode(x, set)) = percent_decode(x)` for every byte string and
every set that contains neither `%` nor a hex digit: the encoder leaves `%` alone, so input that
is already escaped stays escaped, and every byte it escapes decodes back to itself. -/
theorem decode_encode (S : List Nat) (hS : SafeSet S = true) (x : Bytes) (hx : IsBytes x) :
    pctDecode (pctEncode S x) = pctDecode x :=
  pctDecode_pctEncode hS x hx

/-- … hence `decode ∘ encode = id` exactly on the strings without `%`. -/
theorem decode_encode_id (S : List Nat) (hS : SafeSet S = true) (x : Bytes) (hx : IsBytes x)
    (h : 37 ∉ x) : pctDecode (pctEncode S x) = x :=
  pctDecode_pctEncode_id hS x hx h

/-- the witness for the excluded point: the literal text `%41` is not recovered. -/
theorem decode_encode_id_fails :
    pctDecode (pctEncode urlSet [37, 52, 49]) ≠ [37, 52, 49] := by decide +kernel

/-- Both encode passes of the rule side compose to one pass with the larger set. -/
theorem encode_twice (x : Bytes) :
    pctEncode ruleQuerySet (pctEncode sortedQuerySet x) = pctEncode querySet x := by
  rw [ruleQuerySet_eq]
  exact pctEncode_pctEncode safe_querySet (shouldEncode_mono sortedQuerySet_sub) x

/-- The request side sees the same decoded parameters in the sanitised query as the rule side sees
in the raw query. -/
theorem parse_sanitized (q : Bytes) (hq : IsBytes q) : parseQuery (sanitize q) = parseQuery q :=
  parseQuery_pctEncode safe_urlSet shouldEncode_urlSet_43 q hq

/-- **A rule whose source is the literal path and query of `u` matches the request for `u`**, under
every configuration, for every URL inside the decidable domain `WFurl cfg u` (Model/Url.lean:
sanitised URL accepted by `PathAndQuery`, non-empty path, no ignored marketing parameter in `u`,
the empty parameter `=` not combined with others).  Repeated keys are allowed.
This is the PARTIAL statement: the unqualified one (`SelfMatchFull`, below) is false of the code; the four clauses of
`WFurl` are the four recorded findings `self-match-*`, not restrictions of the property's quantifier. -/
theorem self_match (cfg : Cfg) (u : Bytes) (hb : IsBytes u) (hwf : WFurl cfg u = true) :
    ruleKey cfg u = reqKey cfg u :=
  ruleKey_eq_reqKey cfg u hb hwf

/-- the router's comparison. -/
theorem self_match_router (cfg : Cfg) (u : Bytes) (hb : IsBytes u) (hwf : WFurl cfg u = true) :
    ruleMatches cfg u u = true := by
  unfold ruleMatches matchesKey
  rw [self_match cfg u hb hwf]; simp

/-- **Exactly which URLs `PathAndQuery` accepts after `sanitize_url`** (so exactly when the request
side sorts and re-encodes): not empty, sanitised length ≤ 65534, `*` or starting with `/` or `?`,
no back-quote before the first `?`.  Every other byte `PathAndQuery` would reject is in the
sanitising encode set. -/
theorem accepted_syntax (u : Bytes) : (pqParse (sanitize u)).isSome = true ↔ AcceptedSyntax u :=
  accepted_iff u

/-- `WFurl` clause by clause, as propositions: accepted by `PathAndQuery`, non-empty path, no ignored marketing parameter,
and `EmptyParamAlone`: the empty parameter (piece `=`, decoded `([], [])`) only as the sole parameter. -/
theorem wfurl_syntax (cfg : Cfg) (u : Bytes) :
    WFurl cfg u = true ↔
      AcceptedSyntax u ∧ (splitFirst 63 u).1 ≠ [] ∧
      (paramsOf u).all (fun kv => !isMarketing cfg kv.1) = true ∧ EmptyParamAlone (paramsOf u) := by
  rw [WFurl_iff, accepted_iff]

/-- The flags of `RouterConfig::default()` (case-sensitive, marketing parameters ignored and passed to the target) with
`utm_source` alone of its five marketing parameters.  The four theorems that follow are witnesses that each clause of `WFurl`
is needed. -/
def cfgDefault : Cfg :=
  { ignoreCase := false, ignoreMarketing := true, passMarketing := true,
    marketing := [[117, 116, 109, 95, 115, 111, 117, 114, 99, 101]] }   -- "utm_source"

/-- `/a?=&a`: the empty parameter next to another one. -/
theorem self_match_fails_empty_param :
    ruleMatches cfgDefault [47, 97, 63, 61, 38, 97] [47, 97, 63, 61, 38, 97] = false := by decide +kernel

/-- `?a`: empty path. -/
theorem self_match_fails_empty_path : ruleMatches cfgDefault [63, 97] [63, 97] = false := by decide +kernel

/-- ``/`?b&a``: a URL `PathAndQuery` rejects is matched unsorted. -/
theorem self_match_fails_rejected :
    ruleMatches cfgDefault [47, 96, 63, 98, 38, 97] [47, 96, 63, 98, 38, 97] = false := by decide +kernel

/-- `/a?utm_source`: a rule naming an ignored marketing parameter never matches. -/
theorem self_match_fails_marketing :
    ruleMatches cfgDefault ([47, 97, 63] ++ [117, 116, 109, 95, 115, 111, 117, 114, 99, 101])
      ([47, 97, 63] ++ [117, 116, 109, 95, 115, 111, 117, 114, 99, 101]) = false := by decide +kernel

/-- The property as stated: **under every router configuration, a rule whose source is the literal path and query of a
URL matches a request for that URL.** -/
def SelfMatchFull : Prop := ∀ (cfg : Cfg) (u : Bytes), IsBytes u → ruleMatches cfg u u = true

/-- It is FALSE of the code, in four independent ways (the four witnesses above; known findings
`self-match-empty-param`, `self-match-empty-path`, `self-match-rejected-by-pathandquery`,
`self-match-marketing-param`).  `self_match` is what holds: the statement restricted to `WFurl`. -/
theorem self_match_full_fails : ¬ SelfMatchFull := by
  intro h
  have := h cfgDefault [47, 97, 63, 61, 38, 97] (by decide +kernel)
  rw [self_match_fails_empty_param] at this
  cases this

/-- each of the four classes refutes it on its own -/
theorem self_match_full_fails_each :
    (∃ u, IsBytes u ∧ (paramsOf u).contains ([], []) = true ∧ ruleMatches cfgDefault u u = false) ∧
    (∃ u, IsBytes u ∧ (splitFirst 63 u).1 = [] ∧ ruleMatches cfgDefault u u = false) ∧
    (∃ u, IsBytes u ∧ (pqParse (sanitize u)).isSome = false ∧ ruleMatches cfgDefault u u = false) ∧
    (∃ u, IsBytes u ∧ (paramsOf u).any (fun kv => isMarketing cfgDefault kv.1) = true ∧
      ruleMatches cfgDefault u u = false) :=
  ⟨⟨_, by decide +kernel, by decide +kernel, self_match_fails_empty_param⟩,
   ⟨_, by decide +kernel, by decide +kernel, self_match_fails_empty_path⟩,
   ⟨_, by decide +kernel, by decide +kernel, self_match_fails_rejected⟩,
   ⟨_, by decide +kernel, by decide +kernel, self_match_fails_marketing⟩⟩

/-- the three fields the router and the action use. -/
def SameNorm (r r' : PQS) : Prop :=
  r.pathAndQuery = r'.pathAndQuery ∧ r.matching = r'.matching ∧ r.skipped = r'.skipped

/-- **Permuting the query parameters (distinct decoded keys) leaves the normalised request
unchanged**: `Q'` has the same `&`-separated pieces as `Q` in another order.  (Acceptance of the
permuted URL by `PathAndQuery` follows from acceptance of the first: `accepted_perm`.) -/
theorem order_independent (cfg : Cfg) (P Q Q' : Bytes) (hP : 63 ∉ P)
    (hb : IsBytes (P ++ 63 :: Q)) (hb' : IsBytes (P ++ 63 :: Q'))
    (hperm : (pieces 38 Q).Perm (pieces 38 Q'))
    (hnd : ((parseQuery Q).map Prod.fst).Nodup)
    (hacc : (pqParse (sanitize (P ++ 63 :: Q))).isSome = true) :
    SameNorm (fromConfig cfg (P ++ 63 :: Q)) (fromConfig cfg (P ++ 63 :: Q')) := by
  have hacc' := accepted_perm P Q Q' hP hperm hacc
  have hpq : (parseQuery Q).Perm (parseQuery Q') := by
    unfold parseQuery
    exact (hperm.filter _).map _
  have hm : paramsOf (P ++ 63 :: Q) = paramsOf (P ++ 63 :: Q') := by
    rw [paramsOf_url P Q hP, paramsOf_url P Q' hP]
    exact btCollect_perm hpq hnd
  rw [fromConfig_accepted cfg _ hb hacc, fromConfig_accepted cfg _ hb' hacc']
  simp only [SameNorm, hm, splitFirst_append_cons P Q hP, splitFirst_append_cons P Q' hP, and_self]

/-- … so every rule matches both or neither. -/
theorem order_independent_match (cfg : Cfg) (ruleK : Bytes) (P Q Q' : Bytes) (hP : 63 ∉ P)
    (hb : IsBytes (P ++ 63 :: Q)) (hb' : IsBytes (P ++ 63 :: Q'))
    (hperm : (pieces 38 Q).Perm (pieces 38 Q'))
    (hnd : ((parseQuery Q).map Prod.fst).Nodup)
    (hacc : (pqParse (sanitize (P ++ 63 :: Q))).isSome = true) :
    matchesKey ruleK (reqKey cfg (P ++ 63 :: Q)) = matchesKey ruleK (reqKey cfg (P ++ 63 :: Q')) := by
  rw [reqKey_eq, reqKey_eq, (order_independent cfg P Q Q' hP hb hb' hperm hnd hacc).1]

/-- The full statement (no distinct-keys hypothesis) is false — DESIGN §6-D13, known finding
`duplicate-key-order`: rule `/a?k=1&k=2` matches `/a?k=1&k=2` but not `/a?k=2&k=1`. -/
def OrderIndependentFull : Prop :=
  ∀ (cfg : Cfg) (P Q Q' : Bytes), 63 ∉ P → IsBytes (P ++ 63 :: Q) → IsBytes (P ++ 63 :: Q') →
    (pieces 38 Q).Perm (pieces 38 Q') →
    (pqParse (sanitize (P ++ 63 :: Q))).isSome = true →
    reqKey cfg (P ++ 63 :: Q) = reqKey cfg (P ++ 63 :: Q')

theorem order_independent_full_fails : ¬ OrderIndependentFull := by
  intro h
  have := h cfgDefault [47, 97] [107, 61, 49, 38, 107, 61, 50] [107, 61, 50, 38, 107, 61, 49]
    (by decide +kernel) (by decide +kernel) (by decide +kernel) (by decide +kernel) (by decide +kernel)
  revert this
  decide +kernel

/-- **Two URLs with the same path and the same non-marketing pieces (in the same order) normalise
to the same path-and-query and matching key** — whatever marketing parameters either of them
carries, wherever they stand.  (`keptPieces`: the non-empty `&`-pieces whose decoded name is not in
the configured set; with the ignore flag off nothing is a marketing parameter.) -/
theorem marketing_ignored (cfg : Cfg) (u u' : Bytes) (hb : IsBytes u) (hb' : IsBytes u')
    (hacc : (pqParse (sanitize u)).isSome = true) (hacc' : (pqParse (sanitize u')).isSome = true)
    (hpath : (splitFirst 63 u).1 = (splitFirst 63 u').1)
    (hkept : keptPieces cfg (queryOf u) = keptPieces cfg (queryOf u')) :
    (fromConfig cfg u).pathAndQuery = (fromConfig cfg u').pathAndQuery ∧
    reqKey cfg u = reqKey cfg u' := by
  rw [reqKey_eq, reqKey_eq, fromConfig_accepted cfg u hb hacc, fromConfig_accepted cfg u' hb' hacc']
  simp only [npq, keptOf_congr cfg hkept, hpath, and_self]

/-- Instance: a marketing parameter appended to a URL that already has a query. -/
theorem marketing_appended (cfg : Cfg) (u Q seg : Bytes) (hQ : (splitFirst 63 u).2 = some Q)
    (h38 : 38 ∉ seg) (hmk : isMarketing cfg (parsePair seg).1 = true)
    (hb : IsBytes u) (hb' : IsBytes (u ++ 38 :: seg))
    (hacc : (pqParse (sanitize u)).isSome = true)
    (hacc' : (pqParse (sanitize (u ++ 38 :: seg))).isSome = true) :
    reqKey cfg (u ++ 38 :: seg) = reqKey cfg u := by
  refine (marketing_ignored cfg (u ++ 38 :: seg) u hb' hb hacc' hacc ?_ ?_).2
  · rw [splitFirst_append_some hQ]
  · unfold queryOf
    rw [splitFirst_append_some hQ, hQ]
    simp only [Option.getD_some]
    rw [keptPieces_append, keptPieces_marketing cfg h38 hmk, List.append_nil]

/-- Instance: a marketing parameter added to a URL without query (`/a` vs `/a?utm_source=x`). -/
theorem marketing_added (cfg : Cfg) (u seg : Bytes) (h63 : 63 ∉ u)
    (h38 : 38 ∉ seg) (hmk : isMarketing cfg (parsePair seg).1 = true)
    (hb : IsBytes u) (hb' : IsBytes (u ++ 63 :: seg))
    (hacc : (pqParse (sanitize u)).isSome = true)
    (hacc' : (pqParse (sanitize (u ++ 63 :: seg))).isSome = true) :
    reqKey cfg (u ++ 63 :: seg) = reqKey cfg u := by
  refine (marketing_ignored cfg (u ++ 63 :: seg) u hb' hb hacc' hacc ?_ ?_).2
  · rw [splitFirst_append_cons u seg h63, splitFirst_of_not_mem h63]
  · unfold queryOf
    rw [splitFirst_append_cons u seg h63, splitFirst_of_not_mem h63]
    simp only [Option.getD_some, Option.getD_none]
    rw [keptPieces_marketing cfg h38 hmk, keptPieces_nil]

/-- **Skipped parameters are reported iff the pass flag is set and some ignored marketing
parameter (other than the empty one) is present**; the reported string is exactly those
parameters, sorted and re-encoded (`skippedStr`). -/
theorem skipped_forwarded (cfg : Cfg) (u : Bytes) (hb : IsBytes u)
    (hacc : (pqParse (sanitize u)).isSome = true) :
    (skipped cfg u = some (skippedStr cfg (paramsOf u)) ↔
      (cfg.passMarketing = true ∧ ∃ kv ∈ paramsOf u, isMarketing cfg kv.1 = true ∧ kv ≠ ([], []))) ∧
    (skipped cfg u = none ↔
      ¬(cfg.passMarketing = true ∧ ∃ kv ∈ paramsOf u, isMarketing cfg kv.1 = true ∧ kv ≠ ([], []))) := by
  unfold skipped
  rw [fromConfig_accepted cfg u hb hacc]
  simp only [skippedOf]
  rw [← skippedStr_ne_nil]
  cases hp : cfg.passMarketing <;> cases hs : skippedStr cfg (paramsOf u) <;> simp

/-- Without the pass flag, or without the ignore flag, nothing is ever forwarded (all URLs). -/
theorem skipped_none (cfg : Cfg) (u : Bytes) (hb : IsBytes u)
    (h : cfg.passMarketing = false ∨ cfg.ignoreMarketing = false) : skipped cfg u = none := by
  unfold skipped
  cases hp : pqParse (sanitize u) with
  | none => simp [fromConfig, hp]
  | some pq =>
    rw [fromConfig_accepted cfg u hb (by rw [hp]; rfl)]
    simp only [skippedOf]
    rcases h with h | h
    · simp [h]
    · simp [skippedStr_of_not_ignore cfg h]

/-- The redirect target carries exactly the skipped parameters: appended after `?`, or after `&`
when the target already has a query; untouched when nothing was skipped. -/
theorem location_forwarded (target s : Bytes) :
    location target none = target ∧
    location target (some s) = target ++ (if target.contains 63 then [38] else [63]) ++ s :=
  ⟨rfl, rfl⟩

/-- The full statement: URLs that differ only in ASCII letter case get the same key when the flag
is set. -/
def CaseIndependentFull : Prop :=
  ∀ (cfg : Cfg) (u u' : Bytes), cfg.ignoreCase = true → IsBytes u → IsBytes u' →
    (pqParse (sanitize u)).isSome = true → (pqParse (sanitize u')).isSome = true →
    lowerAscii u = lowerAscii u' → reqKey cfg u = reqKey cfg u'

def cfgCase : Cfg := { cfgDefault with ignoreCase := true }

/-- It is false of the code, for two independent reasons (both recorded as known findings).
(1) `case-key-order`: the parameters are sorted by the case-sensitive key before lower-casing:
`/a?B=1&a=2` ↦ `/a?b=1&a=2`, `/a?b=1&A=2` ↦ `/a?a=2&b=1`. -/
theorem case_independent_full_fails_key_order : ¬ CaseIndependentFull := by
  intro h
  have := h cfgCase [47, 97, 63, 66, 61, 49, 38, 97, 61, 50] [47, 97, 63, 98, 61, 49, 38, 65, 61, 50]
    (by decide +kernel) (by decide +kernel) (by decide +kernel) (by decide +kernel) (by decide +kernel) (by decide +kernel)
  revert this
  decide +kernel

/-- (2) `case-marketing-name`: marketing names are compared case-sensitively:
`/a?utm_source` ↦ `/a`, `/a?UTM_SOURCE` ↦ `/a?utm_source`. -/
theorem case_independent_full_fails_marketing_name : ¬ CaseIndependentFull := by
  intro h
  have := h cfgCase ([47, 97, 63] ++ [117, 116, 109, 95, 115, 111, 117, 114, 99, 101])
    ([47, 97, 63] ++ [85, 84, 77, 95, 83, 79, 85, 82, 67, 69])
    (by decide +kernel) (by decide +kernel) (by decide +kernel) (by decide +kernel) (by decide +kernel) (by decide +kernel)
  revert this
  decide +kernel

/-- **What does hold**: if the paths agree up to ASCII case and the collected parameter lists
correspond entry by entry up to ASCII case (so: same order after collecting) with the same entries
classified as marketing parameters, the keys are equal.  `l` is the list of corresponding entries. -/
theorem case_independent_partial (cfg : Cfg) (hic : cfg.ignoreCase = true) (u u' : Bytes)
    (hb : IsBytes u) (hb' : IsBytes u')
    (hacc : (pqParse (sanitize u)).isSome = true) (hacc' : (pqParse (sanitize u')).isSome = true)
    (hpath : lowerAscii (splitFirst 63 u).1 = lowerAscii (splitFirst 63 u').1)
    (l : List ((Bytes × Bytes) × (Bytes × Bytes)))
    (hl : paramsOf u = l.map Prod.fst) (hl' : paramsOf u' = l.map Prod.snd)
    (hcorr : ∀ pr ∈ l, lowerAscii pr.1.1 = lowerAscii pr.2.1 ∧ lowerAscii pr.1.2 = lowerAscii pr.2.2 ∧
      isMarketing cfg pr.1.1 = isMarketing cfg pr.2.1) :
    reqKey cfg u = reqKey cfg u' := by
  rw [reqKey_accepted cfg u hb hacc, reqKey_accepted cfg u' hb' hacc']
  simp only [hic, lowerIf, if_true, hl, hl']
  refine lower_npq cfg (lower_pqPath (lower_pctEncode nonLetter_urlSet hpath)) ?_
  -- the kept entries of both lists are those at the same positions of `l`, and correspond up to case
  rw [List.filter_map, List.filter_map, List.map_map, List.map_map,
    List.filter_congr (p := notMarketing cfg ∘ Prod.fst) (q := notMarketing cfg ∘ Prod.snd) fun pr hpr =>
      congrArg (!·) (hcorr pr hpr).2.2]
  exact List.map_congr_left fun pr hpr =>
    Prod.ext (hcorr pr (List.mem_filter.mp hpr).1).1 (hcorr pr (List.mem_filter.mp hpr).1).2.1

/-- In particular, for URLs without query: **path matching is ASCII-case-insensitive under the
flag**, for every URL (accepted by `PathAndQuery` or not). -/
theorem case_independent_path (cfg : Cfg) (hic : cfg.ignoreCase = true) (u u' : Bytes)
    (hb : IsBytes u) (hb' : IsBytes u') (h63 : 63 ∉ u) (h63' : 63 ∉ u')
    (h : lowerAscii u = lowerAscii u') : reqKey cfg u = reqKey cfg u' := by
  rw [reqKey_no_query cfg u h63, reqKey_no_query cfg u' h63']
  simp only [hic, lowerIf, if_true]
  exact lower_pctEncode nonLetter_urlSet h

/-- **Distinct paths or distinct (non-marketing) decoded parameter lists give distinct keys**
(case-sensitive configuration; decoded parameters `Plain`: no `%`, `&`, no `=` in names, valid
UTF-8, not the empty parameter).  Contrapositive form: equal keys force equal sanitised paths and
equal collected parameters. -/
theorem separation (cfg : Cfg) (hic : cfg.ignoreCase = false) (u u' : Bytes)
    (hb : IsBytes u) (hb' : IsBytes u')
    (hacc : (pqParse (sanitize u)).isSome = true) (hacc' : (pqParse (sanitize u')).isSome = true)
    (hpl : ∀ kv ∈ (paramsOf u).filter (notMarketing cfg), Plain kv)
    (hpl' : ∀ kv ∈ (paramsOf u').filter (notMarketing cfg), Plain kv)
    (hkey : reqKey cfg u = reqKey cfg u') :
    pqPath (sanitize (splitFirst 63 u).1) = pqPath (sanitize (splitFirst 63 u').1) ∧
    (paramsOf u).filter (notMarketing cfg) = (paramsOf u').filter (notMarketing cfg) := by
  rw [reqKey_accepted cfg u hb hacc, reqKey_accepted cfg u' hb' hacc', hic] at hkey
  exact npq_inj cfg (not_mem_reqPath_63 u) (not_mem_reqPath_63 u') hpl hpl' hkey

/-- … so a rule built from `u` (inside `WFurl`) does not match a request whose path or parameters
differ. -/
theorem separation_no_match (cfg : Cfg) (hic : cfg.ignoreCase = false) (u u' : Bytes)
    (hb : IsBytes u) (hb' : IsBytes u') (hwf : WFurl cfg u = true)
    (hacc' : (pqParse (sanitize u')).isSome = true)
    (hpl : ∀ kv ∈ (paramsOf u).filter (notMarketing cfg), Plain kv)
    (hpl' : ∀ kv ∈ (paramsOf u').filter (notMarketing cfg), Plain kv)
    (hdiff : pqPath (sanitize (splitFirst 63 u).1) ≠ pqPath (sanitize (splitFirst 63 u').1) ∨
      (paramsOf u).filter (notMarketing cfg) ≠ (paramsOf u').filter (notMarketing cfg)) :
    ruleMatches cfg u u' = false := by
  apply ruleMatches_false_of_reqKey_ne cfg hb hwf
  intro hkey
  have := separation cfg hic u u' hb hb' ((WFurl_iff cfg u).mp hwf).1 hacc' hpl hpl' hkey
  rcases hdiff with h | h
  · exact h this.1
  · exact h this.2

/-- **Separation under `ignore_path_and_query_case`: equal keys force equal paths and equal (non-marketing) decoded
parameter lists UP TO ASCII CASE** — URLs that differ by more than the case of ASCII letters get different keys also
when the flag is set (same hypotheses otherwise; `lowerKV` lower-cases name and value). -/
theorem separation_ignore_case (cfg : Cfg) (hic : cfg.ignoreCase = true) (u u' : Bytes)
    (hb : IsBytes u) (hb' : IsBytes u')
    (hacc : (pqParse (sanitize u)).isSome = true) (hacc' : (pqParse (sanitize u')).isSome = true)
    (hpl : ∀ kv ∈ (paramsOf u).filter (notMarketing cfg), Plain kv)
    (hpl' : ∀ kv ∈ (paramsOf u').filter (notMarketing cfg), Plain kv)
    (hkey : reqKey cfg u = reqKey cfg u') :
    lowerAscii (pqPath (sanitize (splitFirst 63 u).1)) = lowerAscii (pqPath (sanitize (splitFirst 63 u').1)) ∧
    ((paramsOf u).filter (notMarketing cfg)).map lowerKV = ((paramsOf u').filter (notMarketing cfg)).map lowerKV := by
  rw [reqKey_accepted cfg u hb hacc, reqKey_accepted cfg u' hb' hacc', hic] at hkey
  exact lower_npq_inj cfg (not_mem_reqPath_63 u) (not_mem_reqPath_63 u') hpl hpl' hkey

/-- … so, with the flag, a rule built from `u` (inside `WFurl`) does not match a request whose path or parameters
differ by more than ASCII case. -/
theorem separation_ignore_case_no_match (cfg : Cfg) (hic : cfg.ignoreCase = true) (u u' : Bytes)
    (hb : IsBytes u) (hb' : IsBytes u') (hwf : WFurl cfg u = true)
    (hacc' : (pqParse (sanitize u')).isSome = true)
    (hpl : ∀ kv ∈ (paramsOf u).filter (notMarketing cfg), Plain kv)
    (hpl' : ∀ kv ∈ (paramsOf u').filter (notMarketing cfg), Plain kv)
    (hdiff : lowerAscii (pqPath (sanitize (splitFirst 63 u).1)) ≠ lowerAscii (pqPath (sanitize (splitFirst 63 u').1)) ∨
      ((paramsOf u).filter (notMarketing cfg)).map lowerKV ≠ ((paramsOf u').filter (notMarketing cfg)).map lowerKV) :
    ruleMatches cfg u u' = false := by
  apply ruleMatches_false_of_reqKey_ne cfg hb hwf
  intro hkey
  have := separation_ignore_case cfg hic u u' hb hb' ((WFurl_iff cfg u).mp hwf).1 hacc' hpl hpl' hkey
  rcases hdiff with h | h
  · exact h this.1
  · exact h this.2

/-- **The case flag only ever sees ASCII text, on both sides.**  Rust applies the Unicode `str::to_lowercase`; the
model applies ASCII lower-casing.  They coincide because the text that is lower-cased — the key of the case-sensitive
configuration — is pure ASCII for EVERY URL: `sanitize_url` / `utf8_percent_encode` escape every non-ASCII byte before
the flag is applied. -/
theorem lowercased_text_ascii (cfg : Cfg) (u : Bytes) :
    reqKey cfg u = lowerIf cfg.ignoreCase (reqKey { cfg with ignoreCase := false } u) ∧
    Ascii (reqKey { cfg with ignoreCase := false } u) ∧
    ruleKey cfg u = lowerIf cfg.ignoreCase (ruleKey { cfg with ignoreCase := false } u) ∧
    Ascii (ruleKey { cfg with ignoreCase := false } u) := by
  refine ⟨?_, ascii_reqKey _ u, ?_, ascii_ruleKey _ u⟩
  · -- `path_and_query` does not look at the flag
    have h : (fromConfig { cfg with ignoreCase := false } u).pathAndQuery = (fromConfig cfg u).pathAndQuery := by
      unfold fromConfig
      simp only
      split <;> rfl
    rw [reqKey_eq, reqKey_eq, h]
    rfl
  · simp [ruleKey, ruleKeyOf, lowerIf]

/-- consequence, and a limit of the flag in the code: the case of NON-ASCII letters is never ignored — `/É` and `/é`
(`/%C3%89`, `/%C3%A9` after sanitising) keep different keys under `ignore_path_and_query_case` (the escapes are
lower-cased, not the letters they stand for). -/
theorem case_flag_ascii_letters_only :
    reqKey cfgCase [47, 195, 137] = [47, 37, 99, 51, 37, 56, 57] ∧
    reqKey cfgCase [47, 195, 169] = [47, 37, 99, 51, 37, 97, 57] := by decide +kernel

/-- The excluded point is real: a decoded value containing `%20` collides with a space
(`/a?x=%2520` and `/a?x=%20` get the same key). -/
theorem separation_fails_encoded_percent :
    reqKey cfgDefault [47, 97, 63, 120, 61, 37, 50, 53, 50, 48] = reqKey cfgDefault [47, 97, 63, 120, 61, 37, 50, 48] ∧
    paramsOf [47, 97, 63, 120, 61, 37, 50, 53, 50, 48] ≠ paramsOf [47, 97, 63, 120, 61, 37, 50, 48] := by
  decide +kernel

/-- **`rebuild_with_config` is idempotent.** -/
theorem rebuild_idempotent (cfg : Cfg) (r : Req) :
    Req.rebuild cfg (Req.rebuild cfg r) = Req.rebuild cfg r := by
  unfold Req.rebuild
  simp only [Req.mk.injEq, true_and]
  refine ⟨?_, ?_⟩
  · cases r.host <;> simp [lowerIf_idem]
  · simp [List.map_map, Function.comp_def, lowerIf_idem]

/-- **Rebuilding a request made by `Request::from_config` under the same configuration returns it
unchanged** (headers added afterwards with the configured case). -/
theorem rebuild_fromConfig (cfg : Cfg) (u : Bytes) (host : Option Bytes) :
    Req.rebuild cfg (Req.fromConfig cfg u host) = Req.fromConfig cfg u host := by
  unfold Req.rebuild Req.fromConfig
  simp only [Req.mk.injEq, true_and, List.map_nil, and_true]
  cases host <;> simp [lowerIf_idem]

/-- Under a different configuration the URL part of the result is what `from_config` gives for the
original URL: nothing of the first normalisation leaks into the second. -/
theorem rebuild_other_config (cfg cfg' : Cfg) (u : Bytes) (host : Option Bytes) :
    (Req.rebuild cfg' (Req.fromConfig cfg u host)).pqs = fromConfig cfg' u := rfl

theorem fromConfig_original (cfg : Cfg) (u : Bytes) : (fromConfig cfg u).original = u := by
  unfold fromConfig
  simp only
  split <;> rfl

/-- **A request restored without its `path_and_query_v2` field** (older JSON shape: the field is `None`) **is rebuilt from
`path_and_query_skipped.original`**: under every configuration the result is the rebuild of the request that still has
the field, and its URL part is what `from_config` gives for the original URL under the new configuration (skipped
parameters included): the rebuilt request matches what a fresh request for the original URL matches. -/
theorem rebuild_without_v2 (cfg cfg' : Cfg) (u : Bytes) (host : Option Bytes) (hs : List (Bytes × Bytes)) :
    Req.rebuild cfg' { Req.fromConfig cfg u host with pathAndQuery := none, headers := hs } =
      Req.rebuild cfg' { Req.fromConfig cfg u host with headers := hs } ∧
    (Req.rebuild cfg' { Req.fromConfig cfg u host with pathAndQuery := none, headers := hs }).pqs = fromConfig cfg' u := by
  unfold Req.rebuild Req.fromConfig
  simp only [fromConfig_original, and_self]

/-- `/caf%c3%a9 x?b=a+b&a=%2B&é` under the default configuration is inside `WFurl`, and its
parameters are really re-ordered and re-encoded. -/
def exUrl : Bytes :=
  [47, 99, 97, 102, 37, 99, 51, 37, 97, 57, 32, 120, 63, 98, 61, 97, 43, 98, 38, 97, 61, 37, 50, 66, 38, 195, 169]

example : WFurl cfgDefault exUrl = true ∧ IsBytes exUrl ∧
    reqKey cfgDefault exUrl =
      [47, 99, 97, 102, 37, 99, 51, 37, 97, 57, 37, 50, 48, 120, 63, 97, 61, 37, 50, 66, 38, 98, 61, 97,
        37, 50, 48, 98, 38, 37, 67, 51, 37, 65, 57] := by decide +kernel

/-- order independence instantiated: `/a?b=1&a=2` and `/a?a=2&b=1`. -/
example : SameNorm (fromConfig cfgDefault ([47, 97] ++ 63 :: [98, 61, 49, 38, 97, 61, 50]))
    (fromConfig cfgDefault ([47, 97] ++ 63 :: [97, 61, 50, 38, 98, 61, 49])) :=
  order_independent cfgDefault [47, 97] _ _ (by decide +kernel) (by decide +kernel) (by decide +kernel) (by decide +kernel) (by decide +kernel)
    (by decide +kernel)

/-- marketing: `/a?b=1&utm_source=x` and `/a?b=1` (ignore flag on). -/
example : reqKey cfgDefault ([47, 97, 63, 98, 61, 49] ++ 38 :: [117, 116, 109, 95, 115, 111, 117, 114, 99, 101, 61, 120]) =
    reqKey cfgDefault [47, 97, 63, 98, 61, 49] :=
  marketing_appended cfgDefault _ [98, 61, 49] _ (by decide +kernel) (by decide +kernel) (by decide +kernel) (by decide +kernel) (by decide +kernel)
    (by decide +kernel) (by decide +kernel)

/-- forwarding: the skipped string of `/a?utm_source=x+y` is `utm_source=x%20y` (`+` is read as a space and re-encoded). -/
example : skipped cfgDefault ([47, 97, 63] ++ [117, 116, 109, 95, 115, 111, 117, 114, 99, 101, 61, 120, 43, 121]) =
    some [117, 116, 109, 95, 115, 111, 117, 114, 99, 101, 61, 120, 37, 50, 48, 121] := by decide +kernel

/-- case: `/A?B=1` vs `/a?b=1` correspond entry by entry. -/
example : reqKey cfgCase [47, 65, 63, 66, 61, 49] = reqKey cfgCase [47, 97, 63, 98, 61, 49] :=
  case_independent_partial cfgCase rfl _ _ (by decide +kernel) (by decide +kernel) (by decide +kernel) (by decide +kernel) (by decide +kernel)
    [(([66], [49]), ([98], [49]))] (by decide +kernel) (by decide +kernel) (by decide +kernel)

/-- separation: `/a?x=1` vs `/a?x=2`. -/
example : ruleMatches { cfgDefault with ignoreCase := false } [47, 97, 63, 120, 61, 49] [47, 97, 63, 120, 61, 50] = false := by
  decide +kernel

/-- the D12 input (repaired by ac67ce9): with marketing parameters kept, rule `/a?b=1&a=2` matches the
request `/a?b=1&a=2` (both sides sort). -/
example : ruleMatches { cfgDefault with ignoreMarketing := false } [47, 97, 63, 98, 61, 49, 38, 97, 61, 50]
    [47, 97, 63, 98, 61, 49, 38, 97, 61, 50] = true :=
  self_match_router _ _ (by decide +kernel) (by decide +kernel)

end Rio.C09
