/-
C01 from the rule SOURCE record.

The theorems of Props/C01.lean start from parsed routes; the drivers of C01 / C02 / C17 build them with `mkRoute` from
the case descriptions (Model/RouterParse.lean), while Props/C01b.lean proves what `impl IntoRoute<Rule> for Rule`
guarantees about `intoRoute` (Model/IntoRoute.lean, the model of src/api/rule.rs on the rule-source record: cidrs,
instants, times, week days still as strings, path and query as bytes).  This file relates the two and states C01 end
to end.
-/
import RioModel.Proofs.RouterTreeTop
import RioModel.Model.IntoRoute

namespace Rio.C01
open Rio.Router Rio.IntoRoute

/-- **C01 from the rule source**: the router is filled by `Router::insert(rule)` = insert of
`rule.into_route(config)`; for all parsers of cidr / date / time / week-day texts. -/
theorem match_exact_from_source (P : Parsers) (cfg : Cfg) (E : Env) (srcs : List RuleSource)
    (hid : (srcs.map (·.id)).Nodup) (q : Req) :
    let R := srcs.map (intoRoute P cfg)
    (((Router.build E R).matchReq E q).map (·.id)).Nodup ∧
    (∀ r, r ∈ (Router.build E R).matchReq E q ↔ ∃ src ∈ srcs, r = intoRoute P cfg src ∧ sat E R r q = true) ∧
    (∀ src ∈ srcs, (src.id ∈ ((Router.build E R).matchReq E q).map (·.id) ↔ sat E R (intoRoute P cfg src) q = true)) := by
  intro R
  have hR : NodupIds R := by
    simp only [NodupIds, R, List.map_map]
    exact hid
  obtain ⟨h1, h2⟩ := g_match_exact_map E _ (towerSpec E) (intoRoute P cfg) srcs hR (fun _ _ => trivial) q
  refine ⟨h1, h2, ?_⟩
  intro src hs
  constructor
  · intro hin
    obtain ⟨r, hr, hrid⟩ := List.mem_map.mp hin
    obtain ⟨a, ha, rfl, hsat⟩ := (h2 r).1 hr
    -- ids are distinct: the reported route is the route of `src`
    rw [(nodupIds_uids hR).1 _ (List.mem_map.mpr ⟨a, ha, rfl⟩) _ (List.mem_map.mpr ⟨src, hs, rfl⟩) hrid] at hsat
    exact hsat
  · intro hsat
    exact List.mem_map.mpr ⟨_, (h2 _).2 ⟨src, hs, rfl, hsat⟩, rfl⟩

open Rio.Regex Rio.Tree in
/-- **The same over the real regex trees** (composition with C08), for rule sources whose marker patterns render into
the domain of C08. -/
theorem match_exact_tree_from_source (P : Parsers) (cfg : Cfg) (T : TEnv) (Good : List Char → Prop)
    (hPS : PrefixSound T.engine Good) (srcs : List RuleSource) (hid : (srcs.map (·.id)).Nodup)
    (hW : ∀ src ∈ srcs, TreeGood T Good (intoRoute P cfg src)) (q : Req) :
    let R := srcs.map (intoRoute P cfg)
    ((RouterG.matchReq (towerTOps T) (RouterG.build (towerTOps T) R) q).map (·.id)).Nodup ∧
    (∀ r, r ∈ RouterG.matchReq (towerTOps T) (RouterG.build (towerTOps T) R) q ↔
      ∃ src ∈ srcs, r = intoRoute P cfg src ∧ sat T.env R r q = true) := by
  intro R
  have hR : NodupIds R := by
    simp only [NodupIds, R, List.map_map]
    exact hid
  exact g_match_exact_map T.env _ (towerTSpec T Good hPS) (intoRoute P cfg) srcs hR hW q

/-- one `IpConstraint`: `range.parse::<AnyIpCidr>()`, `InRange` / `NotInRange` -/
def ipOf (P : Parsers) (ip : IpSource) : Option RouteIp :=
  (P.cidr ip.range).map (fun c => if ip.neg then RouteIp.notInRange c else RouteIp.inRange c)

theorem routeIps_eq (P : Parsers) (l : List IpSource) :
    routeIps P (some l) = if (l.filterMap (ipOf P)).isEmpty then none else some (l.filterMap (ipOf P)) := by
  simp only [routeIps]
  have key : ∀ (f : IpSource → Option RouteIp), (∀ ip, f ip = ipOf P ip) → l.filterMap f = l.filterMap (ipOf P) := by
    intro f hf
    congr
    funext ip
    exact hf ip
  rw [key]
  intro ip
  unfold ipOf
  cases P.cidr ip.range <;> rfl

/-- The case description of a rule source: constraint texts parsed (unparsable cidrs / week days dropped, an
unparsable bound open), the path string `Rule::path_and_query` builds (encoded path, `?`, sorted re-encoded query). -/
def descOf (P : Parsers) (src : RuleSource) : RuleDesc where
  id := src.id
  rank := src.rank
  scheme := src.scheme
  host := src.host
  markers := src.markers
  ips := src.ips.map (fun l => l.filterMap (ipOf P))
  methods := src.methods
  exclude := src.excludeMethods
  headers := match src.headers with | none => [] | some hs => hs
  datetime := src.datetime.map (fun l => l.map (rangeOf P.dateTime))
  time := src.time.map (fun l => l.map (rangeOf P.time))
  weekdays := src.weekdays.map (fun l => l.filterMap P.weekday)
  path := asciiStr (rulePathBytes src.path src.query)

theorem noneIfEmpty_some {α : Type} (l : List α) :
    noneIfEmpty (some l) = if l.isEmpty then none else some l := by
  cases l <;> rfl

theorem mkRoute_descOf_fields (P : Parsers) (cfg : Cfg) (src : RuleSource) :
    mkRoute cfg (descOf P src) = { intoRoute P cfg src with
      path := sodOf cfg.ignorePathCase src.markers (asciiStr (rulePathBytes src.path src.query)) } := by
  simp only [mkRoute, descOf, intoRoute, routeHost, routeHeaders, routeDateTimes, routeTimes, routeWeekdays]
  congr 1
  · cases src.ips with
    | none => rfl
    | some l => simp only [Option.map_some, noneIfEmpty_some, routeIps_eq]
  · cases src.datetime with
    | none => rfl
    | some l => simp only [Option.map_some, noneIfEmpty_some]
  · cases src.time with
    | none => rfl
    | some l => simp only [Option.map_some, noneIfEmpty_some]
  · cases src.weekdays with
    | none => rfl
    | some l => simp only [Option.map_some, noneIfEmpty_some]

theorem toLower_ofNat_byte : ∀ b < 256, Char.toLower (Char.ofNat b) = Char.ofNat (Rio.Url.lowerByte b) := by
  decide +kernel

theorem asciiStr_toLower (k : Rio.Url.Bytes) (hk : ∀ b ∈ k, b < 256) :
    (asciiStr k).toLower = asciiStr (Rio.Url.lowerAscii k) := by
  apply String.ext
  simp only [String.toLower, String.toList_map, asciiStr, String.toList_ofList, Rio.Url.lowerAscii, List.map_map]
  apply List.map_congr_left
  intro b hb
  exact toLower_ofNat_byte b (hk b hb)

/-- `hk` holds of the path string `Rule::path_and_query` builds: it is percent-encoded. -/
theorem sodOf_asciiStr (ic : Bool) (ms : List Char) (k : Rio.Url.Bytes) (hk : ∀ b ∈ k, b < 256) :
    sodOf ic ms (asciiStr k) = sodOfBytes ic ms k := by
  unfold sodOf sodOfBytes
  cases ic with
  | false => simp [Rio.Url.lowerIf]
  | true => simp [Rio.Url.lowerIf, asciiStr_toLower k hk]

/-- **`mkRoute` is `intoRoute`**: the route the drivers of C01 / C02 / C17 build from the case description of a rule
source is the route `impl IntoRoute<Rule> for Rule` builds from the source itself.  So C01b's guarantees
(`intoRoute_wf`, dropped cidrs, open bounds, header kinds) are about the very function the correspondence of C01 runs. -/
theorem mkRoute_descOf (P : Parsers) (cfg : Cfg) (src : RuleSource)
    (hb : ∀ b ∈ rulePathBytes src.path src.query, b < 256) :
    mkRoute cfg (descOf P src) = intoRoute P cfg src := by
  rw [mkRoute_descOf_fields, sodOf_asciiStr _ _ _ hb]
  rfl

/-- The router the drivers build from the descriptions is the router of `match_exact_from_source`. -/
theorem build_desc_eq_source (P : Parsers) (cfg : Cfg) (E : Env) (srcs : List RuleSource)
    (hb : ∀ src ∈ srcs, ∀ b ∈ rulePathBytes src.path src.query, b < 256) :
    Router.build E (srcs.map (fun src => mkRoute cfg (descOf P src))) =
      Router.build E (srcs.map (intoRoute P cfg)) := by
  congr 1
  apply List.map_congr_left
  intro src hs
  exact mkRoute_descOf P cfg src (hb src hs)

end Rio.C01
