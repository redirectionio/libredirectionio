/-
C04 / C15 / C03 (HTML body filters) — `leave` and `new` of the three visitors REGENERATED FROM THE SOURCE.

`Rio.Consts.genBodyAppendLeave / genBodyPrependLeave / genBodyReplaceLeave`, `genBody*New` and
`genHtmlBodyVisitorNew*` are translated on every run from src/filter/html_body_action/body_append.rs, body_prepend.rs,
body_replace.rs and mod.rs (tools/consts.d/w4_translate_visitor2.py, section `w4_translate_visitor2`).  `leave` is the
code that actually EDITS bytes: which of `data`, `content ++ data`, `append_child(data, content)`,
`prepend_child(data, content)`, `content` is returned, under which gate, and how `position` / `is_buffering` move.
Proofs/VisitorGen2.lean shows, through the representation relation `Rep` of Proofs/VisitorGen.lean, that the translated
functions compute what the model's `Visitor.leave` / `Visitor.new` (Model/Filter.lean) compute.  Here: that equality per call
and for every sequence of `enter` / `leave` calls from the state `new` builds, and the refutation of the statement without a
length bound.

PARAMETERS of the translation, exactly as the hand model has them: the selector oracle `evaluate` (any function) and
the re-tokenising helpers `append_child` / `prepend_child` (their `?` exit is not represented; instantiated with the
model's `appendChild tk` / `prependChild tk` for ANY tokenizer `tk`).  The unit trace is not modelled.
HYPOTHESIS `tree.length < 2^31`: the code tests `position as i32 > 0` (translated as `genAsI32 position > 0`), the model
`before ≠ []`; they agree for paths shorter than 2^31 elements (the same refinement hypothesis as
`Rio.C07.filter_no_panic`).  `v[i]` is rendered `(v[i]?).getD []`, `unwrap()` `getD []`, `position -= 1` the truncating
`position - 1`: `gen_leave_index_in_range` shows that under `Rep` no default and no truncation is used.
-/
import RioModel.Proofs.VisitorGen2
import RioModel.Proofs.FilterDom
import RioModel.Proofs.FilterNew

namespace Rio.C04
open Rio.Consts Rio.Filter Rio.VisitorGen

/-- the translated `leave` of the three visitors is the model's: same result (next_enter, next_leave, returned bytes),
related states, same `is_buffering`.  `hs`: from 2^31 elements on the code's `position as i32 > 0` wraps
(`gen_visitor_leave_eq_model_unbounded_fails`). -/
theorem gen_visitor_leave_eq_model (tk : Tokenize) (ev : Rio.Filter.Bytes → Rio.Filter.Bytes → Bool)
    {tree : List Rio.Filter.Bytes} {pos : Nat} {v : Visitor}
    (h : Rep tree pos v) (hs : tree.length < 2147483648) (data : Rio.Filter.Bytes) :
    (v.kind = .append →
      (genBodyAppendLeave ev (appendChild tk) tree pos v.sel v.content data).1 = (v.leave tk ev data).1 ∧
      Rep tree (genBodyAppendLeave ev (appendChild tk) tree pos v.sel v.content data).2 (v.leave tk ev data).2) ∧
    (v.kind = .prepend →
      (genBodyPrependLeave ev (prependChild tk) tree pos v.sel v.content v.isBuffering data).1 = (v.leave tk ev data).1 ∧
      Rep tree (genBodyPrependLeave ev (prependChild tk) tree pos v.sel v.content v.isBuffering data).2.1
        (v.leave tk ev data).2 ∧
      (genBodyPrependLeave ev (prependChild tk) tree pos v.sel v.content v.isBuffering data).2.2 =
        (v.leave tk ev data).2.isBuffering) ∧
    (v.kind = .replace →
      (genBodyReplaceLeave ev tree pos v.sel v.content v.isBuffering data).1 = (v.leave tk ev data).1 ∧
      Rep tree (genBodyReplaceLeave ev tree pos v.sel v.content v.isBuffering data).2.1 (v.leave tk ev data).2 ∧
      (genBodyReplaceLeave ev tree pos v.sel v.content v.isBuffering data).2.2 = (v.leave tk ev data).2.isBuffering) :=
  ⟨fun hk => genAppendLeave_eq tk ev hk h hs data, fun hk => genPrependLeave_eq tk ev hk h hs data,
   fun hk => genReplaceLeave_eq tk ev hk h hs data⟩

/-- under `Rep` every index the translated `leave` evaluates is in range and the decrement does not underflow; NO length
hypothesis: the premise is the code's own guard `position as i32 > 0` -/
theorem gen_leave_index_in_range {tree : List Rio.Filter.Bytes} {pos : Nat} {v : Visitor} (h : Rep tree pos v) :
    pos < tree.length ∧ tree[pos]? = some v.cur ∧
    (genAsI32 pos > 0 → 0 < pos ∧ pos - 1 < tree.length ∧ v.before ≠ [] ∧ tree[pos - 1]? = some v.retreat.cur) := by
  have hl := h.len
  refine ⟨by omega, h.get, fun hg => ?_⟩
  have h0 := GenLoop.genAsI32_pos_imp pos hg
  have hb := h.pos_iff.mp h0
  exact ⟨h0, by omega, hb, (h.retreat hb).get⟩

/-- **`new`**: the constructor calls of `HtmlBodyVisitor::new` translated from mod.rs, composed with the translated
`Body*::new`; the fields are (element_tree, position, css_selector, content[, is_buffering]).  In particular `content`
receives `filter.value` and NOT `inner_value` (argument order). -/
theorem gen_visitor_new_eq_model (p : Rio.Filter.Bytes) (ps : List Rio.Filter.Bytes) (sel : Option Rio.Filter.Bytes)
    (value : Rio.Filter.Bytes) (inner idv th : Option Rio.Filter.Bytes) :
    (∃ v, Visitor.new genHtmlBodyVisitorActionAppend (p :: ps) sel value = some v ∧ v.kind = .append ∧
      let g := genHtmlBodyVisitorNewAppend (p :: ps) sel value inner idv th
      Rep g.1 g.2.1 v ∧ g.2.2.1 = v.sel ∧ g.2.2.2.1 = v.content) ∧
    (∃ v, Visitor.new genHtmlBodyVisitorActionPrepend (p :: ps) sel value = some v ∧ v.kind = .prepend ∧
      let g := genHtmlBodyVisitorNewPrepend (p :: ps) sel value inner idv th
      Rep g.1 g.2.1 v ∧ g.2.2.1 = v.sel ∧ g.2.2.2.1 = v.content ∧ g.2.2.2.2.2.1 = v.isBuffering) ∧
    (∃ v, Visitor.new genHtmlBodyVisitorActionReplace (p :: ps) sel value = some v ∧ v.kind = .replace ∧
      let g := genHtmlBodyVisitorNewReplace (p :: ps) sel value inner idv th
      Rep g.1 g.2.1 v ∧ g.2.2.1 = v.sel ∧ g.2.2.2.1 = v.content ∧ g.2.2.2.2.2.1 = v.isBuffering) := by
  -- the three action strings are the constants the model dispatches on (`gen_visitor_actions_eq_model`)
  exact ⟨⟨_, visitor_new_append p ps sel value, rfl, rep_new .append p ps sel value, rfl, rfl⟩,
    ⟨_, visitor_new_prepend p ps sel value, rfl, rep_new .prepend p ps sel value, rfl, rfl, rfl⟩,
    ⟨_, visitor_new_replace p ps sel value, rfl, rep_new .replace p ps sel value, rfl, rfl, rfl⟩⟩

theorem gen_visitor_actions_eq_model :
    genHtmlBodyVisitorActionAppend = filterActionAppend ∧ genHtmlBodyVisitorActionPrepend = filterActionPrepend ∧
    genHtmlBodyVisitorActionReplace = filterActionReplace := ⟨rfl, rfl, rfl⟩

/-- **Every sequence of `enter` / `leave` calls** from the state `new` builds: the TRANSLATED `enter` / `leave`, threaded
through their own mutable state (`position`, `is_buffering`), return call by call what the model returns (`genRun` /
`modelRun`, Proofs/VisitorGen2.lean: results in the common shape (next_enter, next_leave, start buffering (`enter`
only), data)) -/
theorem gen_visitor_run_eq_model (tk : Tokenize) (ev : Rio.Filter.Bytes → Rio.Filter.Bytes → Bool) (kind : VKind)
    (p : Rio.Filter.Bytes) (ps : List Rio.Filter.Bytes) (sel : Option Rio.Filter.Bytes) (content : Rio.Filter.Bytes)
    (hs : (p :: ps).length < 2147483648) (ops : List VOp) :
    (genRun tk ev kind (p :: ps) sel content (0, false) ops).1 =
      (modelRun tk ev { kind := kind, cur := p, after := ps, sel := sel, content := content } ops).1 :=
  (genRun_eq tk ev hs ops (inv_new kind p ps sel content)).1

/-- the same from ANY represented state, and the invariant is kept (`Inv`, Proofs/VisitorGen2.lean: `Rep`, same kind /
selector / content, same `is_buffering` for the two visitors that have the field) -/
theorem gen_visitor_run_inv (tk : Tokenize) (ev : Rio.Filter.Bytes → Rio.Filter.Bytes → Bool) {kind : VKind}
    {tree : List Rio.Filter.Bytes} {sel : Option Rio.Filter.Bytes} {content : Rio.Filter.Bytes} {st : Nat × Bool}
    {v : Visitor} (hs : tree.length < 2147483648) (hi : Inv kind tree sel content st v) (ops : List VOp) :
    (genRun tk ev kind tree sel content st ops).1 = (modelRun tk ev v ops).1 ∧
    Inv kind tree sel content (genRun tk ev kind tree sel content st ops).2 (modelRun tk ev v ops).2 :=
  genRun_eq tk ev hs ops hi

/-- **What the translated `leave`s return** (closed form; any `evaluate`, any helper).  At the last level `data` is the end
tag, so `content ++ data` puts the value immediately before it; `append_child` / `prepend_child` run when the selector
does NOT match. -/
theorem leave_output_closed_form_gen (ev : Rio.Filter.Bytes → Rio.Filter.Bytes → Bool)
    (ac pc : Rio.Filter.Bytes → Rio.Filter.Bytes → Rio.Filter.Bytes) (tree : List Rio.Filter.Bytes) (pos : Nat)
    (sel : Option Rio.Filter.Bytes) (content data : Rio.Filter.Bytes) (b : Bool) :
    (genBodyAppendLeave ev ac tree pos sel content data).1.2.2 =
      (if pos + 1 < tree.length then data
       else if sel.isSome && !(sel.getD []).isEmpty then (if ev data (sel.getD []) then data else ac data content)
       else content ++ data) ∧
    (genBodyPrependLeave ev pc tree pos sel content b data).1.2.2 =
      (if b && sel.isSome && !(sel.getD []).isEmpty && !ev data (sel.getD []) then pc data content else data) ∧
    (genBodyPrependLeave ev pc tree pos sel content b data).2.2 =
      (if sel.isSome && !(sel.getD []).isEmpty then false else b) ∧
    (genBodyReplaceLeave ev tree pos sel content b data).1.2.2 =
      (if b && (sel.isNone || (sel.getD []).isEmpty || ev data (sel.getD [])) then content else data) ∧
    (genBodyReplaceLeave ev tree pos sel content b data).2.2 = false := by
  rw [genAppendLeave_closed, genPrependLeave_closed, genReplaceLeave_closed]
  exact ⟨rfl, rfl, rfl, rfl, rfl⟩

/-- **append_child inserts before the end tag** (translated `BodyAppend::leave` + the model's `append_child`; `ev data s =
false` is the code's gate `!evaluate(..)`; without a selector `data` is the end tag token). -/
theorem append_leave_inserts_before_end_tag_gen (tk : Tokenize) (ev : Rio.Filter.Bytes → Rio.Filter.Bytes → Bool)
    (tree : List Rio.Filter.Bytes) (pos : Nat) (content data : Rio.Filter.Bytes)
    (hlast : ¬ pos + 1 < tree.length) :
    (∀ (s name disp attrs : Rio.Filter.Bytes) (inner : List Tok), s ≠ [] → ev data s = false →
      isVoid name = false → Bal inner →
      tk data = (startTok name disp attrs :: (inner ++ [endTok name disp]), []) →
      (genBodyAppendLeave ev (appendChild tk) tree pos (some s) content data).1.2.2 =
        (startTok name disp attrs).raw ++ rawsOf inner ++ content ++ (endTok name disp).raw) ∧
    (genBodyAppendLeave ev (appendChild tk) tree pos none content data).1.2.2 = content ++ data ∧
    (genBodyAppendLeave ev (appendChild tk) tree pos (some []) content data).1.2.2 = content ++ data := by
  refine ⟨?_, ?_, ?_⟩
  · intro s name disp attrs inner hne hev hv hb htk
    have he : s.isEmpty = false := by cases s <;> simp_all
    rw [genAppendLeave_closed]
    simp only [hlast, he, hev, if_false, Option.isSome_some, Option.getD_some, Bool.not_false, Bool.and_self, if_true,
      Bool.false_eq_true]
    exact appendChild_elem tk hv hb htk
  · rw [genAppendLeave_closed, if_neg hlast]; rfl
  · rw [genAppendLeave_closed, if_neg hlast]; rfl

/-! ### a bound on `tree.length` is needed: the unbounded statement is false of the code -/

/-- `next_leave` of the translated `BodyAppend::leave` (any state) -/
theorem append_leave_next_leave_gen (ev : Rio.Filter.Bytes → Rio.Filter.Bytes → Bool)
    (ac : Rio.Filter.Bytes → Rio.Filter.Bytes → Rio.Filter.Bytes) (tree : List Rio.Filter.Bytes) (pos : Nat)
    (sel : Option Rio.Filter.Bytes) (content data : Rio.Filter.Bytes) :
    (genBodyAppendLeave ev ac tree pos sel content data).1.2.1 =
      (if genAsI32 pos > 0 then some ((tree[pos - 1]?).getD []) else none) := by
  rw [genAppendLeave_closed]
  simp only [genMove, Bool.and_true, decide_eq_true_eq]
  split <;> rfl

/-- the result equality of the append clause of `gen_visitor_leave_eq_model`, without the bound on the path length -/
def LeaveEqUnbounded : Prop :=
  ∀ (tk : Tokenize) (ev : Rio.Filter.Bytes → Rio.Filter.Bytes → Bool) (tree : List Rio.Filter.Bytes) (pos : Nat)
    (v : Visitor) (data : Rio.Filter.Bytes), Rep tree pos v → v.kind = .append →
    (genBodyAppendLeave ev (appendChild tk) tree pos v.sel v.content data).1 = (v.leave tk ev data).1

/-- the witness: position `n` of a path of `n + 1` empty names -/
def bigV (n : Nat) : Visitor := { kind := .append, before := List.replicate n [], cur := [], after := [], content := [] }

theorem leave_unbounded_witness (n : Nat) (h0 : 0 < n) (hn : ¬ genAsI32 n > 0) (tk : Tokenize)
    (ev : Rio.Filter.Bytes → Rio.Filter.Bytes → Bool) :
    Rep (List.replicate (n + 1) []) n (bigV n) ∧
    (genBodyAppendLeave ev (appendChild tk) (List.replicate (n + 1) []) n (bigV n).sel (bigV n).content []).1.2.1 = none ∧
    ((bigV n).leave tk ev []).1.2.1 = some [] := by
  refine ⟨⟨?_, ?_⟩, ?_, ?_⟩
  · show List.replicate (n + 1) [] = (List.replicate n []).reverse ++ [[]]
    rw [List.reverse_replicate, List.replicate_succ']
  · show n = (List.replicate n ([] : Rio.Filter.Bytes)).length
    simp
  · rw [append_leave_next_leave_gen]; simp [hn]
  · rw [(bigV n).leave_append tk ev [] rfl]
    obtain ⟨k, rfl⟩ : ∃ k, n = k + 1 := ⟨n - 1, by omega⟩
    rfl  -- `before = [] :: replicate k []`: the model moves back to the name `[]`

theorem leave_unbounded_fails_of (n : Nat) (h0 : 0 < n) (hn : ¬ genAsI32 n > 0) : ¬ LeaveEqUnbounded := by
  intro h
  let tk0 : Tokenize := ⟨fun _ => ([], []), fun _ _ => ([], [], [])⟩
  have hw := leave_unbounded_witness n h0 hn tk0 (fun _ _ => false)
  have h1 := h tk0 (fun _ _ => false) _ _ (bigV n) [] hw.1 rfl
  have h2 : (none : Option Rio.Filter.Bytes) = some [] :=
    hw.2.1.symm.trans ((congrArg (fun r => r.2.1) h1).trans hw.2.2)
  cases h2

/-- it is FALSE of the code: on a path of 2^31 + 1 elements at position 2^31 the code's
`position as i32 > 0` is false (`2^31 as i32 = -2^31`), so `next_leave` is `None`, while the model moves back -/
theorem gen_visitor_leave_eq_model_unbounded_fails : ¬ LeaveEqUnbounded :=
  leave_unbounded_fails_of 2147483648 (by omega) (by decide)

/-- the PARTIAL statement that does hold: `LeaveEqUnbounded` with the bound `tree.length < 2^31` (from the append clause
of `gen_visitor_leave_eq_model`) -/
theorem gen_visitor_leave_eq_model_partial (tk : Tokenize) (ev : Rio.Filter.Bytes → Rio.Filter.Bytes → Bool)
    (tree : List Rio.Filter.Bytes) (pos : Nat) (v : Visitor) (data : Rio.Filter.Bytes) (h : Rep tree pos v)
    (hk : v.kind = .append) (hs : tree.length < 2147483648) :
    (genBodyAppendLeave ev (appendChild tk) tree pos v.sel v.content data).1 = (v.leave tk ev data).1 :=
  ((gen_visitor_leave_eq_model tk ev h hs data).1 hk).1

/-- a tokenizer that sees `<p></p>` in every buffer (only to instantiate the hypotheses) -/
private def tkP : Tokenize := ⟨fun _ => ([startTok [112] [112] [], endTok [112] [112]], []), fun _ _ => ([], [], [])⟩

example :
    (genBodyAppendLeave (fun _ _ => false) (appendChild tkP) [[112]] 0 (some [112]) [120] [60, 112, 62, 60, 47, 112, 62]).1.2.2 =
      [60, 112, 62] ++ [] ++ [120] ++ [60, 47, 112, 62] := by
  have h := (append_leave_inserts_before_end_tag_gen tkP (fun _ _ => false) [[112]] 0 [120]
    [60, 112, 62, 60, 47, 112, 62] (by simp)).1 [112] [112] [112] [] [] (by simp) rfl (by decide) bal_nil rfl
  simpa [startTok, endTok, rawsOf] using h

/-- `Rep` + the length bound on a concrete two-level path after one `enter`; evaluated results of the three `leave`s -/
example :
    Rep [[104], [98]] 1 { kind := .append, before := [[104]], cur := [98], after := [], sel := none, content := [120] } ∧
    ([[104], [98]] : List Rio.Filter.Bytes).length < 2147483648 ∧
    genBodyAppendLeave (fun _ _ => false) (fun d c => d ++ c) [[104], [98]] 1 none [120] [60] =
      ((some [98], some [104], [120, 60]), 0) ∧
    genBodyAppendLeave (fun _ _ => false) (fun d c => d ++ c) [[104], [98]] 0 none [120] [60] =
      ((some [104], none, [60]), 0) ∧
    genBodyPrependLeave (fun _ _ => false) (fun d c => c ++ d) [[104]] 0 (some [112]) [120] true [60] =
      ((some [104], none, [120, 60]), 0, false) ∧
    genBodyReplaceLeave (fun _ _ => true) [[104], [98]] 1 (some [112]) [120] true [60] =
      ((some [98], none, [120]), 1, false) ∧
    genBodyReplaceLeave (fun _ _ => true) [[104], [98]] 1 (some [112]) [120] false [60] =
      ((some [98], some [104], [60]), 0, false) ∧
    genHtmlBodyVisitorNewAppend [[104]] none [1] (some [2]) none none = ([[104]], 0, none, [1], [2], none, none) := by
  refine ⟨⟨rfl, rfl⟩, by decide, ?_, ?_, ?_, ?_, ?_, ?_⟩ <;> rfl

/-- a run on the translated code: enter `h`, enter `b` (last level, no selector), leave `b` (value before the end tag),
leave `h` -/
example :
    (genRun tkP (fun _ _ => false) .append [[104], [98]] none [120] (0, false)
      [.enter [1], .enter [2], .leave [3], .leave [4]]).1 =
      [(some [98], some [104], some false, [1]), (none, some [98], some false, [2]),
       (some [98], some [104], none, [120, 3]), (some [104], none, none, [4])] := by
  rfl

end Rio.C04
