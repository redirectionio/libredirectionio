/-
C04 — the body filter CHAIN driver TRANSLATED from the source equals the hand-written model.

`Rio.Consts.genChainDoFilter / genChainFilter / genChainDoEnd / genChainEnd` (and one `gen…Loop<n>` per `for` loop) are
generated on every run from `FilterBodyAction::{do_filter, filter, do_end, end}` of src/filter/filter_body.rs by
tools/consts.d/tr_w18_chain.py; the stage calls (`item.filter`, `item.end`, the html held bytes of the failure path) are PARAMETERS of the
generated text.  Here they are instantiated with the model's stages (`Rio.Filter.genItemFilter / genItemEnd / genHeldHtml`,
Proofs/ChainGen.lean) and proved equal to `doFilter`, `Chain.filter`, `doEnd`, `Chain.end` of Model/Filter.lean — for every list of
stages, every `in_error`, every input, every tokenizer / selector oracle / codec.  The two operations of `do_end` that can panic
in Rust (`self.chain[index]`, `self.chain[index..]`) carry an explicit PANIC outcome (`none`) in the translation; the equalities
show it is never taken.  The failure path (`in_error`, what is given back, the `.rev()` order of the give-back loops, the in-flight
bytes of `do_end`) is part of the translated text, so it is covered by the equalities; `passthrough_after_error` and
`passthrough_empty` are restated for the translated definitions and hold there for ANY stage implementation — over
`genChainFeed` / `genChainRun`, defined HERE by hand: the translated `filter` threaded over a list of chunks, then the translated `end`.
-/
import RioModel.Proofs.ChainGen
import RioModel.Props.C04

namespace Rio.C04
open Rio.Consts Rio.Filter

variable {D E : Type}

/-- `do_filter`; of the model's result `some` is `Ok(data)`, `none` is `Err` -/
theorem gen_chain_do_filter_eq_model (tk : Tokenize) (ev : Bytes → Bytes → Bool) (codec : Codec D E)
    (items : List (Stage D E)) (data : Bytes) :
    genChainDoFilter (genItemFilter tk ev codec) items data =
      ((doFilter tk ev codec items data).1, optRes (doFilter tk ev codec items data).2) :=
  doFilter_gen_eq tk ev codec items data

/-- `filter`, for every chain state (also `in_error = true`) -/
theorem gen_chain_filter_eq_model (tk : Tokenize) (ev : Bytes → Bytes → Bool) (codec : Codec D E)
    (c : Chain D E) (data : Bytes) :
    genChainFilter (genItemFilter tk ev codec) genHeldHtml c.items c.inError data =
      (((c.filter tk ev codec data).1.items, (c.filter tk ev codec data).1.inError), (c.filter tk ev codec data).2) :=
  filter_gen_eq tk ev codec c data

/-- `do_end`: NO PANIC (`some`: the index `self.chain[index]` and the slice `self.chain[index..]` are in range for every chain);
`Ok(data)` is the model's threaded `Option` defaulted, `Err((err, passthrough))` carries the model's pass-through bytes. -/
theorem gen_chain_do_end_eq_model (tk : Tokenize) (ev : Bytes → Bytes → Bool) (codec : Codec D E)
    (items : List (Stage D E)) :
    genChainDoEnd (genItemFilter tk ev codec) (genItemEnd codec) genHeldHtml items =
      some ((doEnd tk ev codec items none).1,
        match (doEnd tk ev codec items none).2 with
        | .ok d => .ok (d.getD [])
        | .error p => .error ((), p)) :=
  doEnd_gen_eq tk ev codec items

/-- the index loop of `do_end` from ANY position (`pre` the stages before `index`, `suf` those from `index` on) -/
theorem gen_chain_do_end_loop_eq_model (tk : Tokenize) (ev : Bytes → Bytes → Bool) (codec : Codec D E)
    (pre suf : List (Stage D E)) (data : Option Bytes) :
    genChainDoEndLoop1 (genItemFilter tk ev codec) (genItemEnd codec) genHeldHtml
        (List.range' pre.length suf.length) data (pre ++ suf) =
      some (doEndRes pre (doEnd tk ev codec suf data)) :=
  doEndLoop_eq tk ev codec suf pre data

/-- `end`: no panic (`some`), for every chain state -/
theorem gen_chain_end_eq_model (tk : Tokenize) (ev : Bytes → Bytes → Bool) (codec : Codec D E) (c : Chain D E) :
    genChainEnd (genItemFilter tk ev codec) (genItemEnd codec) genHeldHtml c.items c.inError =
      some (((c.end tk ev codec).1.items, (c.end tk ev codec).1.inError), (c.end tk ev codec).2) :=
  end_gen_eq tk ev codec c

/-- the two give-back loops (`for item in ...iter_mut().rev()`); the caller passes the REVERSED chain / chain slice -/
theorem gen_chain_give_back_eq_model (xs : List (Stage D E)) (p : Bytes) :
    genChainFilterLoop1 genHeldHtml xs p = (xs, p ++ xs.flatMap heldOf) ∧
    genChainDoEndLoop2 genHeldHtml xs p = (xs, p ++ xs.flatMap heldOf) :=
  ⟨filterGiveBack_eq xs p, doEndGiveBack_eq xs p⟩

section
variable {σ ε : Type} (itemFilter : σ → List Nat → σ × Except ε (List Nat)) (itemEnd : σ → σ × Except ε (List Nat))
  (heldHtml : σ → Option (σ × List Nat))

/-- the chunks fed in order to the TRANSLATED `filter`: ((chain, in_error) afterwards, outputs of the calls) -/
def genChainFeed : List σ → Bool → List (List Nat) → (List σ × Bool) × List (List Nat)
  | chain, ie, [] => ((chain, ie), [])
  | chain, ie, x :: xs =>
    let r := genChainFilter itemFilter heldHtml chain ie x
    let rs := genChainFeed r.1.1 r.1.2 xs
    (rs.1, r.2 :: rs.2)

/-- everything the TRANSLATED driver emits for the chunks and the final `end` (`none` = a panic in `end`) -/
def genChainRun (chain : List σ) (ie : Bool) (cs : List (List Nat)) : Option (List Nat) :=
  let r := genChainFeed itemFilter heldHtml chain ie cs
  (genChainEnd itemFilter itemEnd heldHtml r.1.1 r.1.2).map fun e => r.2.flatten ++ e.2

theorem genChainFeed_fixed (chain : List σ) (ie : Bool)
    (h : ∀ x, genChainFilter itemFilter heldHtml chain ie x = ((chain, ie), x)) :
    ∀ cs : List (List Nat), genChainFeed itemFilter heldHtml chain ie cs = ((chain, ie), cs)
  | [] => rfl
  | x :: xs => by simp only [genChainFeed, h, genChainFeed_fixed chain ie h xs]

/-- **`passthrough_after_error` restated for the translated definitions**, for ANY implementation of the stages (the parameters are
universally quantified): once `in_error` is set the translated `filter` returns every chunk unchanged, `end` returns nothing and
does not panic, and the stages are not touched. -/
theorem passthrough_after_error_gen (chain : List σ) (cs : List (List Nat)) :
    genChainFeed itemFilter heldHtml chain true cs = ((chain, true), cs) ∧
    genChainEnd itemFilter itemEnd heldHtml chain true = some ((chain, true), []) ∧
    genChainRun itemFilter itemEnd heldHtml chain true cs = some cs.flatten := by
  have key := genChainFeed_fixed itemFilter heldHtml chain true fun _ => by simp [genChainFilter]
  refine ⟨key cs, by simp [genChainEnd], ?_⟩
  simp [genChainRun, key, genChainEnd]

/-- **`passthrough_empty` restated** (an empty chain is what `new` builds for an unsupported encoding, C14), for ANY implementation
of the stages. -/
theorem passthrough_empty_gen (cs : List (List Nat)) :
    genChainRun itemFilter itemEnd heldHtml [] false cs = some cs.flatten := by
  have key := genChainFeed_fixed itemFilter heldHtml [] false fun _ => by
    simp [genChainFilter, genChainDoFilter, genChainDoFilterLoop1]
  simp [genChainRun, key, genChainEnd, genChainDoEnd, genChainDoEndLoop1]

end

/-- a whole run: the translated driver on the model's stages emits, call by call, what the model emits and ends in the model's state;
`gen_chain_run_eq_model`: the concatenation of everything emitted is `Chain.run`, never a panic -/
theorem gen_chain_feed_eq_model (tk : Tokenize) (ev : Bytes → Bytes → Bool) (codec : Codec D E) :
    ∀ (cs : List Bytes) (c : Chain D E),
      genChainFeed (genItemFilter tk ev codec) genHeldHtml c.items c.inError cs =
        (((c.feed tk ev codec cs).1.items, (c.feed tk ev codec cs).1.inError), (c.feed tk ev codec cs).2)
  | [], c => rfl
  | x :: xs, c => by
    simp only [genChainFeed, Chain.feed, gen_chain_filter_eq_model]
    rw [gen_chain_feed_eq_model tk ev codec xs (c.filter tk ev codec x).1]

theorem gen_chain_run_eq_model (tk : Tokenize) (ev : Bytes → Bytes → Bool) (codec : Codec D E) (c : Chain D E) (cs : List Bytes) :
    genChainRun (genItemFilter tk ev codec) (genItemEnd codec) genHeldHtml c.items c.inError cs = some (c.run tk ev codec cs) := by
  simp only [genChainRun, gen_chain_feed_eq_model, gen_chain_end_eq_model, Chain.run, Chain.runOuts, Option.map_some]

/-- `passthrough_after_error` through the equivalence with the model -/
theorem passthrough_after_error_gen_model (tk : Tokenize) (ev : Bytes → Bytes → Bool) (codec : Codec D E)
    (ch : Chain D E) (h : ch.inError = true) (cs : List Bytes) :
    genChainRun (genItemFilter tk ev codec) (genItemEnd codec) genHeldHtml ch.items ch.inError cs = some cs.flatten := by
  rw [gen_chain_run_eq_model, passthrough_after_error tk ev codec ch h cs]

/-- `failing_call_output` restated; LAST stage first is the `.rev()` of the give-back loop. -/
theorem failing_call_output_gen (tk : Tokenize) (ev : Bytes → Bytes → Bool) (codec : Codec D E)
    (items items' : List (Stage D E)) (x : Bytes) (hf : doFilter tk ev codec items x = (items', none)) :
    genChainFilter (genItemFilter tk ev codec) genHeldHtml items false x =
      ((items', true), items'.reverse.flatMap heldOf ++ x) := by
  have := gen_chain_filter_eq_model tk ev codec { items := items, inError := false } x
  simp only at this
  rw [this, failing_call_output tk ev codec { items := items, inError := false } x items' rfl hf, flushHtml_eq]

/-- the failing `end`: `p` is what the stages from the failing one on hold, last stage first, then the in-flight bytes
(`error_path_strong_full_final` of Props/C04err.lean speaks about exactly this model value). -/
theorem failing_end_output_gen (tk : Tokenize) (ev : Bytes → Bytes → Bool) (codec : Codec D E)
    (items items' : List (Stage D E)) (p : Bytes) (hf : doEnd tk ev codec items none = (items', .error p)) :
    genChainEnd (genItemFilter tk ev codec) (genItemEnd codec) genHeldHtml items false = some ((items', true), p) := by
  have := gen_chain_end_eq_model tk ev codec { items := items, inError := false }
  simp only at this
  rw [this]
  simp [Chain.end, hf]

def failCodec : Codec Unit Unit where
  create _ := ((), ())
  decWrite _ _ := none
  decFinish _ := none
  encWrite _ b := some ((), b)
  encFinish _ := some []

def exTk : Tokenize := { plain := fun d => ([], d), stream := fun c d => ([], d, c) }
def exHtml (held : Bytes) : Stage Unit Unit :=
  .html { enter := none, visitor := { kind := .append, cur := [], content := [] }, last := held }

/-- the give-back order on the translated code: two html stages holding `[1]` and `[2]`, a failing decode stage first; the failing
`filter` call returns the bytes of the LAST stage first, then the chunk. -/
example : (genChainFilter (genItemFilter exTk (fun _ _ => false) failCodec) genHeldHtml
    [.decode (), exHtml [1], exHtml [2]] false [9]).2 = [2, 1, 9] ∧
    (genChainFilter (genItemFilter exTk (fun _ _ => false) failCodec) genHeldHtml
    [.decode (), exHtml [1], exHtml [2]] false [9]).1.2 = true := by
  constructor <;> rfl

/-- the failing `end` on the translated code (the decode stage fails in `end()`): held bytes last stage first, no panic -/
example : (genChainEnd (genItemFilter exTk (fun _ _ => false) failCodec) (genItemEnd failCodec) genHeldHtml
    [.decode (), exHtml [1], exHtml [2]] false).map (fun r => (r.1.2, r.2)) = some (true, [2, 1]) := by
  rfl

/-- a run that works: a prepend text stage and an append text stage, two chunks -/
example : genChainRun (genItemFilter exTk (fun _ _ => false) noCodec) (genItemEnd noCodec) genHeldHtml
    [.text { action := .prepend, content := [80] }, .text { action := .append, content := [65] }] false [[1], [2]] =
      some [80, 1, 2, 65] := by
  rfl

end Rio.C04
