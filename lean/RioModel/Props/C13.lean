/-
C13 — header filters implement add / remove / replace / override / default exactly.

All theorems hold for an arbitrary name-normalisation function `lower` (the code uses `str::to_lowercase`);
name equality is `sameName lower n h := lower h.name == lower n`, exactly the comparison the code performs.
-/
import RioModel.Proofs.Header
import RioModel.Proofs.UtilList

namespace Rio.C13
open Rio.Header
variable (lower : String → String)

theorem add_closed (n v : String) (hs : List Header) :
    addAction n v hs = hs ++ [⟨n, v⟩] := rfl

/-- remove deletes all occurrences (and nothing else, order kept). -/
theorem remove_closed (n : String) (hs : List Header) :
    removeAction lower n hs = hs.filter (fun h => !sameName lower n h) :=
  -- the closed form satisfies the loop's recurrence (so for the next two)
  Util.foldl_eq_of_snoc _ (fun T => T.filter fun h => !sameName lower n h)
    (fun T h => by cases hc : sameName lower n h <;> simp [hc]) hs

/-- replace rewrites existing occurrences only. -/
theorem replace_closed (n v : String) (hs : List Header) :
    replaceAction lower n v hs = hs.map (fun h => if sameName lower n h then ⟨n, v⟩ else h) :=
  Util.foldl_eq_of_snoc _ (fun T => T.map fun h => if sameName lower n h then (⟨n, v⟩ : Header) else h)
    (fun T h => by cases hc : sameName lower n h <;> simp [hc]) hs

/-- override rewrites existing occurrences or appends one. -/
theorem override_closed (n v : String) (hs : List Header) :
    overrideAction lower n v hs =
      if hs.any (sameName lower n) then hs.map (fun h => if sameName lower n h then ⟨n, v⟩ else h)
      else hs ++ [⟨n, v⟩] := by
  have : hs.foldl (fun (st : List Header × Bool) h =>
      if !sameName lower n h then (st.1 ++ [h], st.2) else (st.1 ++ [⟨n, v⟩], true)) ([], false) = _ :=
    Util.foldl_eq_of_snoc _
      (fun T => (T.map fun h => if sameName lower n h then (⟨n, v⟩ : Header) else h, T.any (sameName lower n)))
      (fun T h => by cases hc : sameName lower n h <;> simp [hc]) hs
  rw [overrideAction, this]
  cases hany : hs.any (sameName lower n) with
  | true => simp
  | false => simp [map_replace_of_not_any lower n v hs hany]

/-- default appends only if absent. -/
theorem default_closed (n v : String) (hs : List Header) :
    defaultAction lower n v hs = if hs.any (sameName lower n) then hs else hs ++ [⟨n, v⟩] := by
  unfold defaultAction
  rw [defaultFound_eq_any]
  cases hany : hs.any (sameName lower n) <;> simp

/-- One filter: dispatch by `create_header_action` + the action's loop = the reference operation.
The action names come from the regenerated constants, so renaming one in the source breaks
this proof. -/
theorem act_run_spec (f : HeaderFilter) (hs : List Header) :
    (match createHeaderAction f with
     | some a => a.run lower hs
     | none => hs) = refOp lower f hs := by
  unfold createHeaderAction refOp
  -- the dispatch is the same chain of tests on both sides: push the `match` into its branches
  simp only [apply_ite (fun o : Option Act => match o with | some a => a.run lower hs | none => hs)]
  simp only [Act.run, add_closed, remove_closed, replace_closed, override_closed, default_closed]
  rfl

theorem unknown_ignored (f : HeaderFilter) (hs : List Header)
    (h : f.action ∉ ["add", "remove", "replace", "override", "default"]) :
    refOp lower f hs = hs ∧ createHeaderAction f = none := by
  simp at h
  obtain ⟨h1, h2, h3, h4, h5⟩ := h
  constructor
  · simp [refOp, h1, h2, h3, h4, h5]
  · simp [createHeaderAction, Rio.Consts.headerActionAdd, Rio.Consts.headerActionRemove,
      Rio.Consts.headerActionReplace, Rio.Consts.headerActionOverride,
      Rio.Consts.headerActionDefault, h1, h2, h3, h4, h5]

theorem fold_actions (fs : List HeaderFilter) (hs : List Header) :
    (fs.filterMap createHeaderAction).foldl (fun hs a => a.run lower hs) hs = refFold lower fs hs := by
  rw [List.foldl_filterMap, refFold]
  congr
  funext hs f
  rw [← act_run_spec lower f hs]
  cases createHeaderAction f <;> rfl

/-- **C13 headline**: for every header list and every filter sequence, the implementation's
pipeline (`FilterHeaderAction::new` + `filter`) is the left fold, in order, of the five reference
operations; unknown operations contribute the identity. -/
theorem fold_spec (fs : List HeaderFilter) (hs : List Header) :
    filterHeaders lower fs hs = refFold lower fs hs := by
  rw [← fold_actions, filterHeaders]
  -- the two early returns of the code are the empty cases of the fold
  cases fs with
  | nil => rfl
  | cons f t => cases List.filterMap createHeaderAction (f :: t) <;> rfl

theorem filter_ite {c : Prop} [Decidable c] {p : Header → Bool} {a b t : List Header}
    (ha : a.filter p = t) (hb : b.filter p = t) : (if c then a else b).filter p = t := by
  split <;> assumption

/-- One operation leaves alone every class `p` of headers that contains neither a header named like the
filter's nor the header it inserts: each branch of `refOp` appends the new header, drops or rewrites
the headers of that name, or does nothing. -/
theorem refOp_filter (f : HeaderFilter) (hs : List Header) (p : Header → Bool)
    (hp : ∀ h, p h = true → sameName lower f.header h = false) (hp2 : p ⟨f.header, f.value⟩ = false) :
    (refOp lower f hs).filter p = hs.filter p := by
  have happ : (hs ++ [(⟨f.header, f.value⟩ : Header)]).filter p = hs.filter p := by
    simp [List.filter_append, hp2]
  have hmap := filter_map_replace lower f.header f.value p hs hp hp2
  have hrem := filter_filter_not_same lower f.header p hs hp
  exact filter_ite happ <|                      -- add
    filter_ite hrem <|                          -- remove
    filter_ite hmap <|                          -- replace
    filter_ite (filter_ite hmap happ) <|        -- override: rewrites if the name occurs, else appends
    filter_ite (filter_ite rfl happ) rfl        -- default: nothing if the name occurs, else appends; unknown: nothing

/-- For one operation: the sub-list of headers *not* named like the filter's header is unchanged
(same elements, same values, same relative order). -/
theorem others_untouched (f : HeaderFilter) (hs : List Header) :
    (refOp lower f hs).filter (fun h => !sameName lower f.header h)
      = hs.filter (fun h => !sameName lower f.header h) :=
  refOp_filter lower f hs _ (fun h hh => by simpa using hh) (by simp [sameName])

/-- Lifted to a whole filter sequence: for any class `p` of headers that no filter of the
sequence names (and that contains none of the inserted headers), the sub-list of `p`-headers is
unchanged — value and relative order kept. -/
theorem others_untouched_fold (fs : List HeaderFilter) (hs : List Header) (p : Header → Bool)
    (hp : ∀ f ∈ fs, ∀ h, p h = true → sameName lower f.header h = false)
    (hp2 : ∀ f ∈ fs, p ⟨f.header, f.value⟩ = false) :
    (refFold lower fs hs).filter p = hs.filter p :=
  Util.foldl_inv (fun hs' => hs'.filter p = hs.filter p) _ fs hs rfl fun hs' f hf e =>
    (refOp_filter lower f hs' p (hp f hf) (hp2 f hf)).trans e

/-! ### Non-vacuity: a concrete run exercising all five operations and an unknown one -/

example :
    filterHeaders id
      [⟨"add", "X-A", "1"⟩, ⟨"remove", "X-B", ""⟩, ⟨"replace", "X-C", "r"⟩, ⟨"frobnicate", "X-A", "z"⟩,
       ⟨"override", "X-D", "o"⟩, ⟨"default", "X-A", "d"⟩]
      [⟨"X-B", "b1"⟩, ⟨"X-C", "c1"⟩, ⟨"Keep", "k"⟩, ⟨"X-B", "b2"⟩]
    = [⟨"X-C", "r"⟩, ⟨"Keep", "k"⟩, ⟨"X-A", "1"⟩, ⟨"X-D", "o"⟩] := by
  decide +kernel

/-- The hypotheses of `others_untouched_fold` are satisfiable on a non-trivial instance. -/
example :
    let fs : List HeaderFilter := [⟨"remove", "X-B", ""⟩, ⟨"override", "X-D", "o"⟩]
    let p : Header → Bool := fun h => h.name == "Keep"
    (∀ f ∈ fs, ∀ h, p h = true → sameName id f.header h = false) ∧
    (∀ f ∈ fs, p ⟨f.header, f.value⟩ = false) ∧
    ([⟨"X-B", "b1"⟩, ⟨"Keep", "k"⟩] : List Header).filter p ≠ [] := by
  simp [sameName]
  constructor <;> (intro h hh; rw [hh]; decide)

end Rio.C13
