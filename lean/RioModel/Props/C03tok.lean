/-
C03, final form on the tokenizer model of the real tokenizer: every tokenizer law of `Rio.C03.chunk_invariant`
(`LosslessAll`, `TokValidAll`, `RestartLaw` with a context and no safety hypothesis) is discharged, so the FULL
chunk-invariance statement holds of the model with no hypothesis besides "the body and the configured values are valid
UTF-8".
-/
import RioModel.Props.C03
import RioModel.Props.C04tok
import RioModel.Proofs.HtmlTokRestartLaws

namespace Rio.C03
open Rio.Filter

variable {D E : Type}

theorem tokenizer_restart : RestartLaw htmlTokenize := htmlTokenize_restartLaw

/-- on a valid UTF-8 body no call of a plain chain with valid values fails, however the body is cut -/
theorem no_call_fails (ev : Bytes → Bytes → Bool) (codec : Codec D E) (items : List (Stage D E)) (hd : Down items)
    (cs : List Bytes) (hv : V cs.flatten) : runG htmlTokenize ev codec items cs none ≠ none := by
  obtain ⟨out, h, _⟩ := runG_ok htmlTokenize_losslessAll Rio.C04.tokenizer_tokValid ev codec items cs none hd
    (by simpa using hv)
  rw [h]; simp

/-- **C03, the DESIGN statement on the tokenizer model — FULL.**  For the chain `FilterBodyAction::new` builds from any
list of html and text filters whose values are valid UTF-8 (no `Content-Encoding`), every selector oracle, every valid
UTF-8 body and EVERY way of cutting it into chunks (empty chunks, no chunk at all, cuts inside multi-byte characters,
tags, comments, declarations, CDATA sections and raw-text elements included): the concatenated output is byte-identical
to the output for the body delivered as one chunk. -/
theorem chunk_invariant_final (ev : Bytes → Bytes → Bool) (lower : String → String)
    (fs : List BodyFilter) (headers : List (String × String))
    (henc : headerValue lower Rio.Consts.filterHeaderContentEncoding headers = none)
    (hval : ∀ f ∈ fs, V (Rio.C04.filterValue f)) :
    ChunkInvariant htmlTokenize ev noCodec (Chain.new noCodec lower fs headers) :=
  chunk_invariant htmlTokenize_losslessAll Rio.C04.tokenizer_tokValid htmlTokenize_restartLaw htmlStream_nil_nil
    ev lower fs headers henc hval

/-- the same, spelled out -/
theorem chunk_invariant_final' (ev : Bytes → Bytes → Bool) (lower : String → String)
    (fs : List BodyFilter) (headers : List (String × String))
    (henc : headerValue lower Rio.Consts.filterHeaderContentEncoding headers = none)
    (hval : ∀ f ∈ fs, V (Rio.C04.filterValue f))
    (cs : List Bytes) (hbody : utf8Scan cs.flatten = .ok) :
    (Chain.new noCodec lower fs headers).run htmlTokenize ev noCodec cs =
      (Chain.new noCodec lower fs headers).run htmlTokenize ev noCodec [cs.flatten] :=
  chunk_invariant_final ev lower fs headers henc hval cs hbody

/-- one html stage in any reachable state (accepted context), every non-empty schedule of a stream on which no call
fails -/
theorem html_stage_chunk_invariant_final (ev : Bytes → Bytes → Bool) (codec : Codec D E)
    (s : HtmlSt) (hc : Ctx s.ctx) (cs : List Bytes) (hne : cs ≠ []) (hok : seqRun htmlTokenize ev s cs ≠ none) :
    ({ items := [.html s] } : Chain D E).run htmlTokenize ev codec cs =
      ({ items := [.html s] } : Chain D E).run htmlTokenize ev codec [cs.flatten] :=
  html_stage_chunk_invariant htmlTokenize ev codec htmlTokenize_restartLaw s hc cs hne hok

/-- a schedule that cuts inside a start tag, inside a raw-text element, inside a comment and inside an end tag -/
def cutBody : List Bytes :=
  [[60, 100, 105], [118, 62, 60, 115, 116, 121, 108, 101, 62, 60, 112], [62, 60, 47, 115, 116, 121, 108, 101, 62, 60, 33, 45],
   [45, 60, 112, 62, 45, 45, 62, 60, 112, 62, 120, 60, 47], [112, 62, 60, 47, 100, 105, 118, 62]]

/-- non-vacuity: on `cutBody` the filter acts (`$` is prepended in `<p>`, `cut_example_acts`), and both runs agree — by the
theorem, not by evaluating the two runs -/
theorem cut_example :
    (Chain.new noCodec id [.html "prepend_child" [[100, 105, 118], [112]] none [36]] []).run htmlTokenize evalStandIn noCodec cutBody =
      (Chain.new noCodec id [.html "prepend_child" [[100, 105, 118], [112]] none [36]] []).run htmlTokenize evalStandIn noCodec [cutBody.flatten] :=
  chunk_invariant_final' evalStandIn id _ [] rfl (by intro f hf; simp at hf; subst hf; unfold V; decide) cutBody (by decide +kernel)

/-- ... and the filter does act on that input: `<div><style><p></style><!--<p>--><p>$x</p></div>` -/
theorem cut_example_acts :
    (Chain.new noCodec id [.html "prepend_child" [[100, 105, 118], [112]] none [36]] []).run htmlTokenize evalStandIn noCodec [cutBody.flatten] =
      [60, 100, 105, 118, 62, 60, 115, 116, 121, 108, 101, 62, 60, 112, 62, 60, 47, 115, 116, 121, 108, 101, 62] ++
      [60, 33, 45, 45, 60, 112, 62, 45, 45, 62, 60, 112, 62, 36, 120, 60, 47, 112, 62, 60, 47, 100, 105, 118, 62] := by
  decide +kernel

/-- the same schedule through a chain of three stages built by `Chain.new` (two html filters and a text filter) -/
theorem cut_example_multistage :
    (Chain.new noCodec id [.html "prepend_child" [[100, 105, 118], [112]] none [36], .html "append_child" [[100, 105, 118]] none [35],
        .text .append [33]] []).run htmlTokenize evalStandIn noCodec cutBody =
      (Chain.new noCodec id [.html "prepend_child" [[100, 105, 118], [112]] none [36], .html "append_child" [[100, 105, 118]] none [35],
        .text .append [33]] []).run htmlTokenize evalStandIn noCodec [cutBody.flatten] :=
  chunk_invariant_final' evalStandIn id _ [] rfl
    (by intro f hf; simp at hf; rcases hf with rfl | rfl | rfl <;> (unfold V; decide)) cutBody (by decide +kernel)

end Rio.C03
