/-
C19 — the redirect-chain walker, TRANSLATED from the source

`Rio.Consts.genLoopCompute` is translated from `src/api/redirection_loop.rs` (`RedirectionLoop::compute`, every statement) on
every run by the fail-closed Rust → Lean translator tools/consts.d/tr_w19_loop.py.  The callees it does not translate are function
parameters (`Rio.LoopGen.Callees`: one field per callee, see the plugin's docstring).

Translated `compute` = the hand-written `Rio.Loop.compute` (Model/Loop.lean) for EVERY bundle of callees, the model's two parameters
read off the callees (`stepOf`: one turn of the router pipeline; `extOf`: the project-domain test); conversely every `step` / `ext` /
`get` / start of the model is realised by some bundle.
-/
import RioModel.Proofs.LoopGen
import RioModel.Props.C19

set_option linter.unusedSectionVars false

namespace Rio.C19
open Rio.Loop Rio.Consts Rio.LoopGen

section Gen
variable {S Ex Rt Cf Rq Rs Ac Pu : Type} [DecidableEq S] (E : Callees S Ex Rt Cf Rq Rs Ac Pu)
variable (router : Rt) (maxHops : Nat) (ex : Ex) (pd : List S)

/-- The model run the translated code is compared with: `step` / `ext` read off the callees, `get = "GET"`, started at
`example.url` and `example.method.unwrap_or("GET")`. -/
def modelOfCallees : State S S :=
  compute (stepOf E router ex) (extOf E pd) (E.lit "GET") maxHops (E.exampleUrl ex)
    ((E.exampleMethod ex).getD (E.lit "GET"))

/-- **Translated = model**: the hops (as `(url, status_code, method)` tuples) and the error.  No hypothesis: the function does
no arithmetic, indexing or `unwrap` that could fail. -/
theorem gen_compute_eq_model :
    genCompute E router maxHops ex pd =
      ((modelOfCallees E router maxHops ex pd).hops.map toGenHop,
       (modelOfCallees E router maxHops ex pd).error.map toGenErr) :=
  genCompute_eq E router maxHops ex pd

/-- `LastRepeats` on the translated code's tuples: the `(url, method)` of the last hop occurs among the earlier hops. -/
def GenLastRepeats (hs : List (S × Nat × S)) : Prop :=
  ∃ pre l, hs = pre ++ [l] ∧ ∃ h ∈ pre, h.1 = l.1 ∧ h.2.2 = l.2.2

theorem genLastRepeats_map (hs : List (Hop S S)) : GenLastRepeats (hs.map toGenHop) ↔ LastRepeats hs := by
  constructor
  · rintro ⟨pre, l, h, x, hx, h1, h2⟩
    obtain ⟨l₁, l₂, rfl, hp, hl⟩ := List.map_eq_append_iff.1 h
    obtain ⟨l', rfl, hl'⟩ := List.map_eq_singleton_iff.1 hl
    subst hp
    obtain ⟨y, hy, rfl⟩ := List.mem_map.1 hx
    refine ⟨l₁, l', rfl, ?_⟩
    subst hl'
    simp only [toGenHop] at h1 h2
    simp only [keys, List.mem_map]
    exact ⟨y, hy, by rw [h1, h2]⟩
  · rintro ⟨pre, l, rfl, hmem⟩
    simp only [keys, List.mem_map] at hmem
    obtain ⟨y, hy, hyl⟩ := hmem
    refine ⟨pre.map toGenHop, toGenHop l, by simp, toGenHop y, List.mem_map.2 ⟨y, hy, rfl⟩, ?_⟩
    simp only [Prod.mk.injEq] at hyl
    simp [toGenHop, hyl.1, hyl.2]

/-- **Bound, for the translated code.**  The chain has at least the start and at most `max_hops + 1` entries. -/
theorem loop_bounded_gen :
    1 ≤ (genCompute E router maxHops ex pd).1.length ∧
    (genCompute E router maxHops ex pd).1.length ≤ maxHops + 1 := by
  rw [gen_compute_eq_model, List.length_map]
  exact loop_bounded _ _ _ _ _ _

/-- **Loop iff repeat, for the translated code.**  `error = Some(Loop)` exactly when the `(url, method)` of the
last hop occurs among the earlier hops. -/
theorem loop_iff_repeat_gen :
    (genCompute E router maxHops ex pd).2 = some GenRedirectionError.loop ↔
      GenLastRepeats (genCompute E router maxHops ex pd).1 := by
  rw [gen_compute_eq_model, genLastRepeats_map]
  exact map_toGenErr_eq_some.trans (loop_iff_repeat _ _ _ _ _ _)

/-- **TooManyHops, for the translated code** (one direction of `too_many_iff`): when the translated walker
reports `TooManyHops`, the limit is at least 1 and exactly `max_hops + 1` hops were recorded. -/
theorem too_many_gen
    (h : (genCompute E router maxHops ex pd).2 = some GenRedirectionError.tooManyHops) :
    1 ≤ maxHops ∧ (genCompute E router maxHops ex pd).1.length = maxHops + 1 := by
  rw [gen_compute_eq_model] at h ⊢
  rw [List.length_map]
  have := (too_many_iff _ _ _ _ _ _).1 (map_toGenErr_eq_some.1 h)
  exact ⟨this.1, this.2.1⟩

end Gen

section AnyStep
variable {S : Type} [DecidableEq S]

/-- Callees realising a given `step` / `ext` / `get`: an example is the pair (url, method), the "request", "routes" and
"action" are that pair too, `get_status_code` answers the status `step` gives, `filter_headers` one header named `get`
(= every literal) carrying the location, `join_url` returns the header value, `Url::parse` succeeds exactly on the urls with
`ext`, whose host is `other`, a value different from the only project domain `get`. -/
def calleesOf (step : S → S → StepOut S) (ext : S → Bool) (get other : S) :
    Callees S (S × S) Unit Unit (S × S) (S × S) (S × S) S where
  lit := fun _ => get
  exampleUrl := fun e => e.1
  exampleMethod := fun e => some e.2
  responseStatusCode := fun _ => none
  withUrl := fun e u => (u, e.2)
  withMethod := fun e m => (e.1, m.getD get)
  routerConfig := fun _ => ()
  fromExample := fun _ e => match step e.1 e.2 with | .reqErr => none | .resp _ _ => some e
  matchRequest := fun _ r => r
  fromRoutesRule := fun r _ => r
  getStatusCode := fun a _ => (match step a.1 a.2 with | .reqErr => 0 | .resp s _ => s, a)
  filterHeaders := fun a _ => (match step a.1 a.2 with | .resp _ (some l) => [(get, l)] | _ => [], a)
  lower := fun n => n
  joinUrl := fun _ v => v
  urlParse := fun u => if ext u then some u else none
  hostStr := fun _ => some other

theorem stepOf_calleesOf (step : S → S → StepOut S) (ext : S → Bool) (get other : S) (e : S × S) :
    stepOf (calleesOf step ext get other) () e = step := by
  funext u m
  unfold stepOf statusOf locationOf calleesOf
  simp only []
  cases h : step u m with
  | reqErr => simp [h]
  | resp s l =>
    simp only [h, Option.getD_some]
    by_cases hs : s = 0
    · subst hs
      cases l <;> simp [h]
    · cases l <;> simp [h, hs]

theorem extOf_calleesOf (step : S → S → StepOut S) (ext : S → Bool) (get other : S) (h : other ≠ get) :
    extOf (calleesOf step ext get other) [get] = ext := by
  funext u
  unfold extOf calleesOf
  simp only []
  cases ext u <;> simp [h]

/-- **Every step function is covered.**  For every `step`, `ext`, `get`, hop limit and start of the model (over a type with
at least two values) there are callees on which the translated code computes exactly the model's run: the equality
`gen_compute_eq_model` is not about a special class of step functions. -/
theorem gen_compute_eq_model_any_step (step : S → S → StepOut S) (ext : S → Bool) (get other : S) (h : other ≠ get)
    (maxHops : Nat) (url method : S) :
    genCompute (calleesOf step ext get other) () maxHops (url, method) [get] =
      ((compute step ext get maxHops url method).hops.map toGenHop,
       (compute step ext get maxHops url method).error.map toGenErr) := by
  rw [gen_compute_eq_model]
  unfold modelOfCallees
  rw [stepOf_calleesOf, extOf_calleesOf _ _ _ _ h]
  rfl

end AnyStep

section Examples

/-- urls / methods / header names are numbers, every literal (`"GET"`, `"location"`, `""`) is 7; an example is (url, method);
url `u < 3` answers 302 at request time with the headers `[(5, 99), (7, u + 1)]` (the second one is the `location` header),
other urls answer the backend code. -/
def exLine : Callees Nat (Nat × Nat) Unit Unit (Nat × Nat) (Nat × Nat) (Nat × Nat) Nat where
  lit := fun _ => 7
  exampleUrl := fun e => e.1
  exampleMethod := fun e => some e.2
  responseStatusCode := fun _ => none
  withUrl := fun e u => (u, e.2)
  withMethod := fun e m => (e.1, m.getD 7)
  routerConfig := fun _ => ()
  fromExample := fun _ e => if e.1 < 100 then some e else none
  matchRequest := fun _ r => r
  fromRoutesRule := fun r _ => r
  getStatusCode := fun a c => (if a.1 < 3 then 302 else c, a)
  filterHeaders := fun a _ => ([(5, 99), (7, a.1 + 1)], a)
  lower := fun n => n
  joinUrl := fun _ v => v
  urlParse := fun u => some u
  hostStr := fun p => some p

/-- a 2-cycle `0 → 1 → 0` with 307 (method kept). -/
def exCycle : Callees Nat (Nat × Nat) Unit Unit (Nat × Nat) (Nat × Nat) (Nat × Nat) Nat :=
  { exLine with getStatusCode := fun a _ => (307, a), filterHeaders := fun a _ => ([(7, 1 - a.1)], a) }

example : genCompute exLine () 10 (0, 3) [] =
    ([(0, 0, 3), (1, 302, 7), (2, 302, 7), (3, 302, 7)], some GenRedirectionError.atLeastOneHop) := by decide +kernel

example : genCompute exLine () 2 (0, 3) [] =
    ([(0, 0, 3), (1, 302, 7), (2, 302, 7)], some GenRedirectionError.tooManyHops) := by decide +kernel

example : genCompute exCycle () 10 (0, 3) [] =
    ([(0, 0, 3), (1, 307, 3), (0, 307, 3)], some GenRedirectionError.loop) := by decide +kernel

/-- the project-domain break: host 1 is not among the project domains `[0]` → one hop, no error. -/
example : genCompute exCycle () 10 (0, 3) [0] = ([(0, 0, 3), (1, 307, 3)], none) := by decide +kernel

/-- `max_hops = 0`: the loop body never runs. -/
example : genCompute exCycle () 0 (0, 3) [] = ([(0, 0, 3)], none) := by decide +kernel

example : GenLastRepeats (genCompute exCycle () 10 (0, 3) []).1 :=
  (loop_iff_repeat_gen exCycle () 10 (0, 3) []).1 (by decide)

example : 1 ≤ 2 ∧ (genCompute exLine () 2 (0, 3) []).1.length = 2 + 1 :=
  too_many_gen exLine () 2 (0, 3) [] (by decide)

end Examples

end Rio.C19
