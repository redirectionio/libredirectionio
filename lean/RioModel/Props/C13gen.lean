/-
C13 for the header actions REGENERATED FROM THE SOURCE.

`Rio.Consts.genHeaderAdd / Remove / Replace / Override / Default` are translated on every run from the
`filter` bodies of src/filter/header_action/header_*.rs (tools/consts.d/w4_translate.py; a `Header` is
the pair `(name, value)` there).  Proofs/HeaderGen.lean shows that each equals the hand-written model;
here the property theorems of Props/C13.lean are restated for the generated definitions, so a source
change that alters the behaviour of a header action breaks a proof (not only the correspondence).
`lower` is `str::to_lowercase` (any function).
-/
import RioModel.Props.C13
import RioModel.Proofs.HeaderGen

namespace Rio.C13
open Rio.Header Rio.Consts
variable (lower : String → String)

/-- the name test of the code on a pair -/
def sameNameP (n : String) (p : String × String) : Bool := lower p.1 == lower n

theorem sameNameP_toPair (n : String) (h : Header) : sameNameP lower n (toPair h) = sameName lower n h := rfl

theorem gen_add_eq_model (n v : String) (hs : List Header) :
    genHeaderAdd lower n v (hs.map toPair) = (addAction n v hs).map toPair := genHeaderAdd_eq lower n v hs
/-- `v` is a parameter of the TRANSLATED `remove` only, which does not read it; the model's `removeAction` has none
(`genRun` passes `""`) -/
theorem gen_remove_eq_model (n v : String) (hs : List Header) :
    genHeaderRemove lower n v (hs.map toPair) = (removeAction lower n hs).map toPair :=
  genHeaderRemove_eq lower n v hs
theorem gen_replace_eq_model (n v : String) (hs : List Header) :
    genHeaderReplace lower n v (hs.map toPair) = (replaceAction lower n v hs).map toPair :=
  genHeaderReplace_eq lower n v hs
theorem gen_override_eq_model (n v : String) (hs : List Header) :
    genHeaderOverride lower n v (hs.map toPair) = (overrideAction lower n v hs).map toPair :=
  genHeaderOverride_eq lower n v hs
theorem gen_default_eq_model (n v : String) (hs : List Header) :
    genHeaderDefault lower n v (hs.map toPair) = (defaultAction lower n v hs).map toPair :=
  genHeaderDefault_eq lower n v hs

private theorem via_headers {f : List (String × String) → List (String × String)}
    {g : List Header → List Header} (h : ∀ hs, f (hs.map toPair) = (g hs).map toPair)
    (ps : List (String × String)) : f ps = (g (ps.map ofPair)).map toPair := by
  have := h (ps.map ofPair)
  rwa [map_toPair_ofPair] at this

private theorem toPair_mk (x : String × String) : toPair ⟨x.1, x.2⟩ = x := rfl
private theorem anyP (n : String) (ps : List (String × String)) :
    (ps.map ofPair).any (sameName lower n) = ps.any (sameNameP lower n) := by
  rw [List.any_map]; rfl
private theorem mapP (n v : String) (ps : List (String × String)) :
    ((ps.map ofPair).map fun h => if sameName lower n h then ⟨n, v⟩ else h).map toPair =
      ps.map fun p => if sameNameP lower n p then (n, v) else p := by
  simp only [List.map_map]
  refine List.map_congr_left fun p _ => ?_
  show toPair (if sameNameP lower n p then ⟨n, v⟩ else ofPair p) = _
  cases sameNameP lower n p <;> rfl

private theorem appendP (n v : String) (ps : List (String × String)) :
    (ps.map ofPair ++ [(⟨n, v⟩ : Header)]).map toPair = ps ++ [(n, v)] := by
  rw [List.map_append, map_toPair_ofPair]; rfl

theorem gen_add_closed (n v : String) (ps : List (String × String)) :
    genHeaderAdd lower n v ps = ps ++ [(n, v)] := by
  rw [via_headers (gen_add_eq_model lower n v) ps, add_closed, appendP]

theorem gen_remove_closed (n v : String) (ps : List (String × String)) :
    genHeaderRemove lower n v ps = ps.filter (fun p => !sameNameP lower n p) := by
  rw [via_headers (gen_remove_eq_model lower n v) ps, remove_closed, List.filter_map, map_toPair_ofPair]
  rfl

theorem gen_replace_closed (n v : String) (ps : List (String × String)) :
    genHeaderReplace lower n v ps = ps.map (fun p => if sameNameP lower n p then (n, v) else p) := by
  rw [via_headers (gen_replace_eq_model lower n v) ps, replace_closed, mapP]

theorem gen_override_closed (n v : String) (ps : List (String × String)) :
    genHeaderOverride lower n v ps =
      if ps.any (sameNameP lower n) then ps.map (fun p => if sameNameP lower n p then (n, v) else p)
      else ps ++ [(n, v)] := by
  rw [via_headers (gen_override_eq_model lower n v) ps, override_closed, anyP, apply_ite (List.map toPair), mapP, appendP]

theorem gen_default_closed (n v : String) (ps : List (String × String)) :
    genHeaderDefault lower n v ps = if ps.any (sameNameP lower n) then ps else ps ++ [(n, v)] := by
  rw [via_headers (gen_default_eq_model lower n v) ps, default_closed, anyP, apply_ite (List.map toPair),
    map_toPair_ofPair, appendP]

/-- `HeaderAction::filter` dispatched to the translated bodies -/
def genRun (a : Act) (ps : List (String × String)) : List (String × String) :=
  match a with
  | .add n v => genHeaderAdd lower n v ps
  | .remove n => genHeaderRemove lower n "" ps
  | .replace n v => genHeaderReplace lower n v ps
  | .override n v => genHeaderOverride lower n v ps
  | .default n v => genHeaderDefault lower n v ps

/-- `FilterHeaderAction::new` + `filter` with the translated actions (the dispatch on the action name
uses the names regenerated from `create_header_action`) -/
def genFilterHeaders (fs : List HeaderFilter) (ps : List (String × String)) : List (String × String) :=
  if fs.isEmpty then ps
  else
    let actions := fs.filterMap createHeaderAction
    if actions.isEmpty then ps
    else actions.foldl (fun ps a => genRun lower a ps) ps

theorem genRun_eq_model (a : Act) (hs : List Header) :
    genRun lower a (hs.map toPair) = (a.run lower hs).map toPair := by
  cases a with
  | add n v => exact gen_add_eq_model lower n v hs
  | remove n => exact gen_remove_eq_model lower n "" hs
  | replace n v => exact gen_replace_eq_model lower n v hs
  | override n v => exact gen_override_eq_model lower n v hs
  | default n v => exact gen_default_eq_model lower n v hs

theorem gen_fold_eq_model (as : List Act) (hs : List Header) :
    as.foldl (fun ps a => genRun lower a ps) (hs.map toPair) =
      (as.foldl (fun hs a => a.run lower hs) hs).map toPair :=
  List.foldl_hom (List.map toPair) fun hs a => genRun_eq_model lower a hs

theorem gen_filterHeaders_eq_model (fs : List HeaderFilter) (hs : List Header) :
    genFilterHeaders lower fs (hs.map toPair) = (filterHeaders lower fs hs).map toPair := by
  unfold genFilterHeaders filterHeaders
  simp only [apply_ite (List.map toPair), gen_fold_eq_model]

/-- **C13 headline for the regenerated code**: for every header list and every filter sequence, the
pipeline of the translated actions is the left fold, in order, of the five reference operations;
unknown operations contribute the identity. -/
theorem gen_fold_spec (fs : List HeaderFilter) (hs : List Header) :
    genFilterHeaders lower fs (hs.map toPair) = (refFold lower fs hs).map toPair := by
  rw [gen_filterHeaders_eq_model, fold_spec]

/-- … and all other headers keep their value and relative order. -/
theorem gen_others_untouched_fold (fs : List HeaderFilter) (hs : List Header) (p : Header → Bool)
    (hp : ∀ f ∈ fs, ∀ h, p h = true → sameName lower f.header h = false)
    (hp2 : ∀ f ∈ fs, p ⟨f.header, f.value⟩ = false) :
    ((genFilterHeaders lower fs (hs.map toPair)).map ofPair).filter p = hs.filter p := by
  rw [gen_fold_spec, map_ofPair_toPair, others_untouched_fold lower fs hs p hp hp2]

/-! ### Non-vacuity: the generated pipeline on a concrete run with all five operations -/

example :
    genFilterHeaders id
      [⟨"add", "X-A", "1"⟩, ⟨"remove", "X-B", ""⟩, ⟨"replace", "X-C", "r"⟩, ⟨"frobnicate", "X-A", "z"⟩,
       ⟨"override", "X-D", "o"⟩, ⟨"default", "X-A", "d"⟩]
      [("X-B", "b1"), ("X-C", "c1"), ("Keep", "k"), ("X-B", "b2")]
    = [("X-C", "r"), ("Keep", "k"), ("X-A", "1"), ("X-D", "o")] := by
  decide +kernel

end Rio.C13
