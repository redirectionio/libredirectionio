/-
C04 — body filters never lose, duplicate or reorder response bytes.

Model: `Model/Filter.lean` (html stage, visitors, text stage, chain glue with `in_error` and the two repaired error
branches), tokenizer and scraper as parameters.  All theorems are for every tokenizer `tk` satisfying the named law(s)
(`LosslessAll` = C16 `lossless`; `TagSpanS` of Proofs/FilterStreamLaws.lean = a tag token starts with `<` and ends with
`>`, needed for replace only), every selector oracle `ev`, every chunking `cs` (empty chunks included) and arbitrary bytes.

`Edit I R a b` (Proofs/Filter.lean) says: `b` is `a` after a sequence of insertions of whole values of `I` and of
substitutions of `<`…`>` spans by whole values of `R`.
-/
import RioModel.Proofs.FilterChain
import RioModel.Proofs.FilterValid
import RioModel.Proofs.FilterTok
import RioModel.Proofs.FilterNew

namespace Rio.C04
open Rio.Filter Rio.Consts

variable {D E : Type}

/-- Clause "no filter applies". -/
theorem passthrough_empty (tk : Tokenize) (ev : Bytes → Bytes → Bool) (codec : Codec D E) (cs : List Bytes) :
    ({ items := [] } : Chain D E).run tk ev codec cs = cs.flatten := by
  have key : ∀ (cs : List Bytes), (({ items := [] } : Chain D E).feed tk ev codec cs) = ({ items := [] }, cs) := by
    intro cs
    induction cs with
    | nil => rfl
    | cons x xs ih => simp [Chain.feed, Chain.filter, doFilter, ih]
  simp [Chain.run, Chain.runOuts, key, Chain.end, doEnd]

/-- Clause "cannot be built": with a content type that does not contain `text/html`, html filters build no stage
(`FilterBodyActionItem::new`), so a list of html filters gives the empty chain. -/
theorem passthrough_unsupported_type (codec : Codec D E) (lower : String → String) (fs : List BodyFilter)
    (headers : List (String × String)) (ct : String)
    (hct : headerValue lower filterHeaderContentType headers = some ct)
    (hno : isInfix filterHtmlContentTypeNeedle.toList ct.toList = false)
    (hhtml : ∀ f ∈ fs, ∃ a p s v, f = .html a p s v) :
    (Chain.new codec lower fs headers).items = [] := by
  have hnone : ∀ f ∈ fs, (Stage.new f (some ct) : Option (Stage D E)) = none := by
    intro f hf
    obtain ⟨a, p, s, v, rfl⟩ := hhtml f hf
    simp [Stage.new, htmlAllowed, hno]
  have : fs.filterMap (fun f => (Stage.new f (some ct) : Option (Stage D E))) = [] := by
    rw [List.filterMap_eq_nil_iff]
    exact hnone
  simp [Chain.new, hct, this]

/-- Clause "unsupported encoding": a `Content-Encoding` other than br / gzip / deflate disables filtering altogether. -/
theorem passthrough_unsupported_encoding (codec : Codec D E) (lower : String → String) (fs : List BodyFilter)
    (headers : List (String × String)) (enc : String)
    (henc : headerValue lower filterHeaderContentEncoding headers = some enc)
    (hno : filterSupportedEncodings.contains enc = false) :
    (Chain.new codec lower fs headers).items = [] := by
  simp only [Chain.new, henc, hno]
  split
  · rename_i hemp
    exact List.isEmpty_iff.mp hemp
  · rfl

theorem feed_in_error (tk : Tokenize) (ev : Bytes → Bytes → Bool) (codec : Codec D E) (c : Chain D E)
    (h : c.inError = true) : ∀ cs : List Bytes, c.feed tk ev codec cs = (c, cs)
  | [] => rfl
  | x :: xs => by simp [Chain.feed, Chain.filter, h, feed_in_error tk ev codec c h xs]

/-- Clause "fails internally", part 1: the calls after the failing one. -/
theorem passthrough_after_error (tk : Tokenize) (ev : Bytes → Bytes → Bool) (codec : Codec D E)
    (ch : Chain D E) (h : ch.inError = true) (cs : List Bytes) :
    ch.run tk ev codec cs = cs.flatten := by
  simp [Chain.run, Chain.runOuts, feed_in_error tk ev codec ch h, Chain.end, h]

/-- Clause "fails internally", part 2: the call that fails returns what the html stages were holding (last stage
first = oldest bytes first) followed by the chunk itself, and puts the chain in its error state. -/
theorem failing_call_output (tk : Tokenize) (ev : Bytes → Bytes → Bool) (codec : Codec D E)
    (ch : Chain D E) (x : Bytes) (items' : List (Stage D E)) (h : ch.inError = false)
    (hf : doFilter tk ev codec ch.items x = (items', none)) :
    ch.filter tk ev codec x = ({ items := items', inError := true }, flushHtml items' ++ x) := by
  simp [Chain.filter, h, hf]

/-- the values a filter may insert -/
def filterIns : BodyFilter → List Bytes
  | .html action _ _ value => if action = filterActionAppend ∨ action = filterActionPrepend then [value] else []
  | .text .append c => [c]
  | .text .prepend c => [c]
  | .text .replace _ => []

/-- the values a filter may substitute for an element -/
def filterRep : BodyFilter → List Bytes
  | .html action _ _ value => if action = filterActionReplace then [value] else []
  | .text _ _ => []

def isTextReplace : BodyFilter → Bool
  | .text .replace _ => true
  | _ => false

def isHtmlFilter : BodyFilter → Bool
  | .html _ _ _ _ => true
  | _ => false

theorem stage_new_spec (tk : Tokenize) (f : BodyFilter) (ct : Option String) (st : Stage D E)
    (hts : filterRep f ≠ [] → TagSpanS tk) (hntr : isTextReplace f = false)
    (h : Stage.new f ct = some st) :
    isPlain st = true ∧ StOK tk st ∧ held st = [] ∧
    ∃ I R, stageRel st = editRel I R ∧ (∀ v ∈ I, v ∈ filterIns f) ∧ (∀ v ∈ R, v ∈ filterRep f) := by
  cases f with
  | html action path sel value =>
    obtain ⟨v, hv, rfl⟩ := stage_new_html h
    obtain ⟨p, ps, rfl, ⟨ha, rfl⟩ | ⟨ha, rfl⟩ | ⟨ha, rfl⟩⟩ := visitor_new_cases hv
    · refine ⟨rfl, ?_, rfl, [value], [], rfl, ?_, ?_⟩
      · intro hk; cases hk
      · intro x hx
        rw [filterIns, if_pos (Or.inl ha)]
        exact hx
      · intro x hx; cases hx
    · refine ⟨rfl, ?_, rfl, [value], [], rfl, ?_, ?_⟩
      · intro hk; cases hk
      · intro x hx
        rw [filterIns, if_pos (Or.inr ha)]
        exact hx
      · intro x hx; cases hx
    · have hrep : filterRep (.html action (p :: ps) sel value) = [value] := by rw [filterRep, if_pos ha]
      refine ⟨rfl, ?_, rfl, [], [value], rfl, ?_, ?_⟩
      · intro _
        exact ⟨hts (by rw [hrep]; exact List.cons_ne_nil _ _), fun l hl => nomatch hl⟩
      · intro x hx; cases hx
      · intro x hx
        rw [hrep]
        exact hx
  | text a c =>
    simp only [Stage.new] at h
    injection h with h; subst h
    refine ⟨rfl, trivial, rfl, ?_⟩
    cases a with
    | append => exact ⟨[c], [], rfl, by simp [filterIns], by simp⟩
    | prepend => exact ⟨[c], [], rfl, by simp [filterIns], by simp⟩
    | replace => simp [isTextReplace] at hntr

theorem comp_edit (I R : List Bytes) : ∀ (rels : List StreamRel) (a b : Bytes),
    (∀ ρ ∈ rels, ∃ I' R', ρ = editRel I' R' ∧ (∀ v ∈ I', v ∈ I) ∧ (∀ v ∈ R', v ∈ R)) →
    Comp rels a b → Edit I R a b
  | [], a, b, _, h => by simp [Comp] at h; subst h; exact Edit.refl _
  | ρ :: ρs, a, c, hall, h => by
    obtain ⟨b, h1, h2⟩ := h
    obtain ⟨I', R', rfl, hI, hR⟩ := hall ρ (by simp)
    exact Edit.trans (Edit.mono hI hR h1) (comp_edit I R ρs b c (fun ρ' h' => hall ρ' (by simp [h'])) h2)

/-- Conservativity of a chain of freshly built stages (no codec stages), for any invariant `ES` of the stage list that
makes the error path safe and holds of the built stages: each stage relates its input to its output by an `Edit` with
the filter's own values, and the run is the composition of the stages' relations whether or not it fails on the way. -/
theorem conservative_of {tk : Tokenize} (hl : LosslessAll tk) (ev : Bytes → Bytes → Bool)
    {ES : List (Stage Unit Unit) → Prop} (hes : ErrSafe tk ev noCodec ES) (fs : List BodyFilter) (ct : Option String)
    (hntr : ∀ f ∈ fs, isTextReplace f = false) (hts : fs.flatMap filterRep ≠ [] → TagSpanS tk)
    (hES : ES (fs.filterMap fun f => Stage.new f ct)) (cs : List Bytes) :
    Edit (fs.flatMap filterIns) (fs.flatMap filterRep) cs.flatten
      (({ items := fs.filterMap fun f => Stage.new f ct } : Chain Unit Unit).run tk ev noCodec cs) := by
  have hspec : ∀ st ∈ fs.filterMap (fun f => (Stage.new f ct : Option (Stage Unit Unit))),
      isPlain st = true ∧ StOK tk st ∧ held st = [] ∧
      ∃ I R, stageRel st = editRel I R ∧ (∀ v ∈ I, v ∈ fs.flatMap filterIns) ∧ (∀ v ∈ R, v ∈ fs.flatMap filterRep) := by
    intro st h
    obtain ⟨f, hf, hnew⟩ := List.mem_filterMap.mp h
    have hts' : filterRep f ≠ [] → TagSpanS tk :=
      fun hne => hts fun hnil => hne (List.flatMap_eq_nil_iff.mp hnil f hf)
    obtain ⟨a, b, c, I, R, e1, e2, e3⟩ := stage_new_spec tk f ct st hts' (hntr f hf) hnew
    exact ⟨a, b, c, I, R, e1, fun v hv => List.mem_flatMap.mpr ⟨f, hf, e2 v hv⟩, fun v hv => List.mem_flatMap.mpr ⟨f, hf, e3 v hv⟩⟩
  have hci := ChainInv.init tk ES _ (fun st h => (hspec st h).1) (fun st h => (hspec st h).2.1) hES (fun st h => (hspec st h).2.2.1)
  refine comp_edit _ _ _ _ _ ?_ (Chain.run_comp hl ev noCodec hes _ _ hci cs)
  intro ρ hρ
  obtain ⟨st, hst', rfl⟩ := List.mem_map.mp hρ
  exact (hspec st hst').2.2.2

/-- **Conservativity of an uncompressed chain** (clauses "insert-only" and "replace" together), for the chain
`FilterBodyAction::new` builds when there is no `Content-Encoding` header, every chunking of arbitrary bytes, whether or
not the chain fails on invalid UTF-8 on the way (`filter` or `end`).
Hypotheses: no `replace_text` filter (it replaces the whole body by definition); at most one html filter
(`hone`: then only text stages stand behind it, `behind_text`); `TagSpanS` only if some replace filter is present. -/
theorem conservative {tk : Tokenize} (hl : LosslessAll tk) (ev : Bytes → Bytes → Bool) (lower : String → String)
    (fs : List BodyFilter) (headers : List (String × String))
    (henc : headerValue lower filterHeaderContentEncoding headers = none)
    (hntr : ∀ f ∈ fs, isTextReplace f = false)
    (hone : (fs.filter isHtmlFilter).length ≤ 1)
    (hts : fs.flatMap filterRep ≠ [] → TagSpanS tk)
    (cs : List Bytes) :
    Edit (fs.flatMap filterIns) (fs.flatMap filterRep) cs.flatten
      ((Chain.new noCodec lower fs headers).run tk ev noCodec cs) := by
  rw [new_plain noCodec lower fs headers henc]
  generalize headerValue lower filterHeaderContentType headers = ct
  refine conservative_of hl ev (errSafe_shapeP (behind_text tk ev noCodec)) fs ct hntr hts ?_ cs
  clear hts hntr
  induction fs with
  | nil => trivial
  | cons f fs ih =>
    rw [List.filterMap_cons]
    cases f with
    | text a c => exact ih hone
    | html a p s v =>
      -- the one html filter: the filters behind it are text filters and build text stages
      rw [List.filter_cons_of_pos rfl, List.length_cons] at hone
      have hnone : ∀ g ∈ fs, isHtmlFilter g = false := by
        intro g hg
        refine Bool.eq_false_iff.mpr fun hgt => ?_
        have : 0 < (fs.filter isHtmlFilter).length := List.length_pos_of_mem (List.mem_filter.mpr ⟨hg, hgt⟩)
        omega
      cases hnew : (Stage.new (.html a p s v) ct : Option (Stage Unit Unit)) with
      | none => exact ih (by omega)
      | some st =>
        obtain ⟨_, _, rfl⟩ := stage_new_html hnew
        refine ⟨trivial, fun st hst => ?_⟩
        obtain ⟨g, hg, hn⟩ := List.mem_filterMap.mp hst
        cases g with
        | text a c => cases hn; exact ⟨_, rfl⟩
        | html => cases hnone _ hg

/-- the configured value of a filter (a Rust `String`) -/
def filterValue : BodyFilter → Bytes
  | .html _ _ _ value => value
  | .text _ c => c

theorem eq_filterValue_of_mem_filterIns {f : BodyFilter} {x : Bytes} (h : x ∈ filterIns f) : x = filterValue f := by
  cases f with
  | html a p s v =>
    simp only [filterIns] at h
    split at h
    · exact List.mem_singleton.mp h
    · cases h
  | text a c =>
    cases a with
    | append => exact List.mem_singleton.mp h
    | prepend => exact List.mem_singleton.mp h
    | replace => cases h

theorem eq_filterValue_of_mem_filterRep {f : BodyFilter} {x : Bytes} (h : x ∈ filterRep f) : x = filterValue f := by
  cases f with
  | html a p s v =>
    simp only [filterRep] at h
    split at h
    · exact List.mem_singleton.mp h
    · cases h
  | text a c => cases h

theorem stage_new_down (f : BodyFilter) (ct : Option String) (st : Stage Unit Unit) (hval : V (filterValue f))
    (h : Stage.new f ct = some st) : DStage st := by
  cases f with
  | html action path sel value =>
    obtain ⟨v, hv, rfl⟩ := stage_new_html h
    obtain ⟨k, p, ps, rfl, rfl⟩ := visitor_new_shape hv
    exact ⟨⟨⟨hval, fun l hl => nomatch hl⟩, Or.inl rfl⟩, V_nil⟩
  | text a c =>
    simp only [Stage.new] at h
    injection h with h; subst h
    exact hval

theorem allPlain_of_down {items : List (Stage D E)} (hd : Down items) : AllPlain items := by
  intro st hst
  have := hd st hst
  cases st with
  | html _ => rfl
  | text _ => rfl
  | decode _ => exact this.elim
  | encode _ => exact this.elim

/-- **Conservativity of an uncompressed chain, any number of html filters.**  Same statement as `conservative`
without the restriction to one html filter, under the tokenizer laws `TokValidAll` (token boundaries are character
boundaries) and for values that are valid UTF-8 (they are Rust `String`s): then only the FIRST html stage can fail
inside a `filter` call — the later ones only ever see complete valid UTF-8 — and the stages before it are text stages,
which hold nothing. -/
theorem conservative_multi {tk : Tokenize} (hl : LosslessAll tk) (hv : TokValidAll tk) (ev : Bytes → Bytes → Bool)
    (lower : String → String) (fs : List BodyFilter) (headers : List (String × String))
    (henc : headerValue lower filterHeaderContentEncoding headers = none)
    (hntr : ∀ f ∈ fs, isTextReplace f = false)
    (hval : ∀ f ∈ fs, V (filterValue f))
    (hts : fs.flatMap filterRep ≠ [] → TagSpanS tk)
    (cs : List Bytes) :
    Edit (fs.flatMap filterIns) (fs.flatMap filterRep) cs.flatten
      ((Chain.new noCodec lower fs headers).run tk ev noCodec cs) := by
  rw [new_plain noCodec lower fs headers henc]
  refine conservative_of hl ev (errSafe_shape hl hv ev noCodec) fs _ hntr hts (shape_of_down _ fun st h => ?_) cs
  obtain ⟨f, hf, hnew⟩ := List.mem_filterMap.mp h
  exact stage_new_down f _ st (hval f hf) hnew

/-- Clause "insert-only filters yield exactly the input once the inserted values are removed": no substitution at all
(`R = []`). -/
theorem insert_only_conservative {tk : Tokenize} (hl : LosslessAll tk) (ev : Bytes → Bytes → Bool) (lower : String → String)
    (fs : List BodyFilter) (headers : List (String × String))
    (henc : headerValue lower filterHeaderContentEncoding headers = none)
    (hins : ∀ f ∈ fs, isTextReplace f = false ∧ filterRep f = [])
    (hone : (fs.filter isHtmlFilter).length ≤ 1)
    (cs : List Bytes) :
    Edit (fs.flatMap filterIns) [] cs.flatten ((Chain.new noCodec lower fs headers).run tk ev noCodec cs) := by
  have hrep : fs.flatMap filterRep = [] := by
    rw [List.flatMap_eq_nil_iff]; exact fun f hf => (hins f hf).2
  have := conservative hl ev lower fs headers henc (fun f hf => (hins f hf).1) hone (fun h => absurd hrep h) cs
  rw [hrep] at this
  exact this

/-- Corollary: insert-only filters never shorten the body. -/
theorem insert_only_length {tk : Tokenize} (hl : LosslessAll tk) (ev : Bytes → Bytes → Bool) (lower : String → String)
    (fs : List BodyFilter) (headers : List (String × String))
    (henc : headerValue lower filterHeaderContentEncoding headers = none)
    (hins : ∀ f ∈ fs, isTextReplace f = false ∧ filterRep f = [])
    (hone : (fs.filter isHtmlFilter).length ≤ 1)
    (cs : List Bytes) :
    cs.flatten.length ≤ ((Chain.new noCodec lower fs headers).run tk ev noCodec cs).length :=
  (insert_only_conservative hl ev lower fs headers henc hins hone cs).length_le

/-- Clause "a replace filter only substitutes whole spans", weak form (`<`…`>` byte spans; element spans: `RScript`,
Props/C04strong.lean): a single html stage call, of any kind, relates `held ++ input` to `output ++ held'` by `Edit` — the
core invariant "emitted ++ buffered ++ held ++ rest is conservative w.r.t. the input consumed so far" (`conservative` is
its closure over chunks) — and a replace stage keeps `HInv`. -/
theorem replace_spans {tk : Tokenize} (hl : LosslessAll tk) (hts : TagSpanS tk) (ev : Bytes → Bytes → Bool)
    (s s' : HtmlSt) (x o : Bytes) (hinv : HInv s.stack)
    (h : filterHtml tk ev s x = some (s', o)) :
    Edit (visIns s.visitor) (visRep s.visitor) (endHtml s ++ x) (o ++ endHtml s') ∧ HInv s'.stack ∨
    Edit (visIns s.visitor) (visRep s.visitor) (endHtml s ++ x) (o ++ endHtml s') ∧ s.visitor.kind ≠ .replace := by
  obtain ⟨_, h2, h3⟩ := filterHtml_spec hl ev s s' x o (fun _ => hts) (fun _ => hinv) h
  by_cases hk : s.visitor.kind = .replace
  · exact Or.inl ⟨h3, h2 hk⟩
  · exact Or.inr ⟨h3, hk⟩

/-- C16's `lossless` on the level of the filters (proved in Proofs/FilterTok.lean from the tokenizer's invariant). -/
theorem tokenizer_lossless : LosslessAll htmlTokenize := htmlTokenize_losslessAll

/-- **Insert-only filters on the real tokenizer model — no tokenizer hypothesis left.** -/
theorem insert_only_conservative_concrete (ev : Bytes → Bytes → Bool) (lower : String → String)
    (fs : List BodyFilter) (headers : List (String × String))
    (henc : headerValue lower filterHeaderContentEncoding headers = none)
    (hins : ∀ f ∈ fs, isTextReplace f = false ∧ filterRep f = [])
    (hone : (fs.filter isHtmlFilter).length ≤ 1)
    (cs : List Bytes) :
    Edit (fs.flatMap filterIns) [] cs.flatten ((Chain.new noCodec lower fs headers).run htmlTokenize ev noCodec cs) :=
  insert_only_conservative htmlTokenize_losslessAll ev lower fs headers henc hins hone cs

/-- The general statement on the real tokenizer model: only `TagSpanS` remains (and only if a replace filter is
present). -/
theorem conservative_concrete (ev : Bytes → Bytes → Bool) (lower : String → String)
    (fs : List BodyFilter) (headers : List (String × String))
    (henc : headerValue lower filterHeaderContentEncoding headers = none)
    (hntr : ∀ f ∈ fs, isTextReplace f = false)
    (hone : (fs.filter isHtmlFilter).length ≤ 1)
    (hts : fs.flatMap filterRep ≠ [] → TagSpanS htmlTokenize)
    (cs : List Bytes) :
    Edit (fs.flatMap filterIns) (fs.flatMap filterRep) cs.flatten
      ((Chain.new noCodec lower fs headers).run htmlTokenize ev noCodec cs) :=
  conservative htmlTokenize_losslessAll ev lower fs headers henc hntr hone hts cs

/-- a toy tokenizer satisfying `LosslessAll`: no token, everything held -/
def holdAll : Tokenize := { plain := fun d => ([], d), stream := fun c d => ([], d, c) }

theorem holdAll_lossless : LosslessAll holdAll :=
  ⟨by intro d; simp [holdAll, rawsOf], by intro c d; simp [holdAll, rawsOf, toksOf]⟩

/-- The hypotheses of `conservative` are satisfiable on a non-trivial filter list (an html append filter and two text
filters), and the conclusion then speaks about a real run. -/
example (cs : List Bytes) :
    Edit ([[86], [84], [85]]) [] cs.flatten
      ((Chain.new noCodec id
          [.html "append_child" [[112]] none [86], .text .append [84], .text .prepend [85]] []).run holdAll (fun _ _ => false) noCodec cs) := by
  have := insert_only_conservative holdAll_lossless (fun _ _ => false) id
    [.html "append_child" [[112]] none [86], .text .append [84], .text .prepend [85]] [] rfl
    (by intro f hf; simp at hf; rcases hf with rfl | rfl | rfl <;> simp [isTextReplace, filterRep, filterActionReplace])
    (by simp [isHtmlFilter, List.filter]) cs
  simpa [filterIns, filterActionAppend, filterActionPrepend] using this

end Rio.C04
