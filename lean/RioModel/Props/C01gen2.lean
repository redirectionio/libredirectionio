/-
C01 (rule matching is exact) — `match_request` of the two CONDITION-GROUP layers (HeaderMatcher, DateTimeMatcher) with their
per-request memo `execute_conditions`, REGENERATED FROM THE SOURCE.

`Rio.Consts.genHeaderMatchRequest` / `genDateTimeMatchRequest` (and their `Loop1` = the `'group` loop, `Loop2` = the loop
over one group's conditions with the labelled `continue 'group`) are translated on every run from
src/router/request_matcher/header.rs / datetime.rs (tools/consts.d/tr_w15_memo.py → section `tr_w15_memo`).  Abstract in the
translation: the next layer's `match_request(request)` (`next`), the condition evaluation (`matchValue` =
`ValueCondition::match_value` / `DateTimeCondition::match_value`), the two field reads of a `HeaderCondition`, and the memo
itself (`BTreeMap::new` / `get` / `insert`).  Proofs/RouterMemoGen.lean shows: for EVERY implementation of the memo that
simulates an association list (`MemoImpl`; the model's own consing list and an overwrite-in-place map are two), every next
layer, every layer state and every request, the translated functions are the router model's `DateTime.matchReq` / `Header.matchReq`.
Here: that equality, the tower in which SIX layers run the translated `match_request`, `match_exact` and `memo_exact`
restated for the translated code.  A source change that alters the memo discipline (a result stored under the wrong
condition, a dropped / inverted `continue 'group`, the memo consulted after instead of before, a group's routes added before
its conditions are checked) breaks a proof here, not only the correspondence.
-/
import RioModel.Props.C01
import RioModel.Proofs.RouterMemoGen

namespace Rio.C01
open Rio.Consts Rio.Router Rio.RouterMemoGen

/-- the translated `match_request` of both layers is the model's on EVERY layer state, whatever implements the memo: no
representation hypothesis -/
theorem gen_memo_match_eq_model {σd σh : Type} (I : MOps) (E : Env) (Md : MemoImpl σd DCond) (Mh : MemoImpl σh HCond)
    (sd : LState I (List DCond)) (sh : LState I (List HCond)) (q : Req) :
    genDateTimeMatch I Md sd q = DateTime.matchReq I sd q ∧ genHeaderMatch I E Mh sh q = Header.matchReq E I sh q :=
  ⟨genDateTimeMatch_eq I Md sd q, genHeaderMatch_eq I E Mh sh q⟩

/-- one loop down: from every memo state `s` simulating `l`, `Loop2` over one group's conditions is `evalGroup` (its
`false` is the `continue 'group`) and leaves a memo simulating `evalGroup`'s -/
theorem gen_memo_group_eq_model {σ C ρ μ ν χ : Type} [DecidableEq C] (M : MemoImpl σ C) (next : μ → List ρ)
    (ev : C → Bool) (condOf : C → χ) (nameOf : C → ν) (mv : χ → ν → Bool) (cs : List C) (s : σ) (l : List (C × Bool))
    (h : M.R s l) :
    ((genDateTimeMatchRequestLoop2 next M.new M.get M.insert ev cs s).1 = (evalGroup ev cs l).1 ∧
      M.R (genDateTimeMatchRequestLoop2 next M.new M.get M.insert ev cs s).2 (evalGroup ev cs l).2) ∧
    ((genHeaderMatchRequestLoop2 next M.new M.get M.insert condOf nameOf mv cs s).1 =
        (evalGroup (fun c => mv (condOf c) (nameOf c)) cs l).1 ∧
      M.R (genHeaderMatchRequestLoop2 next M.new M.get M.insert condOf nameOf mv cs s).2
        (evalGroup (fun c => mv (condOf c) (nameOf c)) cs l).2) :=
  ⟨dtMatchLoop2_eq M next ev cs s l h, hdMatchLoop2_eq M next condOf nameOf mv cs s l h⟩

/-- the hypothesis `MemoImpl` is not vacuous -/
example : MemoImpl (List (Nat × Bool)) Nat := MemoImpl.assoc Nat
example : MemoImpl (List (Nat × Bool)) Nat := MemoImpl.inPlace Nat

theorem gen_tower2_eq_model {σd σh : Type} (E : Env) (Md : MemoImpl σd DCond) (Mh : MemoImpl σh HCond) :
    towerOpsGen2 E Md Mh = towerOps E := towerOpsGen2_eq E Md Mh

/-- **C01 main statement for the router whose scheme / host / ip / method / header / date-time `match_request` are the
regenerated code** (any memo implementations). -/
theorem match_exact_gen2 {σd σh : Type} (E : Env) (Md : MemoImpl σd DCond) (Mh : MemoImpl σh HCond) (R : List Route)
    (hR : NodupIds R) (q : Req) :
    ((RouterG.matchReq (towerOpsGen2 E Md Mh) (RouterG.build (towerOpsGen2 E Md Mh) R) q).map (·.id)).Nodup ∧
    ∀ r, r ∈ RouterG.matchReq (towerOpsGen2 E Md Mh) (RouterG.build (towerOpsGen2 E Md Mh) R) q ↔
      r ∈ R ∧ sat E R r q = true := by
  rw [towerOpsGen2_eq]
  exact match_exact E R hR q

open Rio.Tree in
/-- **C01 over the real trees, translated layers** (`match_exact_tree` for the tower whose scheme / ip / method / header /
date-time `match_request` are the regenerated code; the two regex-tree layers are the radix-tree model, C08). -/
theorem match_exact_tree_gen2 {σd σh : Type} (T : TEnv) (Md : MemoImpl σd DCond) (Mh : MemoImpl σh HCond)
    (Good : List Char → Prop) (hPS : PrefixSound T.engine Good)
    (R : List Route) (hR : NodupIds R) (hW : ∀ r ∈ R, TreeGood T Good r) (q : Req) :
    ((RouterG.matchReq (towerTOpsGen2 T Md Mh) (RouterG.build (towerTOpsGen2 T Md Mh) R) q).map (·.id)).Nodup ∧
    ∀ r, r ∈ RouterG.matchReq (towerTOpsGen2 T Md Mh) (RouterG.build (towerTOpsGen2 T Md Mh) R) q ↔
      r ∈ R ∧ sat T.env R r q = true := by
  rw [towerTOpsGen2_eq]
  exact match_exact_tree T Good hPS R hR hW q

/-- **`memo_exact` for the translated code** (both layers): the early `continue 'group` never skips a matching group, a
memoised result never changes a verdict. -/
theorem memo_exact_gen {σ C ρ μ ν χ : Type} [DecidableEq C] (M : MemoImpl σ C) (next : μ → List ρ)
    (ev : C → Bool) (condOf : C → χ) (nameOf : C → ν) (mv : χ → ν → Bool) (cs : List C) (s : σ) (l : List (C × Bool))
    (h : M.R s l) :
    (MemoSound ev l →
      (genDateTimeMatchRequestLoop2 next M.new M.get M.insert ev cs s).1 = cs.all ev ∧
      ∃ l', M.R (genDateTimeMatchRequestLoop2 next M.new M.get M.insert ev cs s).2 l' ∧ MemoSound ev l') ∧
    (MemoSound (fun c => mv (condOf c) (nameOf c)) l →
      (genHeaderMatchRequestLoop2 next M.new M.get M.insert condOf nameOf mv cs s).1 =
        cs.all (fun c => mv (condOf c) (nameOf c)) ∧
      ∃ l', M.R (genHeaderMatchRequestLoop2 next M.new M.get M.insert condOf nameOf mv cs s).2 l' ∧
        MemoSound (fun c => mv (condOf c) (nameOf c)) l') := by
  constructor
  · intro hs
    have e := dtMatchLoop2_eq M next ev cs s l h
    have sp := memo_exact ev cs l hs
    exact ⟨e.1.trans sp.1, _, e.2, sp.2⟩
  · intro hs
    have e := hdMatchLoop2_eq M next condOf nameOf mv cs s l h
    have sp := memo_exact (fun c => mv (condOf c) (nameOf c)) cs l hs
    exact ⟨e.1.trans sp.1, _, e.2, sp.2⟩

/-- non-vacuity of `memo_exact_gen`: the memo a request starts with (`BTreeMap::new()`) simulates the empty, sound memo -/
example {σ C : Type} [DecidableEq C] (M : MemoImpl σ C) (ev : C → Bool) : M.R M.new [] ∧ MemoSound ev [] :=
  ⟨M.r_new, memoSound_nil ev⟩

/-- **The memo is invisible in the result**: closed form of the two translated `match_request`s. -/
theorem memo_layers_closed_form_gen {σd σh : Type} (I : MOps) (E : Env) (Md : MemoImpl σd DCond) (Mh : MemoImpl σh HCond)
    (sd : LState I (List DCond)) (sh : LState I (List HCond)) (q : Req) :
    genDateTimeMatch I Md sd q =
      I.matchReq sd.any q ++ sd.map.flatMap (fun g => if g.1.all (fun c => DCond.eval c q) then I.matchReq g.2 q else []) ∧
    genHeaderMatch I E Mh sh q =
      I.matchReq sh.any q ++
        sh.map.flatMap (fun g => if g.1.all (fun c => HCond.eval E c q) then I.matchReq g.2 q else []) := by
  constructor
  · rw [genDateTimeMatch_eq]
    exact groupMatch_eq DCond.eval sd q
  · rw [genHeaderMatch_eq]
    exact groupMatch_eq (HCond.eval E) sh q

/-! Evaluated examples on the translated code (conditions are numbers, `even` is the evaluation, a bucket `m` answers `[m]`;
the memo is the in-place map).  Group `[2, 3]` is rejected at 3, group `[3, 4]` is rejected by the MEMOISED 3 without
evaluating 4, group `[2, 4]` is accepted with 2 memoised; the memo afterwards holds 2 ↦ true, 3 ↦ false, 4 ↦ true. -/

example :
    genDateTimeMatchRequest (fun m : Nat => [m]) (MemoImpl.inPlace Nat).new (MemoImpl.inPlace Nat).get
      (MemoImpl.inPlace Nat).insert (fun c => c % 2 == 0) 0 [([2, 3], 1), ([3, 4], 2), ([2, 4], 3), ([], 4)] = [0, 3, 4] := by
  decide

example :
    (genDateTimeMatchRequestLoop1 (fun m : Nat => [m]) (MemoImpl.inPlace Nat).new (MemoImpl.inPlace Nat).get
      (MemoImpl.inPlace Nat).insert (fun c => c % 2 == 0) [([2, 3], 1), ([3, 4], 2), ([2, 4], 3)] [] []).2 =
      [(2, true), (3, false), (4, true)] := by
  decide

example :
    genHeaderMatchRequest (fun m : Nat => [m]) (MemoImpl.assoc (Nat × Nat)).new (MemoImpl.assoc (Nat × Nat)).get
      (MemoImpl.assoc (Nat × Nat)).insert Prod.snd Prod.fst (fun k n => (k + n) % 2 == 0) 7
      [([(1, 1), (1, 2)], 1), ([(1, 1)], 2)] = [7, 2] := by
  decide

end Rio.C01
