/-
C19 (translated tie) — the impact entry points of src/api/impact.rs TRANSLATED from the source on every run
(tools/consts.d/w9_tr_w28_impact.py → `Rio.Consts.genFromImpactProject`, `genImpactCreateResult`, `genComputeImpactsHead`)
are the hand-written model of Model/LoopAnalysis.lean (`impactProject`, `impactStandalone`, `impactOn`), for EVERY router
algebra and pipeline; and `impact_project_equals_standalone` for the translated entry points.

What is translated: which router the draft rule is removed from (`impact_router`, i.e. the existing router AFTER
`update_existing_router`, unconditionally), the trace-unique router (`from_arc_config(existing_router.config)`, resp.
`from_config(router_config)`), the `for rule in rules` loop of `create_result` with its `continue` on the id of the analysed
rule, the argument order of the call of `compute_impacts`, and the first statement of `compute_impacts` (insertion of the
analysed rule into BOTH routers iff the action is "add" or "update").
Abstract (parameters of the translated definitions, instantiated here with `Alg` / `Pipe`): the router operations,
`RuleChangeSet::update_existing_router` (= `Alg.update`), the field accessors, and the loop of `compute_impacts` after its
first statement (= the hand-written `computeImpacts`; the plugin checks that this rest can see neither `rule` nor the
parameter `action`).  No panicking operation occurs in the translated statements (no index, cast, unwrap, subtraction).
-/
import RioModel.Proofs.ImpactGen
import RioModel.Props.C19b

namespace Rio.C19
open Rio.Analysis Rio.Loop

section
variable {St Rule Req Cfg Tr C Ex Id UId UT Core U M Dom : Type}
variable [DecidableEq Id] [DecidableEq U] [DecidableEq M]
variable {P : Pipe Rule Req Cfg Ex Id UId UT Core U M Dom} {canon : Tr → C}
variable {A : Alg St Rule Req Cfg Tr Id}

omit [DecidableEq Id] in
/-- translated `compute_impacts` (translated head + hand-written loop) = the model's `impactOn`. -/
theorem gen_compute_impacts_eq_model (router traceRouter : St) (I : ImpactSpec Rule Dom) :
    genComputeImpacts A P router traceRouter (P.examples I.rule) I.withLoop I.maxHops I.action I.rule I.domains =
      impactOn A P router traceRouter I :=
  genComputeImpacts_eq A P router traceRouter I

/-- **translated `from_impact_project` = `impactProject`**. -/
theorem gen_impact_project_eq_model (D : ChangeSet Rule Id) (I : ImpactSpec Rule Dom) (base : St) :
    genImpactProject A P D I base = impactProject A P D I base :=
  genImpactProject_eq A P D I base

/-- **translated `create_result` = `impactStandalone`**. -/
theorem gen_impact_standalone_eq_model (c : Cfg) (rules : List Rule) (I : ImpactSpec Rule Dom) :
    genImpactStandalone A P c rules I = impactStandalone A P c rules I :=
  genImpactStandalone_eq A P c rules I

/-- The translated `from_impact_project` removes the analysed rule from the UPDATED router whatever the action and
whatever the published router knows (a conditional removal: seeded/c06-4, seeded/r9a-3), and builds the trace-unique router from
the config of the EXISTING router: the translated text, unfolded. -/
theorem gen_impact_project_removes_unconditionally (D : ChangeSet Rule Id) (I : ImpactSpec Rule Dom) (base : St) :
    genImpactProject A P D I base =
      genComputeImpacts A P (A.remove (P.ruleId I.rule) (A.applyChangeSet D.added D.updated D.deleted base))
        (A.empty (A.view base).config) (P.examples I.rule) I.withLoop I.maxHops I.action I.rule I.domains :=
  rfl

/-- **`impact_project_equals_standalone` for the TRANSLATED entry points**: translated `from_impact_project` on the
existing router and translated `create_result` on the rule list of the project after the change-set give the same list of
impacts (traces through `canon`); hypotheses as in `impact_project_equals_standalone`. -/
theorem gen_impact_project_equals_standalone (W : AlgLaws A P.ruleId canon) (hI : PermInv P) (base : St) (c : Cfg)
    (B : List Rule) (D : ChangeSet Rule Id) (rules : List Rule) (hb : W.Repr base c B)
    (hv : ValidChangeSet P.ruleId D B) (hn : NodupIds P.ruleId rules)
    (hr : ∀ x, x ∈ rules ↔ x ∈ D.live P.ruleId B) (I : ImpactSpec Rule Dom) :
    (genImpactProject A P D I base).map (Impact.project canon) =
      (genImpactStandalone A P c rules I).map (Impact.project canon) := by
  rw [genImpactProject_eq, genImpactStandalone_eq]
  exact impact_project_equals_standalone W hI base c B D rules hb hv hn hr I

end

/-! ### Non-vacuity (the tiny world of Props/C19b.lean) -/

/-- what the tiny pipeline reports for an impact: the ids among 1..3 of the matched rules (`none` for an error record) -/
def xImpactIds : Impact Nat (List Nat × Option Nat) (List XRule) Nat Nat → Option (List Nat)
  | .err _ _ => none
  | .ok _ core _ _ => some core.1

/-- the translated entry points run, and are not trivial: draft rule `xB'` (an update of rule 2), project = base `[xA, xB]`
with `xC` added; both sides report the one example of `xB'` (url 20) as answered by rule 2 only (the previous version `xB`
removed, resp. skipped by the `continue`; the new one inserted by the translated head of `compute_impacts`). -/
example :
    let D : ChangeSet XRule Nat := ⟨[xC], [], []⟩
    let I : ImpactSpec XRule Unit := ⟨xB', "update", true, 5, ()⟩
    (genImpactProject xAlg xPipe D I (xAlg.build () [xA, xB])).map xImpactIds = [some [2]] ∧
    (genImpactStandalone xAlg xPipe () [xA, xB, xC] I).map xImpactIds = [some [2]] := by
  decide +kernel

/-- the action matters: with an action other than "add" / "update" the analysed rule is NOT inserted (translated head) -/
example :
    (genComputeImpacts xAlg xPipe (xAlg.build () [xA]) (xAlg.empty ()) (some [20, 0]) false 5 "delete" xB' ()).map xImpactIds
      = [some [], none] ∧
    (genComputeImpacts xAlg xPipe (xAlg.build () [xA]) (xAlg.empty ()) (some [20, 0]) false 5 "update" xB' ()).map xImpactIds
      = [some [2], none] := by
  decide +kernel

end Rio.C19
