/-
C05 (the action computed from the matched rules) — the use-time decision functions REGENERATED FROM THE SOURCE.

`Rio.Consts.genActionGetStatusCode`, `genActionGetFinalStatusCode`, `genActionShouldLogRequest` are translated on
every run from `Action::get_status_code`, `get_final_status_code_with_fallback`, `should_log_request` of
src/action/mod.rs (tools/consts.d/w4_translate_action.py, section `w4_translate_action`); Proofs/ActionGen.lean wraps them
as observers of the model action (`genGetStatusCode`, `genGetFinal`, `genShouldLogRequest`: sub-rule decision =
the model's `StatusCodeUpdate.getStatusCode` / `getLogOverrideFull`, which are the translations
`statusGetStatusCode` / `logGetLogOverride`; `LinkedHashSet::insert` = `lhsInsert`) and proves them equal to the
hand-written observers.  Here the closed forms of C05 for the status code, the final status code with fallback and
the logging decision are restated for the translated code — so a source change in the `match` / `if` ladder of
these three functions (a dropped insertion into `rules_applied`, `unwrap_or` of the wrong default, `&&` → `||` in
the request-time fallback, the two results swapped) breaks a proof, not only the correspondence.  Not covered by
the translation: the unit-trace blocks (skipped when they have exactly the known shape).  The same is done for `Action::merge`
and the loop of `Action::from_routes_rule` (`genMerge`, `genFromRoutesRule`), with `action_eq_spec` restated, and for
the selection loops (with `continue`) of `filter_headers` and the whole of `create_filter_body`; NOT translated there: the
tail of `filter_headers` (`FilterHeaderAction::new(..).filter(..)`, the `X-RedirectionIo-RuleIds` header; C13 / C05
`filter_headers_end_to_end` cover it on the model) — only its SHAPE is checked, fail closed, when the section is generated
(`filters` handed unchanged to `FilterHeaderAction::new`, no further write to `filters` / `rules_applied`,
`get_applied_rule_ids()` = `&self.rules_applied`).
-/
import RioModel.Props.C05
import RioModel.Proofs.ActionGen

namespace Rio.C05
open Rio.Action Rio.Action.Spec Rio.ActionGen

/-- The three translated decision functions, wrapped as observers of the model action, are the hand-written
`getStatusCode`, `getFinalStatusCodeWithFallback`, `shouldLogRequest`. -/
theorem gen_observers_eq_model (a : Action) (allow : Bool) (c fb : Nat) :
    genGetStatusCode a c = a.getStatusCode c ∧
    genGetFinal a c fb = a.getFinalStatusCodeWithFallback c fb ∧
    genShouldLogRequest a allow c = a.shouldLogRequest allow c :=
  ⟨genGetStatusCode_eq a c, genGetFinal_eq a c fb, genShouldLogRequest_eq a allow c⟩

/-- **`status_closed_form` for the regenerated code**: the translated `get_status_code(c)` on the computed action returns
`statusAt C c` and inserts into `rules_applied` the rule that value is attributed to. -/
theorem status_closed_form_gen (R : List Rule) (q : Req) (draw : Rule → Nat) (c : Nat) :
    let C := contributing q draw (sortRules R)
    (genGetStatusCode (fromRoutesRule R q draw) c).1 = (statusAt C c).1 ∧
    (genGetStatusCode (fromRoutesRule R q draw) c).2.rulesApplied = (statusAt C c).2.toList := by
  rw [genGetStatusCode_eq]
  exact status_closed_form R q draw c

/-- **The final status code with fallback, for the regenerated code**: at request time (`c = 0`) with no status of
its own, the action is asked again with the fallback code `fb`; the applied ids are those of both calls. -/
theorem final_status_closed_form_gen (R : List Rule) (q : Req) (draw : Rule → Nat) (c fb : Nat) :
    let C := contributing q draw (sortRules R)
    genGetFinal (fromRoutesRule R q draw) c fb =
      if (c == 0 && (statusAt C c).1 == 0) = true then
        (((statusAt C fb).1, fb),
          withApplied (Spec.action q C) (lhsInsertOpt (lhsInsertOpt [] (statusAt C c).2) (statusAt C fb).2))
      else (((statusAt C c).1, c), withApplied (Spec.action q C) (lhsInsertOpt [] (statusAt C c).2)) := by
  intro C
  have e : fromRoutesRule R q draw = withApplied (Spec.action q C) [] := action_eq_withApplied R q draw
  rw [genGetFinal_eq, e]
  exact getFinal_spec q C [] c fb

/-- **`log_closed_form` for the regenerated code.** -/
theorem log_closed_form_gen (R : List Rule) (q : Req) (draw : Rule → Nat) (allowLog : Bool) (c : Nat) :
    let C := contributing q draw (sortRules R)
    (genShouldLogRequest (fromRoutesRule R q draw) allowLog c).1 = (logAt C c).1.getD allowLog ∧
    (genShouldLogRequest (fromRoutesRule R q draw) allowLog c).2.rulesApplied = (logAt C c).2.toList := by
  rw [genShouldLogRequest_eq]
  exact log_closed_form R q draw allowLog c

/-! ### `Action::merge` and the loop of `Action::from_routes_rule`, regenerated (section `w4_translate_merge`) -/

/-- the translated `merge` (on structures generated from the Rust struct definitions) is the modelled one -/
theorem gen_merge_eq_model (self other : Action) : genMerge self other = self.merge other :=
  genMerge_eq self other

/-- the translated `from_routes_rule` — `routes.sort()` as the model's sort, the translated loop with its early
`return` on `stop`, the translated `merge` — is the modelled one -/
theorem gen_from_routes_rule_eq_model (R : List Rule) (q : Req) (draw : Rule → Nat) :
    Rio.Consts.genFromRoutesRule (frr q draw) genMerge Action.empty sortRules R = fromRoutesRule R q draw :=
  genFromRoutesRule_eq sortRules R q draw

/-- **`action_eq_spec` for the regenerated code**: what the translated loop and `merge` compute from the matched rules is
the field-by-field specification over the contributing rules. -/
theorem action_eq_spec_gen (R : List Rule) (q : Req) (draw : Rule → Nat) :
    Rio.Consts.genFromRoutesRule (frr q draw) genMerge Action.empty sortRules R =
      Spec.action q (contributing q draw (sortRules R)) := by
  rw [gen_from_routes_rule_eq_model]
  exact action_eq_spec R q draw

/-- `observations_mixed_codes` for the regenerated loop -/
theorem observations_gen (R : List Rule) (q : Req) (draw : Rule → Nat) (allowLog : Bool) (ops : List (Op × Nat)) :
    runOpsC allowLog (Rio.Consts.genFromRoutesRule (frr q draw) genMerge Action.empty sortRules R) ops =
      Spec.observeC q (contributing q draw (sortRules R)) allowLog [] ops := by
  rw [gen_from_routes_rule_eq_model]
  exact observations_mixed_codes R q draw allowLog ops

/-! ### the selection loops of `filter_headers` / `create_filter_body`, regenerated (section `w4_translate_select`) -/

/-- For `filter_headers` the left-hand side is (the vector `filters`, `rules_applied`) AFTER THE TWO LOOPS; that the rest of
the function hands exactly this vector to `FilterHeaderAction::new` and does not touch `rules_applied` again is a
fail-closed SHAPE CHECK of the extractor (tools/consts.d/w4_translate.py `_check_filter_headers_tail`), not a
translation. -/
theorem gen_selection_eq_model {κ : Type} (newBody : List BodyFilter → κ) (isEmptyBody : κ → Bool)
    (a : Action) (c : Nat) (add : Bool) :
    Rio.Consts.genActionSelectHeaderFilters lhsInsert c (a.ruleTraces.map toGenTrace) (a.headerFilters.map toGenHF)
        a.rulesApplied = ((a.filterHeaders c add).filters, (a.filterHeaders c add).action.rulesApplied) ∧
    Rio.Consts.genActionCreateFilterBody lhsInsert c newBody isEmptyBody (a.bodyFilters.map toGenBF) a.rulesApplied =
      ((if isEmptyBody (newBody (a.createFilterBody c).1) then none else some (newBody (a.createFilterBody c).1)),
       (a.createFilterBody c).2.rulesApplied) :=
  ⟨genSelectHeaderFilters_eq a c add, genCreateFilterBody_eq newBody isEmptyBody a c⟩

/-- **Header-filter selection, closed form, for the regenerated loops** (`filters` and `rules_applied` AFTER THE TWO LOOPS,
see `gen_selection_eq_model`). -/
theorem header_selection_closed_form_gen (R : List Rule) (q : Req) (draw : Rule → Nat) (c : Nat) :
    let C := contributing q draw (sortRules R)
    let a := fromRoutesRule R q draw
    Rio.Consts.genActionSelectHeaderFilters lhsInsert c (a.ruleTraces.map toGenTrace) (a.headerFilters.map toGenHF)
        a.rulesApplied = (headerFiltersAt q C c, (insertedBy q C c .headers).foldl lhsInsert []) := by
  intro C a
  rw [genSelectHeaderFilters_eq a c true]
  have e : a = withApplied (Spec.action q C) [] := action_eq_withApplied R q draw
  rw [e, filterHeaders_spec]
  rfl

/-- **Body-filter selection, closed form, for the regenerated `create_filter_body`.** -/
theorem body_selection_closed_form_gen {κ : Type} (newBody : List BodyFilter → κ) (isEmptyBody : κ → Bool)
    (R : List Rule) (q : Req) (draw : Rule → Nat) (c : Nat) :
    let C := contributing q draw (sortRules R)
    let a := fromRoutesRule R q draw
    Rio.Consts.genActionCreateFilterBody lhsInsert c newBody isEmptyBody (a.bodyFilters.map toGenBF) a.rulesApplied =
      ((if isEmptyBody (newBody (bodyFiltersAt C c)) then none else some (newBody (bodyFiltersAt C c))),
       (insertedBy q C c .body).foldl lhsInsert []) := by
  intro C a
  rw [genCreateFilterBody_eq newBody isEmptyBody a c]
  have e : a = withApplied (Spec.action q C) [] := action_eq_withApplied R q draw
  rw [e, createFilterBody_spec]
  rfl

-- status 410 on a 404 (rule `[98]`) with the fallback 301 (rule `[97]`), log override `false` on a 404 with the fallback `true`;
-- below: no status at request time, 410 on a 404, asked again with the fallback code 500 the fallback 301, the two log decisions
private def exA : Action :=
  { Action.empty with
    statusCodeUpdate := some ⟨410, [404], false, 301, some [98], some [97], none, none⟩
    logOverride := some ⟨false, some [98], [404], false, some true, some [97], none⟩ }

example :
    (genGetStatusCode exA 0).1 = 0 ∧ (genGetStatusCode exA 404) = (410, { exA with rulesApplied := [[98]] }) ∧
    (genGetFinal exA 0 500).1 = (301, 500) ∧ (genGetFinal exA 0 500).2.rulesApplied = [[97]] ∧
    (genShouldLogRequest exA true 404).1 = false ∧ (genShouldLogRequest exA false 200).1 = true := by
  decide +kernel

end Rio.C05
