/-
C03 (text filters) for the text body filter REGENERATED FROM THE SOURCE.

`Rio.Consts.genTextFilterReplace / Append / Prepend` and `genTextEnd` are translated on every run from
`TextFilterBodyAction::filter` (one definition per arm of `match self.action`) and `::end` of
src/filter/text_filter_body.rs (tools/consts.d/w4_translate_text.py).  `Chain.runG` (Proofs/TextGen.lean) is
the model's chain with every text stage running that translated code.  The theorems of Props/C03.lean about text
filters are restated for it, so a source change that alters the behaviour of the text filter breaks a
proof (not only the correspondence).
-/
import RioModel.Props.C03
import RioModel.Proofs.TextGen

namespace Rio.C03
open Rio.Filter

variable {D E : Type}

theorem gen_text_filter_eq_model (s : TextSt) (data : Bytes) : genFilterText s data = filterText s data :=
  genFilterText_eq s data

theorem gen_text_end_eq_model (s : TextSt) : genEndText s = endText s := genEndText_eq s

theorem gen_run_eq_model (tk : Tokenize) (ev : Bytes → Bytes → Bool) (codec : Codec D E) (ch : Chain D E)
    (cs : List Bytes) : ch.runG tk ev codec cs = ch.run tk ev codec cs :=
  Chain.runG_eq tk ev codec ch cs

/-- **Text filters are invariant under chunking, for the regenerated code** (no hypothesis on the bytes or on the
cuts). -/
theorem text_chunk_invariant_gen (tk : Tokenize) (ev : Bytes → Bytes → Bool) (codec : Codec D E)
    (ch : Chain D E) (hall : AllText ch.items) (herr : ch.inError = false) (cs : List Bytes) :
    ch.runG tk ev codec cs = ch.runG tk ev codec [cs.flatten] := by
  rw [gen_run_eq_model, gen_run_eq_model]
  exact text_chunk_invariant tk ev codec ch hall herr cs

theorem text_closed_form_gen (tk : Tokenize) (ev : Bytes → Bytes → Bool) (codec : Codec D E)
    (ch : Chain D E) (hall : AllText ch.items) (herr : ch.inError = false) (cs : List Bytes) :
    ch.runG tk ev codec cs = textTotal ch.items cs.flatten := by
  rw [gen_run_eq_model]
  exact text_closed_form tk ev codec ch hall herr cs

/-- the state machine over `executed`, read off the translated code: `filter` emits the content at most
once (`Replace`, `Prepend`), `end` emits it iff no call did (`Append` always, the others only on an
empty stream) -/
theorem gen_text_once (content data : Bytes) :
    Rio.Consts.genTextFilterReplace content false data = (true, content) ∧
    Rio.Consts.genTextFilterReplace content true data = (true, []) ∧
    Rio.Consts.genTextFilterPrepend content false data = (true, content ++ data) ∧
    Rio.Consts.genTextFilterPrepend content true data = (true, data) ∧
    (∀ e, Rio.Consts.genTextFilterAppend content e data = (e, data)) ∧
    Rio.Consts.genTextEnd content false = (true, content) ∧
    Rio.Consts.genTextEnd content true = (true, []) := by
  simp [Rio.Consts.genTextFilterReplace, Rio.Consts.genTextFilterPrepend,
    Rio.Consts.genTextFilterAppend, Rio.Consts.genTextEnd]

/-! ### Non-vacuity of the hypotheses: a chain replace → prepend → append -/

example :
    let ch : Chain Unit Unit :=
      { items := [.text ⟨.replace, [1], false⟩, .text ⟨.prepend, [2], false⟩, .text ⟨.append, [3], false⟩] }
    AllText ch.items ∧ ch.inError = false := by
  intro ch
  refine ⟨?_, rfl⟩
  intro st hst
  simp only [ch, List.mem_cons, List.mem_nil_iff, or_false] at hst
  rcases hst with rfl | rfl | rfl <;> exact ⟨_, rfl⟩

end Rio.C03
