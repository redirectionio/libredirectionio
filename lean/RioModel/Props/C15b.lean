/-
C15 (second module): the universal byte-level theorems on three wider domains.  (A) The grammar `Simple2` — a verbatim
piece of the document, in particular the value an earlier filter of the chain has inserted, may be the serialisation of a
whole `Simple` forest (`<ins k="1">v</ins>`, `<!--c--><x-mark></x-mark>`, the empty value); for `compose_universal` such a
value puts the SECOND filter's document outside the grammar.  (B) The no-op domain: one path name of the filter stands in
no tag of the document.  (C) Adjacent verbatim pieces, merged before the grammar is asked.

The conclusions are the SAME as those of `end_to_end_universal` / `compose_universal(_checked)`: the chain model with
the C16 tokenizer emits the serialisation of the UNCHANGED reference edit `editAllD` (values inserted verbatim).  No
tokenizer hypothesis, no vocabulary, no evaluation.
-/
import RioModel.Props.C15
import RioModel.Proofs.FilterDomUniv2
import RioModel.Proofs.FilterDomUniv3
import RioModel.Proofs.FilterDomMerge

namespace Rio.C15
open Rio.Filter Rio.Consts

/-- **Replacing every verbatim piece by the forest it is read as does not change a byte** (`expandL`: a piece that is a node
of `Simple` — text, comment, declaration — stays; any other piece is replaced by the forest the parser `parseForest`
returns for it IF that forest serialises back to exactly the piece, and stays otherwise; so the parser is not trusted). -/
theorem expand_same_bytes (doc : List Node) : serializeList (expandL doc) = serializeList doc :=
  serializeList_expandL doc

/-- **`Simple2` has a decidable, sound recogniser** (`simple2LB doc = simpleLB (expandL doc)`). -/
theorem simple2_recogniser_sound (doc : List Node) (h : simple2LB doc = true) : Simple2L simpleLaws doc :=
  simple2LB_sound doc h

/-- **`Simple2` is at least as permissive as `Simple`** on recognised documents: a document the recogniser of `Simple`
accepts is its own expansion, hence accepted by the recogniser of `Simple2`. -/
theorem simple2_extends_simple (doc : List Node) (h : simpleLB doc = true) :
    expandL doc = doc ∧ simple2LB doc = true :=
  ⟨expandL_of_simpleLB doc h, simple2LB_of_simpleLB doc h⟩

/-- … and strictly more permissive: `<p>a</p>` followed by the verbatim piece `<ins k="1">v<br></ins>` (what
`append`/`replace` leave behind for the next filter) is in `Simple2` and not accepted by the recogniser of `Simple`. -/
def exVerbForest : List Node :=
  [Node.el [112] [112] [] .normal [Node.verb [97] []],
   Node.verb [60, 105, 110, 115, 32, 107, 61, 34, 49, 34, 62, 118, 60, 98, 114, 62, 60, 47, 105, 110, 115, 62]
     [[105, 110, 115], [98, 114]]]

theorem simple2_strictly_wider : simple2LB exVerbForest = true ∧ simpleLB exVerbForest = false := by
  decide +kernel

/-- **`tokenize (serialize d)` for every `Simple2` document**: the tokens of the document with every verbatim piece read
as its forest (`vtP raw = tokensOfList vtU (expandV raw [])`) — an inserted `<ins>v</ins>` is a start tag, a text, an end
tag. -/
theorem tokenize_serialize_universal2 (doc : List Node) (hs : Simple2L simpleLaws doc) :
    htmlTokenize (serializeList doc) = (tokensOfList vtP doc, []) :=
  tokenize_serialize2 simpleLaws doc hs

/-- **End to end, universal, on `Simple2`**: for every `Simple2` document (valid UTF-8, nothing held back at its end) and
every filter in its domain — the domain read with `vtP`, i.e. looking INSIDE verbatim forests: an element of an inserted
value that carries a path name puts the document outside, as it must (the real filter would edit it, the reference edit
does not) — the chain model with the C16 tokenizer emits the serialisation of the reference edit. -/
theorem end_to_end_universal2 (ev : Bytes → Bytes → Bool) (lower : String → String) (doc : List Node) (f : BodyFilter)
    (hs : Simple2L simpleLaws doc)
    (hu : utf8Split (serializeList doc) = some (serializeList doc, []))
    (hh : NoHeld2 doc)
    (hdom : InDomain htmlTokenize vtP doc f) :
    (Chain.new noCodec lower [f] [] : Chain Unit Unit).run htmlTokenize ev noCodec [serializeList doc] =
      serializeList (editD (decOf ev) doc f) :=
  filter_spec htmlTokenize ev vtP lower vtP_lossless doc f hdom (tokAgree2_of_laws simpleLaws doc hs hu hh)

/-- **Several filters, universal, on `Simple2`** (`StepsSimple2`: every document a filter sees — the reference edit of the
filters before it, values inserted VERBATIM — is `Simple2`, valid UTF-8, not empty, holds nothing back; every filter in
its domain): the chain emits the serialisation of the reference edits `editAllD`.  The intermediate documents need not be
in `Simple`: the inserted values may hold elements. -/
theorem compose_universal2 (ev : Bytes → Bytes → Bool) (lower : String → String) (doc : List Node)
    (fs : List BodyFilter) (h : StepsSimple2 simpleLaws ev doc fs) :
    (Chain.new noCodec lower fs [] : Chain Unit Unit).run htmlTokenize ev noCodec [serializeList doc] =
      serializeList (editAllD (decOf ev) doc fs) :=
  filters_compose htmlTokenize ev vtP lower vtP_lossless doc fs (stepsOK_of_simple2 simpleLaws ev fs doc h)

/-- **The universal composition theorem on `Simple2` with decidable hypotheses**: where the recogniser `stepsSimple2B` —
or the recogniser `stepsSimpleB` of `compose_universal_checked` — answers `true`, the chain model with the C16 tokenizer
emits the serialisation of the reference edits.  (`stepsSimpleB` is a disjunct of its own, here and below, because it reads the
domain and `NoHeld` with `vtU` where the later recognisers read them with `vtP`, and no lemma carries one to the other.)  The
driver evaluates both on every generated case (tag `thm-universal2-applies`). -/
theorem compose_universal2_checked (ev : Bytes → Bytes → Bool) (lower : String → String) (doc : List Node)
    (fs : List BodyFilter) (h : stepsSimple2B ev doc fs = true ∨ stepsSimpleB ev doc fs = true) :
    (Chain.new noCodec lower fs [] : Chain Unit Unit).run htmlTokenize ev noCodec [serializeList doc] =
      serializeList (editAllD (decOf ev) doc fs) := by
  rcases h with h | h
  · exact compose_universal2 ev lower doc fs (stepsSimple2B_sound ev fs doc h)
  · exact compose_universal_checked ev lower doc fs h

theorem compose_universal2_headers (ev : Bytes → Bytes → Bool) (lower : String → String) (doc : List Node)
    (fs : List BodyFilter) (headers : List (String × String))
    (hct : htmlAllowed (headerValue lower filterHeaderContentType headers) = true)
    (hce : headerValue lower filterHeaderContentEncoding headers = none)
    (h : StepsSimple2 simpleLaws ev doc fs) :
    (Chain.new noCodec lower fs headers : Chain Unit Unit).run htmlTokenize ev noCodec [serializeList doc] =
      serializeList (editAllD (decOf ev) doc fs) := by
  rw [content_type_gate_open noCodec lower fs headers hct hce]
  exact compose_universal2 ev lower doc fs h

/-- `<html><body><main><p>one</p></main></body></html>` -/
def exDoc2 : List Node :=
  [Node.el [104, 116, 109, 108] [104, 116, 109, 108] [] .normal
    [Node.el [98, 111, 100, 121] [98, 111, 100, 121] [] .normal
      [Node.el [109, 97, 105, 110] [109, 97, 105, 110] [] .normal
        [Node.el [112] [112] [] .normal [Node.verb [111, 110, 101] []]]]]]

/-- append_child `<ins k="1">v<br></ins>` to `main`; then replace `body > main > p` by the EMPTY value; then
prepend_child `<!--c--><x-mark></x-mark>` to `body` -/
def exFilters2 : List BodyFilter :=
  [BodyFilter.html filterActionAppend [[109, 97, 105, 110]] none
     [60, 105, 110, 115, 32, 107, 61, 34, 49, 34, 62, 118, 60, 98, 114, 62, 60, 47, 105, 110, 115, 62],
   BodyFilter.html filterActionReplace [[98, 111, 100, 121], [109, 97, 105, 110], [112]] none [],
   BodyFilter.html filterActionPrepend [[98, 111, 100, 121]] none
     [60, 33, 45, 45, 99, 45, 45, 62, 60, 120, 45, 109, 97, 114, 107, 62, 60, 47, 120, 45, 109, 97, 114, 107, 62]]

/-- the hypotheses of `compose_universal2_checked` hold for this chain, those of `compose_universal_checked` do not -/
theorem exDoc2_checked :
    stepsSimple2B evalStandIn exDoc2 exFilters2 = true ∧ stepsSimpleB evalStandIn exDoc2 exFilters2 = false := by
  decide +kernel

/-- … so the chain model emits `<html><body><!--c--><x-mark></x-mark><main><ins k="1">v<br></ins></main></body></html>`,
by the theorem. -/
example :
    (Chain.new noCodec (fun s => s) exFilters2 [] : Chain Unit Unit).run htmlTokenize evalStandIn noCodec
        [serializeList exDoc2] =
      [60, 104, 116, 109, 108, 62, 60, 98, 111, 100, 121, 62, 60, 33, 45, 45, 99, 45, 45, 62, 60, 120, 45, 109, 97, 114,
       107, 62, 60, 47, 120, 45, 109, 97, 114, 107, 62, 60, 109, 97, 105, 110, 62, 60, 105, 110, 115, 32, 107, 61, 34, 49,
       34, 62, 118, 60, 98, 114, 62, 60, 47, 105, 110, 115, 62, 60, 47, 109, 97, 105, 110, 62, 60, 47, 98, 111, 100, 121,
       62, 60, 47, 104, 116, 109, 108, 62] := by
  rw [compose_universal2_checked evalStandIn (fun s => s) exDoc2 exFilters2 (Or.inl exDoc2_checked.1)]
  decide +kernel

/-- **A filter one of whose path names stands in no tag of the document does nothing — in whatever state the machine gets**
(token level; `absent_path_noop` needs ALL path names absent): the machine may follow the path down to
the element before the absent name `a`, waits there for a start tag that never comes and climbs back on the end tags
(`NoopInv`); every token is copied.  For append_child `a` must stand before the last path element (`zone`): with the LAST
element absent append_child does insert its content (O7, `append_absent_last_fails`). -/
theorem noop_tokens_spec (tk : Tokenize) (ev : Bytes → Bytes → Bool) (a : Bytes) (toks : List Tok)
    (hfree : ∀ t ∈ toks, NeutralTok [a] t) (k : VKind) (p1 : Bytes) (ps : List Bytes) (sel : Option Bytes) (value : Bytes)
    (hz : a ∈ zone k (p1 :: ps)) :
    runToks tk ev { kind := k, cur := p1, after := ps, sel := sel, content := value } toks = rawsOf toks := by
  obtain ⟨s, hs, is⟩ := fold_noop tk ev toks hfree _ [] (noopInv_new sel value hz)
  exact runToks_of_fold tk ev hs is.endHtml

/-- … and the reference edit is the identity on such a document (`NoOp vt doc f`: the action is one of the three, one path
name — for append_child one before the last — stands in no tag of the document as `vt` reads it, elements that are not of
the normal kind hold no element nodes). -/
theorem noop_reference_identity (vt : Bytes → List Tok) (dec : Node → Bytes → Bool) (doc : List Node) (f : BodyFilter)
    (h : NoOp vt doc f) : editD dec doc f = doc :=
  editD_noOp vt dec h

/-- **Several filters, each in its domain or in its no-op domain** (`StepsOK3`), on the chain model. -/
theorem filters_compose3 (tk : Tokenize) (ev : Bytes → Bytes → Bool) (vt : Bytes → List Tok) (lower : String → String)
    (hvt : VtLossless vt) (doc : List Node) (fs : List BodyFilter) (h : StepsOK3 vt tk ev doc fs) :
    (Chain.new noCodec lower fs [] : Chain Unit Unit).run tk ev noCodec [serializeList doc] =
      serializeList (editAllD (decOf ev) doc fs) :=
  chain_run_of_runsTo tk ev lower (runsTo_of_steps3 vt tk ev hvt fs doc h)

/-- **Several filters, universal, on `Simple2`, with no-op filters** (`StepsSimple3`): every document a filter sees is
`Simple2`, valid UTF-8, not empty, holds nothing back; every filter is in its domain or one of its path names stands
nowhere in the document it sees.  No tokenizer hypothesis. -/
theorem compose_universal3 (ev : Bytes → Bytes → Bool) (lower : String → String) (doc : List Node)
    (fs : List BodyFilter) (h : StepsSimple3 simpleLaws ev doc fs) :
    (Chain.new noCodec lower fs [] : Chain Unit Unit).run htmlTokenize ev noCodec [serializeList doc] =
      serializeList (editAllD (decOf ev) doc fs) :=
  filters_compose3 htmlTokenize ev vtP lower vtP_lossless doc fs (stepsOK3_of_simple3 simpleLaws ev fs doc h)

/-- `stepsSimple3B` accepts what `stepsSimple2B` accepts: `compose_universal3_checked` needs no disjunct for it -/
theorem universal3_extends_2 (ev : Bytes → Bytes → Bool) (doc : List Node) (fs : List BodyFilter)
    (h : stepsSimple2B ev doc fs = true) : stepsSimple3B ev doc fs = true :=
  stepsSimple3B_of_2B ev fs doc h

/-- **… with decidable hypotheses**: where `stepsSimple3B` (or `stepsSimpleB`) answers `true`.  The driver evaluates it on
every generated case (tag `thm-universal3-applies`). -/
theorem compose_universal3_checked (ev : Bytes → Bytes → Bool) (lower : String → String) (doc : List Node)
    (fs : List BodyFilter) (h : stepsSimple3B ev doc fs = true ∨ stepsSimpleB ev doc fs = true) :
    (Chain.new noCodec lower fs [] : Chain Unit Unit).run htmlTokenize ev noCodec [serializeList doc] =
      serializeList (editAllD (decOf ev) doc fs) := by
  rcases h with h | h
  · exact compose_universal3 ev lower doc fs (stepsSimple3B_sound ev fs doc h)
  · exact compose_universal_checked ev lower doc fs h

/-- non-vacuity: on `exDoc2`, prepend_child `<ins>v</ins>` to `main`; then replace `html > nope > p` (the second path name
stands nowhere: a no-op); then append_child `<hr>` to `nope > main` (first name absent); then append_child `x` to
`body > main` -/
def exFilters3 : List BodyFilter :=
  [BodyFilter.html filterActionPrepend [[109, 97, 105, 110]] none [60, 105, 110, 115, 62, 118, 60, 47, 105, 110, 115, 62],
   BodyFilter.html filterActionReplace [[104, 116, 109, 108], [110, 111, 112, 101], [112]] none [120],
   BodyFilter.html filterActionAppend [[110, 111, 112, 101], [109, 97, 105, 110]] none [60, 104, 114, 62],
   BodyFilter.html filterActionAppend [[98, 111, 100, 121], [109, 97, 105, 110]] none [120]]

theorem exDoc3_checked :
    stepsSimple3B evalStandIn exDoc2 exFilters3 = true ∧ stepsSimple2B evalStandIn exDoc2 exFilters3 = false := by
  decide +kernel

/-- … `<html><body><main><ins>v</ins><p>one</p>x</main></body></html>`, by the theorem. -/
example :
    (Chain.new noCodec (fun s => s) exFilters3 [] : Chain Unit Unit).run htmlTokenize evalStandIn noCodec
        [serializeList exDoc2] =
      [60, 104, 116, 109, 108, 62, 60, 98, 111, 100, 121, 62, 60, 109, 97, 105, 110, 62, 60, 105, 110, 115, 62, 118, 60,
       47, 105, 110, 115, 62, 60, 112, 62, 111, 110, 101, 60, 47, 112, 62, 120, 60, 47, 109, 97, 105, 110, 62, 60, 47, 98,
       111, 100, 121, 62, 60, 47, 104, 116, 109, 108, 62] := by
  rw [compose_universal3_checked evalStandIn (fun s => s) exDoc2 exFilters3 (Or.inl exDoc3_checked.1)]
  decide +kernel

/-- **Merging every run of adjacent verbatim pieces into one piece does not change a byte** (`mergeL`, at every level of the
tree). -/
theorem merge_same_bytes (doc : List Node) : serializeList (mergeL doc) = serializeList doc :=
  serializeList_mergeL doc

/-- **The reference edit commutes with merging**: editing the merged document and merging gives the merged reference edit
(the selector decision depends on the bytes of the target only: `decOf ev`). -/
theorem merge_commutes_with_edit (ev : Bytes → Bytes → Bool) (doc : List Node) (f : BodyFilter) :
    mergeL (editD (decOf ev) (mergeL doc) f) = mergeL (editD (decOf ev) doc f) :=
  mergeL_editD (decOf ev) (decOf_mergeN ev) doc f

/-- **Several filters, universal, any representation of the verbatim pieces** (`StepsSimple4`): the hypotheses of
`compose_universal3` are asked of the MERGED form of every document a filter sees (the reference edit of the merged
document before it) — two adjacent text pieces, a text next to an empty value, a declaration and a newline given as one
piece are all read as the tokenizer reads them.  The conclusion is still about the plain reference edit `editAllD` of the
ORIGINAL document.  No tokenizer hypothesis, no normalisation of the input outside the theorem. -/
theorem compose_universal4 (ev : Bytes → Bytes → Bool) (lower : String → String) (doc : List Node)
    (fs : List BodyFilter) (h : StepsSimple4 simpleLaws ev doc fs) :
    (Chain.new noCodec lower fs [] : Chain Unit Unit).run htmlTokenize ev noCodec [serializeList doc] =
      serializeList (editAllD (decOf ev) doc fs) :=
  (chain_run_of_runsTo htmlTokenize ev lower (runsTo_of_steps4 simpleLaws ev fs doc h)).trans
    (serializeList_editAllM (decOf ev) (decOf_mergeN ev) doc fs)

/-- **… with decidable hypotheses** (`stepsSimple4B`, or one of the earlier recognisers: `stepsSimple3B` asks of the document
as given what `stepsSimple4B` asks of its merged form, and neither is proved to imply the other).  The driver evaluates it on
the document AS GENERATED (tag `thm-universal4-applies`). -/
theorem compose_universal4_checked (ev : Bytes → Bytes → Bool) (lower : String → String) (doc : List Node)
    (fs : List BodyFilter)
    (h : stepsSimple4B ev doc fs = true ∨ stepsSimple3B ev doc fs = true ∨ stepsSimpleB ev doc fs = true) :
    (Chain.new noCodec lower fs [] : Chain Unit Unit).run htmlTokenize ev noCodec [serializeList doc] =
      serializeList (editAllD (decOf ev) doc fs) := by
  rcases h with h | h | h
  · exact compose_universal4 ev lower doc fs (stepsSimple4B_sound ev fs doc h)
  · exact compose_universal3_checked ev lower doc fs (Or.inl h)
  · exact compose_universal_checked ev lower doc fs h

/-- non-vacuity: on `exDoc2`, append_child the TEXT `x` to `p` (two adjacent text pieces `one`, `x`); then append_child
`<br>` to `main > p`; then prepend_child the text `y` to `main` -/
def exFilters4 : List BodyFilter :=
  [BodyFilter.html filterActionAppend [[112]] none [120],
   BodyFilter.html filterActionAppend [[109, 97, 105, 110], [112]] none [60, 98, 114, 62],
   BodyFilter.html filterActionPrepend [[109, 97, 105, 110]] none [121]]

theorem exDoc4_checked :
    stepsSimple4B evalStandIn exDoc2 exFilters4 = true ∧ stepsSimple3B evalStandIn exDoc2 exFilters4 = false := by
  decide +kernel

/-- … `<html><body><main>y<p>onex<br></p></main></body></html>`, by the theorem. -/
example :
    (Chain.new noCodec (fun s => s) exFilters4 [] : Chain Unit Unit).run htmlTokenize evalStandIn noCodec
        [serializeList exDoc2] =
      [60, 104, 116, 109, 108, 62, 60, 98, 111, 100, 121, 62, 60, 109, 97, 105, 110, 62, 121, 60, 112, 62, 111, 110, 101,
       120, 60, 98, 114, 62, 60, 47, 112, 62, 60, 47, 109, 97, 105, 110, 62, 60, 47, 98, 111, 100, 121, 62, 60, 47, 104,
       116, 109, 108, 62] := by
  rw [compose_universal4_checked evalStandIn (fun s => s) exDoc2 exFilters4 (Or.inl exDoc4_checked.1)]
  decide +kernel

end Rio.C15
