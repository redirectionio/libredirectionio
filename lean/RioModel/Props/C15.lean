/-
C15 — HTML filters edit the targeted element as specified on well-formed documents.

Parameters of the theorems: the tokenizer `tk` (only used by `append_child` / `prepend_child` when a
selector is configured), the selector oracle `ev` (scraper), and `vt`, the tokens of a verbatim
piece (text, comment, declaration, an inserted value).  The reference edit takes its selector
decision from the oracle applied to the serialised target (`editD (decOf ev)`, Proofs/FilterDom.lean).
With the tree-level stand-in `selMatches` as the decision it is `edit` of Model/FilterDom.lean
(`reference_is_edit`).  NO lemma says that `decOf ev` agrees with `selMatches`, for any `ev`: for the
byte-level stand-in `evalStandIn` of the examples and the driver it does not on a verbatim piece
whose `marks` do not list its elements; the driver computes both reference edits, and each is
compared with the chain's output.
-/
import RioModel.Proofs.FilterDom
import RioModel.Proofs.FilterChain
import RioModel.Model.FilterHtml
import RioModel.Proofs.FilterDomTok
import RioModel.Proofs.FilterDomLaws
import RioModel.Proofs.FilterDomUniv2

namespace Rio.C15
open Rio.Filter Rio.Consts

variable (tk : Tokenize) (ev : Bytes → Bytes → Bool) (vt : Bytes → List Tok)

/-- **append_child inserts the value immediately before the target's end tag** (as the last child),
for every document in the domain `AnyDomAPList` (Proofs/FilterDom.lean: every element named like the
first path element has, as children along the rest of the path, exactly one element of the next name,
normal and not void; the target is a normal or raw-text element; nothing else carries a path name).
With a selector the value is inserted iff the oracle rejects the serialised target, and the domain asks that `tk`
tokenises the serialised target as `tokensOf` says and — append — that its content is balanced (`TargetAP`). -/
theorem append_tokens_spec (hvt : VtLossless vt) (p1 : Bytes) (ps : List Bytes) (sel : Option Bytes)
    (value : Bytes) (doc : List Node)
    (h : AnyDomAPList tk .append sel vt (p1 :: ps) p1 ps doc) :
    ∃ v, Visitor.new filterActionAppend (p1 :: ps) sel value = some v ∧
      runToks tk ev v (tokensOfList vt doc) =
        serializeList (editD (decOf ev) doc (.html filterActionAppend (p1 :: ps) sel value)) :=
  runToks_inDomain tk ev vt hvt (.append p1 ps sel value h)

/-- **prepend_child inserts the value immediately after the target's start tag.** -/
theorem prepend_tokens_spec (hvt : VtLossless vt) (p1 : Bytes) (ps : List Bytes) (sel : Option Bytes)
    (value : Bytes) (doc : List Node)
    (h : AnyDomAPList tk .prepend sel vt (p1 :: ps) p1 ps doc) :
    ∃ v, Visitor.new filterActionPrepend (p1 :: ps) sel value = some v ∧
      runToks tk ev v (tokensOfList vt doc) =
        serializeList (editD (decOf ev) doc (.html filterActionPrepend (p1 :: ps) sel value)) :=
  runToks_inDomain tk ev vt hvt (.prepend p1 ps sel value h)

/-- **replace (one-element path) substitutes every occurrence of the target, start tag to end tag**,
including void (`<br>`) and self-closing (`<x/>`) ones, anywhere in the document outside other
targets and raw text; with a selector, iff the oracle accepts the serialised target. -/
theorem replace_tokens_spec_single (hvt : VtLossless vt) (p1 : Bytes) (sel : Option Bytes)
    (value : Bytes) (doc : List Node)
    (h : AnyDomGList vt [p1] p1 (fun _ _ knd cs => TargetR vt [p1] p1 knd cs) doc) :
    ∃ v, Visitor.new filterActionReplace [p1] sel value = some v ∧
      runToks tk ev v (tokensOfList vt doc) =
        serializeList (editD (decOf ev) doc (.html filterActionReplace [p1] sel value)) :=
  runToks_inDomain tk ev vt hvt (.replace1 p1 sel value h)

/-- **replace (longer path) substitutes every sibling occurrence of the target** below the unique
chain of path elements (`OneHitL` / `ChildDomR`: each path element but the last occurs once, as a
child of the previous one; the last any number ≥ 1 of times as children of the last but one,
normal, raw-text, void or self-closing). -/
theorem replace_tokens_spec (hvt : VtLossless vt) (p1 a : Bytes) (rest : List Bytes) (sel : Option Bytes)
    (value : Bytes) (doc : List Node) (hnd : (p1 :: a :: rest).Nodup)
    (h : OneHitL vt (p1 :: a :: rest) p1
      (fun _ _ knd cs => ChildDomR vt (p1 :: a :: rest) (a :: rest) p1 knd cs) doc) :
    ∃ v, Visitor.new filterActionReplace (p1 :: a :: rest) sel value = some v ∧
      runToks tk ev v (tokensOfList vt doc) =
        serializeList (editD (decOf ev) doc (.html filterActionReplace (p1 :: a :: rest) sel value)) :=
  runToks_inDomain tk ev vt hvt (.replaceN p1 a rest sel value hnd h)

/-- **Several filters compose in order**: if every filter is in its domain on the document it sees
(the result of the reference edits before it), the chain emits the serialisation of `editAll`
(`StepsOK`; intermediate documents non-empty, because the chain stops at an empty intermediate result). -/
theorem filters_compose (lower : String → String) (hvt : VtLossless vt) (doc : List Node)
    (fs : List BodyFilter) (h : StepsOK tk ev vt doc fs) :
    (Chain.new noCodec lower fs [] : Chain Unit Unit).run tk ev noCodec [serializeList doc] =
      serializeList (editAllD (decOf ev) doc fs) :=
  chain_run_of_runsTo tk ev lower (runsTo_of_steps tk ev vt hvt fs doc h)

/-- **One filter in its domain (`InDomain`, the four cases above), on the chain model**: when the
stream tokenizer of `filter` (`tk.stream []` = `Tokenizer::new_fragment(data, "")`) sees the
serialised document as `tokensOfList vt doc`, leaves nothing and no token is cut short by the end of the data
(`TokAgree`), the chain built by `FilterBodyAction::new` and fed the document as one chunk emits the serialisation of
the reference edit. -/
theorem filter_spec (lower : String → String) (hvt : VtLossless vt) (doc : List Node) (f : BodyFilter)
    (hdom : InDomain tk vt doc f) (hag : TokAgree tk vt doc) :
    (Chain.new noCodec lower [f] [] : Chain Unit Unit).run tk ev noCodec [serializeList doc] =
      serializeList (editD (decOf ev) doc f) := by
  simpa [editAllD] using filters_compose tk ev vt lower hvt doc [f] ⟨hdom, hag, fun h => absurd rfl h, trivial⟩

/-- **The hypotheses are decidable**: `stepsOKB` (Proofs/FilterDom.lean) evaluates a sufficient condition for
`StepsOK` — domain of every filter on the document it sees, `TokAgree` of every intermediate document — with
the verbatim pieces tokenised by the tokenizer itself (`vtOf tk`).  The driver evaluates it on every generated case
(tag `thm-applies`); `exDoc_checked` below is a concrete instance. -/
theorem filters_compose_checked (lower : String → String) (doc : List Node) (fs : List BodyFilter)
    (h : stepsOKB tk ev (vtOf tk) doc fs = true) :
    (Chain.new noCodec lower fs [] : Chain Unit Unit).run tk ev noCodec [serializeList doc] =
      serializeList (editAllD (decOf ev) doc fs) :=
  filters_compose tk ev (vtOf tk) lower (vtOf_lossless tk) doc fs (stepsOKB_sound tk ev (vtOf tk) fs doc h)

/-- **tokens(x ++ y) = tokens(x) ++ tokens(y)** for the tokenizer instance of the filters (the C16 model), for every
`y`, whenever the tokens of `x` are all produced before the end of `x` is reached, consume `x` entirely and leave the
tokenizer outside a raw-text context (`Closed`, decidable by `closedB`).  Derived from the simulation lemma for
`next` of Proofs/HtmlSimNext.lean (prefix stability + restart). -/
theorem tokenize_append {x y : Bytes} {ts ts' : List Tok} {r : Bytes} (hc : Closed x ts)
    (hy : htmlTokenize? y = some (ts', r)) : htmlTokenize? (x ++ y) = some (ts ++ ts', r) :=
  htmlTokenize?_append hc hy

/-- **a text followed by a tag** is one text token followed by the tokens of the rest: the only look-ahead of the
tokenizer (`<` + letter, `/`, `!` or `?`).  A text (`textOKB`) may hold `<` when the byte after it, inside the text, opens
nothing (`a < b`, `1<2`); its last byte is not `<`. -/
theorem tokenize_text_then_tag {tx y : Bytes} {c : Nat} {rest : Bytes} {ts' : List Tok} {r : Bytes}
    (hne : tx ≠ []) (h60 : textOKB tx = true) (hy0 : y = 60 :: c :: rest) (hop : isOpener c = true)
    (hy : htmlTokenize? y = some (ts', r)) :
    htmlTokenize? (tx ++ y) = some (⟨.text, tx, []⟩ :: ts', r) :=
  plainLaws.text hne h60 hy0 hop hy

/-- **the same two laws for the stream tokenizer `filter` runs** (`new_fragment(data, "")`, with the
`cut` flag and the raw-text context `filter` reads around every `next()`): `StreamTo d ts r` = the tokens of `d` are
`ts`, `r` is left, and NO token is one that `filter` would hold back as cut short by the end of the data (`isCut`). -/
theorem stream_append {x y : Bytes} {ts ts' : List Tok} {r : Bytes} (hc : Closed x ts)
    (hy : StreamTo y ts' r) : StreamTo (x ++ y) (ts ++ ts') r :=
  streamLaws.append hc hy

theorem stream_text_then_tag {tx y : Bytes} {c : Nat} {rest : Bytes} {ts' : List Tok} {r : Bytes}
    (hne : tx ≠ []) (h60 : textOKB tx = true) (hy0 : y = 60 :: c :: rest) (hop : isOpener c = true)
    (hy : StreamTo y ts' r) : StreamTo (tx ++ y) (⟨.text, tx, []⟩ :: ts') r :=
  streamLaws.text hne h60 hy0 hop hy

/-- a text at the very end of the data IS ended by the end of the data (`cut`), but `filter` does not hold a plain
text back: it still counts as not cut -/
theorem stream_text_at_end {tx : Bytes} (hne : tx ≠ []) (h60 : textOKB tx = true) :
    StreamTo tx [⟨.text, tx, []⟩] [] :=
  streamLaws.text_eof hne h60

/-- **`tokenize (serialize d) = tokensOf d`, compositional form** (any document): it suffices that every unit — each
tag on its own, each raw-text element as a whole, each text together with the tag that follows it — is tokenised as
expected in isolation (`unitsOKB`, a local decidable check; `vt` = the expected tokens of the verbatim pieces). -/
theorem tokenize_serialize_units (vt : Bytes → List Tok) (doc : List Node)
    (h : unitsOKB (mergeUnits (piecesOfList vt doc)) = true) :
    htmlTokenize (serializeList doc) = (tokensOfList vt doc, []) :=
  Rio.Filter.tokenize_serialize_units vt doc h

/-- a vocabulary of 68 start tags (13 element names x 5 attribute texts incl. a quoted `>`, an unquoted
value, single quotes, a valueless attribute, plus three upper / mixed-case spellings), 4 self-closing tags and
14 end tags -/
def exVocab : Vocab :=
  { starts := [([104, 116, 109, 108], [104, 116, 109, 108], []),
      ([104, 116, 109, 108], [104, 116, 109, 108], [32, 99, 108, 97, 115, 115, 61, 34, 112, 97, 103, 101, 34]),
      ([104, 116, 109, 108], [104, 116, 109, 108], [32, 105, 100, 61, 109, 97, 105, 110]),
      ([104, 116, 109, 108], [104, 116, 109, 108], [32, 116, 105, 116, 108, 101, 61, 34, 97, 32, 62, 32, 98, 34]),
      ([104, 116, 109, 108], [104, 116, 109, 108], [32, 100, 97, 116, 97, 45, 120, 61, 39, 49, 39, 32, 104, 105, 100, 100, 101, 110]),
      ([104, 101, 97, 100], [104, 101, 97, 100], []),
      ([104, 101, 97, 100], [104, 101, 97, 100], [32, 99, 108, 97, 115, 115, 61, 34, 112, 97, 103, 101, 34]),
      ([104, 101, 97, 100], [104, 101, 97, 100], [32, 105, 100, 61, 109, 97, 105, 110]),
      ([104, 101, 97, 100], [104, 101, 97, 100], [32, 116, 105, 116, 108, 101, 61, 34, 97, 32, 62, 32, 98, 34]),
      ([104, 101, 97, 100], [104, 101, 97, 100], [32, 100, 97, 116, 97, 45, 120, 61, 39, 49, 39, 32, 104, 105, 100, 100, 101, 110]),
      ([98, 111, 100, 121], [98, 111, 100, 121], []),
      ([98, 111, 100, 121], [98, 111, 100, 121], [32, 99, 108, 97, 115, 115, 61, 34, 112, 97, 103, 101, 34]),
      ([98, 111, 100, 121], [98, 111, 100, 121], [32, 105, 100, 61, 109, 97, 105, 110]),
      ([98, 111, 100, 121], [98, 111, 100, 121], [32, 116, 105, 116, 108, 101, 61, 34, 97, 32, 62, 32, 98, 34]),
      ([98, 111, 100, 121], [98, 111, 100, 121], [32, 100, 97, 116, 97, 45, 120, 61, 39, 49, 39, 32, 104, 105, 100, 100, 101, 110]),
      ([100, 105, 118], [100, 105, 118], []),
      ([100, 105, 118], [100, 105, 118], [32, 99, 108, 97, 115, 115, 61, 34, 112, 97, 103, 101, 34]),
      ([100, 105, 118], [100, 105, 118], [32, 105, 100, 61, 109, 97, 105, 110]),
      ([100, 105, 118], [100, 105, 118], [32, 116, 105, 116, 108, 101, 61, 34, 97, 32, 62, 32, 98, 34]),
      ([100, 105, 118], [100, 105, 118], [32, 100, 97, 116, 97, 45, 120, 61, 39, 49, 39, 32, 104, 105, 100, 100, 101, 110]),
      ([112], [112], []),
      ([112], [112], [32, 99, 108, 97, 115, 115, 61, 34, 112, 97, 103, 101, 34]),
      ([112], [112], [32, 105, 100, 61, 109, 97, 105, 110]),
      ([112], [112], [32, 116, 105, 116, 108, 101, 61, 34, 97, 32, 62, 32, 98, 34]),
      ([112], [112], [32, 100, 97, 116, 97, 45, 120, 61, 39, 49, 39, 32, 104, 105, 100, 100, 101, 110]),
      ([115, 112, 97, 110], [115, 112, 97, 110], []),
      ([115, 112, 97, 110], [115, 112, 97, 110], [32, 99, 108, 97, 115, 115, 61, 34, 112, 97, 103, 101, 34]),
      ([115, 112, 97, 110], [115, 112, 97, 110], [32, 105, 100, 61, 109, 97, 105, 110]),
      ([115, 112, 97, 110], [115, 112, 97, 110], [32, 116, 105, 116, 108, 101, 61, 34, 97, 32, 62, 32, 98, 34]),
      ([115, 112, 97, 110], [115, 112, 97, 110], [32, 100, 97, 116, 97, 45, 120, 61, 39, 49, 39, 32, 104, 105, 100, 100, 101, 110]),
      ([97], [97], []),
      ([97], [97], [32, 99, 108, 97, 115, 115, 61, 34, 112, 97, 103, 101, 34]),
      ([97], [97], [32, 105, 100, 61, 109, 97, 105, 110]),
      ([97], [97], [32, 116, 105, 116, 108, 101, 61, 34, 97, 32, 62, 32, 98, 34]),
      ([97], [97], [32, 100, 97, 116, 97, 45, 120, 61, 39, 49, 39, 32, 104, 105, 100, 100, 101, 110]),
      ([117, 108], [117, 108], []),
      ([117, 108], [117, 108], [32, 99, 108, 97, 115, 115, 61, 34, 112, 97, 103, 101, 34]),
      ([117, 108], [117, 108], [32, 105, 100, 61, 109, 97, 105, 110]),
      ([117, 108], [117, 108], [32, 116, 105, 116, 108, 101, 61, 34, 97, 32, 62, 32, 98, 34]),
      ([117, 108], [117, 108], [32, 100, 97, 116, 97, 45, 120, 61, 39, 49, 39, 32, 104, 105, 100, 100, 101, 110]),
      ([108, 105], [108, 105], []),
      ([108, 105], [108, 105], [32, 99, 108, 97, 115, 115, 61, 34, 112, 97, 103, 101, 34]),
      ([108, 105], [108, 105], [32, 105, 100, 61, 109, 97, 105, 110]),
      ([108, 105], [108, 105], [32, 116, 105, 116, 108, 101, 61, 34, 97, 32, 62, 32, 98, 34]),
      ([108, 105], [108, 105], [32, 100, 97, 116, 97, 45, 120, 61, 39, 49, 39, 32, 104, 105, 100, 100, 101, 110]),
      ([109, 97, 105, 110], [109, 97, 105, 110], []),
      ([109, 97, 105, 110], [109, 97, 105, 110], [32, 99, 108, 97, 115, 115, 61, 34, 112, 97, 103, 101, 34]),
      ([109, 97, 105, 110], [109, 97, 105, 110], [32, 105, 100, 61, 109, 97, 105, 110]),
      ([109, 97, 105, 110], [109, 97, 105, 110], [32, 116, 105, 116, 108, 101, 61, 34, 97, 32, 62, 32, 98, 34]),
      ([109, 97, 105, 110], [109, 97, 105, 110], [32, 100, 97, 116, 97, 45, 120, 61, 39, 49, 39, 32, 104, 105, 100, 100, 101, 110]),
      ([104, 49], [104, 49], []),
      ([104, 49], [104, 49], [32, 99, 108, 97, 115, 115, 61, 34, 112, 97, 103, 101, 34]),
      ([104, 49], [104, 49], [32, 105, 100, 61, 109, 97, 105, 110]),
      ([104, 49], [104, 49], [32, 116, 105, 116, 108, 101, 61, 34, 97, 32, 62, 32, 98, 34]),
      ([104, 49], [104, 49], [32, 100, 97, 116, 97, 45, 120, 61, 39, 49, 39, 32, 104, 105, 100, 100, 101, 110]),
      ([98, 114], [98, 114], []),
      ([98, 114], [98, 114], [32, 99, 108, 97, 115, 115, 61, 34, 112, 97, 103, 101, 34]),
      ([98, 114], [98, 114], [32, 105, 100, 61, 109, 97, 105, 110]),
      ([98, 114], [98, 114], [32, 116, 105, 116, 108, 101, 61, 34, 97, 32, 62, 32, 98, 34]),
      ([98, 114], [98, 114], [32, 100, 97, 116, 97, 45, 120, 61, 39, 49, 39, 32, 104, 105, 100, 100, 101, 110]),
      ([105, 109, 103], [105, 109, 103], []),
      ([105, 109, 103], [105, 109, 103], [32, 99, 108, 97, 115, 115, 61, 34, 112, 97, 103, 101, 34]),
      ([105, 109, 103], [105, 109, 103], [32, 105, 100, 61, 109, 97, 105, 110]),
      ([105, 109, 103], [105, 109, 103], [32, 116, 105, 116, 108, 101, 61, 34, 97, 32, 62, 32, 98, 34]),
      ([105, 109, 103], [105, 109, 103], [32, 100, 97, 116, 97, 45, 120, 61, 39, 49, 39, 32, 104, 105, 100, 100, 101, 110]),
      ([100, 105, 118], [68, 73, 86], []),
      ([98, 111, 100, 121], [66, 111, 100, 121], [32, 99, 108, 97, 115, 115, 61, 34, 112, 97, 103, 101, 34]),
      ([112], [80], [])],
    selfs := [([98, 114], [98, 114], []),
      ([98, 114], [98, 114], [32]),
      ([105, 109, 103], [105, 109, 103], [32, 99, 108, 97, 115, 115, 61, 34, 112, 97, 103, 101, 34, 32]),
      ([120, 45, 109, 97, 114, 107], [120, 45, 109, 97, 114, 107], [])],
    ends := [([104, 116, 109, 108], [104, 116, 109, 108]),
      ([104, 101, 97, 100], [104, 101, 97, 100]),
      ([98, 111, 100, 121], [98, 111, 100, 121]),
      ([100, 105, 118], [100, 105, 118]),
      ([112], [112]),
      ([115, 112, 97, 110], [115, 112, 97, 110]),
      ([97], [97]),
      ([117, 108], [117, 108]),
      ([108, 105], [108, 105]),
      ([109, 97, 105, 110], [109, 97, 105, 110]),
      ([104, 49], [104, 49]),
      ([100, 105, 118], [68, 73, 86]),
      ([98, 111, 100, 121], [66, 111, 100, 121]),
      ([112], [80])] }

/-- every tag of the vocabulary is tokenised as expected on its own -/
theorem exVocab_ok : exVocab.ok = true :=
  exVocab.ok_of_laws (by decide +kernel) (by decide +kernel) (by decide +kernel)

/-- **`tokenize (serialize d) = tokensOf d` for ALL documents over the vocabulary** (`simpleL`: elements of kind
normal / void / self-closing whose tags are in the vocabulary, nested to any depth; text nodes non-empty and free of
`<`, no two adjacent; the document does not end with a text): whatever the shape and the size of the tree. -/
theorem tokenize_serialize (doc : List Node) (hs : simpleL exVocab doc = true) (hl : lastIsVerb doc = false) :
    htmlTokenize (serializeList doc) = (tokensOfList textToks doc, []) :=
  tokenize_serialize_simple exVocab exVocab_ok doc hs hl

/-- **End to end on that class**: for every such document (valid UTF-8) and every filter in its domain, the chain
model with the C16 tokenizer — `FilterBodyAction::new`, one `filter` call, `end` — emits the serialisation of the
reference edit.  No hypothesis about the tokenizer is left. -/
theorem end_to_end_simple (ev : Bytes → Bytes → Bool) (lower : String → String) (doc : List Node) (f : BodyFilter)
    (hs : simpleL exVocab doc = true) (hl : lastIsVerb doc = false)
    (hu : utf8Split (serializeList doc) = some (serializeList doc, []))
    (hdom : InDomain htmlTokenize textToks doc f) :
    (Chain.new noCodec lower [f] [] : Chain Unit Unit).run htmlTokenize ev noCodec [serializeList doc] =
      serializeList (editD (decOf ev) doc f) :=
  filter_spec htmlTokenize ev textToks lower rawsOf_textToks doc f hdom
    (tokAgree_simple exVocab exVocab_ok doc hs hl hu)

/-- non-vacuity of `tokenize_serialize`: `<div class="page">` nested `n` times around `<p>hi</p>`, for every `n` -/
def nest : Nat → Node
  | 0 => .el [112] [112] [] .normal [.verb [104, 105] []]
  | n + 1 => .el [100, 105, 118] [100, 105, 118] [32, 99, 108, 97, 115, 115, 61, 34, 112, 97, 103, 101, 34] .normal [nest n]

theorem nest_simple : ∀ n, simpleN exVocab (nest n) = true
  | 0 => by decide
  | n + 1 => by
    have ih := nest_simple n
    have h1 : exVocab.starts.contains (([100, 105, 118] : Bytes), ([100, 105, 118] : Bytes),
        ([32, 99, 108, 97, 115, 115, 61, 34, 112, 97, 103, 101, 34] : Bytes)) = true := by decide
    have h2 : exVocab.ends.contains (([100, 105, 118] : Bytes), ([100, 105, 118] : Bytes)) = true := by decide
    simp only [nest, simpleN, simpleL, h1, h2, ih, Bool.and_self]

example (n : Nat) : htmlTokenize (serializeList [nest n]) = (tokensOfList textToks [nest n], []) :=
  tokenize_serialize [nest n] (by simp [simpleL, nest_simple]) (by cases n <;> rfl)

/-- **`tokenize (serialize d) = tokensOf d` for every `Simple` document** (`SimpleL simpleLaws`,
Proofs/FilterDomUniv.lean + FilterDomLaws.lean): any nesting and size;
* element names: a letter followed by any ASCII bytes other than white space, `/`, `>` (what `read_tag_name` delimits: `-`,
  `:`, `_`, `.`, digits … are name bytes), any case (the node name is the lower-cased display name);
* attribute text: any sequence of (white space, key, nothing | `=`unquoted | `="…"` | `='…'`) + optional trailing white
  space, keys free of white space `/ = >`, unquoted values free of white space and `>`, not starting with a quote nor
  ending with `/`; for `/>` the last attribute is quoted or white space precedes the solidus;
* ordinary elements (normal, void, self-closing) have a name outside the raw-text table; raw-text elements (script, style,
  title, textarea, …, not plaintext) hold content in which every `<` is followed by a byte other than `<` and `!`, and every
  `</` by the end of the content or a byte other than the first letter of the element name (`rawOK2`: tag-like text such as
  `<p>`, `a<b`, `</p>` is inside; `<<`, `<!`, a final `<`, `</s…` in a script are not);
* comments `<!--…-->` whose body may hold `>` and `!` but no `-->` / `--!>`, does not start with `>`, `->`, `!>` and does not
  end with `--!` (`commentOK2`); doctype declarations (`<!` + any case variant of DOCTYPE + text free of `>` + `>`);
  processing instructions / bogus comments `<?…>` free of `>`;
* text nodes non-empty, no two adjacent — also as the LAST node of the document —, in which every `<` is followed, inside
  the text, by a byte that opens nothing (not a letter, `/`, `!`, `?`): `a < b`, `1<2` are texts.
Proved from the closed forms of the tokenizer's readers (Proofs/HtmlClosed*.lean) by induction over the document with
`tokenize_append` and `tokenize_text_then_tag`; no vocabulary, no evaluation. -/
theorem tokenize_serialize_universal (doc : List Node) (hs : SimpleL simpleLaws doc) :
    htmlTokenize (serializeList doc) = (tokensOfList vtU doc, []) :=
  tokenize_serialize_of_laws simpleLaws doc hs

/-- **The stream tokenizer of `filter` on every `Simple` document** (what `HtmlFilterBodyAction::filter` iterates over,
fresh stage = empty context): the same tokens, nothing left, and no token is held back as cut short by
the end of the document — so one `filter` call processes every token.  Same proof, from the stream forms of the
composition laws (`stream_append`, `stream_text_then_tag`, `stream_text_at_end`). -/
theorem stream_serialize_universal (doc : List Node) (hs : SimpleL simpleLaws doc) :
    toksOf (htmlTokenize.stream [] (serializeList doc)).1 = tokensOfList vtU doc ∧
    (htmlTokenize.stream [] (serializeList doc)).2.1 = [] ∧
    ∀ x ∈ (htmlTokenize.stream [] (serializeList doc)).1, isCut x = false :=
  streamTo_stream (stream_serialize_of_laws simpleLaws doc hs)

/-- **End to end, universal**: for every `Simple` document (valid UTF-8) and every filter in its domain, the chain model
with the C16 tokenizer — `FilterBodyAction::new`, one `filter` call, `end` — emits the serialisation of the reference
edit.  No hypothesis about the tokenizer, no vocabulary restriction.  (`NoHeld`: see `noHeld_of_top_texts` below.) -/
theorem end_to_end_universal (ev : Bytes → Bytes → Bool) (lower : String → String) (doc : List Node) (f : BodyFilter)
    (hs : SimpleL simpleLaws doc)
    (hu : utf8Split (serializeList doc) = some (serializeList doc, []))
    (hh : NoHeld doc)
    (hdom : InDomain htmlTokenize vtU doc f) :
    (Chain.new noCodec lower [f] [] : Chain Unit Unit).run htmlTokenize ev noCodec [serializeList doc] =
      serializeList (editD (decOf ev) doc f) :=
  filter_spec htmlTokenize ev vtU lower vtU_lossless doc f hdom (tokAgree_of_laws simpleLaws doc hs hu hh)

/-- `NoHeld doc` (the last token of the document is not a text holding `<`, which `filter` would keep back until `end`;
decidable) holds whenever no TOP-LEVEL text node holds `<` — in particular for every document whose texts are free of `<`. -/
theorem noHeld_of_top_texts (doc : List Node) (h : ∀ n ∈ doc, NoLtText n) : NoHeld doc :=
  noHeld_of_topTexts doc h

/-- … and for several filters, when every intermediate document is again `Simple` (`StepsSimple`). -/
theorem compose_universal (ev : Bytes → Bytes → Bool) (lower : String → String) (doc : List Node)
    (fs : List BodyFilter) (h : StepsSimple simpleLaws ev doc fs) :
    (Chain.new noCodec lower fs [] : Chain Unit Unit).run htmlTokenize ev noCodec [serializeList doc] =
      serializeList (editAllD (decOf ev) doc fs) :=
  filters_compose htmlTokenize ev vtU lower vtU_lossless doc fs (stepsOK_of_simple simpleLaws ev fs doc h)

/-- **The `Simple` grammar has a decidable, sound recogniser** (`simpleLB`, Proofs/FilterDomRec.lean: the attribute text is
parsed greedily — white space, key, `=` + quoted / unquoted value or nothing, repeated). -/
theorem simple_recogniser_sound (doc : List Node) (h : simpleLB doc = true) : SimpleL simpleLaws doc :=
  simpleLB_sound doc h

/-- **The universal composition theorem with decidable hypotheses**: where the recogniser `stepsSimpleB` answers `true`
(every document a filter sees is `Simple`, valid UTF-8, not empty and `NoHeld`, every filter in its domain), the chain model with the
C16 tokenizer emits the serialisation of the reference edits.  No tokenizer hypothesis; the driver evaluates the
recogniser on every generated case (tag `thm-universal-applies`). -/
theorem compose_universal_checked (ev : Bytes → Bytes → Bool) (lower : String → String) (doc : List Node)
    (fs : List BodyFilter) (h : stepsSimpleB ev doc fs = true) :
    (Chain.new noCodec lower fs [] : Chain Unit Unit).run htmlTokenize ev noCodec [serializeList doc] =
      serializeList (editAllD (decOf ev) doc fs) :=
  compose_universal ev lower doc fs (stepsSimpleB_sound ev fs doc h)

/-- **With response headers**: when the gate is open — no `Content-Type` header, or one whose lower-cased value contains
`text/html` (the last header of that name wins) — and there is no `Content-Encoding` header, the chain is the one built
without headers, so every theorem above about `Chain.new … []` holds for these headers. -/
theorem content_type_gate_open {D E : Type} (codec : Codec D E) (lower : String → String) (fs : List BodyFilter)
    (headers : List (String × String))
    (hct : htmlAllowed (headerValue lower filterHeaderContentType headers) = true)
    (hce : headerValue lower filterHeaderContentEncoding headers = none) :
    (Chain.new codec lower fs headers : Chain D E) = Chain.new codec lower fs [] :=
  chain_new_gate_open codec lower fs headers hct hce

/-- **When the gate is closed** (a `Content-Type` whose lower-cased value does not contain `text/html`) html filters build
no stage: the body passes unchanged, for every chunking, whatever the `Content-Encoding`. -/
theorem content_type_gate_closed {D E : Type} (codec : Codec D E) (lower : String → String) (fs : List BodyFilter)
    (headers : List (String × String)) (hfs : ∀ f ∈ fs, ∃ a p s v, f = BodyFilter.html a p s v)
    (hct : htmlAllowed (headerValue lower filterHeaderContentType headers) = false) (chunks : List Bytes) :
    (Chain.new codec lower fs headers : Chain D E).run tk ev codec chunks = chunks.flatten :=
  chain_gate_closed tk ev codec lower fs headers hfs hct chunks

theorem compose_universal_headers (ev : Bytes → Bytes → Bool) (lower : String → String) (doc : List Node)
    (fs : List BodyFilter) (headers : List (String × String))
    (hct : htmlAllowed (headerValue lower filterHeaderContentType headers) = true)
    (hce : headerValue lower filterHeaderContentEncoding headers = none)
    (h : StepsSimple simpleLaws ev doc fs) :
    (Chain.new noCodec lower fs headers : Chain Unit Unit).run htmlTokenize ev noCodec [serializeList doc] =
      serializeList (editAllD (decOf ev) doc fs) := by
  rw [content_type_gate_open noCodec lower fs headers hct hce]
  exact compose_universal ev lower doc fs h

/-- non-vacuity: a doctype declaration, an upper-case `HTML` element with a quoted `>` in an attribute value, an
unquoted and a bare attribute, a raw-text element (`title` holding `a &amp; b`), a comment, a `p` with text, a
self-closing `br` with white space before the solidus, text before the end tag, and a newline as the very last node — is
`Simple`. -/
def exSimple : List Node :=
  [Node.verb [60, 33, 68, 79, 67, 84, 89, 80, 69, 32, 104, 116, 109, 108, 62] [],
   Node.el [104, 116, 109, 108] [72, 84, 77, 76] [32, 108, 97, 110, 103, 61, 34, 97, 62, 98, 34, 32, 120, 61, 49, 32, 104, 105, 100, 100, 101, 110] .normal
     [Node.el [116, 105, 116, 108, 101] [116, 105, 116, 108, 101] [] .raw [Node.verb [97, 32, 38, 97, 109, 112, 59, 32, 98] []],
      Node.verb [60, 33, 45, 45, 32, 99, 32, 45, 45, 62] [],
      Node.el [112] [112] [] .normal [Node.verb [104, 105] []],
      Node.el [98, 114] [98, 114] [32] .selfClosing [],
      Node.verb [116, 97, 105, 108] []],
   Node.verb [10] []]

theorem exSimple_simple : SimpleL simpleLaws exSimple :=
  simple_recogniser_sound exSimple (by decide +kernel)

/-- non-vacuity of the wider side conditions (Proofs/HtmlClosed*.lean): an `<?xml …?>` processing instruction, a custom element
`<x-mark data:k=v>` (`-` and `:` in names), a comment whose body holds `>` and `!` (`<!-- a > b ! <p> -->`), a `script`
whose text holds tag-like text (`if (a<b) x="</p>";`), a `style` with `a>b{}` — is `Simple` (a second example of that
grammar; `Simple2` is Props/C15b's). -/
def exSimple2 : List Node :=
  [Node.verb [60, 63, 120, 109, 108, 32, 118, 101, 114, 115, 105, 111, 110, 61, 34, 49, 46, 48, 34, 63, 62] [],
   Node.el [120, 45, 109, 97, 114, 107] [88, 45, 77, 97, 114, 107] [32, 100, 97, 116, 97, 58, 107, 61, 118] .normal
     [Node.verb [60, 33, 45, 45, 32, 97, 32, 62, 32, 98, 32, 33, 32, 60, 112, 62, 32, 45, 45, 62] [],
      Node.el [115, 99, 114, 105, 112, 116] [115, 99, 114, 105, 112, 116] [] .raw [Node.verb [105, 102, 32, 40, 97, 60, 98, 41, 32, 120, 61, 34, 60, 47, 112, 62, 34, 59] []],
      Node.el [115, 116, 121, 108, 101] [83, 84, 89, 76, 69] [32, 109, 101, 100, 105, 97, 61, 34, 97, 108, 108, 34] .raw [Node.verb [97, 62, 98, 123, 125] []],
      Node.verb [101, 110, 100] []]]

theorem exSimple2_simple : SimpleL simpleLaws exSimple2 :=
  simple_recogniser_sound exSimple2 (by decide +kernel)

example : htmlTokenize (serializeList exSimple) = (tokensOfList vtU exSimple, []) :=
  tokenize_serialize_universal exSimple exSimple_simple

/-- `<a><b></b><b></b><b></b></a>` -/
def docRepeated : List Node :=
  [.el [97] [97] [] .normal [.el [98] [98] [] .normal [], .el [98] [98] [] .normal [], .el [98] [98] [] .normal []]]

/-- the full statement for append_child without any hypothesis on the document -/
def AppendRepeatedFull : Prop :=
  ∀ (doc : List Node) (path : List Bytes) (value : Bytes),
    (Chain.new noCodec (fun s => s) [.html filterActionAppend path none value] [] : Chain Unit Unit).run
        htmlTokenize evalStandIn noCodec [serializeList doc] =
      serializeList (edit doc (.html filterActionAppend path none value))

/-- DESIGN §6-O2, by the witness: append_child on repeated sibling targets processes only every other one:
path `[a, b]`, value `V` on `<a><b></b><b></b><b></b></a>` gives `<a><b>V</b><b></b><b>V</b></a>`. -/
theorem append_repeated_targets_fails : ¬ AppendRepeatedFull := by
  intro h
  have := h docRepeated [[97], [98]] [86]
  revert this
  decide +kernel

/-- the same at token level; tokenizer and oracle are dummies: without a selector `Visitor.leave` consults neither -/
theorem append_repeated_targets_fails_tokens :
    runToks { plain := fun _ => ([], []), stream := fun _ _ => ([], [], []) } (fun _ _ => false)
        (vis .append none [86] [] [97] [[98]] false)
        (tokensOfList textToks docRepeated) ≠
      serializeList (editD (decOf fun _ _ => false) docRepeated (.html filterActionAppend [[97], [98]] none [86])) := by
  decide

/-- observation O7: append_child whose LAST path element does not occur inserts the value before
the end tag of the last element that was entered: path `[a, c]` on `<a><b></b></a>` gives
`<a><b></b>V</a>` although the reference edit (and the property) leave the document alone. -/
theorem append_absent_last_fails :
    (Chain.new noCodec (fun s => s) [.html filterActionAppend [[97], [99]] none [86]] [] : Chain Unit Unit).run
        htmlTokenize evalStandIn noCodec [serializeList [.el [97] [97] [] .normal [.el [98] [98] [] .normal []]]] =
      [60, 97, 62, 60, 98, 62, 60, 47, 98, 62, 86, 60, 47, 97, 62] ∧
    serializeList (edit [.el [97] [97] [] .normal [.el [98] [98] [] .normal []]]
        (.html filterActionAppend [[97], [99]] none [86])) =
      [60, 97, 62, 60, 98, 62, 60, 47, 98, 62, 60, 47, 97, 62] := by
  decide +kernel

/-- a path element matched as a DESCENDANT instead of a child (`<a><x><b></b></x></a>`, path `[a, b]`):
the filter edits it, the reference (child semantics) does not — outside the domain. -/
theorem descendant_not_child_fails :
    (Chain.new noCodec (fun s => s) [.html filterActionAppend [[97], [98]] none [86]] [] : Chain Unit Unit).run
        htmlTokenize evalStandIn noCodec
        [serializeList [.el [97] [97] [] .normal [.el [120] [120] [] .normal [.el [98] [98] [] .normal []]]]] ≠
      serializeList (edit [.el [97] [97] [] .normal [.el [120] [120] [] .normal [.el [98] [98] [] .normal []]]]
        (.html filterActionAppend [[97], [98]] none [86])) := by
  decide +kernel

/-- **Tokens that carry none of the names the machine is waiting for are copied verbatim**, in any
state: to the output, or into the element that is being buffered. -/
theorem outside_untouched (P : List Bytes) (toks : List Tok) (hn : ∀ t ∈ toks, NeutralTok P t)
    (s : HtmlSt) (out : Bytes) (hs : StNames P s) :
    toks.foldl (stepTok tk ev) (s, out) = push s out (rawsOf toks) :=
  fold_neutral tk ev toks hn s out hs

/-- … in particular a filter whose path names do not occur in the document leaves it as it is. -/
theorem absent_path_noop (v : Visitor) (doc : List Node) (hvt : VtLossless vt)
    (hfree : FreeL vt (v.before ++ v.cur :: v.after) doc) (hb : v.before = []) :
    runToks tk ev v (tokensOfList vt doc) = serializeList doc := by
  -- the fresh state waits for `v.cur` and buffers nothing: it copies
  have hp : Passive (v.before ++ v.cur :: v.after) (HtmlSt.new v) :=
    ⟨fun n hn => by simp [HtmlSt.new, Visitor.first, hb] at hn; subst hn; simp,
      fun n hn => by simp [HtmlSt.new] at hn, rfl⟩
  exact runToks_of_fold tk ev (by rw [hp.fold tk ev hfree, List.nil_append, rawsOf_tokensOfList vt hvt]) rfl

/-- The reference edit with the tree-level stand-in `selMatches` as decision is `edit` / `editAll` of Model/FilterDom.lean
(the `"s"` of the output of Drivers/C15.lean; the harness has its own, `edit` of harness/src/bin/c15.rs).  The theorems
above have `decOf ev` there: see the head of this file. -/
theorem reference_is_edit (doc : List Node) (fs : List BodyFilter) :
    editAllD selMatches doc fs = editAll doc fs :=
  editAllD_selMatches doc fs

/-- a doctype declaration; `HTML` (upper case) with `lang="a>b"`; `head` with a void `meta charset=utf-8` and a raw-text
`title` holding `a &lt; b`; `body class='x'` with a comment holding `<main>`, a `main` with `p`, a self-closing `br`, a
mixed-case `P id="2"`, and a raw-text `style` holding `p > a {} /* <main> */`; a trailing newline -/
def exDoc : List Node :=
  [Node.verb [60, 33, 68, 79, 67, 84, 89, 80, 69, 32, 104, 116, 109, 108, 62] [],
   Node.el [104, 116, 109, 108] [72, 84, 77, 76] [32, 108, 97, 110, 103, 61, 34, 97, 62, 98, 34] .normal [Node.el [104, 101, 97, 100] [104, 101, 97, 100] [] .normal [Node.el [109, 101, 116, 97] [109, 101, 116, 97] [32, 99, 104, 97, 114, 115, 101, 116, 61, 117, 116, 102, 45, 56] .void [], Node.el [116, 105, 116, 108, 101] [116, 105, 116, 108, 101] [] .raw [Node.verb [97, 32, 38, 108, 116, 59, 32, 98] []]], Node.el [98, 111, 100, 121] [98, 111, 100, 121] [32, 99, 108, 97, 115, 115, 61, 39, 120, 39] .normal [Node.verb [60, 33, 45, 45, 32, 60, 109, 97, 105, 110, 62, 32, 45, 45, 62] [], Node.el [109, 97, 105, 110] [109, 97, 105, 110] [] .normal [Node.el [112] [112] [] .normal [Node.verb [111, 110, 101] []], Node.el [98, 114] [98, 114] [] .selfClosing [], Node.el [112] [80] [32, 105, 100, 61, 34, 50, 34] .normal [Node.verb [116, 119, 111] []]], Node.el [115, 116, 121, 108, 101] [115, 116, 121, 108, 101] [] .raw [Node.verb [112, 32, 62, 32, 97, 32, 123, 125, 32, 47, 42, 32, 60, 109, 97, 105, 110, 62, 32, 42, 47] []]]],
   Node.verb [10] []]

/-- replace `html > body > main > p` (two siblings) by `<li>x</li>`; then append_child `<hr>` to `main` unless it
contains a `table`; then prepend_child `<base href=/>` to `head` -/
def exFilters : List BodyFilter :=
  [BodyFilter.html filterActionReplace [[104, 116, 109, 108], [98, 111, 100, 121], [109, 97, 105, 110], [112]] none [60, 108, 105, 62, 120, 60, 47, 108, 105, 62],
   BodyFilter.html filterActionAppend [[109, 97, 105, 110]] (some [116, 97, 98, 108, 101]) [60, 104, 114, 62],
   BodyFilter.html filterActionPrepend [[104, 101, 97, 100]] none [60, 98, 97, 115, 101, 32, 104, 114, 101, 102, 61, 47, 62]]

theorem exDoc_checked :
    stepsOKB htmlTokenize evalStandIn (vtOf htmlTokenize) exDoc exFilters = true := by
  -- evaluating `stepsOKB` as it stands makes the kernel run the tokenizer model over three whole documents, which is
  -- slow; through `vtFast` and `stepsFastB` it evaluates the recognisers of `Simple2` instead
  rw [← vtFast_eq]
  exact stepsOKB_of_fast _ _ _ _ (by decide +kernel)

/-- the chain model (tokenizer of C16, element-name selector oracle) on the serialised document gives
`…<head><base href=/><meta …>…<main><li>x</li><br/><li>x</li><hr></main>…`, by the theorem. -/
example :
    (Chain.new noCodec (fun s => s) exFilters [] : Chain Unit Unit).run htmlTokenize evalStandIn noCodec
        [serializeList exDoc] =
      [60, 33, 68, 79, 67, 84, 89, 80, 69, 32, 104, 116, 109, 108, 62, 60, 72, 84, 77, 76, 32, 108, 97, 110, 103, 61, 34, 97, 62, 98, 34, 62, 60, 104, 101, 97, 100, 62, 60, 98, 97, 115, 101, 32, 104, 114, 101, 102, 61, 47, 62, 60, 109, 101, 116, 97, 32, 99, 104, 97, 114, 115, 101, 116, 61, 117, 116, 102, 45, 56, 62, 60, 116, 105, 116, 108, 101, 62, 97, 32, 38, 108, 116, 59, 32, 98, 60, 47, 116, 105, 116, 108, 101, 62, 60, 47, 104, 101, 97, 100, 62, 60, 98, 111, 100, 121, 32, 99, 108, 97, 115, 115, 61, 39, 120, 39, 62, 60, 33, 45, 45, 32, 60, 109, 97, 105, 110, 62, 32, 45, 45, 62, 60, 109, 97, 105, 110, 62, 60, 108, 105, 62, 120, 60, 47, 108, 105, 62, 60, 98, 114, 47, 62, 60, 108, 105, 62, 120, 60, 47, 108, 105, 62, 60, 104, 114, 62, 60, 47, 109, 97, 105, 110, 62, 60, 115, 116, 121, 108, 101, 62, 112, 32, 62, 32, 97, 32, 123, 125, 32, 47, 42, 32, 60, 109, 97, 105, 110, 62, 32, 42, 47, 60, 47, 115, 116, 121, 108, 101, 62, 60, 47, 98, 111, 100, 121, 62, 60, 47, 72, 84, 77, 76, 62, 10] := by
  rw [filters_compose_checked htmlTokenize evalStandIn (fun s => s) exDoc exFilters exDoc_checked]
  decide +kernel

end Rio.C15
