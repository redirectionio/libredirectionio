/-
C07 for the body-filter code: no index / unwrap / subtraction site of
  src/filter/html_filter_body.rs, src/filter/html_body_action/{body_append,body_prepend,body_replace}.rs
can fire, for any input and any reachable state.

`Model/Filter.lean` totalises three kinds of sites (a zipper instead of `element_tree[position]`; `Tok.name : Bytes`
after the `tag_name().unwrap()`; `level : Int`).  Here they are modelled EXPLICITLY:
  * `PV`: the visitor with `element_tree : List Bytes` and `position : Nat`; every `element_tree[position]` is a checked
    lookup, `position -= 1` a checked subtraction under the code's guard `position as i32 > 0`; `none` = panic.
    `PSt` / `pfilterHtml`: `HtmlFilterBodyAction::filter` over `PV` (buffer `unwrap`s are under their `is_some()` guards:
    pattern matches).  `filter_no_panic`: from a well-formed visitor (`WF`: `position < len`, what `HtmlBodyVisitor::new`
    builds) `pfilterHtml` never panics, and for paths shorter than 2^31 elements (`Small`: `position as i32` is then
    `position`) it IS `filterHtml` of the model used everywhere else (`abs`), so all other theorems are about the code
    with its panic sites.
  * `tokenizeGoS`: `tokenizeGo` (the `Tokenizer::new` loop of append_child) where `tag_name()` returning `None` on a tag
    token is a panic; `tag_name_unwrap_ok`: it never happens, from `Rio.C16.tag_name_some`, which holds in every state
    satisfying the tokenizer's `Inv` and so covers the `unwrap()`s of `filter` too (its loop, `tokenizeGoX`, has no strict
    variant here).
  * `appendChildGoP`: `append_child` with `level : i32` checked at every `+= 1` / `-= 1`; `level_no_overflow`: no
    overflow for buffers of fewer than 2^31 - 1 tokens.
  * `split_off_in_range`: `err.valid_up_to() <= data.len()`.
  * the `?` exits other than the UTF-8 validation of the input (`validated_data` … `next_never_err`): every
    `String::from_utf8` on a slice of the tokenizer's buffer succeeds; said at the head of the last section.
-/
import RioModel.Proofs.FilterTok
import RioModel.Proofs.FilterUtf8
import RioModel.Props.C16
import RioModel.Proofs.FilterValid
import RioModel.Proofs.FilterNew

namespace Rio.C07
open Rio.Filter

/-- `BodyAppend` / `BodyPrepend` / `BodyReplace` as in the source -/
structure PV where
  kind : VKind
  tree : List Bytes
  position : Nat
  sel : Option Bytes
  content : Bytes
  isBuffering : Bool := false
  deriving Repr, DecidableEq

/-- `x as i32` for a `usize` (two's complement truncation to 32 bits) -/
def asI32 (n : Nat) : Int :=
  let m := n % 4294967296
  if m < 2147483648 then (m : Int) else (m : Int) - 4294967296

theorem pos_of_asI32_pos {n : Nat} (h : asI32 n > 0) : 0 < n := by
  unfold asI32 at h
  rcases Nat.eq_zero_or_pos n with rfl | hp
  · simp at h
  · exact hp

theorem asI32_small {n : Nat} (h : n < 2147483648) : asI32 n = n := by
  unfold asI32
  have : n % 4294967296 = n := Nat.mod_eq_of_lt (by omega)
  simp [this, h]

/-- `usize` subtraction: `none` = underflow panic (debug) -/
def checkedSub (a b : Nat) : Option Nat := if b ≤ a then some (a - b) else none

namespace PV

def hasSel (v : PV) : Bool :=
  match v.sel with
  | some s => !s.isEmpty
  | none => false

/-- the invariant the constructor establishes: `position < element_tree.len()` -/
def WF (v : PV) : Prop := v.position < v.tree.length

/-- `HtmlBodyVisitor::new`: `None` for an empty `element_tree` or an unknown action -/
def new (action : String) (path : List Bytes) (sel : Option Bytes) (value : Bytes) : Option PV :=
  if path.isEmpty then none
  else if action = Rio.Consts.filterActionAppend then some { kind := .append, tree := path, position := 0, sel := sel, content := value }
  else if action = Rio.Consts.filterActionPrepend then some { kind := .prepend, tree := path, position := 0, sel := sel, content := value }
  else if action = Rio.Consts.filterActionReplace then some { kind := .replace, tree := path, position := 0, sel := sel, content := value }
  else none

/-- `first()`: `self.element_tree[0]` -/
def first (v : PV) : Option Bytes := v.tree[0]?

/-- `enter(data)`; `none` = an `element_tree[..]` index out of range -/
def enter (v : PV) (data : Bytes) : Option ((Option Bytes × Option Bytes × Bool × Bytes) × PV) :=
  match v.tree[v.position]? with
  | none => none
  | some cur =>
    let nextLeave := some cur
    if v.position + 1 < v.tree.length then
      let v' := { v with position := v.position + 1 }
      match v'.tree[v'.position]? with
      | none => none
      | some nxt => some ((some nxt, nextLeave, false, data), v')
    else
      match v.kind with
      | .append => some ((none, nextLeave, v.hasSel, data), v)
      | .prepend =>
        if !v.hasSel then some ((none, nextLeave, v.isBuffering, data ++ v.content), v)
        else some ((none, nextLeave, true, data), { v with isBuffering := true })
      | .replace => some ((none, nextLeave, true, data), { v with isBuffering := true })

/-- the `next_leave` computation: `if self.position as i32 > 0 [&& guard] { self.position -= 1; Some(tree[position]) }` -/
def leaveMove (v : PV) (guard : Bool) : Option (Option Bytes × PV) :=
  if asI32 v.position > 0 ∧ guard then
    match checkedSub v.position 1 with
    | none => none
    | some p =>
      let v' := { v with position := p }
      match v'.tree[p]? with
      | none => none
      | some c => some (some c, v')
  else some (none, v)

/-- `leave(data)`; `none` = panic -/
def leave (tk : Tokenize) (ev : Bytes → Bytes → Bool) (v : PV) (data : Bytes) :
    Option ((Option Bytes × Option Bytes × Bytes) × PV) :=
  match v.tree[v.position]? with
  | none => none
  | some cur =>
    let nextEnter := some cur
    match v.kind with
    | .append =>
      let isProcessing := decide (v.position + 1 ≥ v.tree.length)
      match v.leaveMove true with
      | none => none
      | some (nextLeave, v1) =>
        if isProcessing then
          if v.hasSel then
            if !ev data (v.sel.getD []) then some ((nextEnter, nextLeave, appendChild tk data v.content), v1)
            else some ((nextEnter, nextLeave, data), v1)
          else some ((nextEnter, nextLeave, v.content ++ data), v1)
        else some ((nextEnter, nextLeave, data), v1)
    | .prepend =>
      match v.leaveMove true with
      | none => none
      | some (nextLeave, v1) =>
        if v.isBuffering && v.hasSel then
          let v2 := { v1 with isBuffering := false }
          if !ev data (v.sel.getD []) then some ((nextEnter, nextLeave, prependChild tk data v.content), v2)
          else some ((nextEnter, nextLeave, data), v2)
        else some ((nextEnter, nextLeave, data), v1)
    | .replace =>
      match v.leaveMove (!v.isBuffering) with
      | none => none
      | some (nextLeave, v1) =>
        if v.isBuffering then
          let v2 := { v1 with isBuffering := false }
          if !v.hasSel then some ((nextEnter, nextLeave, v.content), v2)
          else if ev data (v.sel.getD []) then some ((nextEnter, nextLeave, v.content), v2)
          else some ((nextEnter, nextLeave, data), v2)
        else some ((nextEnter, nextLeave, data), v1)

/-- the zipper of the model: `before` reversed, `cur = tree[position]`, `after` -/
def abs (v : PV) : Visitor :=
  { kind := v.kind, before := (v.tree.take v.position).reverse, cur := v.tree.getD v.position [],
    after := v.tree.drop (v.position + 1), sel := v.sel, content := v.content, isBuffering := v.isBuffering }

end PV

theorem PV.new_eq (action : String) (path : List Bytes) (sel : Option Bytes) (value : Bytes) :
    PV.new action path sel value =
      (Visitor.new action path sel value).map fun w =>
        { kind := w.kind, tree := path, position := 0, sel := sel, content := value } := by
  cases path with
  | nil => rfl
  | cons p ps =>
    simp only [PV.new, Visitor.new, List.isEmpty_cons, Bool.false_eq_true, if_false, apply_ite (Option.map _),
      Option.map_some, Option.map_none]

theorem new_cases {action : String} {path : List Bytes} {sel : Option Bytes} {value : Bytes} {v : PV}
    (h : PV.new action path sel value = some v) :
    ∃ k p ps, path = p :: ps ∧ v = { kind := k, tree := p :: ps, position := 0, sel := sel, content := value } ∧
      Visitor.new action (p :: ps) sel value = some { kind := k, cur := p, after := ps, sel := sel, content := value } := by
  rw [PV.new_eq] at h
  obtain ⟨w, hw, rfl⟩ := Option.map_eq_some_iff.mp h
  obtain ⟨k, p, ps, rfl, rfl⟩ := visitor_new_shape hw
  exact ⟨k, p, ps, rfl, rfl, hw⟩

theorem new_wf {action : String} {path : List Bytes} {sel : Option Bytes} {value : Bytes} {v : PV}
    (h : PV.new action path sel value = some v) : v.WF ∧ PV.new action path sel value = some v ∧
      Visitor.new action path sel value = some v.abs := by
  obtain ⟨k, p, ps, rfl, rfl, hv⟩ := new_cases h
  exact ⟨Nat.succ_pos _, h, hv⟩

theorem first_some (v : PV) (h : v.WF) : ∃ f, v.first = some f := by
  unfold PV.first PV.WF at *
  have : 0 < v.tree.length := by omega
  exact ⟨v.tree[0], by simp [this]⟩

theorem getElem?_of_wf (v : PV) (h : v.WF) : v.tree[v.position]? = some (v.tree.getD v.position []) := by
  unfold PV.WF at h
  simp [List.getD, h]

theorem abs_after_ne (v : PV) : (v.abs.after ≠ []) ↔ v.position + 1 < v.tree.length := by
  simp [PV.abs, List.drop_eq_nil_iff]

theorem abs_before_ne (v : PV) (h : v.WF) : (v.abs.before ≠ []) ↔ 0 < v.position := by
  unfold PV.WF at h
  simp only [PV.abs, ne_eq, List.reverse_eq_nil_iff, List.take_eq_nil_iff, not_or]
  constructor
  · intro ⟨h1, _⟩; omega
  · intro hp; constructor
    · omega
    · intro hc; rw [hc] at h; simp at h

theorem abs_advance (v : PV) (h : v.position + 1 < v.tree.length) :
    ({ v with position := v.position + 1 } : PV).abs = v.abs.advance := by
  have hd : v.tree.drop (v.position + 1) = v.tree[v.position + 1] :: v.tree.drop (v.position + 2) := by
    rw [List.drop_eq_getElem_cons h]
  have hlt : v.position < v.tree.length := by omega
  simp only [PV.abs, Visitor.advance, hd]
  simp only [List.getD, List.getElem?_eq_getElem h, List.getElem?_eq_getElem hlt, Option.getD_some]
  congr 1
  rw [List.take_add_one, List.getElem?_eq_getElem hlt]
  simp

theorem abs_retreat (v : PV) (h : v.WF) (hp : 0 < v.position) :
    ({ v with position := v.position - 1 } : PV).abs = v.abs.retreat := by
  unfold PV.WF at h
  obtain ⟨p, hp'⟩ : ∃ p, v.position = p + 1 := ⟨v.position - 1, by omega⟩
  have hlt : p < v.tree.length := by omega
  have hlt1 : p + 1 < v.tree.length := by omega
  simp only [PV.abs, Visitor.retreat, hp', Nat.add_sub_cancel]
  rw [List.take_add_one, List.getElem?_eq_getElem hlt]
  simp only [Option.toList_some, List.reverse_append, List.reverse_cons, List.reverse_nil, List.nil_append,
    List.singleton_append]
  simp only [List.getD, List.getElem?_eq_getElem hlt, List.getElem?_eq_getElem hlt1, Option.getD_some]
  congr 1
  rw [List.drop_eq_getElem_cons hlt1]

theorem enter_ok (v : PV) (data : Bytes) (h : v.WF) :
    ∃ r v', v.enter data = some (r, v') ∧ v'.WF ∧ v'.tree = v.tree ∧ v.abs.enter data = (r, v'.abs) := by
  unfold PV.enter Visitor.enter
  rw [getElem?_of_wf v h]
  by_cases hlt : v.position + 1 < v.tree.length
  · have hwf' : ({ v with position := v.position + 1 } : PV).WF := hlt
    have := getElem?_of_wf _ hwf'
    simp only [if_pos hlt, if_pos ((abs_after_ne v).mpr hlt), ← abs_advance v hlt, this]
    exact ⟨_, _, rfl, hwf', rfl, rfl⟩
  · have hk : v.abs.kind = v.kind := rfl
    have hs : v.abs.hasSel = v.hasSel := rfl
    simp only [if_neg hlt, if_neg (fun hc => hlt ((abs_after_ne v).mp hc)), hk, hs]
    cases v.kind with
    | append => exact ⟨_, _, rfl, h, rfl, rfl⟩
    | prepend => cases v.hasSel <;> exact ⟨_, _, rfl, h, rfl, rfl⟩
    | replace => exact ⟨_, _, rfl, h, rfl, rfl⟩

/-- **`enter` never panics**, keeps `position < len`, and is the model's `enter`. -/
theorem enter_no_panic (v : PV) (data : Bytes) (h : v.WF) :
    ∃ r v', v.enter data = some (r, v') ∧ v'.WF ∧ v.abs.enter data = (r, v'.abs) :=
  let ⟨r, v', e, w, _, a⟩ := enter_ok v data h
  ⟨r, v', e, w, a⟩

theorem leaveMove_ok (v : PV) (g : Bool) (h : v.WF) :
    ∃ nl p, v.leaveMove g = some (nl, { v with position := p }) ∧ p < v.tree.length ∧
      (v.tree.length < 2147483648 → v.abs.leaveMove g = (nl, ({ v with position := p } : PV).abs)) := by
  unfold PV.leaveMove
  by_cases hc : asI32 v.position > 0 ∧ g = true
  · rw [if_pos hc]
    have hp := pos_of_asI32_pos hc.1
    have hsub : checkedSub v.position 1 = some (v.position - 1) := by simp [checkedSub]; omega
    rw [hsub]
    simp only
    have hwf' : ({ v with position := v.position - 1 } : PV).WF := by unfold PV.WF at *; simp; omega
    have := getElem?_of_wf _ hwf'
    simp only at this
    rw [this]
    refine ⟨_, _, rfl, hwf', fun _ => ?_⟩
    have hne := (abs_before_ne v h).mpr hp
    simp only [Visitor.leaveMove, hne, hc.2, ne_eq, not_false_eq_true, and_self, if_true]
    rw [← abs_retreat v h hp]
    rfl
  · rw [if_neg hc]
    refine ⟨none, v.position, rfl, h, fun hlen => ?_⟩
    have hsm : asI32 v.position = v.position := asI32_small (by unfold PV.WF at h; omega)
    have hc' : ¬ (v.abs.before ≠ [] ∧ g = true) := by
      intro ⟨h1, h2⟩
      apply hc
      refine ⟨?_, h2⟩
      rw [hsm]
      exact_mod_cast (abs_before_ne v h).mp h1
    simp only [Visitor.leaveMove, hc', if_false]

/-- the guarded decrement never underflows and the following lookup is in range -/
theorem leaveMove_no_panic (v : PV) (g : Bool) (h : v.WF) :
    ∃ nl v', v.leaveMove g = some (nl, v') ∧ v'.WF ∧ v'.kind = v.kind ∧ v'.sel = v.sel ∧ v'.content = v.content ∧
      v'.isBuffering = v.isBuffering ∧
      (v.tree.length < 2147483648 → v.abs.leaveMove g = (nl, v'.abs)) :=
  let ⟨nl, _, e, w, r⟩ := leaveMove_ok v g h
  ⟨nl, _, e, w, rfl, rfl, rfl, rfl, r⟩

theorem enter_tree (v : PV) (data : Bytes) (r : Option Bytes × Option Bytes × Bool × Bytes) (v' : PV)
    (h : v.enter data = some (r, v')) : v'.tree = v.tree := by
  have w : v.WF := by
    refine Nat.lt_of_not_le fun hle => ?_
    simp [PV.enter, List.getElem?_eq_none hle] at h
  obtain ⟨_, _, e, _, t, _⟩ := enter_ok v data w
  cases h.symm.trans e; exact t

theorem leaveMove_tree (v : PV) (g : Bool) (nl : Option Bytes) (v' : PV)
    (h : v.leaveMove g = some (nl, v')) : v'.tree = v.tree := by
  unfold PV.leaveMove at h
  split at h
  · split at h
    · cases h
    · simp only at h
      split at h <;> cases h; rfl
  · cases h; rfl

/-- an exit of `leave`: it returns `leaveMove`'s `next_leave` and visitor, the visitor as it is (`.1`) or with `is_buffering`
reset (`.2`), and so does the model -/
theorem leave_exit {v : PV} {p : Nat} {nl : Option Bytes} {lm : Option Bytes × Visitor} (w1 : p < v.tree.length)
    (r1 : v.tree.length < 2147483648 → lm = (nl, ({ v with position := p } : PV).abs)) (o : Bytes) :
    (∃ r v', some ((some (v.tree.getD v.position []), nl, o), ({ v with position := p } : PV)) = some (r, v') ∧ v'.WF ∧
      v'.tree = v.tree ∧ (v.tree.length < 2147483648 → ((some v.abs.cur, lm.1, o), lm.2) = (r, v'.abs))) ∧
    (∃ r v', some ((some (v.tree.getD v.position []), nl, o), ({ v with position := p, isBuffering := false } : PV)) =
        some (r, v') ∧ v'.WF ∧ v'.tree = v.tree ∧
      (v.tree.length < 2147483648 → ((some v.abs.cur, lm.1, o), { lm.2 with isBuffering := false }) = (r, v'.abs))) :=
  ⟨⟨_, _, rfl, w1, rfl, fun hlen => by rw [r1 hlen]; rfl⟩, ⟨_, _, rfl, w1, rfl, fun hlen => by rw [r1 hlen]; rfl⟩⟩

/-- **`leave` never panics**, keeps `position < len`, and (for paths shorter than 2^31 elements, where
`position as i32` is `position`) is the model's `leave`. -/
theorem leave_no_panic (tk : Tokenize) (ev : Bytes → Bytes → Bool) (v : PV) (data : Bytes) (h : v.WF) :
    ∃ r v', v.leave tk ev data = some (r, v') ∧ v'.WF ∧ v'.tree = v.tree ∧
      (v.tree.length < 2147483648 → v.abs.leave tk ev data = (r, v'.abs)) := by
  have hproc : decide (v.position + 1 ≥ v.tree.length) = decide (v.abs.after = []) := by
    rw [decide_eq_decide, ← Decidable.not_iff_not, ← ne_eq, abs_after_ne v]
    omega
  have hsel : v.sel.getD [] = v.abs.selector := rfl
  have hhs : v.hasSel = v.abs.hasSel := rfl
  have hbuf : v.isBuffering = v.abs.isBuffering := rfl
  have hk : v.abs.kind = v.kind := rfl
  -- with the tests of the two sides identified (they agree by `rfl`) both are the same if-tree; the tests are made
  -- boolean variables so that each case reduces by computation
  unfold PV.leave Visitor.leave
  rw [getElem?_of_wf v h]
  simp only [hproc, hsel, hhs, hbuf]
  rw [hk]
  generalize v.abs.hasSel = hasSel
  generalize ev data v.abs.selector = selected
  cases v.kind with
  | append =>
    obtain ⟨nl, p, e1, w1, r1⟩ := leaveMove_ok v true h
    rw [e1]
    generalize v.abs.leaveMove true = lm at r1 ⊢
    simp only [decide_eq_true_eq]
    by_cases ha : v.abs.after = []
    · rw [if_pos ha, if_pos ha]
      cases hasSel <;> cases selected <;> exact (leave_exit w1 r1 _).1
    · rw [if_neg ha, if_neg ha]
      exact (leave_exit w1 r1 _).1
  | prepend =>
    obtain ⟨nl, p, e1, w1, r1⟩ := leaveMove_ok v true h
    rw [e1]
    generalize v.abs.leaveMove true = lm at r1 ⊢
    cases v.abs.isBuffering
    · exact (leave_exit w1 r1 _).1
    · cases hasSel
      · exact (leave_exit w1 r1 _).1
      · cases selected <;> exact (leave_exit w1 r1 _).2
  | replace =>
    obtain ⟨nl, p, e1, w1, r1⟩ := leaveMove_ok v (!v.abs.isBuffering) h
    rw [e1]
    generalize v.abs.leaveMove (!v.abs.isBuffering) = lm at r1 ⊢
    cases v.abs.isBuffering
    · exact (leave_exit w1 r1 _).1
    · cases hasSel <;> cases selected <;> exact (leave_exit w1 r1 _).2

/-- `HtmlSt` of Model/Filter.lean (which glosses the fields: `stack` = `current_buffer` and its `previous` chain, `last` =
`last_buffer`) with the visitor as `PV` -/
structure PSt where
  enter : Option Bytes
  leave : Option Bytes := none
  pv : PV
  stack : List Link := []
  last : Bytes := []
  /-- `last_context` -/
  ctx : Bytes := []

def PSt.abs (s : PSt) : HtmlSt :=
  { enter := s.enter, leave := s.leave, visitor := s.pv.abs, stack := s.stack, last := s.last, ctx := s.ctx }

/-- `HtmlFilterBodyAction::new`: `visitor.first()` is `element_tree[0]` -/
def PSt.new (v : PV) : Option PSt := v.first.map fun f => { enter := some f, pv := v }

/-- `on_start_tag_token`; `none` = panic -/
def ponStart (s : PSt) (name data : Bytes) : Option (PSt × Bytes) :=
  if s.enter = some name then
    match s.pv.enter data with
    | none => none
    | some ((ne, nl, startBuffer, data'), v') =>
      let s1 : PSt := { s with enter := ne, leave := nl, pv := v' }
      if startBuffer then some ({ s1 with stack := ⟨[], name⟩ :: s1.stack }, data') else some (s1, data')
  else some (s, data)

/-- `on_end_tag_token`; the `current_buffer.as_ref().unwrap()`s are under `current_buffer.is_some()`: pattern matches -/
def ponEnd (tk : Tokenize) (ev : Bytes → Bytes → Bool) (s : PSt) (name data : Bytes) : Option (PSt × Bytes) :=
  let tm := topMatches s.stack name
  let buffer := if tm then topBuffer s.stack ++ data else data
  let r : Option (PSt × Bytes) :=
    if s.leave = some name then
      match s.pv.leave tk ev buffer with
      | none => none
      | some ((ne, nl, b), v') => some ({ s with enter := ne, leave := nl, pv := v' }, b)
    else some (s, buffer)
  match r with
  | none => none
  | some (s1, buffer1) => if tm then some ({ s1 with stack := s1.stack.tail }, buffer1) else some (s1, buffer1)

/-- `ppush`, `pstepTok`, `pfold`: `push`, `stepTok` and the fold of `stepTok` over the tokens (Model/Filter.lean) on `PSt`,
a `none` (panic) of `ponStart` / `ponEnd` passed through -/
def ppush (s : PSt) (out data : Bytes) : PSt × Bytes :=
  match s.stack with
  | l :: rest => ({ s with stack := { l with buffer := l.buffer ++ data } :: rest }, out)
  | [] => (s, out ++ data)

def pstepTok (tk : Tokenize) (ev : Bytes → Bytes → Bool) (so : PSt × Bytes) (t : Tok) : Option (PSt × Bytes) :=
  let (s, out) := so
  match t.kind with
  | .startTag =>
    match ponStart s t.name t.raw with
    | none => none
    | some (s1, d1) =>
      if isVoid t.name then
        match ponEnd tk ev s1 t.name d1 with
        | none => none
        | some (s2, d2) => some (ppush s2 out d2)
      else some (ppush s1 out d1)
  | .endTag =>
    match ponEnd tk ev s t.name t.raw with
    | none => none
    | some (s1, d1) => some (ppush s1 out d1)
  | .selfClosing =>
    match ponStart s t.name t.raw with
    | none => none
    | some (s1, d1) =>
      match ponEnd tk ev s1 t.name d1 with
      | none => none
      | some (s2, d2) => some (ppush s2 out d2)
  | _ => some (ppush s out t.raw)

def pfold (tk : Tokenize) (ev : Bytes → Bytes → Bool) : List Tok → PSt × Bytes → Option (PSt × Bytes)
  | [], so => some so
  | t :: ts, so =>
    match pstepTok tk ev so t with
    | none => none
    | some so' => pfold tk ev ts so'

/-- `HtmlFilterBodyAction::filter` (the tokenizer is built with `new_fragment(data, last_context)`, the
loop stops at the first cut token; `raw_tag()` and `err()` are field reads): outer `none` = PANIC, inner `none` = `Err`
(invalid UTF-8).  `view` (Proofs/FilterStreamLaws.lean) = the tokens the loop processes, what it keeps, the context. -/
def pfilterHtml (tk : Tokenize) (ev : Bytes → Bytes → Bool) (s : PSt) (input : Bytes) : Option (Option (PSt × Bytes)) :=
  match utf8Split (s.last ++ input) with
  | none => some none
  | some (data, pending) =>
    match pfold tk ev (view tk s.ctx data).todo (s, []) with
    | none => none
    | some (s', out) =>
      some (some ({ s' with last := (view tk s.ctx data).tail ++ pending, ctx := (view tk s.ctx data).ctx' }, out))

/-- paths shorter than 2^31 elements (`position as i32` is then `position`; only used for the refinement) -/
def Small (s : PSt) : Prop := s.pv.tree.length < 2147483648

/-- what the token loop keeps: the visitor is well formed and its path is `T` (the path never changes, so the bound
`T.length < 2^31` under which `position as i32` is exact is one fixed proposition for the whole run) -/
def PathInv (T : List Bytes) (s : PSt) : Prop := s.pv.WF ∧ s.pv.tree = T

/-- `on_start_tag_token`, called if `c` (the token is an opener) -/
theorem ponStart_ok {T : List Bytes} (c : Bool) (s : PSt) (name data : Bytes) (h : PathInv T s) :
    ∃ s1 d1, (if c then ponStart s name data else some (s, data)) = some (s1, d1) ∧ PathInv T s1 ∧
      (if c then onStart s.abs name data else (s.abs, data)) = (s1.abs, d1) := by
  cases c
  · exact ⟨s, data, rfl, h, rfl⟩
  simp only [if_true]
  unfold ponStart
  rw [onStart_eq]
  have he : s.abs.enter = s.enter := rfl
  rw [he]
  by_cases he : s.enter = some name
  · rw [if_pos he, if_pos he]
    obtain ⟨⟨ne, nl, sb, d'⟩, v', e, w, ht, ab⟩ := enter_ok s.pv data h.1
    have ab' : s.abs.visitor.enter data = ((ne, nl, sb, d'), v'.abs) := ab
    rw [e, ab']
    cases sb <;> exact ⟨_, _, rfl, ⟨w, ht.trans h.2⟩, rfl⟩
  · rw [if_neg he, if_neg he]
    exact ⟨s, data, rfl, h, rfl⟩

/-- `on_end_tag_token`, called if `c` (the token is a closer) -/
theorem ponEnd_ok (tk : Tokenize) (ev : Bytes → Bytes → Bool) {T : List Bytes} (c : Bool) (s : PSt) (name data : Bytes)
    (h : PathInv T s) :
    ∃ s1 d1, (if c then ponEnd tk ev s name data else some (s, data)) = some (s1, d1) ∧ PathInv T s1 ∧
      (T.length < 2147483648 → (if c then onEnd tk ev s.abs name data else (s.abs, data)) = (s1.abs, d1)) := by
  cases c
  · exact ⟨s, data, rfl, h, fun _ => rfl⟩
  simp only [if_true]
  unfold ponEnd
  rw [onEnd_eq]
  have hst : s.abs.stack = s.stack := rfl
  have hl : s.abs.leave = s.leave := rfl
  simp only [hst, hl]
  generalize (if topMatches s.stack name = true then topBuffer s.stack ++ data else data) = buffer
  generalize topMatches s.stack name = tm
  by_cases hl : s.leave = some name
  · obtain ⟨⟨ne, nl, b⟩, v', e, w, ht, ab⟩ := leave_no_panic tk ev s.pv buffer h.1
    simp only [if_pos hl, e]
    cases tm <;> exact ⟨_, _, rfl, ⟨w, ht.trans h.2⟩,
      fun hs => by rw [show s.abs.visitor.leave tk ev buffer = _ from ab (h.2 ▸ hs)]; rfl⟩
  · simp only [if_neg hl]
    cases tm <;> exact ⟨_, _, rfl, h, fun _ => rfl⟩

theorem ppush_ok {T : List Bytes} (s : PSt) (out d : Bytes) (h : PathInv T s) :
    PathInv T (ppush s out d).1 ∧ push s.abs out d = ((ppush s out d).1.abs, (ppush s out d).2) := by
  unfold ppush push
  have hst : s.abs.stack = s.stack := rfl
  rw [hst]
  cases s.stack with
  | nil => exact ⟨h, rfl⟩
  | cons l rest => exact ⟨h, rfl⟩

/-- `pstepTok` in the shape of the model's `stepTok_eq` -/
theorem pstepTok_eq (tk : Tokenize) (ev : Bytes → Bytes → Bool) (s : PSt) (out : Bytes) (t : Tok) :
    pstepTok tk ev (s, out) t =
      match (if t.kind == .startTag || t.kind == .selfClosing then ponStart s t.name t.raw else some (s, t.raw)) with
      | none => none
      | some (s1, d1) =>
        match (if t.kind == .endTag || t.kind == .selfClosing || (t.kind == .startTag && isVoid t.name) then
            ponEnd tk ev s1 t.name d1 else some (s1, d1)) with
        | none => none
        | some (s2, d2) => some (ppush s2 out d2) := by
  unfold pstepTok
  cases t.kind
  case startTag => cases isVoid t.name <;> rfl
  all_goals rfl

theorem pstepTok_ok (tk : Tokenize) (ev : Bytes → Bytes → Bool) {T : List Bytes} (s : PSt) (out : Bytes) (t : Tok)
    (h : PathInv T s) :
    ∃ s1 o1, pstepTok tk ev (s, out) t = some (s1, o1) ∧ PathInv T s1 ∧
      (T.length < 2147483648 → stepTok tk ev (s.abs, out) t = (s1.abs, o1)) := by
  rw [pstepTok_eq, stepTok_eq]
  obtain ⟨s1, d1, e1, h1, a1⟩ := ponStart_ok (t.kind == .startTag || t.kind == .selfClosing) s t.name t.raw h
  obtain ⟨s2, d2, e2, h2, a2⟩ :=
    ponEnd_ok tk ev (t.kind == .endTag || t.kind == .selfClosing || (t.kind == .startTag && isVoid t.name)) s1 t.name d1 h1
  obtain ⟨p1, p2⟩ := ppush_ok s2 out d2 h2
  rw [e1]
  simp only [e2, a1]
  exact ⟨_, _, rfl, p1, fun hs => by rw [a2 hs]; exact p2⟩

theorem pfold_ok (tk : Tokenize) (ev : Bytes → Bytes → Bool) {T : List Bytes} : ∀ (ts : List Tok) (s : PSt) (out : Bytes),
    PathInv T s →
    ∃ s1 o1, pfold tk ev ts (s, out) = some (s1, o1) ∧ PathInv T s1 ∧
      (T.length < 2147483648 → ts.foldl (stepTok tk ev) (s.abs, out) = (s1.abs, o1))
  | [], s, out, h => ⟨s, out, rfl, h, fun _ => rfl⟩
  | t :: ts, s, out, h => by
    obtain ⟨s1, o1, e1, h1, a1⟩ := pstepTok_ok tk ev s out t h
    obtain ⟨s2, o2, e2, h2, a2⟩ := pfold_ok tk ev ts s1 o1 h1
    exact ⟨s2, o2, by simp [pfold, e1, e2], h2, fun hs => by rw [List.foldl_cons, a1 hs, a2 hs]⟩

/-- For every tokenizer, selector oracle, input bytes and every state whose visitor satisfies
`position < element_tree.len()` (established by `HtmlBodyVisitor::new`, preserved here): `HtmlFilterBodyAction::filter`
with all its index / unwrap / subtraction sites explicit does not panic, keeps the invariant, and (for paths shorter
than 2^31 elements) returns exactly what the model `filterHtml` returns — `Err` on invalid UTF-8 included. -/
theorem filter_no_panic (tk : Tokenize) (ev : Bytes → Bytes → Bool) (s : PSt) (x : Bytes) (h : s.pv.WF) :
    ∃ r, pfilterHtml tk ev s x = some r ∧
      (match r with
       | none => filterHtml tk ev s.abs x = none
       | some (s', o) => s'.pv.WF ∧ s'.pv.tree = s.pv.tree ∧ (Small s → filterHtml tk ev s.abs x = some (s'.abs, o))) := by
  unfold pfilterHtml
  rw [filterHtml_view]
  have hl : s.abs.last = s.last := rfl
  have hc : s.abs.ctx = s.ctx := rfl
  rw [hl, hc]
  cases hsp : utf8Split (s.last ++ x) with
  | none => exact ⟨none, rfl, rfl⟩
  | some ap =>
    obtain ⟨data, pending⟩ := ap
    simp only
    obtain ⟨s1, o1, e1, ⟨w1, t1⟩, a1⟩ := pfold_ok tk ev (view tk s.ctx data).todo s [] ⟨h, rfl⟩
    rw [e1]
    refine ⟨_, rfl, w1, t1, fun hs => ?_⟩
    rw [a1 hs]
    rfl

/-- the freshly built stage: `first()` does not panic, the invariant holds, and it is the model's fresh stage -/
theorem new_no_panic (action : String) (path : List Bytes) (sel : Option Bytes) (value : Bytes) (v : PV)
    (h : PV.new action path sel value = some v) :
    ∃ s, PSt.new v = some s ∧ s.pv.WF ∧ s.abs = HtmlSt.new v.abs := by
  obtain ⟨k, p, ps, rfl, rfl, -⟩ := new_cases h
  exact ⟨{ enter := some p, pv := _ }, rfl, Nat.succ_pos _, rfl⟩

/-! ### `tag_name().unwrap()` -/

open Rio.Html Rio.Html.Tokenizer in
/-- `tokenizeGo` (Model/FilterHtml.lean) where `tag_name()` returning `None` on a start / end / self-closing tag token
is a PANIC (`tag_name.unwrap()` in `append_child`; for the loop of `filter`, `tokenizeGoX`, see the head of the file).
Stricter than either loop: `append_child` unwraps on start tags only, `filter` on end and self-closing tags (on a start tag
it has `unwrap_or_default()`). -/
def tokenizeGoS : Nat → Tokenizer → List Tok → Option (List Tok × Rio.Filter.Bytes)
  | 0, _, _ => none
  | n + 1, t, acc =>
    let t1 := t.next
    if t1.panic || t1.hang || t1.utf8Err then none
    else if t1.token == .error then
      match t1.raw, t1.buffered with
      | some r, some b => some (acc.reverse, r ++ b)
      | _, _ => none
    else
      match t1.raw with
      | none => none
      | some r =>
        if Tokenizer.isTagLike t1.token then
          match t1.tagName with
          | (.ok (some nm, _), t2) => tokenizeGoS n t2 ({ kind := kindOf t1.token, raw := r, name := nm } :: acc)
          | _ => none
        else tokenizeGoS n t1 ({ kind := kindOf t1.token, raw := r } :: acc)

open Rio.Html Rio.Html.Tokenizer in
/-- **The `unwrap()` on `tag_name()` never fires**: from every state satisfying the tokenizer's invariant the strict loop is
the loop the model uses (from `Rio.C16.tag_name_some`: `tag_name()` is `Some` on every tag token). -/
theorem tag_name_unwrap_ok : ∀ (n : Nat) (t : Tokenizer) (acc : List Tok), Inv t →
    tokenizeGoS n t acc = tokenizeGo n t acc
  | 0, _, _, _ => rfl
  | n + 1, t, acc, hi => by
    have hi1 : Inv (next t) := next_inv' t hi
    rw [tokenizeGoS, tokenizeGo]
    cases hr : (next t).raw with
    | none => rfl
    | some r =>
      by_cases hk : Tokenizer.isTagLike (next t).token = true
      · simp only [if_pos hk]
        have hs := (Rio.C16.tag_name_some t hi hk).1
        cases htn : tagName (next t) with
        | mk res t2 =>
          rw [htn] at hs
          cases res with
          | ok x =>
            obtain ⟨nm, b⟩ := x
            cases nm with
            | some nm =>
              have hfr := tagName_frame (next t) (some nm, b) (by rw [htn]) hi1
              rw [htn] at hfr
              simp only [tag_name_unwrap_ok n t2 _ hfr.1]
              rfl
            | none =>
              exfalso
              split at hs <;> cases hs
          | utf8Err => rfl
          | panic => rfl
      · simp only [if_neg hk, tag_name_unwrap_ok n (next t) _ hi1]
        rfl

/-- on the level of the filters: the strict tokenisation of any buffer is `htmlTokenize?` -/
theorem htmlTokenize_unwrap_ok (bs : Rio.Filter.Bytes) :
    tokenizeGoS (bs.length + 2) (Rio.Html.Tokenizer.new bs.toArray) [] = htmlTokenize? bs :=
  tag_name_unwrap_ok _ _ [] ⟨Nat.le_refl _, ⟨Nat.zero_le _, rfl, rfl, rfl⟩, Rio.Html.Tokenizer.TagOk_nil⟩

/-! ### `level -= 1` in `append_child` (`level : i32`) -/

def i32ok (l : Int) : Bool := decide (-2147483648 ≤ l) && decide (l ≤ 2147483647)

/-- `append_child`'s loop with every `level += 1` / `level -= 1` checked for `i32` overflow (what a debug build does);
outer `none` = overflow panic -/
def appendChildGoP (child : Bytes) : List Tok → Bytes → Int → Bytes → Option (Option Bytes)
  | [], _, _, _ => some none
  | t :: ts, rest, level, out =>
    let level1 := if t.kind = .startTag then (if isVoid t.name then level else level + 1) else level
    -- `level += 1; if void { level -= 1 }`: the intermediate value is checked too
    if t.kind = .startTag ∧ !i32ok (level + 1) then none
    else if t.kind = .endTag then
      let level2 := level1 - 1
      if !i32ok level2 then none
      else if level2 = 0 then some (some (out ++ child ++ t.raw ++ rawsOf ts ++ rest))
      else appendChildGoP child ts rest level2 (out ++ t.raw)
    else appendChildGoP child ts rest level1 (out ++ t.raw)

theorem i32ok_of_natAbs_le {l : Int} (h : l.natAbs ≤ 2147483647) : i32ok l = true := by
  simp only [i32ok, Bool.and_eq_true, decide_eq_true_eq]
  omega

/-- **No overflow of `level`**: `|level|` grows by at most one per token, so for a buffer of fewer than 2^31 - 1 tokens
(a fortiori for every buffer shorter than 2 GiB: `Rio.C16.token_count_le`) the checked loop is the model's loop. -/
theorem level_no_overflow (child : Bytes) : ∀ (ts : List Tok) (rest : Bytes) (level : Int) (out : Bytes),
    level.natAbs + ts.length < 2147483647 →
    appendChildGoP child ts rest level out = some (appendChildGo child ts rest level out)
  | [], rest, level, out, _ => rfl
  | t :: ts, rest, level, out, hb => by
    rw [appendChildGoP, appendChildGo]
    rw [List.length_cons] at hb
    have hup : (level + 1).natAbs ≤ level.natAbs + 1 := Int.natAbs_add_le level 1
    have h1 : i32ok (level + 1) = true := i32ok_of_natAbs_le (Nat.le_trans hup (by omega))
    rw [if_neg (by rw [h1]; exact fun h => Bool.false_ne_true h.2)]
    generalize hl1 : (if t.kind = TokKind.startTag then (if isVoid t.name = true then level else level + 1) else level) = l1
    have hl1b : l1.natAbs ≤ level.natAbs + 1 := by
      rw [← hl1]
      split
      · split
        · exact Nat.le_succ _
        · exact hup
      · exact Nat.le_succ _
    have hdown : (l1 - 1).natAbs ≤ l1.natAbs + 1 := Int.natAbs_sub_le l1 1
    have h2 : i32ok (l1 - 1) = true := i32ok_of_natAbs_le (Nat.le_trans hdown (by omega))
    simp only [h2, Bool.not_true, Bool.false_eq_true, if_false]
    by_cases he : t.kind = TokKind.endTag
    · rw [if_pos he, if_pos he]
      have hl : l1 = level := by rw [← hl1, if_neg (by rw [he]; exact TokKind.noConfusion)]
      split
      · rfl
      · rw [hl] at hdown ⊢
        exact level_no_overflow child ts rest (level - 1) (out ++ t.raw) (by omega)
    · rw [if_neg he, if_neg he]
      exact level_no_overflow child ts rest l1 (out ++ t.raw) (by omega)

/-! ### `data.split_off(err.valid_up_to())` -/

theorem split_off_in_range (d : Bytes) (n : Nat) (h : utf8Scan d = .incomplete n) : n ≤ d.length := by
  rcases utf8Scan_cases d with ⟨-, e⟩ | ⟨-, e⟩ | ⟨_, m, -, -, e, -, hm⟩
  · rw [e] at h; cases h
  · rw [e] at h; cases h
  · rw [e] at h; cases h; exact hm

/-! ### the `?` exits of `filter` / `append_child` / `prepend_child` other than the UTF-8 validation

They are all `String::from_utf8` on a slice of the buffer handed to the tokenizer: `tokenizer.next()?` (the tag name in
`read_start_tag`), `raw_as_string()?`, `buffered_as_string()?`, `tag_name()?`.  The buffer is always complete valid
UTF-8: in `filter` it is the validated part of `last_buffer ++ input` (`validated_data`); in `append_child` /
`prepend_child` it is a buffered element, valid by the invariant `HV` (`stage_strings_valid`).  On a valid buffer the
conversions succeed under the tokenizer law `TokValidAll` (token boundaries are character boundaries): `raw_as_string_ok`,
`buffered_as_string_ok`.  `next()` itself never returns `Err` on any input: `next_never_err` (C16; stated from
`Tokenizer::new`). -/

theorem validated_data {x data pending : Bytes} (h : utf8Split x = some (data, pending)) : V data :=
  V_utf8Split h

theorem raw_as_string_ok {tk : Tokenize} (hv : TokValidAll tk) {d : Bytes} (hd : V d) : ∀ t ∈ (tk d).1, V t.raw :=
  hv.plain d hd

/-- `buffered_as_string()` is, by losslessness, the raw bytes of the tokens to come and the remainder (Model/Filter.lean writes
`rawsOf ts ++ rest`) -/
theorem buffered_as_string_ok {tk : Tokenize} (hl : LosslessAll tk) (hv : TokValidAll tk) {d : Bytes} (hd : V d) (k : Nat) :
    V (rawsOf ((tk d).1.drop k) ++ (tk d).2) :=
  V_append (V_rawsOf fun t ht => hv.plain d hd t (List.mem_of_mem_drop ht)) (V_rest hl hv hd)

/-- the same in the loop of `filter` (stream tokenizer, remembered context): every token and what is kept are valid -/
theorem stream_strings_ok {tk : Tokenize} (hl : LosslessAll tk) (hv : TokValidAll tk) {c d : Bytes} (hc : Ctx c)
    (hd : V d) : (∀ t ∈ (view tk c d).all, V t.raw) ∧ V (view tk c d).tail ∧ V (view tk c d).rem :=
  ⟨view_all_V hv hc hd, view_tail_V hl hv hc hd, view_rem_V hl hv hc hd⟩

/-- every `String` the html stage builds is valid UTF-8: its output and its buffers (so every buffer handed to
`leave` / `append_child` / `prepend_child` is a valid `String`, as its Rust type says) -/
theorem stage_strings_valid {tk : Tokenize} (hl : LosslessAll tk) (hv : TokValidAll tk) (ev : Bytes → Bytes → Bool)
    (s s' : HtmlSt) (x o : Bytes) (hs : HV s) (hc : Ctx s.ctx) (h : filterHtml tk ev s x = some (s', o)) :
    HV s' ∧ Ctx s'.ctx ∧ V o :=
  filterHtml_V hl hv ev s s' x o hs hc h

/-- `Tokenizer::next()` never returns `Err`, on any input, after any number of calls from `Tokenizer::new` -/
theorem next_never_err (bytes : Array Nat) (n : Nat) :
    (Rio.Html.Tokenizer.nexts n (Rio.Html.Tokenizer.new bytes)).utf8Err = false :=
  (Rio.C16.no_panic bytes n).2.2

end Rio.C07
