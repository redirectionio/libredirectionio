/-
C08 (mechanism 1: where the regex prefix tree cuts) for the prefix scanner REGENERATED FROM THE SOURCE.

`Rio.Consts.genCommonPrefixCharSize` is translated on every run from `common_prefix_char_size` of
src/regex_radix_tree/prefix.rs (tools/consts.d/w4_translate_scan.py: the `loop`, the `next_char_or_return!`
macro, the counters `prefix_length`, `was_escape`, `group_level`, `i`).  Proofs/ScanGen.lean shows it
equals the model `Rio.Scan.commonPrefixCharSize`; here the scanner theorems behind `common_prefix_boundary` are restated for the
generated definition, so a source change that alters where the scanner cuts breaks a proof.
-/
import RioModel.Props.C08
import RioModel.Proofs.ScanGen

namespace Rio.C08
open Rio.Scan Rio.Consts Rio.Regex

theorem gen_cpcs_eq_model (l r : List Char) :
    genCommonPrefixCharSize l r = commonPrefixCharSize l r := genCommonPrefixCharSize_eq l r

/-- `common_prefix` with the translated size function (`get_prefix_with_char_size` is the model's) -/
def genCommonPrefix (l r : List Char) : List Char :=
  getPrefixWithCharSize l (genCommonPrefixCharSize l r)

theorem gen_common_prefix_eq_model (l r : List Char) : genCommonPrefix l r = commonPrefix l r := by
  simp only [genCommonPrefix, commonPrefix, gen_cpcs_eq_model]

/-- **The size the translated loop returns is the LARGEST `k` such that the two strings agree on their
first `k` chars and the scanner (group depth, pending backslash) is at a boundary after them.** -/
theorem gen_cpcs_spec (l r : List Char) :
    Common (genCommonPrefixCharSize l r) l r ∧ Bd b0 l (genCommonPrefixCharSize l r) ∧
    ∀ k, Common k l r → Bd b0 l k → k ≤ genCommonPrefixCharSize l r := by
  rw [gen_cpcs_eq_model]
  exact ⟨cpcs_common l r, cpcs_bd l r, fun k hc hb => cpcs_max l r k hc hb⟩

/-- `common_prefix(l, r)` computed with the translated loop is a boundary prefix (`BPre`) of both arguments, and the longest one. -/
theorem gen_common_prefix_boundary (l r : List Char) :
    BPre (genCommonPrefix l r) l ∧ BPre (genCommonPrefix l r) r ∧
    ∀ q, BPre q l → BPre q r → q.length ≤ (genCommonPrefix l r).length := by
  rw [gen_common_prefix_eq_model]
  exact common_prefix_boundary l r

/-- hence, on a rule-shaped pattern, the translated scanner only cuts at token boundaries -/
theorem gen_cut_is_token_boundary (ts : List Tok) (hg : ∀ t ∈ ts, t.good = true) (r : List Char) :
    ∃ pre suf, ts = pre ++ suf ∧ genCommonPrefix (render ts) r = render pre :=
  cut_is_token_boundary ts hg _ (gen_common_prefix_boundary (render ts) r).1

theorem gen_cpcs_comm (l r : List Char) : genCommonPrefixCharSize l r = genCommonPrefixCharSize r l := by
  rw [gen_cpcs_eq_model, gen_cpcs_eq_model, cpcs_comm]

/-! ### Non-vacuity: the translated loop on patterns with a group and an escape -/

example : genCommonPrefixCharSize "/a(?:x)/b".toList "/a(?:x)/c".toList = 8 := by decide +kernel

example : genCommonPrefixCharSize "/a(?:xy)".toList "/a(?:xz)".toList = 2 := by decide +kernel

example : genCommonPrefixCharSize "/a\\(b".toList "/a\\(c".toList = 4 := by decide +kernel

end Rio.C08
