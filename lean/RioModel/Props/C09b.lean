/-
C09 ∘ C01 — URL normalisation meets the router.

The C09 theorems (`Rio.C09.self_match`, `separation_no_match`, `order_independent`, `marketing_ignored`)
are about the two normalised keys `ruleKey cfg u` (rule side) and `reqKey cfg u'` (request side).
Here they are carried through the model of `IntoRoute` (Model/IntoRoute.lean) and the seven-layer
router (`Rio.C01.match_exact`): for a marker-free rule whose source is the literal path and query of
the URL `u` and that has NO other trigger (`urlRule`), inserted together with arbitrary other rules,
and for ANY request whose path-and-query is the normalisation of `u'` (host, scheme, method, headers,
client ip and date arbitrary):

      the rule is returned by `match_request`   ⇔   `ruleKey ucfg u = reqKey ucfg u'`
                                                     and the any-host policy lets a host-less rule through.

The any-host clause (the rule has no host): `always_match_any_host`, or no host-bound rule of the
any-scheme scope present in the router has all its triggers satisfied by the request.
Conversions (Proofs/UrlRouterBridge.lean): keys are rendered by `asciiStr`; they are pure ASCII for every
input and `asciiStr` is injective there, so nothing is assumed.  `ucfg : Url.Cfg` and `cfg : Router.Cfg`
are linked by `cfg.ignorePathCase = ucfg.ignoreCase`; `P` (the external cidr / date parsers) and the
regex engine inside `E` are arbitrary.
-/
import RioModel.Proofs.UrlRouterBridge
import RioModel.Props.C01
import RioModel.Props.C09

namespace Rio.C09
open Rio.Url Rio.IntoRoute

/-- The rule "whose source is the literal path and query of `u`", with no other trigger. -/
def urlRule (id : String) (rank : Nat) (u : Bytes) : RuleSource :=
  { id := id, rank := rank, scheme := none, host := none,
    path := (splitFirst 63 u).1, query := (splitFirst 63 u).2, markers := [],
    ips := none, methods := none, excludeMethods := none, headers := none,
    datetime := none, time := none, weekdays := none }

/-- The route `IntoRoute` builds for it: every trigger absent, static path = the rule-side key. -/
theorem urlRule_route (P : Parsers) (cfg : Rio.Router.Cfg) (ucfg : Url.Cfg)
    (hc : cfg.ignorePathCase = ucfg.ignoreCase) (id : String) (rank : Nat) (u : Bytes) :
    intoRoute P cfg (urlRule id rank u) =
      { id := id, priority := 0 - (rank : Int), scheme := none, host := none, ips := none,
        methods := none, excludeMethods := none, headers := [], datetime := none, time := none,
        weekdays := none, path := .static (asciiStr (ruleKey ucfg u)) } := by
  unfold intoRoute
  rw [routePath_marker_free cfg.ignorePathCase (urlRule id rank u) rfl ucfg hc.symm]
  rfl

/-- A request "for the URL `u'`": its path-and-query is the request-side key. -/
def IsRequestFor (ucfg : Url.Cfg) (u' : Bytes) (q : Rio.Router.Req) : Prop :=
  q.path = asciiStr (reqKey ucfg u')

/-- The any-host policy lets a host-less, any-scheme rule through. -/
def AnyHostAllows (E : Rio.Router.Env) (R : List Rio.Router.Route) (q : Rio.Router.Req) : Prop :=
  E.alwaysAnyHost = true ∨
    ¬ ∃ r' ∈ R, Rio.Router.hostBound r' = true ∧ Rio.Router.schemeKey r' = none ∧
      Rio.Router.triggersOk E r' q = true

theorem sat_hostless (E : Rio.Router.Env) (R : List Rio.Router.Route) (r : Rio.Router.Route)
    (q : Rio.Router.Req) (hb : Rio.Router.hostBound r = false) (hs : Rio.Router.schemeKey r = none) :
    Rio.Router.sat E R r q =
      (Rio.Router.triggersOk E r q && (E.alwaysAnyHost ||
        !(R.any (fun r' => Rio.Router.hostBound r' && Rio.Router.schemeKey r' == none &&
          Rio.Router.triggersOk E r' q)))) := by
  unfold Rio.Router.sat
  rw [hb, hs]
  simp

/-- **Through the whole router**: the URL rule is reported for the request iff the two normalised
keys are equal (and the any-host policy permits) — whatever other rules `R` contains, for every
configuration, every engine and every other field of the request. -/
theorem url_rule_matches_iff (P : Parsers) (cfg : Rio.Router.Cfg) (ucfg : Url.Cfg)
    (hc : cfg.ignorePathCase = ucfg.ignoreCase) (E : Rio.Router.Env)
    (id : String) (rank : Nat) (u u' : Bytes) (R : List Rio.Router.Route)
    (hR : Rio.Router.NodupIds R) (hmem : intoRoute P cfg (urlRule id rank u) ∈ R)
    (q : Rio.Router.Req) (hq : IsRequestFor ucfg u' q) :
    intoRoute P cfg (urlRule id rank u) ∈ (Rio.Router.Router.build E R).matchReq E q ↔
      ruleKey ucfg u = reqKey ucfg u' ∧ AnyHostAllows E R q := by
  -- the router compares strings, the URL model bytes: on ASCII keys that is the same
  have hkey : asciiStr (ruleKey ucfg u) = q.path ↔ ruleKey ucfg u = reqKey ucfg u' :=
    hq ▸ ⟨asciiStr_inj _ _ (ascii_ruleKey ucfg u) (ascii_reqKey ucfg u'), congrArg asciiStr⟩
  rw [(Rio.C01.match_exact E R hR q).2, Rio.Router.sat_iff]
  rw [urlRule_route P cfg ucfg hc] at hmem ⊢
  -- on the literal route: scheme, ips, methods, headers, datetime, time, weekdays absent (the seven `rfl`);
  -- no host (`hostOk` holds, not host-bound), any scheme, static path
  rw [Rio.Router.triggersOk_host_path E _ q rfl rfl rfl rfl rfl rfl rfl]
  show _ ∧ (true && asciiStr (ruleKey ucfg u) == q.path) = true ∧ (false = true ∨ AnyHostAllows E R q) ↔ _
  simp only [hmem, true_and, Bool.true_and, beq_iff_eq, hkey, Bool.false_eq_true, false_or]

/-- **Self-match through the router** (with `Rio.C09.self_match`): the rule built from `u` is reported
for the request for `u` itself, for every URL in the decidable domain `WFurl`, under every
configuration and whatever other rules are present — as far as the any-host policy allows a
host-less rule. -/
theorem url_rule_self_match (P : Parsers) (cfg : Rio.Router.Cfg) (ucfg : Url.Cfg)
    (hc : cfg.ignorePathCase = ucfg.ignoreCase) (E : Rio.Router.Env)
    (id : String) (rank : Nat) (u : Bytes) (hb : IsBytes u) (hwf : WFurl ucfg u = true)
    (R : List Rio.Router.Route) (hR : Rio.Router.NodupIds R)
    (hmem : intoRoute P cfg (urlRule id rank u) ∈ R)
    (q : Rio.Router.Req) (hq : IsRequestFor ucfg u q) (hany : AnyHostAllows E R q) :
    intoRoute P cfg (urlRule id rank u) ∈ (Rio.Router.Router.build E R).matchReq E q :=
  (url_rule_matches_iff P cfg ucfg hc E id rank u u R hR hmem q hq).mpr
    ⟨self_match ucfg u hb hwf, hany⟩

/-- Alone in the router the clause is void: the rule always matches its own URL. -/
theorem url_rule_self_match_alone (P : Parsers) (cfg : Rio.Router.Cfg) (ucfg : Url.Cfg)
    (hc : cfg.ignorePathCase = ucfg.ignoreCase) (E : Rio.Router.Env)
    (id : String) (rank : Nat) (u : Bytes) (hb : IsBytes u) (hwf : WFurl ucfg u = true)
    (q : Rio.Router.Req) (hq : IsRequestFor ucfg u q) :
    intoRoute P cfg (urlRule id rank u) ∈
      (Rio.Router.Router.build E [intoRoute P cfg (urlRule id rank u)]).matchReq E q := by
  apply url_rule_self_match P cfg ucfg hc E id rank u hb hwf _ (by simp [Rio.Router.NodupIds]) (by simp) q hq
  right
  rintro ⟨r', hr', hbound, _, _⟩
  simp only [List.mem_singleton] at hr'
  subst hr'
  rw [urlRule_route P cfg ucfg hc] at hbound
  simp [Rio.Router.hostBound] at hbound

/-- **No match through the router** (with `Rio.C09.separation_no_match`): a request whose path or
(non-marketing) decoded parameters differ is never answered with the rule, whatever else is in the
router and whatever the other fields of the request. -/
theorem url_rule_no_match (P : Parsers) (cfg : Rio.Router.Cfg) (ucfg : Url.Cfg)
    (hc : cfg.ignorePathCase = ucfg.ignoreCase) (hic : ucfg.ignoreCase = false) (E : Rio.Router.Env)
    (id : String) (rank : Nat) (u u' : Bytes) (hb : IsBytes u) (hb' : IsBytes u')
    (hwf : WFurl ucfg u = true) (hacc' : (pqParse (sanitize u')).isSome = true)
    (hpl : ∀ kv ∈ (paramsOf u).filter (notMarketing ucfg), Plain kv)
    (hpl' : ∀ kv ∈ (paramsOf u').filter (notMarketing ucfg), Plain kv)
    (hdiff : pqPath (sanitize (splitFirst 63 u).1) ≠ pqPath (sanitize (splitFirst 63 u').1) ∨
      (paramsOf u).filter (notMarketing ucfg) ≠ (paramsOf u').filter (notMarketing ucfg))
    (R : List Rio.Router.Route) (hR : Rio.Router.NodupIds R)
    (hmem : intoRoute P cfg (urlRule id rank u) ∈ R)
    (q : Rio.Router.Req) (hq : IsRequestFor ucfg u' q) :
    intoRoute P cfg (urlRule id rank u) ∉ (Rio.Router.Router.build E R).matchReq E q := by
  intro hin
  have hk := ((url_rule_matches_iff P cfg ucfg hc E id rank u u' R hR hmem q hq).mp hin).1
  have := separation_no_match ucfg hic u u' hb hb' hwf hacc' hpl hpl' hdiff
  unfold ruleMatches matchesKey at this
  simp [hk] at this

/-- **Requests with the same normalised key are the same request for the router** — so everything C09
proves equal-keyed (`order_independent`: permuted parameters; `marketing_ignored`: added, removed or
moved marketing parameters; `case_independent_*`) is answered with exactly the same rules, by every
router state. -/
theorem same_key_same_answers (ucfg : Url.Cfg) (u u' : Bytes) (hk : reqKey ucfg u = reqKey ucfg u')
    (q q' : Rio.Router.Req) (hq : IsRequestFor ucfg u q) (hq' : IsRequestFor ucfg u' q')
    (hrest : q.scheme = q'.scheme ∧ q.host = q'.host ∧ q.method = q'.method ∧ q.headers = q'.headers ∧
      q.ip = q'.ip ∧ q.createdAt = q'.createdAt)
    (E : Rio.Router.Env) (S : Rio.Router.Router E) :
    S.matchReq E q = S.matchReq E q' := by
  have : q = q' := by
    cases q; cases q'
    simp only [IsRequestFor] at hq hq'
    simp_all
  rw [this]

/-- Instance: reordering the query parameters of the request (distinct decoded keys) never changes
the router's answer (`order_independent`). -/
theorem reordered_query_same_answers (ucfg : Url.Cfg) (Pth Q Q' : Bytes) (hP : 63 ∉ Pth)
    (hb : IsBytes (Pth ++ 63 :: Q)) (hb' : IsBytes (Pth ++ 63 :: Q'))
    (hperm : (pieces 38 Q).Perm (pieces 38 Q'))
    (hnd : ((parseQuery Q).map Prod.fst).Nodup)
    (hacc : (pqParse (sanitize (Pth ++ 63 :: Q))).isSome = true)
    (q q' : Rio.Router.Req) (hq : IsRequestFor ucfg (Pth ++ 63 :: Q) q)
    (hq' : IsRequestFor ucfg (Pth ++ 63 :: Q') q')
    (hrest : q.scheme = q'.scheme ∧ q.host = q'.host ∧ q.method = q'.method ∧ q.headers = q'.headers ∧
      q.ip = q'.ip ∧ q.createdAt = q'.createdAt)
    (E : Rio.Router.Env) (S : Rio.Router.Router E) :
    S.matchReq E q = S.matchReq E q' := by
  apply same_key_same_answers ucfg _ _ _ q q' hq hq' hrest
  rw [reqKey_eq, reqKey_eq, (order_independent ucfg Pth Q Q' hP hb hb' hperm hnd hacc).1]

/-- The example URL of C09, `/caf%c3%a9 x?b=a+b&a=%2B&é`, under the default configuration: the hypotheses
hold, and the rule built from it is found by a router that also contains another (host-bound) rule,
for the request for that URL sent to another host. -/
example :
    let cfg : Rio.Router.Cfg := ⟨false, false, false, false⟩
    let E := Rio.Router.envOf cfg
    let other : Rio.Router.Route :=
      { id := "other", priority := 0, scheme := none, host := some (.static "a.com"), ips := none,
        methods := none, excludeMethods := none, headers := [], datetime := none, time := none,
        weekdays := none, path := .static "/elsewhere" }
    let q : Rio.Router.Req :=
      { scheme := some "https", host := some "b.org", method := some "POST", headers := [("X-A", "v")],
        ip := none, createdAt := some 1577836800, path := asciiStr (reqKey cfgDefault exUrl) }
    intoRoute Parsers.std cfg (urlRule "u" 3 exUrl) ∈
      (Rio.Router.Router.build E [other, intoRoute Parsers.std cfg (urlRule "u" 3 exUrl)]).matchReq E q := by
  intro cfg E other q
  apply url_rule_self_match Parsers.std cfg cfgDefault rfl E "u" 3 exUrl (by decide +kernel) (by decide +kernel)
  · rw [urlRule_route Parsers.std cfg cfgDefault rfl]
    simp [Rio.Router.NodupIds, other]
  · simp
  · rfl
  · right
    rintro ⟨r', hr', hb, _, ht⟩
    rw [urlRule_route Parsers.std cfg cfgDefault rfl] at hr'
    simp only [List.mem_cons, List.mem_nil_iff, or_false] at hr'
    rcases hr' with rfl | rfl
    · simp [Rio.Router.triggersOk, Rio.Router.hostOk, other, q] at ht
    · simp [Rio.Router.hostBound] at hb

end Rio.C09
