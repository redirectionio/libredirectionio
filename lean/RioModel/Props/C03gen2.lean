/-
C03 / C04 (streaming html step) for `HtmlFilterBodyAction::filter` REGENERATED FROM THE SOURCE.

`Rio.Consts.genHtmlFilter` / `genHtmlFilterLoop` / `genHtmlIsCut` are translated on every run from `filter` and `is_cut`
of src/filter/html_filter_body.rs (tools/consts.d/w9_tr_w25_htmlstep.py): the entry read of `last_buffer` / `last_context` (clone, not take),
the early `Err` on invalid UTF-8, the `loop` with its inner `while` over text containing `<`, the three exits that store
held bytes together with `context` (ErrorToken, held text, cut token), the post-loop `extend(pending)`.  The tokenizer
(as a cursor over `Tokenize.stream`), `from_utf8`, the push statement and the tag dispatch are abstract parameters,
instantiated here at the hand model (Proofs/HtmlStepGen.lean).  The translated function equals `Rio.Filter.filterHtml`
for EVERY state, input, tokenizer and selector oracle, including the state returned with an `Err`; `held_bytes` and
`split_lemma` of Props/C03.lean are restated for it, so a source change in the state handling of `filter` breaks a proof.
-/
import RioModel.Props.C03
import RioModel.Proofs.HtmlStepGen

namespace Rio.C03
open Rio.Consts Rio.Filter Rio.HtmlStepGen

/-- **translated = model**, with the state after an `Err` (invalid UTF-8): UNCHANGED.  `sp` is any division of the
remainder at the ErrorToken between `raw()` and `buffered()`. -/
theorem gen_html_filter_eq_model (tk : Tokenize) (ev : Bytes → Bytes → Bool) (sp : Bytes → Bytes × Bytes)
    (hsp : ∀ r, (sp r).1 ++ (sp r).2 = r) (s : HtmlSt) (input : Bytes) :
    genHtmlFilter gRaw gTag gCut gIsText gPush (gDispatch tk ev) gGetLast gGetCtx gSetLast gSetCtx
        gFromUtf8 (gNewFragment tk sp) s input =
      match filterHtml tk ev s input with
      | none => (s, none)
      | some r => (r.1, some r.2) :=
  genHtmlFilter_eq tk ev sp hsp s input

/-- the same in the shape of the model (`none` = `Err`) -/
theorem gen_html_filter_opt_eq_model (tk : Tokenize) (ev : Bytes → Bytes → Bool) (sp : Bytes → Bytes × Bytes)
    (hsp : ∀ r, (sp r).1 ++ (sp r).2 = r) (s : HtmlSt) (input : Bytes) :
    genFilterHtml tk ev sp s input = filterHtml tk ev s input :=
  genFilterHtml_eq tk ev sp hsp s input

theorem gen_html_is_cut_eq_model (x : TokX) : genHtmlIsCut x.cut (x.tok.kind == .text) x.ctx = isCut x :=
  genIsCut_eq x

/-- the translated `loop`, entered with the current token `x`, is `closed` (the model's loop in closed form,
Proofs/HtmlStepGen) from any (state, output) -/
theorem gen_html_loop_eq_model (tk : Tokenize) (ev : Bytes → Bytes → Bool) (rest errRaw errBuf ctxE pending : Bytes)
    (hsp : errRaw ++ errBuf = rest) (xs : List TokX) (x : TokX) (so : HtmlSt × Bytes) :
    genHtmlFilterLoop gRaw gTag gCut gIsText gPush (gDispatch tk ev) gGetLast gSetLast gSetCtx
        errRaw errBuf ctxE pending x x.ctx xs so =
      closed tk ev rest ctxE pending (x :: xs) so :=
  genLoop_eq tk ev rest errRaw errBuf ctxE pending hsp xs x so

/-- **Invalid bytes: the translated code fails before touching any state** (held bytes can still be given back, C04). -/
theorem gen_html_err_state_untouched (tk : Tokenize) (ev : Bytes → Bytes → Bool) (sp : Bytes → Bytes × Bytes)
    (hsp : ∀ r, (sp r).1 ++ (sp r).2 = r) (s : HtmlSt) (input : Bytes) (h : utf8Scan (s.last ++ input) = .invalid) :
    genHtmlFilter gRaw gTag gCut gIsText gPush (gDispatch tk ev) gGetLast gGetCtx gSetLast gSetCtx
        gFromUtf8 (gNewFragment tk sp) s input = (s, none) := by
  rw [gen_html_filter_eq_model tk ev sp hsp, filterHtml_none_of tk ev s input (by rw [utf8Split, h])]

theorem held_bytes_gen {tk : Tokenize} (hl : LosslessS tk) (ev : Bytes → Bytes → Bool) (sp : Bytes → Bytes × Bytes)
    (hsp : ∀ r, (sp r).1 ++ (sp r).2 = r) (s s' : HtmlSt) (x o : Bytes)
    (h : genFilterHtml tk ev sp s x = some (s', o)) :
    ∃ data pending, utf8Split (s.last ++ x) = some (data, pending) ∧
      s'.last = (view tk s.ctx data).tail ++ pending ∧
      rawsOf (view tk s.ctx data).todo ++ (view tk s.ctx data).tail = data ∧
      ((view tk s.ctx data).tail = (tk.stream s.ctx data).2.1 ∨
       (∃ t : Tok, t.kind = .text ∧ hasLt t.raw = true ∧ (view tk s.ctx data).tail = t.raw ++ (tk.stream s.ctx data).2.1) ∨
       (∃ c rest, (cutSplit (tk.stream s.ctx data).1).2 = c :: rest ∧ isCut c = true ∧
          (view tk s.ctx data).tail = c.tok.raw ++ (rawsOf (toksOf rest) ++ (tk.stream s.ctx data).2.1))) := by
  rw [gen_html_filter_opt_eq_model tk ev sp hsp] at h
  exact held_bytes hl ev s s' x o h

theorem split_lemma_gen (tk : Tokenize) (ev : Bytes → Bytes → Bool) (hr : RestartLaw tk) (sp : Bytes → Bytes × Bytes)
    (hsp : ∀ r, (sp r).1 ++ (sp r).2 = r) (s s1 : HtmlSt) (x r o1 : Bytes)
    (hc : Ctx s.ctx) (h1 : genFilterHtml tk ev sp s x = some (s1, o1)) :
    htmlTotal tk ev s (x ++ r) = (htmlTotal tk ev s1 r).map fun t => o1 ++ t := by
  rw [gen_html_filter_opt_eq_model tk ev sp hsp] at h1
  exact split_lemma tk ev hr s s1 x r o1 hc h1

/-- the translated `match token_type {..}` + final push of the loop body (on_start_tag_token / on_end_tag_token /
VOID_ELEMENTS / tag_name as parameters, instantiated at the model's `onStart` / `onEnd` / `isVoid` / `Tok.name`) is one
`stepTok` of the model -/
theorem gen_html_dispatch_eq_model (tk : Tokenize) (ev : Bytes → Bytes → Bool) (so : HtmlSt × Bytes) (x : TokX) :
    genHtmlDispatch gTokIs gRaw gName isVoid gOnStart (gOnEnd tk ev) gPush so x = stepTok tk ev so x.tok :=
  genDispatch_eq tk ev so x

/-- **translated = model, whole function**: the translated `filter` running the translated dispatch in its loop -/
theorem gen_html_filter_full_eq_model (tk : Tokenize) (ev : Bytes → Bytes → Bool) (sp : Bytes → Bytes × Bytes)
    (hsp : ∀ r, (sp r).1 ++ (sp r).2 = r) (s : HtmlSt) (input : Bytes) :
    genHtmlFilter gRaw gTag gCut gIsText gPush
        (genHtmlDispatch gTokIs gRaw gName isVoid gOnStart (gOnEnd tk ev) gPush)
        gGetLast gGetCtx gSetLast gSetCtx gFromUtf8 (gNewFragment tk sp) s input =
      match filterHtml tk ev s input with
      | none => (s, none)
      | some r => (r.1, some r.2) := by
  rw [genDispatch_eq_gDispatch tk ev]
  exact genHtmlFilter_eq tk ev sp hsp s input

/-! non-vacuity: divisions of the remainder exist (all of it in `raw()`, or all of it in `buffered()`), and the translated
step computes on a toy tokenizer (one text token = the data): `a<` is held with its context, invalid bytes leave the state -/
example : ∀ r : Bytes, ((fun r => (r, [])) r : Bytes × Bytes).1 ++ ((fun r => (r, [])) r : Bytes × Bytes).2 = r := by simp
example : ∀ r : Bytes, ((fun r => ([], r)) r : Bytes × Bytes).1 ++ ((fun r => ([], r)) r : Bytes × Bytes).2 = r := by simp

def toyTk : Tokenize where
  plain := fun b => ([], b)
  stream := fun c d => (if d.isEmpty then [] else [⟨⟨.text, d, []⟩, false, c⟩], [], c)

def toySt : HtmlSt := { enter := none, visitor := { kind := .append, cur := [], content := [] }, last := [97], ctx := [116] }

example : (genFilterHtml toyTk (fun _ _ => false) (fun r => (r, [])) toySt [60]).map (fun r => (r.1.last, r.1.ctx, r.2))
    = some ([97, 60], [116], []) := by decide +kernel
example : (genFilterHtml toyTk (fun _ _ => false) (fun r => (r, [])) toySt [98]).map (fun r => (r.1.last, r.1.ctx, r.2))
    = some ([], [116], [97, 98]) := by decide +kernel
example : genHtmlFilter gRaw gTag gCut gIsText gPush (gDispatch toyTk (fun _ _ => false)) gGetLast gGetCtx gSetLast gSetCtx
    gFromUtf8 (gNewFragment toyTk (fun r => (r, []))) toySt [255] = (toySt, none) := by decide +kernel

/-- the whole translated function computes on the toy tokenizer -/
example : (genHtmlFilter gRaw gTag gCut gIsText gPush
      (genHtmlDispatch gTokIs gRaw gName isVoid gOnStart (gOnEnd toyTk (fun _ _ => false)) gPush)
      gGetLast gGetCtx gSetLast gSetCtx gFromUtf8 (gNewFragment toyTk (fun r => ([], r))) toySt [98]).2 = some [97, 98] := by
  decide +kernel

end Rio.C03
