/-
C12 (trace clause) — warming the cache changes no TRACE: the whole explain-trace forest, not only the routes it lists.

Tree level (`regex_radix_tree/trace.rs`, `Item::trace` / `Node::trace` / `Leaf::trace`): the `Trace` value – per node the
`regex` text (`original`), `count`, the `matched` flag, the children (present only below a matched node) and the leaf
values – is the same before and after `RegexTreeMap::cache(limit, level)` / `Item::cache(left, level, current)`, for every
budget and level, under the hypotheses of `find_cache` (`Inv`, `LeafPatternsNonEmpty`); and for EVERY history the tree and
its cache-free twin have identical traces.  The only field of `Trace` that reads the compiled state is `matched`
(`LazyRegex::is_match`); for the empty pattern it does flip (O3): `trace_cache_all_patterns_fails`.

Router level (`Router::trace_request` over the tower on the real tree models): the full `Vec<Trace>` is unchanged by
`Router::cache(limit)` in every state reached by a valid history – through `PathAndQueryMatcher::cache`,
`HostMatcher::cache` (own tree, static buckets, the tree's buckets stored back) and the five list-shaped matchers (`TCache`,
Proofs/RouterTraceCache.lean: a consequence of the `strip` laws named next); and a valid history with cache calls has the
same trace forest as the same history without them, through the layer-wise "drop every cached value" map `stripG` of
Proofs/RouterStripSim.lean / RouterStripHost.lean, which commutes with insert / remove / batch_remove / apply_change_set,
absorbs `cache`, and is invisible to `trace`.  `trace_cache_tree` (Props/C12router) is the corollary about the listed
routes only.
-/
import RioModel.Props.C12
import RioModel.Props.C12router
import RioModel.Proofs.RouterTraceCache
import RioModel.Proofs.RouterStripHost

namespace Rio.C12
open Rio.Regex Rio.Tree Rio.C08

section
variable {ι V : Type} [DecidableEq ι]

/-- **trace_cache.**  `RegexTreeMap::cache(limit, level)` (one level, or the level loop for `None`) leaves the whole trace
of every haystack unchanged. -/
theorem trace_cache (E : Engine) {ic : Bool} (t : Item ι V) (hinv : Inv ic t) (hne : LeafPatternsNonEmpty t)
    (limit : Nat) (level : Option Nat) {t' : Item ι V} {n : Nat}
    (h : treeCache E t limit level = some (t', n)) (s : List Char) : t'.trace E s = t.trace E s :=
  trace_treeCache E t hinv hne limit level h s

/-- The recursive `Item::cache(left, cache_level, current_level)` at any position of the recursion, with any budget and
any pair of levels, leaves the whole trace of every haystack unchanged as well. -/
theorem trace_item_cache (E : Engine) {ic : Bool} (t : Item ι V) (hinv : Inv ic t) (hne : LeafPatternsNonEmpty t)
    (left lvl cur : Nat) {t' : Item ι V} {n : Nat}
    (h : t.cache E left lvl cur = some (t', n)) (s : List Char) : t'.trace E s = t.trace E s :=
  Rio.Tree.trace_item_cache E t hinv hne left lvl cur h s

/-- The trace is a function of the flag-stripped tree: two trees satisfying the invariant that differ only in cached values
(whatever sequence of warm-ups produced them) trace every haystack identically. -/
theorem trace_eq_of_same_strip (E : Engine) {ic : Bool} {t t' : Item ι V} (hs : t'.strip = t.strip)
    (hinv : Inv ic t) (hinv' : Inv ic t') (hne : LeafPatternsNonEmpty t) (s : List Char) :
    t'.trace E s = t.trace E s :=
  trace_eq_of_strip_eq E hs hinv hinv' hne s

/-- **Trace transparency over histories.**  For EVERY history over {insert, remove, retain, get_mut-update, cache} whose
inserted patterns are non-empty, the history and the same history with every `cache` call removed both complete, and the
two final trees have the same trace for every haystack (number, position, limit and level of the warm-ups are invisible in
the trace). -/
theorem trace_cache_transparent (E : Engine) (ic : Bool) (ops : List (Op ι V))
    (hne : ∀ p ∈ insertedPats ops, p ≠ []) :
    ∃ t t0 : Item ι V, treeRun E (.empty ic) ops = some t ∧
      treeRun E (.empty ic) (dropCache ops) = some t0 ∧ ∀ s, t.trace E s = t0.trace E s := by
  obtain ⟨t, t0, h1, h2, hs, hinv, hinv0, _, hc, _, _⟩ := cache_transparent E ic ops hne
  have hP0 : LeafPatternsNonEmpty t0 :=
    (run_reachable E (fun p => p ≠ []) (dropCache ops) (.empty ic : Item ι V) (inv_empty ic) (by simp)
      (by rw [insertedPats_dropCache]; exact hne) t0 h2).2
  exact ⟨t, t0, h1, h2, fun s => trace_eq_of_strip_eq E hs hinv0 hinv hP0 s⟩

end

/-! ### Outside the domain (DESIGN §6-O3): the empty pattern -/

/-- The statement of `trace_cache` without `LeafPatternsNonEmpty`. -/
def TraceCacheAllPatterns : Prop :=
  ∀ (t t' : Item Nat Nat) (limit n : Nat) (level : Option Nat) (s : List Char), Inv false t →
    treeCache stdEngine t limit level = some (t', n) → t'.trace stdEngine s = t.trace stdEngine s

/-- Raw tree API, pattern `""`: the leaf's `matched` flag for haystack `x` is `true` uncached (the `original.is_empty()`
shortcut) and `false` once `^$` is cached – the same anomaly as `cache_visible_empty_pattern`, seen in the trace. -/
theorem trace_cache_all_patterns_fails : ¬ TraceCacheAllPatterns := by
  intro h
  have hbefore : (emptyPatTree.trace stdEngine "x".toList).matched = true := by decide +kernel
  have hafter : (treeCache stdEngine emptyPatTree 5 none).map
      (fun r => (r.1.trace stdEngine "x".toList).matched) = some false := by decide +kernel
  cases hc : treeCache stdEngine emptyPatTree 5 none with
  | none => rw [hc] at hafter; simp at hafter
  | some r =>
    have h1 := h emptyPatTree r.1 5 r.2 none "x".toList (by decide +kernel) (by rw [hc])
    rw [hc] at hafter
    simp only [Option.map_some, Option.some.injEq] at hafter
    rw [h1, hbefore] at hafter
    exact absurd hafter (by decide)

/-- `trace_cache` is the partial form: the statement holds with the extra hypothesis `LeafPatternsNonEmpty`. -/
theorem trace_cache_partial :
    ∀ (t t' : Item Nat Nat) (limit n : Nat) (level : Option Nat) (s : List Char), Inv false t →
      LeafPatternsNonEmpty t →
      treeCache stdEngine t limit level = some (t', n) → t'.trace stdEngine s = t.trace stdEngine s :=
  fun t _ limit _ level s hinv hne h => trace_cache stdEngine t hinv hne limit level h s

section
open Rio.Router
variable (T : TEnv) (Good : List Char → Prop) (hPS : PrefixSound T.engine Good)

def cacheMany (limits : List (Option Nat)) (S : RouterT T) : RouterT T :=
  limits.foldl (fun S l => RouterG.cache (towerTOps T) l S) S

/-- In every state representing a rule list (`RReprT`: reached by a valid history),
`Router::cache(limit)` changes the explain trace of no request: the whole forest – every node's `matched`, `executed`,
`count`, info and children, down to the regex-tree nodes of the host and path matchers – is identical. -/
theorem trace_forest_cache_tree (S : RouterT T) (L : List Route) (h : RReprT T Good hPS S L)
    (limit : Option Nat) (q : Req) :
    RouterG.trace (towerTOps T) (RouterG.cache (towerTOps T) limit S) q = RouterG.trace (towerTOps T) S q :=
  g_trace_cache (towerTLaws T Good hPS) (towerTTCache T Good hPS) S L h.matcher limit q

/-- `trace_forest_cache_tree` for any number of `Router::cache` calls, with any limits; the state keeps representing `L`. -/
theorem trace_forest_cache_many_tree (S : RouterT T) (L : List Route) (h : RReprT T Good hPS S L)
    (limits : List (Option Nat)) (q : Req) :
    RReprT T Good hPS (cacheMany T limits S) L ∧
    RouterG.trace (towerTOps T) (cacheMany T limits S) q = RouterG.trace (towerTOps T) S q :=
  Rio.Util.foldl_inv
    (fun S' => RReprT T Good hPS S' L ∧ RouterG.trace (towerTOps T) S' q = RouterG.trace (towerTOps T) S q) _ limits S
    ⟨h, rfl⟩ fun S' l _ h' =>
      ⟨cache_repr _ S' L l h'.1, (trace_forest_cache_tree T Good hPS S' L h'.1 l q).trans h'.2⟩

include hPS in
/-- **At any point of a valid history**: after any valid history (inserted rules in the domain of C08; the history may
itself contain cache calls), warming the cache any number of times changes neither the explain trace of any request nor
`Router::get_trace`'s result (routes listed, final route). -/
theorem trace_forest_cache_history_tree (h : List Op) (hv : ValidHistory h [])
    (hg : ∀ op ∈ h, ∀ r ∈ Rio.C02.opRoutes op, TreeGood T Good r) (limits : List (Option Nat)) (q : Req) :
    RouterG.trace (towerTOps T) (cacheMany T limits (runOpsG (towerTOps T) h (RouterG.empty _))) q =
        RouterG.trace (towerTOps T) (runOpsG (towerTOps T) h (RouterG.empty _)) q ∧
      RouterG.getTrace (towerTOps T) (cacheMany T limits (runOpsG (towerTOps T) h (RouterG.empty _))) q =
        RouterG.getTrace (towerTOps T) (runOpsG (towerTOps T) h (RouterG.empty _)) q := by
  have hr := Rio.C02.repr_run_tree T Good hPS h (RouterG.empty _) [] (g_empty _) hv hg
  have ht := (trace_forest_cache_many_tree T Good hPS _ _ hr limits q).2
  exact ⟨ht, by unfold RouterG.getTrace; rw [ht]⟩

include hPS in
/-- A cache call at the END of a valid history is invisible in the trace (the instance `limits = [limit]` stated on
histories: `h ++ [cache limit]` vs `h`). -/
theorem trace_forest_cache_last_op_tree (h : List Op) (hv : ValidHistory h [])
    (hg : ∀ op ∈ h, ∀ r ∈ Rio.C02.opRoutes op, TreeGood T Good r) (limit : Option Nat) (q : Req) :
    RouterG.trace (towerTOps T) (runOpsG (towerTOps T) (h ++ [Op.cache limit]) (RouterG.empty _)) q =
      RouterG.trace (towerTOps T) (runOpsG (towerTOps T) h (RouterG.empty _)) q := by
  have := (trace_forest_cache_history_tree T Good hPS h hv hg [limit] q).1
  simpa [runOpsG, cacheMany, Op.runG] using this

include hPS in
/-- A valid history and the same history without its cache calls, run from routers that are equal up to cached regex
values, end in routers that are equal up to cached regex values (`stripG`: every tree of the tower with its compiled values
dropped, bucket by bucket). -/
theorem run_strip_router_tree (h : List Op) : ∀ (S S0 : RouterT T) (L : List Route), RReprT T Good hPS S L →
    ValidHistory h L → (∀ op ∈ h, ∀ r ∈ Rio.C02.opRoutes op, TreeGood T Good r) →
    stripG (towerTLaws T Good hPS) (towerTSLaws T Good hPS) S =
      stripG (towerTLaws T Good hPS) (towerTSLaws T Good hPS) S0 →
    stripG (towerTLaws T Good hPS) (towerTSLaws T Good hPS) (runOpsG (towerTOps T) h S) =
      stripG (towerTLaws T Good hPS) (towerTSLaws T Good hPS) (runOpsG (towerTOps T) (dropCacheOps h) S0) := by
  induction h with
  | nil => intro S S0 L _ _ _ hs; exact hs
  | cons op h ih =>
    intro S S0 L hr hv hg hs
    have hr' := Rio.C02.repr_op_tree T Good hPS S L op hr hv.1 (hg op (List.mem_cons_self ..))
    have hg' : ∀ op' ∈ h, ∀ r ∈ Rio.C02.opRoutes op', TreeGood T Good r :=
      fun op' hop' => hg op' (List.mem_cons_of_mem _ hop')
    by_cases hc : ∃ l, op = .cache l
    · obtain ⟨l, rfl⟩ := hc
      exact ih _ S0 _ hr' hv.2 hg' ((stripG_cache _ _ S L hr.matcher l).trans hs)
    · have hnc : ∀ l, op ≠ .cache l := fun l e => hc ⟨l, e⟩
      rw [dropCacheOps_cons hnc]
      refine ih _ (op.runG (towerTOps T) S0) _ hr' hv.2 hg' ?_
      rw [stripG_op _ _ _ hnc, stripG_op _ _ _ hnc, hs]

include hPS in
/-- **Trace transparency along every history (router level).**  A valid history (inserted rules in the domain of C08) with
`cache` calls of any limits at any positions, any number of them, and the same history without them lead to routers with
the SAME explain-trace forest for every request – every node, not only the listed routes – and the same `get_trace` result.
(The trace analogue of `cache_transparent_router_tree`, which states this for `match_request` up to order.) -/
theorem trace_forest_cache_transparent_router_tree (h : List Op) (hv : ValidHistory h [])
    (hg : ∀ op ∈ h, ∀ r ∈ Rio.C02.opRoutes op, TreeGood T Good r) (q : Req) :
    RouterG.trace (towerTOps T) (runOpsG (towerTOps T) h (RouterG.empty _)) q =
        RouterG.trace (towerTOps T) (runOpsG (towerTOps T) (dropCacheOps h) (RouterG.empty _)) q ∧
      RouterG.getTrace (towerTOps T) (runOpsG (towerTOps T) h (RouterG.empty _)) q =
        RouterG.getTrace (towerTOps T) (runOpsG (towerTOps T) (dropCacheOps h) (RouterG.empty _)) q := by
  obtain ⟨hr1, hr2⟩ := repr_run_dropCacheOps T Good hPS h hv hg
  have hs := run_strip_router_tree T Good hPS h (RouterG.empty _) (RouterG.empty _) []
    (g_empty (towerTLaws T Good hPS)) hv hg rfl
  have hm := congrArg RouterG.matcher hs
  have ht : RouterG.trace (towerTOps T) (runOpsG (towerTOps T) h (RouterG.empty _)) q =
      RouterG.trace (towerTOps T) (runOpsG (towerTOps T) (dropCacheOps h) (RouterG.empty _)) q := by
    unfold RouterG.trace
    rw [← (towerTSLaws T Good hPS).strip_trace _ _ q hr1.matcher,
      ← (towerTSLaws T Good hPS).strip_trace _ _ q hr2.matcher]
    exact congrArg (fun m => (towerTOps T).trace m q) hm
  exact ⟨ht, by unfold RouterG.getTrace; rw [ht]⟩

end

mutual
/-- pre-order listing of a tree trace, one list per node: length of the regex text, count, matched (1/0), number of
children, then the values -/
def flatTrace : Tree.Trace Nat → List (List Nat)
  | .mk r c m cs vs => (r.length :: c :: (if m then 1 else 0) :: cs.length :: vs) :: flatTraceL cs
def flatTraceL : List (Tree.Trace Nat) → List (List Nat)
  | [] => []
  | t :: ts => flatTrace t ++ flatTraceL ts
end

set_option maxRecDepth 100000 in
/-- `demoTree` (three patterns, case-insensitive: root node `/` over the leaf `/b(?:[0-9]+)` and the inner node `/a(?:x)`
with its two leaves) satisfies the hypotheses of `trace_cache`; `cache(2, None)` compiles 2 of its 5 regexes, so compiled and
uncompiled nodes coexist; the trace of `/Ax` is a non-trivial forest of 5 nodes: root matched with two children, the `/b…`
leaf not matched, the inner node matched with its two leaves, of which `/a(?:x)` matched and `/a(?:x)/b` did not. -/
example : Inv true demoTree ∧ (demoTree.contents.all fun e => !e.pat.isEmpty) = true ∧
    demoTree.cachedLen = 0 ∧
    (treeCache stdEngine demoTree 2 none).map (fun r => r.1.cachedLen) = some 2 ∧
    (treeCache stdEngine demoTree 2 none).map (fun r => flatTrace (r.1.trace stdEngine "/Ax".toList)) =
      some (flatTrace (demoTree.trace stdEngine "/Ax".toList)) ∧
    flatTrace (demoTree.trace stdEngine "/Ax".toList) =
      [[1, 3, 1, 2], [12, 1, 0, 0, 30], [7, 2, 1, 2], [9, 1, 0, 0, 20], [7, 1, 1, 0, 11]] := by
  decide +kernel

section
open Rio.Router

/-- insert the rule of `Props/C12router` (marker in host and path), then a warm-up with budget 1: the host tree's leaf is
compiled, the path tree's leaf (inside the host bucket) is not -/
def exHist : List Op := [.insert exR, .cache (some 1)]

example : ValidHistory exHist [] := by
  simp [exHist, ValidHistory, Op.Valid]

example : ∀ op ∈ exHist, ∀ r ∈ Rio.C02.opRoutes op, TreeGood exT GoodPat r := by
  intro op hop r hr
  simp only [exHist, List.mem_cons, List.mem_nil_iff, or_false] at hop
  rcases hop with rfl | rfl
  · simp only [Rio.C02.opRoutes, List.mem_singleton] at hr; subst hr
    refine ⟨?_, ?_⟩
    · intro p hp
      cases hp
      exact ⟨(goodPatB_iff _).1 (by decide +kernel), by decide +kernel⟩
    · intro p hp
      cases hp
      exact ⟨(goodPatB_iff _).1 (by decide +kernel), by decide +kernel⟩
  · simp [Rio.C02.opRoutes] at hr

/-- compiled regexes of the host tree, and of the path tree inside each host bucket -/
def exFlags (S : RouterT exT) : Nat × List Nat :=
  (S.matcher.any.tree.cachedLen,
   S.matcher.any.tree.contents.map (fun e => e.val.any.any.any.any.tree.cachedLen))

set_option maxRecDepth 100000 in
/-- After `exHist` a compiled regex (host tree) and an uncompiled one (path tree) coexist; a further `cache(Some(5))` really
changes the state (it compiles the path leaf); the trace it leaves unchanged is a non-trivial one (it lists the rule). -/
example :
    exFlags (runOpsG (towerTOps exT) exHist (RouterG.empty _)) = (1, [0]) ∧
    exFlags (RouterG.cache (towerTOps exT) (some 5) (runOpsG (towerTOps exT) exHist (RouterG.empty _))) = (1, [1]) ∧
    (routesOfList (RouterG.trace (towerTOps exT)
      (RouterG.cache (towerTOps exT) (some 5) (runOpsG (towerTOps exT) exHist (RouterG.empty _))) exQ)).map (·.id)
        = ["r"] := by
  decide +kernel

end

end Rio.C12
