/-
C07 (tree part) — how deep the regex radix tree is, as a function of the stored patterns (DESIGN §6-D26).

`Item::{insert, find, get, get_mut, remove, retain, len, is_empty, cache, trace}` and their `Node::` / `Leaf::`
counterparts call themselves once per level on the way down (`node.rs`, `item.rs`, `leaf.rs`, `trace.rs`; only `iter()` is
iterative, with a heap-allocated parent chain of the same length), so the recursion depth of every operation is the depth of
the tree.  The Lean model recurses structurally and cannot overflow; what it CAN say is what that depth is:

* `depth_le_chain` – under the tree invariant, `depth ≤ 1 +` the number of scanner-boundary prefixes of some stored pattern
  (the node prefixes on a root-to-leaf path are boundary prefixes, of strictly increasing length, of the pattern at the
  bottom); hence `depth ≤ 2 + |p|` for a stored pattern `p`: the depth is bounded by the LENGTH of the patterns (for rule-shaped
  patterns: by their number of tokens), not by a constant;
* `chain_reaches_depth` – the bound is reached up to the additive constant: inserting the chain `a, aa, …, aⁿ` (each pattern a
  prefix of the next) builds a spine of `n − 1` nested nodes, depth `n`, whatever the engine and the case flag; so `n` rules
  whose paths extend one another make every operation recurse `n` levels deep – the real code overflows its stack
  at ≈ 5 000 chained prefixes (known finding D26 of C07).
-/
import RioModel.Proofs.TreeDepth
import RioModel.Props.C08
import RioModel.Proofs.TreeCacheSim

namespace Rio.C07
open Rio.Regex Rio.Tree

variable {ι V : Type} [DecidableEq ι]

/-- `boundariesFrom 0 p` counts the positions `k ≤ |p|` where the scanner is at depth 0 and not after a backslash – for a
rule-shaped pattern its token boundaries. -/
theorem depth_le_chain {ic : Bool} (t : Item ι V) (hinv : C08.Inv ic t) (hne : t.contents ≠ []) :
    ∃ e ∈ t.contents, t.depth ≤ 1 + boundariesFrom 0 e.pat ∧ t.depth ≤ 2 + e.pat.length :=
  depth_le_boundaries t hinv hne

/-- The same over histories: after any history the depth is bounded by the longest inserted pattern. -/
theorem depth_le_inserted (E : Engine) (ic : Bool) (ops : List (Op ι V)) (B : Nat)
    (hB : ∀ p ∈ insertedPats ops, p.length ≤ B) (t : Item ι V) (h : treeRun E (.empty ic) ops = some t) :
    t.depth ≤ 2 + B := by
  obtain ⟨hinv, hP⟩ := run_reachable E (fun p => p.length ≤ B) ops (.empty ic : Item ι V) (C08.inv_empty ic)
    (by simp) hB t h
  cases hE : t.isEmptyCtor with
  | true =>
    cases t with
    | empty _ => rw [depth_empty]; omega
    | _ => cases hE
  | false =>
    obtain ⟨e, he, hle⟩ := depth_le_from t hinv hE
    have := boundariesFrom_le_length t.regex.length e.pat
    have := hP e he
    omega

theorem insertedPats_chainOps (n : Nat) :
    insertedPats (chainOps n) = (List.range n).map fun i => chainPat (i + 1) := by
  unfold chainOps
  induction List.range n with
  | nil => rfl
  | cons i l ih => simp [insertedPats, ih]

theorem chain_reaches_depth (E : Engine) (ic : Bool) (n : Nat) :
    ∃ t : Item Nat Nat, treeRun E (.empty ic) (chainOps (n + 1)) = some t ∧ t.depth = n + 1 ∧
      (∀ p ∈ insertedPats (chainOps (n + 1)), p.length ≤ n + 1) := by
  refine ⟨chainFrom ic n 1, chain_tree E ic n, chainFrom_depth ic n 1, ?_⟩
  intro p hp
  rw [insertedPats_chainOps, List.mem_map] at hp
  obtain ⟨i, hi, rfl⟩ := hp
  rw [chainPat_length]
  have := List.mem_range.1 hi
  omega

set_option maxRecDepth 100000 in
example : ((treeRun stdEngine (.empty false) (chainOps 12)).map Item.depth) = some 12 := by decide +kernel

end Rio.C07
