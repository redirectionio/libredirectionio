/-
C10 — markers capture the matching text and are substituted into targets and filters.
Strings are `List Char`; `blen` is the UTF-8 byte length the code sorts by.  The regex engine, `to_lowercase`/`to_uppercase`
and the `heck` conversions are parameters.
-/
import RioModel.Proofs.MarkerMatch
import RioModel.Proofs.MarkerRegex

namespace Rio.C10
open Rio.Marker

/-- **substitution, for every lawful longest-first order** ("longer names first, so a name never clobbers a longer
one"): `StaticOrDynamic::replace` after repair 9f65cbb (`replaceVars`, one scan of the template), on a list sorted by a
stable sort whose comparator is a strict longest-first order (`LawfulBefore`), is the simultaneous longest-match
substitution `subst` (every `@` followed by known names is a reference to the LONGEST one and is replaced by the value
of the first entry of that name).  NO hypothesis on names, values or template: names containing `@`, the empty name,
repeated names, values containing `@other`, stray `@`s are all covered. -/
theorem substitution_lawful (before : Str → Str → Bool) (hb : LawfulBefore before)
    (vs : List (Str × Str)) (t : Str) :
    replaceVars t (sortBy before vs) = subst vs t := by
  unfold replaceVars subst parse
  exact scanAux_eq before hb vs 0 t

/-- The comparator of `Rule::variables` (`key_b.len().cmp(&key_a.len()).then_with(|| key_a.cmp(key_b))`, repair
96f3afa) is a lawful longest-first order; so is the one of `MarkerString::new` (length only). -/
theorem code_orders_lawful : LawfulBefore varBefore ∧ LawfulBefore lenBefore :=
  ⟨lawful_varBefore, lawful_lenBefore⟩

/-- **substitution** for the code's order: `sortVars` = the final sort of `Rule::variables`. -/
theorem substitution (vs : List (Str × Str)) (t : Str) : replaceVars t (sortVars vs) = subst vs t :=
  substitution_lawful varBefore lawful_varBefore vs t

/-- The sort is what the function relies on ("Variables must be sorted by name length, longest first"): on an
unsorted list the shorter name wins (`@id2` with `id` first gives `72`). -/
theorem substitution_fails_without_sort :
    let vs : List (Str × Str) := [(['i','d'], ['7']), (['i','d','2'], ['9'])]
    replaceVars ['@','i','d','2'] vs = ['7','2'] ∧
    replaceVars ['@','i','d','2'] (sortVars vs) = ['9'] ∧ subst vs ['@','i','d','2'] = ['9'] := by
  decide +kernel

/-- The inputs of the three repaired findings now give the specified result: `join` (`@id@year`, id=7, id2=9,
year=2024: `72024`, was `9024`), `value-contains-at` (`/@ab` with ab=`@c`, c=`z`: `/@c`, was `/z`), a stray `@` in front
of an empty value (`@@abcd`, ab=``, cd=`x`: `@cd`, was `x`). -/
theorem repaired_findings_witnesses :
    replaceVars ['@','i','d','@','y','e','a','r']
      (sortVars [(['i','d'], ['7']), (['i','d','2'], ['9']), (['y','e','a','r'], ['2','0','2','4'])]) = ['7','2','0','2','4'] ∧
    replaceVars ['/','@','a','b'] (sortVars [(['a','b'], ['@','c']), (['c'], ['z'])]) = ['/','@','c'] ∧
    replaceVars ['@','@','a','b','c','d'] (sortVars [(['a','b'], []), (['c','d'], ['x'])]) = ['@','c','d'] := by
  decide +kernel

/-- Corner cases the specification fixes (and the code follows): of two entries of one name the first counts; the
empty name matches every `@` that starts no longer name; a name containing `@` is an ordinary name. -/
theorem substitution_corner_cases :
    replaceVars ['@','a','-','@','b'] (sortVars [(['a'], ['1']), (['a'], ['2']), ([], ['e'])]) = ['1','-','e','b'] ∧
    replaceVars ['@','a','@','b','@','a'] (sortVars [(['a','@','b'], ['x']), (['a'], ['y'])]) = ['x','y'] := by
  decide +kernel

/-- The result depends neither on the order (or on repetitions after the first entry of a name) of the variable
list — e.g. the iteration order of the HashMap of captured markers — nor on WHICH lawful longest-first order the
sort uses. -/
theorem substitution_order_irrelevant (before before' : Str → Str → Bool)
    (hb : LawfulBefore before) (hb' : LawfulBefore before') (vs vs' : List (Str × Str)) (t : Str)
    (hn : ∀ m, m ∈ names vs ↔ m ∈ names vs') (hl : ∀ n, vs.lookup n = vs'.lookup n) :
    replaceVars t (sortBy before vs) = replaceVars t (sortBy before' vs') := by
  rw [substitution_lawful before hb vs t, substitution_lawful before' hb' vs' t, subst_congr hn hl]

/-- The code's order is total on names: with distinct names the sorted variable list itself does not depend on
the iteration order of the map of captured markers (repair 96f3afa). -/
theorem variables_order_deterministic (vs vs' : List (Str × Str)) (hperm : vs.Perm vs')
    (hnd : (names vs).Nodup) : sortVars vs = sortVars vs' :=
  sortVars_perm vs vs' hperm hnd

/-- What `replaceSeq`, the code before repair 9f65cbb (one textual `str::replace` per variable over the previous result),
computed: the specification only when no name and no value contains `@` and no substituted text joins an `@` into a longer
name (`noJoin`). -/
theorem sequential_replace_substitution (vs : List (Str × Str)) (t : Str)
    (hnames : namesNoAt vs = true) (hvals : valuesNoAt vs = true) (hjoin : noJoin vs t = true) :
    replaceSeq t (sortVars vs) = subst vs t := by
  have hb := lawful_varBefore
  have hn : ∀ p ∈ vs, '@' ∉ p.1 := fun p hp => (noAt_iff _).mp (List.all_eq_true.mp hnames p hp)
  have hv : ∀ p ∈ vs, '@' ∉ p.2 := fun p hp => (noAt_iff _).mp (List.all_eq_true.mp hvals p hp)
  have hclean : Clean idEsc (parse (names vs) t) :=
    clean_parse idEsc _ t (fun c hc => by simpa [idEsc] using Ne.symm hc) (List.forall_mem_map.mpr hn)
  have h := foldl_replace_render idEsc (sortVars vs) (parse (names vs) t) (sorted_sortBy hb vs)
    (fun p hp => hn p ((mem_sortBy p vs).mp hp)) (fun p hp => hv p ((mem_sortBy p vs).mp hp))
    hclean (fun n hn' => (mem_names_sortBy vs n).mpr (parse_refs _ _ n hn'))
    (noJoinP_sortBy hb idEsc vs _ ((noJoinItems_iff idEsc vs _).mp hjoin))
  unfold sortVars at h ⊢
  rw [render_parse, fill_sortBy hb] at h
  exact h

/-- … and what it got wrong (the findings `join`, `value-contains-at`, stray `@`, all repaired by the one-pass scan). -/
theorem sequential_replace_findings :
    replaceSeq ['@','i','d','@','y','e','a','r']
      (sortVars [(['i','d'], ['7']), (['i','d','2'], ['9']), (['y','e','a','r'], ['2','0','2','4'])]) = ['9','0','2','4'] ∧
    replaceSeq ['/','@','a','b'] (sortVars [(['a','b'], ['@','c']), (['c'], ['z'])]) = ['/','z'] ∧
    replaceSeq ['@','@','a','b','c','d'] (sortVars [(['a','b'], []), (['c','d'], ['x'])]) = ['x'] := by
  decide +kernel

/-- **regex_is_tokens.**  For plain marker names (no regex meta character, no `@`) and marker expressions without
`@`, the two strings `MarkerString::new` builds by escaping the template and replacing `@name`, longest name first,
are the renderings of the token view of the template: escaped literal chars and `(?:re)` resp. `(?P<name>re)`
groups, a group for every `@` followed by a known name (the longest one). -/
theorem regex_is_tokens (t : Str) (ms : List (Str × Str))
    (hplain : namesPlain ms = true) (hre : regexNoAt ms = true) :
    (build t ms).regex = renderRegex (tokens t ms) ∧ (build t ms).capture = renderCapture (tokens t ms) := by
  apply build_eq_tokens
  · exact fun p hp => (plainName_iff _).mp (List.all_eq_true.mp hplain p hp)
  · exact fun p hp => (noAt_iff _).mp (List.all_eq_true.mp hre p hp)

/-- The same for the value returned by `MarkerString::new`. -/
theorem markerString_is_tokens (t : Str) (ms : List (Str × Str)) (ic : Bool) (m : MarkerString)
    (hplain : namesPlain ms = true) (hre : regexNoAt ms = true) (h : MarkerString.new t ms ic = some m) :
    m.regex = renderRegex (tokens t ms) ∧ m.capture = renderCapture (tokens t ms) ∧ m.ignoreCase = ic := by
  have := regex_is_tokens t ms hplain hre
  simp only [MarkerString.new] at h
  split at h
  · simp at h
  · simp at h; subst h; exact ⟨this.1, this.2, rfl⟩

/-- Both hypotheses are needed.  A name with a meta character is never found in the escaped template; an
expression containing `@shorter` is rewritten by the later marker. -/
theorem regex_is_tokens_needs_plain :
    (build ['@','a','.','b'] [(['a','.','b'], ['x'])]).regex = ['@','a','\\','.','b'] ∧
    renderRegex (tokens ['@','a','.','b'] [(['a','.','b'], ['x'])]) = ['(','?',':','x',')'] := by
  decide +kernel

theorem regex_is_tokens_needs_regexNoAt :
    (build ['@','a','b'] [(['a','b'], ['@','c']), (['c'], ['z'])]).regex = ['(','?',':','(','?',':','z',')',')'] ∧
    renderRegex (tokens ['@','a','b'] [(['a','b'], ['@','c']), (['c'], ['z'])]) = ['(','?',':','@','c',')'] := by
  decide +kernel

/-! ### Matching: instantiations match, rejected values do not match, captures are the instantiation

What is ASSUMED of the `regex` crate and what is PROVED.  The theorems of this section take the engine as a
parameter and assume, for the one pattern and the one haystack at hand, `EngineLawsAt` (Proofs/MarkerMatch.lean):
`^p$` matches `s` iff `s` decomposes along the tokens of `p`; the captures are the groups of some decomposition.
These laws are (a) checked on the real crate for every generated `law` case (implementation-only oracle of
harness c10), (b) PROVED for an executable engine that reads the pattern string — the derivative engine `Regex.engineOf` — as far
as matching and unanchored search go (`Props/C10e.lean`: `verified_engine_full`, `verified_engine_search`),
(c) discharged by evaluation for the driver's executable engine on a concrete rule and request
(`Props/C10e.lean`: the instance of `rule_end_to_end`), (d) satisfiable for every language
(`engineLaws_satisfiable`, an engine that does not read the pattern: consistency only).  The captures law is NOT
proved for a pattern-reading engine in general: it stays an assumption about the crate (a), (c).  Marker expressions
the token-level law does not cover: unbalanced parentheses (`a)|(?:b`), anchors / `\b` / look-around, an inner named
group (adds a capture of its own; differential-tested only). -/

section engine
variable (L : Str → Str → Prop) (ceq : Char → Char → Bool)
variable (full search : Str → Str → Bool) (caps : Str → Str → Option (List (Str × Str)))

/-- **instantiation_matches.**  If every marker value is accepted by its expression, the instantiated template
is matched by the matching regex (`^regex$`: path through the radix-tree leaf, host). -/
theorem instantiation_matches (hrefl : ∀ c, ceq c c = true)
    (t : Str) (ms : List (Str × Str)) (v : Str → Str)
    (laws : EngineLawsAt L ceq full search caps (tokens t ms) (instOf (tokens t ms) v))
    (hplain : namesPlain ms = true) (hre : regexNoAt ms = true)
    (hacc : ∀ n re, Tok.grp n re ∈ tokens t ms → L re (v n)) :
    full (build t ms).regex (instOf (tokens t ms) v) = true := by
  rw [(regex_is_tokens t ms hplain hre).1]
  exact laws.full_inst hrefl hacc

/-- The same for a header trigger (`Regex::new(regex).is_match(value)`, unanchored). -/
theorem instantiation_matches_header (hrefl : ∀ c, ceq c c = true)
    (t : Str) (ms : List (Str × Str)) (v : Str → Str)
    (laws : EngineLawsAt L ceq full search caps (tokens t ms) (instOf (tokens t ms) v))
    (hplain : namesPlain ms = true) (hre : regexNoAt ms = true)
    (hacc : ∀ n re, Tok.grp n re ∈ tokens t ms → L re (v n)) :
    search (build t ms).regex (instOf (tokens t ms) v) = true := by
  rw [(regex_is_tokens t ms hplain hre).1, laws.search_iff]
  exact ⟨[], _, [], _, by simp, decomp_inst L ceq hrefl _ v hacc⟩

/-- The assumed matching law read through `regex_is_tokens`, at all haystacks (`EngineLaws`; every other theorem of this file
assumes `EngineLawsAt` at its one haystack). -/
theorem matches_iff_decomposition
    (t : Str) (ms : List (Str × Str)) (laws : EngineLaws L ceq full search caps (tokens t ms))
    (hplain : namesPlain ms = true) (hre : regexNoAt ms = true) (s : Str) :
    full (build t ms).regex s = true ↔ ∃ vs, Decomp L ceq (tokens t ms) s vs := by
  rw [(regex_is_tokens t ms hplain hre).1, laws.full_iff]

/-- Match ⇔ all values accepted, for delimiter-separated templates. -/
theorem match_iff_all_accepted (hrefl : ∀ c, ceq c c = true)
    (t : Str) (ms : List (Str × Str)) (v : Str → Str)
    (laws : EngineLawsAt L ceq full search caps (tokens t ms) (instOf (tokens t ms) v))
    (hplain : namesPlain ms = true) (hre : regexNoAt ms = true)
    (hdelim : DelimitedOr L ceq v (tokens t ms)) :
    full (build t ms).regex (instOf (tokens t ms) v) = true ↔ ∀ n re, Tok.grp n re ∈ tokens t ms → L re (v n) := by
  rw [(regex_is_tokens t ms hplain hre).1, laws.full_iff, decomp_inst_iff L ceq hrefl v _ hdelim]

/-- **rejected_not_matches.**  For a delimiter-separated template (`DelimitedOr`) the instantiation decomposes only into
itself; so if one value is rejected by its expression, the instantiated string is not matched by `^regex$`. -/
theorem rejected_not_matches (hrefl : ∀ c, ceq c c = true)
    (t : Str) (ms : List (Str × Str)) (v : Str → Str)
    (laws : EngineLawsAt L ceq full search caps (tokens t ms) (instOf (tokens t ms) v))
    (hplain : namesPlain ms = true) (hre : regexNoAt ms = true)
    (hdelim : DelimitedOr L ceq v (tokens t ms))
    (n re : Str) (hmem : Tok.grp n re ∈ tokens t ms) (hrej : ¬ L re (v n)) :
    full (build t ms).regex (instOf (tokens t ms) v) = false :=
  Bool.eq_false_iff.mpr fun hf =>
    hrej ((match_iff_all_accepted L ceq full search caps hrefl t ms v laws hplain hre hdelim).mp hf n re hmem)

/-- The two common shapes with an "anything" marker are delimiter-separated whatever its language: `…@a d rest`
with `d` neither in the value of `a` nor in the literal rest, and `…@a d @n` with `d` in neither value.  (`pre`:
literal text in front.) -/
theorem anything_marker_shapes_delimited (v : Str → Str) (pre rest : Str) (a re n re2 : Str) (d : Char)
    (hva : ∀ x ∈ v a, ceq d x = false) :
    ((∀ x ∈ rest, ceq d x = false) →
      DelimitedOr L ceq v (pre.map Tok.lit ++ Tok.grp a re :: Tok.lit d :: rest.map Tok.lit)) ∧
    ((∀ x ∈ v n, ceq d x = false) →
      DelimitedOr L ceq v (pre.map Tok.lit ++ [Tok.grp a re, Tok.lit d, Tok.grp n re2])) := by
  constructor
  · intro hrest
    rw [delimitedOr_lits_append]
    simp only [DelimitedOr]
    refine ⟨hva, Or.inr ?_, ?_⟩
    · rw [instOf_map_lit]; exact hrest
    · simpa using (delimitedOr_lits_append L ceq v rest []).mpr trivial
  · intro hvn
    rw [delimitedOr_lits_append]
    simp only [DelimitedOr]
    refine ⟨hva, Or.inr ?_, trivial⟩
    simpa [instOf] using hvn

/-- Without delimiters another decomposition may exist: `@a@b` with `a` accepting `1` (rejecting `1x`) and `b`
accepting `xy`: the instantiation `a := 1x`, `b := y` is also `a := 1`, `b := xy`. -/
theorem rejected_may_match_without_delimiter
    (a b : Str)
    (laws : EngineLawsAt L ceq full search caps [Tok.grp ['a'] a, Tok.grp ['b'] b] ['1','x','y'])
    (h1 : L a ['1']) (h3 : L b ['x','y']) :
    let ts := [Tok.grp ['a'] a, Tok.grp ['b'] b]
    let v : Str → Str := fun n => if n = ['a'] then ['1','x'] else ['y']
    full (renderRegex ts) (instOf ts v) = true := by
  intro ts v
  have : instOf ts v = ['1','x','y'] := by simp [ts, v, instOf]
  rw [this, laws.full_iff]
  refine ⟨[(['a'], ['1']), (['b'], ['x','y'])], ?_⟩
  have : (['1','x','y'] : Str) = ['1'] ++ (['x','y'] ++ []) := rfl
  rw [this]
  exact .grp h1 (.grp h3 .nil)

/-- A header trigger is searched unanchored: a rejected value that *contains* an accepted one matches
(finding `header-unanchored`: the rule matches, the anchored capture regex does not, the markers stay
unsubstituted). -/
theorem header_rejected_value_matches
    (n re w x y : Str) (laws : EngineLawsAt L ceq full search caps [Tok.grp n re] (x ++ w ++ y)) (hw : L re w) :
    search (renderRegex [Tok.grp n re]) (x ++ w ++ y) = true := by
  rw [laws.search_iff]
  exact ⟨x, w, y, [(n, w)], rfl, by simpa using (Decomp.grp (ceq := ceq) (n := n) hw .nil)⟩

/-- **Captures are the instantiation** (capture law + unique decomposition): for a delimiter-separated template
instantiated with accepted values, the capture regex returns exactly the instantiation (a marker used several
times is instantiated with one value, which is what its first — capturing — group consumes). -/
theorem captures_are_instantiation (hrefl : ∀ c, ceq c c = true)
    (t : Str) (ms : List (Str × Str)) (v : Str → Str)
    (laws : EngineLawsAt L ceq full search caps (tokens t ms) (instOf (tokens t ms) v))
    (hplain : namesPlain ms = true) (hre : regexNoAt ms = true)
    (hdelim : DelimitedOr L ceq v (tokens t ms))
    (hacc : ∀ n re, Tok.grp n re ∈ tokens t ms → L re (v n)) :
    ∃ m, caps (build t ms).capture (instOf (tokens t ms) v) = some m ∧ (names m).Nodup ∧
      ∀ n, m.lookup n = (groupValues (tokens t ms) v).lookup n := by
  rw [(regex_is_tokens t ms hplain hre).2]
  exact laws.caps_inst hrefl hdelim hacc

end engine

section transformers
variable (cf : CaseFns)

/-- **transformers_in_order.**  The value is `(Tₙ ∘ … ∘ T₁) v` over the recognised transformers of the list, in
list order (`to_transform() = None`: unknown kind or missing option, skipped). -/
theorem transformers_in_order (ts : List Transformer) (v : Str) :
    applyTransformers cf ts v = (ts.filterMap Transformer.toTransform).foldl (fun acc tr => tr.apply cf acc) v := by
  rw [List.foldl_filterMap]
  unfold applyTransformers
  congr 1
  funext acc t
  cases t.toTransform <;> rfl

theorem transformers_append (ts₁ ts₂ : List Transformer) (v : Str) :
    applyTransformers cf (ts₁ ++ ts₂) v = applyTransformers cf ts₂ (applyTransformers cf ts₁ v) := by
  simp [applyTransformers, List.foldl_append]

/-- What one captured value becomes: the marker's transformers in order (identity for a name without marker). -/
def markerValue (r : Rule) (n v : Str) : Str :=
  match r.getMarker n with
  | none => v
  | some m => applyTransformers cf m.transformers v

theorem transformed_eq (r : Rule) (captured : List (Str × Str)) :
    r.transformed cf captured = captured.map fun p => (p.1, markerValue cf r p.1 p.2) := by
  unfold Rule.transformed markerValue
  apply List.map_congr_left
  intro p _
  cases r.getMarker p.1 <;> rfl

theorem transformed_lookup (r : Rule) (captured : List (Str × Str)) (n : Str) :
    (r.transformed cf captured).lookup n = (captured.lookup n).map (markerValue cf r n) := by
  rw [transformed_eq]
  exact lookup_map_value (markerValue cf r) captured n

theorem variablesUnsorted_nil (r : Rule) (c : List (Str × Str)) (q : Request) (h : r.variables = []) :
    r.variablesUnsorted cf c q = r.transformed cf c := by
  simp [Rule.variablesUnsorted, h]

theorem variablesUnsorted_ne (r : Rule) (c : List (Str × Str)) (q : Request) (h : r.variables ≠ []) :
    r.variablesUnsorted cf c q = r.variables.map fun x => (x.name, x.getValue cf (r.transformed cf c) q) := by
  have : r.variables.isEmpty = false := by cases h' : r.variables <;> simp_all
  simp [Rule.variablesUnsorted, this]

/-- Without `variables` (`hbc`, `_bc`: the branch `self.variables.is_empty()` of `Rule::variables`, which the source marks
"for bc break") the substituted value of a captured marker is its transformed capture … -/
theorem marker_variable_value (r : Rule) (captured : List (Str × Str)) (q : Request) (n : Str)
    (hbc : r.variables = []) :
    (r.variablesUnsorted cf captured q).lookup n = (captured.lookup n).map (markerValue cf r n) := by
  rw [variablesUnsorted_nil cf r captured q hbc, transformed_lookup]

/-- … and an explicit variable of kind `marker` gets the variable's transformers applied on top of it. -/
theorem explicit_marker_variable_value (name mn : Str) (ts : List Transformer) (input : List (Str × Str)) (q : Request) :
    Variable.getValue cf ⟨name, .marker mn, ts⟩ input q = applyTransformers cf ts ((input.lookup mn).getD []) := rfl

end transformers

/-- Every kind dispatched by `Transformer::to_transform` in the source (list regenerated on every run by
tools/consts.d/marker.py) is recognised by the model when all option keys named in the source are present … -/
theorem transformer_kinds_recognised (k : String) (hk : k ∈ Rio.Consts.markerTransformerKinds) :
    (Transformer.toTransform ⟨some k.toList,
      some ((Rio.Consts.markerTransformerOptions.flatMap (·.2)).map fun o => (o.toList, []))⟩).isSome = true := by
  revert k
  decide +kernel

/-- … and the model recognises no other kind. -/
theorem transformer_kinds_only (t : Transformer) (k : Str) (hk : t.kind = some k) (h : t.toTransform.isSome = true) :
    k ∈ Rio.Consts.markerTransformerKinds.map String.toList := by
  -- a kind outside the list falls through every test of the dispatch
  apply Classical.byContradiction
  intro hn
  simp only [Rio.Consts.markerTransformerKinds, List.map_cons, List.map_nil, List.mem_cons, List.not_mem_nil,
    or_false, not_or] at hn
  obtain ⟨h1, h2, h3, h4, h5, h6, h7⟩ := hn
  unfold Transformer.toTransform at h
  rw [hk] at h
  simp only [] at h
  rw [if_neg h1, if_neg h2, if_neg h3, if_neg h4, if_neg h5, if_neg h6, if_neg h7] at h
  cases h

theorem strGet_inverted (s : Str) {a b : Nat} (h : b < a) : strGet s a b = none :=
  if_neg fun hc => Nat.not_le_of_lt h hc.1

/-- `Slice` after the repair of D7: an inverted range selects nothing (the unrepaired code panicked). -/
theorem slice_inverted_range_empty (from_ to : Nat) (s : Str) (h : to < from_) :
    sliceT from_ (some to) s = [] := by
  unfold sliceT
  simp only [Option.getD_some]
  split
  · rfl
  · rw [strGet_inverted s (by split <;> omega)]; rfl

theorem utf8Size_add_eq_succ (c : Char) (i : Nat) : ∃ k, c.utf8Size + i = k + 1 :=
  Nat.exists_eq_add_one_of_ne_zero (Nat.ne_of_gt (Nat.lt_of_lt_of_le (Char.utf8Size_pos c) (Nat.le_add_right _ _)))

theorem isBoundary_cons_add (c : Char) (cs : Str) (i : Nat) :
    isBoundary (c :: cs) (c.utf8Size + i) = isBoundary cs i := by
  obtain ⟨k, hk⟩ := utf8Size_add_eq_succ c i
  rw [hk]
  show (decide (c.utf8Size ≤ k + 1) && isBoundary cs (k + 1 - c.utf8Size)) = _
  rw [← hk, Nat.add_sub_cancel_left, decide_eq_true (Nat.le_add_right _ _), Bool.true_and]

theorem takeBytes_cons_add (c : Char) (cs : Str) (i : Nat) :
    takeBytes (c :: cs) (c.utf8Size + i) = c :: takeBytes cs i := by
  obtain ⟨k, hk⟩ := utf8Size_add_eq_succ c i
  rw [hk]
  show (if c.utf8Size ≤ k + 1 then c :: takeBytes cs (k + 1 - c.utf8Size) else []) = _
  rw [← hk, Nat.add_sub_cancel_left, if_pos (Nat.le_add_right _ _)]

theorem isBoundary_blen (s : Str) : isBoundary s (blen s) = true := by
  induction s with
  | nil => rfl
  | cons c cs ih => rw [blen, isBoundary_cons_add, ih]

theorem takeBytes_blen (s : Str) : takeBytes s (blen s) = s := by
  induction s with
  | nil => rfl
  | cons c cs ih => rw [blen, takeBytes_cons_add, ih]

/-- `Slice` with `from = 0` and no `to` is the identity, whatever the bytes. -/
theorem slice_whole (s : Str) : sliceT 0 none s = s := by
  have h0 : isBoundary s 0 = true := by cases s <;> rfl
  have hd : dropBytes s 0 = s := by cases s <;> rfl
  simp [sliceT, strGet, isBoundary_blen, h0, hd, takeBytes_blen]

/-- On multi-byte text the indices are byte offsets: `日本` is 6 bytes; `3..6` is `本`, an index inside a character
selects nothing (it panicked before the repair), and so does an inverted range. -/
example : sliceT 3 (some 6) ['日','本'] = ['本'] ∧ sliceT 1 (some 4) ['日','本'] = [] ∧
    sliceT 3 (some 1) ['日','本'] = [] ∧ sliceT 7 none ['日','本'] = [] ∧ sliceT 0 (some 100) ['日','本'] = ['日','本'] := by
  decide +kernel

/-- The ASCII stand-ins of heck's conversions used by the driver (differential-tested against the crate,
exhaustively for strings of length ≤ 5 over `{a,b,A,B,1,_,-}` in the thorough tier): `camelize` is LOWER camel case;
an acronym followed by a word splits before the word's capital; digits do not split. -/
example :
    camelA ['f','o','o','_','B','a','r','-','b','a','z'] = ['f','o','o','B','a','r','B','a','z'] ∧
    kebabA ['X','M','L','H','t','t','p','R','e','q','2'] = ['x','m','l','-','h','t','t','p','-','r','e','q','2'] ∧
    snakeA ['f','o','o','B','a','r',' ',' ','b','A','Z'] = ['f','o','o','_','b','a','r','_','b','_','a','z'] ∧
    strReplace [] ['-'] ['a','b'] = ['-','a','-','b','-'] ∧
    strReplace ['a','a'] ['b'] ['a','a','a','a','a'] = ['b','b','a'] := by
  decide +kernel

/-- Every template of the rule in which `from_route_rule` / `get_target` substitute. -/
def templates (r : Rule) : List Str :=
  r.target.toList ++ r.headerFilters ++ r.bodyFilters ++ r.htmlFilters.flatMap fun f => [f.1, f.2.getD f.1]

/-- **outcome_eq_spec.**  Location, `get_target`, custom header-filter values, text body-filter contents and html
body-filter value / inner_value are the simultaneous substitution of the rule's variable list (markers through their
transformers, or the explicit variables) into the respective template. -/
theorem outcome_eq_spec (cf : CaseFns) (r : Rule) (probe : Str) (captured : List (Str × Str)) (q : Request) :
    r.outcome cf probe captured q = r.outcomeSpec cf probe captured q := by
  unfold Rule.outcome Rule.outcomeSpec Rule.outcomeWith Rule.vars
  simp only [substitution]

theorem getValue_congr (cf : CaseFns) (x : Variable) (input input' : List (Str × Str)) (q : Request)
    (h : ∀ n, input.lookup n = input'.lookup n) : x.getValue cf input q = x.getValue cf input' q := by
  unfold Variable.getValue
  cases x.kind <;> simp [h]

/-- Two capture lists with the same `lookup` give the same outcome — with or without explicit variables. -/
theorem outcome_congr_captured (cf : CaseFns) (r : Rule) (probe : Str) (c c' : List (Str × Str)) (q : Request)
    (h : ∀ n, c.lookup n = c'.lookup n) : r.outcome cf probe c q = r.outcome cf probe c' q := by
  rw [outcome_eq_spec, outcome_eq_spec]
  have ht : ∀ n, (r.transformed cf c).lookup n = (r.transformed cf c').lookup n := by
    intro n; rw [transformed_lookup, transformed_lookup, h n]
  have hsub : subst (r.variablesUnsorted cf c q) = subst (r.variablesUnsorted cf c' q) := by
    funext t
    by_cases hv : r.variables = []
    · rw [variablesUnsorted_nil cf r c q hv, variablesUnsorted_nil cf r c' q hv]
      exact subst_congr (fun m => by rw [mem_names_iff_lookup, mem_names_iff_lookup, ht m]) ht t
    · rw [variablesUnsorted_ne cf r c q hv, variablesUnsorted_ne cf r c' q hv]
      congr 1
      apply List.map_congr_left
      intro x _
      rw [getValue_congr cf x _ _ q ht]
  simp only [Rule.outcomeSpec, hsub]

/-- **Every substituted value in terms of the instantiation.**  If the captured markers are the instantiation `v`
of the token list `ts` (that is what `captures_are_instantiation` provides from the capture law), every value of
`outcome_eq_spec` is the simultaneous substitution of the variable list computed from the instantiation: without
explicit variables `(mᵢ, Tᵢ (v mᵢ))` (`variables_of_instantiation_bc`), with explicit variables each variable's own
value (`Variable.getValue` on the transformed instantiation). -/
theorem outcome_of_instantiation (cf : CaseFns) (r : Rule) (probe : Str) (q : Request)
    (caps₀ captured : List (Str × Str)) (hcap : ∀ n, captured.lookup n = caps₀.lookup n) :
    r.outcome cf probe captured q = r.outcomeWith probe (subst (r.variablesUnsorted cf caps₀ q)) := by
  rw [outcome_congr_captured cf r probe captured caps₀ q hcap, outcome_eq_spec]
  rfl

/-- The fields of that outcome, spelled out (which template goes where is the model's transcription of
`from_route_rule`, differential-tested). -/
theorem outcome_fields (r : Rule) (probe : Str) (sub : Str → Str) :
    (r.outcomeWith probe sub).headers = r.headerFilters.map sub ∧
    (r.outcomeWith probe sub).body = (if r.bodyFilters.isEmpty then [] else probe ++ r.bodyFilters.flatMap sub) ∧
    (r.outcomeWith probe sub).html = r.htmlFilters.map (fun f => (sub f.1, sub (f.2.getD f.1))) ∧
    (r.outcomeWith probe sub).target = r.target.map sub ∧
    (∀ t, r.target = some t → t ≠ [] → (r.outcomeWith probe sub).location = [sub t]) := by
  refine ⟨rfl, rfl, rfl, rfl, ?_⟩
  intro t ht hne
  have : t.isEmpty = false := by cases t <;> simp_all
  simp [Rule.outcomeWith, ht, this]

/-- Without explicit variables the variable list of an instantiation is `(mᵢ, Tᵢ (v mᵢ))`, in token order. -/
theorem variables_of_instantiation_bc (cf : CaseFns) (r : Rule) (q : Request) (ts : List Tok) (v : Str → Str)
    (hbc : r.variables = []) :
    r.variablesUnsorted cf (groupValues ts v) q = (groupNames ts).map fun n => (n, markerValue cf r n (v n)) := by
  rw [variablesUnsorted_nil cf r _ q hbc, transformed_eq]
  simp [groupValues, List.map_map, Function.comp_def]

/-- With explicit variables: one entry per variable, a `marker` variable being its own transformers applied to the
transformed instantiated value of the marker it names (empty if that marker is not captured). -/
theorem variables_of_instantiation_explicit (cf : CaseFns) (r : Rule) (q : Request) (ts : List Tok) (v : Str → Str)
    (hex : r.variables ≠ []) :
    r.variablesUnsorted cf (groupValues ts v) q =
      r.variables.map fun x => (x.name, x.getValue cf (r.transformed cf (groupValues ts v)) q) :=
  variablesUnsorted_ne cf r _ q hex

/-- The `marker` case of `variables_of_instantiation_explicit` in closed form, for a marker of the template (`hmem`). -/
theorem explicit_marker_variable_of_instantiation (cf : CaseFns) (r : Rule) (q : Request) (ts : List Tok)
    (v : Str → Str) (name mn : Str) (trs : List Transformer) (hmem : mn ∈ groupNames ts) :
    Variable.getValue cf ⟨name, .marker mn, trs⟩ (r.transformed cf (groupValues ts v)) q =
      applyTransformers cf trs (markerValue cf r mn (v mn)) := by
  simp only [Variable.getValue, transformed_lookup]
  have : (groupValues ts v).lookup mn = some (v mn) := lookup_map_key v hmem
  simp [this]

/-- **Location = target[@mᵢ := Tᵢ(vᵢ)]** (no explicit variables): corollary of `outcome_of_instantiation`. -/
theorem location_is_target_with_transformed_values (cf : CaseFns) (r : Rule) (probe : Str) (q : Request)
    (ts : List Tok) (v : Str → Str) (captured : List (Str × Str)) (t : Str)
    (hbc : r.variables = []) (ht : r.target = some t) (hne : t ≠ [])
    (hcap : ∀ n, captured.lookup n = (groupValues ts v).lookup n) :
    (r.outcome cf probe captured q).location =
      [subst ((groupNames ts).map fun n => (n, markerValue cf r n (v n))) t] := by
  rw [outcome_of_instantiation cf r probe q (groupValues ts v) captured hcap,
    (outcome_fields r probe _).2.2.2.2 t ht hne, variables_of_instantiation_bc cf r q ts v hbc]

/-- The token view of the rule's path (percent-encoded source path, percent-encoded marker expressions:
`Rule::path_and_query`, `Rule::markers`). -/
def pathTokens (r : Rule) : List Tok :=
  tokens (pctEncode Rio.Consts.markerPathEncodeSet r.path) r.routeMarkers

/-- The token view of the rule's host `h` (`Rule::host`: the source host as written, not percent-encoded, with the same
`Rule::markers`). -/
def hostTokens (r : Rule) (h : Str) : List Tok := tokens h r.routeMarkers

theorem dynamic_of_sod {lower : Str → Str} {t : Str} {ms : List (Str × Str)} {ic : Bool} {m : MarkerString}
    (h : StaticOrDynamic.newWithMarkers lower t ms ic = .dynamic m) : MarkerString.new t ms ic = some m := by
  simp only [StaticOrDynamic.newWithMarkers] at h
  split at h
  · simp at h
  · split at h
    · simp at h
    · rename_i m' hm
      simp at h; subst h; exact hm

/-- One side (path or host) of a rule at an instantiation.  The captures are stated as one `extend` of `Route::capture` onto any
map `acc`, so that the sides compose. -/
theorem sod_inst (E : Engine) {lower : Str → Str} {t : Str} {ms : List (Str × Str)} {ic : Bool} {m : MarkerString}
    (hdyn : StaticOrDynamic.newWithMarkers lower t ms ic = .dynamic m)
    (hplain : namesPlain ms = true) (hre : regexNoAt ms = true)
    {L : Str → Str → Prop} {ceq : Char → Char → Bool} (hrefl : ∀ c, ceq c c = true) {v : Str → Str} {s : Str}
    (hs : s = instOf (tokens t ms) v) (laws : EngineLawsAt L ceq (E.full ic) E.search (E.caps ic) (tokens t ms) s)
    (hacc : ∀ n re, Tok.grp n re ∈ tokens t ms → L re (v n)) :
    E.full ic m.regex s = true ∧
    (DelimitedOr L ceq v (tokens t ms) → ∀ acc n,
      (extendMap acc (sodCapture E (.dynamic m) s)).lookup n = ((groupValues (tokens t ms) v).lookup n).or (acc.lookup n)) := by
  subst hs
  obtain ⟨hregex, hcapture, hic⟩ := markerString_is_tokens t ms ic m hplain hre (dynamic_of_sod hdyn)
  refine ⟨by rw [hregex]; exact laws.full_inst hrefl hacc, fun hdelim acc n => ?_⟩
  obtain ⟨mc, hc, hnd, hlk⟩ := laws.caps_inst hrefl hdelim hacc
  rw [sodCapture, capOf, hcapture, hic, hc, Option.getD_some, lookup_extendMap _ mc hnd, hlk]

/-- **End to end on the rule model** (the functions the correspondence check runs against the library): a rule
with markers in its PATH and, optionally, in its HOST (no header triggers), with or without explicit variables.
The request's normalised path is the instantiation `v` of the path tokens (its matching path — lower-cased under
`ignore_path_and_query_case` — an instantiation `v'` with accepted values), its (normalised) host the instantiation
`v` of the host tokens.  Then the rule matches and EVERY substituted value (Location, `get_target`, header-filter
values, body-filter contents, html values) is the simultaneous substitution of the variable list of the
instantiation, the host's captures overriding the path's (`Route::capture`).  Assumed: the engine laws at the three
haystacks of this request (`EngineLawsAt`), the delimiter condition, plain marker names, `@`-free expressions. -/
theorem rule_end_to_end (E : Engine) (cf : CaseFns) (cfg : Config) (r : Rule) (q : Request) (probe : Str)
    (L Lh : Str → Str → Prop) (ceq ceqh : Char → Char → Bool)
    (hrefl : ∀ c, ceq c c = true) (hreflh : ∀ c, ceqh c c = true)
    (hhdr : r.headers = [])
    (mstr : MarkerString) (hdyn : r.pathSoD cf cfg = .dynamic mstr)
    (hplain : namesPlain r.routeMarkers = true) (hre : regexNoAt r.routeMarkers = true)
    (v v' : Str → Str)
    (lawsM : EngineLawsAt L ceq (E.full cfg.ignorePathCase) E.search (E.caps cfg.ignorePathCase) (pathTokens r) q.matching)
    (lawsP : EngineLawsAt L ceq (E.full cfg.ignorePathCase) E.search (E.caps cfg.ignorePathCase) (pathTokens r) q.path)
    (hmatching : q.matching = instOf (pathTokens r) v')
    (hacc' : ∀ n re, Tok.grp n re ∈ pathTokens r → L re (v' n))
    (hpath : q.path = instOf (pathTokens r) v)
    (hdelim : DelimitedOr L ceq v (pathTokens r))
    (hacc : ∀ n re, Tok.grp n re ∈ pathTokens r → L re (v n))
    -- the host: absent, or a template with markers instantiated by the request host
    (hostCaps : List (Str × Str))
    (hhost : (r.host = none ∧ hostCaps = []) ∨
      ∃ h mh hs, r.host = some h ∧ r.hostSoD cf cfg = some (.dynamic mh) ∧ q.host = some hs ∧
        hs = instOf (hostTokens r h) v ∧ hostCaps = groupValues (hostTokens r h) v ∧
        EngineLawsAt Lh ceqh (E.full cfg.ignoreHostCase) E.search (E.caps cfg.ignoreHostCase) (hostTokens r h) hs ∧
        DelimitedOr Lh ceqh v (hostTokens r h) ∧ (∀ n re, Tok.grp n re ∈ hostTokens r h → Lh re (v n))) :
    r.matches E cf cfg q = true ∧
    r.outcome cf probe (r.capture E cf cfg q) q =
      r.outcomeWith probe (subst (r.variablesUnsorted cf (hostCaps ++ groupValues (pathTokens r) v) q)) := by
  have hrh : r.routeHeaders cfg = [] := by simp [Rule.routeHeaders, hhdr]
  -- the path is one side at two haystacks: matched at the matching path, captured from the path itself
  have hpm := (sod_inst E hdyn hplain hre hrefl hmatching lawsM hacc').1
  have hpc := (sod_inst E hdyn hplain hre hrefl hpath lawsP hacc).2 hdelim
  rcases hhost with ⟨hnone, rfl⟩ | ⟨h, mh, hs, hrhost, hhsod, hqhost, hhs, rfl, lawsH, hdelimH, haccH⟩
  · have hhostSoD : r.hostSoD cf cfg = none := by simp [Rule.hostSoD, hnone]
    refine ⟨by simp [Rule.matches, hdyn, hhostSoD, hrh, hpm], outcome_of_instantiation _ _ _ _ _ _ fun n => ?_⟩
    simp only [Rule.capture, hhostSoD, hrh, List.foldl_nil, hdyn]
    rw [hpc, List.nil_append]; exact Option.or_none
  · have hH := sod_inst E (by simpa [Rule.hostSoD, hrhost] using hhsod) hplain hre hreflh hhs lawsH haccH
    refine ⟨by simp [Rule.matches, hdyn, hhsod, hqhost, hrh, hpm, hH.1], outcome_of_instantiation _ _ _ _ _ _ fun n => ?_⟩
    simp only [Rule.capture, hhsod, hqhost, hrh, List.foldl_nil, hdyn]
    rw [hH.2 hdelimH, hpc, lookup_append']; exact congrArg _ Option.or_none

/-- `substitution` on names that are prefixes of one another, a reference followed by name-extending text, an
unknown reference and a trailing `@`. -/
example :
    let vs : List (Str × Str) := [(['a'], ['1']), (['a','b'], ['x','y']), (['a','b','c'], ['f','o','o'])]
    let t : Str := ['/','@','a','b','c','-','@','a','b','-','@','a','-','@','a','b','c','d','-','@','a','b','x','-','@','q','@']
    replaceVars t (sortVars vs) = ['/','f','o','o','-','x','y','-','1','-','f','o','o','d','-','x','y','x','-','@','q','@'] := by
  decide +kernel

/-- `regex_is_tokens` on a template with a meta character, two markers sharing a prefix and a stray `@`. -/
example :
    let ms : List (Str × Str) := [(['i','d'], ['[','0','-','9',']','+']), (['i','d','2'], ['[','a','-','z',']','+'])]
    let t : Str := ['/','a','.','b','/','@','i','d','/','@','i','d','2','@']
    namesPlain ms = true ∧ regexNoAt ms = true ∧
    tokens t ms = [.lit '/', .lit 'a', .lit '.', .lit 'b', .lit '/', .grp ['i','d'] ['[','0','-','9',']','+'], .lit '/',
                   .grp ['i','d','2'] ['[','a','-','z',']','+'], .lit '@'] ∧
    (build t ms).regex = "/a\\.b/(?:[0-9]+)/(?:[a-z]+)@".toList := by
  decide +kernel

/-- A marker used twice: the first occurrence is the named group, the second a plain group (repair of the
`repeated-marker` finding: before it both were named and the capture regex did not compile). -/
example :
    let ms : List (Str × Str) := [(['i','d'], ['[','0','-','9',']','+'])]
    let t : Str := ['/','@','i','d','/','x','/','@','i','d']
    (build t ms).regex = "/(?:[0-9]+)/x/(?:[0-9]+)".toList ∧
    (build t ms).capture = "/(?P<id>[0-9]+)/x/(?:[0-9]+)".toList ∧
    renderCapture (tokens t ms) = "/(?P<id>[0-9]+)/x/(?:[0-9]+)".toList := by
  decide +kernel

/-- The engine laws are satisfiable for every language, comparison and token list (so the theorems that assume
them, at one haystack — `EngineLaws.at_` — are not vacuous): take the specification itself as the engine. -/
theorem engineLaws_satisfiable (L : Str → Str → Prop) (ceq : Char → Char → Bool) (ts : List Tok) :
    ∃ full search caps, EngineLaws L ceq full search caps ts := by
  classical
  refine ⟨fun _ s => decide (∃ vs, Decomp L ceq ts s vs),
    fun _ s => decide (∃ a mid b vs, s = a ++ mid ++ b ∧ Decomp L ceq ts mid vs),
    fun _ s => if h : ∃ vs, Decomp L ceq ts s vs then some (dedupKeys (Classical.choose h)) else none, ?_⟩
  refine ⟨?_, ?_, ?_, ?_, ?_⟩
  · intro s; simp
  · intro s; simp
  · intro s m h
    by_cases hex : ∃ vs, Decomp L ceq ts s vs
    · simp only [hex, dite_true, Option.some.injEq] at h
      subst h
      exact ⟨_, Classical.choose_spec hex, fun n => lookup_dedupKeys _ n⟩
    · simp [hex] at h
  · intro s hex
    simp [hex]
  · intro s m h
    by_cases hex : ∃ vs, Decomp L ceq ts s vs
    · simp only [hex, dite_true, Option.some.injEq] at h
      subst h
      exact nodup_names_dedupKeys _
    · simp [hex] at h

theorem slash_ne_digit {x : Char} (h : x.isDigit = true) : ('/' == x) = false :=
  beq_false_of_ne fun e => by subst e; simp [Char.isDigit] at h

/-- A concrete instance of the matching theorems: template `/p/@id/x`, `id` accepting non-empty digit strings
(`L`), exact char comparison.  The template is delimiter-separated for every value without `/`; so the
instantiation matches iff the value is a non-empty digit string. -/
example (full search : Str → Str → Bool) (caps : Str → Str → Option (List (Str × Str)))
    (re : Str) (hre : noAt re = true)
    (v : Str) (hv : '/' ∉ v)
    (laws : EngineLawsAt (fun _ v => v ≠ [] ∧ ∀ c ∈ v, c.isDigit = true) (fun a b => a == b) full search caps
      (tokens ['/','p','/','@','i','d','/','x'] [(['i','d'], re)])
      (instOf (tokens ['/','p','/','@','i','d','/','x'] [(['i','d'], re)]) (fun _ => v))) :
    full (build ['/','p','/','@','i','d','/','x'] [(['i','d'], re)]).regex
        (instOf (tokens ['/','p','/','@','i','d','/','x'] [(['i','d'], re)]) (fun _ => v)) = true
      ↔ (v ≠ [] ∧ ∀ c ∈ v, c.isDigit = true) := by
  have htok : tokens ['/','p','/','@','i','d','/','x'] [(['i','d'], re)] =
      [.lit '/', .lit 'p', .lit '/', .grp ['i','d'] re, .lit '/', .lit 'x'] := by
    rfl
  have hplain : namesPlain [((['i','d'] : Str), re)] = true := by
    simp [namesPlain, plainName, isMeta]
  have hnoat : regexNoAt [((['i','d'] : Str), re)] = true := by simp [regexNoAt, hre]
  rw [match_iff_all_accepted _ _ full search caps (by simp) _ _ _ laws hplain hnoat]
  · rw [htok]; simp
  · apply delimitedOr_of_delimited
    rw [htok]
    simp only [Delimited]
    refine ⟨?_, ?_, trivial⟩
    · intro x hx
      have : x ≠ '/' := fun e => hv (e ▸ hx)
      simpa using fun e => this e.symm
    · exact fun w hw x hx => slash_ne_digit (hw.2 x hx)

end Rio.C10
