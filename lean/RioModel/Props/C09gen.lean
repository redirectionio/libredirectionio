/-
C09 (URL normalisation) — the normaliser TRANSLATED FROM THE SOURCE on every run (tools/consts.d/w4_translate_w21_urlnorm.py,
section `w4_translate_w21_urlnorm`): `Rio.Consts.genSanitizeUrl` and `genPqsFromConfig` from src/http/query.rs (`sanitize_url`,
`PathAndQueryWithSkipped::from_config`), and the RULE side `genBuildSortedQuery` from src/http/request.rs
(`Request::build_sorted_query`).

PARAMETERS of the translation (abstract functions, exactly the ones the hand model Model/Url.lean hand-models):
`pctEncode` (utf8_percent_encode; the SETS are the regenerated constants), `pqParse` / `pqPath` / `pqQuery`
(http::uri::PathAndQuery), `parseQuery` (form_urlencoded::parse), `btreeCollect` (BTreeMap collect + iteration),
`toLowercase`.  `gen_from_config_eq_param_model` holds for ARBITRARY parameter functions (no hypothesis); the instance at the
executable stand-ins of Model/Url.lean is `gen_from_config_eq_model`.  Nothing in the translated function can panic
(no index / unwrap / arithmetic): no representation hypothesis is needed, states and inputs are unrestricted.
-/
import RioModel.Proofs.UrlGen
import RioModel.Props.C09

namespace Rio.C09
open Rio.Url Rio.Consts Rio.UrlGen

/-- the translated `from_config` at the stand-ins of Model/Url.lean for its seven abstract parameters -/
def genFromConfig (cfg : Cfg) (u : Bytes) : Bytes × Option Bytes × Option Bytes × Bytes :=
  genPqsFromConfig pctEncode pqParse (fun x => pqPath x.1) (fun x => x.2) parseQuery btCollect lowerAscii
    cfg.ignoreCase cfg.ignoreMarketing cfg.passMarketing cfg.marketing u

/-- **translated `from_config` = the hand-written model with its external functions as parameters** (`π`: any type of
parsed `PathAndQuery` values). -/
theorem gen_from_config_eq_param_model {π : Type} (enc : List Nat → Bytes → Bytes) (parse : Bytes → Option π)
    (path : π → Bytes) (query : π → Option Bytes) (pq : Bytes → List (Bytes × Bytes))
    (bt : List (Bytes × Bytes) → List (Bytes × Bytes)) (lower : Bytes → Bytes) (cfg : Cfg) (u : Bytes) :
    genPqsFromConfig enc parse path query pq bt lower cfg.ignoreCase cfg.ignoreMarketing cfg.passMarketing
        cfg.marketing u =
      toTuple (fromConfigP enc parse path query pq bt lower cfg u) :=
  gen_eq_fromConfigP enc parse path query pq bt lower cfg u

theorem param_model_standins (cfg : Cfg) (u : Bytes) :
    fromConfigP pctEncode pqParse (fun x => pqPath x.1) (fun x => x.2) parseQuery btCollect lowerAscii cfg u =
      fromConfig cfg u :=
  fromConfigP_standins cfg u

/-- **translated `from_config` = `Rio.Url.fromConfig`** (the four fields in declaration order). -/
theorem gen_from_config_eq_model (cfg : Cfg) (u : Bytes) :
    genFromConfig cfg u =
      ((fromConfig cfg u).pathAndQuery, (fromConfig cfg u).matching, (fromConfig cfg u).skipped,
        (fromConfig cfg u).original) := by
  unfold genFromConfig
  rw [gen_eq_fromConfigP, fromConfigP_standins]
  rfl

theorem gen_sanitize_eq_model (u : Bytes) : genSanitizeUrl pctEncode u = sanitize u := rfl

/-- For ARBITRARY parameter functions: the translated code returns the input as `original`, forwards no skipped
parameters unless `pass_marketing_query_params_to_target`, and never an empty `Some("")`. -/
theorem gen_from_config_original_skipped {π : Type} (enc : List Nat → Bytes → Bytes) (parse : Bytes → Option π)
    (path : π → Bytes) (query : π → Option Bytes) (pq : Bytes → List (Bytes × Bytes))
    (bt : List (Bytes × Bytes) → List (Bytes × Bytes)) (lower : Bytes → Bytes) (ic im pm : Bool)
    (mk : List Bytes) (u : Bytes) :
    (genPqsFromConfig enc parse path query pq bt lower ic im pm mk u).2.2.2 = u ∧
    (pm = false → (genPqsFromConfig enc parse path query pq bt lower ic im pm mk u).2.2.1 = none) ∧
    (genPqsFromConfig enc parse path query pq bt lower ic im pm mk u).2.2.1 ≠ some [] := by
  have h := gen_eq_fromConfigP enc parse path query pq bt lower ⟨ic, im, pm, mk, false, false⟩ u
  simp only at h
  rw [h]
  unfold fromConfigP toTuple
  cases parse (enc urlSet u) with
  | none => simp
  | some p =>
    refine ⟨by simp, fun hpm => by simp [hpm], ?_⟩
    exact ite_some_ne_nil _ _

/-- **`order_independent` of the TRANSLATED `from_config`**: permuting the `&`-pieces of the query (distinct decoded
keys) leaves `path_and_query`, `path_and_query_matching` and `skipped_query_params` unchanged. -/
theorem order_independent_gen (cfg : Cfg) (P Q Q' : Bytes) (hP : 63 ∉ P)
    (hb : IsBytes (P ++ 63 :: Q)) (hb' : IsBytes (P ++ 63 :: Q'))
    (hperm : (pieces 38 Q).Perm (pieces 38 Q'))
    (hnd : ((parseQuery Q).map Prod.fst).Nodup)
    (hacc : (pqParse (sanitize (P ++ 63 :: Q))).isSome = true) :
    (genFromConfig cfg (P ++ 63 :: Q)).1 = (genFromConfig cfg (P ++ 63 :: Q')).1 ∧
    (genFromConfig cfg (P ++ 63 :: Q)).2.1 = (genFromConfig cfg (P ++ 63 :: Q')).2.1 ∧
    (genFromConfig cfg (P ++ 63 :: Q)).2.2.1 = (genFromConfig cfg (P ++ 63 :: Q')).2.2.1 := by
  rw [gen_from_config_eq_model, gen_from_config_eq_model]
  exact order_independent cfg P Q Q' hP hb hb' hperm hnd hacc

/-- **`marketing_ignored` of the TRANSLATED `from_config`**: same path and same non-marketing pieces ⇒ same
`path_and_query` and same matching key. -/
theorem marketing_ignored_gen (cfg : Cfg) (u u' : Bytes) (hb : IsBytes u) (hb' : IsBytes u')
    (hacc : (pqParse (sanitize u)).isSome = true) (hacc' : (pqParse (sanitize u')).isSome = true)
    (hpath : (splitFirst 63 u).1 = (splitFirst 63 u').1)
    (hkept : keptPieces cfg (queryOf u) = keptPieces cfg (queryOf u')) :
    (genFromConfig cfg u).1 = (genFromConfig cfg u').1 ∧
    (genFromConfig cfg u).2.1 = (genFromConfig cfg u').2.1 := by
  have h := (marketing_ignored cfg u u' hb hb' hacc hacc' hpath hkept).1
  rw [gen_from_config_eq_model, gen_from_config_eq_model, fromConfig_matching, fromConfig_matching, h]
  exact ⟨rfl, rfl⟩

/-- `/a?b=1&utm_source=x&a=2` under (ignore case off, ignore marketing on, pass on, {utm_source}):
sorted kept parameters `a=2&b=1`, one `?`, one `&`, skipped `utm_source=x`. -/
example :
    genFromConfig ⟨false, true, true, [[117, 116, 109, 95, 115, 111, 117, 114, 99, 101]], false, false⟩
      ([47, 97, 63, 98, 61, 49, 38] ++ [117, 116, 109, 95, 115, 111, 117, 114, 99, 101] ++ [61, 120, 38, 97, 61, 50]) =
      ([47, 97, 63, 97, 61, 50, 38, 98, 61, 49], some [47, 97, 63, 97, 61, 50, 38, 98, 61, 49],
        some ([117, 116, 109, 95, 115, 111, 117, 114, 99, 101] ++ [61, 120]),
        [47, 97, 63, 98, 61, 49, 38] ++ [117, 116, 109, 95, 115, 111, 117, 114, 99, 101] ++ [61, 120, 38, 97, 61, 50]) := by
  decide +kernel

/-- the marketing parameter FIRST in sorted order (`a` is the marketing name): the first kept parameter gets no `&`
(the separator looks at the receiving string, not at the position in the map: seeded/r8e-1). -/
example :
    genFromConfig ⟨false, true, false, [[97]], false, false⟩ [47, 63, 98, 61, 49, 38, 97, 61, 50] =
      ([47, 63, 98, 61, 49], some [47, 63, 98, 61, 49], none, [47, 63, 98, 61, 49, 38, 97, 61, 50]) := by
  decide +kernel

/-- the `Err` fallback (back-quote in the path), lower-cased under the flag. -/
example :
    genFromConfig ⟨true, false, false, [], false, false⟩ [47, 96, 65] =
      ([47, 96, 65], some [47, 96, 97], none, [47, 96, 65]) := by
  decide +kernel

/-- the hypotheses of `order_independent_gen` are satisfiable, with a real permutation. -/
example :
    (63 ∉ ([47, 97] : Bytes)) ∧ (pieces 38 [98, 61, 49, 38, 97, 61, 50]).Perm (pieces 38 [97, 61, 50, 38, 98, 61, 49]) ∧
    ((parseQuery [98, 61, 49, 38, 97, 61, 50]).map Prod.fst).Nodup ∧
    (pqParse (sanitize ([47, 97] ++ 63 :: [98, 61, 49, 38, 97, 61, 50]))).isSome = true := by
  refine ⟨by decide +kernel, ?_, by decide +kernel, by decide +kernel⟩
  show List.Perm [[98, 61, 49], [97, 61, 50]] [[97, 61, 50], [98, 61, 49]]
  exact List.Perm.swap _ _ _

/-- **translated `build_sorted_query` = the hand-written model** with encoder / `form_urlencoded::parse` / `BTreeMap`
collect as parameters. -/
theorem gen_sorted_query_eq_param_model (enc : List Nat → Bytes → Bytes) (pq : Bytes → List (Bytes × Bytes))
    (bt : List (Bytes × Bytes) → List (Bytes × Bytes)) (q : Bytes) :
    genBuildSortedQuery enc pq bt q = buildSortedQueryP enc pq bt q :=
  gen_sorted_eq_P enc pq bt q

/-- **translated `build_sorted_query` = `Rio.Url.buildSortedQuery`** at the stand-ins. -/
theorem gen_sorted_query_eq_model (q : Bytes) :
    genBuildSortedQuery pctEncode parseQuery btCollect q = buildSortedQuery q := by
  rw [gen_sorted_eq_P, buildSortedQueryP_standins]

/-- `query_string.pop()` is translated as `List.dropLast` (a BYTE; Rust pops a CHAR): for arbitrary parameters the
string the loop builds is empty or ends in the ASCII `&` (38) just pushed, so the popped char is that one byte or nothing,
and the translated function returns that string without it (`None` when nothing is left). -/
theorem gen_sorted_query_pop_ascii (enc : List Nat → Bytes → Bytes) (pq : Bytes → List (Bytes × Bytes))
    (bt : List (Bytes × Bytes) → List (Bytes × Bytes)) (q : Bytes) :
    ∃ s : Bytes, (s = [] ∨ ∃ t, s = t ++ [38]) ∧
      genBuildSortedQuery enc pq bt q = (if s.dropLast.isEmpty then none else some s.dropLast) :=
  ⟨(bt (pq q)).flatMap (sortedParamP enc), Sep.flatMap_ends (fun _ => rfl) _, gen_sorted_eq_P enc pq bt q⟩

/-- **order independence of the TRANSLATED rule side**: two query strings whose decoded parameter lists are permutations
of each other (distinct decoded keys) give the same sorted query. -/
theorem sorted_query_order_independent_gen (Q Q' : Bytes) (hperm : (parseQuery Q).Perm (parseQuery Q'))
    (hnd : ((parseQuery Q).map Prod.fst).Nodup) :
    genBuildSortedQuery pctEncode parseQuery btCollect Q = genBuildSortedQuery pctEncode parseQuery btCollect Q' := by
  rw [gen_sorted_eq_P, gen_sorted_eq_P]
  unfold buildSortedQueryP
  rw [btCollect_perm hperm hnd]

/-- a repeated key keeps its LAST value (not the first: seeded/r9f-2): `k=1&k=2` ↦ `k=2`; sorted: `b=1&a` ↦ `a&b=1`;
only empty pieces ↦ `None`. -/
example : genBuildSortedQuery pctEncode parseQuery btCollect [107, 61, 49, 38, 107, 61, 50] = some [107, 61, 50] := by decide +kernel
example : genBuildSortedQuery pctEncode parseQuery btCollect [98, 61, 49, 38, 97] = some [97, 38, 98, 61, 49] := by decide +kernel
example : genBuildSortedQuery pctEncode parseQuery btCollect [38, 38] = none := by decide +kernel
/-- the hypotheses of `sorted_query_order_independent_gen` are satisfiable with a real permutation. -/
example : (parseQuery [98, 61, 49, 38, 97]).Perm (parseQuery [97, 38, 98, 61, 49]) ∧
    ((parseQuery [98, 61, 49, 38, 97]).map Prod.fst).Nodup := by
  refine ⟨?_, by decide +kernel⟩
  show List.Perm [([98], [49]), ([97], [])] [([97], []), ([98], [49])]
  exact List.Perm.swap _ _ _

end Rio.C09
