/-
C02 — incremental rule updates are equivalent to rebuilding; removal returns the rule.

`Op` / `runOps` / `liveOps` / `ValidHistory` (Model/RouterOps.lean):
histories over insert, remove, batch_remove, apply_change_set(added, updated, removed) and cache,
executed on the router model (`Router.insert` = `Router::insert_route`, `Router.remove`,
`Router.batchRemove`, `Router.applyChangeSet`, with the code's `count` arithmetic: +1 on insert,
−1 on a successful remove, untouched by batch_remove, buckets pruned iff `count == 0`, so buckets
emptied by a batch removal survive).  `RRepr E S L`: state `S` represents the live list `L`
(layer by layer: every bucket of every matcher represents the routes selected by its key, `count`
is at least the number of represented routes, and the id map holds exactly `L`).  The history statements are instances
(`towerSpec E`; over the real trees `towerTSpec`) of `g_op` … `g_run_equiv` below, which hold of any tower with laws.

Clone isolation has no content in this pure model (states are values; `Op.run` returns a new state and
cannot change the old one); what the Rust code adds (manual `Clone` of the tree items, `Arc`ed
regexes replaced by `cache`) is stated over a model with sharing in Props/C02iso.lean and validated by the
correspondence harness `c02`.
-/
import RioModel.Proofs.RouterTreeTop
import RioModel.Proofs.RouterUnderflow
import RioModel.Generated.Consts
import RioModel.Props.C08
import RioModel.Model.RouterParse

namespace Rio.C02
open Rio.Router

/-- the routes an operation inserts -/
def opRoutes : Op → List Route
  | .insert r => [r]
  | .changeSet a u _ => u ++ a
  | _ => []

theorem valid_prefix (h1 h2 : List Op) : ∀ L, ValidHistory (h1 ++ h2) L → ValidHistory h1 L := by
  induction h1 with
  | nil => intro L _; trivial
  | cons op h1 ih => intro L hv; exact ⟨hv.1, ih _ hv.2⟩

section
variable (E : Env) {O : MOps} (OL : MLaws O) {GoodR : Route → Prop} (hT : TowerSpec E OL GoodR)
include hT

theorem g_op (S : RouterG O) (L : List Route) (op : Op) (h : RReprG OL S L) (hv : op.Valid L)
    (hg : ∀ r ∈ opRoutes op, GoodR r) : RReprG OL (op.runG O S) (op.live L) := by
  cases op with
  | insert r => exact g_insert E _ hT S L r h hv (hg r (List.mem_singleton.2 rfl))
  | remove id => exact g_remove _ S L id h
  | batchRemove ids => exact g_batch _ S L ids h
  | changeSet a u d => exact g_changeSet E _ hT S L a u d h hv hg
  | cache n => exact g_cache _ S L n h

theorem g_run (h : List Op) : ∀ (S : RouterG O) (L : List Route), RReprG OL S L → ValidHistory h L →
    (∀ op ∈ h, ∀ r ∈ opRoutes op, GoodR r) → RReprG OL (runOpsG O h S) (liveOps h L) := by
  induction h with
  | nil => intro S L hr _ _; exact hr
  | cons op h ih =>
    intro S L hr hv hg
    exact ih _ _ (g_op E OL hT S L op hr hv.1 (hg op (List.mem_cons_self ..))) hv.2
      (fun op' hop' => hg op' (List.mem_cons_of_mem _ hop'))

omit E OL hT in
theorem live_good (h : List Op) : ∀ L : List Route, (∀ r ∈ L, GoodR r) →
    (∀ op ∈ h, ∀ r ∈ opRoutes op, GoodR r) → ∀ r ∈ liveOps h L, GoodR r := by
  induction h with
  | nil => intro L hL _; exact hL
  | cons op h ih =>
    intro L hL hg
    refine ih (op.live L) ?_ (fun op' hop' => hg op' (List.mem_cons_of_mem _ hop'))
    intro x hx
    have hop := hg op (List.mem_cons_self ..)
    cases op with
    | insert r0 =>
      rcases List.mem_cons.mp hx with rfl | hx
      · exact hop x (List.mem_singleton.2 rfl)
      · exact hL x hx
    | remove id => exact hL x (List.mem_filter.mp hx).1
    | batchRemove ids => exact hL x (List.mem_filter.mp hx).1
    | changeSet a u d =>
      simp only [Op.live, liveChangeSet, insertAll_eq, List.mem_append, List.mem_reverse] at hx
      rcases hx with hx | hx | hx
      · exact hop x (List.mem_append_right _ hx)
      · exact hop x (List.mem_append_left _ hx)
      · exact hL x (List.mem_filter.mp hx).1
    | cache n => exact hL x hx

theorem g_run_prefix (h : List Op) (hv : ValidHistory h []) (hg : ∀ op ∈ h, ∀ r ∈ opRoutes op, GoodR r)
    (h' : List Op) (hp : h' <+: h) :
    RReprG OL (runOpsG O h' (RouterG.empty O)) (liveOps h' []) ∧ ∀ op ∈ h', ∀ r ∈ opRoutes op, GoodR r := by
  obtain ⟨t, rfl⟩ := hp
  have hg' : ∀ op ∈ h', ∀ r ∈ opRoutes op, GoodR r := fun op hop => hg op (List.mem_append_left _ hop)
  exact ⟨g_run E OL hT h' _ [] (g_empty OL) (valid_prefix h' t [] hv) hg', hg'⟩

theorem g_run_equiv (h : List Op) (hv : ValidHistory h []) (hg : ∀ op ∈ h, ∀ r ∈ opRoutes op, GoodR r)
    (h' : List Op) (hp : h' <+: h) (q : Req) :
    (RouterG.matchReq O (runOpsG O h' (RouterG.empty O)) q).Perm
        (RouterG.matchReq O (RouterG.build O (liveOps h' [])) q) ∧
      RouterG.len O (runOpsG O h' (RouterG.empty O)) = (liveOps h' []).length := by
  obtain ⟨hr, hg'⟩ := g_run_prefix E OL hT h hv hg h' hp
  have hb := g_build E OL hT (liveOps h' []) hr.ids (live_good h' [] (fun _ hr => nomatch hr) hg')
  exact ⟨g_match_perm OL _ _ _ _ hr hb (fun x => List.mem_reverse.symm) q, g_len OL _ _ hr⟩

end

theorem repr_empty (E : Env) : RRepr E (Router.empty E) [] := g_empty _

theorem repr_insert (E : Env) (S : Router E) (L : List Route) (r : Route) (h : RRepr E S L)
    (hfresh : r.id ∉ L.map (·.id)) : RRepr E (S.insert E r) (r :: L) :=
  g_insert E _ (towerSpec E) S L r h hfresh trivial

theorem repr_remove (E : Env) (S : Router E) (L : List Route) (id : String) (h : RRepr E S L) :
    RRepr E (S.remove E id).1 (L.filter (fun r => r.id != id)) := g_remove _ S L id h

/-- `batch_remove(ids)`: `count`s are left untouched by the code; harmless, the relation only needs
`count ≥` the number of represented routes -/
theorem repr_batch_remove (E : Env) (S : Router E) (L : List Route) (ids : List String)
    (h : RRepr E S L) :
    RRepr E (S.batchRemove E ids) (L.filter (fun r => !ids.contains r.id)) := g_batch _ S L ids h

theorem repr_change_set (E : Env) (S : Router E) (L : List Route) (added updated : List Route)
    (removed : List String) (h : RRepr E S L)
    (hf : FreshAll (updated ++ added)
      (L.filter (fun r => !(removed ++ updated.map (·.id)).contains r.id))) :
    RRepr E (S.applyChangeSet E added updated removed) (liveChangeSet added updated removed L) :=
  g_changeSet E _ (towerSpec E) S L added updated removed h hf (fun _ _ => trivial)

theorem repr_op (E : Env) (S : Router E) (L : List Route) (op : Op) (h : RRepr E S L)
    (hv : op.Valid L) : RRepr E (op.run E S) (op.live L) :=
  g_op E _ (towerSpec E) S L op h hv (fun _ _ => trivial)

theorem repr_run (E : Env) (h : List Op) : ∀ (S : Router E) (L : List Route), RRepr E S L →
    ValidHistory h L → RRepr E (runOps E h S) (liveOps h L) :=
  fun S L hr hv => g_run E _ (towerSpec E) h S L hr hv (fun _ _ _ _ => trivial)

/-- **C02, main statement**: after every prefix of a history that keeps live ids unique, the
incrementally updated router answers every request as a router built from scratch from the live
rules (same rules, each once), and its size is their number. -/
theorem run_equiv (E : Env) (h : List Op) (hv : ValidHistory h []) (h' : List Op) (hp : h' <+: h)
    (q : Req) :
    ((runOps E h' (Router.empty E)).matchReq E q).Perm
        ((Router.build E (liveOps h' [])).matchReq E q) ∧
      (runOps E h' (Router.empty E)).len E = (liveOps h' []).length :=
  g_run_equiv E _ (towerSpec E) h hv (fun _ _ _ _ => trivial) h' hp q

/-- `get_route_by_id` finds exactly the live rules -/
theorem lookup_live (E : Env) (h : List Op) (hv : ValidHistory h []) (id : String) (r : Route) :
    (runOps E h (Router.empty E)).getRouteById E id = some r ↔ (r ∈ liveOps h [] ∧ r.id = id) :=
  g_lookup _ _ _ (repr_run E h _ [] (repr_empty E) hv) id r

/-- **A removed rule is returned by the removal** (every rule built by `IntoRoute` is `WFRoute`:
its ip list, if present, is not empty). -/
theorem remove_returns (E : Env) (S : Router E) (L : List Route) (r : Route) (h : RRepr E S L)
    (hr : r ∈ L) (hwf : WFRoute r) : (S.remove E r.id).2 = some r :=
  g_remove_some E _ (towerSpec E) S L r h hr hwf

theorem remove_returns_run (E : Env) (h : List Op) (hv : ValidHistory h []) (r : Route)
    (hr : r ∈ liveOps h []) (hwf : WFRoute r) :
    ((runOps E h (Router.empty E)).remove E r.id).2 = some r :=
  remove_returns E _ _ r (repr_run E h _ [] (repr_empty E) hv) hr hwf

/-- removing an id that is not live returns nothing -/
theorem remove_absent (E : Env) (S : Router E) (L : List Route) (id : String) (h : RRepr E S L)
    (hno : ∀ r ∈ L, r.id ≠ id) : (S.remove E id).2 = none :=
  g_remove_none _ S L id h hno

/-- every route the model of `IntoRoute` builds satisfies the hypothesis of `remove_returns` -/
theorem mkRoute_wf (cfg : Cfg) (d : RuleDesc) : WFRoute (mkRoute cfg d) := by
  unfold WFRoute mkRoute noneIfEmpty
  simp only
  cases d.ips with
  | none => simp
  | some l => cases l <;> simp

theorem only_live_match (E : Env) (S : Router E) (L : List Route) (h : RRepr E S L) (q : Req)
    (x : Route) (hx : x ∈ S.matchReq E q) : x ∈ L :=
  ((rrepr_mem_match E S L h q x).1 hx).1

/-- **A removed rule never matches again**: right after the removal, and after any further valid
history, as long as its id has not been inserted again (no live rule carries it). -/
theorem removed_never_matches (E : Env) (S : Router E) (L : List Route) (id : String)
    (h : RRepr E S L) (hist : List Op)
    (hv : ValidHistory hist (L.filter (fun r => r.id != id)))
    (hno : ∀ x ∈ liveOps hist (L.filter (fun r => r.id != id)), x.id ≠ id) (q : Req) :
    ∀ x ∈ (runOps E hist (S.remove E id).1).matchReq E q, x.id ≠ id := by
  intro x hx
  have hr := repr_run E hist _ _ (repr_remove E S L id h) hv
  exact hno x (only_live_match E _ _ hr q x hx)

theorem removed_never_matches_now (E : Env) (S : Router E) (L : List Route) (id : String)
    (h : RRepr E S L) (q : Req) : ∀ x ∈ ((S.remove E id).1).matchReq E q, x.id ≠ id := by
  refine removed_never_matches E S L id h [] trivial (fun x hx => ?_) q
  have hx' : x ∈ L.filter (fun r => r.id != id) := hx
  simpa using (List.mem_filter.1 hx').2

/-- `Router::len` (the size of the id map) after the removal of a live rule is one less -/
theorem len_remove (E : Env) (S : Router E) (L : List Route) (r : Route) (h : RRepr E S L)
    (hr : r ∈ L) : ((S.remove E r.id).1).len E + 1 = S.len E := by
  have h1 : ((S.remove E r.id).1).len E = _ := g_len _ _ _ (repr_remove E S L r.id h)
  have h2 : S.len E = L.length := g_len _ S L h
  rw [h1, h2]
  -- on the id list, which has no duplicates, the filter erases the one occurrence of `r.id`
  have : (L.filter (fun x => x.id != r.id)).map (·.id) = (L.map (·.id)).erase r.id := by
    rw [h.ids.erase_eq_filter, List.filter_map]; rfl
  have := congrArg List.length this
  rw [List.length_map, List.length_erase_of_mem (List.mem_map.mpr ⟨r, hr, rfl⟩), List.length_map] at this
  have : 0 < L.length := List.length_pos_of_mem hr
  omega

/-- **`count -= 1` never underflows.**  The decrement is executed only when `remove` found the rule,
and then the matcher's count is positive.  Stated here for the outermost matcher; the same fact is a
proof obligation of every layer of the tower (`MLaws.remove_pos`, discharged for all seven), and every
nested `remove` runs on a bucket that represents its share of the live rules, so no decrement
anywhere in the tower underflows (the model's truncated subtraction is never truncating). -/
theorem count_no_underflow (E : Env) (S : Router E) (L : List Route) (id : String) (h : RRepr E S L)
    (hs : ((towerOps E).remove id S.matcher).2.isSome = true) : 0 < (towerOps E).len S.matcher :=
  (towerLaws E).remove_pos _ _ id h.matcher hs

/-! ### Clone isolation: the static ownership tie

For the code, clone isolation is an ownership fact, tied to the source by tools/consts.d/w2_ownership.py on every run
(fails closed against the committed whitelist tools/consts.d/w2_ownership_whitelist.json, one justification per entry):

* two clones of a `Router<T>` share exactly what is behind an `Arc` (17 field lines: the configuration, the routes, the
  `LazyRegex` of tree items, the compiled `regex::Regex`), and the five hand-written `impl Clone` are field-wise;
* `Arc` gives `&` access only, and NOTHING in src/router, src/regex_radix_tree, src/regex.rs, src/marker, src/api/rule.rs
  writes through a shared pointer (`Arc::get_mut` / `make_mut`, `unsafe`, statics, `Mutex`, atomics: none) except the one
  cell listed below: `MarkerString.regex_capture : Arc<RwLock<LazyRegex>>`, written by `MarkerString::compile` (reached
  from `Router::cache`, second phase) with `regex.compile()` – the same regex with its compiled value cached.  That write
  is visible to the other clone, and harmless: a `LazyRegex` answers alike compiled or not (property C12,
  `lazy_compile_preserves`), and no matcher reads `regex_capture`.  The tree items' `Arc<LazyRegex>` are REPLACED by
  `cache`, never mutated.  The `RefCell` of `HostMatcher::remove` is a local of the call (model: `lastHit`).

The theorem pins the list the extractor found: a new cell, lock, atomic or `unsafe` in these files changes the
regenerated constant (or fails the extractor) and this file does not check.  The dynamic side is the harness oracle
`clone-aliasing` of c02 (validated by an injected aliasing fault, DESIGN §5 C02 **K**). -/
theorem clone_isolation_ownership_tie :
    Rio.Consts.routerInteriorMutability =
      ["src/marker/mod.rs: match self.regex_capture.write() {",
       "src/marker/mod.rs: regex_capture: Arc::new(RwLock::new(LazyRegex::new_leaf(capture.as_str(), ignore_case))),",
       "src/marker/mod.rs: regex_capture: Arc<RwLock<LazyRegex>>,",
       "src/marker/mod.rs: use std::sync::{Arc, RwLock};",
       "src/router/request_matcher/host.rs: *removed_in_tree.borrow_mut() = Some(value);",
       "src/router/request_matcher/host.rs: let removed_in_tree = std::cell::RefCell::new(None);"] ∧
    Rio.Consts.routerSharedFieldLines = 17 ∧
    Rio.Consts.routerManualClones = ["Item", "Leaf", "Node", "RegexTreeMap", "UniqueRegexTreeMap"] :=
  ⟨rfl, rfl, rfl⟩

/-- **No `count -= 1` underflows, in ANY of the seven matchers** (all 14 decrement sites: every matcher has one
after an `any_*` bucket hit and one after a keyed-bucket hit; the path matcher after a tree hit and after a static
hit).  One `Router::remove(id)` runs `remove(id)` on the `any` bucket and – through `retain` – on EVERY keyed bucket
of every layer; `(towerUFlow E).under id m` (Proofs/RouterUnderflow.lean, `lUnderflow`) follows that control flow and
says "one of the decrements executed on the way finds `count == 0`".  It is false in every represented state. -/
theorem no_count_underflow (E : Env) (S : Router E) (L : List Route) (id : String) (h : RRepr E S L) :
    (towerUFlow E).under id S.matcher = false :=
  (towerUFlow E).safe _ _ id h.matcher

/-- … hence at every `remove` executed anywhere in a valid history (the state before it is the state after a
prefix). -/
theorem no_count_underflow_run (E : Env) (h : List Op) (hv : ValidHistory h []) (h' : List Op) (hp : h' <+: h)
    (id : String) : (towerUFlow E).under id (runOps E h' (Router.empty E)).matcher = false :=
  no_count_underflow E _ _ id (g_run_prefix E _ (towerSpec E) h hv (fun _ _ _ _ => trivial) h' hp).1

/-- What the detector of the tower is, spelled out. -/
theorem towerUFlow_under (E : Env) :
    (towerUFlow E).under =
      lUnderflow (hostOps (specHost E) (ipOps (methodOps (headerOps E (dateTimeOps (pathOps E))))))
        (lUnderflow (ipOps (methodOps (headerOps E (dateTimeOps (pathOps E)))))
          (lUnderflow (methodOps (headerOps E (dateTimeOps (pathOps E))))
            (lUnderflow (headerOps E (dateTimeOps (pathOps E)))
              (lUnderflow (dateTimeOps (pathOps E))
                (lUnderflow (pathOps E)
                  (fun id (m : PathState) => (Path.remove id m).2.isSome && m.count == 0)))))) := by
  -- layer by layer `outerUFlow` is `lUnderflow` over the detector below; unfolding first keeps `rfl` from
  -- comparing the towers of matcher types
  unfold towerUFlow towerU hostU ipU methodU headerU dateTimeU outerUFlow leafUFlow
  dsimp only
  rfl

/-- The detector is not vacuous: on a date-time matcher whose `count` is 0 although its `any` bucket holds the
rule (a state no history produces) it fires – at the outer decrement; and it fires at the INNER decrement when the
outer count is right but the path matcher's is not. -/
example (E : Env) (r : Route) (hp : r.path = .static "/a") :
    lUnderflow (pathOps E) (leafUFlow (pathLaws E)).under r.id
      (⟨Path.insert r Path.empty, ([] : List (Option (List DCond) × PathState)), 0⟩) = true := by
  simp [lUnderflow, leafUFlow, pathOps, Path.insert, Path.remove, Path.empty, hp, entryRemove, aupsert]

example (E : Env) (r : Route) :
    lUnderflow (pathOps E) (leafUFlow (pathLaws E)).under r.id
      (⟨⟨[], [(("/a", r.id), r)], 0⟩, ([] : List (Option (List DCond) × PathState)), 1⟩) = true := by
  simp [lUnderflow, leafUFlow, pathOps, Path.remove, entryRemove]

/-! ### The same statements with the two regex trees modelled as trees (composition with C08)

`runOpsG (towerTOps T)` runs the history on the router whose `regex_tree_rule`s are the radix-tree
model of Model/Tree.lean: `remove` / `batch_remove` go through `Item.remove` / `Item.retain` (leaf
removal, node collapse, `Empty(ignore_case)`), insertion through `Item.insert` / `get_mut`.  Extra
hypothesis: the marker patterns of every inserted rule render into a domain `Good` on which the
engine is prefix-sound (C08); for `engineOf G` that is `GoodPat` (`run_equiv_tree_rule`). -/

open Rio.Regex Rio.Tree in
theorem repr_op_tree (T : TEnv) (Good : List Char → Prop) (hPS : PrefixSound T.engine Good)
    (S : RouterT T) (L : List Route) (op : Op) (h : RReprT T Good hPS S L) (hv : op.Valid L)
    (hg : ∀ r ∈ opRoutes op, TreeGood T Good r) :
    RReprT T Good hPS (op.runG (towerTOps T) S) (op.live L) :=
  g_op T.env _ (towerTSpec T Good hPS) S L op h hv hg

open Rio.Regex Rio.Tree in
theorem repr_run_tree (T : TEnv) (Good : List Char → Prop) (hPS : PrefixSound T.engine Good)
    (h : List Op) : ∀ (S : RouterT T) (L : List Route), RReprT T Good hPS S L → ValidHistory h L →
    (∀ op ∈ h, ∀ r ∈ opRoutes op, TreeGood T Good r) →
    RReprT T Good hPS (runOpsG (towerTOps T) h S) (liveOps h L) :=
  g_run T.env _ (towerTSpec T Good hPS) h

open Rio.Regex Rio.Tree in
/-- **No `count -= 1` underflows over the real trees either**: the detector follows `HostMatcher::remove` through
both `retain`s (static buckets and every bucket stored in the regex tree) and `PathAndQueryMatcher::remove` through
`regex_tree_rule.remove(id)`. -/
theorem no_count_underflow_tree (T : TEnv) (Good : List Char → Prop) (hPS : PrefixSound T.engine Good)
    (S : RouterT T) (L : List Route) (id : String) (h : RReprT T Good hPS S L) :
    (towerTUFlow T Good hPS).under id S.matcher = false :=
  (towerTUFlow T Good hPS).safe _ _ id h.matcher

open Rio.Regex Rio.Tree in
theorem no_count_underflow_run_tree (T : TEnv) (Good : List Char → Prop) (hPS : PrefixSound T.engine Good)
    (h : List Op) (hv : ValidHistory h []) (hg : ∀ op ∈ h, ∀ r ∈ opRoutes op, TreeGood T Good r)
    (h' : List Op) (hp : h' <+: h) (id : String) :
    (towerTUFlow T Good hPS).under id (runOpsG (towerTOps T) h' (RouterG.empty _)).matcher = false :=
  no_count_underflow_tree T Good hPS _ _ id (g_run_prefix T.env _ (towerTSpec T Good hPS) h hv hg h' hp).1

open Rio.Regex Rio.Tree in
/-- **C02 over the real trees.** -/
theorem run_equiv_tree (T : TEnv) (Good : List Char → Prop) (hPS : PrefixSound T.engine Good)
    (h : List Op) (hv : ValidHistory h []) (hg : ∀ op ∈ h, ∀ r ∈ opRoutes op, TreeGood T Good r)
    (h' : List Op) (hp : h' <+: h) (q : Req) :
    (RouterG.matchReq (towerTOps T) (runOpsG (towerTOps T) h' (RouterG.empty _)) q).Perm
        (RouterG.matchReq (towerTOps T) (RouterG.build (towerTOps T) (liveOps h' [])) q) ∧
      RouterG.len (towerTOps T) (runOpsG (towerTOps T) h' (RouterG.empty _)) = (liveOps h' []).length :=
  g_run_equiv T.env _ (towerTSpec T Good hPS) h hv hg h' hp q

open Rio.Regex Rio.Tree in
theorem run_equiv_tree_rule (T : TEnv) (G : List Char → Option Re) (hE : T.engine = engineOf G)
    (h : List Op) (hv : ValidHistory h []) (hg : ∀ op ∈ h, ∀ r ∈ opRoutes op, TreeGood T GoodPat r)
    (h' : List Op) (hp : h' <+: h) (q : Req) :
    (RouterG.matchReq (towerTOps T) (runOpsG (towerTOps T) h' (RouterG.empty _)) q).Perm
        (RouterG.matchReq (towerTOps T) (RouterG.build (towerTOps T) (liveOps h' [])) q) ∧
      RouterG.len (towerTOps T) (runOpsG (towerTOps T) h' (RouterG.empty _)) = (liveOps h' []).length :=
  run_equiv_tree T GoodPat (hE ▸ Rio.C08.prefix_sound G) h hv hg h' hp q

open Rio.Regex Rio.Tree in
theorem remove_returns_tree (T : TEnv) (Good : List Char → Prop) (hPS : PrefixSound T.engine Good)
    (S : RouterT T) (L : List Route) (r : Route) (h : RReprT T Good hPS S L) (hr : r ∈ L)
    (hwf : WFRoute r) : (RouterG.remove (towerTOps T) r.id S).2 = some r :=
  g_remove_some T.env _ (towerTSpec T Good hPS) S L r h hr hwf

/-! ### Non-vacuity: a concrete valid history with a removal, a batch removal and a change-set -/

/-- an environment to run `exHist` in (every engine accepts); the two examples below need none -/
def exEnv : Env where
  alwaysAnyHost := true
  hostFind := fun _ _ => true
  pathFind := fun _ _ => true
  headerRegex := fun _ _ => true
  lower := id

def exRoute (id : String) (host : Option SoD) (path : SoD) : Route :=
  { id := id, priority := 0, scheme := none, host := host, ips := none, methods := none,
    excludeMethods := none, headers := [], datetime := none, time := none, weekdays := none,
    path := path }

def exHist : List Op :=
  [ .insert (exRoute "a" (some (.dyn [.plus .lower])) (.static "/a")),
    .insert (exRoute "b" none (.dyn [.lit '/', .plus .digit])),
    .remove "a",
    .insert (exRoute "a" none (.static "/a")),
    .batchRemove ["b", "zz"],
    .changeSet [exRoute "c" none (.static "/a")] [exRoute "a" (some (.static "h")) (.static "/a")] ["b"],
    .cache none ]

example : ValidHistory exHist [] := by
  simp [exHist, ValidHistory, Op.Valid, Op.live, FreshAll, exRoute]

example : (liveOps exHist []).map (·.id) = ["c", "a"] := by decide

end Rio.C02
