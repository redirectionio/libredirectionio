/-
C17 — the explain trace agrees with what matching does.

`Router.trace` is `Router::trace_request` on the rebuilt request (every
matcher's `trace()` incl. the any-host fallback decided on `get_routes_from_traces`, and the "mimic
cache" memo of the two condition-group layers), `routesOfList` is `Trace::get_routes_from_traces`,
`Router.getTrace` / `Router.getRoute` are `get_trace` / `get_route` with their stable sort by
`Reverse(priority)`.  The regex-tree traces are modelled at specification level (one node per
pattern; a bucket is traced iff its pattern matches); over the tree model of C08 in the second half.

The third clause of the property (the last `TraceAction` step equals the live action for distinct
ranks) is about `action/trace.rs` and `Action::from_routes_rule`; it is proved in Props/C17b.lean
(`trace_action_last`, `explain_last_eq_live_run`) and checked differentially by the harness `c17`
(oracle `trace-action-last`).  What this file contributes to it is its precondition on the router
side: the route list handed to `TraceAction::from_trace_rules` is a permutation of the match result
– every matching rule once (`trace_lists_once`, `trace_perm_match`).  Before the repair 0b5ee14 of
`get_routes_from_traces` that was false (a rule living in several accepting ip buckets was listed
once per bucket and its action merged twice): see `stored_routes_may_repeat`.
-/
import RioModel.Proofs.RouterTreeTop
import RioModel.Proofs.RouterTrace

namespace Rio.C17
open Rio.Router

/-- **The rules appearing in the trace are exactly the rules matching returns** – in every state
that represents a live rule list (`RRepr`: reached by any valid history of inserts, removals,
batch removals and change-sets, see C02), for every request. -/
theorem trace_routes (E : Env) (S : Router E) (L : List Route) (h : RRepr E S L) (q : Req) (r : Route) :
    r ∈ routesOfList (S.trace E q) ↔ r ∈ S.matchReq E q :=
  rrepr_mem_trace E S L h q r

/-- The same for a router built from a rule list with distinct ids, spelled with the flat
specification: the trace lists `r` iff `r` is a rule whose triggers are satisfied. -/
theorem trace_routes_build (E : Env) (R : List Route) (hR : NodupIds R) (q : Req) (r : Route) :
    r ∈ routesOfList ((Router.build E R).trace E q) ↔ r ∈ R ∧ sat E R r q = true :=
  (rrepr_mem_trace E _ _ (rrepr_build E R hR) q r).trans
    ((g_match_exact E _ (towerSpec E) R hR (fun _ _ => trivial) q).2 r)

/-- **The traced final rule has the same priority as the rule selected by direct lookup**, and one
is absent iff the other is; that priority is maximal among the matching rules. -/
theorem final_priority (E : Env) (S : Router E) (L : List Route) (h : RRepr E S L) (q : Req) :
    (S.getTrace E q).2.map (·.priority) = (S.getRoute E q).map (·.priority) := by
  unfold Router.getTrace Router.getRoute
  exact head_priority_congr _ _ (fun x => rrepr_mem_trace E S L h q x)

theorem final_priority_max (E : Env) (S : Router E) (L : List Route) (h : RRepr E S L) (q : Req)
    (f : Route) (hf : (S.getTrace E q).2 = some f) :
    f ∈ S.matchReq E q ∧ ∀ x ∈ S.matchReq E q, x.priority ≤ f.priority := by
  unfold Router.getTrace at hf
  have := head_sortByPriority _ f hf
  refine ⟨(rrepr_mem_trace E S L h q f).1 this.1, ?_⟩
  intro x hx
  exact this.2 x ((rrepr_mem_trace E S L h q x).2 hx)

/-- **The "mimic cache" memo of `trace` is exact**: the `matched` flag of a traced condition group
is the conjunction of its conditions. -/
theorem trace_memo_exact {C : Type} [DecidableEq C] (eval : C → Bool) (cs : List C)
    (memo : List (C × Bool)) (h : MemoSound eval memo) :
    (traceGroup eval cs true true memo).1 = cs.all eval ∧
      MemoSound eval (traceGroup eval cs true true memo).2 := by
  have := traceGroup_spec eval cs memo true h
  simpa using this

/-- **Every matching rule is listed once**: the ids listed by `get_routes_from_traces` are
duplicate-free (unconditionally – this is the final `retain` of the repaired function). -/
theorem trace_lists_once (ts : List Trace) : ((routesOfList ts).map (·.id)).Nodup :=
  routesOfList_nodupIds ts

/-- Hence the route list the action trace starts from is a permutation of the match result. -/
theorem trace_perm_match (E : Env) (S : Router E) (L : List Route) (h : RRepr E S L) (q : Req) :
    (routesOfList (S.trace E q)).Perm (S.matchReq E q) := rrepr_trace_perm E S L h q

/-! ### The same statements with the two regex trees (and their traces) modelled as trees

Over `towerTOps T` the tree part of the trace is `Item::trace` of Model/Tree.lean converted by the
two `tree_trace_to_trace` functions (`pathTreeTrace`, `hostTreeTrace`): a node traces its children
only when its prefix regex matched, a leaf lists its values, the router keeps them iff the leaf
matched.  `RReprT`: any state reached by a valid history whose inserted rules have marker patterns
in the domain of C08 (see `Rio.C02.repr_run_tree`). -/

open Rio.Regex Rio.Tree in
theorem trace_routes_tree (T : TEnv) (Good : List Char → Prop) (hPS : PrefixSound T.engine Good)
    (S : RouterT T) (L : List Route) (h : RReprT T Good hPS S L) (q : Req) (r : Route) :
    r ∈ routesOfList (RouterG.trace (towerTOps T) S q) ↔ r ∈ RouterG.matchReq (towerTOps T) S q :=
  g_mem_trace _ S L h q r

open Rio.Regex Rio.Tree in
theorem trace_perm_match_tree (T : TEnv) (Good : List Char → Prop) (hPS : PrefixSound T.engine Good)
    (S : RouterT T) (L : List Route) (h : RReprT T Good hPS S L) (q : Req) :
    (routesOfList (RouterG.trace (towerTOps T) S q)).Perm (RouterG.matchReq (towerTOps T) S q) :=
  g_trace_perm _ S L h q

open Rio.Regex Rio.Tree in
theorem final_priority_tree (T : TEnv) (Good : List Char → Prop) (hPS : PrefixSound T.engine Good)
    (S : RouterT T) (L : List Route) (h : RReprT T Good hPS S L) (q : Req) :
    (RouterG.getTrace (towerTOps T) S q).2.map (·.priority) =
      (RouterG.getRoute (towerTOps T) S q).map (·.priority) := by
  unfold RouterG.getTrace RouterG.getRoute
  exact head_priority_congr _ _ (fun x => trace_routes_tree T Good hPS S L h q x)

/-! ### The traces still store a rule once per accepting ip range

`IpMatcher::match_request` reports a route living in several accepting ip buckets once (repair
5b0fc98); `IpMatcher::trace` traces every accepting bucket, so the `Storage` nodes of the trace
repeat the route, and only the final dedupe of `get_routes_from_traces` (repair 0b5ee14) makes the
listing duplicate-free.  Kernel-checked witness (the regression case kept in corpus/C17): -/

/-- "the routes stored in the traces are duplicate-free" – false -/
def StoredRoutesNodup : Prop :=
  ∀ (E : Env) (R : List Route) (q : Req), NodupIds R →
    (rawRoutesOfList ((Router.build E R).trace E q)).Nodup

def exEnv : Env where
  alwaysAnyHost := true
  hostFind := fun _ _ => true
  pathFind := fun _ _ => true
  headerRegex := fun _ _ => true
  lower := id

/-- ips = [10.0.0.0/8, 10.1.0.0/16] -/
def exR : Route :=
  { id := "r", priority := 0, scheme := none, host := none,
    ips := some [.inRange ⟨false, 167772160, 8⟩, .inRange ⟨false, 167837696, 16⟩],
    methods := none, excludeMethods := none, headers := [], datetime := none,
    time := none, weekdays := none, path := .static "/a" }

/-- client 10.1.2.3 -/
def exQ : Req :=
  { scheme := none, host := none, method := none, headers := [], ip := some ⟨false, 167838211⟩,
    createdAt := none, path := "/a" }

theorem stored_routes_may_repeat : ¬ StoredRoutesNodup := by
  intro h
  have := h exEnv [exR] exQ (by simp [NodupIds, exR])
  revert this
  decide

/-- Non-vacuity: a concrete represented state; the traces store the rule twice, the listing and the
match report it once. -/
example : (rawRoutesOfList ((Router.build exEnv [exR]).trace exEnv exQ)).map (·.id) = ["r", "r"] ∧
    (routesOfList ((Router.build exEnv [exR]).trace exEnv exQ)).map (·.id) = ["r"] ∧
    ((Router.build exEnv [exR]).matchReq exEnv exQ).map (·.id) = ["r"] := by decide

end Rio.C17
