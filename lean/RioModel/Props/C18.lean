/-
C18 — the C interface keeps ownership and memory contracts.

The model (Model/Ffi.lean) is an abstract allocator (id ↦ kind, size, live; faults are recorded, not hidden) plus the
code of every `extern "C"` entry point in terms of allocations, deallocations (with the size the code passes) and
borrows; `pre` is the caller protocol ("each handle is released once, by its matching function; `close` consumes the
filter; `body_filter_filter` consumes its buffer").  All theorems hold for every assignment `sz` of sizes to the boxed object types and for
every value the library computes inside the objects (string lengths, produced bytes, NULL or not).

This is a proof about the bookkeeping model.  That the Rust code does what the model says is validated on every
run by harness c18: an auditing global allocator reports the real layouts, and the model has to predict, call by
call, which allocations every handle owns and their sizes.
-/
import RioModel.Proofs.Ffi

namespace Rio.C18
open Rio.Ffi

variable (sz : Kind → Nat)

/-- If the caller follows the protocol, then after the whole call sequence
* the allocator has seen no fault at all: no double free, no release of an unknown pointer, no deallocation whose
  size differs from the allocation's, no use after free, no handle of the wrong type;
* the live allocations are exactly (as a multiset, with the sizes they will be released with) what the caller's
  unreleased handles own — nothing else is live, and nothing owned is dead;
* once every handle that has a release function is released, whatever is still live is the documented leak: the
  trusted-proxies pair, which the C API cannot release. -/
theorem protocol_safe (calls : List Call) (h : FollowsProtocol sz calls) :
    (run sz {} calls).heap.faults = [] ∧
    List.Perm (run sz {} calls).heap.liveList (ownedSlots sz (run sz {} calls).slots) ∧
    (AllReleased (run sz {} calls) → ∀ x ∈ (run sz {} calls).heap.liveList, documentedLeak x = true) := by
  have inv := run_inv sz calls {} (init_inv sz) h
  refine ⟨inv.noFault, inv.owned, fun hall x hx => ?_⟩
  obtain ⟨sl, hsl, hr, hx⟩ := (mem_ownedSlots sz).1 (inv.owned.subset hx)
  rcases hall sl hsl with hr' | ⟨o, i, hh⟩ | hal
  · rw [hr] at hr'; cases hr'
  · rw [hh] at hx
    simp only [owns, List.mem_cons, List.not_mem_nil, or_false] at hx
    rcases hx with rfl | rfl <;> rfl
  · rw [hal] at hx; cases hx

/-- The individual readings of "no fault". -/
theorem no_double_free (calls : List Call) (h : FollowsProtocol sz calls) (id : Nat) :
    Fault.doubleFree id ∉ (run sz {} calls).heap.faults := by
  rw [(protocol_safe sz calls h).1]; simp

theorem no_use_after_free (calls : List Call) (h : FollowsProtocol sz calls) (id : Nat) :
    Fault.useAfterFree id ∉ (run sz {} calls).heap.faults := by
  rw [(protocol_safe sz calls h).1]; simp

theorem dealloc_size_eq_alloc_size (calls : List Call) (h : FollowsProtocol sz calls) (id a d : Nat) :
    Fault.sizeMismatch id a d ∉ (run sz {} calls).heap.faults := by
  rw [(protocol_safe sz calls h).1]; simp

/-- `Buffer::from_vec` of a Vec with ANY capacity ≥ length, then `into_vec` and drop
(`redirectionio_api_buffer_drop`): the bytes come back unchanged (also through `into_vec`), no fault (in particular the block is released
with the size it has: D15 is closed), and the heap holds what it held before. -/
theorem buffer_roundtrip (h : Heap) (bytes : List Nat) (cap : Nat) :
    (fromVec (vecNew h bytes cap).1 (vecNew h bytes cap).2).2.bytes = bytes ∧
      (intoVec (fromVec (vecNew h bytes cap).1 (vecNew h bytes cap).2).2).bytes = bytes ∧
      (vecDrop (fromVec (vecNew h bytes cap).1 (vecNew h bytes cap).2).1
        (intoVec (fromVec (vecNew h bytes cap).1 (vecNew h bytes cap).2).2)).faults = h.faults ∧
      List.Perm (vecDrop (fromVec (vecNew h bytes cap).1 (vecNew h bytes cap).2).1
        (intoVec (fromVec (vecNew h bytes cap).1 (vecNew h bytes cap).2).2)).liveList h.liveList := by
  generalize hr : fromVec (vecNew h bytes cap).1 (vecNew h bytes cap).2 = r
  -- `owns` of a buffer does not read the size table, so any `sz` serves
  obtain ⟨hb, hf, hl, hw⟩ := make_buffer (fun _ => 0) h bytes cap hr
  obtain ⟨h1, id, bs⟩ := r
  obtain ⟨hf2, hl2⟩ := drop_buffer (fun _ => 0) hw (hl.trans List.perm_append_comm)
  refine ⟨hb, ?_, hf2.trans hf, hl2⟩
  subst hb
  cases id with
  | none => exact (show bs = [] from hw) ▸ rfl
  | some id => simp [intoVec, show bs ≠ [] from hw]

/-- Duplicating a buffer the caller holds yields equal bytes, no fault (D10 is closed: no
panic, the copy is a real copy), and the heap gains exactly the copy: the original stays live and the two can be
released independently. -/
theorem duplicate_equal (h : Heap) (b : Buffer) (hw : WfHandle (.buffer b))
    (hown : ∀ x ∈ owns sz (.buffer b), x ∈ h.liveList) :
    (duplicate h b).2.bytes = b.bytes ∧ (duplicate h b).1.faults = h.faults ∧
      List.Perm (duplicate h b).1.liveList (h.liveList ++ owns sz (.buffer (duplicate h b).2)) := by
  obtain ⟨hb, hf, hl, _⟩ := duplicate_spec sz hw hown
  exact ⟨hb, hf, hl⟩

theorem toHeaderMap_eq (hs : List HeaderBytes) :
    toHeaderMap hs = (hs.map fun h => (cstrOf h.1, cstrOf h.2)).reverse :=
  (List.foldl_flip_cons_eq_append (l' := [])).trans (List.append_nil _)

/-- Handing a header list to C and reading it back gives the headers without interior
NUL, in REVERSED order … -/
theorem headers_roundtrip (hs : List HeaderBytes) :
    fromHeaderMap (toHeaderMap hs) = (hs.filter nulFree).reverse := by
  rw [toHeaderMap_eq]
  unfold fromHeaderMap
  rw [List.filterMap_reverse]
  congr 1
  induction hs with
  | nil => simp
  | cons x xs ih =>
    obtain ⟨n, v⟩ := x
    rw [List.map_cons, List.filterMap_cons, List.filter_cons, ih]
    by_cases h1 : 0 ∈ n <;> by_cases h2 : 0 ∈ v <;> simp [nulFree, cstrOf, h1, h2]

/-- … hence, for headers without interior NUL (every header that came out of an
HTTP parser), the same multiset. -/
theorem headers_roundtrip_multiset (hs : List HeaderBytes) (h : ∀ x ∈ hs, nulFree x = true) :
    List.Perm (fromHeaderMap (toHeaderMap hs)) hs := by
  rw [headers_roundtrip]
  have : hs.filter nulFree = hs := List.filter_eq_self.2 h
  rw [this]
  exact List.reverse_perm hs

/-! ### Non-vacuity: the protocol hypothesis is what rules the faults out, and D15 was one -/

section Examples
def sz8 : Kind → Nat := fun _ => 8

/-- a caller that follows the protocol over every object type -/
def goodCalls : List Call :=
  [.objNew .action true, .filterNew 0 true, .bufNew [1, 2, 3] 10, .filterFeed 1 2 [4, 5], .filterClose 1 [6],
   .headers 0 [(some 1, some 2), (some 3, none), (none, some 0)], .objSer .action 0 5, .tpNew, .tpUse 7, .strFree 6, .hlistFree 5, .bufDrop 4, .bufDrop 3,
   .objDrop .action 0]

example : FollowsProtocol sz8 goodCalls := by decide +kernel
example : (run sz8 {} goodCalls).heap.faults = [] := by decide +kernel
/-- after everything releasable is released only the trusted-proxies pair is live -/
example : (run sz8 {} goodCalls).heap.liveList = [(14, 8, .tconfig), (15, 8, .tproxies)] := by decide +kernel

/-- dropping an action twice: double free -/
example : (run sz8 {} [.objNew .action true, .objDrop .action 0, .objDrop .action 0]).heap.faults = [.doubleFree 0] := by
  decide +kernel
example : ¬ FollowsProtocol sz8 [.objNew .action true, .objDrop .action 0, .objDrop .action 0] := by decide +kernel

/-- using a filter after `close` consumed it: use after free (and a second release) -/
example : (run sz8 {} [.objNew .action true, .filterNew 0 true, .filterClose 1 [], .filterClose 1 []]).heap.faults =
    [.useAfterFree 1, .doubleFree 1] := by decide +kernel

/-- releasing the buffer that `body_filter_filter` consumed: double free -/
example : (run sz8 {} [.objNew .action true, .filterNew 0 true, .bufNew [1] 1, .filterFeed 1 2 [], .bufDrop 2]).heap.faults =
    [.doubleFree 2] := by decide +kernel

/-- … but with a NULL filter the buffer is NOT consumed (the function duplicates): both must be released -/
example : FollowsProtocol sz8 [.objNew .action false, .filterNew 0 false, .bufNew [1] 1, .filterFeed 1 2 [], .bufDrop 2, .bufDrop 3] := by
  decide +kernel

/-- `header_filter_filter(NULL action, list)` gives the caller's own list back: treating it as a returned list and freeing
it is outside the protocol and a fault (the caller would free its own input) -/
example : (run sz8 {} [.objNew .action false, .headers 0 [], .hlistFree 1]).heap.faults = [.badHandle 1] := by decide +kernel
example : ¬ FollowsProtocol sz8 [.objNew .action false, .headers 0 [], .hlistFree 1] := by decide +kernel

/-- D15, before the repair: `from_vec` forgot a Vec of capacity 10 holding 3 bytes, `into_vec` rebuilt it with
capacity 3 — the deallocation size differs from the allocation size. -/
example :
    (vecDrop (fromVecOld (vecNew {} [1, 2, 3] 10).1 (vecNew {} [1, 2, 3] 10).2).1
      (intoVec (fromVecOld (vecNew {} [1, 2, 3] 10).1 (vecNew {} [1, 2, 3] 10).2).2)).faults =
      [.sizeMismatch 0 10 3] := by decide +kernel

/-- the repaired `from_vec` on the same Vec: no fault -/
example :
    (vecDrop (fromVec (vecNew {} [1, 2, 3] 10).1 (vecNew {} [1, 2, 3] 10).2).1
      (intoVec (fromVec (vecNew {} [1, 2, 3] 10).1 (vecNew {} [1, 2, 3] 10).2).2)).faults = [] := by decide +kernel

example : fromHeaderMap (toHeaderMap [([65], [1]), ([66, 0], [2]), ([67], [3])]) = [([67], [3]), ([65], [1])] := by decide +kernel
end Examples

end Rio.C18
