/-
C02 — the per-layer COUNTERS and the pruning of the host and the path layer, for the definitions TRANSLATED from the
Rust source on every run (`Rio.Consts.genHost*`, `genPath*`; tools/consts.d/tr_w16_count.py → Generated/Consts.lean):
`insert`, `remove`, `batch_remove`, `len`, `is_empty` of `HostMatcher` and `PathAndQueryMatcher`.

The lemmas about the translated text are in Proofs/RouterCountGen.lean; here stand the `…G` definitions (`hostInsertG` …:
a translated function with the model's operations for its parameters), the property theorems about them, and, in
the last two sections, the histories of operations they are run over (`LOp`, `pathRunG`, `hostRunG`).
A translated `&mut self` function returns `Option (result × mutable fields)`; `none` is a Rust panic (`unwrap` of `None`,
`self.count -= 1` at 0 under overflow checks).  Parameters are instantiated with the model's operations: `I : MOps` (any
inner matcher) for `IpMatcher`, `CountGen.map*` (a `HashMap` as the list of its entries) for `static_hosts` /
`static_rules` and the inner maps, the radix-tree model (`Item.insert / remove / retain / modifyAt`, `uGet`, `uInsert`) for
`regex_tree_rule`, `CountGen.treeRetain` for a `retain` whose closure writes a captured cell.

* host layer: translated = `HostT.*` (Model/RouterTreeLayers.lean) for EVERY state, no hypothesis, up to the panic exit;
  the panic exit is dead under the representation relation `HTRepr`;
* path layer: the code's map of maps is kept nested on the translated side (`PathFields`), `PathFields.abs` flattens it
  into the model's `(path, id)` list: `remove` / `batch_remove` commute with `abs` exactly, `insert` up to the order of
  entries of DIFFERENT paths (`SEquiv`: same entries per path in the same order — all `match_request` / `trace` read);
  the model keeps the old tree when `regex_tree_rule.remove` finds nothing, the code what `remove` left: equal under the
  tree invariant (`gen_path_remove_eq_model`), which `PTRepr` contains.
-/
import RioModel.Proofs.RouterCountGen
import RioModel.Proofs.UtilList
import RioModel.Proofs.RouterTreeHost

set_option linter.unusedSectionVars false

namespace Rio.C02
open Rio.Router Rio.Router.CountGen Rio.Consts Rio.Tree

theorem hostT_remove_count (I : MOps) (id : String) (s : HostTState I) :
    (HostT.remove I id s).1.count = if (HostT.remove I id s).2.isSome then s.count - 1 else s.count := by
  unfold HostT.remove
  cases ha : (I.remove id s.any).2.isSome <;> simp only [ha, Bool.false_eq_true, if_false, if_true]

theorem pathT_remove_count (id : String) (s : PathTState) :
    (PathT.remove id s).1.count = if (PathT.remove id s).2.isSome then s.count - 1 else s.count := by
  unfold PathT.remove
  cases ht : (s.tree.remove id).2 <;> simp only [ht, Option.isSome_some, if_true]

section
variable (T : TEnv) (I : MOps)

@[reducible] def hostInsertG (r : Route) (s : HostTState I) :=
  genHostInsert (fun r => r.host.map sod) T.render (fun h => decide (h = "")) I.empty I.insert
    mapContainsKey mapInsert mapModify treeContains treeModify (fun k v t => uInsert t k v)
    s.statics s.tree s.any s.count r

@[reducible] def hostRemoveG (id : String) (s : HostTState I) :=
  genHostRemove I.remove I.isEmpty mapRetain treeRetain s.statics s.tree s.any s.count id

@[reducible] def hostBatchRemoveG (ids : List String) (s : HostTState I) :=
  genHostBatchRemove I.batchRemove I.isEmpty mapRetain List.isEmpty treeRetain Item.isEmpty
    s.statics s.tree s.any s.count ids

/-- **translated = model, `HostMatcher::insert`**: never panics (the `get_mut(..).unwrap()` follows the `contains_key` /
`insert` that makes the key present), `count += 1` on every path including the early `return` of the empty static host. -/
theorem gen_host_insert_eq_model (r : Route) (s : HostTState I) :
    hostInsertG T I r s = some ((), (HostT.insert T I r s).fields) :=
  genHostInsert_eq T I r s

/-- **closed form of the translated `HostMatcher::remove`**: `none` is `count -= 1` at 0 (either decrement site); both
`retain`s prune the buckets whose count dropped to 0, the static buckets are ALL visited, a hit in the static map wins
over a hit in the tree. -/
theorem gen_host_remove_closed_form (id : String) (s : HostTState I) :
    hostRemoveG I id s =
      if (HostT.remove I id s).2.isSome && s.count == 0 then none
      else some ((HostT.remove I id s).2, (HostT.remove I id s).1.fields) :=
  genHostRemove_eq I id s

/-- **translated = model, `HostMatcher::batch_remove`**: `count` is NOT touched, buckets are pruned by `is_empty()` of the
(stale) inner counts. -/
theorem gen_host_batch_remove_eq_model (ids : List String) (s : HostTState I) :
    hostBatchRemoveG I ids s =
      some ((I.isEmpty (HostT.batchRemove I ids s).any && (HostT.batchRemove I ids s).statics.isEmpty
              && (HostT.batchRemove I ids s).tree.isEmpty), (HostT.batchRemove I ids s).fields) :=
  genHostBatchRemove_eq I ids s

/-- `len` / `is_empty` of both layers only read the counter (`count`, `count == 0`), as the model's do. -/
theorem gen_len_eq_model (s : HostTState I) (p : PathTState) :
    genHostLen s.count = (hostTOps T I).len s ∧ genHostIsEmpty s.count = (hostTOps T I).isEmpty s ∧
    genPathLen p.count = (pathTOps T).len p ∧ genPathIsEmpty p.count = (pathTOps T).isEmpty p :=
  ⟨rfl, rfl, rfl, rfl⟩

variable (Good : List Char → Prop) {I} (IL : MLaws I) (hPS : PrefixSound T.engine Good)

include hPS in
/-- in a state that represents a rule list no `count -= 1` of the translated `HostMatcher::remove` underflows: the panic
exit is dead -/
theorem gen_host_remove_eq_model (id : String) (s : HostTState I) (L : List Route) (h : HTRepr T Good IL s L) :
    hostRemoveG I id s = some ((HostT.remove I id s).2, (HostT.remove I id s).1.fields) := by
  have hnp : ((HostT.remove I id s).2.isSome && s.count == 0) = false :=
    Util.guard_count ((hostTLaws T Good IL hPS).remove_pos s L id h)
  rw [gen_host_remove_closed_form, hnp]
  rfl

include hPS in
/-- **`len_remove` (Props/C02) for the translated `HostMatcher`**: removing a live (well-formed) rule does not panic,
returns that very rule, lowers the translated `len` by exactly one and leaves fields that represent the list without it. -/
theorem len_remove_gen_host (s : HostTState I) (L : List Route) (r : Route) (h : HTRepr T Good IL s L)
    (hU : UIds L) (hr : r ∈ L) (hwf : (hostTLaws T Good IL hPS).wf r) :
    ∃ s' : HostTState I, hostRemoveG I r.id s = some (some r, s'.fields) ∧
      genHostLen s'.count + 1 = genHostLen s.count ∧
      HTRepr T Good IL s' (L.filter (fun x => x.id != r.id)) := by
  have hsome : (HostT.remove I r.id s).2 = some r := (hostTLaws T Good IL hPS).remove_some s L r.id r h hU hr hwf rfl
  have hpos : 0 < s.count := (hostTLaws T Good IL hPS).remove_pos s L r.id h
      (by show (HostT.remove I r.id s).2.isSome = true; rw [hsome]; rfl)
  refine ⟨(HostT.remove I r.id s).1, ?_, ?_, (hostTLaws T Good IL hPS).repr_remove s L r.id h hU⟩
  · rw [gen_host_remove_eq_model T Good IL hPS r.id s L h, hsome]
  · have hc : (HostT.remove I r.id s).1.count = s.count - 1 := by
      rw [hostT_remove_count, hsome]; rfl
    simp only [genHostLen, hc]; omega

include hPS in
/-- `≤` and no more: `batch_remove` takes routes out and leaves the counter. -/
theorem gen_host_count_ge (s : HostTState I) (L : List Route) (h : HTRepr T Good IL s L) :
    L.length ≤ genHostLen s.count := h.repr.len

end

section
variable (T : TEnv)

@[reducible] def pathInsertG (r : Route) (n : PathFields) :=
  genPathInsert (fun r => sod r.path) T.render (fun r => r.id) ([] : List (String × Route))
    (fun id r m => mapInsert id r m) mapContainsKey mapInsert mapModify (fun p id r t => Item.insert t p id r)
    n.1 n.2.1 n.2.2 r

@[reducible] def pathRemoveG (id : String) (n : PathFields) :=
  genPathRemove imapRemove List.isEmpty mapRetain (fun id t => Item.remove t id) n.1 n.2.1 n.2.2 id

@[reducible] def pathBatchRemoveG (ids : List String) (n : PathFields) :=
  genPathBatchRemove (fun (ids : List String) id => ids.contains id) mapRetain List.isEmpty mapRetain List.isEmpty
    treeRetain Item.isEmpty n.1 n.2.1 n.2.2 ids

/-- **translated = model, `PathAndQueryMatcher::insert`**: never panics; tree and count are the model's; the inner map
of a static path is created on demand, and for such a path the statics are given as the NESTED maps only (flattened
they are the model's up to `SEquiv`: `gen_path_insert_rel`). -/
theorem gen_path_insert_eq_model (r : Route) (n : PathFields) :
    ∃ n' : PathFields, pathInsertG T r n = some ((), n') ∧
      n'.abs.tree = (PathT.insert T r n.abs).tree ∧ n'.abs.count = (PathT.insert T r n.abs).count ∧
      (∀ p, r.path = .dyn p → n'.abs = PathT.insert T r n.abs) ∧
      (∀ p, r.path = .static p → n'.2.1 = aupsert (fun m => mapInsert r.id r m) [] p n.2.1) := by
  refine ⟨_, genPathInsert_eq T r n, ?_⟩
  cases hp : r.path <;> simp [PathFields.abs, PathT.insert, hp]

/-- **closed form of the translated `PathAndQueryMatcher::remove`**: `none` is `count -= 1` at 0; the new `static_rules`,
flattened, is the model's list (`entryRemove`: the first inner map holding the id loses it, an inner map emptied this
way is pruned, the maps after a hit are not visited). -/
theorem gen_path_remove_closed_form (id : String) (n : PathFields) :
    (pathRemoveG id n = none ↔ ((PathT.remove id n.abs).2.isSome = true ∧ n.2.2 = 0)) ∧
    ∀ res (n' : PathFields), pathRemoveG id n = some (res, n') →
      res = (PathT.remove id n.abs).2 ∧ n'.1 = (n.1.remove id).1 ∧
      n'.abs.statics = (PathT.remove id n.abs).1.statics ∧ n'.abs.count = (PathT.remove id n.abs).1.count := by
  rw [show pathRemoveG id n = _ from genPathRemove_eq id n]
  cases hc : ((PathT.remove id n.abs).2.isSome && n.2.2 == 0)
  · refine ⟨by simpa using hc, fun res n' he => ?_⟩
    cases he
    exact ⟨rfl, rfl, genPathRemove_statics id n, rfl⟩
  · exact ⟨by simpa using hc, fun res n' he => by simp at he⟩

/-- **translated = model, `PathAndQueryMatcher::remove`**; of `PTRepr` the tree invariant and "found ⇒ `0 < count`"
(no `count -= 1` underflows) are used. -/
theorem gen_path_remove_eq_model (Good : List Char → Prop) (hPS : PrefixSound T.engine Good)
    (id : String) (n : PathFields) (L : List Route) (h : PTRepr T Good n.abs L) :
    ∃ n' : PathFields, pathRemoveG id n = some ((PathT.remove id n.abs).2, n') ∧
      n'.abs = (PathT.remove id n.abs).1 := by
  have hcf := genPathRemove_eq id n
  have hnp : ((PathT.remove id n.abs).2.isSome && n.2.2 == 0) = false :=
    Util.guard_count ((pathTLaws T Good hPS).remove_pos n.abs L id h)
  refine ⟨_, by rw [show pathRemoveG id n = _ from hcf, hnp]; rfl, ?_⟩
  have h1 := genPathRemove_tree id n T.icPath h.inv
  have h2 := genPathRemove_statics id n
  show PathTState.mk _ _ _ = _
  rw [h1, h2]

/-- **translated = model, `PathAndQueryMatcher::batch_remove`**: never panics, `count` is not touched. -/
theorem gen_path_batch_remove_eq_model (ids : List String) (n : PathFields) :
    ∃ (b : Bool) (n' : PathFields), pathBatchRemoveG ids n = some (b, n') ∧
      n'.abs = PathT.batchRemove ids n.abs := by
  refine ⟨_, _, genPathBatchRemove_eq ids n, ?_⟩
  show PathTState.mk _ _ _ = _
  rw [nestedBatch_flat]
  rfl

/-- **`len_remove` (Props/C02) for the translated `PathAndQueryMatcher`**: removing a live rule does not panic, returns
that very rule, lowers the translated `len` by exactly one and leaves fields that represent the list without it. -/
theorem len_remove_gen_path (Good : List Char → Prop) (hPS : PrefixSound T.engine Good)
    (n : PathFields) (L : List Route) (r : Route) (h : PTRepr T Good n.abs L) (hU : UIds L) (hr : r ∈ L) :
    ∃ n' : PathFields, pathRemoveG r.id n = some (some r, n') ∧
      genPathLen n'.2.2 + 1 = genPathLen n.2.2 ∧
      PTRepr T Good n'.abs (L.filter (fun x => x.id != r.id)) := by
  have hsome : (PathT.remove r.id n.abs).2 = some r :=
    (pathTLaws T Good hPS).remove_some n.abs L r.id r h hU hr trivial rfl
  have hpos : 0 < n.abs.count := (pathTLaws T Good hPS).remove_pos n.abs L r.id h
      (by show (PathT.remove r.id n.abs).2.isSome = true; rw [hsome]; rfl)
  obtain ⟨n', he, ha⟩ := gen_path_remove_eq_model T Good hPS r.id n L h
  refine ⟨n', by rw [he, hsome], ?_, ?_⟩
  · have hc : n'.abs.count = n.abs.count - 1 := by
      rw [ha, pathT_remove_count, hsome]; rfl
    have : n'.2.2 = n.2.2 - 1 := hc
    have hp : 0 < n.2.2 := hpos
    simp only [genPathLen, this]; omega
  · rw [ha]; exact (pathTLaws T Good hPS).repr_remove n.abs L r.id h hU

/-- the translated counter bounds the number of live routes; `≤` and no more, as `gen_host_count_ge` -/
theorem gen_path_count_ge (Good : List Char → Prop) (n : PathFields) (L : List Route) (h : PTRepr T Good n.abs L) :
    L.length ≤ genPathLen n.2.2 := h.len

/-! The path layer under `PathRel` (Proofs/RouterCountGen: same tree, same count, `SEquiv` of the flattened
`static_rules` and the model's list, one entry per key of the outer map): the three translated operations preserve it
against the model's and return the model's results, for every pair of related states. -/

theorem path_rel_abs (n : PathFields) (hk : (akeys n.2.1).Nodup) : PathRel n n.abs :=
  ⟨rfl, rfl, SEquiv.refl _, hk⟩

theorem gen_path_insert_rel (r : Route) (n : PathFields) (s : PathTState) (h : PathRel n s) :
    ∃ n' : PathFields, pathInsertG T r n = some ((), n') ∧ PathRel n' (PathT.insert T r s) := by
  refine ⟨_, genPathInsert_eq T r n, ?_⟩
  unfold PathT.insert
  cases hp : r.path with
  | static p =>
    refine ⟨h.tree, by simp [h.count], ?_, akeys_aupsert_nodup _ _ _ _ h.keys⟩
    intro p'
    exact ((nestedInsert_flat p r.id r n.2.1 h.keys) p').trans ((SEquiv.aupsert h.statics (fun _ => r) r p r.id) p')
  | dyn p => exact ⟨by simp [h.tree], by simp [h.count], h.statics, h.keys⟩

/-- the three hypotheses follow from `PTRepr` and unique live ids: `gen_path_remove_rel_repr` -/
theorem gen_path_remove_rel (id : String) (n : PathFields) (s : PathTState) (h : PathRel n s) (ic : Bool)
    (hinv : s.tree.inv ic = true) (hpos : (PathT.remove id s).2.isSome = true → 0 < s.count)
    (hu : ∀ e1 ∈ s.statics, ∀ e2 ∈ s.statics, e1.1.2 = id → e2.1.2 = id → e1 = e2) :
    ∃ n' : PathFields, pathRemoveG id n = some ((PathT.remove id s).2, n') ∧ PathRel n' (PathT.remove id s).1 := by
  obtain ⟨r1, r2, r3, r4⟩ := pathT_remove_rel id n s h hu
  have hcf := genPathRemove_eq id n
  have hnp : ((PathT.remove id n.abs).2.isSome && n.2.2 == 0) = false :=
    Util.guard_count (fun hr => by rw [h.count]; exact hpos (r1 ▸ hr))
  refine ⟨_, by rw [show pathRemoveG id n = _ from hcf, hnp, r1]; rfl, ?_⟩
  refine ⟨?_, ?_, ?_, ?_⟩
  · show (n.1.remove id).1 = _
    rw [genPathRemove_tree id n ic (by rw [h.tree]; exact hinv), r3]
  · exact r2
  · show SEquiv (flatN _) _
    rw [genPathRemove_statics id n]
    exact r4
  · show (akeys (match (n.1.remove id).2 with
         | some _ => n.2.1
         | none => (mapRetain (pathRemoveClos id) n.2.1 none).1)).Nodup
    cases (n.1.remove id).2 with
    | some _ => exact h.keys
    | none => exact (akeys_mapRetain_sublist _ _ _).nodup h.keys

theorem gen_path_remove_rel_repr (Good : List Char → Prop) (hPS : PrefixSound T.engine Good)
    (id : String) (n : PathFields) (s : PathTState) (h : PathRel n s) (L : List Route) (hR : PTRepr T Good s L)
    (hU : UIds L) :
    ∃ n' : PathFields, pathRemoveG id n = some ((PathT.remove id s).2, n') ∧ PathRel n' (PathT.remove id s).1 :=
  gen_path_remove_rel id n s h T.icPath hR.inv
    (fun hs => (pathTLaws T Good hPS).remove_pos s L id hR hs)
    (erepr_unique_id staticOf s.statics L hR.statics hU id)

theorem gen_path_batch_remove_rel (ids : List String) (n : PathFields) (s : PathTState) (h : PathRel n s) :
    ∃ (b : Bool) (n' : PathFields), pathBatchRemoveG ids n = some (b, n') ∧ PathRel n' (PathT.batchRemove ids s) := by
  refine ⟨_, _, genPathBatchRemove_eq ids n, ?_⟩
  refine ⟨?_, h.count, ?_, (akeys_mapRetain_sublist _ _ _).nodup h.keys⟩
  · show (PathT.batchRemove ids n.abs).tree = _
    simp [PathT.batchRemove, PathFields.abs, h.tree]
  · show SEquiv (flatN _) _
    rw [nestedBatch_flat]
    exact SEquiv.filter h.statics _

/-- The relation is what the observers need: related states answer `match_request` alike. -/
theorem path_rel_match (n : PathFields) (s : PathTState) (h : PathRel n s) (q : Req) :
    PathT.matchReq T n.abs q = PathT.matchReq T s q := by
  unfold PathT.matchReq PathFields.abs
  simp only [h.tree]
  have := h.statics q.path
  rw [this]

/-- the two `retain` closures of the translated `HostMatcher::remove` (any closure with their specification) keep /
update a bucket independently of the captured `removed` cell — what `CountGen.treeRetain` relies on. -/
theorem hit_closure_state_independent (I : MOps) {κ : Type} (id : String)
    (f : κ → I.M → Option Route → Bool × I.M × Option Route) (hf : IsHitClosure I id f) (k : κ) (v : I.M)
    (s s' : Option Route) : (f k v s).1 = (f k v s').1 ∧ (f k v s).2.1 = (f k v s').2.1 := by
  rw [hf, hf]; exact ⟨rfl, rfl⟩

end

section
variable (T : TEnv) (Good : List Char → Prop) (hPS : PrefixSound T.engine Good)

def genExRoute : Route := { (default : Route) with id := "a", path := .static "/x" }

example : pathInsertG T genExRoute (Item.empty T.icPath, [], 0) =
    some ((), (Item.empty T.icPath, [("/x", [("a", genExRoute)])], 1)) := by
  rw [show pathInsertG T genExRoute _ = _ from genPathInsert_eq T genExRoute _]
  simp [genExRoute, aupsert, mapInsert]

example : pathRemoveG "a" (Item.empty T.icPath, [("/x", [("a", genExRoute)])], 1) =
    some (some genExRoute, (Item.empty T.icPath, [], 0)) := by
  simp [genPathRemove, Item.remove, mapRetain, imapRemove]

/-- the panic exit is LIVE outside the representation relation: a stored rule under a zero counter -/
example : pathRemoveG "a" (Item.empty T.icPath, [("/x", [("a", genExRoute)])], 0) = none := by
  simp [genPathRemove, Item.remove, mapRetain, imapRemove]

include hPS in
/-- non-vacuity of the hypotheses of `len_remove_gen_path` / `gen_path_remove_eq_model` -/
example : PTRepr T Good (PathFields.abs (Item.empty T.icPath, [("/x", [("a", genExRoute)])], 1)) [genExRoute] := by
  have h0 := (pathTLaws T Good hPS).repr_empty
  have : PTRepr T Good (PathT.insert T genExRoute (PathT.empty T)) [genExRoute] :=
    (pathTLaws T Good hPS).repr_insert _ [] genExRoute h0
    (by intro a ha b hb _; simp at ha hb; rw [ha, hb]) (by intro p hp; simp [dynOf, genExRoute] at hp)
  simpa [PathT.insert, PathT.empty, PathFields.abs, flatN, genExRoute, aupsert] using this

def PathRemoveEqUnrestricted : Prop :=
  ∀ (id : String) (n n' : PathFields) (res : Option Route),
    pathRemoveG id n = some (res, n') → n'.abs = (PathT.remove id n.abs).1

/-- a node with a single child (never built by `insert` / `remove` / `retain`: the tree invariant excludes it) -/
def genExBadTree : Item String Route :=
  .node (LazyRegex.newNode [] false) [.leaf (LazyRegex.newNode ['a'] false) [("k", genExRoute)]]

/-- **the unrestricted equivalence is FALSE** (a finding about the hand-written MODEL, not the code): when
`regex_tree_rule.remove(id)` finds nothing the code keeps the tree `remove` left, the model (`PathT.remove`) keeps the
old tree; on a tree that violates the invariant `remove` collapses the single-child node although nothing was removed.
Under the invariant (part of `PTRepr`) the two agree: `gen_path_remove_eq_model` / `gen_path_remove_rel` are the
partial forms that hold. -/
theorem gen_path_remove_eq_model_unrestricted_fails : ¬ PathRemoveEqUnrestricted := by
  intro h
  have he : pathRemoveG "z" (genExBadTree, [], 0) =
      some (none, ((Item.leaf (LazyRegex.newNode ['a'] false) [("k", genExRoute)] : Item String Route), [], 0)) := by
    simp [genPathRemove, genExBadTree, Item.remove, removeL, leafRemove, lookupKey, keepNonEmpty, Item.isEmpty, collapse1,
      mapRetain]
  have := h "z" _ _ _ he
  simp [PathFields.abs, PathT.remove, genExBadTree, Item.remove, removeL, leafRemove, lookupKey, keepNonEmpty, Item.isEmpty,
    collapse1, flatN, entryRemove] at this

end

/-- an operation on ONE matcher layer (`Op` of Model/RouterOps acts on the whole router) -/
inductive LOp where
  | insert (r : Route)
  | remove (id : String)
  | batchRemove (ids : List String)

def LOp.live : LOp → List Route → List Route
  | .insert r, L => r :: L
  | .remove id, L => L.filter (fun r => r.id != id)
  | .batchRemove ids, L => L.filter (fun r => !ids.contains r.id)

section
variable (T : TEnv) (Good : List Char → Prop)

/-- ids stay unique and inserted marker paths are in the domain of C08 (as `ValidHistory` of
Model/RouterOps with `TreeGood` of Proofs/RouterTreeTop, which Props/C02 uses) -/
def LOp.Valid : LOp → List Route → Prop
  | .insert r, L => UIds (r :: L) ∧ PathGood T Good r
  | _, _ => True

def ValidL : List LOp → List Route → Prop
  | [], _ => True
  | op :: ops, L => op.Valid T Good L ∧ ValidL ops (op.live L)

def pathStepG : LOp → PathFields → Option PathFields
  | .insert r, n => (pathInsertG T r n).map (·.2)
  | .remove id, n => (pathRemoveG id n).map (·.2)
  | .batchRemove ids, n => (pathBatchRemoveG ids n).map (·.2)

def pathRunG : List LOp → PathFields → Option PathFields
  | [], n => some n
  | op :: ops, n => (pathStepG T op n).bind (pathRunG ops)

def pathStepM : LOp → PathTState → PathTState
  | .insert r, s => PathT.insert T r s
  | .remove id, s => (PathT.remove id s).1
  | .batchRemove ids, s => PathT.batchRemove ids s

variable (hPS : PrefixSound T.engine Good)

include hPS in
theorem gen_path_step_rel (op : LOp) (n : PathFields) (s : PathTState) (L : List Route)
    (h : PathRel n s) (hR : PTRepr T Good s L) (hU : UIds L) (hv : op.Valid T Good L) :
    ∃ n' : PathFields, pathStepG T op n = some n' ∧ PathRel n' (pathStepM T op s) ∧
      PTRepr T Good (pathStepM T op s) (op.live L) ∧ UIds (op.live L) := by
  cases op with
  | insert r =>
    obtain ⟨n1, e1, h1⟩ := gen_path_insert_rel T r n s h
    exact ⟨n1, by rw [pathStepG, e1]; rfl, h1, (pathTLaws T Good hPS).repr_insert s L r hR hv.1 hv.2, hv.1⟩
  | remove id =>
    obtain ⟨n1, e1, h1⟩ := gen_path_remove_rel_repr T Good hPS id n s h L hR hU
    exact ⟨n1, by rw [pathStepG, e1]; rfl, h1, (pathTLaws T Good hPS).repr_remove s L id hR hU, hU.filter _⟩
  | batchRemove ids =>
    obtain ⟨b, n1, e1, h1⟩ := gen_path_batch_remove_rel ids n s h
    exact ⟨n1, by rw [pathStepG, e1]; rfl, h1, (pathTLaws T Good hPS).repr_batch s L ids hR, hU.filter _⟩

include hPS in
/-- **every valid history, translated vs model**: the translated code runs through the whole history WITHOUT a panic (no
`unwrap` of `None`, no counter underflow) and stays related to the model's state; the translated counter bounds the
number of live rules. -/
theorem gen_path_run_rel (ops : List LOp) (n : PathFields) (s : PathTState) (L : List Route)
    (h : PathRel n s) (hR : PTRepr T Good s L) (hU : UIds L) (hv : ValidL T Good ops L) :
    ∃ n' : PathFields, pathRunG T ops n = some n' ∧
      PathRel n' (ops.foldl (fun s op => pathStepM T op s) s) ∧
      PTRepr T Good (ops.foldl (fun s op => pathStepM T op s) s) (ops.foldl (fun L op => op.live L) L) ∧
      (ops.foldl (fun L op => op.live L) L).length ≤ genPathLen n'.2.2 := by
  induction ops generalizing n s L with
  | nil => exact ⟨n, rfl, h, hR, by rw [show genPathLen n.2.2 = s.count from h.count]; exact hR.len⟩
  | cons op ops ih =>
    obtain ⟨n1, e1, h1, hR1, hU1⟩ := gen_path_step_rel T Good hPS op n s L h hR hU hv.1
    obtain ⟨n', e', r'⟩ := ih n1 _ _ h1 hR1 hU1 hv.2
    exact ⟨n', by rw [pathRunG, e1]; exact e', r'⟩

include hPS in
/-- … in particular from the empty matcher (`PathAndQueryMatcher::new`). -/
theorem gen_path_run_from_empty (ops : List LOp) (hv : ValidL T Good ops []) :
    ∃ n' : PathFields, pathRunG T ops (Item.empty T.icPath, [], 0) = some n' ∧
      PathRel n' (ops.foldl (fun s op => pathStepM T op s) (PathT.empty T)) ∧
      (ops.foldl (fun L op => op.live L) []).length ≤ genPathLen n'.2.2 := by
  have h0 : PathRel (Item.empty T.icPath, [], 0) (PathT.empty T) := ⟨rfl, rfl, SEquiv.refl _, by simp [akeys]⟩
  obtain ⟨n', e, r, _, l⟩ := gen_path_run_rel T Good hPS ops _ _ [] h0 (pathTLaws T Good hPS).repr_empty
    (by intro a ha; simp at ha) hv
  exact ⟨n', e, r, l⟩

/-- non-vacuity of `ValidL` -/
example : ValidL T Good [.insert genExRoute, .remove "a", .insert genExRoute] [] := by
  refine ⟨⟨?_, ?_⟩, trivial, ⟨?_, ?_⟩, trivial⟩
  · intro a ha b hb _; simp at ha hb; rw [ha, hb]
  · intro p hp; simp [dynOf, genExRoute] at hp
  · intro a ha b hb _
    simp [LOp.live, genExRoute] at ha hb
    rw [ha, hb]
  · intro p hp; simp [dynOf, genExRoute] at hp

end

section
variable (T : TEnv) (Good : List Char → Prop) {I : MOps} (IL : MLaws I) (hPS : PrefixSound T.engine Good)

def HostTState.ofFields (f : List (String × I.M) × Item (List Char) I.M × I.M × Nat) : HostTState I :=
  ⟨f.1, f.2.1, f.2.2.1, f.2.2.2⟩

def LOp.ValidH : LOp → List Route → Prop
  | .insert r, L => UIds (r :: L) ∧ (hostTLaws T Good IL hPS).okIns r
  | _, _ => True

def ValidLH : List LOp → List Route → Prop
  | [], _ => True
  | op :: ops, L => op.ValidH T Good IL hPS L ∧ ValidLH ops (op.live L)

def hostStepG : LOp → HostTState I → Option (HostTState I)
  | .insert r, s => (hostInsertG T I r s).map (fun x => HostTState.ofFields x.2)
  | .remove id, s => (hostRemoveG I id s).map (fun x => HostTState.ofFields x.2)
  | .batchRemove ids, s => (hostBatchRemoveG I ids s).map (fun x => HostTState.ofFields x.2)

def hostRunG : List LOp → HostTState I → Option (HostTState I)
  | [], s => some s
  | op :: ops, s => (hostStepG T op s).bind (hostRunG ops)

def hostStepM : LOp → HostTState I → HostTState I
  | .insert r, s => HostT.insert T I r s
  | .remove id, s => (HostT.remove I id s).1
  | .batchRemove ids, s => HostT.batchRemove I ids s

include hPS in
theorem gen_host_step (op : LOp) (s : HostTState I) (L : List Route)
    (hR : HTRepr T Good IL s L) (hU : UIds L) (hv : op.ValidH T Good IL hPS L) :
    hostStepG T op s = some (hostStepM T op s) ∧ HTRepr T Good IL (hostStepM T op s) (op.live L) ∧ UIds (op.live L) := by
  cases op with
  | insert r =>
    exact ⟨by rw [hostStepG, gen_host_insert_eq_model]; rfl, (hostTLaws T Good IL hPS).repr_insert s L r hR hv.1 hv.2, hv.1⟩
  | remove id =>
    exact ⟨by rw [hostStepG, gen_host_remove_eq_model T Good IL hPS id s L hR]; rfl,
      (hostTLaws T Good IL hPS).repr_remove s L id hR hU, hU.filter _⟩
  | batchRemove ids =>
    exact ⟨by rw [hostStepG, gen_host_batch_remove_eq_model]; rfl, (hostTLaws T Good IL hPS).repr_batch s L ids hR, hU.filter _⟩

include hPS in
/-- **every valid history on a `HostMatcher`, translated = model**: no panic, EXACTLY the model's state at the end; the
translated counter bounds the number of live rules. -/
theorem gen_host_run_eq_model (ops : List LOp) (s : HostTState I) (L : List Route)
    (hR : HTRepr T Good IL s L) (hU : UIds L) (hv : ValidLH T Good IL hPS ops L) :
    hostRunG T ops s = some (ops.foldl (fun s op => hostStepM T op s) s) ∧
      HTRepr T Good IL (ops.foldl (fun s op => hostStepM T op s) s) (ops.foldl (fun L op => op.live L) L) ∧
      (ops.foldl (fun L op => op.live L) L).length ≤ genHostLen (ops.foldl (fun s op => hostStepM T op s) s).count := by
  induction ops generalizing s L with
  | nil => exact ⟨rfl, hR, hR.repr.len⟩
  | cons op ops ih =>
    obtain ⟨e1, hR1, hU1⟩ := gen_host_step T Good IL hPS op s L hR hU hv.1
    obtain ⟨e', r'⟩ := ih _ _ hR1 hU1 hv.2
    exact ⟨by rw [hostRunG, e1]; exact e', r'⟩

end
end Rio.C02
