/-
C19 (second part) — the project-level analyses are functions of the live rule *set*:
extensionality in the router, project ≡ stand-alone, independence of the rule order.

The four analyses (test-examples, unit-ids, explain, impact) are stated over the abstract `View`, `Pipe` and `Alg` of
Model/LoopAnalysis.lean (see its header).  The representation laws `AlgLaws` (what C02 proves of the real matcher
tower) are instantiated below with the matcher tower of the router model (`towerAlg`, laws from `Rio.C02.repr_*`,
`rrepr_match_perm`, `rrepr_trace_perm`) extended by the handlers of the routes (`withPayload`), and with a plain list
router (non-vacuity).

Hypotheses, and where they come from:
* `PermInv P`: every evaluation is invariant under permutation of a match vector with distinct ids –
  C11: `from_routes_rule` sorts the routes with the total order of `Rule::cmp` first
  (`permInv_of_sorted` discharges it for every pipeline that factors through the sorted list);
* `View.WF`: live ids and matched ids are pairwise distinct – C01 / C02 (`AlgLaws.wf`);
* `ValidChangeSet`: the ids of the change-set are consistent with the live rules (same as C02).

Compared "up to the canonical order of the outputs":
* `HashMap` outputs (`UnitIdsOutput.rules`, `first_ten_failures`, `first_ten_errors`) as finite maps:
  `lookup id` agrees for every id (and the association lists are permutations of each other);
* `first_ten_failures` / `first_ten_errors`: since 9993ef8 `create_result` visits the rules in id order, so
  the truncation (`len() <= 10` tested before each push) is a function of the rule set and the whole
  `TestExamplesOutput` is compared with `=` (hypothesis `IdOrder`: the id comparison is a total order); the
  statements about the code BEFORE the repair (`testExamplesUnordered`: HashMap order, `first_ten_*`
  order-independent only when at most ten rules contribute) are kept for the record (`*_unordered`);
* `match_traces` through a canonical projection `canon` of the traces (for the tower: the set of route
  ids listed by `get_routes_from_traces`): the forest itself depends on the history (buckets emptied by
  `batch_remove` survive) and on the `count` fields.
Everything else (example, unit trace, backend status, response, log decision, redirect chain, error
messages, the order of `impacts`) is compared with `=`.
-/
import RioModel.Proofs.LoopAnalysis
import RioModel.Props.C02
import RioModel.Props.C11
-- the `[DecidableEq …]` of the `variable` line enter every theorem that mentions the type, needed there or not
set_option linter.unusedSectionVars false

namespace Rio.C19
open Rio.Analysis

section
variable {St Rule Req Cfg Tr C Ex Id UId UT Core U M Dom : Type}
variable [DecidableEq Id] [DecidableEq U] [DecidableEq M]
variable {P : Pipe Rule Req Cfg Ex Id UId UT Core U M Dom} {canon : Tr → C}

/-- Equivalent views (`Equiv`) give every example the same redirect chain (`RedirectionLoop::from_example`). -/
theorem loop_extensional {S S' : View Rule Req Cfg Tr} (hI : PermInv P) (hE : Equiv canon S S')
    (hW : View.WF P S) (maxHops : Nat) (dom : Dom) (e : Ex) :
    loop P S maxHops dom e = loop P S' maxHops dom e :=
  (congrFun ((hE.agree hI hW).loop maxHops dom) e).symm

/-- explain: same answer (error message or record), `match_traces` through `canon`. -/
theorem explain_extensional {S S' : View Rule Req Cfg Tr} (hI : PermInv P) (hE : Equiv canon S S')
    (hW : View.WF P S) (maxHops : Nat) (dom : Dom) (e : Ex) :
    (explain P S maxHops dom e).map (ExplainOut.project canon) =
      (explain P S' maxHops dom e).map (ExplainOut.project canon) := by
  have h := hE.agree hI hW
  simp only [explain, h.config, h.evalExplain, h.loop]
  cases P.fromExample S.config e with
  | error _ => rfl
  | ok q => simp only [Except.map, ExplainOut.project, h.trace q]

/-- impact (the loop of `compute_impacts`): the same list of impacts, in example order;
`T`, `T'` are the views of the trace-unique routers. -/
theorem impact_extensional {S S' T T' : View Rule Req Cfg Tr} (hI : PermInv P) (hE : Equiv canon S S')
    (hW : View.WF P S) (hT : ∀ q, canon (T.trace q) = canon (T'.trace q)) (examples : Option (List Ex))
    (withLoop : Bool) (maxHops : Nat) (dom : Dom) :
    (computeImpacts P S T examples withLoop maxHops dom).map (Impact.project canon) =
      (computeImpacts P S' T' examples withLoop maxHops dom).map (Impact.project canon) := by
  have h := hE.agree hI hW
  cases examples with
  | none => rfl
  | some exs =>
    simp only [computeImpacts, h.config, h.evalExplain, h.loop, List.map_map]
    refine List.map_congr_left fun e _ => ?_
    simp only [Function.comp]
    cases P.fromExample S.config e with
    | error _ => rfl
    | ok q => simp only [Impact.project, hT q]

/-- unit-ids: the same finite map rule id ↦ examples with their computed unit ids. -/
theorem unit_ids_extensional {S S' : View Rule Req Cfg Tr} (hI : PermInv P) (hE : Equiv canon S S')
    (hW : View.WF P S) :
    (unitIds P S).Perm (unitIds P S') ∧ ((unitIds P S).map (·.1)).Nodup ∧
      ∀ id, lookupA id (unitIds P S) = lookupA id (unitIds P S') :=
  ⟨(hE.agree hI hW).unitIds_perm, unitIds_keys_nodup hW,
   fun id => lookupA_perm id _ _ (hE.agree hI hW).unitIds_perm (unitIds_keys_nodup hW)⟩

/-- **test-examples (as repaired: rules in id order)**: the whole output – the three counters and both
`first_ten_*` maps with their truncation – is EQUAL for equivalent routers. -/
theorem test_examples_extensional {S S' : View Rule Req Cfg Tr} (hO : IdOrder P) (hI : PermInv P)
    (hE : Equiv canon S S') (hW : View.WF P S) (maxHops : Nat) (dom : Dom) :
    testExamples P S maxHops dom = testExamples P S' maxHops dom := by
  have h := hE.agree hI hW
  unfold testExamples testExamplesWith
  rw [sortById_perm hO h.routes h.nodup, h.loop, h.testRuleWith]

/-- For the record, the code BEFORE 9993ef8 (rules in HashMap order): the three counters always; the two
`first_ten_*` maps only when at most ten rules contribute to them. -/
theorem test_examples_unordered_extensional {S S' : View Rule Req Cfg Tr} (hI : PermInv P)
    (hE : Equiv canon S S') (hW : View.WF P S) (maxHops : Nat) (dom : Dom) :
    (testExamplesUnordered P S maxHops dom).exampleCount = (testExamplesUnordered P S' maxHops dom).exampleCount ∧
    (testExamplesUnordered P S maxHops dom).failureCount = (testExamplesUnordered P S' maxHops dom).failureCount ∧
    (testExamplesUnordered P S maxHops dom).errorCount = (testExamplesUnordered P S' maxHops dom).errorCount ∧
    (FailuresBounded P S maxHops dom → ∀ id,
      lookupE id (testExamplesUnordered P S maxHops dom).firstTenFailures =
        lookupE id (testExamplesUnordered P S' maxHops dom).firstTenFailures) ∧
    (ErrorsBounded P S maxHops dom → ∀ id,
      lookupE id (testExamplesUnordered P S maxHops dom).firstTenErrors =
        lookupE id (testExamplesUnordered P S' maxHops dom).firstTenErrors) := by
  have h := hE.agree hI hW
  have hp := h.events_perm maxHops dom
  obtain ⟨a1, a2, a3⟩ := fold_counts (P := P) (events P S maxHops dom) TestOut.init
  obtain ⟨b1, b2, b3⟩ := fold_counts (P := P) (events P S' maxHops dom) TestOut.init
  refine ⟨?_, ?_, ?_, fun hb id => ?_, fun hb id => ?_⟩
  -- each counter counts the events of one kind, and the events of the two routers are permutations of each other
  · rw [testExamplesUnordered_eq_fold, testExamplesUnordered_eq_fold, a1, b1, hp.countP_eq]
  · rw [testExamplesUnordered_eq_fold, testExamplesUnordered_eq_fold, a2, b2, hp.countP_eq]
  · rw [testExamplesUnordered_eq_fold, testExamplesUnordered_eq_fold, a3, b3, hp.countP_eq]
  -- under the bound each map has its closed form per id, which only looks at the rule with that id
  · rw [failures_lookup maxHops dom hb, failures_lookup maxHops dom (h.bounded maxHops dom hb)]
    exact congrArg _ (h.itemsFor_eq _ maxHops dom id)
  · rw [errors_lookup maxHops dom hb, errors_lookup maxHops dom (h.bounded maxHops dom hb)]
    exact congrArg _ (h.itemsFor_eq _ maxHops dom id)

/-- What the untruncated `first_ten_failures` holds for a rule id: the failed examples of the live rule
with that id, in example order (closed form; `none` when it has none). -/
theorem first_ten_failures_closed_form {S : View Rule Req Cfg Tr} (maxHops : Nat) (dom : Dom)
    (hb : FailuresBounded P S maxHops dom) (id : Id) :
    lookupE id (testExamplesUnordered P S maxHops dom).firstTenFailures =
      extendE none (itemsFor id ((events P S maxHops dom).map (failureOf P))) :=
  failures_lookup maxHops dom hb id

/-- All four analyses at once. -/
theorem analysis_extensional {S S' : View Rule Req Cfg Tr} (hO : IdOrder P) (hI : PermInv P)
    (hE : Equiv canon S S') (hW : View.WF P S) (maxHops : Nat) (dom : Dom) :
    -- test-examples (whole output)
    testExamples P S maxHops dom = testExamples P S' maxHops dom ∧
    -- unit-ids
    (∀ id, lookupA id (unitIds P S) = lookupA id (unitIds P S')) ∧
    -- explain
    (∀ e, (explain P S maxHops dom e).map (ExplainOut.project canon) =
        (explain P S' maxHops dom e).map (ExplainOut.project canon)) ∧
    -- impact, for any examples and the same trace-unique router
    (∀ (T : View Rule Req Cfg Tr) examples withLoop,
      (computeImpacts P S T examples withLoop maxHops dom).map (Impact.project canon) =
        (computeImpacts P S' T examples withLoop maxHops dom).map (Impact.project canon)) :=
  ⟨test_examples_extensional hO hI hE hW maxHops dom,
   (unit_ids_extensional hI hE hW).2.2,
   fun e => explain_extensional hI hE hW maxHops dom e,
   fun _ examples withLoop => impact_extensional hI hE hW (fun _ => rfl) examples withLoop maxHops dom⟩

/-! ### What the analyses report for an example IS what the pipeline computes for its request

The clause "the response they report for an example (status, headers, body, log decision) is the one the
live pipeline produces for that request" over the abstract `Pipe`: every reported value is `P.eval…` applied
to `router.match_request(request)` for the request `Request::from_example(router.config, example)` – the
analyses add nothing and drop nothing.  (The request is NOT rebuilt: only `trace_request` rebuilds it.  That
`P.evalExplain` etc. ARE the live pipeline – C05 / C13 / C04 composed – is outside this model: `Pipe` is
abstract; the harness oracle `pipeline-agreement` checks it on the implementation.) -/

/-- explain: the reported core (unit trace, backend status, response, log decision) is the pipeline's value on
the matched routes of the example's request; the chain is `RedirectionLoop::from_example`; an unbuildable
request is the only error. -/
theorem explain_reports_pipeline (S : View Rule Req Cfg Tr) (maxHops : Nat) (dom : Dom) (e : Ex) :
    (∀ msg, P.fromExample S.config e = .error msg →
      explain P S maxHops dom e = .error ("Invalid example: " ++ msg)) ∧
    (∀ q, P.fromExample S.config e = .ok q →
      explain P S maxHops dom e =
        .ok ⟨e, P.evalExplain (S.matchReq q) q e, S.trace q, some (loop P S maxHops dom e)⟩) := by
  constructor <;> intro x hx <;> simp [explain, hx]

/-- impact: one record per example, in example order; each is the pipeline's value on the router WITH the
analysed rule (`S`) and the trace of the trace-unique router (`T`). -/
theorem impact_reports_pipeline (S T : View Rule Req Cfg Tr) (exs : List Ex) (withLoop : Bool) (maxHops : Nat)
    (dom : Dom) :
    (computeImpacts P S T (some exs) withLoop maxHops dom).length = exs.length ∧
    ∀ i (hi : i < exs.length),
      (computeImpacts P S T (some exs) withLoop maxHops dom)[i]? = some
        (match P.fromExample S.config exs[i] with
         | .error msg => .err exs[i] ("Cannot create query from example: " ++ msg)
         | .ok q => .ok exs[i] (P.evalExplain (S.matchReq q) q exs[i]) (T.trace q)
                      (if withLoop then some (loop P S maxHops dom exs[i]) else none)) := by
  refine ⟨by simp [computeImpacts], ?_⟩
  intro i hi
  simp only [computeImpacts, List.getElem?_map, List.getElem?_eq_getElem hi, Option.map_some]
  cases P.fromExample S.config exs[i] <;> rfl

/-- unit-ids: what is written back into an example is the unit ids the pipeline applied (unit-ids convention)
on the matched routes of its request; an example whose request cannot be built is returned unchanged. -/
theorem unit_ids_reports_pipeline (S : View Rule Req Cfg Tr) (e : Ex) :
    (∀ msg, P.fromExample S.config e = .error msg → unitExample P S e = e) ∧
    (∀ q, P.fromExample S.config e = .ok q →
      unitExample P S e = P.setExpected e (P.utUnitIds (P.evalUnit (S.matchReq q) q e))) := by
  constructor <;> intro x hx <;> simp [unitExample, hx]

/-- test-examples: the verdict on an example is a function of the unit trace the pipeline produced
(test-examples convention) on the matched routes of its request, and a reported failure carries exactly that
trace's rule ids, unit ids and `diff(expected)`. -/
theorem test_example_reports_pipeline (S : View Rule Req Cfg Tr) (maxHops : Nat) (dom : Dom) (r : Rule) (e : Ex)
    (f : FailedEx Ex Id UId U M) (h : outcome P S maxHops dom r e = .failed f) :
    ∃ exp q, P.expected e = some exp ∧ P.fromExample S.config e = .ok q ∧ f.ex = e ∧
      f.ruleIdsApplied = P.utRuleIds (P.evalTest (S.matchReq q) q e) ∧
      f.unitIdsApplied = P.utUnitIds (P.evalTest (S.matchReq q) q e) ∧
      f.unitIdsNotAppliedAnymore = P.utDiff (P.evalTest (S.matchReq q) q e) exp ∧
      (f.redirectionLoop = none ∨ f.redirectionLoop = some (loop P S maxHops dom e)) := by
  unfold outcome outcomeWith at h
  cases hexp : P.expected e with
  | none => simp [hexp] at h
  | some exp =>
    cases hq : P.fromExample S.config e with
    | error msg => simp [hexp, hq] at h
    | ok q =>
      simp only [hexp, hq] at h
      refine ⟨exp, q, rfl, rfl, ?_⟩
      split at h
      · cases h; exact ⟨rfl, rfl, rfl, rfl, Or.inl rfl⟩
      · split at h
        · cases h; exact ⟨rfl, rfl, rfl, rfl, Or.inr rfl⟩
        · cases h

/-! ### Project ≡ stand-alone

`base` is the existing router of the project (it represents the rule list `B`), `D` the change-set,
`rules` the rule list the stand-alone entry point is given: the rules of `apply(B, D)` in any order. -/

variable {A : Alg St Rule Req Cfg Tr Id} (W : AlgLaws A P.ruleId canon)
include W

/-- A state that represents `L` and the router built from any list with the same members and distinct ids have equivalent
views, the first well formed: what carries the `*_extensional` theorems over to the entry points below. -/
theorem equiv_build {S : St} {c : Cfg} {L : List Rule} (hL : W.Repr S c L) (rules : List Rule)
    (hn : NodupIds P.ruleId rules) (hm : ∀ x, x ∈ rules ↔ x ∈ L) :
    Equiv canon (A.view S) (A.view (A.build c rules)) ∧ View.WF P (A.view S) :=
  ⟨W.equiv hL (repr_build W c rules hn) (fun x => by rw [List.mem_reverse, hm x]), W.wf hL⟩

/-- the two routers of test-examples / explain have equivalent views -/
theorem project_router_equiv (base : St) (c : Cfg) (B : List Rule) (D : ChangeSet Rule Id)
    (rules : List Rule) (hb : W.Repr base c B) (hv : ValidChangeSet P.ruleId D B)
    (hn : NodupIds P.ruleId rules) (hr : ∀ x, x ∈ rules ↔ x ∈ D.live P.ruleId B) :
    Equiv canon (A.view (A.projectRouter D base)) (A.view (A.build c rules)) ∧
      View.WF P (A.view (A.projectRouter D base)) := by
  obtain ⟨L, hL, hmem⟩ := repr_projectRouter W base c B D hb hv
  exact equiv_build W hL rules hn (fun x => (hr x).trans (hmem x).symm)

/-- **test-examples: `from_project` ≡ `create_result_without_project`** – the whole `TestExamplesOutput`. -/
theorem test_examples_project_equals_standalone (hO : IdOrder P) (hI : PermInv P) (base : St) (c : Cfg)
    (B : List Rule) (D : ChangeSet Rule Id) (rules : List Rule) (hb : W.Repr base c B)
    (hv : ValidChangeSet P.ruleId D B) (hn : NodupIds P.ruleId rules)
    (hr : ∀ x, x ∈ rules ↔ x ∈ D.live P.ruleId B) (maxHops : Nat) (dom : Dom) :
    testExamplesProject A P D maxHops dom base = testExamplesStandalone A P c rules maxHops dom := by
  obtain ⟨hE, hW⟩ := project_router_equiv W base c B D rules hb hv hn hr
  exact test_examples_extensional hO hI hE hW maxHops dom

/-- **unit-ids: `create_result_from_project` ≡ `create_result_without_project`.** -/
theorem unit_ids_project_equals_standalone (hI : PermInv P) (base : St) (c : Cfg) (B : List Rule)
    (D : ChangeSet Rule Id) (rules : List Rule) (hb : W.Repr base c B)
    (hv : ValidChangeSet P.ruleId D B) (hn : NodupIds P.ruleId rules)
    (hr : ∀ x, x ∈ rules ↔ x ∈ D.live P.ruleId B) :
    (unitIdsProject A P D base).Perm (unitIdsStandalone A P c rules) ∧
      ∀ id, lookupA id (unitIdsProject A P D base) = lookupA id (unitIdsStandalone A P c rules) := by
  obtain ⟨hE, hW⟩ := equiv_build W (W.repr_changeSet base c B D hb hv) rules hn hr
  have := unit_ids_extensional hI hE hW
  exact ⟨this.1, this.2.2⟩

/-- **explain: `create_result_from_project` ≡ `create_result_without_project`.** -/
theorem explain_project_equals_standalone (hI : PermInv P) (base : St) (c : Cfg) (B : List Rule)
    (D : ChangeSet Rule Id) (rules : List Rule) (hb : W.Repr base c B)
    (hv : ValidChangeSet P.ruleId D B) (hn : NodupIds P.ruleId rules)
    (hr : ∀ x, x ∈ rules ↔ x ∈ D.live P.ruleId B) (maxHops : Nat) (dom : Dom) (e : Ex) :
    (explainProject A P D maxHops dom e base).map (ExplainOut.project canon) =
      (explainStandalone A P c rules maxHops dom e).map (ExplainOut.project canon) := by
  obtain ⟨hE, hW⟩ := project_router_equiv W base c B D rules hb hv hn hr
  exact explain_extensional hI hE hW maxHops dom e

/-- the optional insertion of the analysed rule keeps two routers equivalent, provided its id is
not live in either (the entry points remove / skip its previous version first) -/
theorem impactOn_ext (hI : PermInv P) (S S' : St) (c : Cfg) (L L' : List Rule) (I : ImpactSpec Rule Dom)
    (h : W.Repr S c L) (h' : W.Repr S' c L') (hm : ∀ x, x ∈ L ↔ x ∈ L')
    (hf : P.ruleId I.rule ∉ L.map P.ruleId) (hf' : P.ruleId I.rule ∉ L'.map P.ruleId) (T : St) :
    (impactOn A P S T I).map (Impact.project canon) = (impactOn A P S' T I).map (Impact.project canon) := by
  unfold impactOn
  by_cases hins : (I.action == "add" || I.action == "update") = true
  · simp only [hins, if_true]
    have hr := W.repr_insert S c L I.rule h hf
    have hr' := W.repr_insert S' c L' I.rule h' hf'
    have hm' : ∀ x, x ∈ I.rule :: L ↔ x ∈ I.rule :: L' := by
      intro x; simp only [List.mem_cons, hm x]
    exact impact_extensional hI (W.equiv hr hr' hm') (W.wf hr) (fun _ => rfl) _ _ _ _
  · simp only [hins, Bool.false_eq_true, if_false]
    exact impact_extensional hI (W.equiv h h' hm) (W.wf h) (fun _ => rfl) _ _ _ _

/-- The stand-alone impact analysis is `impactOn` on ANY router that represents the rule list without the previous
version of the analysed rule. -/
theorem impactOn_eq_standalone (hI : PermInv P) (S : St) (c : Cfg) (L rules : List Rule) (I : ImpactSpec Rule Dom)
    (h : W.Repr S c L) (hn : NodupIds P.ruleId rules)
    (hm : ∀ x, x ∈ L ↔ x ∈ rules.filter fun r => decide (P.ruleId r ≠ P.ruleId I.rule)) :
    (impactOn A P S (A.empty c) I).map (Impact.project canon) =
      (impactStandalone A P c rules I).map (Impact.project canon) := by
  -- neither list holds the id of the analysed rule: both lie within `rules` without it
  have hfresh : ∀ K : List Rule, (∀ x ∈ K, x ∈ rules.filter fun r => decide (P.ruleId r ≠ P.ruleId I.rule)) →
      P.ruleId I.rule ∉ K.map P.ruleId := by
    intro K hK hmem
    obtain ⟨r, hr, heq⟩ := List.mem_map.mp hmem
    exact of_decide_eq_true (List.mem_filter.mp (hK r hr)).2 heq
  exact impactOn_ext W hI _ _ c _ _ I h (repr_build W c _ (hn.filter _))
    (fun x => by rw [List.mem_reverse]; exact hm x) (hfresh L fun x => (hm x).1)
    (hfresh _ fun x => List.mem_reverse.1) _

/-- **impact: `from_impact_project` ≡ `create_result`.** -/
theorem impact_project_equals_standalone (hI : PermInv P) (base : St) (c : Cfg) (B : List Rule)
    (D : ChangeSet Rule Id) (rules : List Rule) (hb : W.Repr base c B)
    (hv : ValidChangeSet P.ruleId D B) (hn : NodupIds P.ruleId rules)
    (hr : ∀ x, x ∈ rules ↔ x ∈ D.live P.ruleId B) (I : ImpactSpec Rule Dom) :
    (impactProject A P D I base).map (Impact.project canon) =
      (impactStandalone A P c rules I).map (Impact.project canon) := by
  unfold impactProject
  rw [W.config base c B hb]
  exact impactOn_eq_standalone W hI _ c _ rules I
    (W.repr_remove _ c _ (P.ruleId I.rule) (W.repr_changeSet base c B D hb hv)) hn
    (fun x => by simp only [List.mem_filter, hr x])

/-- **The four analyses at once**: computed on the project's router with the change-set they equal the stand-alone ones
on the rules of `apply(B, D)`. -/
theorem analyses_project_equal_standalone (hO : IdOrder P) (hI : PermInv P) (base : St) (c : Cfg)
    (B : List Rule) (D : ChangeSet Rule Id) (rules : List Rule) (hb : W.Repr base c B)
    (hv : ValidChangeSet P.ruleId D B) (hn : NodupIds P.ruleId rules)
    (hr : ∀ x, x ∈ rules ↔ x ∈ D.live P.ruleId B) (maxHops : Nat) (dom : Dom) :
    testExamplesProject A P D maxHops dom base = testExamplesStandalone A P c rules maxHops dom ∧
    (∀ id, lookupA id (unitIdsProject A P D base) = lookupA id (unitIdsStandalone A P c rules)) ∧
    (∀ e, (explainProject A P D maxHops dom e base).map (ExplainOut.project canon) =
        (explainStandalone A P c rules maxHops dom e).map (ExplainOut.project canon)) ∧
    (∀ I : ImpactSpec Rule Dom, (impactProject A P D I base).map (Impact.project canon) =
        (impactStandalone A P c rules I).map (Impact.project canon)) :=
  ⟨test_examples_project_equals_standalone W hO hI base c B D rules hb hv hn hr maxHops dom,
   (unit_ids_project_equals_standalone W hI base c B D rules hb hv hn hr).2,
   fun e => explain_project_equals_standalone W hI base c B D rules hb hv hn hr maxHops dom e,
   fun I => impact_project_equals_standalone W hI base c B D rules hb hv hn hr I⟩

/-- **Rule-order independence** of the four stand-alone analyses. -/
theorem rule_order_independent (hO : IdOrder P) (hI : PermInv P) (c : Cfg) (rules rules' : List Rule)
    (hn : NodupIds P.ruleId rules) (hp : rules.Perm rules') (maxHops : Nat) (dom : Dom) :
    testExamplesStandalone A P c rules maxHops dom = testExamplesStandalone A P c rules' maxHops dom ∧
    (∀ id, lookupA id (unitIdsStandalone A P c rules) = lookupA id (unitIdsStandalone A P c rules')) ∧
    (∀ e, (explainStandalone A P c rules maxHops dom e).map (ExplainOut.project canon) =
        (explainStandalone A P c rules' maxHops dom e).map (ExplainOut.project canon)) ∧
    (∀ I : ImpactSpec Rule Dom, (impactStandalone A P c rules I).map (Impact.project canon) =
        (impactStandalone A P c rules' I).map (Impact.project canon)) := by
  obtain ⟨hE, hW⟩ := equiv_build W (repr_build W c rules hn) rules' (hn.perm hp)
    fun x => by rw [List.mem_reverse, hp.mem_iff]
  refine ⟨test_examples_extensional hO hI hE hW maxHops dom, (unit_ids_extensional hI hE hW).2.2,
    fun e => explain_extensional hI hE hW maxHops dom e, ?_⟩
  intro I
  exact impactOn_eq_standalone W hI _ c _ rules' I (repr_build W c _ (hn.filter _)) (hn.perm hp)
    (fun x => by rw [List.mem_reverse]; exact (hp.filter _).mem_iff)

end

section
variable {Req Cfg Ex UId UT Core U M Dom : Type}

/-- `Action::from_routes_rule` starts with `routes.sort()`; the action, the unit-trace side effects of
the fold and everything the analyses derive from them are functions of the sorted list.  For every
pipeline of that shape the invariance hypothesis holds – this is C11 (`sort_perm_invariant`: the sorted
order is a function of the set of matched rules). -/
theorem permInv_of_sorted (P : Pipe Rio.Action.Rule Req Cfg Ex Rio.Action.RuleId UId UT Core U M Dom)
    (hid : P.ruleId = fun r => r.id)
    (gT : List Rio.Action.Rule → Req → Ex → UT) (hT : ∀ R q e, P.evalTest R q e = gT (Rio.Action.sortRules R) q e)
    (gU : List Rio.Action.Rule → Req → Ex → UT) (hU : ∀ R q e, P.evalUnit R q e = gU (Rio.Action.sortRules R) q e)
    (gE : List Rio.Action.Rule → Req → Ex → Core)
    (hE : ∀ R q e, P.evalExplain R q e = gE (Rio.Action.sortRules R) q e)
    (gH : List Rio.Action.Rule → Req → Ex → Nat × Option U)
    (hH : ∀ R q e, P.evalHop R q e = gH (Rio.Action.sortRules R) q e) : PermInv P := by
  have key : ∀ (R R' : List Rio.Action.Rule), R.Perm R' → NodupIds P.ruleId R →
      Rio.Action.sortRules R = Rio.Action.sortRules R' := by
    intro R R' hp hn
    apply Rio.C11.sort_perm_invariant Rio.C11.sortRules_lawful hp
    -- C11's `Rio.Action.NodupIds R` is this file's `NodupIds P.ruleId R` at `ruleId = (·.id)`
    unfold NodupIds at hn
    rw [hid] at hn
    exact hn
  exact ⟨fun R R' q e hp hn => by rw [hT, hT, key R R' hp hn],
         fun R R' q e hp hn => by rw [hU, hU, key R R' hp hn],
         fun R R' q e hp hn => by rw [hE, hE, key R R' hp hn],
         fun R R' q e hp hn => by rw [hH, hH, key R R' hp hn]⟩

end

section
open Rio.Router
variable (E : Env)

/-- The router model of C02 as an algebra: `Cfg = Unit` (the config is the environment `E` of the model);
`rebuild` is `Request::rebuild_with_config`, which `trace_request` applies before tracing. -/
def towerAlg (rebuild : Req → Req) : Alg (Router E) Route Req Unit (List Trace) String where
  empty _ := Router.empty E
  insert r S := S.insert E r
  remove id S := (S.remove E id).1
  applyChangeSet a u d S := S.applyChangeSet E a u d
  view S := ⟨(), S.routes.map Prod.snd, fun q => S.matchReq E q, fun q => S.trace E (rebuild q)⟩

/-- canonical projection of `match_traces`: the set of route ids `get_routes_from_traces` lists -/
def traceIds (t : List Trace) : String → Bool := idSet (fun r : Route => r.id) (routesOfList t)

theorem freshAll_iff (rs L : List Route) :
    Rio.Analysis.FreshAll (fun r : Route => r.id) rs L ↔ Rio.Router.FreshAll rs L := by
  induction rs generalizing L with
  | nil => simp [Rio.Analysis.FreshAll, Rio.Router.FreshAll]
  | cons r t ih => simp [Rio.Analysis.FreshAll, Rio.Router.FreshAll, ih]

/-- Proofs/LoopAnalysis states `FreshAll` and `liveChangeSet` over any id function; at `(·.id)` they are the router model's
(`freshAll_iff`; this one by `rfl`, so `repr_changeSet` of `towerLaws'` takes C02's `repr_change_set` without a rewrite for it). -/
theorem live_eq (a u : List Route) (d : List String) (L : List Route) :
    Rio.Analysis.liveChangeSet (fun r : Route => r.id) a u d L = Rio.Router.liveChangeSet a u d L := rfl

/-- **The representation laws hold of the matcher tower** (C02's `repr_*`, C01's exactness, C17's trace
agreement): `Repr S () L` is `RRepr E S L`.  Primed because `open Rio.Router` brings the matcher laws `Rio.Router.towerLaws`
(Proofs/RouterSat, on which `RRepr` is built) into scope. -/
def towerLaws' (rebuild : Req → Req) :
    AlgLaws (towerAlg E rebuild) (fun r : Route => r.id) traceIds where
  Repr S _ L := RRepr E S L
  repr_empty _ := Rio.C02.repr_empty E
  repr_insert S _ L r h hf := Rio.C02.repr_insert E S L r h hf
  repr_remove S _ L id h := by
    have := Rio.C02.repr_remove E S L id h
    have heq : L.filter (fun r => r.id != id) = L.filter (fun r => decide (r.id ≠ id)) := by
      apply List.filter_congr; intro x _
      by_cases hx : x.id = id <;> simp [hx]
    rw [heq] at this
    exact this
  repr_changeSet S _ L D h hv := by
    have := Rio.C02.repr_change_set E S L D.added D.updated D.deleted h
      ((freshAll_iff _ _).mp hv)
    exact this
  nodup S _ L h := h.ids
  config S _ L h := rfl
  routes S _ L h := h.perm
  match_nodup S _ L h q := (rrepr_nodup_match E S L h q).2
  match_sub S _ L h q x hx := Rio.C02.only_live_match E S L h q x hx
  match_perm S S' _ L L' h h' hm q := rrepr_match_perm E S S' L L' h h' hm q
  trace_canon S S' _ L L' h h' hm q := by
    have h1 := rrepr_trace_perm E S L h (rebuild q)
    have h2 := rrepr_trace_perm E S' L' h' (rebuild q)
    have hp := h1.trans ((rrepr_match_perm E S S' L L' h h' hm (rebuild q)).trans h2.symm)
    exact idSet_perm _ hp

/-- the same laws for any function that is (propositionally) the route id; by `subst`, not `hrid ▸ towerLaws' …`, whose
`Repr` could no longer be compared with `RRepr` -/
theorem towerLaws_of_rid (rebuild : Req → Req) (rid : Route → String) (hrid : rid = fun r => r.id) :
    ∃ W : AlgLaws (towerAlg E rebuild) rid traceIds, ∀ S L, RRepr E S L → W.Repr S () L := by
  subst hrid
  exact ⟨towerLaws' E rebuild, fun S L h => h⟩

/-- `Router<Rule>` = the matcher tower plus the handler (`Rule`: actions, examples, …) of every
route; `Pl` is the type of handlers.  The laws carry over (`withPayloadLaws`), so
`analyses_project_equal_standalone` and `rule_order_independent` apply to change-sets that modify the *actions* of a
rule while its triggers stay the same. -/
def routerLaws (Pl : Type) (rebuild : Req → Req) :
    AlgLaws (withPayload (Pl := Pl) (towerAlg E rebuild) (fun r : Route => r.id))
      (fun rp : Route × Pl => rp.1.id) traceIds :=
  withPayloadLaws (towerLaws' E rebuild)

/-- **`project_equals_standalone` for the real router shape** (tower + handlers; rules = (route, handler) pairs with
`ruleId` = the route id), all four analyses.  `B.reverse` in `hv`, `hr`: what the router built from `B` represents
(`repr_build`); both read it as a set. -/
theorem project_equals_standalone {Pl Ex UId UT Core U M Dom : Type} [DecidableEq U] [DecidableEq M]
    (rebuild : Req → Req)
    (P : Pipe (Route × Pl) Req Unit Ex String UId UT Core U M Dom)
    (hid : P.ruleId = fun rp => rp.1.id) (hO : IdOrder P) (hI : PermInv P)
    (B : List (Route × Pl)) (hB : NodupIds P.ruleId B) (D : ChangeSet (Route × Pl) String)
    (hv : ValidChangeSet P.ruleId D B.reverse) (rules : List (Route × Pl))
    (hn : NodupIds P.ruleId rules) (hr : ∀ x, x ∈ rules ↔ x ∈ D.live P.ruleId B.reverse)
    (maxHops : Nat) (dom : Dom) :
    let A := withPayload (Pl := Pl) (towerAlg E rebuild) (fun r : Route => r.id)
    let base := A.build () B
    -- test-examples (whole output)
    testExamplesProject A P D maxHops dom base = testExamplesStandalone A P () rules maxHops dom ∧
    -- unit-ids
    (∀ id, lookupA id (unitIdsProject A P D base) = lookupA id (unitIdsStandalone A P () rules)) ∧
    -- explain
    (∀ e, (explainProject A P D maxHops dom e base).map (ExplainOut.project traceIds) =
        (explainStandalone A P () rules maxHops dom e).map (ExplainOut.project traceIds)) ∧
    -- impact
    (∀ I : ImpactSpec (Route × Pl) Dom, (impactProject A P D I base).map (Impact.project traceIds) =
        (impactStandalone A P () rules I).map (Impact.project traceIds)) := by
  intro A base
  have W : AlgLaws A P.ruleId traceIds := hid ▸ routerLaws E Pl rebuild
  have hb : W.Repr base () B.reverse := repr_build W () B hB
  exact analyses_project_equal_standalone W hO hI base () B.reverse D rules hb hv hn hr maxHops dom

/-- The same after ANY valid history of the base router, not only a fresh build: by C02 (`repr_run`,
the invariant behind `run_equiv`) the router reached by a valid history of inserts, removals, batch
removals, change-sets and cache calls represents its live list, so the project analyses computed on it
agree with the stand-alone ones on `apply(live, D)`.  Stated for the tower without handlers (the
histories of C02 are over routes). -/
theorem project_equals_standalone_after_history {Ex UId UT Core U M Dom : Type}
    [DecidableEq U] [DecidableEq M] (rebuild : Req → Req)
    (P : Pipe Route Req Unit Ex String UId UT Core U M Dom) (hid : P.ruleId = fun r => r.id)
    (hO : IdOrder P) (hI : PermInv P) (h : List Op) (hvh : ValidHistory h [])
    (D : ChangeSet Route String) (hv : ValidChangeSet P.ruleId D (liveOps h []))
    (rules : List Route) (hn : NodupIds P.ruleId rules)
    (hr : ∀ x, x ∈ rules ↔ x ∈ D.live P.ruleId (liveOps h [])) (maxHops : Nat) (dom : Dom) :
    let A := towerAlg E rebuild
    let base := runOps E h (Router.empty E)
    testExamplesProject A P D maxHops dom base = testExamplesStandalone A P () rules maxHops dom ∧
    (∀ id, lookupA id (unitIdsProject A P D base) = lookupA id (unitIdsStandalone A P () rules)) ∧
    (∀ e, (explainProject A P D maxHops dom e base).map (ExplainOut.project traceIds) =
        (explainStandalone A P () rules maxHops dom e).map (ExplainOut.project traceIds)) ∧
    (∀ I : ImpactSpec Route Dom, (impactProject A P D I base).map (Impact.project traceIds) =
        (impactStandalone A P () rules I).map (Impact.project traceIds)) := by
  intro A base
  obtain ⟨W, hWr⟩ := towerLaws_of_rid E rebuild P.ruleId hid
  have hb : W.Repr base () (liveOps h []) :=
    hWr _ _ (Rio.C02.repr_run E h (Router.empty E) [] (Rio.C02.repr_empty E) hvh)
  exact analyses_project_equal_standalone W hO hI base () _ D rules hb hv hn hr maxHops dom

end

section
/-- a tiny concrete world: rules = (id, path it answers, redirect target, examples); requests, urls
and examples are paths (numbers; `0` is the url no request can be built from) -/
structure XRule where
  id : Nat
  path : Nat
  target : Option Nat
  examples : Option (List Nat)
deriving DecidableEq, Repr

def xPipe : Pipe XRule Nat Unit Nat Nat Nat (List Nat) (List Nat × Option Nat) Nat Nat Unit where
  ruleId r := r.id
  idLe a b := decide (a ≤ b)
  examples r := r.examples
  fromExample _ e := if e = 0 then .error "empty url" else .ok e
  expected _ := some []
  mustMatch _ := true
  setExpected e _ := e
  url e := e
  method _ := none
  withUrlMethod _ u _ := u
  get := 0
  evalTest R _ _ := [1, 2, 3].filter fun i => R.any (·.id == i)
  evalUnit R _ _ := [1, 2, 3].filter fun i => R.any (·.id == i)
  evalExplain R _ _ := ([1, 2, 3].filter fun i => R.any (·.id == i), none)
  evalHop R _ _ :=
    (if R.any (·.target.isSome) then 301 else 200,
     [10, 20, 30].find? fun t => R.any (·.target == some t))
  ext _ _ := false
  utRuleIds ut := ut
  utUnitIds ut := ut
  utDiff ut exp := exp.filter (fun x => !ut.contains x)

/-- every evaluation of the tiny pipeline only asks which rules are *in* the match vector -/
example : PermInv xPipe :=
  ⟨fun R R' q e hp _ => by simp only [xPipe, hp.any_eq],
   fun R R' q e hp _ => by simp only [xPipe, hp.any_eq],
   fun R R' q e hp _ => by simp only [xPipe, hp.any_eq],
   fun R R' q e hp _ => by simp only [xPipe, hp.any_eq]⟩

example : IdOrder xPipe :=
  ⟨fun a b => Bool.or_eq_true_iff.2 ((Nat.le_total a b).imp decide_eq_true decide_eq_true),
   fun _ _ _ h1 h2 => decide_eq_true (Nat.le_trans (of_decide_eq_true h1) (of_decide_eq_true h2)),
   fun _ _ h1 h2 => Nat.le_antisymm (of_decide_eq_true h1) (of_decide_eq_true h2)⟩

def xAlg := listAlg (Req := Nat) (Cfg := Unit) (fun r : XRule => r.id) (fun _ r q => r.path == q)

def xLaws : AlgLaws xAlg xPipe.ruleId (idSet (fun r : XRule => r.id)) := listLaws _ _

def xA : XRule := ⟨1, 10, some 20, some [10, 0]⟩
def xB : XRule := ⟨2, 20, some 10, some [20]⟩
def xB' : XRule := ⟨2, 20, some 30, some [20]⟩
def xC : XRule := ⟨3, 30, none, none⟩

/-- a project with a base router and a change-set with an update, an addition and a deletion: the
hypotheses of `analyses_project_equal_standalone` hold … -/
example :
    let D : ChangeSet XRule Nat := ⟨[xC], [xB'], [1]⟩
    xLaws.Repr (xAlg.build () [xA, xB]) () [xB, xA] ∧ ValidChangeSet xPipe.ruleId D [xB, xA] ∧
      D.live xPipe.ruleId [xB, xA] = [xC, xB'] := by
  intro D
  refine ⟨⟨rfl, by unfold NodupIds; decide⟩, ?_, by decide⟩
  exact ⟨by decide, by decide, trivial⟩

/-- … and the analyses are not trivial on it: in the base project `10 → 20 → 10` is a redirect loop,
so both examples with a buildable request fail (test-examples reports the loop), and the example
`0` is an error. -/
example :
    let out := testExamples xPipe (xAlg.view (xAlg.build () [xA, xB])) 5 ()
    out.exampleCount = 2 ∧ out.failureCount = 2 ∧ out.errorCount = 1 := by
  decide +kernel

end

end Rio.C19
