/-
C04: insert filters — the tighter count bound and the POSITION of the copies.

  `insert_one_tight_final`     the count bound by the tokens at which the visitor CAN insert (`insTok`): the bound the harness
                               checks on the implementation
  `insert_one_position_final`  without selector: where the copies go (`IScript`)
"Named on the path", not "named by the last path element": observation O7 (append_child acts on the parent when the last
path element is absent).  With a selector the element is buffered and re-tokenised by `append_child` / `prepend_child`
(body_append.rs / body_prepend.rs): the position inside the buffered element is C15's business, only the count is proved.
-/
import RioModel.Props.C04strong
import RioModel.Proofs.FilterInsPos

namespace Rio.C04
open Rio.Filter

theorem stage_one_position {tk : Tokenize} (ev : Bytes → Bytes → Bool) (v : Visitor) (hk : v.kind ≠ .replace)
    (hb : v.before = []) (hnb : v.isBuffering = false) (hs : v.hasSel = false) (a b : Bytes) (ha : V a)
    (h : stOne tk ev (.html (HtmlSt.new v) : Stage Unit Unit) a = some b) :
    ∃ o', IScript v.content (v.kind == .prepend) (pathOf v) (view tk [] a).all o' ∧ b = o' ++ (view tk [] a).rem := by
  rw [stOne_new tk ev v a ha] at h
  injection h with h
  obtain ⟨i1, i2⟩ := fold_insert_nosel_strong tk ev v hk hb hnb hs (view tk [] a).all
  refine ⟨_, i1, ?_⟩
  rw [← h]
  simp [ledger, i2]

/-- **One insert filter (with or without selector), valid UTF-8 body, every schedule, tokenizer model**: `k` whole copies of
the value are inserted, `k` at most the number of OPENERS (prepend_child without selector) resp. CLOSERS (append_child;
prepend_child with a selector) of the body's token stream that are named on the filter's path. -/
theorem insert_one_tight_final (ev : Bytes → Bytes → Bool) (lower : String → String) (headers : List (String × String))
    (action : String) (hact : action = Rio.Consts.filterActionAppend ∨ action = Rio.Consts.filterActionPrepend)
    (p : Bytes) (ps : List Bytes) (sel : Option Bytes) (value : Bytes) (hne : value ≠ [])
    (henc : headerValue lower Rio.Consts.filterHeaderContentEncoding headers = none)
    (hct : htmlAllowed (headerValue lower Rio.Consts.filterHeaderContentType headers) = true)
    (hval : V value) (cs : List Bytes) (hbody : Rio.C03.ValidBody cs.flatten) :
    ∃ (v : Visitor) (k : Nat), Visitor.new action (p :: ps) sel value = some v ∧
      k ≤ ((view htmlTokenize [] cs.flatten).all.filter (insTok v (p :: ps))).length ∧
      InsN value k cs.flatten
        ((Chain.new noCodec lower [.html action (p :: ps) sel value] headers).run htmlTokenize ev noCodec cs) := by
  have hvb : V cs.flatten := Rio.C03.V_of_validBody hbody
  obtain ⟨kd, hkd, -, hnew⟩ := visitor_new_insert hact p ps sel value
  have h := run_one_html ev lower headers action p ps sel value kd henc hct hnew hval cs hbody
  have hlen := stage_one_len2 htmlTokenize_losslessAll ev _ rfl _ _ hvb h
  have hs := stage_one_spec htmlTokenize_losslessAll ev _ (stageFresh_new rfl rfl) _ _ hvb h
  obtain ⟨k, hk1, hk2⟩ := count_of_len hne ((stageSpec_insert hkd _ _).mp hs).1 hlen
  exact ⟨_, k, hnew, hk1, hk2⟩

/-- **One insert filter WITHOUT selector, valid UTF-8 body, every schedule, tokenizer model — the positions.**  With
`T ++ rem` the tokenization of the body: the output is `o' ++ rem` where `o'` keeps EVERY token of `T` in place and puts each
copy of the value immediately after an opener (`prepend_child`: a start / self-closing tag) resp. immediately before a
closer (`append_child`: an end / self-closing / void start tag) whose name is on the filter's path. -/
theorem insert_one_position_final (ev : Bytes → Bytes → Bool) (lower : String → String) (headers : List (String × String))
    (action : String) (hact : action = Rio.Consts.filterActionAppend ∨ action = Rio.Consts.filterActionPrepend)
    (p : Bytes) (ps : List Bytes) (sel : Option Bytes) (hsel : sel = none ∨ sel = some []) (value : Bytes)
    (henc : headerValue lower Rio.Consts.filterHeaderContentEncoding headers = none)
    (hct : htmlAllowed (headerValue lower Rio.Consts.filterHeaderContentType headers) = true)
    (hval : V value) (cs : List Bytes) (hbody : Rio.C03.ValidBody cs.flatten) :
    ∃ o', IScript value (action == Rio.Consts.filterActionPrepend) (p :: ps) (view htmlTokenize [] cs.flatten).all o' ∧
      (Chain.new noCodec lower [.html action (p :: ps) sel value] headers).run htmlTokenize ev noCodec cs =
        o' ++ (view htmlTokenize [] cs.flatten).rem := by
  have hvb : V cs.flatten := Rio.C03.V_of_validBody hbody
  have hnosel : ∀ kd : VKind, ({ kind := kd, cur := p, after := ps, sel := sel, content := value } : Visitor).hasSel = false := by
    intro kd
    rcases hsel with rfl | rfl <;> simp [Visitor.hasSel]
  obtain ⟨kd, hkd, hpre, hnew⟩ := visitor_new_insert hact p ps sel value
  have h := run_one_html ev lower headers action p ps sel value kd henc hct hnew hval cs hbody
  obtain ⟨o', i1, i2⟩ := stage_one_position ev _ hkd rfl rfl (hnosel kd) _ _ hvb h
  rw [← hpre]
  exact ⟨o', i1, i2⟩

/-- `<div><p>a</p><br></div>` in two chunks (cut inside `</p>`) -/
def insChunks : List Bytes :=
  [[60, 100, 105, 118, 62, 60, 112, 62, 97, 60, 47], [112, 62, 60, 98, 114, 62, 60, 47, 100, 105, 118, 62]]

/-- `insert_one_position_final` (prepend_child of `$` into `div`, no selector) and `insert_one_tight_final` (append_child
into `div` > `p`, selector `*`) instantiated, `content-type: text/html`: every hypothesis is a decidable fact -/
example :=
  insert_one_position_final evalStandIn id [("content-type", "text/html")] Rio.Consts.filterActionPrepend (Or.inr rfl)
    [100, 105, 118] [] none (Or.inl rfl) [36] (by decide) (by decide) (by unfold V; decide) insChunks (by unfold Rio.C03.ValidBody; decide +kernel)

example :=
  insert_one_tight_final evalStandIn id [("content-type", "text/html")] Rio.Consts.filterActionAppend (Or.inl rfl)
    [100, 105, 118] [[112]] (some [42]) [36] (by decide) (by decide) (by decide) (by unfold V; decide) insChunks
    (by unfold Rio.C03.ValidBody; decide +kernel)

/-- the evaluated run: the copy sits immediately after the opener `<div>`, every token is in place -/
theorem insert_position_run :
    (Chain.new noCodec id [.html Rio.Consts.filterActionPrepend [[100, 105, 118]] none [36]] [("content-type", "text/html")]).run
        htmlTokenize evalStandIn noCodec insChunks =
      [60, 100, 105, 118, 62] ++ [36] ++ [60, 112, 62, 97, 60, 47, 112, 62, 60, 98, 114, 62, 60, 47, 100, 105, 118, 62] := by
  decide +kernel

end Rio.C04
