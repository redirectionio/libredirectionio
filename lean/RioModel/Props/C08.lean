/-
C08 — the regex prefix tree answers exactly like a linear scan of its patterns.

Model: Model/Scan.lean (prefix.rs), Model/Regex.lean (stand-in for the regex crate), Model/Tree.lean
(regex.rs + regex_radix_tree/{item,leaf,node,tree,iter,trace}.rs, the repaired `Node::insert` of `fix:` 7235b24).

Reading guide
* `Inv ic t` — the decidable structural invariant (`Item.inv`): flags uniform, leaves non-empty with
  unique ids, every node has ≥ 2 non-`Empty` children, its prefix is a scanner boundary and a boundary
  prefix of every child's `regex()`, child nodes have strictly longer prefixes, siblings pairwise share
  no boundary prefix longer than the node's and have different `regex()`; every `LazyRegex` holds the regex string its
  constructor builds and, if any, the cached value `create_regex()` builds from it (`leafWf`, `nodeWf`: what C12 rests on).
  The driver evaluates the same function on every model tree, and the model tree is compared with `verif_snapshot()` of
  the real one.
* The regex engine is a parameter `E : Engine`; the only law used is `PrefixSound E Good`.  It is
  *proved* (`prefix_sound`) for the engine `engineOf G` for every meaning `G` of group bodies, on the
  domain `GoodPat` (rule-shaped patterns: escaped literals interleaved with groups on whose extent the
  tree's scanner and the real regex syntax agree).
* Domain of the headline theorems: patterns in `GoodPat`, non-empty (`RulePat`), and — for histories —
  "an id in use determines its pattern" (`histOk`).  What lies outside is not hidden: `find_spec_fails_…`
  are kernel-checked counterexamples for a mis-bracketed group (DESIGN §6-O1, known finding
  `class-paren`) and for the empty pattern (§6-O3).
-/
import RioModel.Proofs.TreeHistory
import RioModel.Proofs.TreeUnique
import RioModel.Proofs.TreeIter
import RioModel.Proofs.TreeLookup
import RioModel.Proofs.RegexTok
set_option linter.unusedVariables false  -- for `hinv` of `is_empty_spec` and `hgood`, `hg` of `unique_get_spec` alone

namespace Rio.C08
open Rio.Scan Rio.Regex Rio.Tree

variable {ι V : Type} [DecidableEq ι]

abbrev Inv (ic : Bool) (t : Item ι V) : Prop := t.inv ic = true

/-- The patterns of the property: rule-shaped and non-empty. -/
def RulePat (p : List Char) : Prop := GoodPat p ∧ p ≠ []

/-- Executable `RulePat` (used by `histOk` and by the driver). -/
def rulePatB (p : List Char) : Bool := goodPatB p && !p.isEmpty

/-- Every stored pattern is in the domain `Good` and non-empty. -/
def InDomain (Good : List Char → Prop) (t : Item ι V) : Prop := ∀ e ∈ t.contents, Good e.pat ∧ e.pat ≠ []

/-- The linear scan: values of the entries whose anchored pattern matches `s`. -/
def scanOf (E : Engine) (ic : Bool) (L : List (Entry ι V)) (s : List Char) : List V :=
  (L.filter fun e => E.full ic e.pat s).map (·.val)

/-- `common_prefix(l, r)` is a boundary prefix of both arguments, and the longest one. -/
theorem common_prefix_boundary (l r : List Char) :
    BPre (commonPrefix l r) l ∧ BPre (commonPrefix l r) r ∧
    ∀ q, BPre q l → BPre q r → q.length ≤ (commonPrefix l r).length := by
  refine ⟨commonPrefix_bpre_left l r, commonPrefix_bpre_right l r, fun q h1 h2 => ?_⟩
  rw [commonPrefix_length]; exact le_cpcs_of_bpre h1 h2

/-- On a rule-shaped pattern, a position where the scanner is at depth 0 and not after a backslash is
a token boundary: the tree never cuts inside a group or between `\` and the escaped character. -/
theorem cut_is_token_boundary (ts : List Tok) (hg : ∀ t ∈ ts, t.good = true) (q : List Char)
    (hq : BPre q (render ts)) : ∃ pre suf, ts = pre ++ suf ∧ q = render pre :=
  bpre_render hg hq

/-- The executable matcher of the model decides the denotational language (`^r$` and `^r`). -/
theorem matcher_full (ic : Bool) (r : Re) (s : List Char) : fmatch ic r s = true ↔ Lang ic r s :=
  fmatch_iff r s

theorem matcher_prefix (ic : Bool) (r : Re) (s : List Char) :
    pmatch ic r s = true ↔ ∃ u v, s = u ++ v ∧ Lang ic r u := pmatch_iff r s

/-- Prefix soundness (`PrefixSound`, Proofs/TreeSpec) holds of the engine model for every meaning `G` of group bodies, on
rule-shaped patterns `p`: the node regex `^q` of a non-empty boundary prefix `q` of `p` compiles and matches whenever `^p$`
does. -/
theorem prefix_sound (G : List Char → Option Re) : PrefixSound (engineOf G) GoodPat :=
  prefixSound_engineOf G

theorem rulePatB_iff (p : List Char) : rulePatB p = true ↔ RulePat p := by
  unfold rulePatB RulePat
  rw [Bool.and_eq_true, goodPatB_iff]
  cases p <;> simp

theorem inv_empty (ic : Bool) : Inv ic (Item.empty ic : Item ι V) := by simp [Inv, Item.inv]

/-- For *every* inserted string – no hypothesis on the pattern. -/
theorem inv_insert {ic : Bool} (t : Item ι V) (p : List Char) (id : ι) (v : V) (h : Inv ic t) :
    Inv ic (t.insert p id v) := Tree.inv_insert t p id v h

theorem inv_remove {ic : Bool} (t : Item ι V) (id : ι) (h : Inv ic t) : Inv ic (t.remove id).1 :=
  Tree.inv_remove t id h

theorem inv_retain {ic : Bool} (t : Item ι V) (f : ι → V → Option V) (h : Inv ic t) : Inv ic (t.retain f) :=
  Tree.inv_retain t f h

/-- `cache` (any limit, any level or the level loop) returns normally and preserves the invariant. -/
theorem inv_cache (E : Engine) {ic : Bool} (t : Item ι V) (limit : Nat) (level : Option Nat) (h : Inv ic t) :
    ∃ t' n, treeCache E t limit level = some (t', n) ∧ Inv ic t' := by
  obtain ⟨t', n, h1, _, _, hi⟩ := treeCache_ok E t limit level
  exact ⟨t', n, h1, (hi ic).trans h⟩

/-- The index chosen by the child-selection loop is in range (`Vec::remove` cannot panic). -/
theorem select_in_range {p : List Char} {rs : List (List Char)} {mx k : Nat}
    (h : selLoop p rs 0 mx none = some k) : k < rs.length := selLoop_lt h

/-- In a tree satisfying the invariant whose patterns are in the domain, `find s` returns
exactly the values whose anchored pattern matches `s` (case-insensitively iff the tree was created
so) – as a list, in the order of `contents`; the implementation's order inside a leaf is that of a
`HashMap`, so the correspondence compares sorted lists. -/
theorem find_spec {E : Engine} {Good : List Char → Prop} (hPS : PrefixSound E Good) {ic : Bool}
    (t : Item ι V) (hinv : Inv ic t) (hdom : InDomain Good t) (s : List Char) :
    t.find E s = scanOf E ic t.contents s :=
  find_eq_scan hPS t hinv hdom s

/-- `find_spec` for the concrete engine family: any meaning of group bodies, rule-shaped patterns. -/
theorem find_spec_rule (G : List Char → Option Re) {ic : Bool} (t : Item ι V) (hinv : Inv ic t)
    (hdom : ∀ e ∈ t.contents, RulePat e.pat) (s : List Char) :
    t.find (engineOf G) s = scanOf (engineOf G) ic t.contents s :=
  find_spec (prefix_sound G) t hinv (fun e he => hdom e he) s

/-- `len()` is the number of stored entries (no hypothesis). -/
theorem len_spec (t : Item ι V) : t.len = t.contents.length := Tree.len_spec t

/-- `get(p)` returns the values stored under exactly the pattern `p`. -/
theorem get_spec {ic : Bool} (t : Item ι V) (hinv : Inv ic t) (p : List Char) :
    t.get p = (t.contents.filter fun e => decide (e.pat = p)).map (·.val) :=
  get_eq_filter t hinv p

/-- `is_empty()` says exactly that nothing is stored (of every tree: `hinv` is not used). -/
theorem is_empty_spec {ic : Bool} (t : Item ι V) (hinv : Inv ic t) : t.isEmpty = true ↔ t.contents = [] :=
  isEmpty_iff t

/-- Storing `(p, id, v)` replaces the value stored under the same (pattern, id) and
otherwise adds the entry (up to the order of children).  This is the clause that was false before the
`fix:` commit (DESIGN §6-D11). -/
theorem contents_insert {ic : Bool} (t : Item ι V) (p : List Char) (id : ι) (v : V) (hinv : Inv ic t) :
    (t.insert p id v).contents.Perm (refInsert t.contents p id v) :=
  Tree.contents_insert t p id v hinv

/-- Under the invariant no (pattern, id) is stored twice; in particular a pattern has at most one leaf
(the part of the tree invariant that was violated before the D11 repair). -/
theorem no_duplicate_keys {ic : Bool} (t : Item ι V) (hinv : Inv ic t) : KeyNodup t.contents :=
  keyNodup_contents t hinv

/-- Replacement, spelled out (only `Inv` needed): the old value under (p, id) is gone, nothing else changed, and `len`
grows by one iff (p, id) was not present. -/
theorem insert_replaces {ic : Bool} (t : Item ι V) (p : List Char) (id : ι) (v : V) (hinv : Inv ic t) :
    (t.insert p id v).contents.Perm
      (⟨p, id, v⟩ :: t.contents.filter fun e => !decide (e.pat = p ∧ e.id = id)) :=
  (contents_insert t p id v hinv).trans (refInsert_perm_filter (no_duplicate_keys t hinv) p id v)

/-- `remove(id)` drops the first entry (tree order) stored under `id` – the only one
when ids are distinct – and returns its value. -/
theorem contents_remove (t : Item ι V) (id : ι) :
    (t.remove id).1.contents = refRemove t.contents id ∧ (t.remove id).2 = refRemoved t.contents id :=
  Tree.contents_remove t id

/-- `retain(f)` keeps exactly the entries the closure keeps, with the values the closure
left in them (`f id v = some v'`), in order. -/
theorem contents_retain (t : Item ι V) (f : ι → V → Option V) :
    (t.retain f).contents = refRetain t.contents f := Tree.contents_retain t f

/-- `cache` does not change what is stored. -/
theorem contents_cache (E : Engine) (t : Item ι V) (limit : Nat) (level : Option Nat) :
    ∃ t' n, treeCache E t limit level = some (t', n) ∧ t'.contents = t.contents := by
  obtain ⟨t', n, h1, hs, _⟩ := treeCache_spec E t limit level
  exact ⟨t', n, h1, contents_eq_of_strip_eq hs⟩

/-- `iter()` – the stack machine of `iter.rs` (`IterSt.next`: current slice, chain of boxed
parents, `Values` of the current leaf) – terminates and yields the value of every stored entry, each once, in
tree order.  No hypothesis. -/
theorem iter_enumerates (t : Item ι V) : t.iterCollect = some (t.contents.map (·.val)) := iterCollect_eq t

/-- `get_mut(p)` + in-place update of what it returned: the invariant is kept and exactly the values stored under
`p` are updated (for a `UniqueRegexTreeMap`: the value under key `p`). -/
theorem inv_modify_at {ic : Bool} (t : Item ι V) (p : List Char) (g : ι → V → V) (hinv : Inv ic t) :
    Inv ic (t.modifyAt p g) := inv_modifyAt t p g hinv

theorem contents_modify_at {ic : Bool} (t : Item ι V) (p : List Char) (g : ι → V → V) (hinv : Inv ic t) :
    (t.modifyAt p g).contents = refModify t.contents p g := contents_modifyAt t p g hinv

/-- The tree as a map (pattern, id) ↦ value, the view the router layers use: `insert(p, id, v)` is a map update. -/
theorem lookup_insert {ic : Bool} (t : Item ι V) (p : List Char) (id : ι) (v : V) (hinv : Inv ic t)
    (p' : List Char) (id' : ι) :
    lookupE (t.insert p id v).contents p' id' =
      if p' = p ∧ id' = id then some v else lookupE t.contents p' id' :=
  Tree.lookup_insert t p id v hinv p' id'

theorem lookup_retain {ic : Bool} (t : Item ι V) (f : ι → V → Option V) (hinv : Inv ic t)
    (p : List Char) (id : ι) :
    lookupE (t.retain f).contents p id = (lookupE t.contents p id).bind (f id) :=
  Tree.lookup_retain t f hinv p id

/-- `get_mut(p0)` + update changes exactly the values under pattern `p0`. -/
theorem lookup_modify_at {ic : Bool} (t : Item ι V) (p0 : List Char) (g : ι → V → V) (hinv : Inv ic t)
    (p : List Char) (id : ι) :
    lookupE (t.modifyAt p0 g).contents p id =
      (lookupE t.contents p id).map fun v => if p = p0 then g id v else v :=
  Tree.lookup_modifyAt t p0 g hinv p id

/-- `IdNodup`, where the siblings take `Inv`: the invariant keeps (pattern, id) pairs apart, but `remove(id0)` drops only the
first entry under `id0`; one under another pattern would stay, and the map update `id = id0 ↦ none` would be false. -/
theorem lookup_remove (t : Item ι V) (id0 : ι) (hnd : IdNodup t.contents) (p : List Char) (id : ι) :
    lookupE (t.remove id0).1.contents p id = if id = id0 then none else lookupE t.contents p id :=
  Tree.lookup_remove t id0 hnd p id

theorem mem_find_iff {E : Engine} {Good : List Char → Prop} (hPS : PrefixSound E Good) {ic : Bool}
    (t : Item ι V) (hinv : Inv ic t) (hdom : InDomain Good t) (s : List Char) (v : V) :
    v ∈ t.find E s ↔ ∃ e ∈ t.contents, E.full ic e.pat s = true ∧ e.val = v :=
  Tree.mem_find_iff hPS t hinv hdom s v

/-- After any sequence of insert / remove / retain / `get_mut`-update / cache operations in the domain
(`histOk`: inserted patterns are in the domain, an id in use is only re-used with its pattern), starting from
the empty tree: every `cache` returned normally, the invariant holds, and contents, `find` (as multisets), `len` and
`get` are those of the live entries of the flat reference semantics. -/
theorem history_spec {E : Engine} {Good : List Char → Prop} (hPS : PrefixSound E Good)
    {good : List Char → Bool} (hgood : ∀ p, good p = true → Good p ∧ p ≠ [])
    (ic : Bool) (ops : List (Op ι V)) (hok : histOk good [] ops = true) :
    ∃ t : Item ι V, treeRun E (.empty ic) ops = some t ∧ Inv ic t ∧
      t.contents.Perm (refRun [] ops) ∧
      (∀ s, (t.find E s).Perm (scanOf E ic (refRun [] ops) s)) ∧
      t.len = (refRun [] ops).length ∧
      (∀ p, (t.get p).Perm (((refRun [] ops).filter fun e => decide (e.pat = p)).map (·.val))) := by
  obtain ⟨t, hrun, ⟨hinv, hperm⟩, _⟩ :=
    run_rep E ops (.empty ic) [] ⟨inv_empty ic, by simp⟩ (by simp [IdNodup]) hok
  have hdom := Dom.refRun hgood ops [] (by simp [Dom]) hok
  refine ⟨t, hrun, hinv, hperm, ?_, ?_, ?_⟩
  · intro s
    rw [find_spec hPS t hinv (fun e he => hdom e (hperm.subset he)) s]
    exact (hperm.filter _).map _
  · rw [len_spec]; exact hperm.length_eq
  · intro p
    rw [get_spec t hinv p]
    exact (hperm.filter _).map _

/-- `history_spec` for the concrete engine family and the executable domain check. -/
theorem history_spec_rule (G : List Char → Option Re) (ic : Bool) (ops : List (Op ι V))
    (hok : histOk rulePatB [] ops = true) :
    ∃ t : Item ι V, treeRun (engineOf G) (.empty ic) ops = some t ∧ Inv ic t ∧
      t.contents.Perm (refRun [] ops) ∧
      (∀ s, (t.find (engineOf G) s).Perm (scanOf (engineOf G) ic (refRun [] ops) s)) ∧
      t.len = (refRun [] ops).length ∧
      (∀ p, (t.get p).Perm (((refRun [] ops).filter fun e => decide (e.pat = p)).map (·.val))) :=
  history_spec (prefix_sound G) (fun p hp => (rulePatB_iff p).1 hp) ic ops hok

/-- For a `UniqueRegexTreeMap` (every insert stores under the pattern itself: `insert(p, v)` is
`tree.insert(p, p, v)`) the id hypothesis of `history_spec` holds by construction: it is enough that the
inserted patterns are in the domain. -/
theorem unique_history_ok (good : List Char → Bool) (ops : List (Op (List Char) V)) (hu : UniqueHist ops)
    (hg : ∀ p ∈ insertedPats' ops, good p = true) : histOk good [] ops = true :=
  histOk_unique good ops [] (by simp) hu hg

/-- `UniqueRegexTreeMap::get(p)` after a unique history: the value last stored under `p` and not removed since
(`refRemoved L p` = the value of the live entry with id `p`), `None` if there is none.  Whatever the patterns: the domain
hypotheses `hgood`, `hg` are not used. -/
theorem unique_get_spec {E : Engine} {Good : List Char → Prop} {good : List Char → Bool}
    (hgood : ∀ p, good p = true → Good p ∧ p ≠ []) (ic : Bool) (ops : List (Op (List Char) V))
    (hu : UniqueHist ops) (hg : ∀ p ∈ insertedPats' ops, good p = true) (p : List Char) :
    ∃ t : Item (List Char) V, treeRun E (.empty ic) ops = some t ∧ uGet t p = refRemoved (refRun [] ops) p :=
  uGet_run E ic ops hu p

/-- The statement of `find_spec` without the domain hypothesis, for the standard engine. -/
def FindSpecAllPatterns : Prop :=
  ∀ (t : Item Nat Nat) (s : List Char), Inv false t → t.find stdEngine s = scanOf stdEngine false t.contents s

/-- DESIGN §6-O1 (known finding `class-paren`): patterns `(?:[)]a)` and `(?:[)]b)`. -/
def classParenTree : Item Nat Nat :=
  ((Item.empty false).insert "(?:[)]a)".toList 1 1).insert "(?:[)]b)".toList 2 2

/-- The two patterns are valid regexes that tokenise (`tokTop`) but whose group the tree's scanner
mis-brackets; the node prefix `(?:[)]` does not compile, `find(")a")` is empty although `^(?:[)]a)$`
matches – and the invariant holds, so the hypothesis that fails is the domain, not `Inv`. -/
theorem find_spec_fails_class_paren : ¬ FindSpecAllPatterns := by
  intro h
  have h1 := h classParenTree ")a".toList (by decide +kernel)
  have h2 : classParenTree.find stdEngine ")a".toList = [] := by decide +kernel
  have h3 : scanOf stdEngine false classParenTree.contents ")a".toList = [1] := by decide +kernel
  rw [h2, h3] at h1
  exact absurd h1 (by decide)

theorem class_paren_not_in_domain :
    goodPatB "(?:[)]a)".toList = false ∧ misBracketed "(?:[)]a)".toList = true ∧
    stdEngine.nodeOk false "(?:[)]".toList = false := by decide +kernel

/-- DESIGN §6-O3: an uncached leaf with the empty pattern matches every haystack (the shortcut
`original.is_empty()` of `LazyRegex::is_match` is meant for the root node), for every engine. -/
theorem find_spec_fails_empty_pattern (E : Engine) (ic : Bool) (s : List Char) :
    ((Item.empty ic : Item Nat Nat).insert [] 1 1).find E s = [1] := by
  simp [insert_empty, newLeafItem, find_leaf, LazyRegex.newLeaf, LazyRegex.isMatch]

/-- … while the linear scan of the same tree finds nothing (standard engine, haystack `x`): without `e.pat ≠ []` in
`InDomain`, `find_spec` is false. -/
theorem empty_pattern_scan : scanOf stdEngine false ((Item.empty false : Item Nat Nat).insert [] 1 1).contents "x".toList = [] := by
  decide +kernel

/-- Non-vacuity of `history_spec_rule`: insert `/a(?:x)/b`, `/a(?:x)` (twice under the same id: the D11 scenario), a
non-ASCII pattern, cache, remove, retain. -/
def demoOps : List (Op Nat Nat) :=
  [.insert "/a(?:x)/b".toList 2 20, .insert "/a(?:x)".toList 1 11, .insert "/a(?:x)".toList 1 12,
   .insert "/日\\.(?:[0-9]+)".toList 3 30, .cache 2 none, .remove 2, .retain (keepIf fun id _ => id != 3)]

set_option maxRecDepth 100000 in
example : histOk rulePatB [] demoOps = true := by decide +kernel

set_option maxRecDepth 100000 in
/-- … and the conclusion is about a non-empty state: one live entry, found by its haystack. -/
example : (refRun [] demoOps).map (·.val) = [12] ∧
    scanOf stdEngine false (refRun [] demoOps) "/ax".toList = [12] := by decide +kernel

end Rio.C08
