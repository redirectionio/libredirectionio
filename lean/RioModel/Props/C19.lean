/-
C19 — project-level analyses: the redirect-chain clause

  "redirect-chain analysis stops within the hop limit reporting a loop exactly when a
   (URL, method) repeats"

All theorems hold for EVERY router step function `step` (what one evaluation of the real pipeline answers
for a `(url, method)`), every project-domain predicate `ext`, every `max_hops`, url and method: nothing is
assumed about the router.  Termination for every step function is the totality of `compute`
(structural recursion on the number of remaining values of `i`); `router_evaluations_bounded`
states it quantitatively.

The clause "project ≡ standalone" is proved in Props/C19b.lean, over an abstract router algebra and for the
matcher tower of C02 (`*_project_equals_standalone`, on top of the extensionality theorems there); on the
implementation that clause and "response == live pipeline" are decided by the oracles of the harness (c19).
-/
import RioModel.Proofs.Loop

namespace Rio.C19
open Rio.Loop

variable {U M : Type} [DecidableEq U] [DecidableEq M]
variable (step : U → M → StepOut U) (ext : U → Bool) (get : M) (maxHops : Nat) (url : U) (method : M)

/-- **Bound.**  The chain has at most `max_hops + 1` entries (the start plus one per value of `i`)
and at least the start. -/
theorem loop_bounded :
    1 ≤ (compute step ext get maxHops url method).hops.length ∧
    (compute step ext get maxHops url method).hops.length ≤ maxHops + 1 :=
  ⟨(compute_post step ext get maxHops url method).len_pos,
   (compute_post step ext get maxHops url method).bound⟩

/-- **Termination, quantitatively.**  `compute` evaluates the router at most `max_hops` times,
whatever the router answers (the instrumented copy returns the same state). -/
theorem router_evaluations_bounded :
    (computeCount step ext get maxHops url method).1 = compute step ext get maxHops url method ∧
    (computeCount step ext get maxHops url method).2 ≤ maxHops :=
  computeCount_spec step ext get maxHops url method

/-- **Loop iff repeat.**  `error = Loop` exactly when the `(url, method)` of the last hop occurs
among the earlier hops. -/
theorem loop_iff_repeat :
    (compute step ext get maxHops url method).error = some Err.loop ↔
      LastRepeats (compute step ext get maxHops url method).hops :=
  (compute_post step ext get maxHops url method).loop_iff

/-- Only the last hop can be a repeat: the hops before it have pairwise distinct `(url, method)`. -/
theorem earlier_hops_distinct :
    (keys (compute step ext get maxHops url method).hops.dropLast).Nodup :=
  (compute_post step ext get maxHops url method).prefix_nodup

/-- Equivalent reading: `error = Loop` iff some `(url, method)` occurs twice in the chain. -/
theorem loop_iff_not_nodup :
    (compute step ext get maxHops url method).error = some Err.loop ↔
      ¬ (keys (compute step ext get maxHops url method).hops).Nodup := by
  rw [loop_iff_repeat]
  refine ⟨fun h hnd => not_lastRepeats_of_nodup hnd h, fun hnd => ?_⟩
  have hp := earlier_hops_distinct step ext get maxHops url method
  have hpos := (loop_bounded step ext get maxHops url method).1
  generalize (compute step ext get maxHops url method).hops = hs at *
  rcases List.eq_nil_or_concat hs with rfl | ⟨pre, l, rfl⟩
  · simp at hpos
  · rw [List.concat_eq_append] at hnd hp ⊢
    rw [List.dropLast_concat] at hp
    -- the earlier hops are distinct, so the chain has a repeat only if the last hop is one
    exact ⟨pre, l, rfl, Classical.byContradiction fun hnm => hnd ((nodup_keys_snoc pre l).2 ⟨hp, hnm⟩)⟩

/-- **TooManyHops iff the limit was reached.**  `error = TooManyHops` exactly when `max_hops ≥ 1`,
all `max_hops` turns pushed a hop, no `(url, method)` repeats and the last target is inside the
project domains (`ext = false`). -/
theorem too_many_iff :
    (compute step ext get maxHops url method).error = some Err.tooManyHops ↔
      (1 ≤ maxHops ∧ (compute step ext get maxHops url method).hops.length = maxHops + 1 ∧
        (keys (compute step ext get maxHops url method).hops).Nodup ∧
        ∃ pre l, (compute step ext get maxHops url method).hops = pre ++ [l] ∧ ext l.url = false) :=
  (compute_post step ext get maxHops url method).too_many_iff

/-- The two remaining values of `error`: `AtLeastOneHop` iff at least two redirects were followed,
`None` otherwise; and a walk that stopped below the limit without error stopped for a reason
(target outside the project, request not buildable, status not a redirect, or no Location). -/
theorem other_errors
    (h1 : (compute step ext get maxHops url method).error ≠ some Err.loop)
    (h2 : (compute step ext get maxHops url method).error ≠ some Err.tooManyHops) :
    (compute step ext get maxHops url method).error =
        (if 3 ≤ (compute step ext get maxHops url method).hops.length then some Err.atLeastOneHop else none) ∧
      ((compute step ext get maxHops url method).hops.length ≤ maxHops →
        Stuck step ext (compute step ext get maxHops url method).hops) :=
  (compute_post step ext get maxHops url method).other h1 h2

/-- **The chain is a path of the router.**  Every hop after the first is what the router answered
for the previous hop: a redirect status, the joined Location, and the method rewritten to GET by
301/302 only. -/
theorem hops_follow_router :
    Chained step get (compute step ext get maxHops url method).hops :=
  (compute_post step ext get maxHops url method).chain

/-- The chain starts at the example's url and method with status 0. -/
theorem first_hop :
    (compute step ext get maxHops url method).hops.head? = some ⟨url, 0, method⟩ := by
  obtain ⟨l, hl⟩ := run_prefix step ext get maxHops maxHops 1 (init url method)
  unfold compute
  rw [hl]
  simp [init]

/-! ### Non-vacuity: concrete step functions exercising every outcome -/

section Examples

/-- urls are numbers; `n ↦ n + 1` by a 302 until 3, which answers 200. -/
def stepLine : Nat → Nat → StepOut Nat := fun u _ => if u < 3 then .resp 302 (some (u + 1)) else .resp 200 none

/-- a 2-cycle `0 → 1 → 0` with 307 (method kept). -/
def stepCycle : Nat → Nat → StepOut Nat := fun u _ => .resp 307 (some (1 - u))

example : (compute stepLine (fun _ => false) 0 10 0 7).hops.map (·.url) = [0, 1, 2, 3] ∧
    (compute stepLine (fun _ => false) 0 10 0 7).hops.map (·.method) = [7, 0, 0, 0] ∧
    (compute stepLine (fun _ => false) 0 10 0 7).error = some Err.atLeastOneHop := by decide

example : (compute stepLine (fun _ => false) 0 2 0 7).error = some Err.tooManyHops ∧
    (compute stepLine (fun _ => false) 0 2 0 7).hops.length = 3 := by decide

example : (compute stepCycle (fun _ => false) 0 10 0 7).error = some Err.loop ∧
    (compute stepCycle (fun _ => false) 0 10 0 7).hops.map (·.url) = [0, 1, 0] := by decide

example : LastRepeats (compute stepCycle (fun _ => false) 0 10 0 7).hops :=
  (loop_iff_repeat stepCycle (fun _ => false) 0 10 0 7).1 (by decide)

/-- the project-domain break: target 1 is outside the project → one hop, no error. -/
example : (compute stepCycle (fun u => u == 1) 0 10 0 7).error = none ∧
    (compute stepCycle (fun u => u == 1) 0 10 0 7).hops.length = 2 := by decide

/-- max_hops = 0: the loop body never runs. -/
example : (compute stepCycle (fun _ => false) 0 0 0 7).hops.length = 1 ∧
    (compute stepCycle (fun _ => false) 0 0 0 7).error = none := by decide

end Examples

end Rio.C19
