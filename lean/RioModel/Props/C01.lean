/-
C01 — rule matching is exact: no missed rule, no spurious rule, no duplicates; any-host policy.

The theorems speak about the model of RioModel/Model/Router*.lean:
`Router.build E R` is a router filled by successive `insert`s (the seven nested matchers of
src/router/request_matcher/*.rs with their bucket maps, `any_*` buckets, per-request condition memo
and `count`s), `Router.matchReq` is `Router::match_request`, and `sat E R r q` is the flat
specification: all seven triggers of `r` accept `q`, plus the any-host clause.  They hold for every
environment `E` (regex engine seen through `hostFind` / `pathFind` / `headerRegex`, lower-casing of
header names, the `always_match_any_host` bit); the two regex trees are represented by their
specification (association lists filtered by `hostFind` / `pathFind`), and by the tree model of C08
in the second half (`match_exact_tree`).
-/
import RioModel.Proofs.RouterTreeTop
import RioModel.Props.C08
import RioModel.Model.RouterTreeParse

namespace Rio.C01
open Rio.Router

/-- **C01, main statement**: no rule is reported twice, none is missed, none is spurious. -/
theorem match_exact (E : Env) (R : List Route) (hR : NodupIds R) (q : Req) :
    (((Router.build E R).matchReq E q).map (·.id)).Nodup ∧
    ∀ r, r ∈ (Router.build E R).matchReq E q ↔ r ∈ R ∧ sat E R r q = true :=
  g_match_exact E _ (towerSpec E) R hR (fun _ _ => trivial) q

/-- As one statement about multisets: what the correspondence harness compares after sorting. -/
theorem match_perm_filter (E : Env) (R : List Route) (hR : NodupIds R) (q : Req) :
    ((Router.build E R).matchReq E q).Perm (R.filter (fun r => sat E R r q)) := by
  have hx := match_exact E R hR q
  rw [List.perm_ext_iff_of_nodup (Rio.Util.nodup_of_map_nodup _ hx.1) ((nodupIds_uids hR).2.filter _)]
  intro r
  rw [hx.2 r, List.mem_filter]

/-- **Insertion order is irrelevant**: building from any permutation of `R` reports the same
rules. -/
theorem match_exact_any_order (E : Env) (R R' : List Route) (hp : R'.Perm R) (hR : NodupIds R)
    (q : Req) :
    (((Router.build E R').matchReq E q).map (·.id)).Nodup ∧
    ∀ r, r ∈ (Router.build E R').matchReq E q ↔ r ∈ R ∧ sat E R r q = true := by
  have hR' : NodupIds R' := (hp.map _).nodup_iff.2 hR
  refine ⟨(match_exact E R' hR' q).1, ?_⟩
  intro r
  rw [(match_exact E R' hR' q).2 r, hp.mem_iff, sat_congr E R' R r q (fun x => hp.mem_iff)]

/-- **Any-host policy, `always_match_any_host = true`**: host-less rules are always candidates –
a rule is reported iff its seven triggers accept the request. -/
theorem always_any_host (E : Env) (hE : E.alwaysAnyHost = true) (R : List Route) (r : Route) (q : Req) :
    sat E R r q = triggersOk E r q := by
  unfold sat; simp [hE]

/-- **Any-host policy, `always_match_any_host = false`**: a host-bound rule needs its triggers
only; a host-less rule is reported iff its triggers accept the request and no host-bound rule of
the same scheme scope (any-scheme rules and rules of one specific scheme are scoped separately)
has all its triggers accepted. -/
theorem fallback_any_host (E : Env) (hE : E.alwaysAnyHost = false) (R : List Route) (r : Route)
    (q : Req) :
    sat E R r q = true ↔
      triggersOk E r q = true ∧
        (hostBound r = true ∨
          ¬ ∃ r' ∈ R, hostBound r' = true ∧ schemeKey r' = schemeKey r ∧ triggersOk E r' q = true) := by
  rw [sat_iff, hE]
  simp only [Bool.false_eq_true, false_or]

/-- **The per-request memo of the header and date-time layers is exact** (`execute_conditions`):
starting from a memo that only holds true evaluation results, a group is accepted iff all its
conditions hold, and the memo stays sound – the early `continue 'group` never skips a matching
group. -/
theorem memo_exact {C : Type} [DecidableEq C] (eval : C → Bool) (cs : List C)
    (memo : List (C × Bool)) (h : MemoSound eval memo) :
    (evalGroup eval cs memo).1 = cs.all eval ∧ MemoSound eval (evalGroup eval cs memo).2 :=
  evalGroup_spec eval cs memo h

/-! ### The same statements with the two regex trees modelled as trees (composition with C08)

`towerTOps T` is the tower in which `PathAndQueryMatcher.regex_tree_rule` and
`HostMatcher.regex_tree_rule` are the radix-tree model of Model/Tree.lean (node prefixes, child
selection, lazily compiled regexes, `find` descending only below matching prefixes) instead of
their specification.  `T.render` is `MarkerString.regex`, `T.engine` the regex engine; `T.env` is
the environment they induce, so `sat T.env` is the same flat predicate.  Extra hypothesis
(`TreeGood`): the marker patterns of the rules render into a domain `Good` on which the engine is
prefix-sound (`PrefixSound`, property C08); for the engines `engineOf G` that domain is `GoodPat`,
the rule-shaped patterns (`match_exact_tree_rule`). -/

open Rio.Regex Rio.Tree in
/-- **C01 over the real trees**: `match_exact` for the tower `towerTOps T`, for rules whose marker patterns render into a
domain `Good` on which the engine is prefix-sound (`hW`, `hPS`). -/
theorem match_exact_tree (T : TEnv) (Good : List Char → Prop) (hPS : PrefixSound T.engine Good)
    (R : List Route) (hR : NodupIds R) (hW : ∀ r ∈ R, TreeGood T Good r) (q : Req) :
    ((RouterG.matchReq (towerTOps T) (RouterG.build (towerTOps T) R) q).map (·.id)).Nodup ∧
    ∀ r, r ∈ RouterG.matchReq (towerTOps T) (RouterG.build (towerTOps T) R) q ↔
      r ∈ R ∧ sat T.env R r q = true :=
  g_match_exact T.env _ (towerTSpec T Good hPS) R hR hW q

open Rio.Regex Rio.Tree in
/-- The router over the real trees and the specification-level router answer alike (as multisets). -/
theorem match_tree_eq_spec (T : TEnv) (Good : List Char → Prop) (hPS : PrefixSound T.engine Good)
    (R : List Route) (hR : NodupIds R) (hW : ∀ r ∈ R, TreeGood T Good r) (q : Req) :
    (RouterG.matchReq (towerTOps T) (RouterG.build (towerTOps T) R) q).Perm
      ((Router.build T.env R).matchReq T.env q) := by
  have h1 := match_exact_tree T Good hPS R hR hW q
  have h2 := match_exact T.env R hR q
  rw [List.perm_ext_iff_of_nodup (Rio.Util.nodup_of_map_nodup _ h1.1) (Rio.Util.nodup_of_map_nodup _ h2.1)]
  intro r; rw [h1.2 r, h2.2 r]

open Rio.Regex Rio.Tree in
/-- `match_exact_tree` for the engine model `engineOf G`: its `PrefixSound` hypothesis is discharged by `C08.prefix_sound`.
`GoodPat`: escaped literals interleaved with groups on whose extent the tree's scanner and the regex syntax agree;
non-empty. -/
theorem match_exact_tree_rule (T : TEnv) (G : List Char → Option Re) (hE : T.engine = engineOf G)
    (R : List Route) (hR : NodupIds R) (hW : ∀ r ∈ R, TreeGood T GoodPat r) (q : Req) :
    ((RouterG.matchReq (towerTOps T) (RouterG.build (towerTOps T) R) q).map (·.id)).Nodup ∧
    ∀ r, r ∈ RouterG.matchReq (towerTOps T) (RouterG.build (towerTOps T) R) q ↔
      r ∈ R ∧ sat T.env R r q = true :=
  match_exact_tree T GoodPat (hE ▸ Rio.C08.prefix_sound G) R hR hW q

/-! ### Non-vacuity: a concrete rule list satisfying the hypothesis, and a concrete match -/

def exEnv : Env where
  alwaysAnyHost := false
  hostFind := fun _ _ => true
  pathFind := fun _ _ => true
  headerRegex := fun _ _ => true
  lower := id

def exR1 : Route :=
  { id := "r1", priority := 0, scheme := none, host := some (.static "a.com"), ips := none,
    methods := some ["GET", "GET"], excludeMethods := none, headers := [], datetime := none,
    time := none, weekdays := none, path := .static "/a" }

def exR2 : Route :=
  { id := "r2", priority := -1, scheme := none, host := none, ips := none,
    methods := none, excludeMethods := none, headers := [⟨"X-A", .isDefined⟩], datetime := none,
    time := none, weekdays := some [2], path := .dyn [.lit '/', .plus .lower] }

def exQ : Req :=
  { scheme := some "https", host := some "a.com", method := none, headers := [("X-A", "v")],
    ip := none, createdAt := some 1577836800, path := "/a" }

example : NodupIds [exR1, exR2] := by simp [NodupIds, exR1, exR2]

/-- the host-bound rule matches; the host-less one is suppressed by the fallback policy -/
example : ((Router.build exEnv [exR1, exR2]).matchReq exEnv exQ).map (·.id) = ["r1"] := by
  decide

/-! Non-vacuity of the tree-level statements: the executable engine `stdEngine`, the rendering of
the generator's pattern language, a rule with an upper-case literal and a marker in path and host,
under `ignore_path_and_query_case`. -/

def exT : TEnv := tenvOf ⟨false, false, true, false⟩

def exR3 : Route :=
  { id := "r3", priority := 0, scheme := none,
    host := some (.dyn [.plus .lower, .lit '.', .lit 'c', .lit 'o', .lit 'm']), ips := none,
    methods := none, excludeMethods := none, headers := [], datetime := none,
    time := none, weekdays := none, path := .dyn [.lit '/', .lit 'A', .lit '/', .plus .digit] }

def exQ3 : Req :=
  { scheme := none, host := some "abc.com", method := none, headers := [], ip := none,
    createdAt := none, path := "/a/12" }

open Rio.Regex in
example : TreeGood exT GoodPat exR3 := by
  refine ⟨?_, ?_⟩
  · intro p hp
    cases hp
    exact ⟨(goodPatB_iff _).1 (by decide +kernel), by decide +kernel⟩
  · intro p hp
    cases hp
    exact ⟨(goodPatB_iff _).1 (by decide +kernel), by decide +kernel⟩

set_option maxRecDepth 100000 in
example : (RouterG.matchReq (towerTOps exT) (RouterG.build (towerTOps exT) [exR3]) exQ3).map (·.id)
    = ["r3"] := by decide +kernel

/-! ### The nine header kinds as quantified statements

`HCond.eval` is shared by the layered model and by `sat`; what a kind MEANS is stated here over the raw header list
of the request: `HeaderOf E q name x` – the request carries a header whose name equals `name` after lower-casing both,
with value `x` (a name may occur several times: every occurrence counts).  Positive kinds are ∃-statements, the two
negated kinds are ∀-statements – hence TRUE when the header is absent (`negated_kinds_hold_when_absent`). -/

def HeaderOf (E : Env) (q : Req) (name x : String) : Prop :=
  ∃ n, (n, x) ∈ q.headers ∧ E.lower n = E.lower name

theorem mem_headerValues (E : Env) (q : Req) (name x : String) :
    x ∈ q.headerValues E name ↔ HeaderOf E q name x := by
  simp only [Req.headerValues, List.mem_map, List.mem_filter, beq_iff_eq, HeaderOf]
  constructor
  · rintro ⟨⟨n, x'⟩, ⟨hm, hn⟩, rfl⟩; exact ⟨n, hm, hn⟩
  · rintro ⟨n, hm, hn⟩; exact ⟨(n, x), ⟨hm, hn⟩, rfl⟩

theorem headerExists_iff (E : Env) (q : Req) (name : String) :
    q.headerExists E name = true ↔ ∃ x, HeaderOf E q name x := by
  simp only [Req.headerExists, List.any_eq_true, beq_iff_eq, HeaderOf]
  constructor
  · rintro ⟨⟨n, x⟩, hm, hn⟩; exact ⟨x, n, hm, hn⟩
  · rintro ⟨x, n, hm, hn⟩; exact ⟨(n, x), hm, hn⟩

theorem lcIsPrefix_iff (n h : List Char) : lcIsPrefix n h = true ↔ ∃ t, h = n ++ t := by
  induction n generalizing h with
  | nil => simp [lcIsPrefix]
  | cons a as ih =>
    cases h with
    | nil => simp [lcIsPrefix]
    | cons b bs =>
      simp only [lcIsPrefix, Bool.and_eq_true, beq_iff_eq, ih, List.cons_append, List.cons.injEq]
      constructor
      · rintro ⟨rfl, t, rfl⟩; exact ⟨t, rfl, rfl⟩
      · rintro ⟨t, rfl, rfl⟩; exact ⟨rfl, t, rfl⟩

theorem lcIsInfix_iff (n h : List Char) : lcIsInfix n h = true ↔ ∃ a b, h = a ++ n ++ b := by
  induction h with
  | nil =>
    simp only [lcIsInfix, List.isEmpty_iff]
    constructor
    · rintro rfl; exact ⟨[], [], rfl⟩
    · rintro ⟨a, b, h⟩
      have := congrArg List.length h
      simp at this
      exact List.eq_nil_of_length_eq_zero (by omega)
  | cons c cs ih =>
    simp only [lcIsInfix, Bool.or_eq_true, lcIsPrefix_iff, ih]
    constructor
    · rintro (⟨t, ht⟩ | ⟨a, b, hab⟩)
      · exact ⟨[], t, by simpa using ht⟩
      · exact ⟨c :: a, b, by simp [hab]⟩
    · rintro ⟨a, b, hab⟩
      cases a with
      | nil => exact Or.inl ⟨b, by simpa using hab⟩
      | cons a0 a' =>
        simp only [List.cons_append, List.cons.injEq] at hab
        exact Or.inr ⟨a', b, hab.2⟩

/-- `str::starts_with`, `str::ends_with`, `str::contains` on the characters of the two strings. -/
theorem strStartsWith_iff (x v : String) : strStartsWith x v = true ↔ ∃ t, x.toList = v.toList ++ t :=
  lcIsPrefix_iff _ _

theorem strEndsWith_iff (x v : String) : strEndsWith x v = true ↔ ∃ t, x.toList = t ++ v.toList := by
  simp only [strEndsWith, lcIsPrefix_iff]
  constructor
  · rintro ⟨t, ht⟩
    refine ⟨t.reverse, ?_⟩
    have := congrArg List.reverse ht
    simpa using this
  · rintro ⟨t, ht⟩
    exact ⟨t.reverse, by rw [ht]; simp⟩

theorem strContains_iff (x v : String) : strContains x v = true ↔ ∃ a b, x.toList = a ++ v.toList ++ b :=
  lcIsInfix_iff _ _

/-- **The nine kinds**, for any header list (names in any case, a name occurring any number of times). -/
theorem header_kinds_spec (E : Env) (q : Req) (name : String) :
    ((HCond.mk name .isDefined).eval E q = true ↔ ∃ x, HeaderOf E q name x) ∧
    ((HCond.mk name .isNotDefined).eval E q = true ↔ ¬ ∃ x, HeaderOf E q name x) ∧
    (∀ v, (HCond.mk name (.isEquals v)).eval E q = true ↔ ∃ x, HeaderOf E q name x ∧ x = v) ∧
    (∀ v, (HCond.mk name (.isNotEqualTo v)).eval E q = true ↔ ∀ x, HeaderOf E q name x → x ≠ v) ∧
    (∀ v, (HCond.mk name (.contains v)).eval E q = true ↔
      ∃ x, HeaderOf E q name x ∧ ∃ a b, x.toList = a ++ v.toList ++ b) ∧
    (∀ v, (HCond.mk name (.doesNotContain v)).eval E q = true ↔
      ∀ x, HeaderOf E q name x → ¬ ∃ a b, x.toList = a ++ v.toList ++ b) ∧
    (∀ v, (HCond.mk name (.endsWith v)).eval E q = true ↔
      ∃ x, HeaderOf E q name x ∧ ∃ a, x.toList = a ++ v.toList) ∧
    (∀ v, (HCond.mk name (.startsWith v)).eval E q = true ↔
      ∃ x, HeaderOf E q name x ∧ ∃ b, x.toList = v.toList ++ b) ∧
    (∀ p, (HCond.mk name (.matchRegex p)).eval E q = true ↔ ∃ x, HeaderOf E q name x ∧ E.headerRegex p x = true) := by
  refine ⟨?_, ?_, ?_, ?_, ?_, ?_, ?_, ?_, ?_⟩
  · simp only [HCond.eval]; exact headerExists_iff E q name
  · simp only [HCond.eval, Bool.not_eq_true', ← headerExists_iff]
    cases q.headerExists E name <;> simp
  · intro v; simp only [HCond.eval, List.any_eq_true, mem_headerValues, beq_iff_eq]
  · intro v; simp only [HCond.eval, List.all_eq_true, mem_headerValues, bne_iff_ne, ne_eq]
  · intro v; simp only [HCond.eval, List.any_eq_true, mem_headerValues, strContains_iff]
  · intro v
    simp only [HCond.eval, List.all_eq_true, mem_headerValues, Bool.not_eq_true', ← strContains_iff]
    constructor
    · intro h x hx; rw [h x hx]; simp
    · intro h x hx; have := h x hx; simpa using this
  · intro v; simp only [HCond.eval, List.any_eq_true, mem_headerValues, strEndsWith_iff]
  · intro v; simp only [HCond.eval, List.any_eq_true, mem_headerValues, strStartsWith_iff]
  · intro p; simp only [HCond.eval, List.any_eq_true, mem_headerValues]

theorem negated_kinds_hold_when_absent (E : Env) (q : Req) (name v : String)
    (habs : ¬ ∃ x, HeaderOf E q name x) :
    (HCond.mk name (.isNotEqualTo v)).eval E q = true ∧ (HCond.mk name (.doesNotContain v)).eval E q = true ∧
    (HCond.mk name .isNotDefined).eval E q = true ∧
    (HCond.mk name .isDefined).eval E q = false ∧ (HCond.mk name (.isEquals v)).eval E q = false ∧
    (HCond.mk name (.contains v)).eval E q = false ∧ (HCond.mk name (.endsWith v)).eval E q = false ∧
    (HCond.mk name (.startsWith v)).eval E q = false ∧
    (∀ p, (HCond.mk name (.matchRegex p)).eval E q = false) := by
  obtain ⟨h1, h2, h3, h4, h5, h6, h7, h8, h9⟩ := header_kinds_spec E q name
  have hno : ∀ x, ¬ HeaderOf E q name x := fun x hx => habs ⟨x, hx⟩
  -- a positive kind needs a witness
  have pos : ∀ {b : Bool} {P : String → Prop}, (b = true ↔ ∃ x, HeaderOf E q name x ∧ P x) → b = false :=
    fun hb => Bool.eq_false_iff.2 fun h => let ⟨x, hx, _⟩ := hb.1 h; hno x hx
  exact ⟨(h4 v).2 (fun x hx => absurd hx (hno x)), (h6 v).2 (fun x hx => absurd hx (hno x)), h2.2 habs,
    Bool.eq_false_iff.2 fun h => habs (h1.1 h), pos (h3 v), pos (h5 v), pos (h7 v), pos (h8 v), fun p => pos (h9 p)⟩

/-- The header trigger of a route: EVERY header condition of the rule holds, each read with the rule's header name
lower-cased (`HeaderMatcher::insert`) – so, for an idempotent `lower`, the name as written in the rule and the names
as sent by the client are compared case-insensitively, whatever `ignore_header_case` says (that flag is about values). -/
theorem headersOk_spec (E : Env) (r : Route) (q : Req) :
    headersOk E r q = true ↔ ∀ h ∈ r.headers, (HCond.mk (E.lower h.name) h.kind).eval E q = true := by
  simp [headersOk, RouteHeader.toCond]

/-- The remark of `headersOk_spec` as an equivalence: for an idempotent `lower`, lower-casing the rule's header name does
not change which request headers it reads. -/
theorem headerOf_lower_name (E : Env) (hidem : ∀ s, E.lower (E.lower s) = E.lower s) (q : Req) (name x : String) :
    HeaderOf E q (E.lower name) x ↔ HeaderOf E q name x := by
  simp [HeaderOf, hidem]

/-! ### The case flags

`sat` has no case flag: the flags act when rule and request are READ (`Rule::host/path_and_query(ignore_case)`,
`Request::from_config`), i.e. in `mkRoute` / `mkReq`.  For static hosts and paths the effect is stated here; with
`match_exact` (whose `sat` contains `hostOk` / `pathOk`) it is a statement about the answers of the router.  For
marker hosts / paths the flag is the tree's `ignore_case` (C08 / C09); for header values see `Rio.C01.header_value_kinds`. -/

/-- A rule host without markers (`toks.all isLit`): under `ignore_host_case` the host trigger accepts exactly the
request hosts that are equal to it up to (ASCII) case – `A.com` is triggered by `a.COM`. -/
theorem host_case_insensitive (E : Env) (cfg : Cfg) (d : RuleDesc) (qd : ReqDesc) (h h' : String)
    (hflag : cfg.ignoreHostCase = true) (hd : d.host = some h) (hq : qd.host = some h')
    (hlit : (tokenize d.markers h.toList).all Tok.isLit = true) (hne : h.toLower ≠ "") :
    hostOk E (mkRoute cfg d) (mkReq cfg qd) = true ↔ h'.toLower = h.toLower := by
  simp only [hostOk, mkRoute, mkReq, hd, hq, Option.map_some, sodOf, hlit, if_true, hflag]
  simp [hne]

/-- Without the flag the texts must be equal as written. -/
theorem host_case_sensitive (E : Env) (cfg : Cfg) (d : RuleDesc) (qd : ReqDesc) (h h' : String)
    (hflag : cfg.ignoreHostCase = false) (hd : d.host = some h) (hq : qd.host = some h')
    (hlit : (tokenize d.markers h.toList).all Tok.isLit = true) (hne : h ≠ "") :
    hostOk E (mkRoute cfg d) (mkReq cfg qd) = true ↔ h' = h := by
  simp only [hostOk, mkRoute, mkReq, hd, hq, Option.map_some, sodOf, hlit, if_true, hflag]
  simp [hne]

/-- A rule path without markers: under `ignore_path_and_query_case` the path trigger accepts exactly the request
paths equal to it up to (ASCII) case; without the flag, equal as written. -/
theorem path_case_insensitive (E : Env) (cfg : Cfg) (d : RuleDesc) (qd : ReqDesc)
    (hflag : cfg.ignorePathCase = true) (hlit : (tokenize d.markers d.path.toList).all Tok.isLit = true) :
    pathOk E (mkRoute cfg d) (mkReq cfg qd) = true ↔ d.path.toLower = qd.path.toLower := by
  simp [pathOk, mkRoute, mkReq, sodOf, hlit, hflag]

theorem path_case_sensitive (E : Env) (cfg : Cfg) (d : RuleDesc) (qd : ReqDesc)
    (hflag : cfg.ignorePathCase = false) (hlit : (tokenize d.markers d.path.toList).all Tok.isLit = true) :
    pathOk E (mkRoute cfg d) (mkReq cfg qd) = true ↔ d.path = qd.path := by
  simp [pathOk, mkRoute, mkReq, sodOf, hlit, hflag]

end Rio.C01
