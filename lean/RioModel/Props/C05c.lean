/-
C05 ∘ C10 — rules with markers / variables.

Model/Action.lean (and every C05 theorem) takes targets and filter values as already substituted strings.
Model/ActionSubst.lean puts `StaticOrDynamic::replace(·, &variables)` back as a parameter `σ` at the three call
sites of `Action::from_route_rule`; here the C05 theorems are lifted to rules with markers, read on the INSTANTIATED
rules (every template replaced by its substitution), and `σ` is then the marker model's `StaticOrDynamic::replace` (C10).
Bridge: the marker model works on `List Char`, the action model on `String`: `substOf vars s = String.ofList (replaceVars
s.toList (sortVars vars))`.  `vars` — the (name, value) list `Rule::variables(route.capture(request), request)`
computes — stays a PARAMETER here: capture and transformers are the `MarkerRule` model (`Rio.C10.rule_end_to_end`).
-/
import RioModel.Model.ActionSubst
import RioModel.Props.C05
import RioModel.Props.C10

namespace Rio.C05
open Rio.Action Rio.Action.Spec

/-- `σ` does not turn a non-empty target template into the empty string, or the reverse (why it is needed:
`target_emptied_by_substitution`). -/
def TargetKept (σ : String → String) (r : Rule) : Prop :=
  ∀ t, r.target = some t → emptyTarget (σ t) = emptyTarget t

theorem bodyFilterOfRuleS_eq (σ : String → String) (f : BodyFilter) :
    bodyFilterOfRuleS σ f =
      bodyFilterOfRule (match f with
        | .html h => .html { h with value := σ h.value, innerValue := h.innerValue.map σ }
        | .text t => .text { t with content := σ t.content }) := by
  cases f with
  | text t => rfl
  | html h =>
    simp only [bodyFilterOfRuleS, bodyFilterOfRule]
    cases h.innerValue <;> rfl

/-- **`from_route_rule` on a rule with templates = the C05 model on the instantiated rule.** -/
theorem fromRouteRuleS_eq_instantiate (σ : String → String) (r : Rule) (q : Req) (d : Nat)
    (hk : TargetKept σ r) :
    fromRouteRuleS σ r q d = fromRouteRule (instantiate σ r) q d := by
  unfold fromRouteRuleS fromRouteRule instantiate
  simp only
  split
  · rfl
  · refine Prod.ext ?_ rfl
    simp only [Option.some.injEq]
    congr 1
    · congr 1
      · cases ht : r.target with
        | none => rfl
        | some t =>
          simp only [Option.map_some, hk t ht]
          rfl
      · cases r.headerFilters with
        | none => rfl
        | some fs =>
          simp only [Option.map_some, List.map_map, Function.comp_def]
          rfl
    · cases r.bodyFilters with
      | none => rfl
      | some fs =>
        simp only [Option.map_some, List.map_map, Function.comp_def, bodyFilterOfRuleS_eq]
        rfl

/-- The C05 assumption as a theorem: without substitution (`σ = id`: a rule without markers and variables) the
template-aware function IS the C05 model. -/
theorem fromRouteRuleS_id (r : Rule) (q : Req) (d : Nat) : fromRouteRuleS id r q d = fromRouteRule r q d := by
  rw [fromRouteRuleS_eq_instantiate id r q d (fun _ _ => rfl)]
  congr 1
  unfold instantiate
  cases r with
  | mk id rank sc target codes excl sampling hf bf lo reset stop ru lu th cu =>
    simp only [Rule.mk.injEq, true_and, and_true]
    refine ⟨by cases target <;> rfl, ?_, ?_⟩
    · cases hf with
      | none => rfl
      | some fs => simp
    · cases bf with
      | none => rfl
      | some fs =>
        simp only [Option.map_some, Option.some.injEq]
        conv => rhs; rw [← List.map_id fs]
        apply List.map_congr_left
        intro f _
        cases f with
        | text t => rfl
        | html h => cases h with | mk a v iv et cs i th => cases iv <;> rfl

private def exTpl (t : String) : Rule :=
  { id := [97], rank := 1, statusCode := some 301, target := some t, responseStatusCodes := none,
    excludeResponseStatusCodes := none, sampling := none, headerFilters := none, bodyFilters := none,
    logOverride := none, reset := none, stop := none, redirectUnitId := none,
    configurationLogUnitId := none, targetHash := none }

/-- `TargetKept` is needed: the emptiness test is on the TEMPLATE.  Target `@a` with `a = ""`: the code pushes a
`Location` filter with an empty value, the instantiated rule (target `""`) gets none. -/
theorem target_emptied_by_substitution :
    ((fromRouteRuleS (fun _ => "") (exTpl "@a") ⟨none, none⟩ 1).1.map (·.headerFilters.length),
     (fromRouteRule (instantiate (fun _ => "") (exTpl "@a")) ⟨none, none⟩ 1).1.map (·.headerFilters.length)) =
      (some 1, some 0) := by
  decide

theorem sortRules_map_instantiate (σ : Rule → String → String) (R : List Rule) :
    sortRules (R.map fun r => instantiate (σ r) r) = (sortRules R).map fun r => instantiate (σ r) r := by
  unfold sortRules
  symm
  apply List.map_mergeSort
  intro a _ b _
  rfl

/-- **`from_routes_rule` on rules with markers = the C05 action of the instantiated rules** (each rule `r`
instantiated by its own substitution `σ r`; `draw'` draws for an instantiated rule what `draw` draws for the
rule: there is such a `draw'` when the ids of `R` are distinct, `instantiate` keeping the id).  Hence `action_eq_spec`,
`filters_eq`, `attribution_*`, `reset_discards`, `stop_cuts`, `observations_mixed_codes`, … hold of rules with markers,
read on `R.map (instantiate …)`. -/
theorem action_with_markers (σ : Rule → String → String) (R : List Rule) (q : Req)
    (draw draw' : Rule → Nat) (hk : ∀ r ∈ R, TargetKept (σ r) r)
    (hd : ∀ r ∈ R, draw' (instantiate (σ r) r) = draw r) :
    fromRoutesRuleS σ R q draw = fromRoutesRule (R.map fun r => instantiate (σ r) r) q draw' := by
  unfold fromRoutesRuleS fromRoutesRule
  rw [sortRules_map_instantiate]
  have hmem : ∀ r ∈ sortRules R, r ∈ R := fun r hr => (sortRules_perm R).subset hr
  generalize sortRules R = S at hmem
  generalize Action.empty = a
  induction S generalizing a with
  | nil => rfl
  | cons r rest ih =>
    have hr := hmem r (by simp)
    simp only [List.map_cons, foldRoutesS, foldRoutes]
    rw [fromRouteRuleS_eq_instantiate (σ r) r q (draw r) (hk r hr), hd r hr]
    rcases fromRouteRule (instantiate (σ r) r) q (draw r) with ⟨o, reset, stop⟩
    cases o with
    | none => exact ih (fun x hx => hmem x (List.mem_cons_of_mem _ hx)) a
    | some ar =>
      simp only
      split
      · rfl
      · exact ih (fun x hx => hmem x (List.mem_cons_of_mem _ hx)) _

/-- Attribution with markers: a header filter applied for code `c` is `σ r` of a header-filter template (or the
`Location` built from the target template) of a matched rule `r` that contributes and admits `c`. -/
theorem attribution_header_with_markers (σ : Rule → String → String) (R : List Rule) (q : Req)
    (draw draw' : Rule → Nat) (hk : ∀ r ∈ R, TargetKept (σ r) r)
    (hd : ∀ r ∈ R, draw' (instantiate (σ r) r) = draw r) (c : Nat) (add : Bool) (f : HeaderFilter)
    (hf : f ∈ ((fromRoutesRuleS σ R q draw).filterHeaders c add).filters) :
    ∃ r ∈ R, admits (instantiate (σ r) r) c = true ∧
      f ∈ (ruleHeaderFilters q (instantiate (σ r) r)).map (·.filter) := by
  rw [action_with_markers σ R q draw draw' hk hd] at hf
  obtain ⟨r', hr', _, ha, hfr⟩ := attribution_header _ q draw' c add f hf
  obtain ⟨r, hr, rfl⟩ := List.mem_map.mp hr'
  exact ⟨r, hr, ha, hfr⟩

/-- `StaticOrDynamic::replace(s, &variables)` on `String`s through the marker model on `List Char`; `vars` = the
(name, value) list before the final sort of `Rule::variables`. -/
def substOf (vars : List (Rio.Marker.Str × Rio.Marker.Str)) (s : String) : String :=
  String.ofList (Rio.Marker.replaceVars s.toList (Rio.Marker.sortVars vars))

/-- The specification C10 proves it equal to: every `@` followed by known names refers to the LONGEST one and is
replaced by the value of the first entry of that name; everything else is copied. -/
def substSpec (vars : List (Rio.Marker.Str × Rio.Marker.Str)) (s : String) : String :=
  String.ofList (Rio.Marker.subst vars s.toList)

/-- `Rio.C10.substitution`, on strings: no hypothesis on names, values or templates. -/
theorem substOf_eq_spec (vars : List (Rio.Marker.Str × Rio.Marker.Str)) : substOf vars = substSpec vars := by
  funext s
  unfold substOf substSpec
  rw [Rio.C10.substitution]

/-- **The composed statement.**  For a rule with markers / variables whose variable list is `vars`, the action
`from_route_rule` builds is the one built with the one-pass, longest-name-first specification of C10 at the three
call sites of `replace`.  What that action carries (`Location = locationValue (subst vars target)`, header-filter
values `subst vars value`, body-filter `content` / `value` / `inner_value` likewise) is read off the definition of
`fromRouteRuleS`; it is not stated field by field. -/
theorem from_route_rule_with_markers (vars : List (Rio.Marker.Str × Rio.Marker.Str)) (r : Rule) (q : Req) (d : Nat) :
    fromRouteRuleS (substOf vars) r q d = fromRouteRuleS (substSpec vars) r q d := by
  rw [substOf_eq_spec]

/-- … and it does not depend on the order in which the variables are listed (the iteration order of the `HashMap`
of captured markers; the defect class D23c): two lists with the same names and the same first value per name give
the same action. -/
theorem action_independent_of_variable_order (vars vars' : List (Rio.Marker.Str × Rio.Marker.Str))
    (hn : ∀ m, m ∈ Rio.Marker.names vars ↔ m ∈ Rio.Marker.names vars')
    (hl : ∀ n, vars.lookup n = vars'.lookup n) (r : Rule) (q : Req) (d : Nat) :
    fromRouteRuleS (substOf vars) r q d = fromRouteRuleS (substOf vars') r q d := by
  have : substOf vars = substOf vars' := by
    funext s
    unfold substOf Rio.Marker.sortVars
    rw [Rio.C10.substitution_order_irrelevant Rio.Marker.varBefore Rio.Marker.varBefore
      Rio.C10.code_orders_lawful.1 Rio.C10.code_orders_lawful.1 vars vars' s.toList hn hl]
  rw [this]

/-- Everything together: the action of rules with markers is the C05 closed form over the contributing rules of
the rules instantiated by C10's specification. -/
theorem action_with_markers_spec (vars : Rule → List (Rio.Marker.Str × Rio.Marker.Str)) (R : List Rule) (q : Req)
    (draw draw' : Rule → Nat)
    (hk : ∀ r ∈ R, TargetKept (substSpec (vars r)) r)
    (hd : ∀ r ∈ R, draw' (instantiate (substSpec (vars r)) r) = draw r) :
    fromRoutesRuleS (fun r => substOf (vars r)) R q draw =
      Spec.action q (contributing q draw'
        (sortRules (R.map fun r => instantiate (substSpec (vars r)) r))) := by
  have : (fun r => substOf (vars r)) = fun r => substSpec (vars r) := by
    funext r; exact substOf_eq_spec (vars r)
  rw [this, action_with_markers _ R q draw draw' hk hd, action_eq_spec]

/-- Adjacent markers through the action: target `/t/@id@year`, variables id=7, id2=9, year=2024 gives
`Location: /t/72024` (the library gave `/t/9024` before its repair 9f65cbb), whatever the order of the variable list. -/
example :
    let vars : List (Rio.Marker.Str × Rio.Marker.Str) :=
      [("id".toList, "7".toList), ("id2".toList, "9".toList), ("year".toList, "2024".toList)]
    substSpec vars "/t/@id@year" = "/t/72024" ∧ substSpec vars.reverse "/t/@id@year" = "/t/72024" ∧
    TargetKept (substSpec vars) (exTpl "/t/@id@year") := by
  intro vars
  refine ⟨by decide +kernel, by decide +kernel, ?_⟩
  intro t ht
  simp only [exTpl, Option.some.injEq] at ht
  subst ht
  decide +kernel

end Rio.C05
