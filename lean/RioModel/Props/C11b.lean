/-
C11, router level — the action does not depend on the insertion order of the rules, on rebuilding the
router, nor on the history that produced the router state.

Composition of the router theorems (`Rio.C01.match_exact`, `match_exact_any_order`; the
representation relation `RRepr` of C02) with `Rio.C11.action_perm_invariant`.
The router model's `Route` and the action model's `Rule` are different records; the theorems take
the projection `ruleOf : Route → Rule` (`route.handler()` as the action code sees it) as a
parameter, constrained only by `HandlerOf ruleOf` (different route ids ⇒ different rule ids), see
Proofs/ActionBridge.lean.  `rq` / `draw` are the action-side request inputs and sampling draws.
-/
import RioModel.Props.C11
import RioModel.Props.C01
import RioModel.Props.C02
import RioModel.Proofs.ActionBridge

namespace Rio.C11
open Rio.Action

/-- `action_perm_invariant` under the weakest hypothesis: no two different matched rules share both
rank and id (implied by distinct ids, and by distinct ranks). -/
theorem action_perm_invariant_key (q : Req) (draw : Rule → Nat) {R R' : List Rule}
    (h : R.Perm R') (hk : KeyInj R) : fromRoutesRule R q draw = fromRoutesRule R' q draw := by
  unfold fromRoutesRule
  rw [sortRules_congr h hk]

/-- The action computed from what a router state returns (`Action::from_routes_rule(router.match_request(q), …)`). -/
def liveAction (E : Rio.Router.Env) (ruleOf : Rio.Router.Route → Rule) (S : Rio.Router.Router E)
    (q : Rio.Router.Req) (rq : Req) (draw : Rule → Nat) : Action :=
  fromRoutesRule ((S.matchReq E q).map ruleOf) rq draw

/-- Any two router states that represent the same set of live rules give the same action for every
request — whatever histories (insertions in any order, removals, change-sets, rebuilds) led to them. -/
theorem router_state_invariant (E : Rio.Router.Env) {ruleOf : Rio.Router.Route → Rule}
    (hb : HandlerOf ruleOf) (S S' : Rio.Router.Router E) (L L' : List Rio.Router.Route)
    (h : Rio.Router.RRepr E S L) (h' : Rio.Router.RRepr E S' L') (hm : ∀ x, x ∈ L ↔ x ∈ L')
    (q : Rio.Router.Req) (rq : Req) (draw : Rule → Nat) :
    liveAction E ruleOf S q rq draw = liveAction E ruleOf S' q rq draw := by
  unfold liveAction
  apply action_perm_invariant rq draw
  · exact (Rio.Router.rrepr_match_perm E S S' L L' h h' hm q).map ruleOf
  · exact hb.nodupIds _ (Rio.Router.rrepr_nodup_match E S L h q).2

/-- **`router_order_invariant`**: building the router from the same rules in another order yields the
same action for every request. -/
theorem router_order_invariant (E : Rio.Router.Env) {ruleOf : Rio.Router.Route → Rule}
    (hb : HandlerOf ruleOf) (R R' : List Rio.Router.Route) (hp : R'.Perm R)
    (hR : Rio.Router.NodupIds R) (q : Rio.Router.Req) (rq : Req) (draw : Rule → Nat) :
    liveAction E ruleOf (Rio.Router.Router.build E R') q rq draw =
      liveAction E ruleOf (Rio.Router.Router.build E R) q rq draw := by
  have hR' : Rio.Router.NodupIds R' := (hp.map _).nodup_iff.2 hR
  apply router_state_invariant E hb _ _ R'.reverse R.reverse
    (Rio.Router.rrepr_build E R' hR') (Rio.Router.rrepr_build E R hR)
  intro x
  simp only [List.mem_reverse]
  exact hp.mem_iff

/-- … and the action is that of the rules satisfying the flat predicate `sat` (C01), in any order. -/
theorem router_action_is_sat_action (E : Rio.Router.Env) {ruleOf : Rio.Router.Route → Rule}
    (hb : HandlerOf ruleOf) (R : List Rio.Router.Route) (hR : Rio.Router.NodupIds R)
    (q : Rio.Router.Req) (rq : Req) (draw : Rule → Nat) :
    liveAction E ruleOf (Rio.Router.Router.build E R) q rq draw =
      fromRoutesRule ((R.filter (fun r => Rio.Router.sat E R r q)).map ruleOf) rq draw := by
  unfold liveAction
  apply action_perm_invariant rq draw
  · exact (Rio.C01.match_perm_filter E R hR q).map ruleOf
  · exact hb.nodupIds _ (Rio.C01.match_exact E R hR q).1

/-- The incrementally updated router (any valid history, C02) gives the action of a router rebuilt
from scratch from the live rules. -/
theorem incremental_action_eq_rebuilt (E : Rio.Router.Env) {ruleOf : Rio.Router.Route → Rule}
    (hb : HandlerOf ruleOf) (h : List Rio.Router.Op) (hv : Rio.Router.ValidHistory h [])
    (q : Rio.Router.Req) (rq : Req) (draw : Rule → Nat) :
    liveAction E ruleOf (Rio.Router.runOps E h (Rio.Router.Router.empty E)) q rq draw =
      liveAction E ruleOf (Rio.Router.Router.build E (Rio.Router.liveOps h [])) q rq draw := by
  have hr := Rio.C02.repr_run E h _ [] (Rio.C02.repr_empty E) hv
  have hb' := Rio.Router.rrepr_build E (Rio.Router.liveOps h []) hr.ids
  apply router_state_invariant E hb _ _ _ _ hr hb'
  intro x
  simp

/-- effects per route id: `r1` carries 301, `r2` carries 302 (conflicting); `handlerOfRoute` sets id and rank from the route -/
private def exEffects (id : String) : Rule :=
  { id := [], rank := 0, statusCode := if id == "r1" then some 301 else some 302, target := none,
    responseStatusCodes := none, excludeResponseStatusCodes := none, sampling := none,
    headerFilters := none, bodyFilters := none, logOverride := none, reset := none, stop := none,
    redirectUnitId := none, configurationLogUnitId := none, targetHash := none }

private def exHost : Rio.Router.Route :=
  { id := "r1", priority := 0, scheme := none, host := some (.static "a.com"), ips := none,
    methods := none, excludeMethods := none, headers := [], datetime := none, time := none,
    weekdays := none, path := .static "/a" }

private def exOther : Rio.Router.Route := { exHost with id := "r2", priority := -1, methods := some ["GET"] }

private def exReq : Rio.Router.Req :=
  { scheme := none, host := some "a.com", method := none, headers := [], ip := none, createdAt := none,
    path := "/a" }

/-- The canonical projection satisfies the bridge hypothesis; two host-bound rules with CONFLICTING
status codes both match the request; both insertion orders give the same action. -/
example :
    let ruleOf := handlerOfRoute exEffects
    HandlerOf ruleOf ∧
    liveAction Rio.C01.exEnv ruleOf (Rio.Router.Router.build Rio.C01.exEnv [exOther, exHost]) exReq
        ⟨none, none⟩ (fun _ => 1) =
      liveAction Rio.C01.exEnv ruleOf (Rio.Router.Router.build Rio.C01.exEnv [exHost, exOther]) exReq
        ⟨none, none⟩ (fun _ => 1) ∧
    ((Rio.Router.Router.build Rio.C01.exEnv [exHost, exOther]).matchReq Rio.C01.exEnv exReq).length = 2 := by
  intro ruleOf
  refine ⟨handlerOfRoute_ok _, ?_, by decide⟩
  exact router_order_invariant _ (handlerOfRoute_ok _) _ _ (List.Perm.swap _ _ _)
    (by simp [Rio.Router.NodupIds, exHost, exOther]) _ _ _

end Rio.C11
