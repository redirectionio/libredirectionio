/-
C15, byte level: the laws of `Proofs/FilterDomUniv.lean` discharged from the closed forms of the tokenizer model's readers
(`Proofs/HtmlClosed*.lean`): the `Simple` grammar with arbitrary tag names and attribute texts.
-/
import RioModel.Proofs.FilterDomUniv
import RioModel.Proofs.HtmlClosedRaw

namespace Rio.Filter
open Rio.Html Rio.Html.Tokenizer

theorem ok_new (a : Array Nat) : Ok (Tokenizer.new a) := (inv_new a).ok

/-- `u` is a state the token loop reaches on the buffer of `t0`: it stands at position `p`, without error.  A closed form for
the piece found at `p` is then one step of `closedEnd` (`step_tag`, `step_plain`), and `Closed x ts` says that the steps over
`ts` lead from the fresh tokenizer up to `x.length`, outside any raw-text context (`closed`). -/
structure Upto (t0 u : Tokenizer) (p : Nat) : Prop where
  inv : Inv u
  err : u.err = false
  buf : u.buf = t0.buf
  cdata : u.allowCdata = t0.allowCdata
  rawE : u.rawE = p

theorem Upto.new (x : Bytes) : Upto (Tokenizer.new x.toArray) (Tokenizer.new x.toArray) 0 :=
  ⟨inv_new _, rfl, rfl, rfl, rfl⟩

theorem Upto.has {t0 u : Tokenizer} {p : Nat} {x : Bytes} (A : Upto t0 u p) (hx : Has t0 p x) : Has u u.rawE x :=
  (hx.congr A.buf).at A.rawE

theorem Upto.facts {t0 u : Tokenizer} {p : Nat} {k : TokenType} {x tag : Bytes} (A : Upto t0 u p) (hx : Has t0 p x)
    (pc : Piece u (next u) k x.length tag) : StepFacts u k x tag :=
  ⟨A.has hx, pc.token, pc.rawE, pc.err, pc.rawTag, pc.cdata⟩

-- in the two proofs below a bare `step_tag` / `step_plain` would be `Upto.`'s own: FilterDomUniv's are written in full
theorem Upto.step_tag {t0 u : Tokenizer} {p a : Nat} {k : TokenType} {x disp tag : Bytes} (ks : List Tok) (A : Upto t0 u p)
    (hx : Has t0 p x) (hk : k = .startTag ∨ k = .endTag ∨ k = .selfClosing)
    (cf : Piece u (next u) k x.length tag ∧ (next u).dataS = u.rawE + a ∧ (next u).dataE = u.rawE + a + disp.length)
    (hslice : (x.drop a).take disp.length = disp) (hascii : ∀ b ∈ disp, b < 128) :
    ∃ u', closedEnd u (⟨kindOf k, x, lowerName disp⟩ :: ks) = closedEnd u' ks ∧ Upto t0 u' (p + x.length) ∧
      u'.rawTag = tag := by
  obtain ⟨pc, hdS, hdE⟩ := cf
  obtain ⟨u', hst, iu, r, e, tg, cd, b⟩ := Rio.Filter.step_tag A.inv (A.facts hx pc) hk hdS hdE hslice hascii
  exact ⟨u', closedEnd_cons hst pc.err, ⟨iu, e, b.trans A.buf, cd.trans A.cdata, by rw [r, A.rawE]⟩, tg⟩

theorem Upto.step_plain {t0 u : Tokenizer} {p : Nat} {k : TokenType} {x tag : Bytes} (ks : List Tok) (A : Upto t0 u p)
    (hx : Has t0 p x) (hk : k = .text ∨ k = .comment ∨ k = .doctype) (pc : Piece u (next u) k x.length tag) :
    closedEnd u (⟨kindOf k, x, []⟩ :: ks) = closedEnd (next u) ks ∧ Upto t0 (next u) (p + x.length) ∧
      (next u).rawTag = tag :=
  ⟨closedEnd_cons (Rio.Filter.step_plain A.inv (A.facts hx pc) hk) pc.err,
    ⟨next_inv' u A.inv, pc.err, pc.buf.trans A.buf, pc.cdata.trans A.cdata, by rw [pc.rawE, A.rawE]⟩, pc.rawTag⟩

theorem Upto.closed {x : Bytes} {ts : List Tok} {u : Tokenizer} {p : Nat} (A : Upto (Tokenizer.new x.toArray) u p)
    (hp : p = x.length) (htag : u.rawTag = []) (h : closedEnd (Tokenizer.new x.toArray) ts = closedEnd u [])
    (hl : ts.length ≤ x.length) : Closed x ts :=
  ⟨u, h, A.rawE.trans hp, A.err, htag, A.cdata, hl⟩

theorem closed_single {x : Bytes} {k : Tok} {u : Tokenizer} {p : Nat} {tag : Bytes} (hx : x ≠ [])
    (h : closedEnd (Tokenizer.new x.toArray) [k] = closedEnd u [] ∧ Upto (Tokenizer.new x.toArray) u p ∧ u.rawTag = tag)
    (hp : p = x.length) (ht : tag = []) : Closed x [k] :=
  h.2.1.closed hp (h.2.2.trans ht) h.1 (List.length_pos_iff.mpr hx)

theorem closed_other {x : Bytes} {k : TokenType} (hk : k = .comment ∨ k = .doctype) (hx : x ≠ [])
    (pc : Piece (Tokenizer.new x.toArray) (next (Tokenizer.new x.toArray)) k x.length []) : Closed x [⟨.other, x, []⟩] := by
  have hkind : (⟨.other, x, []⟩ : Tok) = ⟨kindOf k, x, []⟩ := by rcases hk with rfl | rfl <;> rfl
  rw [hkind]
  exact closed_single hx ((Upto.new x).step_plain [] (has_new x) (Or.inr hk) pc) (Nat.zero_add _) rfl

theorem FreshFacts.piece {x : Bytes} {k : TokenType} (f : FreshFacts x k) :
    Piece (Tokenizer.new x.toArray) (next (Tokenizer.new x.toArray)) k x.length [] :=
  ⟨f.token, next_rawS' _ (inv_new _), by simpa [Tokenizer.new] using f.rawE, f.err, f.rawTag,
    by simpa [Tokenizer.new] using f.cdata, next_buf' _ (inv_new _)⟩

theorem closed_of_fresh_other {x : Bytes} {k : TokenType} (hx : x ≠ []) (hk : k = .comment ∨ k = .doctype)
    (f : FreshFacts x k) : Closed x [⟨.other, x, []⟩] :=
  closed_other hk hx f.piece

set_option linter.unusedVariables false in -- `hne`
theorem closed_of_fresh_tag {x disp : Bytes} {k : TokenType} {a : Nat}
    (hk : k = .startTag ∨ k = .endTag ∨ k = .selfClosing) (f : FreshFacts x k)
    (hdS : (next (Tokenizer.new x.toArray)).dataS = a)
    (hdE : (next (Tokenizer.new x.toArray)).dataE = a + disp.length)
    (hslice : (x.drop a).take disp.length = disp) (hne : disp ≠ []) (hascii : ∀ b ∈ disp, b < 128)
    (hx : x ≠ []) :
    Closed x [⟨kindOf k, x, lowerName disp⟩] := by
  obtain ⟨u, h⟩ := (Upto.new x).step_tag (a := a) [] (has_new x) hk
    ⟨f.piece, by simpa [Tokenizer.new] using hdS, by simpa [Tokenizer.new] using hdE⟩ hslice hascii
  exact closed_single hx h (Nat.zero_add _) rfl

/-- a tag name as `read_tag_name` delimits it (a letter, then any bytes other than white space, `/`, `>`: `-`, `:`, `_`,
digits … are name bytes), ASCII (`tag_name()` lower-cases with Unicode rules, which are not modelled) -/
def NameOKU (d : Bytes) : Prop := nameOK2 d = true ∧ ∀ b ∈ d, b < 128

theorem nameOKU_of_nameOK {d : Bytes} (h : nameOK d = true) : NameOKU d := ⟨nameOK2_of_nameOK h, nameOK_ascii h⟩

/-- ordinary start tag: name, attributes, `>` -/
def StartOKU (d a : Bytes) : Prop :=
  NameOKU d ∧ isRawName (lowerName d) = false ∧
  ∃ (as : List SAttr) (trail : Bytes), a = attrsOf as ++ trail ∧ (∀ x ∈ as, x.ok = true) ∧
    (∀ b ∈ trail, isWs b = true)

/-- self-closing tag: the last attribute is quoted or white space precedes `/>` -/
def SelfOKU (d a : Bytes) : Prop :=
  NameOKU d ∧ isRawName (lowerName d) = false ∧
  ∃ (as : List SAttr) (trail : Bytes), a = attrsOf as ++ trail ∧ (∀ x ∈ as, x.ok = true) ∧
    (∀ b ∈ trail, isWs b = true) ∧ endOK as trail .slashGt = true

theorem opener_of_alpha {c : Nat} (h : isAlpha c = true) : Rio.Filter.isOpener c = true := by
  simp [Rio.Filter.isOpener, h]

theorem tag_closed_U (e : TagEnd) {d : Bytes} (hd : NameOKU d) (hraw : isRawName (lowerName d) = false)
    {as : List SAttr} {trail : Bytes} (hok : ∀ x ∈ as, x.ok = true) (htr : ∀ b ∈ trail, isWs b = true)
    (hend : endOK as trail e = true) :
    Closed ([60] ++ d ++ attrsOf as ++ trail ++ e.text)
      [⟨kindOf e.kind, [60] ++ d ++ attrsOf as ++ trail ++ e.text, lowerName d⟩] ∧
    StartsOpener ([60] ++ d ++ attrsOf as ++ trail ++ e.text) := by
  obtain ⟨c, rest, rfl, hc, _⟩ := nameOK2_cons hd.1
  refine ⟨?_, ⟨c, rest ++ attrsOf as ++ trail ++ e.text, by simp, opener_of_alpha hc⟩⟩
  obtain ⟨u, h⟩ := (Upto.new _).step_tag (a := 1) [] (has_new _) (by cases e <;> simp [TagEnd.kind])
    (start_tag_closed_form2 _ (c :: rest) as trail e (ok_new _) rfl rfl hd.1 hok htr hend (has_new _)) (by simp) hd.2
  -- the closed form gives the raw-text context as `if isRawName … then the name else []`
  exact closed_single (by simp) h (Nat.zero_add _)
    (if_neg (by rw [show (c :: rest).map lowerByte = lowerName (c :: rest) from rfl, hraw]; decide))

theorem start_closed_U (d a : Bytes) (h : StartOKU d a) :
    Closed (startTok (lowerName d) d a).raw [startTok (lowerName d) d a] ∧
    StartsOpener (startTok (lowerName d) d a).raw := by
  obtain ⟨hd, hraw, as, trail, rfl, hok, htr⟩ := h
  have := tag_closed_U .gt hd hraw hok htr rfl
  simpa [startTok, kindOf, TagEnd.text, TagEnd.kind, List.append_assoc] using this

theorem self_closed_U (d a : Bytes) (h : SelfOKU d a) :
    Closed (selfTok (lowerName d) d a).raw [selfTok (lowerName d) d a] ∧
    StartsOpener (selfTok (lowerName d) d a).raw := by
  obtain ⟨hd, hraw, as, trail, rfl, hok, htr, hend⟩ := h
  have := tag_closed_U .slashGt hd hraw hok htr hend
  simpa [selfTok, kindOf, TagEnd.text, TagEnd.kind, List.append_assoc] using this

def EndOKU (d : Bytes) : Prop := NameOKU d

theorem end_closed_U (d : Bytes) (h : EndOKU d) :
    Closed (endTok (lowerName d) d).raw [endTok (lowerName d) d] := by
  have hx : endTok (lowerName d) d = ⟨kindOf .endTag, [60, 47] ++ d ++ [62], lowerName d⟩ := by simp [endTok, kindOf]
  rw [hx]
  obtain ⟨u, hu⟩ := (Upto.new _).step_tag (a := 2) [] (has_new _) (Or.inr (Or.inl rfl))
    (end_tag_closed_form2 _ d (ok_new _) rfl rfl h.1 (has_new _)) (by simp) h.2
  exact closed_single (by simp) hu (Nat.zero_add _) rfl

/-- a comment `<!--` body `-->` (`commentOK2`: the body may hold `>` and `!` but no `-->` / `--!>`, does not start with `>`,
`->`, `!>` and does not end with `--!`), a doctype declaration `<!DOCTYPE …>`, or a bogus comment `<?…>` (processing
instruction; no `>` inside) -/
def OtherOKU (x : Bytes) : Prop :=
  (∃ body, commentOK2 body = true ∧ x = [60, 33, 45, 45] ++ body ++ [45, 45, 62]) ∨
  (∃ kw r, doctypeOK kw r = true ∧ x = [60, 33] ++ kw ++ r ++ [62]) ∨
  (∃ tx, (∀ b ∈ tx, b ≠ 62) ∧ x = [60, 63] ++ tx ++ [62])

theorem other_closed_U (x : Bytes) (h : OtherOKU x) : Closed x [⟨.other, x, []⟩] ∧ StartsOpener x := by
  rcases h with ⟨body, hb, rfl⟩ | ⟨kw, r, hok, rfl⟩ | ⟨tx, htx, rfl⟩
  · exact ⟨closed_other (Or.inl rfl) (by simp) (comment_closed_form2 _ body (ok_new _) rfl rfl hb (has_new _)).1,
      ⟨33, [45, 45] ++ body ++ [45, 45, 62], by simp, by decide⟩⟩
  · exact ⟨closed_other (Or.inr rfl) (by simp) (doctype_closed_form _ kw r (ok_new _) rfl rfl hok (has_new _)).1,
      ⟨33, kw ++ r ++ [62], by simp, by decide⟩⟩
  · exact ⟨closed_other (Or.inl rfl) (by simp) (bogus_closed_form _ tx (ok_new _) rfl rfl htx (has_new _)).1,
      ⟨63, tx ++ [62], by simp, by decide⟩⟩

/-- raw-text element (script, style, title, textarea, …; not `plaintext`): start tag, a content accepted by `rawOK2`, end tag.
`nameOK d` (letters and digits), where the other tags ask `NameOKU`, excludes nothing: the names of the raw-text table are letters -/
def RawOKU (d a c : Bytes) : Prop :=
  nameOK d = true ∧ isRawName (lowerName d) = true ∧ lowerName d ≠ Rio.Consts.htmlPlaintext ∧
  (∃ (as : List SAttr) (trail : Bytes), a = attrsOf as ++ trail ∧ (∀ x ∈ as, x.ok = true) ∧
    (∀ b ∈ trail, isWs b = true)) ∧
  rawOK2 ((lowerName d).headD 0) c = true

theorem raw_closed_U (d a c : Bytes) (h : RawOKU d a c) :
    Closed ((startTok (lowerName d) d a).raw ++ c ++ (endTok (lowerName d) d).raw)
      (startTok (lowerName d) d a :: (textToks c ++ [endTok (lowerName d) d])) ∧
    StartsOpener (startTok (lowerName d) d a).raw := by
  obtain ⟨hn, hraw, hpl, ⟨as, trail, rfl, hok, htr⟩, hc⟩ := h
  have hn2 := nameOK2_of_nameOK hn
  obtain ⟨c0, rest0, hd0, hc0, _⟩ := nameOK2_cons hn2
  refine ⟨?_, ⟨c0, rest0 ++ (attrsOf as ++ trail) ++ [62], by subst hd0; simp [startTok], opener_of_alpha hc0⟩⟩
  -- the two tags as opaque `S`, `E`: below `S ++ c ++ E` is only split and measured; `hS`, `hE` give the bytes back where wanted
  generalize hS : [60] ++ d ++ attrsOf as ++ trail ++ TagEnd.gt.text = S
  generalize hE : [60, 47] ++ d ++ [62] = E
  have hstart : startTok (lowerName d) d (attrsOf as ++ trail) = ⟨kindOf .startTag, S, lowerName d⟩ := by
    simp [← hS, startTok, kindOf, TagEnd.text, List.append_assoc]
  have hend : endTok (lowerName d) d = ⟨kindOf .endTag, E, lowerName d⟩ := by simp [← hE, endTok, kindOf]
  rw [hstart, hend]
  show Closed (S ++ c ++ E) _
  have hx0 : Has (Tokenizer.new (S ++ c ++ E).toArray) 0 (S ++ (c ++ E)) := by
    rw [← List.append_assoc]; exact has_new _
  have hasc := nameOK_ascii hn
  have hlen : (S ++ c ++ E).length = 0 + S.length + c.length + E.length := by
    simp only [List.length_append]; omega
  have hSE : 2 ≤ S.length + E.length := by rw [← hS, ← hE]; simp; omega
  have cf1 := start_tag_closed_form2 (Tokenizer.new (S ++ c ++ E).toArray) d as trail .gt (ok_new _) rfl rfl hn2 hok htr rfl
    (by rw [hS]; exact hx0.left)
  rw [hS, show (if isRawName (d.map lowerByte) = true then d.map lowerByte else []) = lowerName d from if_pos hraw] at cf1
  obtain ⟨u1, e1, A1, g1⟩ := (Upto.new _).step_tag (textToks c ++ [⟨kindOf .endTag, E, lowerName d⟩]) hx0.left (Or.inl rfl)
    cf1 (by simp [← hS]) hasc
  have hraw1 : isRawName u1.rawTag = true := by rw [g1]; exact hraw
  have hpl1 : u1.rawTag ≠ Rio.Consts.htmlPlaintext := by rw [g1]; exact hpl
  have hslE : (E.drop 2).take d.length = d := by simp [← hE]
  by_cases hcne : c = []
  · -- no content: the end tag follows at once
    subst hcne
    have hE0 : Has (Tokenizer.new (S ++ [] ++ E).toArray) (0 + S.length) E := by simpa using hx0.right
    have cf := rawtext_empty_closed_form u1 d A1.inv.ok A1.err g1 hraw1 hpl1 hn2 (by rw [hE]; exact A1.has hE0)
    rw [hE] at cf
    obtain ⟨u', e', A', g'⟩ := A1.step_tag [] hE0 (Or.inr (Or.inl rfl)) cf hslE hasc
    exact A'.closed hlen.symm g' (e1.trans e') (by simp [textToks]; omega)
  · -- the raw text, then the end tag
    have hemp : textToks c = [⟨kindOf .text, c, []⟩] := by
      cases c with
      | nil => exact absurd rfl hcne
      | cons _ _ => rfl
    rw [hemp] at e1 ⊢
    obtain ⟨e2, A2, g2⟩ := A1.step_plain [⟨kindOf .endTag, E, lowerName d⟩] hx0.right.left (Or.inl rfl)
      (rawtext_closed_form2 u1 d c 62 A1.inv.ok A1.err g1 hraw1 hpl1 (by rw [g1]; exact hc) hcne (by decide)
        (by rw [List.append_assoc, List.append_assoc, ← List.append_assoc [60, 47], hE]; exact A1.has hx0.right)).1
    have cf := end_tag_closed_form2 (next u1) d A2.inv.ok A2.err g2 hn2 (by rw [hE]; exact A2.has hx0.right.right)
    rw [hE] at cf
    obtain ⟨u', e', A', g'⟩ := A2.step_tag [] hx0.right.right (Or.inr (Or.inl rfl)) cf hslE hasc
    have hclen : 0 < c.length := List.length_pos_iff.mpr hcne
    exact A'.closed hlen.symm g' ((e1.trans e2).trans e') (by simp; omega)

/-- **the laws hold for the tokenizer of the filters** -/
def simpleLaws : Laws where
  StartOK := StartOKU
  SelfOK := SelfOKU
  EndOK := EndOKU
  RawOK := RawOKU
  OtherOK := OtherOKU
  start_closed := start_closed_U
  self_closed := self_closed_U
  end_closed := end_closed_U
  raw_closed := raw_closed_U
  other_closed := other_closed_U

end Rio.Filter
