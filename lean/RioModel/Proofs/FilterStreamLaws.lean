/-
The tokenizer laws of the filter theorems for the STREAM tokenizer (`Tokenize.stream`, i.e.
`Tokenizer::new_fragment(data, last_context)` as used by `HtmlFilterBodyAction::filter` since fe7eac6).
The statements; `view`, what one call of `filter` makes of a token stream, executable; and the lemmas about `cutSplit`,
`splitHeld` and `view` that hold for any tokenizer.  `Proofs/FilterHtml.lean` imports this file, the tokenizer proofs come
later: hence `Ctx`, `isTagKindX`, `LosslessS` beside `RawCtx`, `isTagKind`, `Lossless`.
-/
import RioModel.Proofs.Filter
import RioModel.Proofs.FilterUtf8

namespace Rio.Filter

/-- a context `new_fragment` accepts (what `read_start_tag` can leave in `raw_tag`), or none (`Tokenizer.RawCtx` again: the
proofs pass one for the other) -/
def Ctx (c : Bytes) : Prop := c = [] ∨ c ∈ Rio.Consts.htmlFragmentRawTags

/-- `Lossless` (`Proofs/FilterHtml.lean`) for the stream tokenizer -/
def LosslessS (tk : Tokenize) : Prop :=
  ∀ c d, rawsOf (toksOf (tk.stream c d).1) ++ (tk.stream c d).2.1 = d

/-- what one call of `filter` does with the tokens of `stream c d`, as `filterHtml` computes it:
`todo` = the tokens it processes, `all` = the tokens before the first cut one (`todo` plus a held text containing `<`),
`tail` = what it keeps in `last_buffer` (without the pending incomplete character), `rem` = the part of `tail` after
`all` (cut token and remainder), `ctx'` = the new `last_context` -/
structure View where
  todo : List Tok
  all : List Tok
  tail : Bytes
  rem : Bytes
  ctx' : Bytes
  deriving DecidableEq, Repr

def view (tk : Tokenize) (c d : Bytes) : View :=
  let r := tk.stream c d
  let sp := cutSplit r.1
  let th := if sp.2.isEmpty then splitHeld (toksOf sp.1) else (toksOf sp.1, [])
  { todo := th.1, all := toksOf sp.1, tail := th.2 ++ rawsOf (toksOf sp.2) ++ r.2.1,
    rem := rawsOf (toksOf sp.2) ++ r.2.1, ctx' := heldCtx sp.1 sp.2 th.2 r.2.2 }

theorem rawsOf_cons (t : Tok) (ts : List Tok) : rawsOf (t :: ts) = t.raw ++ rawsOf ts := by
  simp [rawsOf]

theorem rawsOf_append (a b : List Tok) : rawsOf (a ++ b) = rawsOf a ++ rawsOf b := by
  simp [rawsOf]

theorem splitHeld_snoc_held (pre : List Tok) (tl : Tok) (h : tl.kind = .text ∧ hasLt tl.raw = true) :
    splitHeld (pre ++ [tl]) = (pre, tl.raw) := by
  unfold splitHeld
  simp [h.1, h.2]

theorem splitHeld_snoc_not (pre : List Tok) (tl : Tok) (h : ¬ (tl.kind = .text ∧ hasLt tl.raw = true)) :
    splitHeld (pre ++ [tl]) = (pre ++ [tl], []) := by
  unfold splitHeld
  simp only [List.getLast?_append, List.getLast?_singleton, Option.some_or]
  rw [if_neg h]

theorem splitHeld_cases (ts : List Tok) :
    (splitHeld ts = (ts, [])) ∨
    (∃ t, t.kind = .text ∧ ts = (splitHeld ts).1 ++ [t] ∧ (splitHeld ts).2 = t.raw) := by
  rcases List.eq_nil_or_concat ts with rfl | ⟨pre, tl, rfl⟩
  · exact Or.inl rfl
  · rw [List.concat_eq_append]
    by_cases h : tl.kind = .text ∧ hasLt tl.raw = true
    · rw [splitHeld_snoc_held pre tl h]; exact Or.inr ⟨tl, h.1, rfl, rfl⟩
    · exact Or.inl (splitHeld_snoc_not pre tl h)

theorem cutSplit_append (xs : List TokX) : (cutSplit xs).1 ++ (cutSplit xs).2 = xs := by
  unfold cutSplit
  exact List.takeWhile_append_dropWhile

theorem cutSplit_cons_cut (x : TokX) (xs : List TokX) (h : isCut x = true) : cutSplit (x :: xs) = ([], x :: xs) := by
  simp [cutSplit, List.takeWhile, List.dropWhile, h]

theorem cutSplit_cons_ok (x : TokX) (xs : List TokX) (h : isCut x = false) :
    cutSplit (x :: xs) = (x :: (cutSplit xs).1, (cutSplit xs).2) := by
  simp [cutSplit, List.takeWhile, List.dropWhile, h]

theorem toksOf_append (a b : List TokX) : toksOf (a ++ b) = toksOf a ++ toksOf b := by
  simp [toksOf]

theorem mem_takeWhile_true {α : Type} (p : α → Bool) (l : List α) (x : α) (h : x ∈ l.takeWhile p) : p x = true :=
  List.all_eq_true.mp List.all_takeWhile x h

theorem cutSplit_pre_notCut (xs : List TokX) : ∀ x ∈ (cutSplit xs).1, isCut x = false := by
  intro x hx
  have := mem_takeWhile_true _ _ _ hx
  simpa using this

theorem cutSplit_uncut_append : ∀ (pre ys : List TokX), (∀ x ∈ pre, x.cut = false) →
    cutSplit (pre ++ ys) = (pre ++ (cutSplit ys).1, (cutSplit ys).2)
  | [], ys, _ => rfl
  | x :: pre, ys, h => by
    rw [List.cons_append, cutSplit_cons_ok x _ (by rw [isCut, h x List.mem_cons_self]; rfl),
      cutSplit_uncut_append pre ys fun y hy => h y (List.mem_cons_of_mem x hy)]
    rfl

section
variable (tk : Tokenize) (ev : Bytes → Bytes → Bool)

theorem filterHtml_view (s : HtmlSt) (x : Bytes) :
    filterHtml tk ev s x =
      match utf8Split (s.last ++ x) with
      | none => none
      | some (data, pending) =>
        some ({ ((view tk s.ctx data).todo.foldl (stepTok tk ev) (s, [])).1 with
                  last := (view tk s.ctx data).tail ++ pending, ctx := (view tk s.ctx data).ctx' },
              ((view tk s.ctx data).todo.foldl (stepTok tk ev) (s, [])).2) := by
  unfold filterHtml view
  cases utf8Split (s.last ++ x) with
  | none => rfl
  | some r =>
    obtain ⟨data, pending⟩ := r
    simp only [List.append_assoc]

theorem view_cases (c d : Bytes) :
    ((view tk c d).todo = (view tk c d).all ∧ (view tk c d).tail = (view tk c d).rem) ∨
    (∃ t, t.kind = .text ∧ (view tk c d).all = (view tk c d).todo ++ [t] ∧
      (view tk c d).tail = t.raw ++ (view tk c d).rem) := by
  unfold view
  simp only
  split
  · rcases splitHeld_cases (toksOf (cutSplit (tk.stream c d).1).1) with h | ⟨t, h1, h2, h3⟩
    · left; rw [h]; simp
    · right; exact ⟨t, h1, h2, by rw [h3]; simp⟩
  · left; simp

theorem view_all_rem (hl : LosslessS tk) (c d : Bytes) : rawsOf (view tk c d).all ++ (view tk c d).rem = d := by
  have h := hl c d
  have h2 := cutSplit_append (tk.stream c d).1
  unfold view
  simp only
  rw [← List.append_assoc, ← rawsOf_append, ← toksOf_append, h2]
  exact h

theorem view_todo_tail (hl : LosslessS tk) (c d : Bytes) : rawsOf (view tk c d).todo ++ (view tk c d).tail = d := by
  have h := view_all_rem tk hl c d
  rcases view_cases tk c d with ⟨h1, h2⟩ | ⟨t, _, h1, h2⟩
  · rw [h1, h2]; exact h
  · rw [h1] at h
    rw [h2]
    rw [rawsOf_append, rawsOf_cons] at h
    simpa [rawsOf, List.append_assoc] using h

theorem view_todo_sub (c d : Bytes) : ∀ t ∈ (view tk c d).todo, t ∈ (view tk c d).all := by
  intro t ht
  rcases view_cases tk c d with ⟨h1, _⟩ | ⟨t', _, h1, _⟩
  · rw [← h1]; exact ht
  · rw [h1]; simp [ht]

theorem view_all_mem (c d : Bytes) : ∀ t ∈ (view tk c d).all, ∃ x ∈ (tk.stream c d).1, x.tok = t := by
  intro t ht
  unfold view at ht
  simp only [toksOf, List.mem_map] at ht
  obtain ⟨x, hx, rfl⟩ := ht
  refine ⟨x, ?_, rfl⟩
  rw [← cutSplit_append (tk.stream c d).1]
  simp [hx]

end

theorem view_of_nil (tk : Tokenize) (c d : Bytes) (xs pre : List TokX) (rest ctxE : Bytes)
    (hs : tk.stream c d = (xs, rest, ctxE)) (hcs : cutSplit xs = (pre, [])) :
    (view tk c d).todo = (splitHeld (toksOf pre)).1 ∧ (view tk c d).tail = (splitHeld (toksOf pre)).2 ++ rest ∧
    (view tk c d).ctx' = heldCtx pre [] (splitHeld (toksOf pre)).2 ctxE := by
  unfold view
  simp only [hs, hcs, List.isEmpty_nil, if_true, toksOf, List.map_nil, rawsOf, List.flatMap_nil, List.append_nil, and_self]

theorem view_of_cons (tk : Tokenize) (c d : Bytes) (xs pre : List TokX) (x : TokX) (post : List TokX) (rest ctxE : Bytes)
    (hs : tk.stream c d = (xs, rest, ctxE)) (hcs : cutSplit xs = (pre, x :: post)) :
    (view tk c d).todo = toksOf pre ∧ (view tk c d).tail = rawsOf (toksOf (x :: post)) ++ rest ∧
    (view tk c d).ctx' = x.ctx := by
  unfold view
  simp only [hs, hcs, List.isEmpty_cons, Bool.false_eq_true, if_false, List.nil_append, heldCtx, and_self]

theorem view_snoc (tk : Tokenize) (c d : Bytes) (pre : List TokX) (last : TokX) (rest ctxE : Bytes)
    (hs : tk.stream c d = (pre ++ [last], rest, ctxE)) (hpre : ∀ x ∈ pre, x.cut = false) :
    (isCut last = true ∨ (last.tok.kind = .text ∧ hasLt last.tok.raw = true) →
      (view tk c d).todo = toksOf pre ∧ (view tk c d).tail = last.tok.raw ++ rest ∧ (view tk c d).ctx' = last.ctx) ∧
    (isCut last = false → ¬ (last.tok.kind = .text ∧ hasLt last.tok.raw = true) →
      (view tk c d).todo = toksOf pre ++ [last.tok] ∧ (view tk c d).tail = rest ∧ (view tk c d).ctx' = ctxE) := by
  have hcs0 := cutSplit_uncut_append pre [last] hpre
  by_cases hcut : isCut last = true
  · have hc1 : cutSplit [last] = ([], [last]) := cutSplit_cons_cut last [] hcut
    rw [hc1, List.append_nil] at hcs0
    have v := view_of_cons tk c d _ _ last [] _ _ hs hcs0
    refine ⟨fun _ => ⟨v.1, ?_, v.2.2⟩, fun h => by rw [hcut] at h; cases h⟩
    rw [v.2.1]
    simp [toksOf, rawsOf]
  · have hncut : isCut last = false := by simpa using hcut
    have hc1 : cutSplit [last] = ([last], []) := cutSplit_cons_ok last [] hncut
    rw [hc1] at hcs0
    have v := view_of_nil tk c d _ _ _ _ hs hcs0
    rw [toksOf_append, show toksOf [last] = [last.tok] from rfl] at v
    by_cases hheld : last.tok.kind = .text ∧ hasLt last.tok.raw = true
    · rw [splitHeld_snoc_held _ _ hheld] at v
      refine ⟨fun _ => ⟨v.1, v.2.1, ?_⟩, fun _ h => absurd hheld h⟩
      have hne : last.tok.raw.isEmpty = false := by
        cases h : last.tok.raw with
        | nil => rw [h] at hheld; simp [hasLt] at hheld
        | cons _ _ => rfl
      rw [v.2.2]
      simp [heldCtx, hne]
    · rw [splitHeld_snoc_not _ _ hheld] at v
      refine ⟨fun h => ?_, fun _ _ => ⟨v.1, v.2.1, v.2.2⟩⟩
      rcases h with h | h
      · rw [hncut] at h; cases h
      · exact absurd h hheld

/-- merge adjacent text tokens (what the driver compares) -/
def normText : List Tok → List Tok
  | [] => []
  | t :: ts =>
    match normText ts with
    | [] => [t]
    | t' :: r =>
      if t.kind = .text ∧ t'.kind = .text then { kind := .text, raw := t.raw ++ t'.raw, name := [] } :: r
      else t :: t' :: r

/-- token boundaries are character boundaries (stream tokenizer, accepted contexts) -/
def TokValidS (tk : Tokenize) : Prop :=
  ∀ c d, Ctx c → V d → ∀ x ∈ (tk.stream c d).1, V x.tok.raw

def isTagKindX (k : TokKind) : Bool := k == .startTag || k == .endTag || k == .selfClosing

def TagSpanS (tk : Tokenize) : Prop :=
  ∀ c d x, x ∈ (tk.stream c d).1 → isTagKindX x.tok.kind = true → IsSpan x.tok.raw

/-- the contexts the stream tokenizer reports, with each record and at the end (`.2.2`), are accepted contexts -/
def CtxClosed (tk : Tokenize) : Prop :=
  ∀ c d, Ctx c → (∀ x ∈ (tk.stream c d).1, Ctx x.ctx) ∧ Ctx (tk.stream c d).2.2

/-- the restart law with a context, no condition on the cut: tokenising `a1 ++ a'` in context `c` gives — up to merging
of adjacent text tokens, on the tokens before the first cut one — the tokens the filter processed for `a1` followed by the
tokens of `kept tail ++ a'` in the context the filter remembered; the unprocessed rest is the same, the kept tail starts at
a character boundary and the context remembered is an accepted one -/
def RestartLaw (tk : Tokenize) : Prop :=
  ∀ c a1 a', Ctx c → V a1 → V a' →
    normText (view tk c (a1 ++ a')).all =
      normText ((view tk c a1).todo ++ (view tk (view tk c a1).ctx' ((view tk c a1).tail ++ a')).all) ∧
    (view tk c (a1 ++ a')).rem = (view tk (view tk c a1).ctx' ((view tk c a1).tail ++ a')).rem ∧
    V (view tk c a1).tail ∧ Ctx (view tk c a1).ctx'

end Rio.Filter
