/-
The TRANSLATED `HtmlFilterBodyAction::filter` (`Rio.Consts.genHtmlFilter` / `genHtmlFilterLoop` / `genHtmlIsCut`,
tools/consts.d/w9_tr_w25_htmlstep.py) equals the hand-written `Rio.Filter.filterHtml`.

The translated loop walks the token cursor exactly like the Rust (`context`, the inner `while` over held text, the three
exits storing `last_buffer` / `last_context`); the hand model is a closed form (`cutSplit`, `splitHeld`, `foldl stepTok`,
`heldCtx`).  `closed` is that closed form started from any (state, output); the loop is shown equal to it by induction over
the tokens not yet read.  The `g…` definitions instantiate the parameters of the translation at the hand model; `genFilterHtml`
is defined HERE too.
-/
import RioModel.Proofs.FilterStreamLaws
import RioModel.Generated.Consts

namespace Rio.HtmlStepGen
open Rio.Consts Rio.Filter

section
variable (tk : Tokenize) (evaluate : Bytes → Bytes → Bool)

def gRaw (x : TokX) : Bytes := x.tok.raw
/-- the parameter `rawTag`: `tokenizer.raw_tag()` as read before the `next()` that produced the token (`TokX.ctx`) -/
def gTag (x : TokX) : Bytes := x.ctx
def gCut (x : TokX) : Bool := x.cut
def gIsText (x : TokX) : Bool := x.tok.kind == .text
def gPush (so : HtmlSt × Bytes) (d : Bytes) : HtmlSt × Bytes := push so.1 so.2 d
def gDispatch (so : HtmlSt × Bytes) (x : TokX) : HtmlSt × Bytes := stepTok tk evaluate so x.tok
def gGetLast (s : HtmlSt) : Bytes := s.last
def gGetCtx (s : HtmlSt) : Bytes := s.ctx
def gSetLast (s : HtmlSt) (l : Bytes) : HtmlSt := { s with last := l }
def gSetCtx (s : HtmlSt) (c : Bytes) : HtmlSt := { s with ctx := c }
/-- `std::str::from_utf8` as the translation reads it: `none` = Ok, `some (error_len().is_some(), valid_up_to())` (of an invalid
input the translated `match` reads the flag only: any position will do) -/
def gFromUtf8 (d : Bytes) : Option (Bool × Nat) :=
  match utf8Scan d with
  | .ok => none
  | .incomplete n => some (false, n)
  | .invalid => some (true, 0)
/-- `new_fragment` + the cursor; `sp` = how the remainder is divided between `raw()` and `buffered()` at the ErrorToken -/
def gNewFragment (sp : Bytes → Bytes × Bytes) (d c : Bytes) : List TokX × Bytes × Bytes × Bytes :=
  ((tk.stream c d).1, (sp (tk.stream c d).2.1).1, (sp (tk.stream c d).2.1).2, (tk.stream c d).2.2)

/-- the closed form of the hand model from any (state, output): `rest` / `ctxE` = what the tokenizer holds at the ErrorToken and
the context there, `pending` = the incomplete UTF-8 tail cut off before tokenizing -/
def closed (rest ctxE pending : Bytes) (L : List TokX) (so : HtmlSt × Bytes) : HtmlSt × Bytes :=
  let cs := cutSplit L
  let th := if cs.2.isEmpty then splitHeld (toksOf cs.1) else (toksOf cs.1, [])
  let r := th.1.foldl (stepTok tk evaluate) so
  ({ r.1 with last := th.2 ++ rawsOf (toksOf cs.2) ++ rest ++ pending, ctx := heldCtx cs.1 cs.2 th.2 ctxE }, r.2)

theorem filterHtml_closed (s : HtmlSt) (input : Bytes) :
    filterHtml tk evaluate s input =
      match utf8Split (s.last ++ input) with
      | none => none
      | some dp => some (closed tk evaluate (tk.stream s.ctx dp.1).2.1 (tk.stream s.ctx dp.1).2.2 dp.2
                          (tk.stream s.ctx dp.1).1 (s, [])) := by
  unfold filterHtml closed
  cases utf8Split (s.last ++ input) with
  | none => rfl
  | some dp => rfl

theorem genIsCut_eq (x : TokX) : genHtmlIsCut (gCut x) (gIsText x) x.ctx = isCut x := by
  unfold genHtmlIsCut isCut gCut gIsText htmlPlaintext
  cases x.cut <;> cases h : (x.tok.kind == TokKind.text) <;> simp [h, bne] <;>
    (cases hc : x.ctx <;> simp)

theorem genBytesContains_head (c : Nat) (p d : Bytes) : genBytesContains (c :: p) d = true → d.contains c = true := by
  induction d with
  | nil => simp [genBytesContains]
  | cons b t ih =>
    intro h
    simp only [genBytesContains, Bool.or_eq_true] at h
    rcases h with h | h
    · simp [List.isPrefixOf] at h
      simp [h.1]
    · have := ih h
      simp only [List.contains_cons, Bool.or_eq_true]
      exact Or.inr this

/-- the translated test "a text token containing `<`" (`"</"` only occurs where `<` does) is the model's -/
theorem genHeld_eq (x : TokX) :
    (gIsText x && ((gRaw x).contains 60 || genBytesContains [60, 47] (gRaw x))) =
      decide (x.tok.kind = .text ∧ hasLt x.tok.raw = true) := by
  have h : ((gRaw x).contains 60 || genBytesContains [60, 47] (gRaw x)) = hasLt x.tok.raw := by
    unfold hasLt gRaw
    cases h : genBytesContains [60, 47] x.tok.raw
    · simp
    · simpa using genBytesContains_head 60 [47] _ h
  rw [h, gIsText, Bool.decide_and, Bool.decide_eq_true]
  rfl

theorem splitHeld_cons (t u : Tok) (ts : List Tok) :
    splitHeld (t :: u :: ts) = (t :: (splitHeld (u :: ts)).1, (splitHeld (u :: ts)).2) := by
  unfold splitHeld
  rw [List.getLast?_cons_cons]
  cases h : (u :: ts).getLast? with
  | none => simp at h
  | some l =>
    simp only
    split <;> simp [List.dropLast]

theorem stepTok_text (so : HtmlSt × Bytes) (t : Tok) (h : t.kind = .text) :
    stepTok tk evaluate so t = push so.1 so.2 t.raw := by
  obtain ⟨s, o⟩ := so
  simp [stepTok, h]

theorem hasLt_ne_nil (d : Bytes) (h : hasLt d = true) : d.isEmpty = false := by
  cases d with
  | nil => simp [hasLt] at h
  | cons => rfl

theorem closed_cut (rest ctxE pending : Bytes) (x : TokX) (xs : List TokX) (so : HtmlSt × Bytes)
    (h : isCut x = true) :
    closed tk evaluate rest ctxE pending (x :: xs) so =
      ({ so.1 with last := x.tok.raw ++ (xs.flatMap gRaw ++ rest) ++ pending, ctx := x.ctx }, so.2) := by
  unfold closed
  rw [cutSplit_cons_cut x xs h]
  simp [toksOf, rawsOf, heldCtx, List.flatMap_map]
  rfl

theorem closed_single (rest ctxE pending : Bytes) (x : TokX) (so : HtmlSt × Bytes) (h : isCut x = false) :
    closed tk evaluate rest ctxE pending [x] so =
      if x.tok.kind = .text ∧ hasLt x.tok.raw = true then
        ({ so.1 with last := x.tok.raw ++ rest ++ pending, ctx := x.ctx }, so.2)
      else
        ({ (stepTok tk evaluate so x.tok).1 with last := rest ++ pending, ctx := ctxE },
          (stepTok tk evaluate so x.tok).2) := by
  unfold closed
  rw [cutSplit_cons_ok x [] h]
  by_cases hc : x.tok.kind = .text ∧ hasLt x.tok.raw = true
  · have hne := hasLt_ne_nil _ hc.2
    simp [cutSplit, toksOf, splitHeld, hc, rawsOf, heldCtx, hne]
  · simp [cutSplit, toksOf, splitHeld, hc, rawsOf, heldCtx]

theorem closed_cons (rest ctxE pending : Bytes) (x y : TokX) (ys : List TokX) (so : HtmlSt × Bytes)
    (h : isCut x = false) :
    closed tk evaluate rest ctxE pending (x :: y :: ys) so =
      closed tk evaluate rest ctxE pending (y :: ys) (stepTok tk evaluate so x.tok) := by
  unfold closed
  rw [cutSplit_cons_ok x (y :: ys) h]
  have happ := cutSplit_append (y :: ys)
  generalize cutSplit (y :: ys) = cs at happ
  obtain ⟨p, q⟩ := cs
  cases q with
  | nil =>
    simp only [List.append_nil] at happ
    subst happ
    simp only [List.isEmpty_nil, if_true, toksOf, List.map_cons]
    rw [splitHeld_cons]
    simp [heldCtx, List.getLast?_cons_cons]
  | cons z q => simp [toksOf, heldCtx]

theorem genLoop_eq (rest errRaw errBuf ctxE pending : Bytes) (hsp : errRaw ++ errBuf = rest) :
    ∀ (xs : List TokX) (x : TokX) (so : HtmlSt × Bytes),
      genHtmlFilterLoop gRaw gTag gCut gIsText gPush (gDispatch tk evaluate) gGetLast gSetLast gSetCtx
          errRaw errBuf ctxE pending x x.ctx xs so =
        closed tk evaluate rest ctxE pending (x :: xs) so := by
  intro xs
  induction xs with
  | nil =>
    intro x so
    unfold genHtmlFilterLoop
    rw [genIsCut_eq, genHeld_eq]
    cases hcut : isCut x
    · rw [closed_single tk evaluate rest ctxE pending x so hcut]
      by_cases hc : x.tok.kind = .text ∧ hasLt x.tok.raw = true <;>
        simp [hc, gSetLast, gSetCtx, gGetLast, gDispatch, gRaw, ← hsp]
    · rw [closed_cut tk evaluate rest ctxE pending x [] so hcut]
      simp [gSetLast, gSetCtx, gGetLast, gRaw, ← hsp]
  | cons y ys ih =>
    intro x so
    unfold genHtmlFilterLoop
    rw [genIsCut_eq, genHeld_eq]
    cases hcut : isCut x
    · rw [closed_cons tk evaluate rest ctxE pending x y ys so hcut]
      by_cases hc : x.tok.kind = .text ∧ hasLt x.tok.raw = true
      · simp only [hc, and_self, decide_true, Bool.not_false, Bool.and_self, if_true, gTag]
        rw [ih y, gPush, gRaw, stepTok_text tk evaluate so x.tok hc.1]
      · simp only [hc, decide_false, Bool.false_and, Bool.false_eq_true, if_false, gTag]
        rw [ih y]
        rfl
    · rw [closed_cut tk evaluate rest ctxE pending x (y :: ys) so hcut]
      simp [gSetLast, gSetCtx, gGetLast, gRaw, ← hsp]

theorem closed_nil (rest ctxE pending : Bytes) (so : HtmlSt × Bytes) :
    closed tk evaluate rest ctxE pending [] so = ({ so.1 with last := rest ++ pending, ctx := ctxE }, so.2) := by
  simp [closed, cutSplit, toksOf, splitHeld, rawsOf, heldCtx]

/-- the translated `filter`, in the shape of the hand model (`none` = `Err`); that the state is untouched after an `Err` is
`Rio.C03.gen_html_err_state_untouched` (Props/C03gen2.lean) -/
def genFilterHtml (sp : Bytes → Bytes × Bytes) (s : HtmlSt) (input : Bytes) : Option (HtmlSt × Bytes) :=
  let r := genHtmlFilter gRaw gTag gCut gIsText gPush (gDispatch tk evaluate) gGetLast gGetCtx gSetLast gSetCtx
    gFromUtf8 (gNewFragment tk sp) s input
  r.2.map fun o => (r.1, o)

theorem genHtmlFilter_eq (sp : Bytes → Bytes × Bytes) (hsp : ∀ r, (sp r).1 ++ (sp r).2 = r) (s : HtmlSt) (input : Bytes) :
    genHtmlFilter gRaw gTag gCut gIsText gPush (gDispatch tk evaluate) gGetLast gGetCtx gSetLast gSetCtx
        gFromUtf8 (gNewFragment tk sp) s input =
      match filterHtml tk evaluate s input with
      | none => (s, none)
      | some r => (r.1, some r.2) := by
  rw [filterHtml_closed]
  unfold genHtmlFilter utf8Split gFromUtf8 gGetLast
  cases hu : utf8Scan (s.last ++ input) with
  | invalid => simp [hu]
  | ok =>
    simp only [hu, gNewFragment, gGetCtx, gTag]
    cases hx : (tk.stream s.ctx (s.last ++ input)).1 with
    | nil => simp [closed_nil, gSetLast, gSetCtx, hsp]
    | cons x xs =>
      simp only []
      rw [show (fun s : HtmlSt => s.last) = gGetLast from rfl, genLoop_eq tk evaluate _ _ _ _ _ (hsp _)]
  | incomplete n =>
    simp only [hu, gNewFragment, gGetCtx, gTag]
    cases hx : (tk.stream s.ctx ((s.last ++ input).take n)).1 with
    | nil => simp [closed_nil, gSetLast, gSetCtx, hsp]
    | cons x xs =>
      simp only []
      rw [show (fun s : HtmlSt => s.last) = gGetLast from rfl, genLoop_eq tk evaluate _ _ _ _ _ (hsp _)]

theorem genFilterHtml_eq (sp : Bytes → Bytes × Bytes) (hsp : ∀ r, (sp r).1 ++ (sp r).2 = r) (s : HtmlSt) (input : Bytes) :
    genFilterHtml tk evaluate sp s input = filterHtml tk evaluate s input := by
  unfold genFilterHtml
  rw [genHtmlFilter_eq tk evaluate sp hsp]
  cases filterHtml tk evaluate s input <;> rfl

/-- `token_type == html::TokenType::<variant>` on the model's token kinds (comments and doctypes are `other`) -/
def gTokIs (variant : String) (x : TokX) : Bool :=
  if variant = "StartTagToken" then x.tok.kind == .startTag
  else if variant = "EndTagToken" then x.tok.kind == .endTag
  else if variant = "SelfClosingTagToken" then x.tok.kind == .selfClosing
  else if variant = "TextToken" then x.tok.kind == .text
  else false
def gName (x : TokX) : Bytes := x.tok.name
def gOnStart (s : HtmlSt) (n d : Bytes) : HtmlSt × Bytes := onStart s n d
def gOnEnd (s : HtmlSt) (n d : Bytes) : HtmlSt × Bytes := onEnd tk evaluate s n d

theorem genDispatch_eq (so : HtmlSt × Bytes) (x : TokX) :
    genHtmlDispatch gTokIs gRaw gName isVoid gOnStart (gOnEnd tk evaluate) gPush so x = stepTok tk evaluate so x.tok := by
  obtain ⟨s, o⟩ := so
  unfold genHtmlDispatch stepTok gTokIs gRaw gName gOnStart gOnEnd gPush
  -- `simp` decides the tests on the variant's name; the one `if` then left is `is_void` of the start-tag arm (hence `try`)
  cases hk : x.tok.kind <;> simp <;> (try split) <;> simp_all

/-- the translated dispatch is the `dispatch` parameter at which `genLoop_eq` compares the translated loop with the model -/
theorem genDispatch_eq_gDispatch :
    genHtmlDispatch gTokIs gRaw gName isVoid gOnStart (gOnEnd tk evaluate) gPush = gDispatch tk evaluate :=
  funext fun so => funext fun x => genDispatch_eq tk evaluate so x

end
end Rio.HtmlStepGen
