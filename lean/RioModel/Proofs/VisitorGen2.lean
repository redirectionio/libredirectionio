/-
`leave` of the three HTML body visitors (`BodyAppend`, `BodyPrepend`, `BodyReplace`, src/filter/html_body_action/body_*.rs)
TRANSLATED from the source on every run (`Rio.Consts.genBody*Leave`; section `w4_translate_visitor2`,
tools/consts.d/w4_translate_visitor2.py) agrees with the visitor model (`Rio.Filter.Visitor.leave`, Model/Filter.lean), and so does every
sequence of `enter` / `leave` calls (`genRun`).  For `new` (the same section) this file has only the invariant of the state it builds
(`inv_new`); the theorem is `gen_visitor_new_eq_model` of Props/C04gen2.lean.  `genMove`, `genStep`, `genRun` are defined HERE, by hand.

State relation: `Rep tree pos v` of Proofs/VisitorGen.lean (vector + index of the code / zipper of the model).
Parameters of the translated `leave`s: the selector oracle `evaluate` (any function) and the re-tokenising helpers,
instantiated here with the model's `appendChild tk` / `prependChild tk` (any tokenizer `tk`).
The code tests `position as i32 > 0` (`genAsI32`); the model tests `before ≠ []`.  They agree for
`tree.length < 2^31` (hypothesis `hs`, the one `Rio.C07.filter_no_panic` uses); `GenLoop.genAsI32_pos_imp` shows without
any hypothesis that the guard implies `0 < position`, so the truncating `position - 1` of the translation is exact.
Each translated `leave` (`gen*Leave_closed`) and the model's `leave` of each kind are first written component by
component — next_enter, next_leave, returned bytes, new state — around the shared `next_leave` block (`genMove` /
`Visitor.leaveMove`, related by `Rep.move`); the comparison then only rewrites with these equations.  For append the
model's equation is `Visitor.leave_append` of Proofs/FilterHtml.lean; for prepend and replace (`leave_prepend`,
`leave_replace` here) the reset of `is_buffering` is written as ONE record update, as the translated code has it.
That no call changes kind, selector or content is `Visitor.enter_static` / `leave_static` of Proofs/FilterHtml.lean.
-/
import RioModel.Proofs.VisitorGen
import RioModel.Proofs.GenLoop

namespace Rio.VisitorGen
open Rio.Consts Rio.Filter

theorem Rep.pos_iff {tree : List Bytes} {pos : Nat} {v : Visitor} (h : Rep tree pos v) :
    0 < pos ↔ v.before ≠ [] := by
  rw [h.pos_eq]
  cases v.before <;> simp

theorem Rep.retreat {tree : List Bytes} {pos : Nat} {v : Visitor} (h : Rep tree pos v) (hb : v.before ≠ []) :
    Rep tree (pos - 1) v.retreat := by
  unfold Visitor.retreat
  cases hv : v.before with
  | nil => exact absurd hv hb
  | cons b rest =>
    refine ⟨?_, ?_⟩
    · rw [h.tree_eq, hv]; simp
    · rw [h.pos_eq, hv]; simp

theorem Rep.setBuf {tree : List Bytes} {pos : Nat} {v : Visitor} (h : Rep tree pos v) (b : Bool) :
    Rep tree pos { v with isBuffering := b } :=
  ⟨h.tree_eq, h.pos_eq⟩

/-- the `next_leave` block of the three translated `leave`s (`g` = the extra `!self.is_buffering` of replace): new
`position` and `next_leave` -/
def genMove (tree : List Bytes) (pos : Nat) (g : Bool) : Nat × Option Bytes :=
  if (decide (genAsI32 pos > 0) && g) = true then (pos - 1, some ((tree[pos - 1]?).getD [])) else (pos, none)

theorem Rep.move {tree : List Bytes} {pos : Nat} {v : Visitor} (h : Rep tree pos v) (hs : tree.length < 2147483648)
    (g : Bool) : (genMove tree pos g).2 = (v.leaveMove g).1 ∧ Rep tree (genMove tree pos g).1 (v.leaveMove g).2 := by
  have hl := h.len
  -- below 2^31 the code's `position as i32 > 0` is the model's `before ≠ []`
  have hd : decide (genAsI32 pos > 0) = decide (v.before ≠ []) :=
    decide_eq_decide.2 ((GenLoop.genAsI32_pos_iff (n := pos) (by omega)).trans h.pos_iff)
  unfold genMove Visitor.leaveMove
  rw [hd]
  by_cases hb : v.before ≠ [] <;> cases g <;> simp [hb, h]
  exact ⟨(h.retreat hb).cur, h.retreat hb⟩

theorem genLeaveMove_eq {tree : List Bytes} {pos : Nat} {v : Visitor} (h : Rep tree pos v)
    (hs : tree.length < 2147483648) (g : Bool) :
    ((if (decide (genAsI32 pos > 0) && g) = true then (pos - 1, some ((tree[pos - 1]?).getD [])) else (pos, none)) :
        Nat × Option Bytes).2 = (v.leaveMove g).1 ∧
    Rep tree ((if (decide (genAsI32 pos > 0) && g) = true then (pos - 1, some ((tree[pos - 1]?).getD [])) else (pos, none)) :
        Nat × Option Bytes).1 (v.leaveMove g).2 :=
  h.move hs g

theorem Rep.processing {tree : List Bytes} {pos : Nat} {v : Visitor} (h : Rep tree pos v) :
    decide (pos + 1 ≥ tree.length) = decide (v.after = []) :=
  decide_eq_decide.mpr (Nat.not_lt.symm.trans ((not_congr h.more).trans Decidable.not_not))

section
variable (ev : Bytes → Bytes → Bool) (ac pc : Bytes → Bytes → Bytes) (tree : List Bytes) (pos : Nat)
  (sel : Option Bytes) (content data : Bytes) (b : Bool)

theorem genAppendLeave_closed :
    genBodyAppendLeave ev ac tree pos sel content data =
      ((some ((tree[pos]?).getD []), (genMove tree pos true).2,
        if pos + 1 < tree.length then data
        else if sel.isSome && !(sel.getD []).isEmpty then (if ev data (sel.getD []) then data else ac data content)
        else content ++ data),
       (genMove tree pos true).1) := by
  simp only [genBodyAppendLeave, genMove, Bool.and_true]
  generalize (if decide (genAsI32 pos > 0) then _ else _ : Nat × Option Bytes) = m
  -- `simp`, not a fixed list of rewrite rules: the last-level test may be written either way round (early `return`)
  by_cases hl : pos + 1 < tree.length
  · simp [hl, Nat.not_le.mpr hl]
  · cases sel with
    | none => simp [hl, Nat.le_of_not_lt hl]
    | some s =>
      cases he : s.isEmpty <;> by_cases hev : ev data s = true <;> simp [hl, Nat.le_of_not_lt hl, he, hev]

theorem genPrependLeave_closed :
    genBodyPrependLeave ev pc tree pos sel content b data =
      ((some ((tree[pos]?).getD []), (genMove tree pos true).2,
        if b && sel.isSome && !(sel.getD []).isEmpty && !ev data (sel.getD []) then pc data content else data),
       (genMove tree pos true).1, if sel.isSome && !(sel.getD []).isEmpty then false else b) := by
  simp only [genBodyPrependLeave, genMove, Bool.and_true]
  generalize (if decide (genAsI32 pos > 0) then _ else _ : Nat × Option Bytes) = m
  cases b
  · simp
  · cases sel with
    | none => rfl
    | some s =>
      by_cases he : s.isEmpty = true
      · simp [he]
      · by_cases hev : ev data s = true <;> simp [he, hev]

theorem genReplaceLeave_closed :
    genBodyReplaceLeave ev tree pos sel content b data =
      ((some ((tree[pos]?).getD []), (genMove tree pos (!b)).2,
        if b && (sel.isNone || (sel.getD []).isEmpty || ev data (sel.getD [])) then content else data),
       (genMove tree pos (!b)).1, false) := by
  simp only [genBodyReplaceLeave, genMove]
  generalize (if decide (genAsI32 pos > 0) && !b then _ else _ : Nat × Option Bytes) = m
  cases b
  · rfl
  · cases sel with
    | none => rfl
    | some s =>
      by_cases he : s.isEmpty = true
      · simp [he]
      · by_cases hev : ev data s = true <;> simp [he, hev]

end

theorem leaveMove_setBuf (v : Visitor) (g : Bool) :
    { (v.leaveMove g).2 with isBuffering := v.isBuffering } = (v.leaveMove g).2 := by
  rw [← v.leaveMove_isBuffering g]

section
variable (tk : Tokenize) (ev : Bytes → Bytes → Bool) {v : Visitor} (d : Bytes)

theorem leave_prepend (hk : v.kind = .prepend) :
    v.leave tk ev d =
      ((some v.cur, (v.leaveMove true).1,
        if v.isBuffering && v.hasSel && !ev d v.selector then prependChild tk d v.content else d),
       { (v.leaveMove true).2 with isBuffering := if v.hasSel then false else v.isBuffering }) := by
  rw [Visitor.leave]
  simp only [hk]
  cases hh : v.hasSel
  · rw [Bool.and_false, ← leaveMove_setBuf v true]; rfl
  · cases hb : v.isBuffering
    · rw [← leaveMove_setBuf v true, hb]; rfl
    · by_cases hev : ev d v.selector = true <;> simp [hev]

theorem leave_replace (hk : v.kind = .replace) :
    v.leave tk ev d =
      ((some v.cur, (v.leaveMove (!v.isBuffering)).1,
        if v.isBuffering && (!v.hasSel || ev d v.selector) then v.content else d),
       { (v.leaveMove (!v.isBuffering)).2 with isBuffering := false }) := by
  rw [Visitor.leave]
  simp only [hk]
  cases hb : v.isBuffering
  · rw [← leaveMove_setBuf v (!false), hb]; rfl
  · by_cases hev : ev d v.selector = true <;> cases v.hasSel <;> simp [hev]

end

theorem genAppendLeave_eq (tk : Tokenize) (ev : Bytes → Bytes → Bool) {tree : List Bytes} {pos : Nat} {v : Visitor}
    (hk : v.kind = .append) (h : Rep tree pos v) (hs : tree.length < 2147483648) (data : Bytes) :
    (genBodyAppendLeave ev (appendChild tk) tree pos v.sel v.content data).1 = (v.leave tk ev data).1 ∧
    Rep tree (genBodyAppendLeave ev (appendChild tk) tree pos v.sel v.content data).2 (v.leave tk ev data).2 := by
  have hm := h.move hs true
  rw [genAppendLeave_closed, v.leave_append tk ev data hk, h.cur, hm.1]
  refine ⟨?_, hm.2⟩
  by_cases ha : v.after = []
  · rw [if_neg (mt h.more.mp (not_not_intro ha)), if_pos ha, hasSel_eq, Visitor.selector]
    cases ev data (v.sel.getD []) <;> rfl
  · rw [if_pos (h.more.mpr ha), if_neg ha]

theorem genPrependLeave_eq (tk : Tokenize) (ev : Bytes → Bytes → Bool) {tree : List Bytes} {pos : Nat} {v : Visitor}
    (hk : v.kind = .prepend) (h : Rep tree pos v) (hs : tree.length < 2147483648) (data : Bytes) :
    (genBodyPrependLeave ev (prependChild tk) tree pos v.sel v.content v.isBuffering data).1 = (v.leave tk ev data).1 ∧
    Rep tree (genBodyPrependLeave ev (prependChild tk) tree pos v.sel v.content v.isBuffering data).2.1
      (v.leave tk ev data).2 ∧
    (genBodyPrependLeave ev (prependChild tk) tree pos v.sel v.content v.isBuffering data).2.2 =
      (v.leave tk ev data).2.isBuffering := by
  have hm := h.move hs true
  rw [genPrependLeave_closed, leave_prepend tk ev data hk, h.cur, hm.1, hasSel_eq, Visitor.selector]
  exact ⟨by simp only [Bool.and_assoc], hm.2.setBuf _, rfl⟩

theorem genReplaceLeave_eq (tk : Tokenize) (ev : Bytes → Bytes → Bool) {tree : List Bytes} {pos : Nat} {v : Visitor}
    (hk : v.kind = .replace) (h : Rep tree pos v) (hs : tree.length < 2147483648) (data : Bytes) :
    (genBodyReplaceLeave ev tree pos v.sel v.content v.isBuffering data).1 = (v.leave tk ev data).1 ∧
    Rep tree (genBodyReplaceLeave ev tree pos v.sel v.content v.isBuffering data).2.1 (v.leave tk ev data).2 ∧
    (genBodyReplaceLeave ev tree pos v.sel v.content v.isBuffering data).2.2 = (v.leave tk ev data).2.isBuffering := by
  have hm := h.move hs (!v.isBuffering)
  rw [genReplaceLeave_closed, leave_replace tk ev data hk, h.cur, hm.1, not_hasSel_eq, Visitor.selector]
  exact ⟨rfl, hm.2.setBuf _, rfl⟩

/-- one call of the visitor by `HtmlFilterBodyAction` -/
inductive VOp where
  | enter (data : Bytes)
  | leave (data : Bytes)

/-- what a call returns, in a common shape: (next_enter, next_leave, start buffering (`enter` only), data) -/
abbrev VOut := Option Bytes × Option Bytes × Option Bool × Bytes

def modelStep (tk : Tokenize) (ev : Bytes → Bytes → Bool) (v : Visitor) : VOp → VOut × Visitor
  | .enter d => ((( v.enter d).1.1, (v.enter d).1.2.1, some (v.enter d).1.2.2.1, (v.enter d).1.2.2.2), (v.enter d).2)
  | .leave d => (((v.leave tk ev d).1.1, (v.leave tk ev d).1.2.1, none, (v.leave tk ev d).1.2.2), (v.leave tk ev d).2)

/-- one call on the TRANSLATED code; the mutable state of the code is (`position`, `is_buffering`) — `BodyAppend` has no
`is_buffering` field: the component is carried along unchanged -/
def genStep (tk : Tokenize) (ev : Bytes → Bytes → Bool) (kind : VKind) (tree : List Bytes) (sel : Option Bytes)
    (content : Bytes) (st : Nat × Bool) : VOp → VOut × (Nat × Bool)
  | .enter d =>
    match kind with
    | .append =>
      let r := genBodyAppendEnter tree st.1 sel content d
      ((r.1.1, r.1.2.1, some r.1.2.2.1, r.1.2.2.2), (r.2, st.2))
    | .prepend =>
      let r := genBodyPrependEnter tree st.1 sel content st.2 d
      ((r.1.1, r.1.2.1, some r.1.2.2.1, r.1.2.2.2), r.2)
    | .replace =>
      let r := genBodyReplaceEnter tree st.1 sel content st.2 d
      ((r.1.1, r.1.2.1, some r.1.2.2.1, r.1.2.2.2), r.2)
  | .leave d =>
    match kind with
    | .append =>
      let r := genBodyAppendLeave ev (appendChild tk) tree st.1 sel content d
      ((r.1.1, r.1.2.1, none, r.1.2.2), (r.2, st.2))
    | .prepend =>
      let r := genBodyPrependLeave ev (prependChild tk) tree st.1 sel content st.2 d
      ((r.1.1, r.1.2.1, none, r.1.2.2), r.2)
    | .replace =>
      let r := genBodyReplaceLeave ev tree st.1 sel content st.2 d
      ((r.1.1, r.1.2.1, none, r.1.2.2), r.2)

def modelRun (tk : Tokenize) (ev : Bytes → Bytes → Bool) (v : Visitor) : List VOp → List VOut × Visitor
  | [] => ([], v)
  | op :: ops =>
    let r := modelStep tk ev v op
    let rs := modelRun tk ev r.2 ops
    (r.1 :: rs.1, rs.2)

def genRun (tk : Tokenize) (ev : Bytes → Bytes → Bool) (kind : VKind) (tree : List Bytes) (sel : Option Bytes)
    (content : Bytes) (st : Nat × Bool) : List VOp → List VOut × (Nat × Bool)
  | [] => ([], st)
  | op :: ops =>
    let r := genStep tk ev kind tree sel content st op
    let rs := genRun tk ev kind tree sel content r.2 ops
    (r.1 :: rs.1, rs.2)

/-- the state relation of `genStep_eq` / `genRun_eq`: `Rep` on the position, the code's fixed `kind`, selector and content are the
visitor's, and `st.2` is its `is_buffering` — not for append, whose code has no such field (`genStep`) -/
structure Inv (kind : VKind) (tree : List Bytes) (sel : Option Bytes) (content : Bytes) (st : Nat × Bool)
    (v : Visitor) : Prop where
  rep : Rep tree st.1 v
  kind_eq : v.kind = kind
  sel_eq : v.sel = sel
  content_eq : v.content = content
  buf_eq : kind ≠ .append → st.2 = v.isBuffering

theorem Inv.next {kind : VKind} {tree : List Bytes} {sel : Option Bytes} {content : Bytes} {st st' : Nat × Bool}
    {v v' : Visitor} (hi : Inv kind tree sel content st v) (hrep : Rep tree st'.1 v') (hf : v'.static = v.static)
    (hb : kind ≠ .append → st'.2 = v'.isBuffering) : Inv kind tree sel content st' v' :=
  ⟨hrep, (kind_of_static hf).trans hi.kind_eq, (congrArg (·.2.1) hf).trans hi.sel_eq,
    (content_of_static hf).trans hi.content_eq, hb⟩

theorem genStep_eq (tk : Tokenize) (ev : Bytes → Bytes → Bool) {kind : VKind} {tree : List Bytes}
    {sel : Option Bytes} {content : Bytes} {st : Nat × Bool} {v : Visitor} (hs : tree.length < 2147483648)
    (hi : Inv kind tree sel content st v) (op : VOp) :
    (genStep tk ev kind tree sel content st op).1 = (modelStep tk ev v op).1 ∧
    Inv kind tree sel content (genStep tk ev kind tree sel content st op).2 (modelStep tk ev v op).2 := by
  have hrep := hi.rep
  have hk := hi.kind_eq
  have hb := hi.buf_eq
  obtain rfl := hi.sel_eq
  obtain rfl := hi.content_eq
  cases op with
  | enter d =>
    have hf := v.enter_static d
    cases kind with
    | append =>
      have h := genAppendEnter_eq hk hrep d
      exact ⟨congrArg (fun r => (r.1, r.2.1, some r.2.2.1, r.2.2.2)) h.1, hi.next h.2 hf (fun hh => absurd rfl hh)⟩
    | prepend =>
      have h := genPrependEnter_eq hk hrep d
      rw [← hb (by simp)] at h
      exact ⟨congrArg (fun r => (r.1, r.2.1, some r.2.2.1, r.2.2.2)) h.1, hi.next h.2.1 hf (fun _ => h.2.2)⟩
    | replace =>
      have h := genReplaceEnter_eq hk hrep d
      rw [← hb (by simp)] at h
      exact ⟨congrArg (fun r => (r.1, r.2.1, some r.2.2.1, r.2.2.2)) h.1, hi.next h.2.1 hf (fun _ => h.2.2)⟩
  | leave d =>
    have hf := v.leave_static tk ev d
    cases kind with
    | append =>
      have h := genAppendLeave_eq tk ev hk hrep hs d
      exact ⟨congrArg (fun r => (r.1, r.2.1, none, r.2.2)) h.1, hi.next h.2 hf (fun hh => absurd rfl hh)⟩
    | prepend =>
      have h := genPrependLeave_eq tk ev hk hrep hs d
      rw [← hb (by simp)] at h
      exact ⟨congrArg (fun r => (r.1, r.2.1, none, r.2.2)) h.1, hi.next h.2.1 hf (fun _ => h.2.2)⟩
    | replace =>
      have h := genReplaceLeave_eq tk ev hk hrep hs d
      rw [← hb (by simp)] at h
      exact ⟨congrArg (fun r => (r.1, r.2.1, none, r.2.2)) h.1, hi.next h.2.1 hf (fun _ => h.2.2)⟩

theorem genRun_eq (tk : Tokenize) (ev : Bytes → Bytes → Bool) {kind : VKind} {tree : List Bytes}
    {sel : Option Bytes} {content : Bytes} (hs : tree.length < 2147483648) (ops : List VOp) :
    ∀ {st : Nat × Bool} {v : Visitor}, Inv kind tree sel content st v →
      (genRun tk ev kind tree sel content st ops).1 = (modelRun tk ev v ops).1 ∧
      Inv kind tree sel content (genRun tk ev kind tree sel content st ops).2 (modelRun tk ev v ops).2 := by
  induction ops with
  | nil => intro st v hi; exact ⟨rfl, hi⟩
  | cons op ops ih =>
    intro st v hi
    have h1 := genStep_eq tk ev hs hi op
    have h2 := ih h1.2
    simp only [genRun, modelRun]
    exact ⟨by rw [h1.1, h2.1], h2.2⟩

theorem inv_new (kind : VKind) (p : Bytes) (ps : List Bytes) (sel : Option Bytes) (content : Bytes) :
    Inv kind (p :: ps) sel content (0, false)
      { kind := kind, cur := p, after := ps, sel := sel, content := content } :=
  ⟨rep_new kind p ps sel content, rfl, rfl, rfl, fun _ => rfl⟩

end Rio.VisitorGen
