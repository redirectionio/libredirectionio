/-
Router proofs: the association list that stands for a regex tree at specification level is an instance of `TreeSpec`
(the laws are consistent).  Nothing else uses `TreeSpec`: the tree model of C08 is tied in through `MLaws`.
-/
import RioModel.Proofs.RouterMap
import RioModel.Model.RouterSpec

namespace Rio.Router

def listTree (V : Type) (pmatch : Pat → String → Bool) : TreeSpec (List ((Pat × String) × V)) V where
  entries := id
  pmatch := pmatch
  empty := []
  insert := fun p id v t => aupsert (fun _ => v) v (p, id) t
  find := fun t h => (t.filter (fun e => pmatch e.1.1 h)).map Prod.snd
  get := fun t p id => alookup (p, id) t
  retain := fun f t => t.filterMap (fun e => (f e.1.2 e.2).map (fun v => (e.1, v)))
  isEmpty := List.isEmpty
  entries_empty := rfl
  entries_insert := by
    intro t p i v hn
    refine ⟨akeys_aupsert_nodup _ _ _ _ hn, ?_⟩
    intro k
    show alookup k (aupsert (fun _ => v) v (p, i) t) = _
    rw [alookup_aupsert]
    rfl
  find_spec := by
    intro t h v
    simp only [id, List.mem_map, List.mem_filter]
    constructor
    · rintro ⟨e, ⟨he, hm⟩, hv⟩; exact ⟨e, he, hm, hv⟩
    · rintro ⟨e, he, hm, hv⟩; exact ⟨e, ⟨he, hm⟩, hv⟩
  get_spec := by intro t p i; rfl
  retain_spec := by
    intro t f k hn
    simp only [id] at hn ⊢
    exact ⟨(akeys_filterMap_val_sublist (fun k v => f k.2 v) t).nodup hn,
      alookup_filterMap_val (fun k v => f k.2 v) t hn k⟩
  isEmpty_spec := by intro t; rfl

end Rio.Router
