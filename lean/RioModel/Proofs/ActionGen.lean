/-
The use-time decision functions of `Action` TRANSLATED from src/action/mod.rs on every run
(`Rio.Consts.genActionGetStatusCode`, `genActionGetFinalStatusCode`, `genActionShouldLogRequest`; section
`w4_translate_action` of Generated/Consts.lean, tools/consts.d/w4_translate_action.py) are the hand-written observers
`Action.getStatusCode`, `Action.getFinalStatusCodeWithFallback`, `Action.shouldLogRequest` (Model/Action.lean).

The translation covers the `match` on the optional sub-rule, the call of the sub-rule's decision function
(`StatusCodeUpdate::get_status_code` / `LogOverride::get_log_override`: parameters here, themselves translated
by tools/consts.d/action.py into `statusGetStatusCode` / `logGetLogOverride`, which the model calls), the
insertion of the attributed rule id into `rules_applied` (`LinkedHashSet::insert`: a parameter, instantiated
with the model's `lhsInsert`), `unwrap_or(allow_log_config)`, and the request-time fallback of
`get_final_status_code_with_fallback` with its two `&mut self` calls.  Not covered: the unit-trace blocks
(skipped when they have exactly the known shape; they only touch the trace object — modelled in Model/UnitTrace.lean, Props/C05b.lean).
`genGetStatusCode`, `genShouldLogRequest`, `genGetFinal`, `genMerge` are defined HERE: the translated functions on the model's `Action`.
-/
import RioModel.Proofs.GenLoop
import RioModel.Model.Action

namespace Rio.ActionGen
open Rio.Consts Rio.Action

/-- `LogOverride::get_log_override` with its third component (`handled`), as the source returns it -/
def getLogOverrideFull (l : LogOverride) (c : Nat) : Option Bool × Option RuleId × Bool :=
  Rio.Consts.logGetLogOverride l.logOverride l.onResponseStatusCodes l.excludeResponseStatusCodes
    l.fallbackLogOverride l.ruleId l.fallbackRuleId c

def genGetStatusCode (a : Action) (c : Nat) : Nat × Action :=
  let r := genActionGetStatusCode StatusCodeUpdate.getStatusCode lhsInsert a.statusCodeUpdate a.rulesApplied c
  (r.1, { a with rulesApplied := r.2 })

def genShouldLogRequest (a : Action) (allowLogConfig : Bool) (c : Nat) : Bool × Action :=
  let r := genActionShouldLogRequest getLogOverrideFull lhsInsert a.logOverride a.rulesApplied allowLogConfig c
  (r.1, { a with rulesApplied := r.2 })

def genGetFinal (a : Action) (c fallback : Nat) : (Nat × Nat) × Action :=
  genActionGetFinalStatusCode genGetStatusCode a c fallback

theorem genGetStatusCode_eq (a : Action) (c : Nat) : genGetStatusCode a c = a.getStatusCode c := by
  obtain ⟨st, hf, bf, rids, tr, ra, lg⟩ := a
  unfold genGetStatusCode Action.getStatusCode genActionGetStatusCode
  cases st with
  | none => rfl
  | some u =>
    simp only
    cases (u.getStatusCode c).2 <;> simp [lhsInsertOpt]

theorem genShouldLogRequest_eq (a : Action) (allow : Bool) (c : Nat) :
    genShouldLogRequest a allow c = a.shouldLogRequest allow c := by
  obtain ⟨st, hf, bf, rids, tr, ra, lg⟩ := a
  unfold genShouldLogRequest Action.shouldLogRequest genActionShouldLogRequest
  cases lg with
  | none => rfl
  | some l =>
    have e1 : (l.getLogOverride c).1 = (getLogOverrideFull l c).1 := rfl
    have e2 : (l.getLogOverride c).2 = (getLogOverrideFull l c).2.1 := rfl
    simp only [e1, e2]
    cases (getLogOverrideFull l c).2.1 <;> cases (getLogOverrideFull l c).1 <;> simp [lhsInsertOpt]

theorem genGetFinal_eq (a : Action) (c fallback : Nat) :
    genGetFinal a c fallback = a.getFinalStatusCodeWithFallback c fallback := by
  unfold genGetFinal genActionGetFinalStatusCode Action.getFinalStatusCodeWithFallback
  have e : genGetStatusCode = fun a c => a.getStatusCode c := by
    funext a c; exact genGetStatusCode_eq a c
  -- today's `if .. else` is the model's after `e`; as a negated test with an early `return` (or the branches swapped): by cases
  first
    | (simp only [e]; done)
    | (simp only [e]
       generalize a.getStatusCode c = r
       obtain ⟨n, a'⟩ := r
       cases hc : (c == 0 && n == 0) <;> simp [hc])

/-! ### `Action::merge` and the loop of `Action::from_routes_rule` (section `w4_translate_merge`)

The translation works on structures GENERATED from the Rust struct definitions (`GenStatusCodeUpdate`,
`GenLogOverride`: fields in declaration order, read from the source on every run); `toGen*` / `ofGen*` carry the model's
records over, field by field and BY NAME (so a reordering of the Rust fields changes nothing, a new field breaks
the build here). -/

def toGenStatus (u : StatusCodeUpdate) : GenStatusCodeUpdate RuleId :=
  { statusCode := u.statusCode, onResponseStatusCodes := u.onResponseStatusCodes,
    excludeResponseStatusCodes := u.excludeResponseStatusCodes, fallbackStatusCode := u.fallbackStatusCode,
    ruleId := u.ruleId, fallbackRuleId := u.fallbackRuleId, unitId := u.unitId, targetHash := u.targetHash }

def ofGenStatus (g : GenStatusCodeUpdate RuleId) : StatusCodeUpdate :=
  { statusCode := g.statusCode, onResponseStatusCodes := g.onResponseStatusCodes,
    excludeResponseStatusCodes := g.excludeResponseStatusCodes, fallbackStatusCode := g.fallbackStatusCode,
    ruleId := g.ruleId, fallbackRuleId := g.fallbackRuleId, unitId := g.unitId, targetHash := g.targetHash }

def toGenLog (l : LogOverride) : GenLogOverride RuleId :=
  { logOverride := l.logOverride, ruleId := l.ruleId, onResponseStatusCodes := l.onResponseStatusCodes,
    excludeResponseStatusCodes := l.excludeResponseStatusCodes, fallbackLogOverride := l.fallbackLogOverride,
    fallbackRuleId := l.fallbackRuleId, unitId := l.unitId }

def ofGenLog (g : GenLogOverride RuleId) : LogOverride :=
  { logOverride := g.logOverride, ruleId := g.ruleId, onResponseStatusCodes := g.onResponseStatusCodes,
    excludeResponseStatusCodes := g.excludeResponseStatusCodes, fallbackLogOverride := g.fallbackLogOverride,
    fallbackRuleId := g.fallbackRuleId, unitId := g.unitId }

theorem ofGen_toGen_status (u : StatusCodeUpdate) : ofGenStatus (toGenStatus u) = u := rfl
theorem ofGen_toGen_log (l : LogOverride) : ofGenLog (toGenLog l) = l := rfl

/-- `Action::merge` does not touch `rules_applied` -/
def genMerge (self other : Action) : Action :=
  let r := genActionMerge lhsInsert
    (self.statusCodeUpdate.map toGenStatus) self.headerFilters self.bodyFilters self.ruleIds self.ruleTraces
    (self.logOverride.map toGenLog)
    (other.statusCodeUpdate.map toGenStatus) other.headerFilters other.bodyFilters other.ruleIds other.ruleTraces
    (other.logOverride.map toGenLog)
  { statusCodeUpdate := r.1.map ofGenStatus, headerFilters := r.2.1, bodyFilters := r.2.2.1, ruleIds := r.2.2.2.1,
    ruleTraces := r.2.2.2.2.1, rulesApplied := self.rulesApplied, logOverride := r.2.2.2.2.2.map ofGenLog }

theorem mergeLoop1_eq {ι φ : Type} (ins : List ι → ι → List ι) (o s : List φ) :
    genActionMergeLoop1 ins o s = s ++ o :=
  (GenLoop.eq_foldl _ (fun _ => rfl) (fun _ _ _ => rfl) o s).trans (GenLoop.foldl_push o s)

theorem mergeLoop2_eq {ι β : Type} (ins : List ι → ι → List ι) (o s : List β) :
    genActionMergeLoop2 ins o s = s ++ o :=
  (GenLoop.eq_foldl _ (fun _ => rfl) (fun _ _ _ => rfl) o s).trans (GenLoop.foldl_push o s)

theorem mergeLoop3_eq {ι : Type} (ins : List ι → ι → List ι) (o s : List ι) :
    genActionMergeLoop3 ins o s = o.foldl ins s :=
  GenLoop.eq_foldl _ (fun _ => rfl) (fun _ _ _ => rfl) o s

theorem mergeLoop4_eq {ι τ : Type} (ins : List ι → ι → List ι) (o s : List τ) :
    genActionMergeLoop4 ins o s = s ++ o :=
  (GenLoop.eq_foldl _ (fun _ => rfl) (fun _ _ _ => rfl) o s).trans (GenLoop.foldl_push o s)

theorem genMerge_eq (self other : Action) : genMerge self other = self.merge other := by
  obtain ⟨st, hf, bf, rids, tr, ra, lg⟩ := self
  obtain ⟨st', hf', bf', rids', tr', ra', lg'⟩ := other
  simp only [genMerge, genActionMerge, Action.merge, mergeLoop1_eq, mergeLoop2_eq, mergeLoop3_eq, mergeLoop4_eq,
    Action.mk.injEq, true_and]
  constructor
  · cases st' with
    | none => cases st <;> simp [mergeStatus, ofGen_toGen_status]
    | some n =>
      cases st with
      | none => simp [mergeStatus, ofGen_toGen_status]
      | some o =>
        simp only [mergeStatus, Option.map_some]
        by_cases hc : (!o.onResponseStatusCodes.isEmpty || n.onResponseStatusCodes.isEmpty) = true
        · simp [toGenStatus, ofGenStatus, hc]
        · simp [toGenStatus, ofGenStatus, hc]
  · cases lg' with
    | none => cases lg <;> simp [mergeLog, ofGen_toGen_log]
    | some n =>
      cases lg with
      | none => simp [mergeLog, ofGen_toGen_log]
      | some o =>
        simp only [mergeLog, Option.map_some]
        by_cases hc : (!o.onResponseStatusCodes.isEmpty || n.onResponseStatusCodes.isEmpty) = true
        · simp [toGenLog, ofGenLog, hc]
        · simp [toGenLog, ofGenLog, hc]

/-- `Action::from_route_rule(route, request)` as the loop sees it: `draw r` is the random number the sampling test of rule `r`
gets; the fourth component, the configuration unit id, only feeds the unit trace, which is not translated (hence `none`) -/
def frr (q : Req) (draw : Rule → Nat) (r : Rule) : Option Action × Bool × Bool × Option String :=
  let x := fromRouteRule r q (draw r)
  (x.1, x.2.1, x.2.2, none)

theorem genLoop_eq (q : Req) (draw : Rule → Nat) (rs : List Rule) (a : Action) :
    genFromRoutesRuleLoop1 (frr q draw) Action.merge rs a = foldRoutes q draw a rs := by
  induction rs generalizing a with
  | nil => rfl
  | cons r rest ih =>
    unfold genFromRoutesRuleLoop1 foldRoutes
    rcases h : fromRouteRule r q (draw r) with ⟨o, reset, stop⟩
    cases o with
    | none => simp [frr, h, ih]
    | some ar => cases reset <;> cases stop <;> simp [frr, h, ih]

/-- `sort` stands for `routes.sort()` and may be any function; with the model's `sortRules` the right-hand side is `fromRoutesRule R q draw` -/
theorem genFromRoutesRule_eq (sort : List Rule → List Rule) (R : List Rule) (q : Req) (draw : Rule → Nat) :
    genFromRoutesRule (frr q draw) genMerge Action.empty sort R = foldRoutes q draw Action.empty (sort R) := by
  rw [funext fun a => funext (genMerge_eq a)]
  unfold genFromRoutesRule
  exact genLoop_eq q draw _ _

/-! ### the selection loops of `filter_headers` / `create_filter_body` (section `w4_translate_select`) -/

def toGenTrace (t : RuleTrace) : GenRuleTrace RuleId :=
  { id := t.id, onResponseStatusCodes := t.onResponseStatusCodes,
    excludeResponseStatusCodes := t.excludeResponseStatusCodes }

def toGenHF (f : HeaderFilterAction) : GenHeaderFilterAction HeaderFilter RuleId :=
  { filter := f.filter, onResponseStatusCodes := f.onResponseStatusCodes,
    excludeResponseStatusCodes := f.excludeResponseStatusCodes, ruleId := f.ruleId }

def toGenBF (f : BodyFilterAction) : GenBodyFilterAction BodyFilter RuleId :=
  { filter := f.filter, onResponseStatusCodes := f.onResponseStatusCodes,
    excludeResponseStatusCodes := f.excludeResponseStatusCodes, ruleId := f.ruleId }

/-- the steps of the model's folds (`Action.filterHeaders`, `Action.createFilterBody`) -/
def traceStep (c : Nat) (s : List RuleId) (t : RuleTrace) : List RuleId :=
  if traceApplies t.onResponseStatusCodes t.excludeResponseStatusCodes c then lhsInsert s t.id else s

def headerStep (c : Nat) (st : List HeaderFilter × List RuleId) (f : HeaderFilterAction) :
    List HeaderFilter × List RuleId :=
  if filterSkipped f.onResponseStatusCodes f.excludeResponseStatusCodes c then st
  else (st.1 ++ [f.filter], lhsInsertOpt st.2 f.ruleId)

def bodyStep (c : Nat) (st : List BodyFilter × List RuleId) (f : BodyFilterAction) :
    List BodyFilter × List RuleId :=
  if filterSkipped f.onResponseStatusCodes f.excludeResponseStatusCodes c then st
  else (st.1 ++ [f.filter], lhsInsertOpt st.2 f.ruleId)

theorem traceLoop_eq (c : Nat) (ts : List RuleTrace) (s : List RuleId) :
    genActionSelectHeaderFiltersLoop1 lhsInsert c (ts.map toGenTrace) s = ts.foldl (traceStep c) s :=
  GenLoop.map_eq_foldl id toGenTrace (traceStep c) (fun _ => rfl) (fun t r s => by
    simp only [genActionSelectHeaderFiltersLoop1, toGenTrace, id]
    by_cases h1 : t.onResponseStatusCodes.isEmpty = true <;> by_cases h2 : t.excludeResponseStatusCodes = true <;>
      by_cases h3 : c ∈ t.onResponseStatusCodes <;>
      simp [traceStep, traceApplies, h1, h2, h3]) ts s

/-- One turn of the second loop of `filter_headers`, on ANY generated record.  Proved by running through the three tests the
guard reads and the optional id, so every way of writing the guard (two `continue`s, one `==`, a negated test) and either order
of the two statements is accepted. -/
theorem headerLoop_cons {φ : Type} (c : Nat) (g : GenHeaderFilterAction φ RuleId)
    (rest : List (GenHeaderFilterAction φ RuleId)) (s : List RuleId) (xs : List φ) :
    genActionSelectHeaderFiltersLoop2 lhsInsert c (g :: rest) s xs =
      bif filterSkipped g.onResponseStatusCodes g.excludeResponseStatusCodes c then
        genActionSelectHeaderFiltersLoop2 lhsInsert c rest s xs
      else genActionSelectHeaderFiltersLoop2 lhsInsert c rest (lhsInsertOpt s g.ruleId) (xs ++ [g.filter]) := by
  rw [genActionSelectHeaderFiltersLoop2]
  unfold filterSkipped lhsInsertOpt
  cases g.onResponseStatusCodes.isEmpty <;> cases g.excludeResponseStatusCodes <;>
    cases g.onResponseStatusCodes.contains c <;> cases g.ruleId <;> rfl

theorem headerLoop_eq (c : Nat) (fs : List HeaderFilterAction) (s : List RuleId) (xs : List HeaderFilter) :
    genActionSelectHeaderFiltersLoop2 lhsInsert c (fs.map toGenHF) s xs =
      ((fs.foldl (headerStep c) (xs, s)).2, (fs.foldl (headerStep c) (xs, s)).1) :=
  GenLoop.map_eq_foldl (L := fun l t => genActionSelectHeaderFiltersLoop2 lhsInsert c l t.1 t.2) Prod.swap toGenHF
    (headerStep c) (fun _ => rfl) (fun f r st => by
      rw [headerLoop_cons, headerStep]
      simp only [toGenHF]
      cases filterSkipped f.onResponseStatusCodes f.excludeResponseStatusCodes c <;> rfl) fs (xs, s)

/-- The same turn of the loop of `create_filter_body`. -/
theorem bodyLoop_cons {β : Type} (c : Nat) (g : GenBodyFilterAction β RuleId)
    (rest : List (GenBodyFilterAction β RuleId)) (s : List RuleId) (xs : List β) :
    genActionCreateFilterBodyLoop1 lhsInsert c (g :: rest) s xs =
      bif filterSkipped g.onResponseStatusCodes g.excludeResponseStatusCodes c then
        genActionCreateFilterBodyLoop1 lhsInsert c rest s xs
      else genActionCreateFilterBodyLoop1 lhsInsert c rest (lhsInsertOpt s g.ruleId) (xs ++ [g.filter]) := by
  rw [genActionCreateFilterBodyLoop1]
  unfold filterSkipped lhsInsertOpt
  cases g.onResponseStatusCodes.isEmpty <;> cases g.excludeResponseStatusCodes <;>
    cases g.onResponseStatusCodes.contains c <;> cases g.ruleId <;> rfl

theorem bodyLoop_eq (c : Nat) (fs : List BodyFilterAction) (s : List RuleId) (xs : List BodyFilter) :
    genActionCreateFilterBodyLoop1 lhsInsert c (fs.map toGenBF) s xs =
      ((fs.foldl (bodyStep c) (xs, s)).2, (fs.foldl (bodyStep c) (xs, s)).1) :=
  GenLoop.map_eq_foldl (L := fun l t => genActionCreateFilterBodyLoop1 lhsInsert c l t.1 t.2) Prod.swap toGenBF
    (bodyStep c) (fun _ => rfl) (fun f r st => by
      rw [bodyLoop_cons, bodyStep]
      simp only [toGenBF]
      cases filterSkipped f.onResponseStatusCodes f.excludeResponseStatusCodes c <;> rfl) fs (xs, s)

/-- the pair: the filters handed to `FilterHeaderAction::new` and the new `rules_applied`; `add` (`add_rule_ids_header`) is on the
right only: it decides the model's `ruleIdsHeader` alone, which is built after the selection -/
theorem genSelectHeaderFilters_eq (a : Action) (c : Nat) (add : Bool) :
    genActionSelectHeaderFilters lhsInsert c (a.ruleTraces.map toGenTrace) (a.headerFilters.map toGenHF)
        a.rulesApplied =
      ((a.filterHeaders c add).filters, (a.filterHeaders c add).action.rulesApplied) := by
  simp only [genActionSelectHeaderFilters, traceLoop_eq, headerLoop_eq, Action.filterHeaders]
  rfl

/-- `newBody`, `isEmptyBody`: `FilterBodyAction::new` / `is_empty`, parameters of the translation -/
theorem genCreateFilterBody_eq {κ : Type} (newBody : List BodyFilter → κ) (isEmptyBody : κ → Bool)
    (a : Action) (c : Nat) :
    genActionCreateFilterBody lhsInsert c newBody isEmptyBody (a.bodyFilters.map toGenBF) a.rulesApplied =
      ((if isEmptyBody (newBody (a.createFilterBody c).1) then none else some (newBody (a.createFilterBody c).1)),
       (a.createFilterBody c).2.rulesApplied) := by
  simp only [genActionCreateFilterBody, bodyLoop_eq, Action.createFilterBody]
  have e : (fun (st : List BodyFilter × List RuleId) (f : BodyFilterAction) =>
      if filterSkipped f.onResponseStatusCodes f.excludeResponseStatusCodes c = true then st
      else (st.1 ++ [f.filter], lhsInsertOpt st.2 f.ruleId)) = bodyStep c := rfl
  simp only [e]
  split <;> rfl

end Rio.ActionGen
