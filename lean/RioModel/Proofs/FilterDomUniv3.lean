/-
C15, byte level, universal form on `Simple2` with the no-op domain: every filter of the chain is either in its
domain `InDomain htmlTokenize vtP` on the document it sees, or one of its path names stands in no tag of that document
(`NoOp vtP`, Proofs/FilterDomNoop.lean: the filter is the identity, as is the reference edit).
-/
import RioModel.Proofs.FilterDomUniv2
import RioModel.Proofs.FilterDomNoop

namespace Rio.Filter
open Rio.Html Rio.Html.Tokenizer Rio.Consts

def StepsSimple3 (L : Laws) (ev : Bytes → Bytes → Bool) : List Node → List BodyFilter → Prop
  | _, [] => True
  | d, f :: fs =>
    Simple2L L d ∧ utf8Split (serializeList d) = some (serializeList d, []) ∧ NoHeld2 d ∧
    (InDomain htmlTokenize vtP d f ∨ NoOp vtP d f) ∧
    (fs ≠ [] → serializeList (editD (decOf ev) d f) ≠ []) ∧ StepsSimple3 L ev (editD (decOf ev) d f) fs

theorem stepsOK3_of_simple3 (L : Laws) (ev : Bytes → Bytes → Bool) :
    ∀ (fs : List BodyFilter) (d : List Node), StepsSimple3 L ev d fs → StepsOK3 vtP htmlTokenize ev d fs
  | [], _, _ => trivial
  | f :: fs, d, h => by
    obtain ⟨hs, hu, hh, hd, hne, hrest⟩ := h
    exact ⟨hd, tokAgree2_of_laws L d hs hu hh, hne, stepsOK3_of_simple3 L ev fs _ hrest⟩

def stepsSimple3B (ev : Bytes → Bytes → Bool) : List Node → List BodyFilter → Bool
  | _, [] => true
  | d, f :: fs =>
    simple2LB d && decide (utf8Split (serializeList d) = some (serializeList d, [])) && decide (NoHeld2 d) &&
    (inDomainB htmlTokenize vtP d f || noOpB vtP d f) &&
    (fs.isEmpty || !(serializeList (editD (decOf ev) d f)).isEmpty) &&
    stepsSimple3B ev (editD (decOf ev) d f) fs

theorem stepsSimple3B_sound (ev : Bytes → Bytes → Bool) : ∀ (fs : List BodyFilter) (d : List Node),
    stepsSimple3B ev d fs = true → StepsSimple3 simpleLaws ev d fs
  | [], _, _ => trivial
  | f :: fs, d, h => by
    unfold stepsSimple3B at h
    simp only [Bool.and_eq_true, Bool.or_eq_true, Bool.not_eq_true', List.isEmpty_eq_false_iff, List.isEmpty_iff,
      decide_eq_true_eq] at h
    obtain ⟨⟨⟨⟨⟨h1, h2⟩, hh⟩, h3⟩, h4⟩, h5⟩ := h
    exact ⟨simple2LB_sound d h1, h2, hh, h3.imp (inDomainB_sound htmlTokenize vtP) (noOpB_sound vtP),
      h4.resolve_left, stepsSimple3B_sound ev fs _ h5⟩

theorem stepsSimple3B_of_2B (ev : Bytes → Bytes → Bool) : ∀ (fs : List BodyFilter) (d : List Node),
    stepsSimple2B ev d fs = true → stepsSimple3B ev d fs = true
  | [], _, _ => rfl
  | f :: fs, d, h => by
    unfold stepsSimple2B at h
    unfold stepsSimple3B
    simp only [Bool.and_eq_true] at h ⊢
    obtain ⟨⟨⟨⟨⟨h1, h2⟩, hh⟩, h3⟩, h4⟩, h5⟩ := h
    exact ⟨⟨⟨⟨⟨h1, h2⟩, hh⟩, by simp [h3]⟩, h4⟩, stepsSimple3B_of_2B ev fs _ h5⟩

end Rio.Filter
