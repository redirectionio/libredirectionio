/-
Property C02: the TRANSLATED top-level operations of `Router<T>` (`Rio.Consts.genRouter*`, generated from
src/router/mod.rs and src/api/rules_message.rs by tools/consts.d/w9_tr_w33_router_top.py) instantiated with the operations
of the hand-written model `RouterG O` (Model/RouterLayers.lean), for EVERY outermost matcher `O : MOps`.

Instantiation of the abstract parameters (the `routes` id map is the association list of the model):
  matcherInsert / matcherRemove / matcherBatchRemove := `O.insert` / `O.remove` / `O.batchRemove`
  routeId := `Route.id`;  routesInsert k v := `aupsert (fun _ => v) v k` (`HashMap::insert`: replace or add)
  routesGet := `alookup`;  routesContainsKey k m := `(alookup k m).isSome`;  routesRemove k := filter (key ≠ k)
  routesRetain f := filter (fun e => f e.1 e.2);  routesLen := `List.length`
  idsContains := `List.contains`;  idsExtend := `++` (a `HashSet` as the list of its elements; only membership is observed)
  intoRoute := any `conv : τ → γ → Route` (`Rule::into_route`: abstract);  routerClone := `id`: `#[derive(Clone)]` copies the matcher
  tower and the id map by value; what two clones share AND write, the capture-regex cells behind the routes' `Arc`s, is not read
  here (Model/RouterShare.lean has them; `Rio.C02.update_existing_router_isolated_gen` is stated against that model).
-/
import RioModel.Model.RouterLayers
import RioModel.Generated.Consts

namespace Rio.Router
open Rio.Consts

namespace TopGen

def rInsert (k : String) (v : Route) (m : List (String × Route)) : List (String × Route) := aupsert (fun _ => v) v k m
def rGet (k : String) (m : List (String × Route)) : Option Route := alookup k m
def rContainsKey (k : String) (m : List (String × Route)) : Bool := (alookup k m).isSome
def rRemove (k : String) (m : List (String × Route)) : List (String × Route) := m.filter (fun e => e.1 != k)
def rRetain (f : String → Route → Bool) (m : List (String × Route)) : List (String × Route) := m.filter (fun e => f e.1 e.2)
def rLen (m : List (String × Route)) : Nat := m.length
def iContains (ids : List String) (id : String) : Bool := ids.contains id
def iExtend (ids : List String) (more : List String) : List String := ids ++ more

variable (O : MOps)

def st (S : RouterG O) : O.M × List (String × Route) := (S.matcher, S.routes)

def tInsertRoute (S : RouterG O) (r : Route) : O.M × List (String × Route) :=
  genRouterInsertRoute O.insert Route.id rInsert S.matcher S.routes r

def tGetRouteById (S : RouterG O) (id : String) : Option Route := genRouterGetRouteById rGet S.routes id

def tRemove (S : RouterG O) (id : String) : Option Route × O.M × List (String × Route) :=
  genRouterRemove O.remove rContainsKey rRemove S.matcher S.routes id

def tLen (S : RouterG O) : Nat := genRouterLen rLen S.routes

def tInsert {τ γ : Type} (conv : τ → γ → Route) (cfg : γ) (S : RouterG O) (x : τ) : O.M × List (String × Route) :=
  genRouterInsert O.insert Route.id rInsert conv cfg S.matcher S.routes x

def tApplyChangeSet {τ γ : Type} (conv : τ → γ → Route) (cfg : γ) (S : RouterG O) (added updated : List τ)
    (removed : List String) : O.M × List (String × Route) :=
  genRouterApplyChangeSet O.insert O.batchRemove Route.id rInsert rRetain iContains iExtend conv cfg
    S.matcher S.routes added updated removed

def tUpdateExisting {τ γ : Type} (conv : τ → γ → Route) (cfg : γ) (S : RouterG O) (added updated : List τ)
    (removed : List String) : O.M × List (String × Route) :=
  genUpdateExistingRouter O.insert O.batchRemove Route.id rInsert rRetain iContains iExtend conv cfg id
    added updated removed (S.matcher, S.routes)

theorem tInsertRoute_eq (S : RouterG O) (r : Route) : tInsertRoute O S r = st O (RouterG.insert O r S) := rfl

theorem tGetRouteById_eq (S : RouterG O) (id : String) : tGetRouteById O S id = RouterG.getRouteById O S id := rfl

theorem tRemove_eq (S : RouterG O) (id : String) :
    tRemove O S id = ((RouterG.remove O id S).2, st O (RouterG.remove O id S).1) := by
  unfold tRemove genRouterRemove RouterG.remove rContainsKey
  by_cases h : (alookup id S.routes).isSome = true
  · simp [h, st, rRemove]
  · simp [h, st]

theorem tLen_eq (S : RouterG O) : tLen O S = RouterG.len O S := rfl

theorem tInsert_eq {τ γ : Type} (conv : τ → γ → Route) (cfg : γ) (S : RouterG O) (x : τ) :
    tInsert O conv cfg S x = st O (RouterG.insert O (conv x cfg) S) := rfl

theorem tApplyChangeSet_eq {τ γ : Type} (conv : τ → γ → Route) (cfg : γ) (S : RouterG O) (added updated : List τ)
    (removed : List String) :
    tApplyChangeSet O conv cfg S added updated removed
      = st O (RouterG.applyChangeSet O (added.map (fun x => conv x cfg)) (updated.map (fun x => conv x cfg)) removed S) := by
  unfold tApplyChangeSet genRouterApplyChangeSet RouterG.applyChangeSet
  simp only [Prod.eta, List.foldl_map]
  -- each `for item in v { self.insert…(item) }` threads the two fields of a model router: one turn commutes with `st`
  rw [← List.foldl_hom (st O) (g₂ := fun p x => genRouterInsert O.insert Route.id rInsert conv cfg p.1 p.2 x) fun _ _ => rfl,
    ← List.foldl_hom (st O) (g₂ := fun p x => genRouterInsertRoute O.insert Route.id rInsert p.1 p.2 (conv x cfg)) fun _ _ => rfl]
  rfl

theorem tUpdateExisting_eq {τ γ : Type} (conv : τ → γ → Route) (cfg : γ) (S : RouterG O) (added updated : List τ)
    (removed : List String) :
    tUpdateExisting O conv cfg S added updated removed
      = st O (RouterG.applyChangeSet O (added.map (fun x => conv x cfg)) (updated.map (fun x => conv x cfg)) removed S) :=
  tApplyChangeSet_eq O conv cfg S added updated removed

end TopGen
end Rio.Router
