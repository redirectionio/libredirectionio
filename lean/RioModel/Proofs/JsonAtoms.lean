/-
Print / parse round trips of the concrete atoms of Model/JsonAtoms.lean (addresses: `parseIp_showIp`; instants:
`parseDt_showDt`, of a `Valid` one), then `request_roundtrip`, `deRequest_wf`, which need them.  The model's `splitOn` /
`joinWith` are Model/LogParse's again (`splitOn_eq_logParse`, `joinWith_eq_joinSep`) and use its lemmas.
-/
import RioModel.Model.JsonAction
import RioModel.Proofs.JsonText
import RioModel.Proofs.LogParse
import RioModel.Proofs.JsonAction

namespace Rio.Json

theorem splitOn_eq_logParse (sep : Char) (s : List Char) : splitOn sep s = LogParse.splitOn sep s := by
  induction s with
  | nil => rfl
  | cons c cs ih => rw [splitOn, LogParse.splitOn, ih]; cases LogParse.splitOn sep cs <;> rfl

theorem joinWith_eq_joinSep (sep : Char) : ∀ fs, joinWith sep fs = LogParse.joinSep sep fs
  | [] => rfl
  | [_] => rfl
  | f :: g :: fs => by rw [joinWith, LogParse.joinSep, joinWith_eq_joinSep sep (g :: fs)]

theorem splitOn_ne_nil (sep : Char) (cs : List Char) : splitOn sep cs ≠ [] :=
  splitOn_eq_logParse sep cs ▸ LogParse.splitOn_ne_nil sep cs

theorem splitOn_of_not_mem (sep : Char) (f : List Char) (h : sep ∉ f) : splitOn sep f = [f] :=
  (splitOn_eq_logParse sep f).trans (LogParse.splitOn_single sep f h)

theorem splitOn_append (sep : Char) (f rest : List Char) (h : sep ∉ f) :
    splitOn sep (f ++ sep :: rest) = f :: splitOn sep rest := by
  rw [splitOn_eq_logParse, splitOn_eq_logParse]; exact LogParse.splitOn_piece sep f h rest

theorem splitOn_joinWith (sep : Char) (fs : List (List Char)) (hne : fs ≠ [])
    (h : ∀ f ∈ fs, sep ∉ f) : splitOn sep (joinWith sep fs) = fs := by
  rw [splitOn_eq_logParse, joinWith_eq_joinSep]; exact LogParse.splitOn_join sep fs hne h

theorem mem_joinWith (sep : Char) (fs : List (List Char)) (c : Char) (hc : c ∈ joinWith sep fs) :
    c = sep ∨ ∃ f ∈ fs, c ∈ f :=
  LogParse.mem_joinSep (joinWith_eq_joinSep sep fs ▸ hc)

theorem sep_mem_joinWith (sep : Char) : ∀ fs : List (List Char), 2 ≤ fs.length → sep ∈ joinWith sep fs
  | _ :: _ :: _, _ => by simp [joinWith]

theorem stripPrefix_append (p rest : List Char) : stripPrefix p (p ++ rest) = some rest := by
  induction p with
  | nil => simp [stripPrefix]
  | cons c t ih => simp [stripPrefix, ih]

theorem digitsToNat_replicate_zero (k : Nat) (ds : List Char) :
    digitsToNat (List.replicate k '0' ++ ds) = digitsToNat ds := by
  unfold digitsToNat
  rw [List.foldl_append, Rio.Util.foldl_inv (· = 0) _ (List.replicate k '0') 0 rfl fun b a ha hb => by
    rw [hb, List.eq_of_mem_replicate ha]; rfl]

theorem padDec_digits (w n : Nat) : ∀ c ∈ padDec w n, isDigit c = true := by
  intro c hc
  simp only [padDec, List.mem_append, List.mem_replicate] at hc
  rcases hc with ⟨_, rfl⟩ | h
  · decide
  · exact natDigits_all_digits n c h

theorem padDec_value (w n : Nat) : digitsToNat (padDec w n) = n := by
  simp [padDec, digitsToNat_replicate_zero, digitsToNat_natDigits]

theorem padDec_length (w n : Nat) (hn : n < 10 ^ w) (hw : 1 ≤ w) : (padDec w n).length = w := by
  have := natDigits_writes.length_le w n hn hw
  simp only [padDec, List.length_append, List.length_replicate]
  omega

theorem padDec_length_ge (w n : Nat) : w ≤ (padDec w n).length := by
  simp only [padDec, List.length_append, List.length_replicate]
  omega

theorem padDec_ne_nil (w n : Nat) : padDec w n ≠ [] := by
  simp [padDec, natDigits_writes.ne_nil n]

theorem padDec_two (n : Nat) (h : n < 100) : padDec 2 n = [digitChar (n / 10), digitChar (n % 10)] := by
  unfold padDec
  rw [natDigits.eq_def]
  by_cases h10 : n < 10
  · rw [if_pos h10, Nat.div_eq_of_lt h10, Nat.mod_eq_of_lt h10]; rfl
  · have : n / 10 < 10 := Nat.div_lt_of_lt_mul h
    rw [if_neg h10, natDigits.eq_def, if_pos this]; rfl

theorem parseDec_of_digits (ds : List Char) (hne : ds ≠ []) (hall : ∀ c ∈ ds, isDigit c = true) :
    parseDec ds = some (digitsToNat ds) := by
  unfold parseDec
  have h1 : ds.isEmpty = false := List.isEmpty_eq_false_iff.2 hne
  have h2 : ds.all isDigit = true := by rw [List.all_eq_true]; exact hall
  simp [h1, h2]

theorem parseDec_padDec (w n : Nat) : parseDec (padDec w n) = some n := by
  rw [parseDec_of_digits _ (padDec_ne_nil w n) (padDec_digits w n), padDec_value]

theorem natDigits_no (n : Nat) (c : Char) (hc : isDigit c = false) : c ∉ natDigits n :=
  fun hm => by rw [natDigits_all_digits n c hm] at hc; cases hc

theorem parseOctet_natDigits (o : UInt8) : parseOctet (natDigits o.toNat) = some o := by
  have hlt : o.toNat < 256 := UInt8.toNat_lt o
  obtain ⟨c, ds, heq, hd, hz, hnz⟩ := natDigits_head o.toNat
  have hlen := natDigits_writes.length_le 3 o.toNat (by omega) (by omega)
  have hall : (natDigits o.toNat).all isDigit = true := by
    rw [List.all_eq_true]; exact natDigits_all_digits o.toNat
  have hval := digitsToNat_natDigits o.toNat
  have hlead : c ≠ '0' ∨ ds = [] := by
    by_cases h0 : o.toNat = 0
    · exact Or.inr (hz h0).2
    · exact Or.inl (hnz h0)
  rw [heq] at hlen hall hval ⊢
  unfold parseOctet
  have hv' : o.toNat ≤ 255 := by omega
  simp only [hlen, hall, hlead, and_self, if_true, hval, UInt8.ofNat_toNat, hv']

theorem parseIpv4_showIpv4 (x : Ipv4) : parseIpv4 (showIpv4 x) = some x := by
  unfold parseIpv4 showIpv4
  rw [splitOn_joinWith '.' _ (by simp) (by
    intro f hf
    simp only [List.mem_cons, List.mem_nil_iff, or_false] at hf
    rcases hf with rfl | rfl | rfl | rfl <;> exact natDigits_no _ '.' rfl)]
  simp [parseOctet_natDigits]

theorem showIpv4_no_colon (x : Ipv4) : ':' ∉ showIpv4 x := by
  intro hm
  rcases mem_joinWith '.' _ ':' hm with h | ⟨f, hf, hcf⟩
  · revert h; decide
  · simp only [List.mem_cons, List.mem_nil_iff, or_false] at hf
    rcases hf with rfl | rfl | rfl | rfl <;> exact natDigits_no _ ':' rfl hcf

theorem showIpv4_has_dot (x : Ipv4) : '.' ∈ showIpv4 x := by
  unfold showIpv4; exact sep_mem_joinWith '.' _ (Nat.le_add_left 2 2)

/-- `parseYear` with its intermediate results named, one hypothesis per step of the reader; `parseYear_showYear` supplies
them one by one.  `parseDt_of_parts` / `parseDt_showDt` go the same way. -/
theorem parseYear_of_parts (c : Char) (r body ds rest : List Char) (n : Nat)
    (hb : (if c = '+' ∨ c = '-' then r else c :: r) = body)
    (htd : takeDigits body = (ds, '-' :: rest)) (hn : parseDec ds = some n) :
    parseYear (c :: r) = some (if c = '-' then -(n : Int) else (n : Int), rest) := by
  simp only [parseYear, hb, htd, hn]

theorem parseYear_showYear (y : Int) (rest : List Char) :
    parseYear (showYear y ++ '-' :: rest) = some (y, rest) := by
  have htd : ∀ n, takeDigits (padDec 4 n ++ '-' :: rest) = (padDec 4 n, '-' :: rest) := fun n =>
    takeDigits_append _ _ (padDec_digits 4 n) (by intro c r h; cases h; decide)
  fun_cases showYear y
  case case1 h1 =>
    cases hp : padDec 4 y.toNat with
    | nil => exact absurd hp (padDec_ne_nil _ _)
    | cons c t =>
      have hd := padDec_digits 4 y.toNat c (by rw [hp]; exact List.mem_cons_self)
      have hm : c ≠ '-' := ne_of_isDigit hd rfl
      rw [List.cons_append, parseYear_of_parts c _ _ _ rest y.toNat
        (if_neg (not_or.mpr ⟨ne_of_isDigit hd rfl, hm⟩)) (by rw [← List.cons_append, ← hp]; exact htd _)
        (parseDec_padDec 4 _), if_neg hm, Int.toNat_of_nonneg h1.1]
  case case2 _ h2 =>
    rw [List.cons_append, parseYear_of_parts '+' _ _ _ rest y.toNat (if_pos (.inl rfl)) (htd _)
      (parseDec_padDec 4 _), if_neg (by decide), Int.toNat_of_nonneg h2]
  case case3 _ h2 =>
    rw [List.cons_append, parseYear_of_parts '-' _ _ _ rest (-y).toNat (if_pos (.inr rfl)) (htd _)
      (parseDec_padDec 4 _), if_pos rfl, Int.toNat_of_nonneg (by omega), Int.neg_neg]

theorem parse2_padDec (sep : Char) (n : Nat) (h : n < 100) (rest : List Char) :
    parse2 sep (padDec 2 n ++ sep :: rest) = some (n, rest) := by
  rw [padDec_two n h]
  have h1 : n / 10 < 10 := by omega
  have h2 : n % 10 < 10 := Nat.mod_lt _ (by omega)
  simp only [parse2, List.cons_append, List.nil_append, isDigit_digitChar _ h1, isDigit_digitChar _ h2,
    and_self, if_true, digitVal_digitChar _ h1, digitVal_digitChar _ h2]
  congr 2
  omega

theorem parseFracNs_padDec (w n : Nat) (hw : w = 3 ∨ w = 6 ∨ w = 9) (hn : n < 10 ^ w) :
    parseFracNs ('.' :: padDec w n ++ ['Z']) = some (n * 10 ^ (9 - w), ['Z']) := by
  have htd := takeDigits_append (padDec w n) ['Z'] (padDec_digits w n) (by intro c r h; cases h; decide)
  have hl := padDec_length w n hn (by omega)
  rw [List.cons_append, parseFracNs]
  simp only [htd, hl, padDec_value]
  rcases hw with rfl | rfl | rfl <;> simp

theorem parseFracNs_showFrac (nano : Nat) (h : nano < 1000000000) :
    parseFracNs (showFrac nano ++ ['Z']) = some (nano, ['Z']) := by
  fun_cases showFrac nano
  case case1 h0 => subst h0; rfl
  case case2 _ h1 =>
    rw [parseFracNs_padDec 3 _ (.inl rfl) (Nat.div_lt_of_lt_mul h), Nat.div_mul_cancel (Nat.dvd_of_mod_eq_zero h1)]
  case case3 _ _ h2 =>
    rw [parseFracNs_padDec 6 _ (.inr (.inl rfl)) (Nat.div_lt_of_lt_mul h), Nat.div_mul_cancel (Nat.dvd_of_mod_eq_zero h2)]
  case case4 => rw [parseFracNs_padDec 9 _ (.inr (.inr rfl)) h, Nat.mul_one]

theorem parseDt_of_parts {cs r1 r2 r3 r4 r6 : List Char} {y : Int} {mo da ho mi ns : Nat} {a b : Char}
    (d : DateTime)
    (h0 : parseYear cs = some (y, r1)) (h1 : parse2 '-' r1 = some (mo, r2))
    (h2 : parse2 'T' r2 = some (da, r3)) (h3 : parse2 ':' r3 = some (ho, r4))
    (h4 : parse2 ':' r4 = some (mi, a :: b :: r6)) (hab : isDigit a = true ∧ isDigit b = true)
    (hf : parseFracNs r6 = some (ns, ['Z']))
    (hd : d = ⟨y, mo, da, ho, mi, digitVal a * 10 + digitVal b, ns⟩)
    (hv : d.Valid) (hcs : showDt d = cs) : parseDt cs = some d := by
  subst hd
  simp only [parseDt, h0, h1, h2, h3, h4, hab, hf, hv, hcs, and_self, if_true]

theorem daysInMonth_le (y : Int) (m : Nat) : daysInMonth y m ≤ 31 := by
  fun_cases daysInMonth y m <;> omega

theorem parseDt_showDt (d : DateTime) (hv : d.Valid) : parseDt (showDt d) = some d := by
  obtain ⟨_, _, _, hmo, _, hda, hho, hmi, hse, hna⟩ := id hv
  have hsec : d.sec < 100 := Nat.lt_of_le_of_lt hse (by decide)
  have h1 : d.sec / 10 < 10 := Nat.div_lt_of_lt_mul hsec
  have h2 : d.sec % 10 < 10 := Nat.mod_lt _ (by decide)
  have hshape : showDt d = showYear d.year ++ '-' :: (padDec 2 d.month ++ '-' :: (padDec 2 d.day ++ 'T' ::
      (padDec 2 d.hour ++ ':' :: (padDec 2 d.min ++ ':' :: (digitChar (d.sec / 10) :: digitChar (d.sec % 10) ::
        (showFrac d.nano ++ ['Z'])))))) := by
    simp only [showDt, padDec_two d.sec hsec, List.append_assoc, List.cons_append, List.nil_append]
  refine parseDt_of_parts d (hshape ▸ parseYear_showYear d.year _)
    (parse2_padDec '-' d.month (Nat.lt_of_le_of_lt hmo (by decide)) _)
    (parse2_padDec 'T' d.day (Nat.lt_of_le_of_lt (Nat.le_trans hda (daysInMonth_le ..)) (by decide)) _)
    (parse2_padDec ':' d.hour (Nat.lt_trans hho (by decide)) _)
    (parse2_padDec ':' d.min (Nat.lt_trans hmi (by decide)) _)
    ⟨isDigit_digitChar _ h1, isDigit_digitChar _ h2⟩
    (parseFracNs_showFrac d.nano hna) ?_ hv rfl
  rw [digitVal_digitChar _ h1, digitVal_digitChar _ h2, Nat.div_add_mod' d.sec 10]

/-- The one branch of the reader that answers is guarded by exactly this check. -/
theorem parseDt_valid (cs : List Char) (d : DateTime) (h : parseDt cs = some d) :
    d.Valid ∧ showDt d = cs := by
  revert h
  fun_cases parseDt cs
  case case6 => intro h; rw [← Option.some.inj h]; assumption -- every part read and the last `if` taken
  all_goals exact nofun

theorem lowerHexVal_digit : ∀ d, d < 16 → lowerHexVal (lowerHexDigit d) = some d := by decide

theorem lowerHexDigit_ne : ∀ d, d < 16 → lowerHexDigit d ≠ ':' ∧ lowerHexDigit d ≠ '.' := by decide

theorem hexDigitsN_writes : WritesBase 16 lowerHexDigit hexDigitsN := fun n => hexDigitsN.eq_def n

theorem hexDigitsN_ne_nil (n : Nat) : hexDigitsN n ≠ [] := hexDigitsN_writes.ne_nil n

theorem parseHexGroup_hexDigitsN (n : Nat) (h : n < 65536) : parseHexGroup (hexDigitsN n) = some n := by
  have h1 : (hexDigitsN n).isEmpty = false := List.isEmpty_eq_false_iff.2 (hexDigitsN_ne_nil n)
  have h2 : ¬ (hexDigitsN n).length > 4 := Nat.not_lt.2 (hexDigitsN_writes.length_le 4 n h (by decide))
  unfold parseHexGroup
  simp only [h1, Bool.false_eq_true, h2, or_self, if_false]
  exact hexDigitsN_writes.foldl (by decide) _ some (fun a d hd => by simp only [lowerHexVal_digit d hd]) n

theorem parseGroups_hexFields (segs : List UInt16) : parseGroups (hexFields segs) = some segs := by
  induction segs with
  | nil => rfl
  | cons s t ih =>
    simp only [parseGroups, hexFields, List.map_cons, List.foldr_cons] at ih ⊢
    rw [ih, parseHexGroup_hexDigitsN _ (UInt16.toNat_lt s)]
    simp only [UInt16.ofNat_toNat]

theorem hexFields_chars (segs : List UInt16) : ∀ f ∈ hexFields segs, ∀ c ∈ f, c ≠ ':' ∧ c ≠ '.' := by
  intro f hf
  obtain ⟨s, _, rfl⟩ := List.mem_map.1 hf
  exact hexDigitsN_writes.all (by decide) _ lowerHexDigit_ne _

/-- `s` marks a run of zero segments of `l`. -/
def ZeroRun (l : List UInt16) (s : Span) : Prop :=
  ∃ pre post, l = pre ++ List.replicate s.len 0 ++ post ∧ pre.length = s.start

theorem ZeroRun.append {l : List UInt16} {s : Span} (h : ZeroRun l s) (m : List UInt16) :
    ZeroRun (l ++ m) s := by
  obtain ⟨pre, post, rfl, hp⟩ := h
  exact ⟨pre, post ++ m, List.append_assoc .., hp⟩

/-- Because `parseIpv6` re-prints, the round trip needs of `zeroSpan` only that it marks zeros, not that the run is the
first longest one.  `current.start` means something only while a run is open (`current.len ≠ 0`; a non-zero segment resets
`current` to `⟨0, 0⟩`), hence the disjunction. -/
theorem zeroSpanLoop_run (segs : List UInt16) : ∀ (done : List UInt16) (longest current : Span),
    ZeroRun done longest →
    (∃ pre, done = pre ++ List.replicate current.len 0 ∧ (current.len = 0 ∨ pre.length = current.start)) →
    ZeroRun (done ++ segs) (zeroSpanLoop segs done.length longest current) := by
  induction segs with
  | nil => intro done longest current h _; simpa [zeroSpanLoop] using h
  | cons s rest ih =>
    intro done longest current hl ⟨pre, hd, hc⟩
    have hlen : done.length + 1 = (done ++ [s]).length := by simp
    rw [show done ++ s :: rest = (done ++ [s]) ++ rest by simp, zeroSpanLoop, hlen]
    by_cases hs : s = 0
    · subst hs
      have hpre : pre.length = if current.len = 0 then done.length else current.start := by
        split
        · next h0 => rw [hd, h0]; simp
        · next h0 => exact hc.resolve_left h0
      have hcur : done ++ [0] = pre ++ List.replicate (current.len + 1) 0 := by
        rw [hd, List.replicate_succ', List.append_assoc]
      refine ih _ _ _ ?_ ⟨pre, hcur, .inr hpre⟩
      by_cases hgt : current.len + 1 > longest.len
      · rw [if_pos hgt]; exact ⟨pre, [], by rw [List.append_nil]; exact hcur, hpre⟩
      · rw [if_neg hgt]; exact hl.append _
    · rw [if_neg hs]
      exact ih _ _ _ (hl.append _) ⟨done ++ [s], by simp, .inl rfl⟩

theorem zeroSpan_run (segs : List UInt16) : ZeroRun segs (zeroSpan segs) := by
  simpa [zeroSpan] using zeroSpanLoop_run segs [] ⟨0, 0⟩ ⟨0, 0⟩ ⟨[], [], rfl, rfl⟩ ⟨[], rfl, .inl rfl⟩

theorem takeWhile_append_stop {α : Type} (p : α → Bool) (l r : List α) (h : ∀ y ∈ l, p y = true)
    (hr : ∀ x ∈ r.head?, p x = false) : (l ++ r).takeWhile p = l ∧ (l ++ r).dropWhile p = r := by
  rw [List.takeWhile_append_of_pos h, List.dropWhile_append_of_pos h]
  cases r with
  | nil => simp
  | cons x r => simp [hr x rfl]

theorem hexFields_ne_marker (s : UInt16) (t : List UInt16) : hexFields (s :: t) ≠ [[]] :=
  fun heq => hexDigitsN_ne_nil _ (List.cons.inj heq).1

theorem nonEmptyP_hexFields (l : List UInt16) : ∀ f ∈ hexFields l, (!f.isEmpty) = true := by
  intro f hf
  obtain ⟨s, _, rfl⟩ := List.mem_map.mp hf
  have := hexDigitsN_ne_nil s.toNat
  cases h : hexDigitsN s.toNat <;> simp_all

theorem decodeFields_hexFields (segs : List UInt16) : decodeFields (hexFields segs) = some segs := by
  obtain ⟨ht, hd⟩ := takeWhile_append_stop (fun f : List Char => !f.isEmpty) (hexFields segs) []
    (nonEmptyP_hexFields segs) (by simp)
  rw [List.append_nil] at ht hd
  rw [decodeFields]
  simp only [ht, hd]
  exact parseGroups_hexFields segs

/-- A text with `::`: the empty field that marks it is doubled when no group precedes it, and `b` is a lone empty field
when none follows.  `hle`: 6 = 8 − 2, `decodeFields` takes `::` for at least two zero groups, and the printer compresses
only such runs (`z.len > 1` in `ipv6Fields`). -/
theorem decodeFields_marker (pre b : List (List Char)) (p q : List UInt16)
    (hpre : ∀ f ∈ pre, (!f.isEmpty) = true) (hp : parseGroups pre = some p)
    (hq : parseGroups (if b = [[]] then [] else b) = some q) (hle : p.length + q.length ≤ 6) :
    decodeFields (pre ++ [] :: (if pre.isEmpty then [] :: b else b)) =
      some (p ++ List.replicate (8 - p.length - q.length) 0 ++ q) := by
  obtain ⟨ht, hd⟩ := takeWhile_append_stop (fun f : List Char => !f.isEmpty) pre
    ([] :: (if pre.isEmpty then [] :: b else b)) hpre (by simp)
  rw [decodeFields]
  simp only [ht, hd]
  cases pre <;> simp [hp, hq, hle]

theorem decodeFields_ipv6Fields (segs : List UInt16) (h8 : segs.length = 8) :
    decodeFields (ipv6Fields segs) = some segs := by
  have hrun := zeroSpan_run segs
  unfold ipv6Fields
  generalize zeroSpan segs = z at hrun ⊢
  obtain ⟨P, Q, rfl, hP⟩ := hrun
  simp only [List.length_append, List.length_replicate] at h8
  dsimp only
  split
  · rw [List.append_assoc P, List.take_left' hP, ← List.append_assoc P,
      List.drop_left' (by rw [List.length_append, List.length_replicate, hP])]
    generalize hB : (if (hexFields Q).isEmpty then [[]] else hexFields Q) = B
    have hq : parseGroups (if B = [[]] then [] else B) = some Q := by
      subst hB
      cases Q with
      | nil => rfl
      | cons s t =>
        rw [show (hexFields (s :: t)).isEmpty = false from rfl, if_neg Bool.false_ne_true,
          if_neg (hexFields_ne_marker s t)]
        exact parseGroups_hexFields _
    have hf : (if (hexFields P).isEmpty then [[]] else hexFields P) ++ [[]] ++ B =
        hexFields P ++ [] :: (if (hexFields P).isEmpty then [] :: B else B) := by
      cases P <;> simp [hexFields]
    rw [hf, decodeFields_marker _ B P Q (nonEmptyP_hexFields P) (parseGroups_hexFields P) hq (by omega)]
    congr; omega
  · exact decodeFields_hexFields _

theorem ipv6Fields_props (segs : List UInt16) (h8 : segs.length = 8) :
    (ipv6Fields segs).length ≥ 2 ∧ ∀ f ∈ ipv6Fields segs, ∀ c ∈ f, c ≠ ':' ∧ c ≠ '.' := by
  have hcase : ∀ (l : List UInt16), ∀ f ∈ (if (hexFields l).isEmpty then [[]] else hexFields l), ∀ c ∈ f,
      c ≠ ':' ∧ c ≠ '.' := by
    intro l f hfl c hc
    split at hfl
    · cases List.mem_singleton.1 hfl; cases hc
    · exact hexFields_chars l f hfl c hc
  fun_cases ipv6Fields segs
  case case1 z _ pre post =>
    refine ⟨?_, fun f hf c hc => ?_⟩
    · have : (if pre.isEmpty then [[]] else pre).length ≥ 1 := by cases pre <;> simp
      simp only [List.length_append, List.length_cons, List.length_nil]
      omega
    · simp only [List.mem_append, List.mem_cons, List.mem_nil_iff, or_false] at hf
      rcases hf with (hf | rfl) | hf
      · exact hcase _ f hf c hc
      · cases hc
      · exact hcase _ f hf c hc
  case case2 => exact ⟨by simp [hexFields, h8], hexFields_chars segs⟩

theorem ipv4Mapped_some (segs : List UInt16) (v : Ipv4) (h : ipv4Mapped segs = some v) :
    ∃ g hh : UInt16, segs = [0, 0, 0, 0, 0, 0xffff, g, hh] ∧
      v = ⟨UInt8.ofNat (g.toNat / 256), UInt8.ofNat (g.toNat % 256),
           UInt8.ofNat (hh.toNat / 256), UInt8.ofNat (hh.toNat % 256)⟩ := by
  unfold ipv4Mapped at h
  split at h
  · rename_i g hh
    exact ⟨g, hh, rfl, (Option.some.inj h).symm⟩
  · cases h

theorem u16_of_bytes (g : UInt16) :
    UInt16.ofNat ((UInt8.ofNat (g.toNat / 256)).toNat * 256 + (UInt8.ofNat (g.toNat % 256)).toNat) = g := by
  have hg : g.toNat < 256 * 256 := UInt16.toNat_lt g
  have e : (2 : Nat) ^ 8 = 256 := rfl
  rw [UInt8.toNat_ofNat', UInt8.toNat_ofNat', e, Nat.mod_eq_of_lt (Nat.div_lt_of_lt_mul hg), Nat.mod_mod,
    Nat.div_add_mod', UInt16.ofNat_toNat]

theorem parseIpv6_showIpv6 (x : Ipv6) : parseIpv6 (showIpv6 x) = some x := by
  obtain ⟨segs, h8⟩ := x
  unfold parseIpv6
  cases hm : ipv4Mapped segs with
  | some v =>
    obtain ⟨g, hh, hsegs, hv⟩ := ipv4Mapped_some segs v hm
    have hshow : showIpv6 ⟨segs, h8⟩ = mappedPrefix ++ showIpv4 v := by simp [showIpv6, hm]
    have hdot : (showIpv6 ⟨segs, h8⟩).contains '.' = true := by
      rw [hshow, List.contains_iff_mem]
      exact List.mem_append_right _ (showIpv4_has_dot v)
    simp only [hdot, if_true]
    have hcs : stripPrefix mappedPrefix (showIpv6 ⟨segs, h8⟩) = some (showIpv4 v) := by
      rw [hshow, stripPrefix_append]
    simp only [hcs, parseIpv4_showIpv4, Option.map_some]
    have hcand : [0, 0, 0, 0, 0, 0xffff, UInt16.ofNat (v.a.toNat * 256 + v.b.toNat),
        UInt16.ofNat (v.c.toNat * 256 + v.d.toNat)] = segs := by
      rw [hsegs, hv]
      simp only [u16_of_bytes]
    simp only [hcand, h8, dite_true, if_true]
  | none =>
    have hshow : showIpv6 ⟨segs, h8⟩ = joinWith ':' (ipv6Fields segs) := by simp [showIpv6, hm]
    obtain ⟨hl, hchars⟩ := ipv6Fields_props segs h8
    have hdot : (showIpv6 ⟨segs, h8⟩).contains '.' = false := by
      rw [hshow]
      rw [Bool.eq_false_iff]
      intro hc
      rw [List.contains_iff_mem] at hc
      rcases mem_joinWith ':' _ '.' hc with h | ⟨f, hf, hcf⟩
      · revert h; decide
      · exact (hchars f hf '.' hcf).2 rfl
    simp only [hdot, Bool.false_eq_true, if_false]
    rw [hshow, splitOn_joinWith ':' _ (by intro h; rw [h] at hl; simp at hl)
      (fun f hf hc => (hchars f hf ':' hc).1 rfl), decodeFields_ipv6Fields segs h8]
    simp only [h8, dite_true, ← hshow, if_true]

theorem showIpv6_has_colon (x : Ipv6) : ':' ∈ showIpv6 x := by
  obtain ⟨segs, h8⟩ := x
  cases hm : ipv4Mapped segs with
  | some v => simp [showIpv6, hm, mappedPrefix]
  | none =>
    have : showIpv6 ⟨segs, h8⟩ = joinWith ':' (ipv6Fields segs) := by simp [showIpv6, hm]
    rw [this]
    exact sep_mem_joinWith ':' _ (ipv6Fields_props segs h8).1

theorem parseIp_showIp (x : Ip) : parseIp (showIp x) = some x := by
  cases x with
  | v4 v => simp [parseIp, showIp, showIpv4_no_colon v, parseIpv4_showIpv4]
  | v6 v => simp [parseIp, showIp, showIpv6_has_colon v, parseIpv6_showIpv6]

theorem readIp_show (P : Codec) (x : Ip) : readIp P (String.ofList (showIp x)) = some x := by
  simp [readIp, String.toList_ofList, parseIp_showIp]

theorem readDt_show (P : Codec) (d : DateTime) (h : d.Valid) :
    readDt P (String.ofList (showDt d)) = some d := by
  simp [readDt, String.toList_ofList, parseDt_showDt d h]

theorem readDt_valid (P : Codec) (s : String) (d : DateTime) (h : readDt P s = some d) : d.Valid := by
  unfold readDt at h
  split at h
  · rename_i d' hd
    cases h
    exact (parseDt_valid _ _ hd).1
  · simp only [Option.bind_eq_some_iff] at h
    obtain ⟨c, _, hc⟩ := h
    exact (parseDt_valid _ _ hc).1

theorem request_roundtrip (P : Codec) (q : Request) (h : q.WF) :
    deRequest P (serRequest q) = some q := by
  have h1 := pathAndQuery_roundtrip q.path_and_query_skipped
  have h2 : deVec deHeader (serVec serHeader q.headers) = some q.headers :=
    deVec_serVec _ _ _ (fun x _ => header_roundtrip x)
  have h3 : deOption (deAtom (readIp P)) (serOption (fun x => .str (String.ofList (showIp x))) q.remote_addr)
      = some q.remote_addr :=
    deOption_serOption _ _ (by intro a h; cases h) _ (fun ip _ => by simp [deAtom, readIp_show])
  have h4 : deOption (deAtom (readDt P)) (serOption (fun d => .str (String.ofList (showDt d))) q.created_at)
      = some q.created_at :=
    deOption_serOption _ _ (by intro a h; cases h) _
      (fun dt hdt => by simp [deAtom, readDt_show P dt (h dt hdt)])
  simp [deRequest, serRequest, reqField_eq, optField_eq, Found.elim_one, find_nil, find_cons_self,
    find_cons_ne, h1, h2, h3, h4]

theorem deRequest_wf (P : Codec) (j : Json) (q : Request) (h : deRequest P j = some q) : q.WF := by
  have atomOpt : ∀ (v : Json) (o : Option DateTime), deOption (deAtom (readDt P)) v = some o →
      ∀ d, o = some d → d.Valid := by
    intro v o hv d hd
    subst hd
    cases v with
    | str s =>
      simp only [deOption, deAtom, Option.map_eq_some_iff] at hv
      obtain ⟨d', hd', hdd⟩ := hv
      cases hdd
      exact readDt_valid P s d hd'
    | null => simp [deOption] at hv
    | _ => simp [deOption, deAtom] at hv
  have atomField : ∀ (kvs : List (String × Json)) (k : String) (o : Option DateTime),
      optField (deAtom (readDt P)) kvs k = some o → ∀ d, o = some d → d.Valid := by
    intro kvs k o hv d hd
    unfold optField at hv
    split at hv
    · simp only [Option.some.injEq] at hv; subst hv; cases hd
    · exact atomOpt _ o hv d hd
    · exact absurd hv (by simp)
  unfold deRequest at h
  split at h
  · simp only [Option.bind_eq_bind, Option.bind_eq_some_iff, Option.pure_def, Option.some.injEq] at h
    obtain ⟨_, _, _, _, _, _, _, _, _, _, _, _, ra, hra, ca, hca, _, _, rfl⟩ := h
    exact atomField _ _ ca hca
  · simp only [Option.bind_eq_bind, Option.bind_eq_some_iff, Option.pure_def, Option.some.injEq] at h
    obtain ⟨_, _, _, _, _, _, _, _, _, _, _, _, ra, hra, ca, hca, _, _, rfl⟩ := h
    exact atomOpt _ ca hca
  · exact absurd h (by simp)

end Rio.Json
