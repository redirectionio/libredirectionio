/-
The use-time observers on the specification's action are the specification's tables, and `rules_applied` is "keep the
last occurrence" of everything inserted.
-/
import RioModel.Proofs.Action

namespace Rio.Action
open Spec

def withApplied (a : Action) (s : List RuleId) : Action := { a with rulesApplied := s }

theorem lhsInsertOpt_eq (s : List RuleId) (o : Option RuleId) :
    lhsInsertOpt s o = o.toList.foldl lhsInsert s := by
  cases o <;> rfl

theorem traceApplies_eq (r : Rule) (c : Nat) : traceApplies (codesOf r) (exclOf r) c = admits r c := by
  unfold traceApplies admits
  cases hc : codesOf r with
  | nil => simp
  | cons x xs => cases exclOf r <;> cases (x :: xs).contains c <;> simp

theorem filterSkipped_eq_not (codes : List Nat) (excl : Bool) (c : Nat) :
    filterSkipped codes excl c = !traceApplies codes excl c := by
  unfold filterSkipped traceApplies
  cases codes.isEmpty <;> cases excl <;> cases codes.contains c <;> rfl

theorem filterSkipped_eq (r : Rule) (c : Nat) : filterSkipped (codesOf r) (exclOf r) c = !admits r c := by
  rw [filterSkipped_eq_not, traceApplies_eq]

/-- The code writes the response-status condition as a chain of `if`s over the same tests
(`z` = at request time, `e` = no code list, `x` = exclude flag, `m` = the code is listed). -/
theorem statusCond_chain {α : Type} (z e x m : Bool) (A B : α) :
    (if (z && e) = true then A else if (x && !m) = true then A else if (!x && m) = true then A else B) =
      if ((z && e) || (if x = true then !m else m)) = true then A else B := by
  cases z <;> cases e <;> cases x <;> cases m <;> rfl

theorem cond_chain {α : Type} (e x m : Bool) (A B : α) :
    (if e = true then A else if (x && !m) = true then A else if (!x && m) = true then A else B) =
      if (e || (if x = true then !m else m)) = true then A else B :=
  statusCond_chain true e x m A B

theorem statusUpdate_table (p : Rule) (fb : Option Rule) (c : Nat) :
    (statusUpdateOf p fb).getStatusCode c =
      if admitsStatus p c then (p.statusCode.getD 0, some p.id)
      else if c == 0 then (0, none)
      else match fb with
        | some f => (f.statusCode.getD 0, some f.id)
        | none => (0, none) := by
  unfold StatusCodeUpdate.getStatusCode Rio.Consts.statusGetStatusCode admitsStatus statusUpdateOf
  -- the translated text's `any (· == c)` / `isEmpty` / `!=` become the table's `contains` / `== []`; then the chain
  simp only [List.any_beq', ← List.beq_nil_eq, statusCond_chain, bne]
  cases fb <;> cases c == 0 <;> rfl

theorem logGetLogOverride_eq (lo : Bool) (codes : List Nat) (excl : Bool) (flo : Option Bool)
    (rid frid : Option RuleId) (c : Nat) :
    Rio.Consts.logGetLogOverride lo codes excl flo rid frid c =
      if codes == [] || (if excl then !codes.contains c else codes.contains c) then (some lo, rid, true)
      else (flo, frid, false) := by
  unfold Rio.Consts.logGetLogOverride
  simp only [List.any_beq', ← List.beq_nil_eq, cond_chain]

theorem logOverride_table (p : Rule) (fb : Option Rule) (c : Nat) :
    (logOverrideOf p fb).getLogOverride c =
      if admits p c then (some (p.logOverride.getD false), some p.id)
      else match fb with
        | some f => (some (f.logOverride.getD false), some f.id)
        | none => (none, none) := by
  unfold LogOverride.getLogOverride logOverrideOf admits
  simp only [logGetLogOverride_eq]
  cases fb <;>
    cases (codesOf p == [] || if exclOf p = true then !(codesOf p).contains c else (codesOf p).contains c) <;>
    rfl

theorem carriesLog_getD {r : Rule} (h : carriesLog r = true) : some (r.logOverride.getD false) = r.logOverride := by
  unfold carriesLog at h
  cases hl : r.logOverride with
  | none => rw [hl] at h; cases h
  | some b => rfl

theorem statusAt_eq {C : List Rule} {p : Rule} {fb : Option Rule} (h : primaryFallback carriesStatus C = some (p, fb))
    (c : Nat) : statusAt C c = (statusUpdateOf p fb).getStatusCode c := by
  rw [statusAt, h, statusUpdate_table]
  rfl

theorem logAt_eq {C : List Rule} {p : Rule} {fb : Option Rule} (h : primaryFallback carriesLog C = some (p, fb))
    (c : Nat) : logAt C c = (logOverrideOf p fb).getLogOverride c := by
  -- the code answers `Some(override)`, the table the rule's own field: the same for a rule that carries one
  have hm := primaryFallback_mem carriesLog C p fb h
  rw [logAt, h, logOverride_table, carriesLog_getD hm.1.2]
  cases fb with
  | none => rfl
  | some f => dsimp only; rw [carriesLog_getD (hm.2 f rfl).2.1]

theorem getStatusCode_spec (q : Req) (C : List Rule) (s : List RuleId) (c : Nat) :
    (withApplied (Spec.action q C) s).getStatusCode c =
      ((statusAt C c).1, withApplied (Spec.action q C) (lhsInsertOpt s (statusAt C c).2)) := by
  unfold Action.getStatusCode
  simp only [withApplied, Spec.action]
  cases h : primaryFallback carriesStatus C with
  | none => rw [statusAt, h]; rfl
  | some pf => rw [statusAt_eq h]; rfl

theorem shouldLogRequest_spec (q : Req) (C : List Rule) (s : List RuleId) (allow : Bool) (c : Nat) :
    (withApplied (Spec.action q C) s).shouldLogRequest allow c =
      ((logAt C c).1.getD allow, withApplied (Spec.action q C) (lhsInsertOpt s (logAt C c).2)) := by
  unfold Action.shouldLogRequest
  simp only [withApplied, Spec.action]
  cases h : primaryFallback carriesLog C with
  | none => rw [logAt, h]; rfl
  | some pf =>
    rw [logAt_eq h, Option.map_some]
    dsimp only
    cases ((logOverrideOf pf.1 pf.2).getLogOverride c).1 <;> rfl

theorem getFinal_spec (q : Req) (C : List Rule) (s : List RuleId) (c fb : Nat) :
    (withApplied (Spec.action q C) s).getFinalStatusCodeWithFallback c fb =
      if (c == 0 && (statusAt C c).1 == 0) = true then
        (((statusAt C fb).1, fb),
          withApplied (Spec.action q C) (lhsInsertOpt (lhsInsertOpt s (statusAt C c).2) (statusAt C fb).2))
      else (((statusAt C c).1, c), withApplied (Spec.action q C) (lhsInsertOpt s (statusAt C c).2)) := by
  unfold Action.getFinalStatusCodeWithFallback
  simp only [getStatusCode_spec]

/-- The trace loop of `filter_headers`. -/
theorem traceLoop_spec (C : List Rule) (c : Nat) (s : List RuleId) :
    (C.map ruleTrace).foldl
        (fun s t => if traceApplies t.onResponseStatusCodes t.excludeResponseStatusCodes c
                    then lhsInsert s t.id else s) s =
      ((C.filter (admits · c)).map (·.id)).foldl lhsInsert s := by
  rw [List.foldl_map, List.foldl_map, List.foldl_filter]
  simp only [ruleTrace, traceApplies_eq]

/-- The selection loop of `filter_headers` / `create_filter_body`, for any type `W` of filter records (a filter `F` with a
response-status condition and an optional rule id). -/
theorem selectLoop_eq {F W : Type} (codes : W → List Nat) (excl : W → Bool) (filt : W → F) (rid : W → Option RuleId)
    (c : Nat) (L : List W) (acc : List F) (s : List RuleId) :
    L.foldl
        (fun (st : List F × List RuleId) f =>
          if filterSkipped (codes f) (excl f) c then st else (st.1 ++ [filt f], lhsInsertOpt st.2 (rid f)))
        (acc, s) =
      (acc ++ (L.filter fun f => !filterSkipped (codes f) (excl f) c).map filt,
       ((L.filter fun f => !filterSkipped (codes f) (excl f) c).filterMap rid).foldl lhsInsert s) := by
  induction L generalizing acc s with
  | nil => simp
  | cons f fs ih =>
    rw [List.foldl_cons, List.filter_cons]
    cases filterSkipped (codes f) (excl f) c
    · rw [if_neg Bool.false_ne_true, ih]
      cases h : rid f <;> simp [lhsInsertOpt, h]
    · exact ih acc s

theorem mem_ruleHeaderFilters {q : Req} {r : Rule} {f : HeaderFilterAction} (h : f ∈ ruleHeaderFilters q r) :
    f.onResponseStatusCodes = codesOf r ∧ f.excludeResponseStatusCodes = exclOf r ∧ f.ruleId = some r.id := by
  obtain ⟨_, _, rfl⟩ := List.mem_map.mp h
  exact ⟨rfl, rfl, rfl⟩

theorem mem_ruleBodyFilters {r : Rule} {f : BodyFilterAction} (h : f ∈ ruleBodyFilters r) :
    f.onResponseStatusCodes = codesOf r ∧ f.excludeResponseStatusCodes = exclOf r ∧ f.ruleId = some r.id := by
  obtain ⟨_, _, rfl⟩ := List.mem_map.mp h
  exact ⟨rfl, rfl, rfl⟩

theorem select_rules {W : Type} (codes : W → List Nat) (excl : W → Bool) (rid : W → Option RuleId) (g : Rule → List W)
    (c : Nat) (hg : ∀ r, ∀ f ∈ g r, codes f = codesOf r ∧ excl f = exclOf r ∧ rid f = some r.id) (C : List Rule) :
    (C.flatMap g).filter (fun f => !filterSkipped (codes f) (excl f) c) = (C.filter (admits · c)).flatMap g ∧
    ((C.filter (admits · c)).flatMap g).filterMap rid =
      (C.filter (admits · c)).flatMap fun r => (g r).map fun _ => r.id := by
  constructor
  · exact Util.filter_flatMap_const
      (fun r f hf => by rw [(hg r f hf).1, (hg r f hf).2.1, filterSkipped_eq, Bool.not_not]) C
  · rw [List.filterMap_flatMap]
    refine Util.flatMap_congr fun r _ => ?_
    rw [← List.filterMap_eq_map]
    exact Util.filterMap_congr fun f hf => (hg r f hf).2.2

theorem filterHeaders_spec (q : Req) (C : List Rule) (s : List RuleId) (c : Nat) (add : Bool) :
    (withApplied (Spec.action q C) s).filterHeaders c add =
      { filters := headerFiltersAt q C c
        ruleIdsHeader := if add then some ((insertedBy q C c .headers).foldl lhsInsert s) else none
        action := withApplied (Spec.action q C) ((insertedBy q C c .headers).foldl lhsInsert s) } := by
  have h := select_rules (·.onResponseStatusCodes) (·.excludeResponseStatusCodes) (·.ruleId) (ruleHeaderFilters q) c
    (fun _ _ => mem_ruleHeaderFilters) C
  unfold Action.filterHeaders
  simp only [withApplied, Spec.action, traceLoop_spec, selectLoop_eq, h.1, h.2, List.map_flatMap, headerFiltersAt,
    insertedBy, List.nil_append, List.foldl_append]

theorem createFilterBody_spec (q : Req) (C : List Rule) (s : List RuleId) (c : Nat) :
    (withApplied (Spec.action q C) s).createFilterBody c =
      (bodyFiltersAt C c, withApplied (Spec.action q C) ((insertedBy q C c .body).foldl lhsInsert s)) := by
  have h := select_rules (·.onResponseStatusCodes) (·.excludeResponseStatusCodes) (·.ruleId) ruleBodyFilters c
    (fun _ _ => mem_ruleBodyFilters) C
  unfold Action.createFilterBody
  simp only [withApplied, Spec.action, selectLoop_eq, h.1, h.2, List.map_flatMap, bodyFiltersAt, insertedBy,
    List.nil_append]

theorem runOp_spec (q : Req) (C : List Rule) (allow : Bool) (c : Nat) (done : List RuleId) (op : Op) :
    runOp allow c (withApplied (Spec.action q C) (dedupLast done)) op =
      (resultOf q C allow c (dedupLast (done ++ insertedBy q C c op)) op,
       withApplied (Spec.action q C) (dedupLast (done ++ insertedBy q C c op))) := by
  cases op with
  | status =>
    simp only [runOp, getStatusCode_spec, resultOf, insertedBy, lhsInsertOpt_eq,
      foldl_lhsInsert_dedupLast]
  | headers =>
    simp only [runOp, filterHeaders_spec, resultOf, foldl_lhsInsert_dedupLast, if_true]
  | body =>
    simp only [runOp, createFilterBody_spec, resultOf, foldl_lhsInsert_dedupLast]
  | log =>
    simp only [runOp, shouldLogRequest_spec, resultOf, insertedBy, lhsInsertOpt_eq,
      foldl_lhsInsert_dedupLast]
  | final fb =>
    simp only [runOp, getFinal_spec, resultOf, insertedBy, lhsInsertOpt_eq]
    split
    · simp only [foldl_lhsInsert_dedupLast, List.append_assoc]
    · simp only [foldl_lhsInsert_dedupLast, List.append_nil]

theorem runOpsC_spec (q : Req) (C : List Rule) (allow : Bool) (done : List RuleId)
    (ops : List (Op × Nat)) :
    runOpsC allow (withApplied (Spec.action q C) (dedupLast done)) ops =
      Spec.observeC q C allow done ops := by
  induction ops generalizing done with
  | nil => rfl
  | cons oc ops ih =>
    obtain ⟨op, c⟩ := oc
    simp only [runOpsC, Spec.observeC, runOp_spec]
    rw [ih]
    rfl

theorem runOps_eq_runOpsC (allow : Bool) (c : Nat) (a : Action) (ops : List Op) :
    runOps allow c a ops = runOpsC allow a (ops.map fun op => (op, c)) := by
  induction ops generalizing a with
  | nil => rfl
  | cons op ops ih => simp only [runOps, runOpsC, List.map_cons, ih]

theorem observe_eq_observeC (q : Req) (C : List Rule) (allow : Bool) (c : Nat) (done : List RuleId) (ops : List Op) :
    Spec.observe q C allow c done ops = Spec.observeC q C allow done (ops.map fun op => (op, c)) := by
  induction ops generalizing done with
  | nil => rfl
  | cons op ops ih => simp only [Spec.observe, Spec.observeC, List.map_cons, ih]

theorem runOps_spec (q : Req) (C : List Rule) (allow : Bool) (c : Nat) (done : List RuleId)
    (ops : List Op) :
    runOps allow c (withApplied (Spec.action q C) (dedupLast done)) ops =
      Spec.observe q C allow c done ops := by
  rw [runOps_eq_runOpsC, runOpsC_spec, observe_eq_observeC]

end Rio.Action
