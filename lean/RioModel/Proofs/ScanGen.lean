/-
`common_prefix_char_size` TRANSLATED FROM THE SOURCE on every run (`Rio.Consts.genCommonPrefixCharSize`,
tools/consts.d/w4_translate_scan.py: the `loop` with the `next_char_or_return!` macro and the mutable counters
`prefix_length`, `was_escape`, `group_level`, `i`) computes the same as the model `Rio.Scan.cpLoop`.
-/
import RioModel.Generated.Consts
import RioModel.Model.Scan

namespace Rio.Scan
open Rio.Consts

/-- `St.step` written with the tests of the translated code: its two `if` cascades over `group_level` and
`was_escape`. -/
theorem step_mk (gl : Int) (esc : Bool) (a : Char) :
    St.step ⟨gl, esc⟩ a =
      ⟨if (a == '(') && !esc then gl + 1 else if (a == ')') && !esc then gl - 1 else gl,
       if (a == '\\') && !esc then true else if esc then false else esc⟩ := by
  cases esc <;> simp [St.step]

/-- the scanner state is `(group_level, was_escape)`; the translated loop takes its counters in the order the source declares
them: `prefix_length`, `was_escape`, `group_level`, `i` -/
theorem genLoop_eq (l r : List Char) (pl : Nat) (esc : Bool) (gl : Int) (i : Nat) :
    genCommonPrefixCharSizeLoop1 l r pl esc gl i = cpLoop l r ⟨gl, esc⟩ i pl := by
  induction l generalizing r pl esc gl i with
  | nil => unfold genCommonPrefixCharSizeLoop1; simp [cpLoop]
  | cons a l ih =>
    cases r with
    | nil => unfold genCommonPrefixCharSizeLoop1; simp [cpLoop]
    | cons b r =>
      unfold genCommonPrefixCharSizeLoop1
      by_cases hab : a = b
      · subst hab
        simp only [bne_self_eq_false, Bool.false_eq_true, if_false, cpLoop, ne_eq, not_true_eq_false]
        rw [ih, step_mk]
        rfl
      · have : (a != b) = true := by simpa using hab
        simp [this, cpLoop, hab]

theorem genCommonPrefixCharSize_eq (l r : List Char) :
    genCommonPrefixCharSize l r = commonPrefixCharSize l r := by
  simp only [genCommonPrefixCharSize, commonPrefixCharSize, genLoop_eq]
  rfl

end Rio.Scan
