/-
Router proofs: `HostMatcher` over the real regex-tree model satisfies the layer laws (`hostTLaws`).

The state `HostTState` (static map + tree of buckets + any bucket) is abstracted to the shared
shape `LState I (HKeyG (List Char))` by listing the static buckets and then the tree's stored
buckets (`absH`).  On that abstraction every operation of the real tree is the
specification-level operation, by the `contents_*` lemmas of Proofs/TreeSpec and the `lookup_*` lemmas of
Proofs/TreeLookup (property C08 restates them): exactly for `retain` / `find` / `trace`; for `insert` bucket by bucket (`HostT.look`: the bucket stored for a
key – the order of the bucket list differs, and `LRepr` does not read it); of `remove` the new state
commutes exactly, the returned route only in whether there is one (`htremove_isSome`: the code prefers a
static bucket's hit, `lRemove` on the abstraction the last bucket's).  So the laws of the host
layer proved in RouterTower.lean (`hostLaws`, incl. the any-host fallback) transfer.
-/
import RioModel.Proofs.RouterTreePath
import RioModel.Proofs.UtilList
import RioModel.Proofs.TreeLookup
import RioModel.Proofs.TreeTraceCache
import RioModel.Proofs.RouterTower

namespace Rio.Router
open Rio.Regex Rio.Tree

section
variable {K : Type} [DecidableEq K] {I : MOps} (IL : MLaws I) (keysOf : Route → Option (List K))

/-- `LRepr` reads the bucket list only through `alookup` (and `akeys`, for `nodup`): a state with the same lookups
represents the same list, whatever the order of its buckets. -/
theorem LRepr.of_lookup {s s' : LState I K} {L : List Route} (h : LRepr IL keysOf s L)
    (hany : s'.any = s.any) (hcount : s'.count = s.count) (hn : (akeys s'.map).Nodup)
    (hl : ∀ k, alookup k s'.map = alookup k s.map) : LRepr IL keysOf s' L where
  len := hcount ▸ h.len
  any := hany ▸ h.any
  nodup := hn
  some k b hk := h.some k b (hl k ▸ hk)
  none k hk := h.none k (hl k ▸ hk)
end

section
variable {I : MOps}

abbrev HK := HKeyG (List Char)

def staticMap (st : List (String × I.M)) : List (HK × I.M) := st.map (fun e => (HKeyG.static e.1, e.2))
def treeMap (t : Item (List Char) I.M) : List (HK × I.M) := t.contents.map (fun e => (HKeyG.dyn e.pat, e.val))

def absH (s : HostTState I) : LState I HK := ⟨s.any, staticMap s.statics ++ treeMap s.tree, s.count⟩

theorem akeys_absH (s : HostTState I) :
    akeys (absH s).map = (akeys s.statics).map HKeyG.static ++ s.tree.contents.map fun e => HKeyG.dyn e.pat := by
  simp only [absH, akeys, staticMap, treeMap, List.map_append, List.map_map]
  rfl

theorem alookup_staticMap (st : List (String × I.M)) (h : String) :
    alookup (HKeyG.static h) (staticMap st) = alookup h st := by
  induction st with
  | nil => rfl
  | cons e st ih =>
    obtain ⟨k, b⟩ := e
    simp only [staticMap, List.map_cons, alookup_cons] at ih ⊢
    by_cases hk : k = h
    · simp [hk]
    · have : ¬ (HKeyG.static k : HK) = HKeyG.static h := by intro e; apply hk; injection e
      simp [hk, this, ih]

theorem alookup_static_treeMap (t : Item (List Char) I.M) (h : String) :
    alookup (HKeyG.static h) (treeMap t) = none :=
  (alookup_eq_none_iff _ _).2 (by simp [treeMap, akeys])

theorem alookup_dyn_staticMap (st : List (String × I.M)) (k : List Char) :
    alookup (HKeyG.dyn k : HK) (staticMap st) = none :=
  (alookup_eq_none_iff _ _).2 (by simp [staticMap, akeys])

theorem alookup_absH_static (s : HostTState I) (h : String) :
    alookup (HKeyG.static h) (absH s).map = alookup h s.statics := by
  simp only [absH, alookup_append, alookup_staticMap, alookup_static_treeMap]
  cases alookup h s.statics <;> rfl

theorem mem_absH_static {s : HostTState I} {e : String × I.M} (he : e ∈ s.statics) :
    ((HKeyG.static e.1 : HK), e.2) ∈ (absH s).map :=
  List.mem_append_left _ (List.mem_map.mpr ⟨e, he, rfl⟩)

theorem mem_absH_tree {s : HostTState I} {e : Entry (List Char) I.M} (he : e ∈ s.tree.contents) :
    ((HKeyG.dyn e.pat : HK), e.val) ∈ (absH s).map :=
  List.mem_append_right _ (List.mem_map.mpr ⟨e, he, rfl⟩)

theorem pruneMap_append {K : Type} (g : I.M → I.M) (a b : List (K × I.M)) :
    pruneMap I g (a ++ b) = pruneMap I g a ++ pruneMap I g b := by
  simp [pruneMap, List.filterMap_append]

theorem pruneMap_staticMap (g : I.M → I.M) (st : List (String × I.M)) :
    pruneMap I g (staticMap st) = staticMap (pruneMap I g st) := by
  induction st with
  | nil => rfl
  | cons e st ih =>
    simp only [pruneMap, staticMap, List.map_cons, List.filterMap_cons] at ih ⊢
    cases I.isEmpty (g e.2) <;> simp [ih]

theorem treeMap_retain (g : I.M → I.M) (t : Item (List Char) I.M) :
    treeMap (t.retain (fun _ m => pruneVal I g m)) = pruneMap I g (treeMap t) := by
  unfold treeMap
  rw [contents_retain]
  unfold refRetain pruneMap pruneVal
  induction t.contents with
  | nil => rfl
  | cons e L ih =>
    simp only [List.filterMap_cons, List.map_cons]
    cases I.isEmpty (g e.val) <;> simp [ih]

theorem foldl_hitStep (id : String) (ms : List I.M) (acc : Option Route) :
    ms.foldl (hitStep I id) acc = (ms.reverse.findSome? fun m => (I.remove id m).2).or acc := by
  induction ms generalizing acc with
  | nil => rfl
  | cons m ms ih =>
    rw [List.foldl_cons, ih, List.reverse_cons, List.findSome?_append, List.findSome?_singleton, Option.or_assoc,
      hitStep, Option.orElse_eq_or]

theorem lastHit_eq (id : String) (ms : List I.M) :
    lastHit I id ms = ms.reverse.findSome? fun m => (I.remove id m).2 :=
  (foldl_hitStep id ms none).trans Option.or_none

theorem removeAll_snd_eq_lastHit {K : Type} (id : String) (m : List (K × I.M)) :
    (removeAll I id m).2 = lastHit I id (m.map Prod.snd) := by
  rw [removeAll_snd, lastHit_eq, ← List.map_reverse, List.findSome?_map]
  rfl

theorem lastHit_append (id : String) (a b : List I.M) :
    lastHit I id (a ++ b) = (lastHit I id b).orElse (fun _ => lastHit I id a) := by
  rw [lastHit_eq, lastHit_eq, lastHit_eq, List.reverse_append, List.findSome?_append, Option.orElse_eq_or]

theorem lastHit_mem (id : String) (ms : List I.M) (x : Route) (h : lastHit I id ms = some x) :
    ∃ m ∈ ms, (I.remove id m).2 = some x := by
  rw [lastHit_eq] at h
  obtain ⟨m, hm, hx⟩ := List.exists_of_findSome?_eq_some h
  exact ⟨m, List.mem_reverse.1 hm, hx⟩

theorem staticMap_vals (st : List (String × I.M)) : (staticMap st).map Prod.snd = st.map Prod.snd := by
  simp [staticMap, List.map_map, Function.comp]

theorem treeMap_vals (t : Item (List Char) I.M) : (treeMap t).map Prod.snd = t.contents.map (·.val) := by
  simp [treeMap, List.map_map, Function.comp]

/-- The bucket a state holds for a key: a static host in `statics`, a pattern in the tree, stored under itself as id. -/
def HostT.look (s : HostTState I) : HK → Option I.M
  | .static h => alookup h s.statics
  | .dyn k => lookupE s.tree.contents k k

theorem alookup_treeMap (t : Item (List Char) I.M) (hu : ∀ e ∈ t.contents, e.id = e.pat) (k : List Char) :
    alookup (HKeyG.dyn k : HK) (treeMap t) = lookupE t.contents k k := by
  unfold treeMap
  generalize t.contents = l at hu
  induction l with
  | nil => rfl
  | cons e l ih =>
    rw [List.map_cons, alookup_cons, lookupE_cons, ih fun e he => hu e (List.mem_cons_of_mem _ he),
      hu e (List.mem_cons_self ..)]
    by_cases hp : e.pat = k
    · rw [if_pos (by rw [hp]), if_pos ⟨hp, hp⟩]
    · rw [if_neg (fun hh => hp (by injection hh)), if_neg (fun hh => hp hh.1)]

theorem alookup_absH (s : HostTState I) (hu : ∀ e ∈ s.tree.contents, e.id = e.pat) (k : HK) :
    alookup k (absH s).map = HostT.look s k := by
  cases k with
  | static h => exact alookup_absH_static s h
  | dyn k =>
    simp only [absH, alookup_append, alookup_dyn_staticMap, HostT.look]
    exact alookup_treeMap s.tree hu k

theorem nodup_absH {ic : Bool} (s : HostTState I) (hst : (akeys s.statics).Nodup) (hinv : s.tree.inv ic = true)
    (hu : ∀ e ∈ s.tree.contents, e.id = e.pat) : (akeys (absH s).map).Nodup := by
  rw [akeys_absH, List.nodup_append]
  refine ⟨?_, ?_, ?_⟩
  · rw [List.nodup_iff_pairwise_ne, List.pairwise_map]
    exact (List.nodup_iff_pairwise_ne.1 hst).imp fun hab e => hab (by injection e)
  · rw [List.nodup_iff_pairwise_ne, List.pairwise_map]
    refine (keyNodup_contents s.tree hinv).imp_of_mem fun ha hb hab e => ?_
    injection e with e
    exact hab ⟨e, by rw [hu _ ha, hu _ hb, e]⟩
  · intro a ha b hb e
    obtain ⟨x, _, rfl⟩ := List.mem_map.1 ha
    obtain ⟨y, _, rfl⟩ := List.mem_map.1 hb
    cases e

theorem nodup_statics (s : HostTState I) (h : (akeys (absH s).map).Nodup) : (akeys s.statics).Nodup := by
  rw [akeys_absH] at h
  exact Rio.Util.nodup_of_map_nodup _ (List.nodup_append.1 h).1

theorem uGet_none_iff {ic : Bool} (t : Item (List Char) I.M) (hinv : t.inv ic = true) (k : List Char) :
    uGet t k = none ↔ ∀ e ∈ t.contents, e.pat ≠ k := by
  unfold uGet
  rw [get_eq_filter t hinv k, List.getLast?_eq_none_iff, List.map_eq_nil_iff, List.filter_eq_nil_iff]
  simp

section
variable (T : TEnv) (Good : List Char → Prop) (IL : MLaws I)

/-- the route's host pattern, if any, is in the domain of C08 -/
def HostGood (r : Route) : Prop := ∀ p, r.host = some (.dyn p) → Good (T.render p) ∧ T.render p ≠ []

/-- The tree is well-formed and its patterns lie in the domain of `find_eq_scan`; the abstraction `absH` represents `L`. -/
structure HTRepr (s : HostTState I) (L : List Route) : Prop where
  inv : s.tree.inv T.icHost = true
  dom : ∀ e ∈ s.tree.contents, Good e.pat ∧ e.pat ≠ []
  /-- `UniqueRegexTreeMap`: a bucket is stored under its pattern as id -/
  uniq : ∀ e ∈ s.tree.contents, e.id = e.pat
  repr : LRepr IL (Host.keysOf T.host) (absH s) L

/-! `dom` and `uniq` speak of the stored (pattern, id) pairs only: they pass to any tree whose pairs are
among those of the old tree. -/

theorem dom_of_pairs {t t' : Item (List Char) I.M}
    (hsub : ∀ e ∈ t'.contents, ∃ e0 ∈ t.contents, e.pat = e0.pat ∧ e.id = e0.id)
    (hd : ∀ e ∈ t.contents, Good e.pat ∧ e.pat ≠ []) : ∀ e ∈ t'.contents, Good e.pat ∧ e.pat ≠ [] := by
  intro e he
  obtain ⟨e0, he0, hp0, _⟩ := hsub e he
  rw [hp0]; exact hd e0 he0

theorem uniq_of_pairs {t t' : Item (List Char) I.M}
    (hsub : ∀ e ∈ t'.contents, ∃ e0 ∈ t.contents, e.pat = e0.pat ∧ e.id = e0.id)
    (hu : ∀ e ∈ t.contents, e.id = e.pat) : ∀ e ∈ t'.contents, e.id = e.pat := by
  intro e he
  obtain ⟨e0, he0, hp0, hi0⟩ := hsub e he
  rw [hp0, hi0]; exact hu e0 he0

theorem pairs_retain (f : List Char → I.M → Option I.M) (t : Item (List Char) I.M) :
    ∀ e ∈ (t.retain f).contents, ∃ e0 ∈ t.contents, e.pat = e0.pat ∧ e.id = e0.id := by
  intro e he
  rw [contents_retain] at he
  obtain ⟨e0, he0, hp, hi, _⟩ := mem_refRetain he
  exact ⟨e0, he0, hp, hi⟩

/-- `LRepr.of_lookup` for a host state: it represents what `a` represents as soon as `HostT.look` gives `a`'s lookups. -/
theorem HTRepr.of_look {s' : HostTState I} {a : LState I HK} {L : List Route}
    (ha : LRepr IL (Host.keysOf T.host) a L) (hany : s'.any = a.any) (hcount : s'.count = a.count)
    (hst : (akeys s'.statics).Nodup) (hinv : s'.tree.inv T.icHost = true)
    (hdom : ∀ e ∈ s'.tree.contents, Good e.pat ∧ e.pat ≠ []) (hu : ∀ e ∈ s'.tree.contents, e.id = e.pat)
    (hl : ∀ k, HostT.look s' k = alookup k a.map) : HTRepr T Good IL s' L :=
  ⟨hinv, hdom, hu, ha.of_lookup IL _ hany hcount (nodup_absH s' hst hinv hu)
    fun k => (alookup_absH s' hu k).trans (hl k)⟩

/-- `lrepr_insert` gives `LRepr` of `lInsert` on the abstraction (`hgen`).  Each branch of `HostMatcher::insert` (no host or
empty static host: the any bucket; static host: `aupsert` on the statics; pattern found: `modifyAt`; pattern new: `uInsert`)
yields a state whose `HostT.look` is `alookup` of that abstraction (`alookup_aupsert` on one side, `lookup_modifyAt` /
`lookup_insert` on the other), and `HTRepr.of_look` transfers `hgen`.  It goes through `look` and not through equality of
`absH` because the tree lists its buckets in another order than `aupsert` leaves them. -/
theorem htrepr_insert (s : HostTState I) (L : List Route) (r : Route) (h : HTRepr T Good IL s L)
    (hU : UIds (r :: L)) (hok : IL.okIns r) (hg : HostGood T Good r) :
    HTRepr T Good IL (HostT.insert T I r s) (r :: L) := by
  have hgen := lrepr_insert IL (Host.keysOf T.host) (absH s) L r h.repr hU hok
  have hst := nodup_statics s h.repr.nodup
  have hlk := alookup_absH s h.uniq
  unfold HostT.insert
  cases hh : r.host with
  | none =>
    rw [lInsert_of_none _ r _ (by simp only [Host.keysOf, hh])] at hgen
    exact ⟨h.inv, h.dom, h.uniq, hgen⟩
  | some sd =>
    cases sd with
    | static x =>
      by_cases hx : x = ""
      · simp only [hx, if_true]
        rw [lInsert_of_none _ r _ (by simp only [Host.keysOf, hh, hx, if_true])] at hgen
        exact ⟨h.inv, h.dom, h.uniq, hgen⟩
      · simp only [hx, if_false]
        rw [lInsert_of_single _ r _ (HKeyG.static x) (by simp only [Host.keysOf, hh, hx, if_false])] at hgen
        refine .of_look T Good IL hgen rfl rfl (akeys_aupsert_nodup _ _ _ _ hst) h.inv h.dom h.uniq fun k => ?_
        rw [alookup_aupsert, hlk, hlk]
        cases k with
        | static y => simp only [HostT.look, alookup_aupsert, HKeyG.static.injEq]
        | dyn y => simp only [HostT.look, reduceCtorEq, if_false]
    | dyn p =>
      simp only
      have hkey : Host.keysOf T.host r = some [HKeyG.dyn (T.render p)] := by
        simp [Host.keysOf, hh, TEnv.host]
      rw [lInsert_of_single _ r _ _ hkey] at hgen
      have hnone := uGet_none_iff s.tree h.inv (T.render p)
      cases hu : uGet s.tree (T.render p) with
      | some b0 =>
        simp only
        have hc := contents_modifyAt s.tree (T.render p) (fun _ m => I.insert r m) h.inv
        have hsub := fun e (he : e ∈ (s.tree.modifyAt (T.render p) (fun _ m => I.insert r m)).contents) =>
          mem_refModify (hc ▸ he)
        refine .of_look T Good IL hgen rfl rfl hst (inv_modifyAt _ _ _ h.inv) (dom_of_pairs Good hsub h.dom)
          (uniq_of_pairs hsub h.uniq) fun k => ?_
        rw [alookup_aupsert, hlk, hlk]
        cases k with
        | static y => simp only [HostT.look, reduceCtorEq, if_false]
        | dyn y =>
          simp only [HostT.look, lookup_modifyAt _ _ _ h.inv, HKeyG.dyn.injEq]
          by_cases hy : y = T.render p
          · subst hy
            -- the bucket exists, since `get` found it
            cases hl : lookupE s.tree.contents (T.render p) (T.render p) with
            | none =>
              rw [hnone.2 fun e he hp => lookupE_none_iff.1 hl e he ⟨hp, (h.uniq e he).trans hp⟩] at hu
              cases hu
            | some v => simp
          · simp [hy]
      | none =>
        simp only
        have hno := hnone.1 hu
        have hperm := contents_insert s.tree (T.render p) (T.render p) (I.insert r I.empty) h.inv
        have hmem : ∀ e ∈ (uInsert s.tree (T.render p) (I.insert r I.empty)).contents,
            e ∈ s.tree.contents ∨ e = ⟨T.render p, T.render p, I.insert r I.empty⟩ :=
          fun e he => (mem_refInsert (hperm.subset he)).symm
        refine .of_look T Good IL hgen rfl rfl hst (inv_insert _ _ _ _ h.inv) ?_ ?_ fun k => ?_
        · intro e he
          rcases hmem e he with he | he
          · exact h.dom e he
          · rw [he]; exact hg p hh
        · intro e he
          rcases hmem e he with he | he
          · exact h.uniq e he
          · rw [he]
        · rw [alookup_aupsert, hlk, hlk]
          cases k with
          | static y => simp only [HostT.look, reduceCtorEq, if_false]
          | dyn y =>
            have hl : lookupE s.tree.contents (T.render p) (T.render p) = none :=
              lookupE_none_iff.2 fun e he hp => hno e he hp.1
            simp only [HostT.look, uInsert, lookup_insert _ _ _ _ h.inv, HKeyG.dyn.injEq, hl, and_self,
              Option.getD_none]

theorem HostT.remove_of_some (id : String) (s : HostTState I) (r0 : Route)
    (h : (I.remove id s.any).2 = some r0) :
    HostT.remove I id s = ({ s with any := (I.remove id s.any).1, count := s.count - 1 }, some r0) := by
  simp [HostT.remove, h]

/-- the `removed` value of `HostMatcher::remove` when the any-host bucket did not hold the route -/
def HostT.removedIn (I : MOps) (id : String) (s : HostTState I) : Option Route :=
  if (removeAll I id s.statics).2.isSome then (removeAll I id s.statics).2
  else lastHit I id (s.tree.contents.map (·.val))

theorem HostT.remove_of_none (id : String) (s : HostTState I) (h : (I.remove id s.any).2 = none) :
    HostT.remove I id s =
      ({ statics := (removeAll I id s.statics).1,
         tree := s.tree.retain (fun _ m => pruneVal I (fun m => (I.remove id m).1) m),
         any := (I.remove id s.any).1,
         count := if (HostT.removedIn I id s).isSome then s.count - 1 else s.count },
       HostT.removedIn I id s) := by
  unfold HostT.remove HostT.removedIn
  simp only [h, Option.isSome_none, Bool.false_eq_true, if_false]

theorem removedIn_isSome (id : String) (s : HostTState I) :
    (HostT.removedIn I id s).isSome = (removeAll I id (absH s).map).2.isSome := by
  unfold HostT.removedIn
  rw [removeAll_snd_eq_lastHit id (absH s).map, removeAll_snd_eq_lastHit id s.statics]
  simp only [absH, List.map_append, lastHit_append, staticMap_vals, treeMap_vals]
  cases h1 : lastHit I id (s.statics.map Prod.snd) <;>
    cases h2 : lastHit I id (s.tree.contents.map (·.val)) <;> simp

theorem absH_remove (id : String) (s : HostTState I) :
    absH (HostT.remove I id s).1 = (lRemove I id (absH s)).1 := by
  cases hra : (I.remove id s.any).2 with
  | some r0 =>
    rw [HostT.remove_of_some id s r0 hra, lRemove_of_some id (absH s) r0 hra]
    rfl
  | none =>
    rw [HostT.remove_of_none id s hra, lRemove_of_none id (absH s) hra]
    simp only [absH]
    rw [removedIn_isSome, removeAll_fst, removeAll_fst, pruneMap_append, pruneMap_staticMap, treeMap_retain]
    rfl

theorem htrepr_remove (s : HostTState I) (L : List Route) (id : String) (h : HTRepr T Good IL s L)
    (hU : UIds L) : HTRepr T Good IL (HostT.remove I id s).1 (L.filter (fun r => r.id != id)) := by
  have hgen := lrepr_remove IL (Host.keysOf T.host) (absH s) L id h.repr hU
  rw [← absH_remove] at hgen
  cases hra : (I.remove id s.any).2 with
  | some r0 =>
    rw [HostT.remove_of_some id s r0 hra] at hgen ⊢
    exact ⟨h.inv, h.dom, h.uniq, hgen⟩
  | none =>
    rw [HostT.remove_of_none id s hra] at hgen ⊢
    exact ⟨inv_retain _ _ h.inv, dom_of_pairs Good (pairs_retain _ _) h.dom,
      uniq_of_pairs (pairs_retain _ _) h.uniq, hgen⟩

theorem htremove_isSome (id : String) (s : HostTState I) :
    (HostT.remove I id s).2.isSome = (lRemove I id (absH s)).2.isSome := by
  cases hra : (I.remove id s.any).2 with
  | some r0 => rw [HostT.remove_of_some id s r0 hra, lRemove_of_some id (absH s) r0 hra]
  | none =>
    rw [HostT.remove_of_none id s hra, lRemove_of_none id (absH s) hra]
    exact removedIn_isSome id s

theorem htremove_none (s : HostTState I) (L : List Route) (id : String) (h : HTRepr T Good IL s L)
    (hno : ∀ r ∈ L, r.id ≠ id) : (HostT.remove I id s).2 = none := by
  have := lremove_none IL (Host.keysOf T.host) (absH s) L id h.repr hno
  have h2 := htremove_isSome id s
  rw [this] at h2
  simpa using h2

theorem htremove_some (s : HostTState I) (L : List Route) (id : String) (r : Route)
    (h : HTRepr T Good IL s L) (hU : UIds L) (hr : r ∈ L)
    (hwf : lWf IL (Host.keysOf T.host) r) (hid : r.id = id) : (HostT.remove I id s).2 = some r := by
  have hgen := lremove_some IL (Host.keysOf T.host) (absH s) L id r h.repr hU hr hwf hid
  have h2 := htremove_isSome id s
  rw [hgen] at h2
  -- some route is returned; every bucket that reports one reports `r`
  cases hx : (HostT.remove I id s).2 with
  | none => rw [hx] at h2; simp at h2
  | some x =>
    congr 1
    cases hra : (I.remove id s.any).2 with
    | some r0 =>
      rw [HostT.remove_of_some id s r0 hra] at hx
      simp only [Option.some.injEq] at hx
      rw [← hx]
      exact bucket_hit_eq IL L hU r hr hwf.1 id hid s.any _ h.repr.any r0 hra
    | none =>
      rw [HostT.remove_of_none id s hra] at hx
      simp only [HostT.removedIn] at hx
      by_cases hs : (removeAll I id s.statics).2.isSome = true
      · simp only [hs, if_true] at hx
        rw [removeAll_snd_eq_lastHit] at hx
        obtain ⟨m, hm, hmx⟩ := lastHit_mem id _ x hx
        obtain ⟨e, he, rfl⟩ := List.mem_map.mp hm
        exact bucket_hit_eq IL L hU r hr hwf.1 id hid e.2 _ (h.repr.bucket (mem_absH_static he)) x hmx
      · simp only [hs, if_false, Bool.false_eq_true] at hx
        obtain ⟨m, hm, hmx⟩ := lastHit_mem id _ x hx
        obtain ⟨e, he, rfl⟩ := List.mem_map.mp hm
        exact bucket_hit_eq IL L hU r hr hwf.1 id hid e.val _ (h.repr.bucket (mem_absH_tree he)) x hmx

theorem absH_batch (ids : List String) (s : HostTState I) :
    absH (HostT.batchRemove I ids s) = lBatchRemove I ids (absH s) := by
  simp only [HostT.batchRemove, lBatchRemove, absH, batchAll_eq, pruneMap_append, pruneMap_staticMap,
    treeMap_retain]

theorem htrepr_batch (s : HostTState I) (L : List Route) (ids : List String) (h : HTRepr T Good IL s L) :
    HTRepr T Good IL (HostT.batchRemove I ids s) (L.filter (fun r => !ids.contains r.id)) := by
  have hgen := lrepr_batch IL (Host.keysOf T.host) (absH s) L ids h.repr
  rw [← absH_batch] at hgen
  exact ⟨inv_retain _ _ h.inv, dom_of_pairs Good (pairs_retain _ _) h.dom,
    uniq_of_pairs (pairs_retain _ _) h.uniq, hgen⟩

variable (hPS : PrefixSound T.engine Good)

include hPS in
theorem ht_matchBound_eq (s : HostTState I) (L : List Route) (h : HTRepr T Good IL s L) (q : Req) :
    HostT.matchBound T I s q = Host.matchBound T.host I (absH s) q := by
  unfold HostT.matchBound Host.matchBound
  cases hq : q.host with
  | none => rfl
  | some hh =>
    simp only [Host.boundFor, alookup_absH_static]
    congr 1
    rw [find_eq_scan hPS s.tree h.inv h.dom hh.toList, Rio.Util.flatMap_filter_map]
    simp only [absH, List.flatMap_append]
    have h1 : (staticMap s.statics).flatMap (Host.dynPart T.host I hh q) = [] := by
      rw [List.flatMap_eq_nil_iff]
      intro e he
      obtain ⟨e0, _, rfl⟩ := List.mem_map.mp he
      rfl
    rw [h1, List.nil_append]
    unfold treeMap
    rw [List.flatMap_map]
    rfl

include hPS in
theorem ht_matchReq_eq (s : HostTState I) (L : List Route) (h : HTRepr T Good IL s L) (q : Req) :
    HostT.matchReq T I s q = Host.matchReq T.host I (absH s) q := by
  unfold HostT.matchReq Host.matchReq
  rw [ht_matchBound_eq T Good IL hPS s L h q]
  rfl

theorem hostTreeTraceL_eq (q : Req) (ts : List (Tree.Trace I.M)) :
    hostTreeTraceL I q ts = ts.map (hostTreeTrace I q) := by
  induction ts with
  | nil => simp [hostTreeTraceL]
  | cons t ts ih => simp [hostTreeTraceL, ih]

theorem hostTreeTrace_mk (q : Req) (rx : List Char) (c : Nat) (m : Bool) (cs : List (Tree.Trace I.M))
    (vs : List I.M) :
    hostTreeTrace I q (.mk rx c m cs vs) =
      Trace.mk m true c (.other "regex")
        (cs.map (hostTreeTrace I q) ++ (if m then vs.flatMap (fun b => I.trace b q) else [])) := by
  rw [hostTreeTrace, hostTreeTraceL_eq]

theorem raw_hostTreeTrace (E : Engine) (q : Req) (t : Item (List Char) I.M) (hay : List Char) :
    (hostTreeTrace I q (t.trace E hay)).rawRoutes =
      (t.find E hay).flatMap (fun b => rawRoutesOfList (I.trace b q)) := by
  refine raw_treeTrace _ _ (fun rx c m cs vs => ?_) E t hay
  rw [hostTreeTrace_mk, Trace.rawRoutes_mk, rawRoutesOfList_append]
  cases m
  · rfl
  · rw [if_pos rfl, if_pos rfl, rawRoutesOfList_flatMap]; rfl

include hPS in
theorem ht_traceBound_mem (s : HostTState I) (L : List Route) (h : HTRepr T Good IL s L) (hU : UIds L)
    (q : Req) (r : Route) :
    r ∈ rawRoutesOfList (HostT.traceBound T I s q) ↔ r ∈ HostT.matchBound T I s q := by
  rw [ht_matchBound_eq T Good IL hPS s L h q, (host_bound_perm T.host (absH s) h.repr.nodup q).mem_iff,
    ← mem_trace_buckets IL (Host.keysOf T.host) (Host.accepts T.host) (absH s) L h.repr hU q r]
  unfold HostT.traceBound
  simp only [absH, staticMap, treeMap]
  rw [Rio.Util.exists_mem_append_map, rawRoutesOfList_append, List.mem_append, rawRoutesOfList_map, List.mem_flatMap]
  refine or_congr (exists_congr fun a => and_congr_right fun _ => ?_) ?_
  · -- a static bucket's node lists its traces iff the request's host is its key
    unfold HostT.staticNode Host.accepts
    rw [mem_raw_bucketNode]
    cases q.host with
    | none => simp
    | some hh => simp only [beq_iff_eq, Option.some.injEq]; rw [eq_comm]
  · -- the converted tree trace lists the traces of the buckets whose pattern matches
    cases hq : q.host with
    | none => simp [Host.accepts, hq]
    | some hh =>
      simp only [rawRoutesOfList_append, raw_marker, rawRoutesOfList_singleton, Trace.rawRoutes_mk,
        TInfo.routes, List.nil_append, List.append_nil, raw_hostTreeTrace,
        find_eq_scan hPS s.tree h.inv h.dom hh.toList, Rio.Util.flatMap_filter_map, mem_flatMap_ite]
      simp only [Host.accepts, hq, TEnv.host]

include hPS in
theorem ht_mem_trace (s : HostTState I) (L : List Route) (h : HTRepr T Good IL s L) (hU : UIds L)
    (q : Req) (r : Route) :
    r ∈ rawRoutesOfList (HostT.trace T I s q) ↔ r ∈ HostT.matchReq T I s q :=
  mem_fallback_trace L hU T.alwaysAnyHost _ _ _ _ (ht_traceBound_mem T Good IL hPS s L h hU q)
    (fun y hy => by
      rw [ht_matchBound_eq T Good IL hPS s L h q] at hy
      exact ((host_mem_bound IL T.host (absH s) L h.repr hU q y).1 hy).1) r
    (IL.mem_trace _ _ q r h.repr.any (hU.filter _))

include IL in
/-- `HostMatcher::cache` hands back at most the budget it got: each stage does. -/
theorem ht_cache_le (s : HostTState I) (limit level : Nat) : (HostT.cache T I limit level s).2 ≤ limit := by
  obtain ⟨t1, n1, h1, _, hn1⟩ := treeCache_spec T.engine s.tree limit (some level)
  unfold HostT.cache
  simp only [h1, Option.getD_some]
  have hst := (cacheAll_spec IL level s.statics n1).2
  have hbk := (cacheAll_spec IL level (t1.contents.map (fun e => (e.id, e.val)))
    (cacheAll I level s.statics n1).2).2
  have h4 := IL.cache_le s.any (cacheAll I level (t1.contents.map (fun e => (e.id, e.val)))
    (cacheAll I level s.statics n1).2).2 level
  omega

theorem htrepr_static_repr (s : HostTState I) (L : List Route) (h : HTRepr T Good IL s L) :
    ∀ e ∈ s.statics, ∃ L', IL.Repr e.2 L' :=
  fun _ he => ⟨_, h.repr.bucket (mem_absH_static he)⟩

theorem htrepr_tree_repr (s : HostTState I) (L : List Route) (h : HTRepr T Good IL s L) :
    ∀ e ∈ s.tree.contents, ∃ L', IL.Repr e.val L' :=
  fun _ he => ⟨_, h.repr.bucket (mem_absH_tree he)⟩

/-- the ids of the tree's buckets are distinct: they are the patterns, and the tree holds no (pattern, id) pair twice -/
theorem htrepr_ids_nodup (s : HostTState I) (L : List Route) (h : HTRepr T Good IL s L) :
    (akeys (s.tree.contents.map (fun e => (e.id, e.val)))).Nodup := by
  rw [akeys, List.map_map, List.nodup_iff_pairwise_ne, List.pairwise_map]
  exact (keyNodup_contents s.tree h.inv).imp_of_mem fun ha hb hab e =>
    hab ⟨by rw [← h.uniq _ ha, ← h.uniq _ hb]; exact e, e⟩

/-- `for matcher in regex_tree_rule.iter_mut()` of `HostMatcher::cache`: what is stored back under the id
of a stored entry is that entry's bucket after one `cache` call. -/
theorem htrepr_stored_back (s : HostTState I) (L : List Route) (h : HTRepr T Good IL s L) (level n : Nat)
    (e : Entry (List Char) I.M) (he : e ∈ s.tree.contents) :
    ∃ n', (alookup e.id (cacheAll I level (s.tree.contents.map (fun e => (e.id, e.val))) n).1).getD e.val =
      (I.cache n' level e.val).1 := by
  obtain ⟨n', hn'⟩ := cacheAll_lookup level _ n (htrepr_ids_nodup T Good IL s L h) e.id e.val
    (List.mem_map.mpr ⟨e, he, rfl⟩)
  exact ⟨n', by rw [hn']; rfl⟩

/-- `HostMatcher::cache` in a represented state: the tree's own regexes are warmed (`t1`), the static buckets by
`cacheAll`, every bucket stored in the tree is replaced by itself after one `cache` call, then the any-host bucket. -/
theorem HostT.cache_eq (s : HostTState I) (L : List Route) (limit level : Nat) (h : HTRepr T Good IL s L) :
    ∃ (t1 : Item (List Char) I.M) (n1 n3 : Nat) (c : List Char → I.M → I.M),
      t1.strip = s.tree.strip ∧ t1.inv T.icHost = true ∧ t1.contents = s.tree.contents ∧
      (HostT.cache T I limit level s).1 =
        ⟨(cacheAll I level s.statics n1).1, t1.mapVals c, (I.cache n3 level s.any).1, s.count⟩ ∧
      ∀ e ∈ s.tree.contents, ∃ n', c e.id e.val = (I.cache n' level e.val).1 := by
  obtain ⟨t1, n1, h1, hs, _⟩ := treeCache_spec T.engine s.tree limit (some level)
  have hc : t1.contents = s.tree.contents := contents_eq_of_strip_eq hs
  have hi : t1.inv T.icHost = true := by rw [inv_of_treeCache h1 T.icHost]; exact h.inv
  have hback := htrepr_stored_back T Good IL s L h level (cacheAll I level s.statics n1).2
  unfold HostT.cache
  rw [h1, Option.getD_some]
  dsimp only
  rw [hc]
  generalize cacheAll I level (s.tree.contents.map fun e => (e.id, e.val)) (cacheAll I level s.statics n1).2 = rb
    at hback ⊢
  exact ⟨t1, n1, rb.2, fun id m => (alookup id rb.1).getD m, hs, hi, hc,
    by rw [retain_some_eq_mapVals _ t1 hi], hback⟩

theorem htrepr_cache (s : HostTState I) (L : List Route) (limit level : Nat) (h : HTRepr T Good IL s L) :
    HTRepr T Good IL (HostT.cache T I limit level s).1 L ∧ (HostT.cache T I limit level s).2 ≤ limit := by
  refine ⟨?_, ht_cache_le T IL s limit level⟩
  obtain ⟨t1, n1, n3, c, _, hi, hc, heq, hcv⟩ := HostT.cache_eq T Good IL s L limit level h
  rw [heq]
  have hcont := contents_mapVals c t1
  rw [hc] at hcont
  have hsub : ∀ e ∈ (t1.mapVals c).contents, ∃ e0 ∈ s.tree.contents, e.pat = e0.pat ∧ e.id = e0.id := by
    intro e he
    rw [hcont] at he
    obtain ⟨e0, he0, rfl⟩ := List.mem_map.mp he
    exact ⟨e0, he0, rfl, rfl⟩
  refine ⟨by rw [← retain_some_eq_mapVals c t1 hi]; exact inv_retain _ _ hi, dom_of_pairs Good hsub h.dom,
    uniq_of_pairs hsub h.uniq, ?_⟩
  have hst := cacheAll_spec IL level s.statics n1
  -- same keys, and every bucket is the old one after one `cache` call
  refine lrepr_of_cacheRel IL (Host.keysOf T.host) (absH s) _ L h.repr rfl
    (fun L' hL' => IL.repr_cache _ L' _ level hL') ⟨?_, ?_⟩
  · rw [akeys_absH, akeys_absH, hcont, List.map_map, hst.1.1]
    rfl
  · intro e' he'
    rcases List.mem_append.1 he' with he' | he'
    · obtain ⟨a', ha', rfl⟩ := List.mem_map.mp he'
      obtain ⟨b, hb, hr⟩ := hst.1.2 a' ha'
      exact ⟨b, mem_absH_static hb, hr⟩
    · rw [treeMap, hcont, List.map_map] at he'
      obtain ⟨e, he, rfl⟩ := List.mem_map.mp he'
      obtain ⟨n', hn'⟩ := hcv e he
      refine ⟨e.val, mem_absH_tree he, ?_⟩
      simp only [Function.comp, hn']
      exact fun L' hL' => IL.repr_cache _ L' n' level hL'

def hostTLaws : MLaws (hostTOps T I) where
  Repr := HTRepr T Good IL
  sat := hostSat IL T.host
  wf := lWf IL (Host.keysOf T.host)
  okIns := fun r => IL.okIns r ∧ HostGood T Good r
  sat_congr := fun L L' r q h => hostSat_congr IL T.host L L' r q h
  repr_empty := ⟨by simp [hostTOps, HostT.empty, Item.inv],
    by intro e he; simp [hostTOps, HostT.empty] at he,
    by intro e he; simp [hostTOps, HostT.empty] at he,
    by simpa [hostTOps, HostT.empty, absH, staticMap, treeMap, lEmpty] using
      lrepr_empty IL (Host.keysOf T.host)⟩
  repr_congr := fun s L L' h hs hm => ⟨h.inv, h.dom, h.uniq, lrepr_congr IL _ _ L L' h.repr hs hm⟩
  len_zero := fun s L h h0 => lrepr_len_zero IL _ (absH s) L h.repr h0
  repr_insert := fun s L r h hU hok => htrepr_insert T Good IL s L r h hU hok.1 hok.2
  repr_remove := fun s L id h hU => htrepr_remove T Good IL s L id h hU
  remove_some := fun s L id r h hU hr hwf hid => htremove_some T Good IL s L id r h hU hr hwf hid
  remove_none := fun s L id h hno => htremove_none T Good IL s L id h hno
  remove_pos := by
    intro (s : HostTState I) L id h hs
    have hs' : (lRemove I id (absH s)).2.isSome = true := by
      rw [← htremove_isSome id s]; exact hs
    exact lremove_pos IL _ (absH s) L id h.repr hs'
  repr_batch := fun s L ids h => htrepr_batch T Good IL s L ids h
  repr_cache := fun s L limit level h => (htrepr_cache T Good IL s L limit level h).1
  cache_le := by
    intro (s : HostTState I) limit level
    -- the budget bound does not need the representation: same chain of `≤`
    obtain ⟨t1, n1, h1, _, hn1⟩ := treeCache_spec T.engine s.tree limit (some level)
    show (HostT.cache T I limit level s).2 ≤ limit
    unfold HostT.cache
    simp only [h1, Option.getD_some]
    have hst := (cacheAll_spec IL level s.statics n1).2
    have hbk := (cacheAll_spec IL level (t1.contents.map (fun e => (e.id, e.val)))
      (cacheAll I level s.statics n1).2).2
    have h4 := IL.cache_le s.any (cacheAll I level (t1.contents.map (fun e => (e.id, e.val)))
      (cacheAll I level s.statics n1).2).2 level
    omega
  mem_match := by
    intro s L q r h hU
    show r ∈ HostT.matchReq T I s q ↔ _
    rw [ht_matchReq_eq T Good IL hPS s L h q]
    exact host_mem_match IL T.host (absH s) L h.repr hU q r
  nodup_match := by
    intro s L q h hU
    show (HostT.matchReq T I s q).Nodup
    rw [ht_matchReq_eq T Good IL hPS s L h q]
    exact host_nodup_match IL T.host (absH s) L h.repr hU q
  mem_trace := fun s L q r h hU => ht_mem_trace T Good IL hPS s L h hU q r

end

end
end Rio.Router
