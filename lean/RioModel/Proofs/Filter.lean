/-
For C03 / C04 / C14: the `Edit` relation (what body filters may do to the bytes: insert whole values, substitute
`<`…`>` spans), the stream relations of stages and their composition, text stages, and `do_filter` and one stage of
`do_end` case by case.  The vocabulary of the html stage (`view`, `LosslessS`, `TagSpanS`, `Ctx`, `RestartLaw`, `normText`)
comes next: Proofs/FilterStreamLaws.lean.
-/
import RioModel.Model.Filter

namespace Rio.Filter

/-- a span that a replace filter may substitute: starts with `<`, ends with `>` -/
def IsSpan (s : Bytes) : Prop := s.head? = some 60 ∧ s.getLast? = some 62

/-- `Edit I R a b`: `b` is obtained from `a` by a sequence of (i) insertions of a whole value of `I` at some
position, (ii) substitutions of a `<`…`>` span by a whole value of `R`.  Nothing else: no byte of `a` is lost,
duplicated or moved.  (A later operation may fall inside an earlier inserted value — that is what a chain of filters
can do.) -/
inductive Edit (I R : List Bytes) : Bytes → Bytes → Prop
  | refl (a : Bytes) : Edit I R a a
  | ins {a p q v : Bytes} : v ∈ I → Edit I R a (p ++ q) → Edit I R a (p ++ v ++ q)
  | rep {a p s q v : Bytes} : v ∈ R → IsSpan s → Edit I R a (p ++ s ++ q) → Edit I R a (p ++ v ++ q)

namespace Edit
variable {I R : List Bytes}

theorem trans {a b c : Bytes} (h1 : Edit I R a b) (h2 : Edit I R b c) : Edit I R a c := by
  induction h2 with
  | refl => exact h1
  | ins hv _ ih => exact .ins hv ih
  | rep hv hs _ ih => exact .rep hv hs ih

theorem mono {I' R' : List Bytes} (hI : ∀ v, v ∈ I → v ∈ I') (hR : ∀ v, v ∈ R → v ∈ R') {a b : Bytes}
    (h : Edit I R a b) : Edit I' R' a b := by
  induction h with
  | refl => exact .refl _
  | ins hv _ ih => exact .ins (hI _ hv) ih
  | rep hv hs _ ih => exact .rep (hR _ hv) hs ih

theorem app (x y : Bytes) {a b : Bytes} (h : Edit I R a b) : Edit I R (x ++ a ++ y) (x ++ b ++ y) := by
  induction h with
  | refl => exact .refl _
  | @ins p q v hv _ ih =>
    have : x ++ (p ++ v ++ q) ++ y = (x ++ p) ++ v ++ (q ++ y) := by simp
    rw [this]
    exact .ins hv (by simpa using ih)
  | @rep p s q v hv hs _ ih =>
    have : x ++ (p ++ v ++ q) ++ y = (x ++ p) ++ v ++ (q ++ y) := by simp
    rw [this]
    exact .rep hv hs (by simpa using ih)

theorem appL (x : Bytes) {a b : Bytes} (h : Edit I R a b) : Edit I R (x ++ a) (x ++ b) := by
  simpa using h.app x []

theorem appR (y : Bytes) {a b : Bytes} (h : Edit I R a b) : Edit I R (a ++ y) (b ++ y) :=
  h.app [] y

theorem ins1 {v : Bytes} (hv : v ∈ I) (p q : Bytes) : Edit I R (p ++ q) (p ++ v ++ q) :=
  .ins hv (.refl _)

theorem rep1 {v s : Bytes} (hv : v ∈ R) (hs : IsSpan s) (p q : Bytes) : Edit I R (p ++ s ++ q) (p ++ v ++ q) :=
  .rep hv hs (.refl _)

theorem length_le {a b : Bytes} (h : Edit I [] a b) : a.length ≤ b.length := by
  induction h with
  | refl => exact Nat.le_refl _
  | ins _ _ ih => simp at ih ⊢; omega
  | rep hv => simp at hv

end Edit

/-- What a stage guarantees between the stream it has read and the stream it has written, in a form that survives running
longer (`trans`) and being looked at inside a longer stream (`appL`, `appR`). -/
structure StreamRel where
  r : Bytes → Bytes → Prop
  refl : ∀ a, r a a
  trans : ∀ {a b c}, r a b → r b c → r a c
  appL : ∀ (x : Bytes) {a b}, r a b → r (x ++ a) (x ++ b)
  appR : ∀ (y : Bytes) {a b}, r a b → r (a ++ y) (b ++ y)

/-- one call: the stage had consumed `c`, emitted `m`, held `h`; of `h ++ x` it makes `y` (output, then what it holds now) -/
theorem StreamRel.step (ρ : StreamRel) {c m h x y : Bytes} (h1 : ρ.r c (m ++ h)) (h2 : ρ.r (h ++ x) y) :
    ρ.r (c ++ x) (m ++ y) :=
  ρ.trans (ρ.appR x h1) (by rw [List.append_assoc]; exact ρ.appL m h2)

def editRel (I R : List Bytes) : StreamRel where
  r := Edit I R
  refl := .refl
  trans := Edit.trans
  appL := Edit.appL
  appR := Edit.appR

/-- the relation of a `replace_text` stage: the whole stream is replaced -/
def anyRel : StreamRel where
  r := fun _ _ => True
  refl := by intros; trivial
  trans := by intros; trivial
  appL := by intros; trivial
  appR := by intros; trivial

def Comp : List StreamRel → Bytes → Bytes → Prop
  | [], a, b => a = b
  | ρ :: ρs, a, c => ∃ b, ρ.r a b ∧ Comp ρs b c

theorem Comp.refl : ∀ (ρs : List StreamRel) (a : Bytes), Comp ρs a a
  | [], _ => rfl
  | ρ :: ρs, a => ⟨a, ρ.refl a, Comp.refl ρs a⟩

def textRel (s : TextSt) : StreamRel :=
  match s.action with
  | .replace => anyRel
  | _ => editRel [s.content] []

@[simp] theorem editRel_r (I R : List Bytes) : (editRel I R).r = Edit I R := rfl
@[simp] theorem anyRel_r (a b : Bytes) : anyRel.r a b = True := rfl

theorem filterText_static (s : TextSt) (x : Bytes) : (filterText s x).1.action = s.action ∧ (filterText s x).1.content = s.content := by
  obtain ⟨a, c, e⟩ := s
  cases a <;> cases e <;> simp [filterText]

theorem endText_static (s : TextSt) : (endText s).1.action = s.action ∧ (endText s).1.content = s.content := by
  obtain ⟨a, c, e⟩ := s
  cases e <;> simp [endText]

theorem textRel_filter (s : TextSt) (x : Bytes) : textRel (filterText s x).1 = textRel s := by
  have h := filterText_static s x
  unfold textRel
  rw [h.1, h.2]

theorem textRel_end (s : TextSt) : textRel (endText s).1 = textRel s := by
  have h := endText_static s
  unfold textRel
  rw [h.1, h.2]

theorem edit_ins_front (c x : Bytes) (R : List Bytes) : Edit [c] R x (c ++ x) := by
  have := Edit.ins1 (I := [c]) (R := R) (v := c) (by simp) [] x
  simpa using this

theorem edit_ins_back (c x : Bytes) (R : List Bytes) : Edit [c] R x (x ++ c) := by
  have := Edit.ins1 (I := [c]) (R := R) (v := c) (by simp) x []
  simpa using this

theorem filterText_rel (s : TextSt) (x : Bytes) : (textRel s).r x (filterText s x).2 := by
  obtain ⟨a, c, e⟩ := s
  cases a <;> cases e <;> simp [filterText, textRel, edit_ins_front] <;> exact Edit.refl _

theorem endText_rel (s : TextSt) : (textRel s).r [] (endText s).2 := by
  obtain ⟨a, c, e⟩ := s
  -- `end()` emits the content (an insertion into `[]`) unless `executed` is set
  have hc : Edit [c] [] [] c := by simpa using edit_ins_front c [] []
  cases a <;> cases e <;> simp [endText, textRel, hc, Edit.refl]

section
variable (tk : Tokenize) (ev : Bytes → Bytes → Bool) {D E : Type} (codec : Codec D E)
variable {st st' : Stage D E} {x o : Bytes}

theorem Stage.filter_text (s : TextSt) :
    (Stage.text s : Stage D E).filter tk ev codec x = some (.text (filterText s x).1, (filterText s x).2) := rfl

theorem Stage.filter_html_none {s : HtmlSt} (h : filterHtml tk ev s x = none) :
    (Stage.html s : Stage D E).filter tk ev codec x = none := by
  rw [Stage.filter, h]; rfl

theorem Stage.filter_html_some {s s' : HtmlSt} (h : filterHtml tk ev s x = some (s', o)) :
    (Stage.html s : Stage D E).filter tk ev codec x = some (.html s', o) := by
  rw [Stage.filter, h]; rfl

theorem doFilter_cons_none (rest : List (Stage D E)) (h : st.filter tk ev codec x = none) :
    doFilter tk ev codec (st :: rest) x = (st :: rest, none) := by
  rw [doFilter, h]

/-- the `break` on an empty intermediate result -/
theorem doFilter_cons_empty (rest : List (Stage D E)) (h : st.filter tk ev codec x = some (st', [])) :
    doFilter tk ev codec (st :: rest) x = (st' :: rest, some []) := by
  rw [doFilter, h]
  rfl

theorem doFilter_cons_more (rest : List (Stage D E)) (h : st.filter tk ev codec x = some (st', o)) (ho : o ≠ []) :
    doFilter tk ev codec (st :: rest) x =
      (st' :: (doFilter tk ev codec rest o).1, (doFilter tk ev codec rest o).2) := by
  rw [doFilter, h]
  simp only
  rw [if_neg (fun he => ho (List.isEmpty_iff.mp he))]

theorem doFilter_cons_cases {rest items' : List (Stage D E)} {r : Option Bytes}
    (h : doFilter tk ev codec (st :: rest) x = (items', r)) :
    (st.filter tk ev codec x = none ∧ items' = st :: rest ∧ r = none) ∨
    ∃ st' o, st.filter tk ev codec x = some (st', o) ∧
      ((o = [] ∧ items' = st' :: rest ∧ r = some []) ∨
       (o ≠ [] ∧ ∃ rest', doFilter tk ev codec rest o = (rest', r) ∧ items' = st' :: rest')) := by
  cases hf : st.filter tk ev codec x with
  | none =>
    rw [doFilter_cons_none tk ev codec rest hf] at h
    injection h with h1 h2
    exact Or.inl ⟨rfl, h1.symm, h2.symm⟩
  | some q =>
    obtain ⟨st', o⟩ := q
    refine Or.inr ⟨st', o, rfl, ?_⟩
    by_cases ho : o = []
    · subst ho
      rw [doFilter_cons_empty tk ev codec rest hf] at h
      injection h with h1 h2
      exact Or.inl ⟨rfl, h1.symm, h2.symm⟩
    · rw [doFilter_cons_more tk ev codec rest hf ho] at h
      injection h with h1 h2
      exact Or.inr ⟨ho, _, Prod.ext rfl h2, h1.symm⟩

theorem Stage.endWith_filter_none (h : st.filter tk ev codec x = none) :
    st.endWith tk ev codec (some x) = (st, none) := by
  rw [Stage.endWith, h]

theorem Stage.endWith_filter_some (h : st.filter tk ev codec x = some (st', o)) :
    st.endWith tk ev codec (some x) =
      ((st'.endWith tk ev codec none).1, (st'.endWith tk ev codec none).2.map fun t => o ++ t) := by
  simp only [Stage.endWith, h]
  rcases st'.end codec with _ | ⟨st2, o2⟩ <;> rfl

end

end Rio.Filter
