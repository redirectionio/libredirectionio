/-
Bridge between the router model (`Rio.Router.Route`, the part of a route that matching reads)
and the action model (`Rio.Action.Rule`, the part of `route.handler()` that the action reads).

The two record types do not meet: a `Router.Route` has no handler field, an `Action.Rule` has no
triggers.  The composition theorems therefore take the projection `ruleOf : Route → Rule`
("`route.handler()`, seen by the action code") as a PARAMETER and need one fact about it:
`HandlerOf ruleOf` — routes with different ids carry rules with different ids (in the code
`Route.id = rule.id.clone()`).  `handlerOfRoute` is the canonical instance (id = UTF-8 bytes of the
route id, rank = `-priority`, any assignment of effects to ids), so the hypothesis is not vacuous.
-/
import RioModel.Model.RouterBase
import RioModel.Proofs.ActionSort

namespace Rio.Action

structure HandlerOf (ruleOf : Rio.Router.Route → Rule) : Prop where
  id_inj : ∀ a b : Rio.Router.Route, (ruleOf a).id = (ruleOf b).id → a.id = b.id

theorem HandlerOf.nodupIds {ruleOf : Rio.Router.Route → Rule} (h : HandlerOf ruleOf)
    (L : List Rio.Router.Route) (hL : (L.map (·.id)).Nodup) : NodupIds (L.map ruleOf) := by
  rw [NodupIds, List.map_map, List.Nodup, List.pairwise_map]
  exact (List.pairwise_map.mp hL).imp fun hne e => hne (h.id_inj _ _ e)

def utf8 (s : String) : RuleId := s.toUTF8.data.toList.map (·.toNat)

theorem utf8_inj (a b : String) (h : utf8 a = utf8 b) : a = b := by
  unfold utf8 at h
  have h1 : a.toUTF8.data.toList = b.toUTF8.data.toList :=
    (List.map_inj_right (fun x y hxy => UInt8.toNat_inj.mp hxy)).mp h
  have h2 : a.toUTF8 = b.toUTF8 := by
    apply ByteArray.ext
    exact Array.toList_inj.mp h1
  exact String.toByteArray_inj.mp h2

/-- `IntoRoute for Rule` builds the route with `priority = 0 - rank`. -/
def handlerOfRoute (effects : String → Rule) (r : Rio.Router.Route) : Rule :=
  { effects r.id with id := utf8 r.id, rank := (-r.priority).toNat }

theorem handlerOfRoute_ok (effects : String → Rule) : HandlerOf (handlerOfRoute effects) :=
  ⟨fun a b h => utf8_inj a.id b.id h⟩

end Rio.Action
