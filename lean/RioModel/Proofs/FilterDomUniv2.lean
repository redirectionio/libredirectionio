/-
C15, byte level, universal form, second grammar `Simple2`: a verbatim piece of the document (`Node.verb`: a text, a
comment, a declaration — or the VALUE a filter has inserted) may be the serialisation of a whole `Simple` FOREST.

The reference edit inserts the value of a filter as ONE verbatim node `.verb value marks`; the grammar `Simple`
(Proofs/FilterDomUniv.lean) reads a verbatim piece as one text or one `other` token, so the document the SECOND filter of
a chain sees is outside `Simple` as soon as the value holds an element (`<ins>V</ins>`), although the tokenizer reads the
value as start tag, text, end tag.  Here the "how does the tokenizer see a verbatim piece" parameter `vt` of the
token-level theory (Proofs/FilterDom.lean) is instantiated by `vtP`: the tokens of the forest `expandV raw` the piece is
parsed into (a small recursive-descent parser `parseForest`, NOT trusted: its result is used only when it serialises back
to the piece, byte for byte — otherwise, and whenever the piece is a node of `Simple` already, the piece stays as it is).
`Simple2L L d := SimpleL L (expandL d)`; the token-level theorems apply with `vt := vtP`, and their conclusion is about the
UNCHANGED reference edit `editAllD` (value inserted verbatim).

The domain `InDomain htmlTokenize vtP d f` looks INSIDE inserted values (a value holding an element named like a path
element of a later filter is outside the domain, as it must be: the real filter would edit it, the reference does not).
-/
import RioModel.Proofs.FilterDomRec

namespace Rio.Filter
open Rio.Html Rio.Html.Tokenizer Rio.Consts

def isNameStartB (c : Nat) : Bool := (65 ≤ c && c ≤ 90) || (97 ≤ c && c ≤ 122)

def tagNameByteB (c : Nat) : Bool := !isWs c && c != 47 && c != 62

/-- the first non-white-space byte of the (reversed) text read so far is `=`: a quote opens a quoted value -/
def afterEqB (acc : Bytes) : Bool := (acc.dropWhile isWs).head? == some 61

/-- the attribute text of a tag up to the `>` that ends it (outside quoted values): (attribute text, rest after `>`);
`q` = the open quote (0 = none), `acc` = the text read so far, reversed -/
def scanTag : Bytes → Nat → Bytes → Option (Bytes × Bytes)
  | [], _, _ => none
  | b :: rest, q, acc =>
    if q != 0 then (if b == q then scanTag rest 0 (b :: acc) else scanTag rest q (b :: acc))
    else if b == 62 then some (acc.reverse, rest)
    else if (b == 34 || b == 39) && afterEqB acc then scanTag rest b (b :: acc)
    else scanTag rest 0 (b :: acc)

/-- up to and including the first `-->`: (piece, rest) -/
def splitDashes : Bytes → Option (Bytes × Bytes)
  | [] => none
  | b :: rest =>
    if (b :: rest).take 3 == [45, 45, 62] then some ([45, 45, 62], rest.drop 2)
    else (splitDashes rest).map fun (x, r) => (b :: x, r)

/-- up to and including the first `>`: (piece, rest) -/
def splitGt : Bytes → Option (Bytes × Bytes)
  | [] => none
  | b :: rest => if b == 62 then some ([62], rest) else (splitGt rest).map fun (x, r) => (b :: x, r)

/-- the longest prefix in which no `<` + opener starts (after the first byte): (text, rest) -/
def takeText : Bytes → Bytes × Bytes
  | [] => ([], [])
  | b :: rest => if startsOpenerB (b :: rest) then ([], b :: rest) else ((b :: (takeText rest).1), (takeText rest).2)

/-- a forest up to the end of the bytes or the next end tag: (nodes, rest).  Raw-text elements are not parsed (`none`). -/
def parseGo : Nat → Bytes → Option (List Node × Bytes)
  | 0, _ => none
  | n + 1, bs =>
    match bs with
    | [] => some ([], [])
    | b :: rest =>
      if !startsOpenerB (b :: rest) then
        (parseGo n (takeText rest).2).map fun (ns, r) => (.verb (b :: (takeText rest).1) [] :: ns, r)
      else if rest.head? == some 47 then some ([], bs)
      else if rest.take 3 == [33, 45, 45] then
        match splitDashes (rest.drop 3) with
        | none => none
        | some (x, r) => (parseGo n r).map fun (ns, r') => (.verb ([60, 33, 45, 45] ++ x) [] :: ns, r')
      else if rest.head? == some 33 || rest.head? == some 63 then
        match splitGt rest with
        | none => none
        | some (x, r) => (parseGo n r).map fun (ns, r') => (.verb (60 :: x) [] :: ns, r')
      else if (rest.head?.map isNameStartB).getD false then
        let nm := rest.takeWhile tagNameByteB
        match scanTag (rest.dropWhile tagNameByteB) 0 [] with
        | none => none
        | some (a, after) =>
          if a.getLast? == some 47 then
            (parseGo n after).map fun (ns, r) => (.el (lowerName nm) nm a.dropLast .selfClosing [] :: ns, r)
          else if isVoid (lowerName nm) then
            (parseGo n after).map fun (ns, r) => (.el (lowerName nm) nm a .void [] :: ns, r)
          else if isRawName (lowerName nm) then none
          else
            match parseGo n after with
            | none => none
            | some (cs, r) =>
              if r.take (nm.length + 3) == [60, 47] ++ nm ++ [62] then
                (parseGo n (r.drop (nm.length + 3))).map fun (ns, r') => (.el (lowerName nm) nm a .normal cs :: ns, r')
              else none
      else none

def parseForest (bs : Bytes) : Option (List Node) :=
  match parseGo (bs.length + 1) bs with
  | some (ns, []) => some ns
  | _ => none

/-- the forest a verbatim piece stands for: the piece itself when it is a node of `Simple` (text, comment, declaration) or
when the parser does not return a forest with exactly these bytes -/
def expandV (raw : Bytes) (m : List Bytes) : List Node :=
  if simpleNB (.verb raw m) then [.verb raw m]
  else
    match parseForest raw with
    | some ns => if serializeList ns = raw then ns else [.verb raw m]
    | none => [.verb raw m]

theorem serializeList_expandV (raw : Bytes) (m : List Bytes) : serializeList (expandV raw m) = raw := by
  fun_cases expandV raw m
  -- case 2: the parser's forest, taken under `h : serializeList ns = raw`; in the others the piece stays
  case case2 h => exact h
  all_goals simp [serializeList, serialize]

theorem simpleNB_verb_marks (raw : Bytes) (m m' : List Bytes) : simpleNB (.verb raw m) = simpleNB (.verb raw m') := by
  simp [simpleNB]

/-- how the tokenizer sees a verbatim piece: as the tokens of its forest -/
def vtP (raw : Bytes) : List Tok := tokensOfList vtU (expandV raw [])

theorem vtP_lossless : VtLossless vtP := by
  intro raw
  unfold vtP
  rw [rawsOf_tokensOfList vtU vtU_lossless, serializeList_expandV]

theorem tokensOfList_expandV (raw : Bytes) (m : List Bytes) : tokensOfList vtU (expandV raw m) = vtP raw := by
  unfold vtP expandV
  rw [simpleNB_verb_marks raw m []]
  split
  · simp [tokensOfList, tokensOf]
  · split
    · split
      · rfl
      · simp [tokensOfList, tokensOf]
    · simp [tokensOfList, tokensOf]

mutual
  /-- every verbatim piece outside raw-text elements replaced by its forest -/
  def expandN : Node → List Node
    | .verb raw m => expandV raw m
    | .el nm d a knd cs =>
      match knd with
      | .normal => [.el nm d a .normal (expandL cs)]
      | k => [.el nm d a k cs]
  def expandL : List Node → List Node
    | [] => []
    | n :: ns => expandN n ++ expandL ns
end

mutual
  theorem serializeList_expandN : ∀ n : Node, serializeList (expandN n) = serialize n
    | .verb raw m => by simp [expandN, serializeList_expandV, serialize]
    | .el nm d a knd cs => by
      cases knd with
      | normal => simp [expandN, serializeList, serialize, serializeList_expandL cs]
      | _ => simp [expandN, serializeList, serialize]
  theorem serializeList_expandL : ∀ ns : List Node, serializeList (expandL ns) = serializeList ns
    | [] => by simp [expandL]
    | n :: ns => by
      simp [expandL, serializeList_append, serializeList, serializeList_expandN n, serializeList_expandL ns]
end

mutual
  theorem tokensOfList_expandN : ∀ n : Node, tokensOfList vtU (expandN n) = tokensOf vtP n
    | .verb raw m => by simp [expandN, tokensOfList_expandV, tokensOf]
    | .el nm d a knd cs => by
      cases knd with
      | normal => simp [expandN, tokensOfList, tokensOf, tokensOfList_expandL cs]
      | _ => simp [expandN, tokensOfList, tokensOf]
  theorem tokensOfList_expandL : ∀ ns : List Node, tokensOfList vtU (expandL ns) = tokensOfList vtP ns
    | [] => by simp [expandL, tokensOfList]
    | n :: ns => by
      simp [expandL, tokensOfList_append, tokensOfList, tokensOfList_expandN n, tokensOfList_expandL ns]
end

mutual
  theorem expandN_of_simpleNB : ∀ n : Node, simpleNB n = true → expandN n = [n]
    | .verb raw m, h => by simp [expandN, expandV, h]
    | .el nm d a knd cs, h => by
      cases knd with
      | normal =>
        simp only [simpleNB, Bool.and_eq_true] at h
        simp [expandN, expandL_of_simpleLB cs h.2.2]
      | _ => simp [expandN]
  theorem expandL_of_simpleLB : ∀ ns : List Node, simpleLB ns = true → expandL ns = ns
    | [], _ => by simp [expandL]
    | n :: ns, h => by
      simp only [simpleLB, Bool.and_eq_true] at h
      simp [expandL, expandN_of_simpleNB n h.1.1, expandL_of_simpleLB ns h.2]
end

/-- **the grammar `Simple2`**: the document whose verbatim pieces are replaced by the forests they serialise is `Simple` -/
def Simple2L (L : Laws) (doc : List Node) : Prop := SimpleL L (expandL doc)

def simple2LB (doc : List Node) : Bool := simpleLB (expandL doc)

theorem simple2LB_sound (doc : List Node) (h : simple2LB doc = true) : Simple2L simpleLaws doc :=
  simpleLB_sound (expandL doc) h

theorem simple2LB_of_simpleLB (doc : List Node) (h : simpleLB doc = true) : simple2LB doc = true := by
  unfold simple2LB
  rw [expandL_of_simpleLB doc h]
  exact h

/-- `filter` holds nothing back at the end of the document (tokens as the tokenizer sees them: `vtP`) -/
def NoHeld2 (doc : List Node) : Prop := splitHeld (tokensOfList vtP doc) = (tokensOfList vtP doc, [])

instance (doc : List Node) : Decidable (NoHeld2 doc) := by unfold NoHeld2; infer_instance

theorem tokenize_serialize2 (L : Laws) (doc : List Node) (hs : Simple2L L doc) :
    htmlTokenize (serializeList doc) = (tokensOfList vtP doc, []) := by
  have := tokenize_serialize_of_laws L (expandL doc) hs
  rwa [serializeList_expandL, tokensOfList_expandL] at this

theorem tokAgree2_of_laws (L : Laws) (doc : List Node) (hs : Simple2L L doc)
    (hu : utf8Split (serializeList doc) = some (serializeList doc, [])) (hh : NoHeld2 doc) :
    TokAgree htmlTokenize vtP doc := by
  have h := streamTo_stream (stream_serialize_of_laws L (expandL doc) hs)
  rw [serializeList_expandL, tokensOfList_expandL] at h
  exact ⟨h.1, h.2.1, h.2.2, hu, hh⟩

def StepsSimple2 (L : Laws) (ev : Bytes → Bytes → Bool) : List Node → List BodyFilter → Prop
  | _, [] => True
  | d, f :: fs =>
    Simple2L L d ∧ utf8Split (serializeList d) = some (serializeList d, []) ∧ NoHeld2 d ∧
    InDomain htmlTokenize vtP d f ∧
    (fs ≠ [] → serializeList (editD (decOf ev) d f) ≠ []) ∧ StepsSimple2 L ev (editD (decOf ev) d f) fs

theorem stepsOK_of_simple2 (L : Laws) (ev : Bytes → Bytes → Bool) :
    ∀ (fs : List BodyFilter) (d : List Node), StepsSimple2 L ev d fs → StepsOK htmlTokenize ev vtP d fs
  | [], _, _ => trivial
  | f :: fs, d, h => by
    obtain ⟨hs, hu, hh, hd, hne, hrest⟩ := h
    exact ⟨hd, tokAgree2_of_laws L d hs hu hh, hne, stepsOK_of_simple2 L ev fs _ hrest⟩

def stepsSimple2B (ev : Bytes → Bytes → Bool) : List Node → List BodyFilter → Bool
  | _, [] => true
  | d, f :: fs =>
    simple2LB d && decide (utf8Split (serializeList d) = some (serializeList d, [])) && decide (NoHeld2 d) &&
    inDomainB htmlTokenize vtP d f &&
    (fs.isEmpty || !(serializeList (editD (decOf ev) d f)).isEmpty) &&
    stepsSimple2B ev (editD (decOf ev) d f) fs

theorem stepsSimple2B_sound (ev : Bytes → Bytes → Bool) : ∀ (fs : List BodyFilter) (d : List Node),
    stepsSimple2B ev d fs = true → StepsSimple2 simpleLaws ev d fs
  | [], _, _ => trivial
  | f :: fs, d, h => by
    unfold stepsSimple2B at h
    simp only [Bool.and_eq_true, Bool.or_eq_true, Bool.not_eq_true', List.isEmpty_eq_false_iff, List.isEmpty_iff,
      decide_eq_true_eq] at h
    obtain ⟨⟨⟨⟨⟨h1, h2⟩, hh⟩, h3⟩, h4⟩, h5⟩ := h
    exact ⟨simple2LB_sound d h1, h2, hh, inDomainB_sound htmlTokenize vtP h3, h4.resolve_left,
      stepsSimple2B_sound ev fs _ h5⟩

/-! ### evaluating `stepsOKB` for the tokenizer model without running the tokenizer

`stepsOKB htmlTokenize ev (vtOf htmlTokenize)` runs the tokenizer model over every document a filter sees and over every
verbatim piece.  On documents and pieces the recogniser of `Simple2` accepts, the universal theorems say what comes out,
so an evaluator (the kernel, for `exDoc_checked` of Props/C15.lean) needs the recogniser only. -/

theorem vtOf_htmlTokenize_of_simple2 {raw : Bytes} {m : List Bytes} (h : Simple2L simpleLaws [.verb raw m]) :
    vtOf htmlTokenize raw = vtP raw := by
  have ht := tokenize_serialize2 simpleLaws _ h
  simp only [serializeList, serialize, tokensOfList, tokensOf, List.append_nil] at ht
  unfold vtOf
  rw [ht, if_pos (vtP_lossless raw)]

/-- `vtOf htmlTokenize`, written so that the tokenizer is not run on a piece the recogniser accepts -/
def vtFast (raw : Bytes) : List Tok :=
  if simple2LB [.verb raw []] then vtP raw else vtOf htmlTokenize raw

theorem vtFast_eq : vtFast = vtOf htmlTokenize := by
  funext raw
  unfold vtFast
  split
  · rename_i h
    exact (vtOf_htmlTokenize_of_simple2 (simple2LB_sound _ h)).symm
  · rfl

/-- `stepsOKB htmlTokenize ev vt` with `tokAgreeB` (the tokenizer run over the whole document) replaced by the hypotheses
of `tokAgree2_of_laws` and the agreement of `vt` with `vtP` on the document -/
def stepsFastB (ev : Bytes → Bytes → Bool) (vt : Bytes → List Tok) : List Node → List BodyFilter → Bool
  | _, [] => true
  | d, f :: fs =>
    inDomainB htmlTokenize vt d f && simple2LB d &&
    decide (utf8Split (serializeList d) = some (serializeList d, [])) && decide (NoHeld2 d) &&
    decide (tokensOfList vt d = tokensOfList vtP d) &&
    (fs.isEmpty || !(serializeList (editD (decOf ev) d f)).isEmpty) &&
    stepsFastB ev vt (editD (decOf ev) d f) fs

theorem stepsOKB_of_fast (ev : Bytes → Bytes → Bool) (vt : Bytes → List Tok) :
    ∀ (fs : List BodyFilter) (d : List Node), stepsFastB ev vt d fs = true → stepsOKB htmlTokenize ev vt d fs = true
  | [], _, _ => rfl
  | f :: fs, d, h => by
    unfold stepsFastB at h
    simp only [Bool.and_eq_true, decide_eq_true_eq] at h
    obtain ⟨⟨⟨⟨⟨⟨hd, hs⟩, hu⟩, hh⟩, hvt⟩, hne⟩, hrest⟩ := h
    have hag := (tokAgree2_of_laws simpleLaws d (simple2LB_sound d hs) hu hh).of_tokens_eq hvt
    unfold stepsOKB
    simp only [Bool.and_eq_true]
    exact ⟨⟨⟨hd, tokAgreeB_iff.mpr hag⟩, hne⟩, stepsOKB_of_fast ev vt fs _ hrest⟩

end Rio.Filter
