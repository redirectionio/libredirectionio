/-
`enter` and `first` of the three HTML body visitors (`BodyAppend`, `BodyPrepend`, `BodyReplace`,
src/filter/html_body_action/body_*.rs) TRANSLATED from the source on every run (`Rio.Consts.genBody*Enter`,
`genBody*First`; section `w4_translate_visitor`, tools/consts.d/w4_translate_visitor.py) agree with the visitor model
(`Rio.Filter.Visitor.enter`, `.first`, Model/Filter.lean).

The code keeps `element_tree : Vec<String>` and an index `position`; the model keeps a zipper
(`before` reversed, `cur`, `after`).  `Rep tree pos v` relates the two; the theorems say that from related states the
translated function returns what the model returns and leaves related states (and the same `is_buffering`).
Indexing `v[i]` is translated as `(v[i]?).getD []`: under `Rep` every index the code evaluates is in range, so the
default is never used (the panic freedom of these indexings is C07's business).
Each translated function and the model's `enter` are first written as one equation per branch (a deeper element
remains / last level); the comparison then only rewrites with them.  (The model's `enter_*` are read off the definition kind by kind;
`Visitor.enter_eq` of Proofs/FilterHtml.lean, uniform in the kind, is a longer way to the same shape.)
-/
import RioModel.Generated.Consts
import RioModel.Proofs.FilterHtml

namespace Rio.VisitorGen
open Rio.Consts Rio.Filter

structure Rep (tree : List Bytes) (pos : Nat) (v : Visitor) : Prop where
  tree_eq : tree = v.before.reverse ++ v.cur :: v.after
  pos_eq : pos = v.before.length

theorem Rep.get {tree : List Bytes} {pos : Nat} {v : Visitor} (h : Rep tree pos v) :
    tree[pos]? = some v.cur := by
  rw [h.tree_eq, h.pos_eq]
  simp

theorem Rep.cur {tree : List Bytes} {pos : Nat} {v : Visitor} (h : Rep tree pos v) :
    (tree[pos]?).getD [] = v.cur := by
  rw [h.get]; rfl

theorem Rep.len {tree : List Bytes} {pos : Nat} {v : Visitor} (h : Rep tree pos v) :
    tree.length = pos + 1 + v.after.length := by
  rw [h.tree_eq, h.pos_eq]
  simp; omega

theorem Rep.more {tree : List Bytes} {pos : Nat} {v : Visitor} (h : Rep tree pos v) :
    (pos + 1 < tree.length) ↔ v.after ≠ [] := by
  rw [h.len]
  cases v.after <;> simp

theorem Rep.advance {tree : List Bytes} {pos : Nat} {v : Visitor} (h : Rep tree pos v) (ha : v.after ≠ []) :
    Rep tree (pos + 1) v.advance := by
  unfold Visitor.advance
  cases hv : v.after with
  | nil => exact absurd hv ha
  | cons a rest =>
    refine ⟨?_, ?_⟩
    · rw [h.tree_eq, hv]; simp
    · rw [h.pos_eq]; simp

theorem Rep.first {tree : List Bytes} {pos : Nat} {v : Visitor} (h : Rep tree pos v) :
    (tree[0]?).getD [] = v.first := by
  rw [h.tree_eq, Visitor.first]
  cases v.before.reverse <;> rfl

theorem hasSel_eq (v : Visitor) : v.hasSel = (v.sel.isSome && !(v.sel.getD []).isEmpty) := by
  unfold Visitor.hasSel
  cases v.sel <;> simp

theorem not_hasSel_eq (v : Visitor) : (!v.hasSel) = (v.sel.isNone || (v.sel.getD []).isEmpty) := by
  unfold Visitor.hasSel
  cases v.sel <;> simp

section
variable {tree : List Bytes} {pos : Nat} {sel : Option Bytes} {content data : Bytes} {b : Bool}

theorem genAppendEnter_descend (h : pos + 1 < tree.length) :
    genBodyAppendEnter tree pos sel content data =
      ((some ((tree[pos + 1]?).getD []), some ((tree[pos]?).getD []), false, data), pos + 1) := by
  simp [genBodyAppendEnter, h]

theorem genPrependEnter_descend (h : pos + 1 < tree.length) :
    genBodyPrependEnter tree pos sel content b data =
      ((some ((tree[pos + 1]?).getD []), some ((tree[pos]?).getD []), false, data), pos + 1, b) := by
  simp [genBodyPrependEnter, h]

theorem genReplaceEnter_descend (h : pos + 1 < tree.length) :
    genBodyReplaceEnter tree pos sel content b data =
      ((some ((tree[pos + 1]?).getD []), some ((tree[pos]?).getD []), false, data), pos + 1, b) := by
  simp [genBodyReplaceEnter, h]

theorem genAppendEnter_last (h : ¬ pos + 1 < tree.length) :
    genBodyAppendEnter tree pos sel content data =
      ((none, some ((tree[pos]?).getD []), (sel.isSome && !(sel.getD []).isEmpty), data), pos) := by
  -- `Nat.le_of_not_lt h`: the source repeats the test as a conjunct `position + 1 >= len` (unused once that is dropped)
  simp [genBodyAppendEnter, h, Nat.le_of_not_lt h]

theorem genPrependEnter_last (h : ¬ pos + 1 < tree.length) :
    genBodyPrependEnter tree pos sel content b data =
      (if sel.isNone || (sel.getD []).isEmpty then ((none, some ((tree[pos]?).getD []), b, data ++ content), pos, b)
       else ((none, some ((tree[pos]?).getD []), true, data), pos, true)) := by
  simp only [genBodyPrependEnter, h, Nat.le_of_not_lt h, decide_true, decide_false, if_true, if_false,
    Bool.false_eq_true]
  split <;> rfl

theorem genReplaceEnter_last (h : ¬ pos + 1 < tree.length) :
    genBodyReplaceEnter tree pos sel content b data = ((none, some ((tree[pos]?).getD []), true, data), pos, true) := by
  simp [genBodyReplaceEnter, h, Nat.le_of_not_lt h]

end

theorem enter_descend {v : Visitor} (ha : v.after ≠ []) (data : Bytes) :
    v.enter data = ((some v.advance.cur, some v.cur, false, data), v.advance) := by
  rw [Visitor.enter, if_pos ha]

theorem enter_append_last {v : Visitor} (hk : v.kind = .append) (ha : ¬ v.after ≠ []) (data : Bytes) :
    v.enter data = ((none, some v.cur, v.hasSel, data), v) := by
  rw [Visitor.enter, if_neg ha]; simp only [hk]

theorem enter_prepend_last {v : Visitor} (hk : v.kind = .prepend) (ha : ¬ v.after ≠ []) (data : Bytes) :
    v.enter data =
      if !v.hasSel then ((none, some v.cur, v.isBuffering, data ++ v.content), v)
      else ((none, some v.cur, true, data), { v with isBuffering := true }) := by
  rw [Visitor.enter, if_neg ha]; simp only [hk]

theorem enter_replace_last {v : Visitor} (hk : v.kind = .replace) (ha : ¬ v.after ≠ []) (data : Bytes) :
    v.enter data = ((none, some v.cur, true, data), { v with isBuffering := true }) := by
  rw [Visitor.enter, if_neg ha]; simp only [hk]

theorem genAppendEnter_eq {tree : List Bytes} {pos : Nat} {v : Visitor} (hk : v.kind = .append)
    (h : Rep tree pos v) (data : Bytes) :
    (genBodyAppendEnter tree pos v.sel v.content data).1 = (v.enter data).1 ∧
    Rep tree (genBodyAppendEnter tree pos v.sel v.content data).2 (v.enter data).2 := by
  by_cases ha : v.after ≠ []
  · rw [genAppendEnter_descend (h.more.mpr ha), enter_descend ha, h.cur, (h.advance ha).cur]
    exact ⟨rfl, h.advance ha⟩
  · rw [genAppendEnter_last (mt h.more.mp ha), enter_append_last hk ha, h.cur, hasSel_eq]
    exact ⟨rfl, h⟩

theorem genPrependEnter_eq {tree : List Bytes} {pos : Nat} {v : Visitor} (hk : v.kind = .prepend)
    (h : Rep tree pos v) (data : Bytes) :
    (genBodyPrependEnter tree pos v.sel v.content v.isBuffering data).1 = (v.enter data).1 ∧
    Rep tree (genBodyPrependEnter tree pos v.sel v.content v.isBuffering data).2.1 (v.enter data).2 ∧
    (genBodyPrependEnter tree pos v.sel v.content v.isBuffering data).2.2 = (v.enter data).2.isBuffering := by
  by_cases ha : v.after ≠ []
  · rw [genPrependEnter_descend (h.more.mpr ha), enter_descend ha, h.cur, (h.advance ha).cur]
    exact ⟨rfl, h.advance ha, v.advance_isBuffering.symm⟩
  · rw [genPrependEnter_last (mt h.more.mp ha), enter_prepend_last hk ha, h.cur, not_hasSel_eq]
    split
    · exact ⟨rfl, h, rfl⟩
    · exact ⟨rfl, ⟨h.tree_eq, h.pos_eq⟩, rfl⟩

theorem genReplaceEnter_eq {tree : List Bytes} {pos : Nat} {v : Visitor} (hk : v.kind = .replace)
    (h : Rep tree pos v) (data : Bytes) :
    (genBodyReplaceEnter tree pos v.sel v.content v.isBuffering data).1 = (v.enter data).1 ∧
    Rep tree (genBodyReplaceEnter tree pos v.sel v.content v.isBuffering data).2.1 (v.enter data).2 ∧
    (genBodyReplaceEnter tree pos v.sel v.content v.isBuffering data).2.2 = (v.enter data).2.isBuffering := by
  by_cases ha : v.after ≠ []
  · rw [genReplaceEnter_descend (h.more.mpr ha), enter_descend ha, h.cur, (h.advance ha).cur]
    exact ⟨rfl, h.advance ha, v.advance_isBuffering.symm⟩
  · rw [genReplaceEnter_last (mt h.more.mp ha), enter_replace_last hk ha, h.cur]
    exact ⟨rfl, ⟨h.tree_eq, h.pos_eq⟩, rfl⟩

theorem rep_new (kind : VKind) (first : Bytes) (rest : List Bytes) (sel : Option Bytes) (content : Bytes) :
    Rep (first :: rest) 0 { kind := kind, cur := first, after := rest, sel := sel, content := content } :=
  ⟨rfl, rfl⟩

end Rio.VisitorGen
