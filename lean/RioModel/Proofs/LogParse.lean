/-
Lemmas about `Rio.AddrParse` / `Rio.LogParse`: trimming ignores padding, `split` inverts `join`, `splitn(2)` finds the first
separator, piece counts.
-/
import RioModel.Model.LogParse

namespace Rio.AddrParse

theorem dropWhile_nil_of_all {p : Char → Bool} {a : List Char} (h : ∀ c ∈ a, p c = true) : a.dropWhile p = [] := by
  simpa using List.dropWhile_append_of_pos (l₂ := []) h

theorem trim_back_pad {p : Char → Bool} {b : List Char} (hb : ∀ c ∈ b, p c = true) (s : List Char) :
    ((s ++ b).dropWhile p).reverse.dropWhile p = (s.dropWhile p).reverse.dropWhile p := by
  rw [List.dropWhile_append]
  split
  · next h => rw [List.isEmpty_iff.1 h, dropWhile_nil_of_all hb]
  · rw [List.reverse_append, List.dropWhile_append_of_pos fun d hd => hb d (List.mem_reverse.1 hd)]

theorem trimChars_pad {p : Char → Bool} {a b : List Char} (ha : ∀ c ∈ a, p c = true) (hb : ∀ c ∈ b, p c = true)
    (s : List Char) : trimChars p (a ++ s ++ b) = trimChars p s := by
  unfold trimChars
  rw [List.append_assoc, List.dropWhile_append_of_pos ha, trim_back_pad hb]

end Rio.AddrParse

namespace Rio.LogParse

theorem splitOn_ne_nil (sep : Char) (s : List Char) : splitOn sep s ≠ [] := by
  fun_cases splitOn sep s <;> simp

def joinSep (sep : Char) : List (List Char) → List Char
  | [] => []
  | [p] => p
  | p :: q :: r => p ++ sep :: joinSep sep (q :: r)

theorem mem_joinSep {sep c : Char} : ∀ {ps : List (List Char)}, c ∈ joinSep sep ps → c = sep ∨ ∃ p ∈ ps, c ∈ p
  | [], h => nomatch h
  | [p], h => .inr ⟨p, List.mem_singleton_self p, h⟩
  | p :: q :: r, h => by
    rw [joinSep, List.mem_append, List.mem_cons] at h
    rcases h with h | h | h
    · exact .inr ⟨p, List.mem_cons_self, h⟩
    · exact .inl h
    · exact (mem_joinSep h).imp_right fun ⟨x, hx, hc⟩ => ⟨x, List.mem_cons_of_mem _ hx, hc⟩

theorem splitOn_prefix (sep : Char) {t q : List Char} {qs : List (List Char)} (ht : splitOn sep t = q :: qs) :
    ∀ p : List Char, sep ∉ p → splitOn sep (p ++ t) = (p ++ q) :: qs
  | [], _ => ht
  | c :: r, h => by
    rw [List.cons_append, splitOn, if_neg (List.ne_of_not_mem_cons h).symm,
      splitOn_prefix sep ht r (List.not_mem_of_not_mem_cons h)]
    rfl

theorem splitOn_piece (sep : Char) (p : List Char) (h : sep ∉ p) (rest : List Char) :
    splitOn sep (p ++ sep :: rest) = p :: splitOn sep rest := by
  rw [splitOn_prefix sep (by rw [splitOn, if_pos rfl]) p h, List.append_nil]

theorem splitOn_single (sep : Char) (p : List Char) (h : sep ∉ p) : splitOn sep p = [p] := by
  simpa using splitOn_prefix sep (t := []) rfl p h

theorem splitOn_join (sep : Char) : ∀ (ps : List (List Char)), ps ≠ [] → (∀ p ∈ ps, sep ∉ p) →
    splitOn sep (joinSep sep ps) = ps
  | [], h, _ => absurd rfl h
  | [p], _, hp => by simp [joinSep, splitOn_single sep p (hp p (by simp))]
  | p :: q :: r, _, hp => by
    simp only [joinSep]
    rw [splitOn_piece sep p (hp p (by simp))]
    rw [splitOn_join sep (q :: r) (by simp) (fun x hx => hp x (by simp [hx]))]

theorem splitFirst_prefix (sep : Char) (t : List Char) : ∀ p : List Char, sep ∉ p →
    splitFirst sep (p ++ t) = (splitFirst sep t).map fun x => (p ++ x.1, x.2)
  | [], _ => by simp
  | c :: r, h => by
    rw [List.cons_append, splitFirst, if_neg (List.ne_of_not_mem_cons h).symm,
      splitFirst_prefix sep t r (List.not_mem_of_not_mem_cons h), Option.map_map]
    rfl

theorem splitFirst_append (sep : Char) (name : List Char) (h : sep ∉ name) (val : List Char) :
    splitFirst sep (name ++ sep :: val) = some (name, val) := by
  rw [splitFirst_prefix sep _ name h, splitFirst, if_pos rfl, Option.map_some, List.append_nil]

theorem splitFirst_none (sep : Char) (s : List Char) (h : sep ∉ s) : splitFirst sep s = none := by
  simpa [splitFirst] using splitFirst_prefix sep [] s h

theorem splitOn_length (sep : Char) (s : List Char) : (splitOn sep s).length = countSep sep s + 1 := by
  fun_induction splitOn sep s with
  | case1 => rfl
  | case2 rest ih => simpa [countSep] using ih
  | case3 c rest hc hnil ih => simp [hnil] at ih
  | case4 c rest hc p ps h ih => simpa [countSep, hc, h] using ih

end Rio.LogParse
