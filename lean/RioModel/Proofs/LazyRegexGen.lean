/-
The lazily compiled regex cell TRANSLATED from src/regex.rs (`Rio.Consts.GenLazyRegex`, `genLazyRegexNewNode`, `…NewLeaf`,
`…CreateRegex`, `…IsMatch`, `…Regex`, `…Compile`) and `Leaf::cache` (`genLeafCache`), related to the hand-written model
`Rio.Tree.LazyRegex` (Model/Tree.lean).  Helper definitions and lemmas; the theorems are in Props/C12gen.lean.
Of the `gen…` names only `genStep` (one level of `Item::cache` put together from the translated arms) is defined HERE, by hand.

The translated code works on STRINGS (`regex : List Char`, the text handed to `RegexBuilder::new`) and on an abstract type `ρ` of
compiled regex values with the crate as parameters `build` / `run`; the model works on the structural `RxSrc` and on
`Compiled` = the inputs a value was built from, with the crate as `E : Engine`.  The two are related by

* `Rep val g rx` — field by field: same `original`, `g.regex = rx.regex.toStr` (the string the constructor really built), same
  case flag, `g.compiled = rx.compiled.map val` where `val : Compiled → ρ` names the crate value built from given inputs;
* `CrateAt E build run val src ic` — the crate parameters agree with the engine on the ONE regex text the cell hands to the
  builder (`build src.toStr ic` succeeds iff `Compiled.ok`, and then returns `val ⟨src, ic⟩`), and running a value is
  `Compiled.run` (every value).  The builder half is stated at one `(src, ic)` — not for all — because `RxSrc.toStr` is not injective
  (`leaf p` and `node (p ++ "$")` are the same text) and an arbitrary `Engine` need not respect that;
* `OkSound E` — "`full` / `pre` mean compiles AND matches" (the documented reading of `Engine`, true of `engineOf G`): needed
  because the code answers `false` when the lazily built regex does not compile while the model runs `Compiled.run`.
-/
import RioModel.Generated.Consts
import RioModel.Proofs.TreeCache
set_option linter.unusedSectionVars false

namespace Rio.LazyRegexGen
open Rio.Consts Rio.Regex Rio.Tree

variable {ρ : Type}

structure Rep (val : Compiled → ρ) (g : GenLazyRegex ρ) (rx : LazyRegex) : Prop where
  original : g.original = rx.original
  regex : g.regex = rx.regex.toStr
  ic : g.ignoreCase = rx.ic
  compiled : g.compiled = rx.compiled.map val

structure CrateAt (E : Engine) (build : List Char → Bool → Option ρ) (run : ρ → List Char → Bool)
    (val : Compiled → ρ) (src : RxSrc) (ic : Bool) : Prop where
  build_eq : build src.toStr ic = if Compiled.ok E ⟨src, ic⟩ then some (val ⟨src, ic⟩) else none
  run_eq : ∀ c s, run (val c) s = Compiled.run E c s

def OkSound (E : Engine) : Prop := ∀ c s, Compiled.ok E c = false → Compiled.run E c s = false

theorem okSound_engineOf (G : List Char → Option Re) : OkSound (engineOf G) := by
  intro c s h
  obtain ⟨src, ic⟩ := c
  cases src with
  | leaf p | node p =>
    simp only [Compiled.ok, engineOf] at h
    simp only [Compiled.run, engineOf]
    cases hc : compileStr G p with
    | none => rfl
    | some r => simp [hc] at h
  | any => simp [Compiled.ok] at h

def toGen (val : Compiled → ρ) (rx : LazyRegex) : GenLazyRegex ρ :=
  { original := rx.original, regex := rx.regex.toStr, compiled := rx.compiled.map val, ignoreCase := rx.ic }

theorem rep_toGen (val : Compiled → ρ) (rx : LazyRegex) : Rep val (toGen val rx) rx := ⟨rfl, rfl, rfl, rfl⟩

theorem rep_iff (val : Compiled → ρ) (g : GenLazyRegex ρ) (rx : LazyRegex) : Rep val g rx ↔ g = toGen val rx := by
  constructor
  · intro h
    cases g
    simp only [toGen, GenLazyRegex.mk.injEq]
    exact ⟨h.original, h.regex, h.compiled, h.ic⟩
  · rintro rfl
    exact rep_toGen val rx

theorem Rep.isSome {val : Compiled → ρ} {g : GenLazyRegex ρ} {rx : LazyRegex} (h : Rep val g rx) :
    g.compiled.isSome = rx.isCompiled := by simp [h.compiled, LazyRegex.isCompiled]

theorem Rep.isNone {val : Compiled → ρ} {g : GenLazyRegex ρ} {rx : LazyRegex} (h : Rep val g rx) :
    g.compiled.isNone = !rx.isCompiled := by simp [h.compiled, LazyRegex.isCompiled]

theorem newNode_rep (val : Compiled → ρ) (q : List Char) (ic : Bool) :
    Rep val (genLazyRegexNewNode q ic) (LazyRegex.newNode q ic) := by
  refine ⟨rfl, ?_, rfl, rfl⟩
  simp only [genLazyRegexNewNode, LazyRegex.newNode]
  cases q <;> simp [RxSrc.toStr]

theorem newLeaf_rep (val : Compiled → ρ) (p : List Char) (ic : Bool) :
    Rep val (genLazyRegexNewLeaf p ic) (LazyRegex.newLeaf p ic) := by
  refine ⟨rfl, ?_, rfl, rfl⟩
  simp [genLazyRegexNewLeaf, LazyRegex.newLeaf, RxSrc.toStr]

/-- `match build .. { Ok(r) => Some(Arc::new(r)), Err(_) => None }` is `build ..`. -/
theorem createRegex_eta (build : List Char → Bool → Option ρ) (g : GenLazyRegex ρ) :
    genLazyRegexCreateRegex build g = build g.regex g.ignoreCase := by
  simp only [genLazyRegexCreateRegex]
  cases build g.regex g.ignoreCase <;> rfl

theorem createRegex_eq (E : Engine) {build : List Char → Bool → Option ρ} {run : ρ → List Char → Bool}
    {val : Compiled → ρ} {g : GenLazyRegex ρ} {rx : LazyRegex} (h : Rep val g rx)
    (hc : CrateAt E build run val rx.regex rx.ic) :
    genLazyRegexCreateRegex build g = (rx.createRegex E).map val := by
  simp only [genLazyRegexCreateRegex, LazyRegex.createRegex, h.regex, h.ic, hc.build_eq]
  cases Compiled.ok E ⟨rx.regex, rx.ic⟩ <;> simp

theorem isMatch_eq (E : Engine) (hE : OkSound E) {build : List Char → Bool → Option ρ} {run : ρ → List Char → Bool}
    {val : Compiled → ρ} {g : GenLazyRegex ρ} {rx : LazyRegex} (h : Rep val g rx)
    (hc : CrateAt E build run val rx.regex rx.ic) (s : List Char) :
    genLazyRegexIsMatch build run g s = rx.isMatch E s := by
  simp only [genLazyRegexIsMatch, createRegex_eq E h hc, LazyRegex.isMatch, LazyRegex.createRegex, h.compiled, h.original]
  cases hcm : rx.compiled with
  | some c => simp [hc.run_eq]
  | none =>
    simp only [Option.map_none]
    cases ho : rx.original.isEmpty
    · cases hok : Compiled.ok E ⟨rx.regex, rx.ic⟩
      · simp [hE _ s hok]
      · simp [hc.run_eq]
    · simp

theorem compile_rep (E : Engine) {build : List Char → Bool → Option ρ} {run : ρ → List Char → Bool}
    {val : Compiled → ρ} {g : GenLazyRegex ρ} {rx : LazyRegex} (h : Rep val g rx)
    (hc : CrateAt E build run val rx.regex rx.ic) :
    Rep val (genLazyRegexCompile build g) (rx.compile E) := by
  refine ⟨h.original, h.regex, h.ic, ?_⟩
  simp only [genLazyRegexCompile, LazyRegex.compile, createRegex_eq E h hc]

theorem regex_eq (E : Engine) {build : List Char → Bool → Option ρ} {run : ρ → List Char → Bool}
    {val : Compiled → ρ} {g : GenLazyRegex ρ} {rx : LazyRegex} (h : Rep val g rx)
    (hc : CrateAt E build run val rx.regex rx.ic) :
    genLazyRegexRegex build g = (match rx.compiled with | some c => some c | none => rx.createRegex E).map val := by
  simp only [genLazyRegexRegex, createRegex_eq E h hc, h.compiled]
  cases rx.compiled <;> simp

/-- Same outcome: both underflow, or both return related cells and the same budget. -/
def CacheRel (val : Compiled → ρ) : Option (GenLazyRegex ρ × Nat) → Option (LazyRegex × Nat) → Prop
  | none, none => True
  | some a, some b => Rep val a.1 b.1 ∧ a.2 = b.2
  | _, _ => False

theorem CacheRel.elim {val : Compiled → ρ} {a : Option (GenLazyRegex ρ × Nat)} {b : Option (LazyRegex × Nat)}
    (h : CacheRel val a b) :
    (a = none ∧ b = none) ∨ ∃ g rx n, a = some (g, n) ∧ b = some (rx, n) ∧ Rep val g rx := by
  unfold CacheRel at h
  split at h
  · exact Or.inl ⟨rfl, rfl⟩
  · next a b => obtain ⟨h1, h2⟩ := h; exact Or.inr ⟨a.1, b.1, a.2, rfl, by rw [h2], h1⟩
  · exact h.elim

set_option linter.unusedSimpArgs false in
theorem leafCache_rel (E : Engine) {build : List Char → Bool → Option ρ} {run : ρ → List Char → Bool}
    {val : Compiled → ρ} {g : GenLazyRegex ρ} {rx : LazyRegex} (h : Rep val g rx)
    (hc : CrateAt E build run val rx.regex rx.ic) (left : Nat) :
    CacheRel val (genLeafCache build g left) (rxCache E rx left) := by
  have h' := compile_rep E h hc
  -- written so that equivalent spellings of the tests (`is_none()` / `is_some()`, the two returns swapped) are accepted too
  simp only [genLeafCache, rxCache, h.isSome, h'.isSome, h.isNone, h'.isNone]
  cases rx.isCompiled
  · cases (rx.compile E).isCompiled
    · simpa [CacheRel] using h'
    · by_cases hl : left = 0
      · simp [hl, CacheRel]
      · have : ¬ left < 1 := by omega
        simpa [hl, this, CacheRel] using h'
  · simpa [CacheRel] using h

/-! ### `Node::cache`, `Item::cache` — one level of the recursion, the recursive calls answered by the model -/

section tree
variable {ι V : Type} [DecidableEq ι]

/-- the children loop of `Node::cache`, its recursive call answered as the model answers it ON THE CHILDREN, is `cacheL` -/
theorem nodeCacheLoop_eq_of (E : Engine) (F : Item ι V → Nat → Nat → Nat → Option (Item ι V × Nat)) (cs : List (Item ι V))
    (hF : ∀ c ∈ cs, ∀ l cl k, F c l cl k = Item.cache E c l cl k) (left lvl cur : Nat) :
    genNodeCacheLoop F cs left lvl cur = cacheL E cs left lvl (cur + 1) := by
  induction cs generalizing left with
  | nil => rw [cacheL_nil]; rfl
  | cons c cs ih =>
    rw [cacheL_cons, genNodeCacheLoop, hF c List.mem_cons_self]
    cases hc : Item.cache E c left lvl (cur + 1) with
    | none => rfl
    | some r =>
      simp only
      rw [ih fun d hd => hF d (List.mem_cons_of_mem _ hd)]
      cases cacheL E cs r.2 lvl (cur + 1) <;> rfl

theorem nodeCacheLoop_eq (E : Engine) (cs : List (Item ι V)) (left lvl cur : Nat) :
    genNodeCacheLoop (fun c l cl k => Item.cache E c l cl k) cs left lvl cur = cacheL E cs left lvl (cur + 1) :=
  nodeCacheLoop_eq_of E _ cs (fun _ _ _ _ _ => rfl) left lvl cur

/-- The payload of `Item::Node` on the translated side: the translated cell and the children (model items). -/
abbrev GNode (ρ ι V : Type) := GenLazyRegex ρ × List (Item ι V)

def nodeCacheFn (E : Engine) (build : List Char → Bool → Option ρ) (p : GNode ρ ι V) (l cl k : Nat) :
    Option (GNode ρ ι V × Nat) :=
  (genNodeCache build (fun c l cl k => Item.cache E c l cl k) p.1 p.2 l cl k).map fun r => ((r.1, r.2.1), r.2.2)

/-- `CacheRel` for the arm `Item::Node` (`LeafRel`: `Item::Leaf`): same outcome, children (values) returned as they were -/
def NodeRel (val : Compiled → ρ) : Option (GNode ρ ι V × Nat) → Option (Item ι V × Nat) → Prop
  | none, none => True
  | some a, some (.node rx cs, m) => Rep val a.1.1 rx ∧ a.1.2 = cs ∧ a.2 = m
  | _, _ => False

def LeafRel (val : Compiled → ρ) (vs : List (ι × V)) : Option (GenLazyRegex ρ × Nat) → Option (Item ι V × Nat) → Prop
  | none, none => True
  | some a, some (.leaf rx vs', m) => Rep val a.1 rx ∧ vs' = vs ∧ a.2 = m
  | _, _ => False

theorem NodeRel.elim {val : Compiled → ρ} {a : Option (GNode ρ ι V × Nat)} {b : Option (Item ι V × Nat)}
    (h : NodeRel val a b) :
    (a = none ∧ b = none) ∨ ∃ g cs rx n, a = some ((g, cs), n) ∧ b = some (.node rx cs, n) ∧ Rep val g rx := by
  unfold NodeRel at h
  split at h
  · exact Or.inl ⟨rfl, rfl⟩
  · next a rx cs m => obtain ⟨h1, h2, h3⟩ := h; exact Or.inr ⟨a.1.1, a.1.2, rx, a.2, rfl, by rw [h2, h3], h1⟩
  · exact h.elim

theorem LeafRel.elim {val : Compiled → ρ} {vs : List (ι × V)} {a : Option (GenLazyRegex ρ × Nat)}
    {b : Option (Item ι V × Nat)} (h : LeafRel val vs a b) :
    (a = none ∧ b = none) ∨ ∃ g rx n, a = some (g, n) ∧ b = some (.leaf rx vs, n) ∧ Rep val g rx := by
  unfold LeafRel at h
  split at h
  · exact Or.inl ⟨rfl, rfl⟩
  · next a rx vs' m => obtain ⟨h1, h2, h3⟩ := h; exact Or.inr ⟨a.1, rx, a.2, rfl, by rw [h2, h3], h1⟩
  · exact h.elim

/-- `Node::cache` is `Leaf::cache` on the node's own cell at the cache level, then the loop over the children. -/
theorem genNodeCache_eq {χ : Type} (build : List Char → Bool → Option ρ) (F : χ → Nat → Nat → Nat → Option (χ × Nat))
    (g : GenLazyRegex ρ) (cs : List χ) (left lvl cur : Nat) :
    genNodeCache build F g cs left lvl cur =
      (if lvl = cur then genLeafCache build g left else some (g, left)).bind fun r =>
        (genNodeCacheLoop F cs r.2 lvl cur).map fun r' => (r.1, r'.1, r'.2) := by
  unfold genNodeCache genLeafCache
  -- by cases on the stored values, not on the spelling of the tests (`is_some()` / `is_none()`)
  by_cases hl : lvl = cur
  · cases hg : g.compiled with
    | some _ => simp [hl]; cases genNodeCacheLoop F cs left cur cur <;> rfl
    | none =>
      cases hg' : (genLazyRegexCompile build g).compiled with
      | none => simp [hl, hg']; cases genNodeCacheLoop F cs left cur cur <;> rfl
      | some _ =>
        by_cases h0 : left < 1
        · simp [hl, hg', h0]
        · simp [hl, hg', h0]; cases genNodeCacheLoop F cs (left - 1) cur cur <;> rfl
  · simp [hl]
    cases genNodeCacheLoop F cs left lvl cur <;> rfl

theorem nodeCache_rel (E : Engine) {build : List Char → Bool → Option ρ} {run : ρ → List Char → Bool}
    {val : Compiled → ρ} {g : GenLazyRegex ρ} {rx : LazyRegex} (h : Rep val g rx)
    (hc : CrateAt E build run val rx.regex rx.ic) (cs : List (Item ι V)) (left lvl cur : Nat) :
    NodeRel val (nodeCacheFn E build (g, cs) left lvl cur)
      (match (if lvl = cur then rxCache E rx left else some (rx, left)) with
        | none => none
        | some r => match cacheL E cs r.2 lvl (cur + 1) with
          | none => none
          | some r' => some (.node r.1 r'.1, r'.2)) := by
  have head : CacheRel val (if lvl = cur then genLeafCache build g left else some (g, left))
      (if lvl = cur then rxCache E rx left else some (rx, left)) := by
    split
    · exact leafCache_rel E h hc left
    · exact ⟨h, rfl⟩
  simp only [nodeCacheFn, genNodeCache_eq, nodeCacheLoop_eq]
  rcases head.elim with ⟨ha, hb⟩ | ⟨g', rx', n, ha, hb, hr⟩
  · rw [ha, hb]; trivial
  · simp only [ha, hb, Option.bind_some]
    cases cacheL E cs n lvl (cur + 1) <;> simp [NodeRel, hr]

theorem itemCacheNode_rel (E : Engine) {build : List Char → Bool → Option ρ} {run : ρ → List Char → Bool}
    {val : Compiled → ρ} {g : GenLazyRegex ρ} {rx : LazyRegex} (h : Rep val g rx)
    (hc : CrateAt E build run val rx.regex rx.ic) (cs : List (Item ι V)) (left lvl cur : Nat) :
    NodeRel val (genItemCacheNode (nodeCacheFn E build) (g, cs) left lvl cur) (Item.cache E (.node rx cs) left lvl cur) := by
  rw [Item.cache]
  simp only [genItemCacheNode]
  by_cases h0 : left = 0
  · simp [h0, NodeRel, h]
  · have hb : (left == 0) = false := by simpa using h0
    simp only [hb, h0, Bool.false_eq_true, if_false]
    by_cases hg : cur > lvl
    · simp [hg, NodeRel, h]
    · simp only [hg, decide_false, Bool.false_eq_true, if_false]
      exact nodeCache_rel E h hc cs left lvl cur

set_option linter.unusedSimpArgs false in
theorem itemCacheLeaf_rel (E : Engine) {build : List Char → Bool → Option ρ} {run : ρ → List Char → Bool}
    {val : Compiled → ρ} {g : GenLazyRegex ρ} {rx : LazyRegex} (h : Rep val g rx)
    (hc : CrateAt E build run val rx.regex rx.ic) (vs : List (ι × V)) (left lvl cur : Nat) :
    LeafRel val vs (genItemCacheLeaf (fun r l => genLeafCache build r l) g left lvl cur)
      (Item.cache E (.leaf rx vs) left lvl cur) := by
  rw [Item.cache]
  simp only [genItemCacheLeaf]
  by_cases h0 : left = 0
  · simp [h0, LeafRel, h]
  · have hb : (left == 0) = false := by simpa using h0
    simp only [hb, h0, Bool.false_eq_true, if_false]
    by_cases hg : cur > lvl
    · simp [hg, LeafRel, h]
    · simp only [hg, decide_false, Bool.false_eq_true, if_false]
      by_cases hl : lvl = cur
      · -- the level test may be `==`, or `!=` with the branches the other way round
        simp only [hl, beq_self_eq_true, bne_self_eq_false, Bool.false_eq_true, if_true, if_false]
        rcases (leafCache_rel E h hc left).elim with ⟨ha, hb⟩ | ⟨g', rx', n, ha, hb, hr⟩
        · rw [ha, hb]; trivial
        · rw [ha, hb]; exact ⟨hr, rfl, rfl⟩
      · have hb' : (lvl == cur) = false := by simpa using hl
        simp [hb', hl, LeafRel, h]

theorem itemCacheEmpty_eq (E : Engine) (ic : Bool) (left lvl cur : Nat) :
    (genItemCacheEmpty left lvl cur).map (fun n => ((Item.empty ic : Item ι V), n)) = Item.cache E (.empty ic) left lvl cur := by
  rw [Item.cache]
  simp only [genItemCacheEmpty, ite_self]
  rfl

/-! ### The translated recursion has ONE solution: the model -/

/-- `rx` is the cell of the item or of one of its descendants -/
inductive CellOf : LazyRegex → Item ι V → Prop
  | leaf (rx vs) : CellOf rx (.leaf rx vs)
  | node (rx cs) : CellOf rx (.node rx cs)
  | child {r rx cs c} : c ∈ cs → CellOf r c → CellOf r (.node rx cs)

/-- The stored value of a translated cell (values = `Compiled`) put back next to the fields of a model cell. -/
def back (rx : LazyRegex) (g : GenLazyRegex Compiled) : LazyRegex := { rx with compiled := g.compiled }

theorem back_eq {g : GenLazyRegex Compiled} {rx rx' : LazyRegex} (h : Rep id g rx') (hs : rx'.strip = rx.strip) :
    back rx g = rx' := by
  have h1 : rx'.original = rx.original := by simpa using congrArg LazyRegex.original hs
  have h2 : rx'.regex = rx.regex := by simpa using congrArg LazyRegex.regex hs
  have h3 : rx'.ic = rx.ic := by simpa using congrArg LazyRegex.ic hs
  cases rx; cases rx'
  simp only [back, LazyRegex.mk.injEq]
  simp at h1 h2 h3
  exact ⟨h1.symm, h2.symm, h3.symm, by simpa using h.compiled⟩

/-- ONE step of the translated `Item::cache`: the three translated arms (the node arm with the translated `Node::cache`, the leaf
arm with the translated `Leaf::cache`), every recursive call `child.cache(..)` answered by `F`. -/
def genStep (build : List Char → Bool → Option Compiled) (F : Item ι V → Nat → Nat → Nat → Option (Item ι V × Nat)) :
    Item ι V → Nat → Nat → Nat → Option (Item ι V × Nat)
  | .empty ic, l, cl, k => (genItemCacheEmpty l cl k).map fun n => (.empty ic, n)
  | .leaf rx vs, l, cl, k =>
    (genItemCacheLeaf (fun r l => genLeafCache build r l) (toGen id rx) l cl k).map fun r => (.leaf (back rx r.1) vs, r.2)
  | .node rx cs, l, cl, k =>
    (genItemCacheNode
      (fun (p : GNode Compiled ι V) l cl k =>
        (genNodeCache build F p.1 p.2 l cl k).map fun r => ((r.1, r.2.1), r.2.2))
      (toGen id rx, cs) l cl k).map fun r => (.node (back rx r.1.1) r.1.2, r.2)

/-- the model's `Item.cache` solves `F = genStep build F` … -/
theorem genStep_model (E : Engine) {build : List Char → Bool → Option Compiled} {run : Compiled → List Char → Bool}
    (t : Item ι V) (hc : ∀ rx, CellOf rx t → CrateAt E build run id rx.regex rx.ic) (left lvl cur : Nat) :
    genStep build (fun c l cl k => Item.cache E c l cl k) t left lvl cur = Item.cache E t left lvl cur := by
  cases t with
  | empty ic => exact itemCacheEmpty_eq E ic left lvl cur
  | leaf rx vs =>
    simp only [genStep]
    rcases (itemCacheLeaf_rel E (rep_toGen id rx) (hc rx (.leaf rx vs)) vs left lvl cur).elim with
      ⟨ha, hb⟩ | ⟨g', rx', n, ha, hb, h1⟩
    · rw [ha, hb]; rfl
    · have hs := (cache_some hb).1
      simp only [strip_leaf, Item.leaf.injEq] at hs
      rw [ha, hb, Option.map_some, back_eq h1 hs.1]
  | node rx cs =>
    simp only [genStep]
    change Option.map _ (genItemCacheNode (nodeCacheFn E build) (toGen id rx, cs) left lvl cur) = _
    rcases (itemCacheNode_rel E (rep_toGen id rx) (hc rx (.node rx cs)) cs left lvl cur).elim with
      ⟨ha, hb⟩ | ⟨g', cs', rx', n, ha, hb, h1⟩
    · rw [ha, hb]; rfl
    · have hs := (cache_some hb).1
      simp only [strip_node, Item.node.injEq] at hs
      rw [ha, hb, Option.map_some, back_eq h1 hs.1]

/-- … and is the only solution: the step reads `F` on the children only (`nodeCacheLoop_eq_of`) -/
theorem genStep_unique (E : Engine) {build : List Char → Bool → Option Compiled} {run : Compiled → List Char → Bool}
    (F : Item ι V → Nat → Nat → Nat → Option (Item ι V × Nat))
    (hF : ∀ t, (∀ rx, CellOf rx t → CrateAt E build run id rx.regex rx.ic) →
      ∀ l cl k, F t l cl k = genStep build F t l cl k) (t : Item ι V)
    (hc : ∀ rx, CellOf rx t → CrateAt E build run id rx.regex rx.ic) (left lvl cur : Nat) :
    F t left lvl cur = Item.cache E t left lvl cur := by
  induction t using Item.ind generalizing left lvl cur with
  | hE ic => rw [hF _ hc, ← genStep_model E (.empty ic) hc]; rfl
  | hL rx vs => rw [hF _ hc, ← genStep_model E (.leaf rx vs) hc]; rfl
  | hN rx cs ih =>
    rw [hF _ hc, ← genStep_model E (.node rx cs) hc]
    have hcongr : ∀ c ∈ cs, ∀ l cl k, F c l cl k = Item.cache E c l cl k :=
      fun c hmem l cl k => ih c hmem (fun r hr => hc r (.child hmem hr)) l cl k
    simp only [genStep, genItemCacheNode, genNodeCache, nodeCacheLoop_eq_of E F cs hcongr, nodeCacheLoop_eq]

end tree

/-! ### A crate for every engine (non-vacuity of `CrateAt`) -/

def decodeSrc : List Char → RxSrc
  | ['.', '*'] => .any
  | '^' :: rest => if rest.getLast? = some '$' then .leaf rest.dropLast else .node rest
  | _ => .any

theorem decodeSrc_leaf (p : List Char) : decodeSrc (RxSrc.leaf p).toStr = .leaf p := by
  simp [RxSrc.toStr, decodeSrc]

theorem decodeSrc_any : decodeSrc RxSrc.any.toStr = .any := by
  simp [RxSrc.toStr, decodeSrc]

theorem decodeSrc_node (q : List Char) (h : q.getLast? ≠ some '$') : decodeSrc (RxSrc.node q).toStr = .node q := by
  simp [RxSrc.toStr, decodeSrc, h]

/-- The crate induced by an engine: values are `Compiled`, `build` decodes the text. -/
def stdBuild (E : Engine) (str : List Char) (ic : Bool) : Option Compiled :=
  if Compiled.ok E ⟨decodeSrc str, ic⟩ then some ⟨decodeSrc str, ic⟩ else none

theorem crateAt_std (E : Engine) (src : RxSrc) (ic : Bool) (h : decodeSrc src.toStr = src) :
    CrateAt E (stdBuild E) (fun c s => Compiled.run E c s) id src ic :=
  ⟨by simp [stdBuild, h], fun _ _ => rfl⟩

end Rio.LazyRegexGen
