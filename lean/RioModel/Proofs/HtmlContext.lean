/-
Stream laws, the raw-text CONTEXT (what the chunked html filter carries from one chunk to the next): which contexts exist
(`new_fragment` accepts exactly the names `read_start_tag` can set as `raw_tag`; both tables are regenerated from the
source); RESTART in any context; cut tokens (a call of `next()` that sets `err` ends at the end of the buffer).
-/
import RioModel.Proofs.HtmlTokenEnd
import RioModel.Proofs.HtmlSimNext

namespace Rio.Html
namespace Tokenizer
open Rio.Consts

/-- every name `read_start_tag` can store in `raw_tag` is a context `new_fragment` accepts … -/
theorem rawNames_sub_fragment : ∀ s ∈ htmlRawDispatch.flatMap (·.2), s ∈ htmlFragmentRawTags := by decide

/-- … and conversely -/
theorem fragment_sub_rawNames : ∀ s ∈ htmlFragmentRawTags, s ∈ htmlRawDispatch.flatMap (·.2) := by decide

/-- the ten raw-text contexts, spelled out (the table is regenerated from `new_fragment`'s `match`) -/
theorem fragmentTags_eq : htmlFragmentRawTags =
    ["iframe", "noembed", "noframes", "noscript", "plaintext", "script", "style", "title", "textarea", "xmp"].map
      (fun s => s.toList.map Char.toNat) := by decide

/-- a legal value of `raw_tag` -/
def RawCtx (l : List Nat) : Prop := l = [] ∨ l ∈ htmlFragmentRawTags

instance (l : List Nat) : Decidable (RawCtx l) := by unfold RawCtx; exact inferInstance

theorem RawCtx.tagOk {l : List Nat} (h : RawCtx l) : TagOk l := by
  rcases h with rfl | h
  · exact TagOk_nil
  · intro c hc
    have := rawNames_letters l (fragment_sub_rawNames l h) c hc
    omega

theorem newFragment_rawTag (b : Array Nat) (c : List Nat) :
    (newFragment b c).rawTag = if c ∈ htmlFragmentRawTags then c else [] := by
  unfold newFragment
  by_cases h : c ∈ htmlFragmentRawTags
  · rw [if_pos (by simpa using h), if_pos h]
  · rw [if_neg (by simpa using h), if_neg h]

theorem newFragment_of_ctx (b : Array Nat) {c : List Nat} (h : RawCtx c) : (newFragment b c).rawTag = c := by
  rw [newFragment_rawTag]
  rcases h with rfl | h
  · rfl
  · rw [if_pos h]

theorem newFragment_nil (b : Array Nat) : newFragment b [] = Tokenizer.new b := rfl

theorem newFragment_fields (b : Array Nat) (c : List Nat) :
    (newFragment b c).buf = b ∧ (newFragment b c).rawE = 0 ∧ (newFragment b c).rawS = 0 ∧ (newFragment b c).err = false ∧
    (newFragment b c).allowCdata = true ∧ (newFragment b c).panic = false ∧ (newFragment b c).hang = false ∧
    (newFragment b c).utf8Err = false := by
  unfold newFragment; split <;> exact ⟨rfl, rfl, rfl, rfl, rfl, rfl, rfl, rfl⟩

theorem newFragment_setCdata (b : Array Nat) (c : List Nat) : (newFragment b c).setAllowCdata true = newFragment b c := by
  unfold newFragment setAllowCdata
  split <;> rfl

theorem newFragment_rawCtx (b : Array Nat) (c : List Nat) : RawCtx (newFragment b c).rawTag := by
  rw [newFragment_rawTag]; split
  · exact Or.inr ‹_›
  · exact Or.inl rfl

theorem newFragment_inv (b : Array Nat) (c : List Nat) : Inv (newFragment b c) := by
  obtain ⟨_, h2, h3, _, _, h6, h7, h8⟩ := newFragment_fields b c
  exact ⟨by rw [h2, h3]; exact Nat.le_refl _, ⟨by rw [h2]; exact Nat.zero_le _, h6, h7, h8⟩,
    (newFragment_rawCtx b c).tagOk⟩

/-- letter case: `new_fragment` lower-cases its argument first, so the context is decided by the lower-cased name -/
example : (newFragment #[] ("TiTlE".toList.map fun c => lowerByte c.toNat)).rawTag = "title".toList.map Char.toNat := by
  decide
example : (newFragment #[] ("SCRIPT".toList.map fun c => lowerByte c.toNat)).rawTag = "script".toList.map Char.toNat := by
  decide
example : (newFragment #[] ("scriptx".toList.map fun c => lowerByte c.toNat)).rawTag = [] := by decide
example : (newFragment #[] ("div".toList.map fun c => lowerByte c.toNat)).rawTag = [] := by decide

/-- how a step changes the context -/
def CtxStep (t t' : Tokenizer) : Prop :=
  t'.rawTag = t.rawTag ∨
  (t'.rawTag ∈ htmlFragmentRawTags ∧ (t'.token = .startTag ∨ t'.token = .selfClosing) ∧ t'.err = false)

theorem readStartTag_ctx (t : Tokenizer) (ok : Ok t) (h2 : 2 ≤ t.rawE) :
    CtxStep t { (readStartTag t).1 with token := (readStartTag t).2 } := by
  unfold CtxStep
  have a1 := readTag_adv t true ok (by omega)
  have s1 := readTag_spec t true ok (by omega)
  by_cases he : (readTag t true).err = true
  · unfold readStartTag
    simp only
    rw [if_pos he]
    exact Or.inl a1.rawTag
  · obtain ⟨q, f3, f4⟩ := readStartTag_eq t ok h2 he
    rw [q]
    -- reduce `(_, _).2` first: left to the unifier, `startTagKind` is unfolded before the projection
    dsimp only
    have hle := a1.ok.le
    have hm := a1.mono
    rcases startTagRaw_table (readTag t true) (by omega) (by omega) with h | ⟨bs, hbs, h⟩
    · left; rw [h]; exact a1.rawTag
    · right
      have hk : (startTagRaw (readTag t true)).rawE - 2 < (startTagRaw (readTag t true)).buf.size := by rw [f3, f4]; omega
      exact ⟨by rw [h]; exact rawNames_sub_fragment bs hbs, (startTagKind_inRange hk).symm, by rw [h]; simpa using he⟩

theorem finishText_ctx {t x : Tokenizer} (h : x.rawTag = t.rawTag) : CtxStep t (finishText x) := by
  unfold finishText; split <;> exact Or.inl h

theorem dispatchTag_ctx {b t : Tokenizer} (c : Nat) (a : Adv b t) (h2 : b.rawE + 2 ≤ t.rawE) :
    CtxStep b (dispatchTag t c) := by
  have a3 := a.trans (readByte_adv a.ok)
  fun_cases dispatchTag t c
  case case1 | case2 => exact Or.inl a.rawTag
  case case3 => exact (readStartTag_ctx t a.ok (by omega)).imp_left (·.trans a.rawTag)
  case case4 => exact finishText_ctx a3.rawTag
  case case5 => exact Or.inl a3.rawTag
  case case6 | case7 => exact Or.inl (a3.trans (readTag_adv t.readByte.1 false a3.ok (readByte_pos ‹_›))).rawTag
  case case8 =>
    have a4 := a.trans (read_unread_adv a.ok ‹_›)
    exact Or.inl (a4.trans (readUntilCloseAngle_adv _ a4.ok)).rawTag
  case case9 => exact Or.inl (a.trans (readMarkupDeclaration_adv t a.ok (by omega))).rawTag
  case case10 =>
    have a4 := unread_adv 1 a (by omega)
    exact Or.inl (a4.trans (readUntilCloseAngle_adv _ a4.ok)).rawTag

theorem mainLoop_ctx (t : Tokenizer) (ok : Ok t) : CtxStep t (mainLoop t) := by
  rcases mainLoop_stop t ok.le with ⟨p, _, _, e⟩ | ⟨q, c, h1, _, hc, _, e⟩
  · rw [e]; exact finishText_ctx rfl
  · rw [e]; exact dispatchTag_ctx c (opened_adv ok h1 hc) (by show t.rawE + 2 ≤ q + 2; omega)

/-- the context after `next`, `r` being the state after the call at `t`; the last case, an old context kept, happens only
once `err` is set or in the `plaintext` context (which never ends) -/
def CtxAfter (t r : Tokenizer) : Prop :=
  r.rawTag = [] ∨
  (r.rawTag ∈ htmlFragmentRawTags ∧ (r.token = .startTag ∨ r.token = .selfClosing) ∧ r.err = false) ∨
  (r.rawTag = t.rawTag ∧ (t.err = true ∨ t.rawTag = htmlPlaintext))

theorem nextGo_ctx (t : Tokenizer) (ok : Ok t) (htag : TagOk t.rawTag) : CtxAfter t (nextGo t) := by
  -- without EOF at the start: a step from a state `t1` whose context is empty or the unchanged `plaintext`
  have cont : ∀ t1 r : Tokenizer, CtxStep t1 r → (t1.rawTag = [] ∨ (t1.rawTag = t.rawTag ∧ t.rawTag = htmlPlaintext)) →
      CtxAfter t r := by
    intro t1 r h h1
    rcases h with h | h
    · rcases h1 with e | ⟨e, ep⟩
      · exact Or.inl (h.trans e)
      · exact Or.inr (Or.inr ⟨h.trans e, Or.inr ep⟩)
    · exact Or.inr (Or.inl h)
  have s := rawText_spec t ok htag
  fun_cases nextGo t
  case case1 h0 => exact Or.inr (Or.inr ⟨rfl, Or.inl h0⟩)
  case case2 => exact cont (rawText t) _ (Or.inl rfl) s.2
  case case3 => exact cont _ _ (mainLoop_ctx _ s.1.ok.congr) s.2
  case case4 h1 => exact cont _ _ (mainLoop_ctx _ ok.congr) (Or.inl (by simpa using h1))

theorem next_ctx (t : Tokenizer) (inv : Inv t) : CtxAfter t (next t) :=
  nextGo_ctx _ inv.ok.congr inv.tag

theorem next_rawCtx (t : Tokenizer) (inv : Inv t) (h : RawCtx t.rawTag) : RawCtx (next t).rawTag := by
  rcases next_ctx t inv with e | ⟨e, _⟩ | ⟨e, _⟩
  · exact Or.inl e
  · exact Or.inr e
  · rw [e]; exact h

theorem nexts_rawCtx (n : Nat) (t : Tokenizer) (inv : Inv t) (h : RawCtx t.rawTag) : RawCtx (nexts n t).rawTag := by
  induction n with
  | zero => exact h
  | succ n ih => exact next_rawCtx _ (nexts_inv n t inv) ih

theorem new_rawCtx (b : Array Nat) : RawCtx (Tokenizer.new b).rawTag := Or.inl rfl

/-- `Tokenizer::new_fragment(unread bytes of t, t.raw_tag)` with `t`'s `allow_cdata` -/
def restartCtx (t : Tokenizer) : Tokenizer :=
  (newFragment (t.buf.extract t.rawE t.buf.size) t.rawTag).setAllowCdata t.allowCdata

theorem restartCtx_eq (t : Tokenizer) (hc : RawCtx t.rawTag) : restartCtx t =
    { Tokenizer.new (t.buf.extract t.rawE t.buf.size) with rawTag := t.rawTag, allowCdata := t.allowCdata } := by
  unfold restartCtx setAllowCdata newFragment
  rcases hc with h | h
  · rw [h]; rfl
  · rw [if_pos (by simpa using h)]; rfl

theorem restartCtx_inv (t : Tokenizer) (inv : Inv t) (hc : RawCtx t.rawTag) : Inv (restartCtx t) := by
  rw [restartCtx_eq t hc]
  exact ⟨Nat.le_refl _, ⟨Nat.zero_le _, rfl, rfl, rfl⟩, inv.tag⟩

theorem pre_restart_ctx (t : Tokenizer) (inv : Inv t) (herr : t.err = false) (hc : RawCtx t.rawTag) :
    Pre True t.rawE t (restartCtx t) := by
  rw [restartCtx_eq t hc]
  exact .ofSuffix inv.ok.le rfl rfl herr rfl rfl inv.ok.panic inv.ok.hang inv.ok.utf8

/-- **RESTART in any context**: at a token boundary where EOF has not been reached, whatever the raw-text context
(`script` included: `next()` in the script context always starts in the plain script-data state) and whatever
`allow_cdata`, the tokenizer continues exactly like `Tokenizer::new_fragment(unread bytes, raw_tag)`, all positions
shifted by `raw.end`. -/
theorem nexts_restart_ctx (n : Nat) (t : Tokenizer) (inv : Inv t) (herr : t.err = false) (hc : RawCtx t.rawTag)
    (hn : 0 < n) : CoreT True t.rawE (nexts n t) (nexts n (restartCtx t)) :=
  (nexts_simA n t (restartCtx t) (pre_restart_ctx t inv herr hc) (restartCtx_inv t inv hc) (Or.inl trivial) hn).1

/-- … attributes included -/
theorem nexts_restart_ctxA (n : Nat) (t : Tokenizer) (inv : Inv t) (herr : t.err = false) (hc : RawCtx t.rawTag)
    (hn : 0 < n) : CoreTA True t.rawE (nexts n t) (nexts n (restartCtx t)) :=
  nexts_simA n t (restartCtx t) (pre_restart_ctx t inv herr hc) (restartCtx_inv t inv hc) (Or.inl trivial) hn

theorem next_restart_ctx (t : Tokenizer) (inv : Inv t) (herr : t.err = false) (hc : RawCtx t.rawTag) :
    CoreT True t.rawE (next t) (next (restartCtx t)) :=
  next_sim _ _ (pre_restart_ctx t inv herr hc) (restartCtx_inv t inv hc) (Or.inl trivial)

theorem restartCtx_newFragment (b : List Nat) (c : List Nat) (hc : RawCtx c) :
    restartCtx (newFragment b.toArray c) = newFragment b.toArray c := by
  obtain ⟨fb, fe, -, -, fc, -⟩ := newFragment_fields b.toArray c
  unfold restartCtx
  rw [newFragment_of_ctx b.toArray hc, fe, fb, fc]
  have : b.toArray.extract 0 b.toArray.size = b.toArray := by simp
  rw [this, newFragment_setCdata]

/-- **a call of `next()` that sets (or finds) `err` ends at the end of the buffer**: nothing is left unread -/
theorem next_cut_end (t : Tokenizer) (inv : Inv t) (eg : ErrGe t) (h : (next t).err = true) :
    (next t).rawE = (next t).buf.size :=
  err_rawE_eq (next t) (next_inv' t inv) (next_errGe t eg) h

/-- a cut token and the bytes after it are exactly the suffix of the input that starts at the token's `raw.start` -/
theorem next_held (t : Tokenizer) (inv : Inv t) : rawL (next t) ++ restL (next t) = restL t := by
  have hi1 := next_inv' t inv
  have hb := next_buf' t inv
  have hs := next_rawS' t inv
  unfold restL rawL
  rw [hb, hs]
  rw [← extract_split t.buf t.rawE (next t).rawE t.buf.size (by rw [← hs]; exact hi1.raw)
    (by rw [← hb]; exact hi1.ok.le)]

theorem next_cut_buffered (t : Tokenizer) (inv : Inv t) (eg : ErrGe t) (h : (next t).err = true) :
    restL (next t) = [] ∧ rawL (next t) = restL t := by
  have e := next_cut_end t inv eg h
  have hr : restL (next t) = [] := by unfold restL; rw [e]; simp
  have := next_held t inv
  rw [hr, List.append_nil] at this
  exact ⟨hr, this⟩

/-- once `err` is set every further call returns the `ErrorToken` with an empty raw span at `raw.end` -/
theorem next_after_err (t : Tokenizer) (h : t.err = true) :
    (next t).token = .error ∧ (next t).rawS = t.rawE ∧ (next t).rawE = t.rawE ∧ (next t).err = true ∧
    (next t).rawTag = t.rawTag ∧ (next t).buf = t.buf := by
  unfold next nextGo
  simp only
  rw [if_pos (by exact h)]
  exact ⟨rfl, rfl, rfl, h, rfl, rfl⟩

/-- tag tokens are never cut: a tag that runs into the end of the data is reported as the `ErrorToken` -/
theorem next_tag_not_cut (t : Tokenizer) (inv : Inv t) (hk : isTagLike (next t).token = true) : (next t).err = false :=
  (next_tag t inv hk).noErr

/-- **uncut tokens are stable**: a call that leaves `err` unset returns the same token (type, spans, context, flags) on
every extension of the buffer -/
theorem next_uncut_stable (u : Tokenizer) (inv : Inv u) (x : Array Nat) (hne : (next u).err = false) :
    CoreT False 0 (next (extend u x)) (next u) := next_sim _ _ (pre_extend u x) inv (Or.inr hne)

theorem newFragment_append (a1 a' : List Nat) (c : List Nat) :
    newFragment (a1 ++ a').toArray c = extend (newFragment a1.toArray c) a'.toArray := by
  unfold extend newFragment
  split <;> simp

end Tokenizer
end Rio.Html
