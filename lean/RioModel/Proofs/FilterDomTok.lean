/-
C15, byte level: a compositional law for the tokenizer instance `htmlTokenize` (the C16 tokenizer model as the
filters use it), derived from the simulation `next_sim` of `Proofs/HtmlSimNext.lean` at two windows: `pre_extend` (the
tokenizer on `x ++ y` sees the one on `x` as a prefix) and `pre_restart` (a state at a token boundary sees the fresh
tokenizer on its unread rest):

  `htmlTokenize?_append` — if the tokens of `x` are all produced without reaching the end of `x` and outside a
  raw-text context (`Closed x ts`), then for every `y` on which the tokenizer model does not fail:
  tokens(x ++ y) = ts ++ tokens(y), same remainder.

So the token list of a serialised document is the concatenation of the token lists of its closed pieces.

Each law is proved for the stream loop `tokenizeGoX` (which also records `cut` and `ctx`); the plain tokenizer is
the stream tokenizer without a context with these records forgotten (`plainTo_iff`), so both satisfy `TokLaws`.

After the laws: the check of any document by units (`piecesOf`, `mergeUnits`, `unitsOKB`); a checked vocabulary and the
documents over it (`Vocab`, `simpleL`); what `filter` holds back at the end (`NotHeldTok`, `lastTok_*`, for FilterDomUniv
too); the laws applied to those documents (`simpleN_tok`, `tokAgree_simple`).
-/
import RioModel.Proofs.HtmlSimNext
import RioModel.Proofs.HtmlClosedPieces
import RioModel.Proofs.FilterTok
import RioModel.Proofs.FilterDom
set_option linter.unusedSectionVars false -- it reports `hV` in `simpleL_tok`, which uses it through `simpleN_tok` (mutual)

namespace Rio.Filter
-- `Rio.Html.Tokenizer` has an `isOpener` (the function of that name below) and a `Bytes` of its own: in here the bare names
-- are `Rio.Filter`'s, a file that opens both namespaces from outside gets "ambiguous"
open Rio.Html Rio.Html.Tokenizer

/-- one round of the token loop: it fails, stops at the `ErrorToken` with the unread bytes `r`, or records `k` and goes on
from `t'` -/
inductive StepR where
  | fail
  | stop (r : Bytes)
  | tok (k : Tok) (t' : Tokenizer)

/-- the common body of the loops `tokenizeGo` / `tokenizeGoX` (Model/FilterHtml.lean) on the state before `next()`; tied to
the second by `tokenizeGoX_succ` (the plain tokenizer comes in through `plainTo_iff`) -/
def tgStep (t : Tokenizer) : StepR :=
  let t1 := t.next
  if t1.panic || t1.hang || t1.utf8Err then .fail
  else if t1.token == .error then
    match t1.raw, t1.buffered with
    | some r, some b => .stop (r ++ b)
    | _, _ => .fail
  else
    match t1.raw with
    | none => .fail
    | some r =>
      if Tokenizer.isTagLike t1.token then
        match t1.tagName with
        | (.ok (some nm, _), t2) => .tok { kind := kindOf t1.token, raw := r, name := nm } t2
        | (.ok (none, _), t2) => .tok { kind := kindOf t1.token, raw := r } t2
        | _ => .fail
      else .tok { kind := kindOf t1.token, raw := r } t1

/-- the token of one iteration as the stream loop records it -/
def xTok (t : Tokenizer) (k : Tok) : TokX := { tok := k, cut := (next t).err, ctx := t.rawTag }

theorem tokenizeGoX_succ (n : Nat) (t : Tokenizer) (acc : List TokX) :
    tokenizeGoX (n + 1) t acc =
      match tgStep t with
      | .fail => none
      | .stop r => some (acc.reverse, r, t.rawTag)
      | .tok k t' => tokenizeGoX n t' (xTok t k :: acc) := by
  rw [tokenizeGoX]
  unfold tgStep xTok
  simp only
  cases (t.next.panic || t.next.hang || t.next.utf8Err) with
  | true => rfl
  | false =>
    cases (t.next.token == TokenType.error) with
    | true => cases t.next.raw <;> cases t.next.buffered <;> rfl
    | false =>
      cases t.next.raw with
      | none => rfl
      | some r =>
        cases Tokenizer.isTagLike t.next.token with
        | false => rfl
        | true =>
          rcases t.next.tagName with ⟨res, t2⟩
          cases res with
          | ok x =>
            obtain ⟨nm, b⟩ := x
            cases nm <;> rfl
          | utf8Err => rfl
          | panic => rfl

theorem tokenizeGoX_acc (n : Nat) (t : Tokenizer) (acc : List TokX) :
    tokenizeGoX n t acc = (tokenizeGoX n t []).map fun r => (acc.reverse ++ r.1, r.2) := by
  induction n generalizing t acc with
  | zero => rfl
  | succ n ih =>
    rw [tokenizeGoX_succ, tokenizeGoX_succ n t []]
    cases tgStep t with
    | fail => rfl
    | stop r => simp
    | tok k t' =>
      simp only
      rw [ih t' (xTok t k :: acc), ih t' [xTok t k]]
      cases tokenizeGoX n t' [] with
      | none => rfl
      | some r => simp

theorem tokenizeGoX_fuel (n m : Nat) (t : Tokenizer) (acc : List TokX) (r : List TokX × Bytes × Bytes)
    (h : tokenizeGoX n t acc = some r) : tokenizeGoX (n + m) t acc = some r := by
  induction n generalizing t acc with
  | zero => cases h
  | succ n ih =>
    rw [show n + 1 + m = (n + m) + 1 by omega, tokenizeGoX_succ]
    rw [tokenizeGoX_succ] at h
    cases hs : tgStep t with
    | fail => rw [hs] at h; exact h
    | stop r' => rw [hs] at h; exact h
    | tok k t' => rw [hs] at h; exact ih t' _ h

/-- one iteration from a state that satisfies the invariant: no failure flag is set after `next()`, `raw()` and
`buffered()` are the slices `rawL` and `restL`, and `tag_name()` gives the lower-cased data span `dataL` or fails on
invalid UTF-8 -/
theorem tgStep_of_inv {t : Tokenizer} (it : Inv t) :
    tgStep t =
      if (next t).token == .error then .stop (rawL (next t) ++ restL (next t))
      else if Tokenizer.isTagLike (next t).token then
        if validUtf8 (dataL (next t)) then
          .tok ⟨kindOf (next t).token, rawL (next t), (dataL (next t)).map lowerByte⟩ (tagName (next t)).2
        else .fail
      else .tok { kind := kindOf (next t).token, raw := rawL (next t) } (next t) := by
  have i1 := next_inv' t it
  unfold tgStep
  simp only
  rw [raw_eq _ i1, buffered_eq _ i1, i1.ok.panic, i1.ok.hang, i1.ok.utf8]
  simp only [Bool.or_self, Bool.false_eq_true, if_false]
  by_cases hk : Tokenizer.isTagLike (next t).token = true
  · have hres := (tagName_spec _ i1 (next_post t it).spans hk).1
    rw [if_pos hk, if_pos hk]
    by_cases hv : validUtf8 (dataL (next t)) = true
    · rw [if_pos hv] at hres ⊢
      rw [show tagName (next t) = (.ok (some ((dataL (next t)).map lowerByte), _), (tagName (next t)).2) from
        Prod.ext hres rfl]
    · rw [if_neg hv] at hres ⊢
      rw [show tagName (next t) = (.utf8Err, (tagName (next t)).2) from Prod.ext hres rfl]
  · rw [if_neg hk, if_neg hk]

theorem tagName_next {t : Tokenizer} (it : Inv t) (hk : Tokenizer.isTagLike (next t).token = true) :
    DataFrame (next t) (tagName (next t)).2 := by
  refine tagName_dataFrame _ ?_
  rw [(tagName_spec _ (next_inv' t it) (next_post t it).spans hk).1]
  split <;> simp

theorem tgStep_plain {t : Tokenizer} {k : TokenType} (it : Inv t) (htok : (next t).token = k)
    (hk : k = .text ∨ k = .comment ∨ k = .doctype) : tgStep t = .tok ⟨kindOf k, rawL (next t), []⟩ (next t) := by
  rw [tgStep_of_inv it, htok]
  rcases hk with rfl | rfl | rfl <;> rfl

theorem tgStep_eof {t : Tokenizer} (it : Inv t) (herr : t.err = true) (hend : t.rawE = t.buf.size) :
    tgStep t = .stop [] := by
  have hr : restL t = [] := by unfold restL; rw [hend]; simp
  rw [tgStep_of_inv it, (next_after_err t herr).1, if_pos (by rfl), next_held t it, hr]

theorem pre_dataFrame {F : Prop} {p : Nat} {t u t' u' : Tokenizer} (c : Pre F p t u) (ft : DataFrame t t')
    (fu : DataFrame u u') : Pre F p t' u' := by
  obtain ⟨_, _, rfl⟩ := ft
  obtain ⟨_, _, rfl⟩ := fu
  exact { c with }

/-- **one iteration of the token loop on a window**: when the loop on `u` produces a token, a state `t` that sees the
buffer of `u` as a window (full, or such that this token does not reach the end of the window) produces the same token and
stays related. -/
theorem tgStep_sim {F : Prop} {p : Nat} (t u : Tokenizer) (c : Pre F p t u) (it : Inv t) (iu : Inv u)
    (e : EO F (next u)) {k : Tok} {u' : Tokenizer} (hu : tgStep u = .tok k u') :
    ∃ t', tgStep t = .tok k t' ∧ Pre F p t' u' ∧ Inv t' ∧ Inv u' ∧ t'.buf = t.buf := by
  have ct := next_sim t u c iu e
  have it1 := next_inv' t it
  have iu1 := next_inv' u iu
  rw [tgStep_of_inv iu] at hu
  rw [tgStep_of_inv it, ct.2, ct.rawL iu1]
  by_cases h2 : ((next u).token == TokenType.error) = true
  · rw [if_pos h2] at hu; cases hu
  · rw [if_neg h2] at hu ⊢
    by_cases h3 : Tokenizer.isTagLike (next u).token = true
    · -- `tag_name()` decodes the same data on both sides
      rw [if_pos h3] at hu ⊢
      rw [ct.dataL iu1 (next_post u iu).spans]
      by_cases hv : validUtf8 (dataL (next u)) = true
      · rw [if_pos hv] at hu ⊢
        cases hu
        have fu := tagName_next iu h3
        have ft := tagName_next it (ct.2 ▸ h3)
        refine ⟨_, rfl, pre_dataFrame ct.1.toPre ft fu, ft.inv it1, fu.inv iu1, ?_⟩
        obtain ⟨_, _, h⟩ := ft
        rw [h]
        exact next_buf' t it
      · rw [if_neg hv] at hu; cases hu
    · rw [if_neg h3] at hu ⊢
      cases hu
      exact ⟨next t, rfl, ct.1.toPre, it1, iu1, next_buf' t it⟩

theorem xTok_sim {F : Prop} {p : Nat} (t u : Tokenizer) (c : Pre F p t u) (iu : Inv u) (e : EO F (next u))
    (k : Tok) : xTok t k = xTok u k := by
  have ct := next_sim t u c iu e
  unfold xTok
  rw [ct.1.err, c.rawTag]

/-- two states related by a FULL window (`F := True`; by `pre_restart`, say) run the loop alike -/
theorem tokenizeGoX_full {p : Nat} (n : Nat) (t u : Tokenizer) (acc : List TokX) (c : Pre True p t u) (it : Inv t)
    (iu : Inv u) : tokenizeGoX n t acc = tokenizeGoX n u acc := by
  induction n generalizing t u acc with
  | zero => rfl
  | succ n ih =>
    have s := next_sim t u c iu (Or.inl trivial)
    have iu1 := next_inv' u iu
    rw [tokenizeGoX_round it, tokenizeGoX_round iu, s.2, s.rawL iu1, s.dataL iu1 (next_post u iu).spans,
      restL_sim s.1.toPre trivial iu1.ok.le, s.1.err, c.rawTag, ih _ _ _ s.1.toPre (next_inv' t it) iu1]

/-- run the loop over the tokens `ts`, none of which may reach the end of the buffer; the state afterwards -/
def closedEnd : Tokenizer → List Tok → Option Tokenizer
  | u, [] => some u
  | u, k :: ks =>
    match tgStep u with
    | .tok k' u1 => if k' = k ∧ (next u).err = false then closedEnd u1 ks else none
    | _ => none

theorem closedEnd_cons {u u1 : Tokenizer} {k : Tok} {ks : List Tok} (h : tgStep u = .tok k u1)
    (he : (next u).err = false) : closedEnd u (k :: ks) = closedEnd u1 ks := by
  simp [closedEnd, h, he]

theorem closedEnd_cons_inv {u u' : Tokenizer} {k : Tok} {ks : List Tok} (h : closedEnd u (k :: ks) = some u') :
    ∃ u1, tgStep u = .tok k u1 ∧ (next u).err = false ∧ closedEnd u1 ks = some u' := by
  unfold closedEnd at h
  cases hu : tgStep u with
  | fail => rw [hu] at h; cases h
  | stop r => rw [hu] at h; cases h
  | tok k' u1 =>
    rw [hu] at h
    simp only at h
    split at h
    · rename_i hk
      obtain ⟨rfl, herr⟩ := hk
      exact ⟨u1, rfl, herr, h⟩
    · cases h

/-- a closed run seen through a window: the loop on `t` produces the same tokens, none of them cut short, and stays related -/
theorem closedEnd_simX {p : Nat} (ts : List Tok) (t u u' : Tokenizer) (h : closedEnd u ts = some u')
    (c : Pre False p t u) (it : Inv t) (iu : Inv u) :
    ∃ t' xs, (∀ n acc, tokenizeGoX (n + ts.length) t acc = tokenizeGoX n t' (xs.reverse ++ acc)) ∧
      toksOf xs = ts ∧ (∀ x ∈ xs, x.cut = false) ∧ Pre False p t' u' ∧ Inv t' ∧ t'.buf = t.buf := by
  induction ts generalizing t u with
  | nil =>
    obtain rfl : u = u' := Option.some.inj h
    exact ⟨t, [], fun _ _ => rfl, rfl, fun _ hx => (nomatch hx), c, it, rfl⟩
  | cons k ks ih =>
    obtain ⟨u1, hu, herr, h1⟩ := closedEnd_cons_inv h
    obtain ⟨t1, ht, c1, it1, iu1, hb1⟩ := tgStep_sim t u c it iu (Or.inr herr) hu
    obtain ⟨t', xs, hrun, hts, hcut, c', it', hb'⟩ := ih t1 u1 h1 c1 it1 iu1
    refine ⟨t', xTok u k :: xs, fun n acc => ?_, congrArg (k :: ·) hts, fun x hx => ?_, c', it', hb'.trans hb1⟩
    · show tokenizeGoX ((n + ks.length) + 1) t acc = _
      rw [tokenizeGoX_succ, ht]
      simp only
      rw [xTok_sim t u c iu (Or.inr herr) k, hrun n (xTok u k :: acc)]
      simp only [List.reverse_cons, List.append_assoc, List.singleton_append]
    · rcases List.mem_cons.mp hx with rfl | hx
      · exact herr
      · exact hcut x hx

/-- the tokens `ts` of `x` are all produced before the end of `x` is reached, they consume `x` entirely, and the
tokenizer is then outside any raw-text context: nothing that follows `x` can change them.  `allowCdata = true`: as in the
fresh tokenizer `pre_restart` compares with; `ts.length ≤ x.length`: fuel only (of the `|x| + |y| + 2` rounds on `x ++ y`,
`|ts|` go over `x` and `|y| + 2` must be left) -/
def Closed (x : Bytes) (ts : List Tok) : Prop :=
  ∃ u', closedEnd (Tokenizer.new x.toArray) ts = some u' ∧ u'.rawE = x.length ∧ u'.err = false ∧
    u'.rawTag = [] ∧ u'.allowCdata = true ∧ ts.length ≤ x.length

def closedB (x : Bytes) (ts : List Tok) : Bool :=
  match closedEnd (Tokenizer.new x.toArray) ts with
  | some u' => u'.rawE == x.length && !u'.err && u'.rawTag == [] && u'.allowCdata && decide (ts.length ≤ x.length)
  | none => false

theorem closedB_iff {x : Bytes} {ts : List Tok} : closedB x ts = true ↔ Closed x ts := by
  unfold closedB Closed
  cases closedEnd (Tokenizer.new x.toArray) ts with
  | none => simp
  | some u' => simp [and_assoc]

theorem inv_new (a : Array Nat) : Inv (Tokenizer.new a) := newFragment_inv a []

theorem htmlStream?_nil : htmlStream? [] [] = some ([], [], []) := by decide +kernel

/-- restart at the level of the loop (`pre_restart`): a state at the boundary `|x|` of the buffer `x ++ y`, outside any raw-text
context, goes on as the fresh tokenizer on `y` does (onto what it has accumulated, with any surplus of fuel) -/
theorem tokenizeGoX_restart {x y : Bytes} {t : Tokenizer} (it : Inv t) (hbuf : t.buf = (x ++ y).toArray)
    (hrE : t.rawE = x.length) (herr : t.err = false) (htag : t.rawTag = []) (hcd : t.allowCdata = true)
    {xs' : List TokX} {r cE : Bytes} (hy : htmlStream? [] y = some (xs', r, cE)) (m : Nat) (acc : List TokX) :
    tokenizeGoX (y.length + 2 + m) t acc = some (acc.reverse ++ xs', r, cE) := by
  have cr := pre_restart t it herr htag hcd
  have hro : restartOf t = Tokenizer.new y.toArray := by
    unfold restartOf
    rw [hbuf, hrE]
    congr 1
    simp
  rw [hro] at cr
  unfold htmlStream? at hy
  rw [newFragment_nil] at hy
  rw [tokenizeGoX_full _ t _ acc cr it (inv_new _), tokenizeGoX_acc, tokenizeGoX_fuel _ m _ [] _ hy]
  rfl

theorem htmlStream?_append {x y : Bytes} {ts : List Tok} {xs' : List TokX} {r cE : Bytes} (hc : Closed x ts)
    (hy : htmlStream? [] y = some (xs', r, cE)) :
    ∃ xs, htmlStream? [] (x ++ y) = some (xs ++ xs', r, cE) ∧ toksOf xs = ts ∧ ∀ a ∈ xs, a.cut = false := by
  obtain ⟨u', hce, hrawE, herr, htag, hcd, hlen⟩ := hc
  -- the tokenizer on x ++ y sees the tokenizer on x as a prefix window
  have c0 : Pre False 0 (Tokenizer.new (x ++ y).toArray) (Tokenizer.new x.toArray) := by
    rw [← newFragment_nil, newFragment_append]; exact pre_extend _ _
  obtain ⟨t', xs, hrun, hts, hcut, c', it', hb'⟩ := closedEnd_simX ts _ _ u' hce c0 (inv_new _) (inv_new _)
  refine ⟨xs, ?_, hts, hcut⟩
  have hrE : t'.rawE = x.length := by rw [c'.rawE, hrawE]; simp
  -- `|ts|` rounds over `x`, then the restart at the boundary with the fuel that is left
  rw [htmlStream?, newFragment_nil, show (x ++ y).length + 2 = (y.length + 2 + (x.length - ts.length)) + ts.length by
    simp only [List.length_append]; omega]
  rw [hrun, tokenizeGoX_restart it' hb' hrE (c'.err.trans herr) (c'.rawTag.trans htag) (c'.cdata.trans hcd) hy]
  simp

/-- a byte that opens a tag / comment / declaration after `<`: `Rio.Html.Tokenizer.isOpener` (HtmlClosedStart) again.
Proofs/FilterCount.lean declares another `Rio.Filter.isOpener` (`Tok → Bool`): no file can import that module and this one. -/
def isOpener (c : Nat) : Bool := isAlpha c || c == 47 || c == 33 || c == 63

/-- a text as the `'main` loop delimits it: every `<` is followed, INSIDE the text, by a byte that opens no tag, comment or
declaration (not a letter, `/`, `!`, `?`) — so `a < b`, `1<2`, `<<` + non-opener are text; the last byte is not `<`.
It is `textOK2` of HtmlClosedPieces (`textOKB_eq`). -/
def textOKB : Bytes → Bool
  | [] => true
  | [b] => b != 60
  | b :: c :: r => (b != 60 || !Rio.Filter.isOpener c) && textOKB (c :: r)

theorem textOKB_eq : ∀ tx : Bytes, textOKB tx = textOK2 tx
  | [] => rfl
  | [_] => rfl
  | b :: c :: r => by rw [textOKB, textOK2, textOKB_eq (c :: r)]; rfl

theorem textOKB_of_no60 (tx : Bytes) (h : ∀ b ∈ tx, b ≠ 60) : textOKB tx = true :=
  (textOKB_eq tx).trans (textOK2_of_textOK tx (List.all_eq_true.mpr fun b hb => bne_iff_ne.mpr (h b hb)))

theorem textOKB_tail {b : Nat} {tx : Bytes} (h : textOKB (b :: tx) = true) : textOKB tx = true := by
  cases tx with
  | nil => rfl
  | cons c r =>
    simp only [textOKB, Bool.and_eq_true] at h
    exact h.2

theorem toArray_getElem?_append_left (a b : Bytes) (i : Nat) (h : i < a.length) :
    (a ++ b).toArray[i]? = a[i]? := by
  rw [List.getElem?_toArray, List.getElem?_append_left h]

theorem rawL_of_has {t t1 : Tokenizer} {x : Bytes} (h : Has t t.rawE x) (hS : t1.rawS = t.rawE)
    (hE : t1.rawE = t.rawE + x.length) (hb : t1.buf = t.buf) : rawL t1 = x := by
  unfold rawL
  rw [hS, hE, hb]
  exact extract_of_has h

theorem htmlStream?_text {tx : Bytes} {c : Nat} {rest : Bytes} {xs' : List TokX} {r cE : Bytes} (hne : tx ≠ [])
    (h60 : textOKB tx = true) (hop : isOpener c = true)
    (hy : htmlStream? [] (60 :: c :: rest) = some (xs', r, cE)) :
    htmlStream? [] (tx ++ 60 :: c :: rest) = some (⟨⟨.text, tx, []⟩, false, []⟩ :: xs', r, cE) := by
  have h := has_new (tx ++ 60 :: c :: rest)
  obtain ⟨p, -, -⟩ := text_closed_form2 _ tx c rfl rfl (textOKB_eq tx ▸ h60) hne hop h
  have inv1 := next_inv' _ (inv_new (tx ++ 60 :: c :: rest).toArray)
  have hraw := rawL_of_has h.left p.rawS p.rawE p.buf
  have hl : 0 < tx.length := List.length_pos_iff.mpr hne
  -- the first round, then the restart after the text
  rw [htmlStream?, newFragment_nil,
    show (tx ++ 60 :: c :: rest).length + 2 = ((60 :: c :: rest).length + 2 + (tx.length - 1)) + 1 by
      simp only [List.length_append, List.length_cons]; omega]
  rw [tokenizeGoX_succ, tgStep_plain (inv_new _) p.token (Or.inl rfl), hraw]
  simp only [xTok]
  rw [tokenizeGoX_restart (x := tx) inv1 p.buf (p.rawE.trans (Nat.zero_add _)) p.err p.rawTag p.cdata hy, p.err]
  rfl

theorem htmlStream?_text_eof {tx : Bytes} (hne : tx ≠ []) (h60 : textOKB tx = true) :
    htmlStream? [] tx = some ([⟨⟨.text, tx, []⟩, true, []⟩], [], []) := by
  have h := has_new tx
  obtain ⟨htok, hrS, hrE, herr, htag, -, hbuf, -, -⟩ :=
    text_eof_closed_form2 _ tx rfl rfl (textOKB_eq tx ▸ h60) hne h (by simp [Tokenizer.new])
  have inv1 := next_inv' _ (inv_new tx.toArray)
  have hraw := rawL_of_has h hrS hrE hbuf
  unfold htmlStream?
  rw [newFragment_nil, show tx.length + 2 = (tx.length + 1) + 1 from rfl, tokenizeGoX_succ,
    tgStep_plain (inv_new _) htok (Or.inl rfl), hraw]
  simp only
  rw [tokenizeGoX_succ, tgStep_eof inv1 herr (by rw [hrE, hbuf]; simp [Tokenizer.new])]
  simp only [xTok, herr, htag]
  rfl

/-- what the grammar-directed proofs use of a tokenizer -/
structure TokLaws (P : Bytes → List Tok → Bytes → Prop) : Prop where
  nil : P [] [] []
  nil_inv : ∀ {ts : List Tok} {r : Bytes}, P [] ts r → ts = [] ∧ r = []
  append : ∀ {x y : Bytes} {ts ts' : List Tok} {r : Bytes}, Closed x ts → P y ts' r → P (x ++ y) (ts ++ ts') r
  /-- the one place where the tokenizer looks ahead: a text ends before `<` + opener (or at the end: `text_eof`) -/
  text : ∀ {tx y : Bytes} {c : Nat} {rest : Bytes} {ts' : List Tok} {r : Bytes}, tx ≠ [] → textOKB tx = true →
    y = 60 :: c :: rest → isOpener c = true → P y ts' r → P (tx ++ y) (⟨.text, tx, []⟩ :: ts') r
  /-- a text that runs to the end of the input is one token -/
  text_eof : ∀ {tx : Bytes}, tx ≠ [] → textOKB tx = true → P tx [⟨.text, tx, []⟩] []

/-- the stream tokenizer without a context gives the tokens `ts` for `d` and leaves `r`, and every record satisfies `Q`.
Both tokenizers of the filters are instances: `StreamTo` (`Q` = not held back by `filter`) and `PlainTo` (no `Q`: the plain
tokenizer is the stream tokenizer with the records forgotten), so each law is proved once, for the stream loop. -/
def StreamQ (Q : TokX → Prop) (d : Bytes) (ts : List Tok) (r : Bytes) : Prop :=
  ∃ xs c, htmlStream? [] d = some (xs, r, c) ∧ toksOf xs = ts ∧ ∀ x ∈ xs, Q x

theorem streamQ_laws {Q : TokX → Prop} (hcut : ∀ x, x.cut = false → Q x)
    (htext : ∀ tx, Q ⟨⟨.text, tx, []⟩, true, []⟩) : TokLaws (StreamQ Q) where
  nil := ⟨[], [], htmlStream?_nil, rfl, fun _ h => nomatch h⟩
  nil_inv := by
    rintro ts r ⟨xs, c, h1, h2, -⟩
    rw [htmlStream?_nil] at h1
    simp only [Option.some.injEq, Prod.mk.injEq] at h1
    obtain ⟨rfl, rfl, -⟩ := h1
    exact ⟨h2.symm, rfl⟩
  append := by
    rintro x y ts ts' r hc ⟨xs', c, hy, rfl, hq'⟩
    obtain ⟨xs, h, rfl, hx⟩ := htmlStream?_append hc hy
    exact ⟨xs ++ xs', c, h, toksOf_append xs xs', fun a ha =>
      (List.mem_append.mp ha).elim (fun ha => hcut a (hx a ha)) (hq' a)⟩
  text := by
    rintro tx y c rest ts' r hne h60 rfl hop ⟨xs', cE, hy, rfl, hq'⟩
    exact ⟨_, cE, htmlStream?_text hne h60 hop hy, rfl, fun a ha =>
      (List.mem_cons.mp ha).elim (fun e => e ▸ hcut _ rfl) (hq' a)⟩
  text_eof := fun hne h60 =>
    ⟨_, [], htmlStream?_text_eof hne h60, rfl, fun a ha => List.mem_singleton.mp ha ▸ htext _⟩

/-- **the stream tokenizer without a context** gives the tokens `ts` for `d`, leaves `r`, and no token is cut short by
the end of `d` in the sense of `filter` (`isCut`; a final plain text is not) -/
def StreamTo (d : Bytes) (ts : List Tok) (r : Bytes) : Prop :=
  ∃ xs c, htmlStream? [] d = some (xs, r, c) ∧ toksOf xs = ts ∧ ∀ x ∈ xs, isCut x = false

/-- `StreamTo` unfolds to `StreamQ (isCut · = false)`; a token that is not ended by the end of the data is not held back, a
plain text outside a raw-text context is not held back either -/
theorem streamLaws : TokLaws StreamTo := streamQ_laws (fun x h => by simp [isCut, h]) (fun _ => rfl)

theorem streamTo_stream {d : Bytes} {ts : List Tok} {r : Bytes} (h : StreamTo d ts r) :
    toksOf (htmlTokenize.stream [] d).1 = ts ∧ (htmlTokenize.stream [] d).2.1 = r ∧
    ∀ x ∈ (htmlTokenize.stream [] d).1, isCut x = false := by
  obtain ⟨xs, c, h1, h2, h3⟩ := h
  show toksOf (htmlStream [] d).1 = ts ∧ (htmlStream [] d).2.1 = r ∧ ∀ x ∈ (htmlStream [] d).1, isCut x = false
  unfold htmlStream
  rw [h1]
  exact ⟨h2, rfl, h3⟩

/-- the `P` of `TokLaws` for the plain tokenizer (`plainLaws`) -/
def PlainTo (d : Bytes) (ts : List Tok) (r : Bytes) : Prop := htmlTokenize? d = some (ts, r)

theorem plainTo_iff {d : Bytes} {ts : List Tok} {r : Bytes} : PlainTo d ts r ↔ StreamQ (fun _ => True) d ts r := by
  unfold PlainTo StreamQ
  rw [← htmlStream?_nil_erase]
  cases htmlStream? [] d with
  | none => simp
  | some res =>
    obtain ⟨xs, r', c⟩ := res
    simp only [Option.map_some, Option.some.injEq, Prod.mk.injEq]
    constructor
    · rintro ⟨h, rfl⟩
      exact ⟨xs, c, ⟨rfl, rfl, rfl⟩, h, fun _ _ => trivial⟩
    · rintro ⟨xs1, c1, ⟨rfl, rfl, rfl⟩, h, -⟩
      exact ⟨h, rfl⟩

theorem plainLaws : TokLaws PlainTo := by
  have e : PlainTo = StreamQ fun _ => True := by funext d ts r; exact propext plainTo_iff
  rw [e]
  exact streamQ_laws (fun _ _ => trivial) (fun _ => trivial)

theorem htmlTokenize?_append {x y : Bytes} {ts ts' : List Tok} {r : Bytes} (hc : Closed x ts)
    (hy : htmlTokenize? y = some (ts', r)) : htmlTokenize? (x ++ y) = some (ts ++ ts', r) :=
  plainLaws.append hc hy

theorem PlainTo.tokenize {d : Bytes} {ts : List Tok} {r : Bytes} (h : PlainTo d ts r) : htmlTokenize d = (ts, r) := by
  simp [htmlTokenize_apply, show htmlTokenize? d = some (ts, r) from h]

theorem htmlTokenize?_pieces (ps : List (Bytes × List Tok)) (h : ∀ p ∈ ps, Closed p.1 p.2)
    {y : Bytes} {ts' : List Tok} {r : Bytes} (hy : PlainTo y ts' r) :
    PlainTo (ps.flatMap (·.1) ++ y) (ps.flatMap (·.2) ++ ts') r := by
  induction ps with
  | nil => exact hy
  | cons p ps ih =>
    rw [List.flatMap_cons, List.flatMap_cons, List.append_assoc, List.append_assoc]
    exact plainLaws.append (h p List.mem_cons_self) (ih fun q hq => h q (List.mem_cons_of_mem _ hq))

section
variable (vt : Bytes → List Tok)

mutual
  /-- one piece per tag, per verbatim piece, per raw-text element (start tag, raw text and end tag together:
  between them the tokenizer is in a raw-text context) -/
  def piecesOf : Node → List (Bytes × List Tok)
    | .verb raw _ => [(raw, vt raw)]
    | .el nm d at_ knd cs =>
      match knd with
      | .selfClosing => [((selfTok nm d at_).raw, [selfTok nm d at_])]
      | .void => [((startTok nm d at_).raw, [startTok nm d at_])]
      | .raw => [(serialize (.el nm d at_ .raw cs), tokensOf vt (.el nm d at_ .raw cs))]
      | .normal =>
        ((startTok nm d at_).raw, [startTok nm d at_]) ::
          (piecesOfList cs ++ [((endTok nm d).raw, [endTok nm d])])
  def piecesOfList : List Node → List (Bytes × List Tok)
    | [] => []
    | n :: ns => piecesOf n ++ piecesOfList ns
end

mutual
  theorem piecesOf_bytes : ∀ n : Node, (piecesOf vt n).flatMap (·.1) = serialize n
    | .verb raw _ => List.flatMap_singleton ..
    | .el nm d at_ knd cs => by
      cases knd with
      | selfClosing => exact List.flatMap_singleton ..
      | void => exact List.flatMap_singleton ..
      | raw => exact List.flatMap_singleton ..
      | normal =>
        rw [serialize_el_inner nm d at_ .normal cs (Or.inl rfl)]
        simp only [piecesOf, List.flatMap_cons, List.flatMap_append, piecesOfList_bytes cs, List.flatMap_nil,
          List.append_nil, List.append_assoc]
  theorem piecesOfList_bytes : ∀ ns : List Node, (piecesOfList vt ns).flatMap (·.1) = serializeList ns
    | [] => rfl
    | n :: ns => by
      simp only [piecesOfList, List.flatMap_append, piecesOf_bytes n, piecesOfList_bytes ns, serializeList]
end

mutual
  theorem piecesOf_toks : ∀ n : Node, (piecesOf vt n).flatMap (·.2) = tokensOf vt n
    | .verb raw _ => List.flatMap_singleton ..
    | .el nm d at_ knd cs => by
      cases knd with
      | selfClosing => exact List.flatMap_singleton ..
      | void => exact List.flatMap_singleton ..
      | raw => exact List.flatMap_singleton ..
      | normal =>
        simp only [piecesOf, List.flatMap_cons, List.flatMap_append, piecesOfList_toks cs, List.flatMap_nil,
          List.append_nil, tokensOf, List.cons_append, List.nil_append]
  theorem piecesOfList_toks : ∀ ns : List Node, (piecesOfList vt ns).flatMap (·.2) = tokensOfList vt ns
    | [] => rfl
    | n :: ns => by
      simp only [piecesOfList, List.flatMap_append, piecesOf_toks n, piecesOfList_toks ns, tokensOfList]
end

end

/-- a piece that is not closed on its own (a text: its extent depends on what follows) is merged with the next one -/
def mergeUnits : List (Bytes × List Tok) → List (Bytes × List Tok)
  | [] => []
  | p :: rest =>
    match mergeUnits rest with
    | [] => [p]
    | q :: qs => if closedB p.1 p.2 then p :: q :: qs else (p.1 ++ q.1, p.2 ++ q.2) :: qs

theorem mergeUnits_flat (ps : List (Bytes × List Tok)) :
    (mergeUnits ps).flatMap (·.1) = ps.flatMap (·.1) ∧ (mergeUnits ps).flatMap (·.2) = ps.flatMap (·.2) := by
  induction ps with
  | nil => exact ⟨rfl, rfl⟩
  | cons p rest ih =>
    rw [List.flatMap_cons, List.flatMap_cons, ← ih.1, ← ih.2, mergeUnits]
    cases mergeUnits rest with
    | nil => exact ⟨rfl, rfl⟩
    | cons q qs =>
      simp only
      split
      · exact ⟨rfl, rfl⟩
      · simp only [List.flatMap_cons, List.append_assoc, and_self]

/-- every unit but the last is closed; the last one is closed or tokenises, at the end of the input, as expected -/
def unitsOKB (us : List (Bytes × List Tok)) : Bool :=
  match us.reverse with
  | [] => true
  | last :: initRev =>
    initRev.all (fun p => closedB p.1 p.2) &&
    (closedB last.1 last.2 || decide (htmlTokenize? last.1 = some (last.2, [])))

theorem htmlTokenize?_units {us : List (Bytes × List Tok)} (h : unitsOKB us = true) :
    PlainTo (us.flatMap (·.1)) (us.flatMap (·.2)) [] := by
  rcases List.eq_nil_or_concat us with rfl | ⟨init, last, rfl⟩
  · exact plainLaws.nil
  · simp only [unitsOKB, List.concat_eq_append, List.reverse_append, List.reverse_cons, List.reverse_nil,
      List.nil_append, List.singleton_append, List.all_reverse, Bool.and_eq_true, Bool.or_eq_true, decide_eq_true_eq,
      List.all_eq_true] at h
    -- a closed last unit is followed by the empty input
    have hlast : PlainTo last.1 last.2 [] := h.2.elim
      (fun hl => by simpa using plainLaws.append (closedB_iff.mp hl) plainLaws.nil) id
    simpa using htmlTokenize?_pieces init (fun p hp => closedB_iff.mp (h.1 p hp)) hlast

theorem tokenize_serialize_units (vt : Bytes → List Tok) (doc : List Node)
    (h : unitsOKB (mergeUnits (piecesOfList vt doc)) = true) :
    htmlTokenize (serializeList doc) = (tokensOfList vt doc, []) := by
  have := htmlTokenize?_units h
  rw [(mergeUnits_flat _).1, (mergeUnits_flat _).2, piecesOfList_bytes, piecesOfList_toks] at this
  exact this.tokenize

/-- tags whose tokenisation in isolation is checked by evaluation -/
structure Vocab where
  /-- (name, display name, raw attribute text) of start tags (normal and void elements) -/
  starts : List (Bytes × Bytes × Bytes)
  /-- the same for self-closing tags -/
  selfs : List (Bytes × Bytes × Bytes)
  /-- (name, display name) of end tags -/
  ends : List (Bytes × Bytes)

def startsOpenerB (y : Bytes) : Bool :=
  match y with
  | 60 :: c :: _ => isOpener c
  | _ => false

def StartsOpener (y : Bytes) : Prop := ∃ c rest, y = 60 :: c :: rest ∧ isOpener c = true

theorem startsOpenerB_iff {y : Bytes} : startsOpenerB y = true ↔ StartsOpener y := by
  constructor
  · intro h
    unfold startsOpenerB at h
    split at h
    · exact ⟨_, _, rfl, h⟩
    · cases h
  · rintro ⟨c, rest, rfl, hc⟩
    exact hc

theorem startsOpener_append {a : Bytes} (h : StartsOpener a) (b : Bytes) : StartsOpener (a ++ b) := by
  obtain ⟨c, rest, rfl, hc⟩ := h
  exact ⟨c, rest ++ b, rfl, hc⟩

theorem startsOpener_endTok (nm d : Bytes) : StartsOpener (endTok nm d).raw :=
  ⟨47, d ++ [62], by simp [endTok], by decide⟩

/-- every tag of the vocabulary is, on its own, tokenised to its one expected token, completely, without reaching the
end of its bytes' look-ahead, and begins with `<` + opener -/
def Vocab.ok (V : Vocab) : Bool :=
  V.starts.all (fun x => closedB (startTok x.1 x.2.1 x.2.2).raw [startTok x.1 x.2.1 x.2.2] &&
    startsOpenerB (startTok x.1 x.2.1 x.2.2).raw) &&
  V.selfs.all (fun x => closedB (selfTok x.1 x.2.1 x.2.2).raw [selfTok x.1 x.2.1 x.2.2] &&
    startsOpenerB (selfTok x.1 x.2.1 x.2.2).raw) &&
  V.ends.all (fun x => closedB (endTok x.1 x.2).raw [endTok x.1 x.2])

def isVerb : Node → Bool
  | .verb _ _ => true
  | _ => false

mutual
  /-- documents over the vocabulary: text free of `<` (non-empty), normal / void / self-closing elements whose tags are
  in the vocabulary -/
  def simpleN (V : Vocab) : Node → Bool
    | .verb raw _ => !raw.isEmpty && !raw.contains 60
    | .el nm d at_ knd cs =>
      match knd with
      | .normal => V.starts.contains (nm, d, at_) && V.ends.contains (nm, d) && simpleL V cs
      | .void => V.starts.contains (nm, d, at_)
      | .selfClosing => V.selfs.contains (nm, d, at_)
      | .raw => false
  /-- every node is `simpleN`, and no two adjacent nodes are texts (the tokenizer would see one text) -/
  def simpleL (V : Vocab) : List Node → Bool
    | [] => true
    | n :: ns =>
      simpleN V n &&
      (match ns with
       | [] => true
       | m :: _ => !(isVerb n && isVerb m)) &&
      simpleL V ns
end

def lastIsVerb : List Node → Bool
  | [] => false
  | [n] => isVerb n
  | _ :: ns => lastIsVerb ns

/-! ### what `filter` holds back at the end is decided by the last token -/

/-- `filter` holds back only a last text token that contains `<` (`splitHeld`) -/
def NotHeldTok (t : Tok) : Prop := ¬(t.kind = .text ∧ hasLt t.raw = true)

theorem splitHeld_of_last {ts : List Tok} (h : ∀ t, ts.getLast? = some t → NotHeldTok t) : splitHeld ts = (ts, []) := by
  rcases List.eq_nil_or_concat ts with rfl | ⟨pre, tl, rfl⟩
  · rfl
  · rw [List.concat_eq_append]
    exact splitHeld_snoc_not pre tl (h tl (by simp))

theorem lastTok_textToks {raw : Bytes} (h : raw.contains 60 = false) :
    ∀ t, (textToks raw).getLast? = some t → NotHeldTok t := by
  intro t ht
  unfold textToks at ht
  split at ht
  · cases ht
  · obtain rfl : ⟨.text, raw, []⟩ = t := Option.some.inj ht
    exact fun hh => by rw [hasLt, h] at hh; cases hh.2

/-- the last token of an element is a tag -/
theorem lastTok_el (vt : Bytes → List Tok) (nm d a : Bytes) (knd : ElKind) (cs : List Node) :
    ∀ t, (tokensOf vt (.el nm d a knd cs)).getLast? = some t → NotHeldTok t := by
  intro t ht
  by_cases hk : knd = .normal ∨ knd = .raw
  · rw [tokensOf_el_inner vt nm d a knd cs hk, ← List.cons_append, List.getLast?_append] at ht
    simp only [List.getLast?_singleton, Option.some_or, Option.some.injEq] at ht
    subst ht
    simp [NotHeldTok, endTok]
  · cases knd with
    | normal => exact absurd (Or.inl rfl) hk
    | raw => exact absurd (Or.inr rfl) hk
    | void =>
      simp only [tokensOf, List.getLast?_singleton, Option.some.injEq] at ht
      subst ht; simp [NotHeldTok, startTok]
    | selfClosing =>
      simp only [tokensOf, List.getLast?_singleton, Option.some.injEq] at ht
      subst ht; simp [NotHeldTok, selfTok]

theorem lastTok_list (vt : Bytes → List Tok) : ∀ (ns : List Node),
    (∀ n ∈ ns, ∀ t, (tokensOf vt n).getLast? = some t → NotHeldTok t) →
    ∀ (t : Tok), (tokensOfList vt ns).getLast? = some t → NotHeldTok t
  | [], _, t, ht => by simp [tokensOfList] at ht
  | n :: ns, h, t, ht => by
    simp only [tokensOfList, List.getLast?_append] at ht
    cases hl : (tokensOfList vt ns).getLast? with
    | none =>
      rw [hl] at ht
      simp only [Option.none_or] at ht
      exact h n (by simp) t ht
    | some t' =>
      rw [hl] at ht
      simp only [Option.some_or, Option.some.injEq] at ht
      subst ht
      exact lastTok_list vt ns (fun x hx => h x (List.mem_cons_of_mem _ hx)) _ hl

theorem simpleN_of_mem (V : Vocab) : ∀ {ns : List Node}, simpleL V ns = true → ∀ n ∈ ns, simpleN V n = true
  | _ :: ns, h, n, hn => by
    simp only [simpleL, Bool.and_eq_true] at h
    rcases List.mem_cons.mp hn with rfl | hn
    · exact h.1.1
    · exact simpleN_of_mem V h.2 n hn

theorem lastTok_simple (V : Vocab) : ∀ {n : Node}, simpleN V n = true →
    ∀ t, (tokensOf textToks n).getLast? = some t → NotHeldTok t
  | .verb raw _, h => by
    simp only [simpleN, Bool.and_eq_true, Bool.not_eq_true'] at h
    exact lastTok_textToks h.2
  | .el nm d a knd cs, _ => lastTok_el textToks nm d a knd cs

section
variable (V : Vocab) (hV : V.ok = true)
include hV

theorem vocab_start {x : Bytes × Bytes × Bytes} (h : V.starts.contains x = true) :
    Closed (startTok x.1 x.2.1 x.2.2).raw [startTok x.1 x.2.1 x.2.2] ∧
    StartsOpener (startTok x.1 x.2.1 x.2.2).raw := by
  unfold Vocab.ok at hV
  simp only [Bool.and_eq_true, List.all_eq_true] at hV
  have := hV.1.1 x (by simpa using h)
  exact ⟨closedB_iff.mp this.1, startsOpenerB_iff.mp this.2⟩

theorem vocab_self {x : Bytes × Bytes × Bytes} (h : V.selfs.contains x = true) :
    Closed (selfTok x.1 x.2.1 x.2.2).raw [selfTok x.1 x.2.1 x.2.2] ∧
    StartsOpener (selfTok x.1 x.2.1 x.2.2).raw := by
  unfold Vocab.ok at hV
  simp only [Bool.and_eq_true, List.all_eq_true] at hV
  have := hV.1.2 x (by simpa using h)
  exact ⟨closedB_iff.mp this.1, startsOpenerB_iff.mp this.2⟩

theorem vocab_end {x : Bytes × Bytes} (h : V.ends.contains x = true) :
    Closed (endTok x.1 x.2).raw [endTok x.1 x.2] := by
  unfold Vocab.ok at hV
  simp only [Bool.and_eq_true, List.all_eq_true] at hV
  exact closedB_iff.mp (hV.2 x (by simpa using h))

section
variable {P : Bytes → List Tok → Bytes → Prop} (hP : TokLaws P)
include hP

mutual
  /-- the induction carries the rest of the input as a continuation (`P y ts' r`): a text node is ONE token only if what
  follows opens something (`TokLaws.text`), hence the side hypothesis on `y`; the second conclusion (a non-text node starts
  with an opener) discharges it for a text node in front (`hfollow` in `simpleL_tok`).  `text_eof` is not used, hence
  `lastIsVerb doc = false` in the theorems below; `SimpleN_tok` (FilterDomUniv) is this induction over the grammar, with it. -/
  theorem simpleN_tok : ∀ (n : Node), simpleN V n = true →
      ∀ (y : Bytes) (ts' : List Tok) (r : Bytes), P y ts' r →
        (isVerb n = true → StartsOpener y) →
        P (serialize n ++ y) (tokensOf textToks n ++ ts') r ∧
        (isVerb n = false → StartsOpener (serialize n))
    | .verb raw m, h, y, ts', r, hy, hop => by
      simp only [simpleN, Bool.and_eq_true, Bool.not_eq_true', List.isEmpty_eq_false_iff, ne_eq] at h
      obtain ⟨c, rest, hy0, hc⟩ := hop rfl
      have h60 : ∀ b ∈ raw, b ≠ 60 := by
        intro b hb e; subst e
        have := h.2
        simp only [List.contains_eq_mem, decide_eq_false_iff_not] at this
        exact this hb
      have ht : tokensOf textToks (.verb raw m) = [⟨.text, raw, []⟩] := by
        cases raw with
        | nil => exact absurd rfl h.1
        | cons _ _ => rfl
      rw [ht]
      exact ⟨hP.text h.1 (textOKB_of_no60 raw h60) hy0 hc hy, fun hv => by cases hv⟩
    | .el nm d at_ knd cs, h, y, ts', r, hy, _ => by
      cases knd with
      | raw => simp [simpleN] at h
      | void =>
        simp only [simpleN] at h
        obtain ⟨hc, ho⟩ := vocab_start V hV h
        exact ⟨hP.append hc hy, fun _ => ho⟩
      | selfClosing =>
        simp only [simpleN] at h
        obtain ⟨hc, ho⟩ := vocab_self V hV h
        exact ⟨hP.append hc hy, fun _ => ho⟩
      | normal =>
        simp only [simpleN, Bool.and_eq_true] at h
        obtain ⟨⟨hs, he⟩, hcs⟩ := h
        obtain ⟨hcS, hoS⟩ := vocab_start V hV hs
        have hcE := vocab_end V hV he
        have h1 := hP.append hcE hy
        have h2 := simpleL_tok cs hcs ((endTok nm d).raw ++ y) _ r h1
          (fun _ => startsOpener_append (startsOpener_endTok nm d) y)
        have h3 := hP.append hcS h2
        rw [serialize_el_inner nm d at_ .normal cs (Or.inl rfl), tokensOf_el_normal]
        refine ⟨?_, fun _ => ?_⟩
        · simpa only [List.append_assoc, List.cons_append, List.nil_append] using h3
        · rw [List.append_assoc]
          exact startsOpener_append hoS _
  theorem simpleL_tok : ∀ (ns : List Node), simpleL V ns = true →
      ∀ (y : Bytes) (ts' : List Tok) (r : Bytes), P y ts' r →
        (lastIsVerb ns = true → StartsOpener y) →
        P (serializeList ns ++ y) (tokensOfList textToks ns ++ ts') r
    | [], _, y, ts', r, hy, _ => hy
    | [n], h, y, ts', r, hy, hop => by
      simp only [simpleL, Bool.and_eq_true] at h
      have := (simpleN_tok n h.1.1 y ts' r hy hop).1
      simpa only [serializeList, tokensOfList, List.append_nil] using this
    | n :: m :: rest, h, y, ts', r, hy, hop => by
      simp only [simpleL, Bool.and_eq_true, Bool.not_eq_true', Bool.and_eq_false_imp] at h
      obtain ⟨⟨hn, hadj⟩, hrest⟩ := h
      have hmS : simpleN V m = true := hrest.1.1
      have ih := simpleL_tok (m :: rest) (by simpa only [simpleL, Bool.and_eq_true] using hrest) y ts' r hy hop
      -- what follows `n` starts with the first tag of `m` when `n` is a text
      have hfollow : isVerb n = true → StartsOpener (serializeList (m :: rest) ++ y) := by
        intro hv
        have hm : isVerb m = false := hadj hv
        have := (simpleN_tok m hmS [] [] [] hP.nil (fun hv' => by rw [hm] at hv'; cases hv')).2 hm
        rw [serializeList, List.append_assoc]
        exact startsOpener_append this _
      have := (simpleN_tok n hn _ _ r ih hfollow).1
      rw [serializeList, tokensOfList, List.append_assoc, List.append_assoc]
      exact this
end

end

theorem tokenize_serialize_simple (doc : List Node) (hs : simpleL V doc = true) (hl : lastIsVerb doc = false) :
    htmlTokenize (serializeList doc) = (tokensOfList textToks doc, []) := by
  have := simpleL_tok V hV plainLaws doc hs [] [] [] plainLaws.nil (fun hv => by rw [hl] at hv; cases hv)
  rw [List.append_nil, List.append_nil] at this
  exact this.tokenize

theorem stream_serialize_simple (doc : List Node) (hs : simpleL V doc = true) (hl : lastIsVerb doc = false) :
    StreamTo (serializeList doc) (tokensOfList textToks doc) [] := by
  have := simpleL_tok V hV streamLaws doc hs [] [] [] streamLaws.nil (fun hv => by rw [hl] at hv; cases hv)
  simpa only [List.append_nil] using this

/-- the bridge hypothesis `TokAgree` of the token-level theorems holds on the class (given valid UTF-8) -/
theorem tokAgree_simple (doc : List Node) (hs : simpleL V doc = true) (hl : lastIsVerb doc = false)
    (hu : utf8Split (serializeList doc) = some (serializeList doc, [])) :
    TokAgree htmlTokenize textToks doc :=
  have h := streamTo_stream (stream_serialize_simple V hV doc hs hl)
  ⟨h.1, h.2.1, h.2.2, hu, splitHeld_of_last (lastTok_list textToks doc fun n hn => lastTok_simple V (simpleN_of_mem V hs n hn))⟩

end

end Rio.Filter
