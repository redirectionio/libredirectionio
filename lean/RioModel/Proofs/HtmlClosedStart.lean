/-
The raw-text element lookup of `read_start_tag` on a known name, the way from `next` through the main loop to `dispatchTag`
that every closed form of a tag, comment or declaration starts with, and the closed form of `next` on a start tag.
`disp`: the tag name as it stands in the buffer, before lower-casing.  A suffix `2` marks the side conditions that follow
what the reader accepts (`nameOK2`, `commentOK2`, `rawOK2`, `textOK2`; wider than `nameOK`, `commentOK`, `rawContentOK`,
`textOK`) and, for comments, text and raw text, the closed forms stated with them beside a narrower one without it.  Tags
have the wide form only: `start_tag_closed` (`start_tag_closed_form2` and `attrs_closed_form` are its two halves) and
`end_tag_closed_form2`.
-/
import RioModel.Proofs.HtmlClosedTag

namespace Rio.Html
namespace Tokenizer
open Rio.Consts

/-- is the (lower-cased) name a raw-text element name of the regenerated table? -/
def isRawName (n : Bytes) : Bool := (htmlRawDispatch.flatMap (·.2)).contains n

theorem startTagIn_closed (ss : List Bytes) (disp : Bytes) (t : Tokenizer) (h : Has t t.dataS disp)
    (hd : t.dataE = t.dataS + disp.length) (hs : t.dataE ≤ t.buf.size) :
    startTagIn t ss = some (ss.contains (disp.map lowerByte)) := by
  rw [startTagIn_eq t ss (by omega) hs, hd, extract_of_has h]

/-- well-formedness of the dispatch table: the names of an entry start with its letter, letters are distinct -/
def TableWF (tbl : List (Nat × List Bytes)) : Prop :=
  (∀ e ∈ tbl, ∀ s ∈ e.2, s.head? = some e.1) ∧ tbl.Pairwise (fun a b => a.1 ≠ b.1)

/-- `rawLookup` (the `match byte_char` of `read_start_tag`: first letter → candidate names) on a known name: only the entry
of its first letter can hold it (`TableWF`), so the answer is membership in the whole table -/
theorem rawLookup_closed (tbl : List (Nat × List Bytes)) (wf : TableWF tbl) (disp : Bytes) (first : Nat) (t : Tokenizer)
    (h : Has t t.dataS disp) (hd : t.dataE = t.dataS + disp.length) (hs : t.dataE ≤ t.buf.size)
    (hf : (disp.map lowerByte).head? = some first) :
    rawLookup t first tbl = some ((tbl.flatMap (·.2)).contains (disp.map lowerByte)) := by
  induction tbl with
  | nil => rfl
  | cons e tbl ih =>
    obtain ⟨l, names⟩ := e
    have wf' : TableWF tbl := ⟨fun e he => wf.1 e (by simp [he]), (List.pairwise_cons.mp wf.2).2⟩
    simp only [rawLookup, List.flatMap_cons]
    by_cases hl : first = l
    · subst hl
      simp only [beq_self_eq_true, if_true, startTagIn_closed names disp t h hd hs]
      -- no later entry can contain the name: its names start with another letter
      have hnot : (tbl.flatMap (·.2)).contains (disp.map lowerByte) = false := by
        simp only [List.contains_eq_mem, decide_eq_false_iff_not, List.mem_flatMap, not_exists, not_and]
        intro e he hs
        have h1 := wf.1 e (by simp [he]) _ hs
        rw [hf] at h1
        have := (List.pairwise_cons.mp wf.2).1 e he
        injection h1 with h1
        exact this h1
      rw [List.contains_append, hnot, Bool.or_false]
    · have hb : (first == l) = false := by simpa using hl
      simp only [hb, Bool.false_eq_true, if_false, ih wf']
      have hnot : names.contains (disp.map lowerByte) = false := by
        simp only [List.contains_eq_mem, decide_eq_false_iff_not]
        intro hs
        have h1 := wf.1 (l, names) (by simp) _ hs
        rw [hf] at h1
        injection h1 with h1
        exact hl h1
      rw [List.contains_append, hnot, Bool.false_or]

theorem rawTable_wf : TableWF htmlRawDispatch := by
  constructor
  · decide
  · decide

/-- `<` is followed by a byte that opens a tag / comment / declaration (`opens` of `Proofs/Html.lean` again) -/
def isOpener (c : Nat) : Bool := isAlpha c || c == 47 || c == 33 || c == 63

theorem mainLoop_has_lt {t : Tokenizer} {c : Nat} {l : Bytes} (he : t.err = false) (h : Has t t.rawE (60 :: c :: l)) :
    mainLoop t = if isOpener c then dispatchTag { t with rawE := t.rawE + 2 } c else mainLoop { t with rawE := t.rawE + 1 } :=
  mainLoop_at_lt he h.head h.tail.head

/-- what holds of the state `S` that the main loop, started in `T`, hands to `dispatchTag` behind `<` and an opening byte -/
structure OpenedFacts (T S : Tokenizer) : Prop where
  rawE : S.rawE = T.rawE + 2
  rawS : S.rawS = T.rawS
  err : S.err = false
  buf : S.buf = T.buf
  rawTag : S.rawTag = T.rawTag
  cdata : S.allowCdata = T.allowCdata
  ok : Ok S
  dataS : S.dataS = T.dataS
  dataE : S.dataE = T.dataE

theorem mainLoop_dispatch (T : Tokenizer) (c : Nat) (rest : Bytes) (ok : Ok T) (he : T.err = false)
    (h : Has T T.rawE (60 :: c :: rest)) (hop : isOpener c = true) :
    ∃ S, mainLoop T = dispatchTag S c ∧ OpenedFacts T S := by
  refine ⟨{ T with rawE := T.rawE + 2 }, ?_, rfl, rfl, he, rfl, rfl, rfl, ⟨h.tail.lt, ok.panic, ok.hang, ok.utf8⟩, rfl, rfl⟩
  rw [mainLoop_has_lt he h, if_pos hop]

/-- `next` at its `'main: loop`: the three spans set to `raw.end`, `text_is_raw` and `convert_null` cleared -/
abbrev mainStart (t : Tokenizer) : Tokenizer :=
  { ({ t with rawS := t.rawE, dataS := t.rawE, dataE := t.rawE } : Tokenizer) with textIsRaw := false, convertNull := false }

theorem Ok.mainStart {t : Tokenizer} (ok : Ok t) : Ok (mainStart t) := ok.congr

theorem next_mainLoop (t : Tokenizer) (he : t.err = false) (htag : t.rawTag = []) : next t = mainLoop (mainStart t) := by
  unfold next nextGo
  simp only
  rw [if_neg (by show ¬ t.err = true; rw [he]; exact Bool.false_ne_true),
    if_neg (by show ¬ (t.rawTag != []) = true; rw [htag]; decide)]

/-- the record of the closed forms: what `t1 = next t` looks like -/
structure Piece (t t1 : Tokenizer) (k : TokenType) (len : Nat) (tag : List Nat) : Prop where
  token : t1.token = k
  rawS : t1.rawS = t.rawE
  rawE : t1.rawE = t.rawE + len
  err : t1.err = false
  rawTag : t1.rawTag = tag
  cdata : t1.allowCdata = t.allowCdata
  buf : t1.buf = t.buf

theorem Piece.has {t t1 : Tokenizer} {k : TokenType} {len : Nat} {tag : List Nat} (pc : Piece t t1 k len tag)
    {p : Nat} {l : Bytes} (h : Has t p l) : Has t1 p l := h.congr pc.buf

/-- tag name of the `Simple` grammar: a letter followed by letters / digits -/
def nameOK : Bytes → Bool
  | [] => false
  | c :: nm => isAlpha c && nm.all isAlnum

/-- tag name as `read_tag_name` really delimits it: a letter followed by bytes that are not white space, `/` or `>`
(so `-`, `:`, `_`, digits, `=`, `<`, non-ASCII bytes … are name bytes) -/
def nameOK2 : Bytes → Bool
  | [] => false
  | c :: nm => isAlpha c && nm.all nameByte

theorem nameOK2_cons {d : Bytes} (h : nameOK2 d = true) :
    ∃ c nm, d = c :: nm ∧ isAlpha c = true ∧ ∀ b ∈ nm, nameByte b = true := by
  cases d with
  | nil => exact absurd h Bool.false_ne_true
  | cons c nm =>
    simp only [nameOK2, Bool.and_eq_true, List.all_eq_true] at h
    exact ⟨c, nm, rfl, h⟩

theorem nameOK2_of_nameOK {disp : Bytes} (h : nameOK disp = true) : nameOK2 disp = true := by
  cases disp with
  | nil => exact h
  | cons c nm =>
    simp only [nameOK, nameOK2, Bool.and_eq_true, List.all_eq_true] at h ⊢
    exact ⟨h.1, fun b hb => nameByte_of_alnum (h.2 b hb)⟩

theorem isAlnum_spec {b : Nat} (h : isAlnum b = true) : b < 128 ∧ b ≠ 47 := by
  simp only [isAlnum, isAlpha, Bool.or_eq_true, Bool.and_eq_true, decide_eq_true_eq] at h
  omega

theorem isAlpha_alnum {b : Nat} (h : isAlpha b = true) : isAlnum b = true := by simp [isAlnum, h]

theorem nameOK_ascii {disp : Bytes} (h : nameOK disp = true) : ∀ b ∈ disp, b < 128 := by
  cases disp with
  | nil => simp [nameOK] at h
  | cons c nm =>
    simp only [nameOK, Bool.and_eq_true, List.all_eq_true] at h
    intro b hb
    simp only [List.mem_cons] at hb
    rcases hb with rfl | hb
    · exact (isAlnum_spec (isAlpha_alnum h.1)).1
    · exact (isAlnum_spec (h.2 b hb)).1

theorem isWs_ne47 {b : Nat} (h : isWs b = true) : b ≠ 47 := by
  simp only [isWs, Bool.or_eq_true, beq_iff_eq] at h; omega

/-! `read_start_tag` takes a tag for self-closing when the byte before `>` (at `raw.end - 2`) is `/`: no name, attribute
(`SVal.ok`) or trailing white space ends in one (`body_last`), so `tag_last` reads the kind off that byte as the code does. -/

theorem SAttr.text_last (a : SAttr) (h : a.ok = true) : ∃ b, a.text.getLast? = some b ∧ b ≠ 47 := by
  obtain ⟨_, _, hkne, hk, hval, _, _, _⟩ := SAttr.ok_spec h
  have hkl : ∃ b, a.key.getLast? = some b ∧ b ≠ 47 := by
    cases hg : a.key.getLast? with
    | none => rw [List.getLast?_eq_none_iff] at hg; exact absurd hg hkne
    | some b =>
      refine ⟨b, rfl, ?_⟩
      have := hk b (List.mem_of_getLast? hg)
      simp only [keyByte, Bool.and_eq_true, Bool.not_eq_true', bne_iff_ne, ne_eq] at this
      exact this.1.1.2
  unfold SAttr.text
  by_cases hn : a.val = .none
  · obtain ⟨b, hb, h47⟩ := hkl
    exact ⟨b, by rw [SAttr.vtext_none hn, List.append_nil, List.getLast?_append, hb]; rfl, h47⟩
  · rw [SAttr.vtext_some hn]
    have hbl : ∃ b, a.val.body.getLast? = some b ∧ b ≠ 47 := by
      rcases SVal.style hn hval with ⟨q, v, hq, hb, _⟩ | ⟨c, v, hb, _, _, _, _, _, _, hl⟩
      · exact ⟨q, by rw [hb, ← List.cons_append, List.getLast?_append]; rfl, by rcases hq with rfl | rfl <;> decide⟩
      · rw [hb]
        cases hg : (c :: v).getLast? with
        | none => simp at hg
        | some b => exact ⟨b, rfl, fun e => hl (e ▸ hg)⟩
    obtain ⟨b, hb, h47⟩ := hbl
    exact ⟨b, by rw [List.getLast?_append, List.getLast?_append, hb]; rfl, h47⟩

theorem attrsOf_last : ∀ (as : List SAttr), as ≠ [] → (∀ a ∈ as, a.ok = true) →
    ∃ b, (attrsOf as).getLast? = some b ∧ b ≠ 47
  | [], h, _ => absurd rfl h
  | [a], _, hok => by
    obtain ⟨b, hb, h47⟩ := a.text_last (hok a (by simp))
    exact ⟨b, by simp [attrsOf, hb], h47⟩
  | a :: b :: rest, _, hok => by
    obtain ⟨x, hx, h47⟩ := attrsOf_last (b :: rest) (by simp) (fun y hy => hok y (by simp [hy]))
    refine ⟨x, ?_, h47⟩
    show (a.text ++ attrsOf (b :: rest)).getLast? = some x
    rw [List.getLast?_append, hx]; rfl

theorem body_last (disp : Bytes) (as : List SAttr) (trail : Bytes) (hn : nameOK2 disp = true)
    (hok : ∀ a ∈ as, a.ok = true) (htr : ∀ b ∈ trail, isWs b = true) :
    ∃ b, (disp ++ attrsOf as ++ trail).getLast? = some b ∧ b ≠ 47 := by
  cases hg : trail.getLast? with
  | some b =>
    exact ⟨b, by rw [List.getLast?_append, hg]; rfl, isWs_ne47 (htr b (List.mem_of_getLast? hg))⟩
  | none =>
    rw [List.getLast?_eq_none_iff] at hg
    subst hg
    simp only [List.append_nil]
    by_cases has : as = []
    · subst has
      obtain ⟨c, nm, rfl, hc, hnm⟩ := nameOK2_cons hn
      simp only [attrsOf, List.append_nil]
      cases hd : (c :: nm).getLast? with
      | none => simp at hd
      | some b =>
        refine ⟨b, rfl, ?_⟩
        rcases List.mem_cons.1 (List.mem_of_getLast? hd) with rfl | hm
        · exact (isAlnum_spec (isAlpha_alnum hc)).2
        · have := hnm b hm
          simp only [nameByte, Bool.and_eq_true, bne_iff_ne, ne_eq] at this
          exact this.1.2
    · obtain ⟨b, hb, h47⟩ := attrsOf_last as has hok
      exact ⟨b, by rw [List.getLast?_append, hb]; rfl, h47⟩

def TagEnd.kind : TagEnd → TokenType
  | .gt => .startTag
  | .slashGt => .selfClosing

theorem tag_last (disp : Bytes) (as : List SAttr) (trail : Bytes) (e : TagEnd) (hn : nameOK2 disp = true)
    (hok : ∀ a ∈ as, a.ok = true) (htr : ∀ b ∈ trail, isWs b = true) :
    ∃ pre b, disp ++ (attrsOf as ++ trail ++ e.text) = pre ++ [b, 62] ∧
      (if b == 47 then TokenType.selfClosing else TokenType.startTag) = e.kind := by
  cases e with
  | slashGt => exact ⟨disp ++ (attrsOf as ++ trail), 47, by simp [TagEnd.text, List.append_assoc], rfl⟩
  | gt =>
    obtain ⟨b, hb, h47⟩ := body_last disp as trail hn hok htr
    obtain ⟨pre, hpre⟩ := List.getLast?_eq_some_iff.mp hb
    refine ⟨pre, b, ?_, by rw [if_neg (by simpa using h47)]; rfl⟩
    rw [← List.append_assoc, ← List.append_assoc, hpre]
    simp [TagEnd.text]

theorem startTagRaw_closed {R : Tokenizer} {c : Nat} {nm : Bytes} (h : Has R R.dataS (c :: nm))
    (hd : R.dataE = R.dataS + (c :: nm).length) :
    startTagRaw R =
      { R with rawTag := if isRawName ((c :: nm).map lowerByte) then (c :: nm).map lowerByte else R.rawTag } := by
  have hlt := h.lt
  have hfirst : R.buf[R.dataS]'hlt = c := by
    have := h.head
    rw [Array.getElem?_eq_getElem hlt] at this
    exact Option.some.inj this
  have hsz := h.le_size
  have hlook : rawLookup R (lowerByte c) htmlRawDispatch = some (isRawName ((c :: nm).map lowerByte)) :=
    rawLookup_closed htmlRawDispatch rawTable_wf (c :: nm) (lowerByte c) R h hd (by omega) (by simp)
  unfold startTagRaw
  rw [dif_pos hlt]
  simp only [hfirst]
  rw [hlook]
  cases hb : isRawName ((c :: nm).map lowerByte) with
  | false => rfl
  | true =>
    have hslice : R.slice? R.dataS R.dataE = some (c :: nm) := by
      rw [slice?_eq R _ _ (by omega) (by omega), hd, extract_of_has h]
    simp only [hslice, validUtf8_of_rawName (List.contains_iff_mem.mp hb), if_true]

theorem startTagKind_closed {T : Tokenizer} {b : Nat} (hb : T.buf[T.rawE - 2]? = some b) (he : T.err = false) :
    startTagKind T = if b == 47 then .selfClosing else .startTag := by
  obtain ⟨hlt, hb'⟩ := Array.getElem?_eq_some_iff.mp hb
  unfold startTagKind
  rw [dif_pos hlt, he, hb']
  rfl

/-- on the state handed over by the main loop when no text is pending before the `<`, `dispatchTag` neither panics nor
flushes text -/
theorem OpenedFacts.noflush {T S : Tokenizer} (o : OpenedFacts T S) (hrs : T.rawS = T.rawE) :
    ¬ S.rawE < htmlTagOpenLen ∧ ¬ S.rawS < S.rawE - htmlTagOpenLen := by
  have h1 := o.rawE
  have h2 := o.rawS
  simp only [htmlTagOpenLen]
  exact ⟨by omega, by omega⟩

theorem dispatchTag_alpha {T S : Tokenizer} {c : Nat} (o : OpenedFacts T S) (hrs : T.rawS = T.rawE)
    (hc : isAlpha c = true) : dispatchTag S c = { S.readStartTag.1 with token := S.readStartTag.2 } := by
  unfold dispatchTag
  rw [if_neg (o.noflush hrs).1, if_neg (o.noflush hrs).2, if_pos hc]

/-- `next` on `<disp attrs trail>` or `<disp attrs trail/>` followed by anything, outside a raw-text context: the token is
`e.kind`, the raw span the whole tag, the data span the name; `raw_tag` becomes the lower-cased name if that is a raw-text
element name; the saved spans are the keys and values of `as` in order (`spanOK`).  `hend`: a bare key or an unquoted value
directly before `/>` would swallow the `/`. -/
theorem start_tag_closed (t : Tokenizer) (disp : Bytes) (as : List SAttr) (trail : Bytes) (e : TagEnd)
    (ok : Ok t) (he : t.err = false) (htag : t.rawTag = []) (hn : nameOK2 disp = true)
    (hok : ∀ a ∈ as, a.ok = true) (htr : ∀ b ∈ trail, isWs b = true) (hend : endOK as trail e = true)
    (h : Has t t.rawE ([60] ++ disp ++ attrsOf as ++ trail ++ e.text)) :
    (Piece t (next t) e.kind ([60] ++ disp ++ attrsOf as ++ trail ++ e.text).length
      (if isRawName (disp.map lowerByte) then disp.map lowerByte else []) ∧
    (next t).dataS = t.rawE + 1 ∧ (next t).dataE = t.rawE + 1 + disp.length) ∧
    ∃ spans : List AttrSpan, (next t).attrs = spans.toArray ∧ All2 (spanOK t) spans as ∧ (next t).nAttrRet = 0 := by
  obtain ⟨pre, b, hpre, hkind⟩ := tag_last disp as trail e hn hok htr
  obtain ⟨c, nm, rfl, hc, hnm⟩ := nameOK2_cons hn
  have hx : [60] ++ (c :: nm) ++ attrsOf as ++ trail ++ e.text = 60 :: c :: (nm ++ (attrsOf as ++ trail ++ e.text)) := by
    simp [List.append_assoc]
  rw [hx] at h ⊢
  rw [next_mainLoop t he htag]
  obtain ⟨S, hml, o⟩ := mainLoop_dispatch (mainStart t) c _ ok.mainStart he (h.congr rfl) (by simp [isOpener, hc])
  have o1 : S.rawE = t.rawE + 2 := o.rawE
  have hS1 : 1 ≤ S.rawE := by omega
  obtain ⟨⟨⟨r1, r2⟩, r3, r4⟩, sv⟩ := readTag_closed nm as trail e S true o.ok hS1 o.err hnm hok htr hend
    ((h.tail.tail.congr o.buf).at o1)
  obtain ⟨spans, q1, q2, q3⟩ := sv rfl
  have a1 := readTag_adv S true o.ok hS1
  generalize hR : readTag S true = R at *
  have hdisp : Has R R.dataS (c :: nm) :=
    ((Has.left (a := c :: nm) h.tail).congr (a1.buf.trans o.buf)).at (by rw [r3, o1]; omega)
  have hbR : R.buf[R.rawE - 2]? = some b := by
    have h1 : Has t (t.rawE + 1) ((c :: nm) ++ (attrsOf as ++ trail ++ e.text)) := h.tail
    rw [hpre] at h1
    have hlen : nm.length + (attrsOf as ++ trail ++ e.text).length + 1 = pre.length + 2 := by
      have := congrArg List.length hpre
      simp only [List.length_append, List.length_cons, List.length_nil] at this ⊢
      omega
    rw [a1.buf, o.buf, r1, o1,
      show t.rawE + 2 + (nm.length + (attrsOf as ++ trail ++ e.text).length) - 2 = t.rawE + 1 + pre.length by omega]
    exact h1.right.head
  -- (`by exact`: the state of `startTagKind` is `{ R with rawTag := … }`, known once the goal is matched)
  rw [hml, dispatchTag_alpha o rfl hc, (readStartTag_eq S o.ok (by omega) (by rw [hR, r2]; exact Bool.false_ne_true)).1, hR,
    startTagRaw_closed hdisp (by rw [r4, r3, o1]; simp; omega), startTagKind_closed (by exact hbR) (by exact r2), hkind]
  refine ⟨⟨⟨rfl, a1.rawS.trans o.rawS, ?_, r2, ?_, a1.cdata.trans o.cdata, a1.buf.trans o.buf⟩, ?_, ?_⟩,
    spans, q1, All2.imp (fun s a h => h.congr o.buf.symm) q2, q3⟩
  · show R.rawE = _; rw [r1, o1]; simp; omega
  · show (if _ then _ else R.rawTag) = _; rw [a1.rawTag, o.rawTag, show (mainStart t).rawTag = [] from htag]
  · show R.dataS = _; rw [r3, o1]; omega
  · show R.dataE = _; rw [r4, o1]; simp; omega

theorem start_tag_closed_form2 (t : Tokenizer) (disp : Bytes) (as : List SAttr) (trail : Bytes) (e : TagEnd)
    (ok : Ok t) (he : t.err = false) (htag : t.rawTag = []) (hn : nameOK2 disp = true)
    (hok : ∀ a ∈ as, a.ok = true) (htr : ∀ b ∈ trail, isWs b = true) (hend : endOK as trail e = true)
    (h : Has t t.rawE ([60] ++ disp ++ attrsOf as ++ trail ++ e.text)) :
    Piece t (next t) e.kind ([60] ++ disp ++ attrsOf as ++ trail ++ e.text).length
      (if isRawName (disp.map lowerByte) then disp.map lowerByte else []) ∧
    (next t).dataS = t.rawE + 1 ∧ (next t).dataE = t.rawE + 1 + disp.length :=
  (start_tag_closed t disp as trail e ok he htag hn hok htr hend h).1

/-- after `next` on a start tag the saved attribute spans are, in order, exactly the keys and the values (without quotes,
`[]` for a bare key) of the attributes, and `number_attribute_returned = 0` -/
theorem attrs_closed_form (t : Tokenizer) (disp : Bytes) (as : List SAttr) (trail : Bytes) (e : TagEnd)
    (ok : Ok t) (he : t.err = false) (htag : t.rawTag = []) (hn : nameOK2 disp = true)
    (hok : ∀ a ∈ as, a.ok = true) (htr : ∀ b ∈ trail, isWs b = true) (hend : endOK as trail e = true)
    (h : Has t t.rawE ([60] ++ disp ++ attrsOf as ++ trail ++ e.text)) :
    ∃ spans : List AttrSpan, (next t).attrs = spans.toArray ∧ All2 (spanOK t) spans as ∧ (next t).nAttrRet = 0 :=
  (start_tag_closed t disp as trail e ok he htag hn hok htr hend h).2

theorem spans_texts (t : Tokenizer) : ∀ {spans : List AttrSpan} {as : List SAttr}, All2 (spanOK t) spans as →
    spans.map (fun s => ((t.buf.extract s.ks s.ke).toList, (t.buf.extract s.vs s.ve).toList)) =
      as.map (fun a => (a.key, a.val.value))
  | _, _, .nil => rfl
  | _, _, .cons hso rs => by
    simp only [List.map_cons, spans_texts t rs]
    obtain ⟨k1, k2, v1, v2⟩ := hso
    rw [k2, v2, extract_of_has k1, extract_of_has v1]

/-- the saved spans as texts: the keys and the values (what `tag_attr()` slices; it then lower-cases the key) -/
theorem attrs_texts (t : Tokenizer) (disp : Bytes) (as : List SAttr) (trail : Bytes) (e : TagEnd)
    (ok : Ok t) (he : t.err = false) (htag : t.rawTag = []) (hn : nameOK2 disp = true)
    (hok : ∀ a ∈ as, a.ok = true) (htr : ∀ b ∈ trail, isWs b = true) (hend : endOK as trail e = true)
    (h : Has t t.rawE ([60] ++ disp ++ attrsOf as ++ trail ++ e.text)) :
    (next t).attrs.toList.map (fun s => ((t.buf.extract s.ks s.ke).toList, (t.buf.extract s.vs s.ve).toList)) =
      as.map (fun a => (a.key, a.val.value)) ∧ (next t).nAttrRet = 0 := by
  obtain ⟨spans, r1, r2, r3⟩ := attrs_closed_form t disp as trail e ok he htag hn hok htr hend h
  rw [r1]
  exact ⟨spans_texts t r2, r3⟩

end Tokenizer
end Rio.Html
