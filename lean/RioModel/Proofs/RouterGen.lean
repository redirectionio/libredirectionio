/-
`match_request` of the host / scheme / method / ip layers of the router, TRANSLATED from
src/router/request_matcher/{host,scheme,method,ip}.rs on every run (`Rio.Consts.genHostMatchRequest`,
`genSchemeMatchRequest`, `genMethodMatchRequest`, `genIpMatchRequest`; section `w4_translate_router`,
tools/consts.d/w4_translate_router.py) are the router model's per-layer `matchReq` (Model/RouterLayers.lean).
`genScheme`, `genMethod`, `genIp`, `genHost` (and the `…OpsGen` layers over them) are defined HERE: the translated functions at
these instantiations.

In the translation the next layer's `match_request(request)` is the parameter `next`, `HashMap::get` /
`UniqueRegexTreeMap::find` are parameters, and a `HashMap` the code ITERATES (`exclude_methods`, the ip `matchers`) is
the list of its entries.  The model keeps ONE association list per layer (`LState.map`, keys tagged static / dyn resp.
only / exclude); the instantiations below read the code's maps off that list IN ITS ORDER (`dynMatchers`,
`exclEntries`), so the equalities are exact list equalities — the iteration order of the real hash maps is not
modelled by either side (C01 compares results as sets / after sorting by id).
-/
import RioModel.Proofs.GenLoop
import RioModel.Model.RouterLayers
set_option linter.unusedSectionVars false

namespace Rio.RouterGen
open Rio.Consts Rio.Router

section
variable (I : MOps)

def genScheme (s : LState I String) (q : Req) : List Route :=
  genSchemeMatchRequest (fun m => I.matchReq m q) (fun sc => alookup sc s.map) s.any q.scheme

theorem genScheme_eq (s : LState I String) (q : Req) : genScheme I s q = Scheme.matchReq I s q := by
  unfold genScheme genSchemeMatchRequest Scheme.matchReq
  cases q.scheme with
  | none => rfl
  | some sc => simp only; cases alookup sc s.map <;> rfl

/-- the entries of `exclude_methods` -/
def exclEntries (s : LState I MKey) : List (List String × I.M) :=
  s.map.filterMap fun e =>
    match e.1 with
    | .exclude ms => some (ms, e.2)
    | .only _ => none

def genMethod (s : LState I MKey) (q : Req) : List Route :=
  genMethodMatchRequest (fun m => I.matchReq m q) (fun (ms : List String) (m : String) => ms.contains m)
    (fun m => alookup (MKey.only m) s.map) (exclEntries I s) s.any q.methodStr

theorem methodLoop_eq {ρ μ η ε : Type} (next : μ → List ρ) (listed : ε → η → Bool) (m : η) (es : List (ε × μ))
    (acc : List ρ) :
    genMethodMatchRequestLoop1 next listed m es acc =
      acc ++ es.flatMap (fun e => if !listed e.1 m then next e.2 else []) :=
  (GenLoop.eq_foldl (fun acc e => acc ++ if !listed e.1 m then next e.2 else []) (fun _ => rfl)
    (fun e rest acc => by rw [genMethodMatchRequestLoop1]; cases listed e.1 m <;> simp) es acc).trans
    (Util.foldl_append_eq _ _ (fun _ _ => rfl) es acc)

theorem exclEntries_flatMap (l : List (MKey × I.M)) (q : Req) :
    (l.filterMap fun e =>
        match e.1 with
        | .exclude ms => some (ms, e.2)
        | .only _ => none).flatMap
      (fun e => if !e.1.contains q.methodStr then I.matchReq e.2 q else []) =
    l.flatMap (fun e =>
      match e.1 with
      | .exclude ms => if !ms.contains q.methodStr then I.matchReq e.2 q else []
      | .only _ => []) := by
  induction l with
  | nil => rfl
  | cons e rest ih =>
    obtain ⟨k, v⟩ := e
    cases k with
    | only m => simp only [List.filterMap_cons, List.flatMap_cons, List.nil_append, ih]
    | exclude ms => simp only [List.filterMap_cons, List.flatMap_cons, ih]

theorem genMethod_eq (s : LState I MKey) (q : Req) : genMethod I s q = Method.matchReq I s q := by
  unfold genMethod genMethodMatchRequest Method.matchReq exclEntries
  simp only [methodLoop_eq, exclEntries_flatMap]
  cases alookup (MKey.only q.methodStr) s.map <;> rfl

def genIp (s : LState I RouteIp) (q : Req) : List Route :=
  genIpMatchRequest (fun m => I.matchReq m q) RouteIp.matchIp (fun r : Route => r.id) s.map s.any q.ip

theorem ipLoop2_eq {μ κ α : Type} (next : μ → List Route) (mi : κ → α → Bool) (new acc : List Route) :
    genIpMatchRequestLoop2 next mi (fun r : Route => r.id) new acc = pushNew acc new :=
  GenLoop.eq_foldl _ (fun _ => rfl)
    (fun r rest acc => by rw [genIpMatchRequestLoop2]; cases acc.any (fun x => x.id == r.id) <;> rfl) new acc

theorem ipLoop1_eq {μ κ α : Type} (next : μ → List Route) (mi : κ → α → Bool) (a : α) (es : List (κ × μ))
    (acc : List Route) :
    genIpMatchRequestLoop1 next mi (fun r : Route => r.id) a es acc =
      es.foldl (fun acc e => if mi e.1 a then pushNew acc (next e.2) else acc) acc :=
  GenLoop.eq_foldl _ (fun _ => rfl)
    (fun e rest acc => by
      rw [genIpMatchRequestLoop1]
      -- by cases on the range test: the source may write it positively or as a negated test with `continue`
      cases mi e.1 a <;> simp [ipLoop2_eq]) es acc

theorem genIp_eq (s : LState I RouteIp) (q : Req) : genIp I s q = Ip.matchReq I s q := by
  unfold genIp genIpMatchRequest Ip.matchReq
  cases q.ip with
  | none => rfl
  | some a => simp only [ipLoop1_eq]

section
variable {P : Type} [DecidableEq P] (H : HostCfg P)

/-- `regex_tree_rule.find(host)`, specification level: the buckets of the patterns that match -/
def dynMatchers (s : LState I (HKeyG P)) (h : String) : List I.M :=
  s.map.filterMap fun e =>
    match e.1 with
    | .dyn p => if H.find p h then some e.2 else none
    | .static _ => none

def genHost (s : LState I (HKeyG P)) (q : Req) : List Route :=
  genHostMatchRequest (fun m => I.matchReq m q) (dynMatchers I H s) (fun h => alookup (HKeyG.static h) s.map)
    s.any H.always q.host

theorem hostLoop_eq {ρ μ : Type} (next : μ → List ρ) (ms : List μ) (acc : List ρ) :
    genHostMatchRequestLoop1 next ms acc = acc ++ ms.flatMap next :=
  (GenLoop.eq_foldl _ (fun _ => rfl) (fun _ _ _ => rfl) ms acc).trans (Util.foldl_append_eq _ next (fun _ _ => rfl) ms acc)

theorem dynMatchers_flatMap (l : List (HKeyG P × I.M)) (h : String) (q : Req) :
    (l.filterMap fun e =>
        match e.1 with
        | .dyn p => if H.find p h then some e.2 else none
        | .static _ => none).flatMap (fun m => I.matchReq m q) =
      l.flatMap (Host.dynPart H I h q) := by
  induction l with
  | nil => rfl
  | cons e rest ih =>
    obtain ⟨k, v⟩ := e
    cases k with
    | static x => simp [Host.dynPart, ih]
    | dyn p => cases hf : H.find p h <;> simp [Host.dynPart, ih, hf]

/-- closed form of the translated `HostMatcher::match_request`, for any parameters (`bound` with its equation `hb`, so that a
caller can hand in its own name for it: `Host.matchBound` in `genHost_eq`) -/
theorem genHostMatchRequest_closed {ρ μ η : Type} (next : μ → List ρ) (treeFind : η → List μ)
    (staticGet : η → Option μ) (anyHost : μ) (always : Bool) (host : Option η) (bound : List ρ)
    (hb : bound =
      match host with
      | none => []
      | some h => (treeFind h).flatMap next ++ ((staticGet h).map next).getD []) :
    genHostMatchRequest next treeFind staticGet anyHost always host =
      if always || bound.isEmpty then bound ++ next anyHost else bound := by
  subst hb
  unfold genHostMatchRequest
  cases host with
  | none => cases always <;> rfl
  | some h =>
    simp only [hostLoop_eq, List.nil_append]
    cases staticGet h <;>
      simp only [Option.map_none, Option.getD_none, List.append_nil, Option.map_some, Option.getD_some]
    -- on today's text (the any-host clause as an `if` around the `extend`) no goal is left here; with the clause written as a
    -- negated test and an early `return routes` both sides are still the same function of the flag and the emptiness test `e`
    all_goals
      generalize List.isEmpty _ = e
      cases always <;> cases e <;> rfl

theorem genHost_eq (s : LState I (HKeyG P)) (q : Req) : genHost I H s q = Host.matchReq H I s q := by
  unfold genHost
  rw [genHostMatchRequest_closed _ _ _ _ _ _ (Host.matchBound H I s q)]
  · rfl
  · unfold Host.matchBound Host.boundFor
    cases q.host with
    | none => rfl
    | some h => simp only [dynMatchers, dynMatchers_flatMap]

end
end

def methodOpsGen (I : MOps) : MOps := outerOps I Method.keysOf (genMethod I) (Method.trace I)
def ipOpsGen (I : MOps) : MOps := outerOps I Ip.keysOf (genIp I) (Ip.trace I)
def hostOpsGen {P : Type} [DecidableEq P] (H : HostCfg P) (I : MOps) : MOps :=
  outerOps I (Host.keysOf H) (genHost I H) (Host.trace H I)
def schemeOpsGen (I : MOps) : MOps := outerOps I Scheme.keysOf (genScheme I) (Scheme.trace I)

theorem outerOps_congr {K : Type} [DecidableEq K] (I : MOps) (keysOf : Route → Option (List K))
    {mr mr' : LState I K → Req → List Route} (tr : LState I K → Req → List Trace) (h : ∀ s q, mr s q = mr' s q) :
    outerOps I keysOf mr tr = outerOps I keysOf mr' tr := by
  rw [show mr = mr' from funext fun s => funext (h s)]

theorem methodOpsGen_eq (I : MOps) : methodOpsGen I = methodOps I := outerOps_congr _ _ _ (genMethod_eq I)

theorem ipOpsGen_eq (I : MOps) : ipOpsGen I = ipOps I := outerOps_congr _ _ _ (genIp_eq I)

theorem hostOpsGen_eq {P : Type} [DecidableEq P] (H : HostCfg P) (I : MOps) : hostOpsGen H I = hostOps H I :=
  outerOps_congr _ _ _ (genHost_eq I H)

theorem schemeOpsGen_eq (I : MOps) : schemeOpsGen I = schemeOps I := outerOps_congr _ _ _ (genScheme_eq I)

/-- the tower of the code with the translated `match_request` at the scheme, host, ip and method layers (header,
date-time and path layers: the hand-written models) -/
def towerOpsGen (E : Env) : MOps :=
  schemeOpsGen (hostOpsGen (specHost E) (ipOpsGen (methodOpsGen (headerOps E (dateTimeOps (pathOps E))))))

theorem towerOpsGen_eq (E : Env) : towerOpsGen E = towerOps E := by
  unfold towerOpsGen towerOps
  rw [methodOpsGen_eq, ipOpsGen_eq, hostOpsGen_eq, schemeOpsGen_eq]

end Rio.RouterGen
