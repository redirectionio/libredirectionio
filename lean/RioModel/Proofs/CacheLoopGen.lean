/-
The translated cache LOOPS (`genRouterCacheLoop`, `genRouterCacheInit`,
`genRouterCacheRoutes`, `genTreeCacheLoop`, `genTreeCache`; generated from src/router/mod.rs and src/regex_radix_tree/tree.rs by
tools/consts.d/w9_tr_w34_cacheloops.py) against the hand-written `RouterG.cacheLoop / cachePrev`, `Tree.cacheLoop / treeCache`,
and `genRouterCacheRoutes` (the tail of `Router::cache`: the budgeted loop over `route.compile()`) against `MarkerCache.compileRoutes`.
-/
import RioModel.Proofs.GenLoop
import RioModel.Proofs.RouterTop
import RioModel.Model.Tree
import RioModel.Model.MarkerCache

namespace Rio.CacheLoopGen
open Rio.Consts Rio.Router Rio.Regex Rio.Tree

theorem genAsI64_eq (n : Nat) : genAsI64 n = RouterG.asI64 n := rfl

/-- forgetting the counters of the translated loop's result -/
def proj {μ : Type} (g : μ × Int × Nat × Nat × Bool) : μ × Int × Bool := (g.1, g.2.1, g.2.2.2.2)

theorem router_loop_eq (O : MOps) (fuel : Nat) : ∀ (prev : Int) (level retry : Nat) (m : O.M), prev < 2 ^ 63 →
    proj (genRouterCacheLoop O.cache fuel m prev level retry) = RouterG.cacheLoop O fuel prev level retry m := by
  induction fuel with
  | zero => intro prev level retry m _; rfl
  | succ fuel ih =>
    intro prev level retry m hlt
    unfold genRouterCacheLoop RouterG.cacheLoop
    by_cases hp : prev > 0
    · simp only [hp, if_true]
      -- `prev_cache_limit as u64` under the guard is `prev.toNat` because `prev` is an `i64` (`hlt`)
      rw [GenLoop.genI64AsU64_of_pos prev hp hlt, genAsI64_eq]
      have hn := asI64_lt (O.cache prev.toNat level m).2
      by_cases he : RouterG.asI64 (O.cache prev.toNat level m).2 = prev
      · simp only [he, if_true, beq_self_eq_true]
        by_cases hr : retry + 1 > 5
        · simp only [hr, if_true]; rfl
        · simp only [hr, if_false]; exact ih _ _ _ _ hlt
      · have hb : (RouterG.asI64 (O.cache prev.toNat level m).2 == prev) = false := by simpa using he
        simp only [he, if_false, hb, Bool.false_eq_true]
        exact ih _ _ _ _ hn
    · simp only [hp, if_false]; rfl

theorem router_init_eq (O : MOps) (limit : Option Nat) (S : RouterG O) :
    genRouterCacheInit limit S.routes.length = (RouterG.cachePrev O limit S, 0, 0) := by
  unfold genRouterCacheInit RouterG.cachePrev
  cases limit with
  | some l => rfl
  | none =>
    simp only
    rw [GenLoop.genAsI64_of_lt _ (by omega)]

/-- tree loop: conflating "fuel ran out" with `none` as the model does -/
def tproj {τ : Type} (r : τ × Nat × Nat × Bool) : Option (τ × Nat) := if r.2.2.2 then none else some (r.1, r.2.1)

variable {ι V : Type}

theorem tree_loop_eq (E : Engine) (fuel : Nat) : ∀ (root : Item ι V) (left lvl : Nat),
    (genTreeCacheLoop (fun l lv c r => Item.cache E r l lv c) fuel root left lvl).bind tproj
      = Tree.cacheLoop E fuel root left lvl := by
  induction fuel with
  | zero => intro root left lvl; rfl
  | succ fuel ih =>
    intro root left lvl
    unfold genTreeCacheLoop Tree.cacheLoop
    by_cases h0 : left = 0
    · subst h0; simp [tproj]
    · have hp : left > 0 := Nat.pos_of_ne_zero h0
      simp only [hp, if_true, h0, if_false]
      cases hc : Item.cache E root left lvl 0 with
      | none => simp
      | some r =>
        simp only
        by_cases he : r.2 = left
        · simp [he, tproj]
        · simp only [he, if_false]; exact ih _ _ _

/-- a route compiles at most its path cell and its host cell (so `route.compile() as i64` is exact) -/
theorem route_compile_le {R : Type} (lib : Rio.MarkerCache.RegexLib R) (st : Rio.MarkerCache.Store R)
    (rt : Rio.MarkerCache.Route) : (Rio.MarkerCache.Route.compile lib st rt).2 ≤ 2 := by
  unfold Rio.MarkerCache.Route.compile
  simp only
  -- a host or none, each cell counted or not (the model's text: no `try` is for another source shape)
  split <;> (try split) <;> (try split) <;> simp <;> omega

theorem routes_loop_eq {R : Type} (lib : Rio.MarkerCache.RegexLib R) : ∀ (rts : List Rio.MarkerCache.Route)
    (st : Rio.MarkerCache.Store R) (left : Int),
    (genRouterCacheRoutes (fun rt st => Rio.MarkerCache.Route.compile lib st rt) rts st left).1
      = Rio.MarkerCache.compileRoutes lib st rts left := by
  intro rts
  induction rts with
  | nil => intro st left; rfl
  | cons rt rest ih =>
    intro st left
    unfold genRouterCacheRoutes Rio.MarkerCache.compileRoutes
    have hle := route_compile_le lib st rt
    simp only
    rw [GenLoop.genAsI64_of_lt _ (by omega)]
    by_cases h : left - ((Rio.MarkerCache.Route.compile lib st rt).2 : Int) ≤ 0
    · simp only [h, if_true]
    · simp only [h, if_false]; exact ih _ _

end Rio.CacheLoopGen
