/-
`SLaws` for `HostMatcher` over the real regex tree and for the whole tower over the real trees (`towerTSLaws`), from which
Props/C12trace.lean proves the twin theorem: a valid history and the same history without its cache calls end in routers
that are equal up to cached regex values (`stripG`), hence have the same explain-trace forest.

`HostMatcher` state stripped: static buckets stripped, the tree's own regexes stripped (`Item.strip`) AND every bucket stored
in the tree stripped (`Item.mapVals`), any-host bucket stripped.
-/
import RioModel.Proofs.RouterStripSim
import RioModel.Proofs.RouterTreeTop

namespace Rio.Router
open Rio.Tree

section
variable {I : MOps} {Repr : I.M → List Route → Prop} (SI : SLaws I Repr)

def stripTree (t : Item (List Char) I.M) : Item (List Char) I.M := t.strip.mapVals (fun _ => SI.strip)

def hostStrip (s : HostTState I) : HostTState I :=
  ⟨mapVals SI.strip s.statics, stripTree SI s.tree, SI.strip s.any, s.count⟩

theorem pruneVal_strip (g : I.M → I.M) (hg : ∀ m, SI.strip (g m) = g (SI.strip m)) (m : I.M) :
    (pruneVal I g m).map SI.strip = pruneVal I g (SI.strip m) := by
  unfold pruneVal
  rw [← hg, SI.isEmpty_strip]
  split <;> rfl

theorem stripTree_retain_prune (g : I.M → I.M) (hg : ∀ m, SI.strip (g m) = g (SI.strip m))
    (t : Item (List Char) I.M) :
    stripTree SI (t.retain (fun _ m => pruneVal I g m)) = (stripTree SI t).retain (fun _ m => pruneVal I g m) := by
  unfold stripTree
  rw [retain_strip]
  exact retain_mapVals (fun _ => SI.strip) _ _ (fun _ v => pruneVal_strip SI g hg v) _

theorem uGet_stripTree (t : Item (List Char) I.M) (k : List Char) :
    uGet (stripTree SI t) k = (uGet t k).map SI.strip := by
  unfold uGet stripTree
  rw [get_mapVals, get_strip, List.getLast?_map]

end

section
variable {I : MOps} (T : TEnv) (Good : List Char → Prop) (IL : MLaws I) (hPS : PrefixSound T.engine Good)
  (SI : SLaws I IL.Repr)

theorem hostStrip_insert (r : Route) (s : HostTState I) :
    hostStrip SI (HostT.insert T I r s) = HostT.insert T I r (hostStrip SI s) := by
  unfold HostT.insert
  cases hh : r.host with
  | none => simp only [hostStrip, SI.strip_insert]
  | some sd =>
    cases sd with
    | static x =>
      by_cases hx : x = ""
      · simp only [hx, if_true, hostStrip, SI.strip_insert]
      · simp only [hx, if_false, hostStrip]
        rw [aupsert_mapVals SI.strip (I.insert r) I.empty (SI.strip_insert r) SI.strip_empty]
    | dyn p =>
      simp only
      rw [show (hostStrip SI s).tree = stripTree SI s.tree from rfl, uGet_stripTree]
      cases uGet s.tree (T.render p) with
      | some b =>
        simp only [hostStrip, Option.map_some]
        congr 1
        unfold stripTree
        rw [modifyAt_strip]
        exact modifyAt_mapVals (fun _ => SI.strip) _ _ (fun _ v => SI.strip_insert r v) _ _
      | none =>
        simp only [hostStrip, Option.map_none]
        congr 1
        unfold stripTree uInsert
        rw [insert_strip, insert_mapVals, SI.strip_insert, SI.strip_empty]

theorem removedIn_strip (id : String) (s : HostTState I) :
    HostT.removedIn I id (hostStrip SI s) = HostT.removedIn I id s := by
  unfold HostT.removedIn
  simp only [hostStrip, stripTree, ← (removeAll_strip SI id s.statics).2, contents_mapVals, contents_strip,
    List.map_map]
  rw [← lastHit_strip SI id (s.tree.contents.map (·.val)), List.map_map]
  rfl

theorem hostStrip_remove (id : String) (s : HostTState I) :
    hostStrip SI (HostT.remove I id s).1 = (HostT.remove I id (hostStrip SI s)).1 ∧
      (HostT.remove I id s).2 = (HostT.remove I id (hostStrip SI s)).2 := by
  obtain ⟨h1, h2⟩ := SI.strip_remove id s.any
  cases hra : (I.remove id s.any).2 with
  | some r0 =>
    rw [HostT.remove_of_some id s r0 hra, HostT.remove_of_some id (hostStrip SI s) r0 (h2 ▸ hra)]
    exact ⟨by simp only [hostStrip, h1], rfl⟩
  | none =>
    rw [HostT.remove_of_none id s hra, HostT.remove_of_none id (hostStrip SI s) (h2 ▸ hra), removedIn_strip]
    refine ⟨?_, rfl⟩
    simp only [hostStrip, h1, (removeAll_strip SI id s.statics).1,
      stripTree_retain_prune SI _ (fun m => (SI.strip_remove id m).1)]

theorem hostStrip_batch (ids : List String) (s : HostTState I) :
    hostStrip SI (HostT.batchRemove I ids s) = HostT.batchRemove I ids (hostStrip SI s) := by
  have h6 := stripTree_retain_prune SI (I.batchRemove ids) (fun m => SI.strip_batch ids m) s.tree
  unfold HostT.batchRemove
  simp only [hostStrip, SI.strip_batch, batchAll_strip SI, h6]

set_option linter.unusedSectionVars false in -- `hostTSLaws` passes `hPS`
include hPS in
theorem hostStrip_cache (s : HostTState I) (L : List Route) (limit level : Nat) (h : HTRepr T Good IL s L) :
    hostStrip SI (HostT.cache T I limit level s).1 = hostStrip SI s := by
  obtain ⟨t1, n1, n3, c, hs, _, _, heq, hc⟩ := HostT.cache_eq T Good IL s L limit level h
  rw [heq]
  simp only [hostStrip, stripTree, strip_mapVals, hs,
    cacheAll_strip IL SI level s.statics n1 (htrepr_static_repr T Good IL s L h),
    SI.strip_cache s.any _ n3 level h.repr.any]
  congr 1
  -- the stored-back buckets strip to the old ones
  refine mapVals_mapVals _ _ _ _ fun e he => ?_
  rw [contents_strip] at he
  obtain ⟨n', hn'⟩ := hc e he
  obtain ⟨L', hL'⟩ := htrepr_tree_repr T Good IL s L h e he
  rw [hn']
  exact SI.strip_cache e.val L' n' level hL'

set_option linter.unusedSectionVars false in
set_option linter.unusedVariables false in -- `hostTSLaws` passes `hPS` and a `TCache`
include hPS in
theorem hostStrip_trace (TC : TCache I IL.Repr) (s : HostTState I) (L : List Route) (q : Req)
    (h : HTRepr T Good IL s L) : HostT.trace T I (hostStrip SI s) q = HostT.trace T I s q := by
  have hst := bobs_mapVals_strip IL SI q s.statics (htrepr_static_repr T Good IL s L h)
  have hany := SI.strip_trace s.any _ q h.repr.any
  have htree : ∀ hs : List Char,
      hostTreeTrace I q ((stripTree SI s.tree).trace T.engine hs) = hostTreeTrace I q (s.tree.trace T.engine hs) := by
    intro hs'
    unfold stripTree
    rw [hostTreeTrace_mapVals T.engine q _ s.tree.strip ?_ hs',
      trace_strip T.engine s.tree h.inv (fun e he => (h.dom e he).2)]
    intro e he
    rw [contents_strip] at he
    obtain ⟨L', hL'⟩ := htrepr_tree_repr T Good IL s L h e he
    exact SI.strip_trace e.val L' q hL'
  exact hostT_trace_congr T s (hostStrip SI s) q hany hst htree

include hPS in
def hostTSLaws : SLaws (hostTOps T I) (hostTLaws T Good IL hPS).Repr where
  strip := hostStrip SI
  strip_empty := by
    show hostStrip SI (HostT.empty T I) = HostT.empty T I
    simp [hostStrip, HostT.empty, mapVals, stripTree, mapVals_empty, SI.strip_empty]
  strip_insert := fun r s => hostStrip_insert T IL SI r s
  strip_remove := fun id s => hostStrip_remove IL SI id s
  strip_batch := fun ids s => hostStrip_batch IL SI ids s
  strip_len := fun _ => rfl
  strip_cache := fun s L limit level h => hostStrip_cache T Good IL hPS SI s L limit level h
  strip_trace := fun s L q h => hostStrip_trace T Good IL hPS SI (by
    exact ⟨fun m L limit level q hm => by
      rw [← SI.strip_trace _ L q (IL.repr_cache m L limit level hm), SI.strip_cache m L limit level hm,
        SI.strip_trace m L q hm], fun m L limit level hm => by
      rw [← SI.strip_len, SI.strip_cache m L limit level hm, SI.strip_len]⟩) s L q h

end

section
variable (E : Env) {P0 : MOps} (PL : MLaws P0) (SP : SLaws P0 PL.Repr)

def dateTimeS : SLaws (dateTimeOps P0) (dateTimeL PL).Repr :=
  outerSLaws PL SP DateTime.keysOf _ _ (groupTrace_obs DCond.eval "date_time_group")
def headerS : SLaws (headerOps E (dateTimeOps P0)) (headerL E PL).Repr :=
  outerSLaws (dateTimeL PL) (dateTimeS PL SP) (Header.keysOf E) _ _ (groupTrace_obs (HCond.eval E) "header_group")
def methodS : SLaws (methodOps (headerOps E (dateTimeOps P0))) (methodL E PL).Repr :=
  outerSLaws (headerL E PL) (headerS E PL SP) Method.keysOf _ _ methodTrace_obs
def ipS : SLaws (ipOps (methodOps (headerOps E (dateTimeOps P0)))) (ipL E PL).Repr :=
  outerSLaws (methodL E PL) (methodS E PL SP) Ip.keysOf _ _ ipTrace_obs

end

section
variable (T : TEnv) (Good : List Char → Prop) (hPS : PrefixSound T.engine Good)

def towerTSLaws : SLaws (towerTOps T) (towerTLaws T Good hPS).Repr :=
  outerSLaws (hostTLaws T Good (innerTLaws T Good hPS) hPS)
    (hostTSLaws T Good (innerTLaws T Good hPS) hPS
      (ipS T.env (pathTLaws T Good hPS) (pathTSLaws T Good hPS)))
    Scheme.keysOf _ _ schemeTrace_obs

end

theorem towerTTCache (T : TEnv) (Good : List Char → Prop) (hPS : PrefixSound T.engine Good) :
    TCache (towerTOps T) (towerTLaws T Good hPS).Repr :=
  (towerTSLaws T Good hPS).tcache (towerTLaws T Good hPS)

end Rio.Router
