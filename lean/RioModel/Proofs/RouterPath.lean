/-
Router proofs: the innermost layer (`PathAndQueryMatcher`) satisfies `MLaws` (`pathLaws`).
-/
import RioModel.Proofs.RouterGeneric
import RioModel.Model.RouterSpec

namespace Rio.Router

section
variable {P : Type}

theorem entryRemove_snd (id : String) (t : List ((P × String) × Route)) :
    (entryRemove id t).2 = (t.find? (fun e => e.1.2 == id)).map Prod.snd := by
  induction t with
  | nil => simp [entryRemove]
  | cons e t ih =>
    simp only [entryRemove, List.find?_cons]
    by_cases h : e.1.2 = id
    · simp [h]
    · have hb : (e.1.2 == id) = false := by simpa using h
      simp [h, hb, ih]

theorem entryRemove_fst (id : String) (t : List ((P × String) × Route)) (hn : (akeys t).Nodup)
    (hu : ∀ e1 ∈ t, ∀ e2 ∈ t, e1.1.2 = id → e2.1.2 = id → e1 = e2) :
    (entryRemove id t).1 = t.filter (fun e => e.1.2 != id) := by
  induction t with
  | nil => simp [entryRemove]
  | cons e t ih =>
    have hn' : e.1 ∉ akeys t ∧ (akeys t).Nodup := by
      have : akeys (e :: t) = e.1 :: akeys t := rfl
      rw [this, List.nodup_cons] at hn; exact hn
    simp only [entryRemove, List.filter_cons]
    by_cases h : e.1.2 = id
    · simp only [h, if_true, bne_self_eq_false, Bool.false_eq_true, if_false]
      symm
      rw [List.filter_eq_self]
      intro x hx
      have : x.1.2 ≠ id := by
        intro hx2
        have := hu e (List.mem_cons_self ..) x (List.mem_cons_of_mem _ hx) h hx2
        apply hn'.1; rw [this]; exact List.mem_map.mpr ⟨x, hx, rfl⟩
      simpa using this
    · have hne : (e.1.2 != id) = true := by simpa using h
      simp only [h, if_false, hne, if_true]
      rw [ih hn'.2 (fun e1 h1 e2 h2 => hu e1 (List.mem_cons_of_mem _ h1) e2 (List.mem_cons_of_mem _ h2))]

theorem entryRemove_fst_of_none (id : String) (t : List ((P × String) × Route))
    (h : (entryRemove id t).2 = none) : (entryRemove id t).1 = t := by
  induction t with
  | nil => simp [entryRemove]
  | cons e t ih =>
    simp only [entryRemove] at h ⊢
    by_cases he : e.1.2 = id
    · simp [he] at h
    · simp only [he, if_false] at h ⊢
      rw [ih h]

end

section
variable {P : Type} [DecidableEq P] (pathOf : Route → Option P)

/-- The entry list holds exactly the routes of `L` that have a key under `pathOf`: the tree entries (`dynOf`), the
static entries (`staticOf`) and, through `entriesOf`, the contents of the real tree (`dynKey`). -/
structure ERepr (t : List ((P × String) × Route)) (L : List Route) : Prop where
  nodup : (akeys t).Nodup
  iff : ∀ p id r, alookup (p, id) t = some r ↔ (r ∈ L ∧ pathOf r = some p ∧ r.id = id)

theorem erepr_empty : ERepr pathOf ([] : List ((P × String) × Route)) [] :=
  ⟨by simp, by intro p id r; simp⟩

theorem erepr_congr (t : List ((P × String) × Route)) (L L' : List Route) (h : ERepr pathOf t L)
    (hm : ∀ x, x ∈ L ↔ x ∈ L') : ERepr pathOf t L' :=
  ⟨h.nodup, by intro p id r; rw [h.iff, hm]⟩

theorem ERepr.mem {t : List ((P × String) × Route)} {L : List Route} (h : ERepr pathOf t L)
    (e : (P × String) × Route) : e ∈ t ↔ e.2 ∈ L ∧ pathOf e.2 = some e.1.1 ∧ e.2.id = e.1.2 :=
  (mem_iff_alookup h.nodup e.1 e.2).trans (h.iff e.1.1 e.1.2 e.2)

theorem ERepr.of_mem {t : List ((P × String) × Route)} {L : List Route} (hn : (akeys t).Nodup)
    (hm : ∀ e, e ∈ t ↔ e.2 ∈ L ∧ pathOf e.2 = some e.1.1 ∧ e.2.id = e.1.2) : ERepr pathOf t L :=
  ⟨hn, fun p id r => (mem_iff_alookup hn (p, id) r).symm.trans (hm ((p, id), r))⟩

theorem ERepr.key_eq {t : List ((P × String) × Route)} {L : List Route} (h : ERepr pathOf t L)
    {e1 e2 : (P × String) × Route} (h1 : e1 ∈ t) (h2 : e2 ∈ t) (hr : e1.2 = e2.2) : e1 = e2 := by
  have l1 := (h.mem pathOf e1).1 h1
  have l2 := (h.mem pathOf e2).1 h2
  rw [hr] at l1
  exact Prod.ext (Prod.ext (Option.some.inj (l1.2.1.symm.trans l2.2.1)) (l1.2.2.symm.trans l2.2.2)) hr

theorem erepr_insert_none (t : List ((P × String) × Route)) (L : List Route) (r : Route)
    (h : ERepr pathOf t L) (hp : pathOf r = none) : ERepr pathOf t (r :: L) := by
  refine .of_mem pathOf h.nodup fun e => ?_
  rw [h.mem pathOf, List.mem_cons]
  refine and_congr_left fun hk => (or_iff_right fun he => ?_).symm
  rw [he, hp] at hk; cases hk.1

theorem erepr_insert_some (t : List ((P × String) × Route)) (L : List Route) (r : Route) (p : P)
    (h : ERepr pathOf t L) (hU : UIds (r :: L)) (hp : pathOf r = some p) :
    ERepr pathOf (aupsert (fun _ => r) r (p, r.id) t) (r :: L) := by
  refine ⟨akeys_aupsert_nodup _ _ _ _ h.nodup, ?_⟩
  intro p' id x
  rw [alookup_aupsert, List.mem_cons]
  by_cases e : (p', id) = (p, r.id)
  · simp only [e, if_true, Option.some.injEq]
    simp only [Prod.mk.injEq] at e
    constructor
    · intro hx; subst hx; exact ⟨Or.inl rfl, e.1 ▸ hp, e.2.symm⟩
    · rintro ⟨a | a, b, c⟩
      · exact a.symm
      · exact (hU x (List.mem_cons_of_mem _ a) r (List.mem_cons_self ..) (c.trans e.2)).symm
  · simp only [e, if_false, h.iff]
    constructor
    · rintro ⟨a, b, c⟩; exact ⟨Or.inr a, b, c⟩
    · rintro ⟨a | a, b, c⟩
      · exfalso; apply e
        rw [a, hp] at b
        simp only [Option.some.injEq] at b
        rw [← b, ← c, a]
      · exact ⟨a, b, c⟩

theorem erepr_unique_id (t : List ((P × String) × Route)) (L : List Route) (h : ERepr pathOf t L)
    (hU : UIds L) (id : String) :
    ∀ e1 ∈ t, ∀ e2 ∈ t, e1.1.2 = id → e2.1.2 = id → e1 = e2 := by
  intro e1 h1 e2 h2 i1 i2
  have l1 := (h.mem pathOf e1).1 h1
  have l2 := (h.mem pathOf e2).1 h2
  exact h.key_eq pathOf h1 h2 (hU _ l1.1 _ l2.1 (by rw [l1.2.2, l2.2.2, i1, i2]))

theorem erepr_filter (keep : String → Bool) (t : List ((P × String) × Route)) (L : List Route)
    (h : ERepr pathOf t L) :
    ERepr pathOf (t.filter (fun e => keep e.1.2)) (L.filter (fun r => keep r.id)) := by
  refine .of_mem pathOf (akeys_filter_nodup _ _ h.nodup) fun e => ?_
  rw [List.mem_filter, List.mem_filter, h.mem pathOf]
  constructor
  · rintro ⟨⟨a, b, c⟩, k⟩; exact ⟨⟨a, c ▸ k⟩, b, c⟩
  · rintro ⟨⟨a, k⟩, b, c⟩; exact ⟨⟨a, b, c⟩, c ▸ k⟩

theorem erepr_remove (t : List ((P × String) × Route)) (L : List Route) (id : String)
    (h : ERepr pathOf t L) (hU : UIds L) :
    ERepr pathOf (entryRemove id t).1 (L.filter (fun r => r.id != id)) := by
  rw [entryRemove_fst id t h.nodup (erepr_unique_id pathOf t L h hU id)]
  exact erepr_filter pathOf (fun i => i != id) t L h

theorem eremove_hit (t : List ((P × String) × Route)) (L : List Route) (id : String) (r : Route)
    (h : ERepr pathOf t L) (hr : (entryRemove id t).2 = some r) :
    r ∈ L ∧ pathOf r ≠ none ∧ r.id = id := by
  rw [entryRemove_snd, Option.map_eq_some_iff] at hr
  obtain ⟨e, hf, rfl⟩ := hr
  have l := (h.mem pathOf e).1 (List.mem_of_find?_eq_some hf)
  exact ⟨l.1, by rw [l.2.1]; exact Option.some_ne_none _, l.2.2.trans (by simpa using List.find?_some hf)⟩

theorem eremove_none (t : List ((P × String) × Route)) (L : List Route) (id : String)
    (h : ERepr pathOf t L) (hno : ∀ r ∈ L, pathOf r ≠ none → r.id ≠ id) :
    (entryRemove id t).2 = none := by
  cases hr : (entryRemove id t).2 with
  | none => rfl
  | some r =>
    obtain ⟨hL, hk, hid⟩ := eremove_hit pathOf t L id r h hr
    exact absurd hid (hno r hL hk)

theorem eremove_some (t : List ((P × String) × Route)) (L : List Route) (id : String) (r : Route)
    (p : P) (h : ERepr pathOf t L) (hU : UIds L) (hr : r ∈ L) (hp : pathOf r = some p)
    (hid : r.id = id) : (entryRemove id t).2 = some r := by
  cases hx : (entryRemove id t).2 with
  | none =>
    -- the entry of `r` has this id
    rw [entryRemove_snd, Option.map_eq_none_iff] at hx
    simpa using List.find?_eq_none.1 hx ((p, id), r) ((h.mem pathOf _).2 ⟨hr, hp, hid⟩)
  | some x =>
    obtain ⟨hL, _, hxid⟩ := eremove_hit pathOf t L id x h hx
    rw [hU x hL r hr (hxid.trans hid.symm)]

theorem eremove_count (t : List ((P × String) × Route)) (L : List Route) (id : String) (c : Nat)
    (h : ERepr pathOf t L) (hlen : L.length ≤ c) :
    (L.filter (fun r => r.id != id)).length ≤ (if (entryRemove id t).2.isSome then c - 1 else c) :=
  count_remove_le (fun hno => eremove_none pathOf t L id h (fun x hx _ => hno x hx)) hlen

theorem eremove_none_of_unkeyed (t : List ((P × String) × Route)) (L : List Route) (id : String) (r : Route)
    (h : ERepr pathOf t L) (hU : UIds L) (hr : r ∈ L) (hid : r.id = id) (hk : pathOf r = none) :
    (entryRemove id t).2 = none :=
  eremove_none pathOf t L id h (fun y hy hky e => by
    rw [hU y hy r hr (e.trans hid.symm)] at hky; exact hky hk)

/-- A second entry list over the same routes, keyed by routes the first list does not key, is left
alone when the first list held the route: it holds no route of that id. -/
theorem erepr_remove_other {Q : Type} [DecidableEq Q] (otherOf : Route → Option Q)
    (hex : ∀ r, pathOf r ≠ none → otherOf r = none)
    (t : List ((P × String) × Route)) (st : List ((Q × String) × Route)) (L : List Route) (id : String)
    (r : Route) (h : ERepr pathOf t L) (hs : ERepr otherOf st L) (hU : UIds L)
    (hr : (entryRemove id t).2 = some r) : ERepr otherOf st (L.filter (fun r => r.id != id)) := by
  obtain ⟨hrL, hkey, hid⟩ := eremove_hit pathOf t L id r h hr
  rw [← entryRemove_fst_of_none id st
    (eremove_none_of_unkeyed otherOf st L id r hs hU hrL hid (hex r hkey))]
  exact erepr_remove otherOf st L id hs hU

theorem erepr_batch (t : List ((P × String) × Route)) (L : List Route) (ids : List String)
    (h : ERepr pathOf t L) :
    ERepr pathOf (t.filter (fun e => !ids.contains e.1.2)) (L.filter (fun r => !ids.contains r.id)) :=
  erepr_filter pathOf (fun i => !ids.contains i) t L h

theorem mem_entries_match (t : List ((P × String) × Route)) (L : List Route) (h : ERepr pathOf t L)
    (test : P → Bool) (r : Route) :
    r ∈ (t.filter (fun e => test e.1.1)).map Prod.snd ↔
      r ∈ L ∧ ∃ p, pathOf r = some p ∧ test p = true := by
  simp only [List.mem_map, List.mem_filter, h.mem pathOf]
  constructor
  · rintro ⟨e, ⟨l, ht⟩, rfl⟩; exact ⟨l.1, _, l.2.1, ht⟩
  · rintro ⟨hr, p, hp, ht⟩; exact ⟨((p, r.id), r), ⟨⟨hr, hp, rfl⟩, ht⟩, rfl⟩

theorem nodup_entries_match (t : List ((P × String) × Route)) (L : List Route) (h : ERepr pathOf t L)
    (f : (P × String) × Route → Bool) : ((t.filter f).map Prod.snd).Nodup := by
  have hn : (t.filter f).Nodup := (Rio.Util.nodup_of_map_nodup _ h.nodup).sublist List.filter_sublist
  -- distinct entries carry distinct routes
  refine List.pairwise_map.2 (List.Pairwise.imp_of_mem (fun h1 h2 hne hr => hne ?_) hn)
  exact h.key_eq pathOf (List.mem_filter.mp h1).1 (List.mem_filter.mp h2).1 hr

theorem nodup_entries_two {Q : Type} [DecidableEq Q] (otherOf : Route → Option Q)
    (hex : ∀ r, pathOf r ≠ none → otherOf r = none)
    (t : List ((P × String) × Route)) (st : List ((Q × String) × Route)) (L : List Route)
    (h : ERepr pathOf t L) (hs : ERepr otherOf st L)
    (f : (P × String) × Route → Bool) (g : (Q × String) × Route → Bool) :
    ((t.filter f).map Prod.snd ++ (st.filter g).map Prod.snd).Nodup := by
  rw [List.nodup_append]
  refine ⟨nodup_entries_match pathOf t L h f, nodup_entries_match otherOf st L hs g, ?_⟩
  intro x hx y hy hxy
  obtain ⟨e, he, rfl⟩ := List.mem_map.mp hx
  obtain ⟨e', he', rfl⟩ := List.mem_map.mp hy
  have l1 := (h.mem pathOf e).1 (List.mem_filter.mp he).1
  have l2 := (hs.mem otherOf e').1 (List.mem_filter.mp he').1
  have := hex _ (by rw [l1.2.1]; exact Option.some_ne_none _)
  rw [hxy, l2.2.1] at this
  cases this

end

def dynOf (r : Route) : Option Pat :=
  match r.path with
  | .dyn p => some p
  | .static _ => none

def staticOf (r : Route) : Option String :=
  match r.path with
  | .static p => some p
  | .dyn _ => none

/-- `len` is `≤`, as in `LRepr`: `batch_remove` leaves `count` untouched. -/
structure PRepr (s : PathState) (L : List Route) : Prop where
  len : L.length ≤ s.count
  tree : ERepr dynOf s.tree L
  statics : ERepr staticOf s.statics L

section
variable (E : Env)

theorem path_mem_match (s : PathState) (L : List Route) (h : PRepr s L) (q : Req) (r : Route) :
    r ∈ Path.matchReq E s q ↔ r ∈ L ∧ pathOk E r q = true := by
  unfold Path.matchReq
  rw [List.mem_append,
    mem_entries_match dynOf s.tree L h.tree (fun p => E.pathFind p q.path),
    mem_entries_match staticOf s.statics L h.statics (fun p => p == q.path)]
  unfold pathOk dynOf staticOf
  cases r.path <;> simp

theorem dynOf_excl (r : Route) (h : dynOf r ≠ none) : staticOf r = none := by
  unfold dynOf at h; unfold staticOf
  cases hp : r.path <;> simp [hp] at h ⊢

theorem path_nodup_match (s : PathState) (L : List Route) (h : PRepr s L) (q : Req) :
    (Path.matchReq E s q).Nodup :=
  nodup_entries_two dynOf staticOf dynOf_excl s.tree s.statics L h.tree h.statics _ _

/-- the `Storage` node under `path_and_query_static` lists the routes found, when there are any -/
theorem raw_staticT (found : List Route) :
    rawRoutesOfList (if found.isEmpty then [] else [Trace.mk true true found.length (.storage found) []]) =
      found := by
  cases found <;> simp [rawRoutesOfList_cons, Trace.rawRoutes_mk, TInfo.routes]

theorem path_mem_trace (s : PathState) (q : Req) (r : Route) :
    r ∈ rawRoutesOfList (Path.trace E s q) ↔ r ∈ Path.matchReq E s q := by
  unfold Path.trace Path.matchReq
  simp only [rawRoutesOfList_cons, rawRoutesOfList_nil, Trace.rawRoutes_mk, TInfo.routes, List.append_nil,
    List.nil_append, List.mem_append, raw_staticT, rawRoutesOfList_map]
  refine or_congr ?_ Iff.rfl
  rw [mem_flatMap_ite s.tree (fun e => E.pathFind e.1.1 q.path) (fun e => [e.2])]
  simp only [List.mem_singleton, List.mem_map, List.mem_filter]
  exact ⟨fun ⟨e, he, hm, hr⟩ => ⟨e, ⟨he, hm⟩, hr.symm⟩, fun ⟨e, ⟨he, hm⟩, hr⟩ => ⟨e, he, hm, hr.symm⟩⟩

theorem prepr_insert (s : PathState) (L : List Route) (r : Route) (h : PRepr s L)
    (hU : UIds (r :: L)) : PRepr (Path.insert r s) (r :: L) := by
  unfold Path.insert
  cases hp : r.path with
  | static p =>
    refine ⟨Nat.succ_le_succ h.len, ?_, ?_⟩
    · exact erepr_insert_none dynOf _ _ r h.tree (by simp [dynOf, hp])
    · exact erepr_insert_some staticOf _ _ r p h.statics hU (by simp [staticOf, hp])
  | dyn p =>
    refine ⟨Nat.succ_le_succ h.len, ?_, ?_⟩
    · exact erepr_insert_some dynOf _ _ r p h.tree hU (by simp [dynOf, hp])
    · exact erepr_insert_none staticOf _ _ r h.statics (by simp [staticOf, hp])

theorem Path.remove_of_some (id : String) (s : PathState) (r : Route)
    (h : (entryRemove id s.tree).2 = some r) :
    Path.remove id s = ({ s with tree := (entryRemove id s.tree).1, count := s.count - 1 }, some r) := by
  simp [Path.remove, h]

theorem Path.remove_of_none (id : String) (s : PathState) (h : (entryRemove id s.tree).2 = none) :
    Path.remove id s =
      ({ s with statics := (entryRemove id s.statics).1,
                count := if (entryRemove id s.statics).2.isSome then s.count - 1 else s.count },
       (entryRemove id s.statics).2) := by
  simp [Path.remove, h]

theorem prepr_remove (s : PathState) (L : List Route) (id : String) (h : PRepr s L) (hU : UIds L) :
    PRepr (Path.remove id s).1 (L.filter (fun r => r.id != id)) := by
  have ht := erepr_remove dynOf s.tree L id h.tree hU
  cases hr : (entryRemove id s.tree).2 with
  | some r =>
    rw [Path.remove_of_some id s r hr]
    have hc := eremove_count dynOf s.tree L id s.count h.tree h.len
    rw [hr] at hc
    exact ⟨hc, ht, erepr_remove_other dynOf staticOf dynOf_excl _ _ L id r h.tree h.statics hU hr⟩
  | none =>
    rw [Path.remove_of_none id s hr]
    rw [entryRemove_fst_of_none id s.tree hr] at ht
    exact ⟨eremove_count staticOf s.statics L id s.count h.statics h.len, ht,
      erepr_remove staticOf s.statics L id h.statics hU⟩

theorem premove_some (s : PathState) (L : List Route) (id : String) (r : Route) (h : PRepr s L)
    (hU : UIds L) (hr : r ∈ L) (hid : r.id = id) : (Path.remove id s).2 = some r := by
  cases hp : r.path with
  | dyn p =>
    have := eremove_some dynOf s.tree L id r p h.tree hU hr (by simp [dynOf, hp]) hid
    rw [Path.remove_of_some id s r this]
  | static p =>
    rw [Path.remove_of_none id s
      (eremove_none_of_unkeyed dynOf s.tree L id r h.tree hU hr hid (by simp [dynOf, hp]))]
    exact eremove_some staticOf s.statics L id r p h.statics hU hr (by simp [staticOf, hp]) hid

theorem premove_none (s : PathState) (L : List Route) (id : String) (h : PRepr s L)
    (hno : ∀ r ∈ L, r.id ≠ id) : (Path.remove id s).2 = none := by
  have hnone := eremove_none dynOf s.tree L id h.tree (fun x hx _ => hno x hx)
  rw [Path.remove_of_none id s hnone]
  exact eremove_none staticOf s.statics L id h.statics (fun x hx _ => hno x hx)

theorem prepr_batch (s : PathState) (L : List Route) (ids : List String) (h : PRepr s L) :
    PRepr (Path.batchRemove ids s) (L.filter (fun r => !ids.contains r.id)) :=
  ⟨Nat.le_trans (List.length_filter_le ..) h.len, erepr_batch dynOf _ _ ids h.tree,
    erepr_batch staticOf _ _ ids h.statics⟩

def pathLaws : MLaws (pathOps E) where
  Repr := PRepr
  sat := fun _ r q => pathOk E r q
  wf := fun _ => True
  okIns := fun _ => True
  sat_congr := by intros; rfl
  repr_empty := ⟨by simp [pathOps, Path.empty], erepr_empty _, erepr_empty _⟩
  repr_congr := by
    intro m L L' h hsub hmem
    have hm : ∀ x, x ∈ L ↔ x ∈ L' := fun x => ⟨hmem x, fun hx => hsub.subset hx⟩
    exact ⟨Nat.le_trans hsub.length_le h.len, erepr_congr _ _ _ _ h.tree hm, erepr_congr _ _ _ _ h.statics hm⟩
  len_zero := by
    intro m L h h0
    have := h.len
    have h0' : m.count = 0 := h0
    rw [h0'] at this
    exact List.eq_nil_of_length_eq_zero (Nat.le_zero.mp this)
  repr_insert := fun m L r h hU _ => prepr_insert m L r h hU
  repr_remove := fun m L id h hU => prepr_remove m L id h hU
  remove_some := fun m L id r h hU hr _ hid => premove_some m L id r h hU hr hid
  remove_none := fun m L id h hno => premove_none m L id h hno
  remove_pos := by
    intro m L id h hs
    have hex : ∃ r ∈ L, r.id = id := by
      apply Classical.byContradiction; intro hne
      have := premove_none m L id h (fun r hr e => hne ⟨r, hr, e⟩)
      have hs' : (Path.remove id m).2.isSome = true := hs
      rw [this] at hs'; simp at hs'
    obtain ⟨r, hr, _⟩ := hex
    have := List.length_pos_of_mem hr
    have := h.len
    show 0 < m.count
    omega
  repr_batch := fun m L ids h => prepr_batch m L ids h
  repr_cache := fun _ _ _ _ h => h
  cache_le := fun _ limit _ => Nat.le_refl limit
  mem_match := fun m L q r h _ => path_mem_match E m L h q r
  nodup_match := fun m L q h _ => path_nodup_match E m L h q
  mem_trace := fun m L q r _ _ => path_mem_trace E m q r

end
end Rio.Router
