/-
Basic lemmas about the tree model: induction principle for the nested inductive `Item`, unfolding
lemmas for the mutual functions as list operations, the structural invariant as propositions.
-/
import RioModel.Model.Tree
import RioModel.Proofs.Scan
-- `variable [DecidableEq ι]` goes into every theorem that mentions `ι`, needed there or not (here and in the later Tree files)
set_option linter.unusedSectionVars false

namespace Rio.Tree
open Rio.Scan Rio.Regex

variable {ι V : Type} [DecidableEq ι]

omit [DecidableEq ι] in
/-- Induction over an item together with its child lists (`Item.rec` of the nested inductive, in `Prop`): the form to use
when the function on child lists threads a state through them (`removeL`, `cacheL`); for functions that map over the
children `Item.ind` below is enough. -/
theorem Item.ind₂ {motive : Item ι V → Prop} {motiveL : List (Item ι V) → Prop}
    (hE : ∀ ic, motive (.empty ic)) (hL : ∀ rx vs, motive (.leaf rx vs))
    (hN : ∀ rx cs, motiveL cs → motive (.node rx cs))
    (hnil : motiveL []) (hcons : ∀ c cs, motive c → motiveL cs → motiveL (c :: cs)) (t : Item ι V) : motive t :=
  Item.rec (motive_1 := motive) (motive_2 := motiveL) hE (fun rx cs ih => hN rx cs ih) hL hnil
    (fun c cs h1 h2 => hcons c cs h1 h2) t

theorem Item.ind {motive : Item ι V → Prop} (hE : ∀ ic, motive (.empty ic))
    (hL : ∀ rx vs, motive (.leaf rx vs))
    (hN : ∀ rx cs, (∀ c ∈ cs, motive c) → motive (.node rx cs)) : ∀ t, motive t :=
  Item.ind₂ (motiveL := fun cs => ∀ c ∈ cs, motive c) hE hL hN (fun _ h => nomatch h)
    (fun _ _ h1 h2 _ hd => (List.mem_cons.1 hd).elim (fun e => e ▸ h1) (h2 _))
theorem Item.indL {motive : Item ι V → Prop} (hE : ∀ ic, motive (.empty ic))
    (hL : ∀ rx vs, motive (.leaf rx vs))
    (hN : ∀ rx cs, (∀ c ∈ cs, motive c) → motive (.node rx cs)) :
    ∀ cs : List (Item ι V), ∀ c ∈ cs, motive c := fun _ c _ => Item.ind hE hL hN c

def Item.isNode : Item ι V → Bool
  | .node _ _ => true
  | _ => false

/-- `Item::Empty(_)`, which `childOk` forbids inside a node.  `Item.isEmpty` (`is_empty()`) also holds of a leaf without
values and of a node whose children are all empty; under the invariant the two agree (`inv_not_isEmpty`, TreeRemove). -/
def Item.isEmptyCtor : Item ι V → Bool
  | .empty _ => true
  | _ => false

@[simp] theorem regex_empty (ic : Bool) : (Item.empty ic : Item ι V).regex = [] := rfl
@[simp] theorem regex_node (rx cs) : (Item.node rx cs : Item ι V).regex = rx.original := rfl
@[simp] theorem regex_leaf (rx vs) : (Item.leaf rx vs : Item ι V).regex = rx.original := rfl

theorem findL_eq (E : Engine) (cs : List (Item ι V)) (s : List Char) :
    findL E cs s = cs.flatMap (fun c => c.find E s) := by
  induction cs with
  | nil => simp [findL]
  | cons c cs ih => simp [findL, ih]

theorem getL_eq (cs : List (Item ι V)) (p : List Char) :
    getL cs p = cs.flatMap (fun c => c.get p) := by
  induction cs with
  | nil => simp [getL]
  | cons c cs ih => simp [getL, ih]

theorem contentsL_eq (cs : List (Item ι V)) : contentsL cs = cs.flatMap Item.contents := by
  induction cs with
  | nil => simp [contentsL]
  | cons c cs ih => simp [contentsL, ih]

theorem contentsL_append (a b : List (Item ι V)) : contentsL (a ++ b) = contentsL a ++ contentsL b := by
  simp [contentsL_eq]

theorem mem_contentsL {cs : List (Item ι V)} {e : Entry ι V} :
    e ∈ contentsL cs ↔ ∃ c ∈ cs, e ∈ c.contents := by
  simp [contentsL_eq, List.mem_flatMap]

theorem lenL_eq (cs : List (Item ι V)) : lenL cs = (cs.map Item.len).sum := by
  induction cs with
  | nil => simp [lenL]
  | cons c cs ih => simp [lenL, ih]

theorem isEmptyL_eq (cs : List (Item ι V)) : isEmptyL cs = cs.all Item.isEmpty := by
  induction cs with
  | nil => simp [isEmptyL]
  | cons c cs ih => simp [isEmptyL, ih]

theorem invL_eq (ic : Bool) (cs : List (Item ι V)) : invL ic cs = cs.all (Item.inv ic) := by
  induction cs with
  | nil => simp [invL]
  | cons c cs ih => simp [invL, ih]

theorem invL_iff {ic : Bool} {cs : List (Item ι V)} : invL ic cs = true ↔ ∀ c ∈ cs, c.inv ic = true := by
  rw [invL_eq, List.all_eq_true]

theorem retainL_eq (cs : List (Item ι V)) (f : ι → V → Option V) :
    retainL cs f = cs.flatMap (fun c => keepNonEmpty (c.retain f)) := by
  induction cs with
  | nil => simp [retainL]
  | cons c cs ih => simp [retainL, ih]

@[simp] theorem contents_empty (ic : Bool) : (Item.empty ic : Item ι V).contents = [] := by simp [Item.contents]
@[simp] theorem contents_node (rx cs) : (Item.node rx cs : Item ι V).contents = contentsL cs := by
  simp [Item.contents]
@[simp] theorem contents_leaf (rx) (vs : List (ι × V)) :
    (Item.leaf rx vs : Item ι V).contents = vs.map fun kv => ⟨rx.original, kv.1, kv.2⟩ := by
  simp [Item.contents]

@[simp] theorem newLeaf_leafWf (p : List Char) (ic : Bool) : (LazyRegex.newLeaf p ic).leafWf = true := by
  simp [LazyRegex.newLeaf, LazyRegex.leafWf, LazyRegex.consistent]

@[simp] theorem newNode_nodeWf (q : List Char) (ic : Bool) : (LazyRegex.newNode q ic).nodeWf = true := by
  simp [LazyRegex.newNode, LazyRegex.nodeWf, LazyRegex.consistent]

@[simp] theorem newLeaf_ic (p : List Char) (ic : Bool) : (LazyRegex.newLeaf p ic).ic = ic := rfl
@[simp] theorem newNode_ic (q : List Char) (ic : Bool) : (LazyRegex.newNode q ic).ic = ic := rfl
@[simp] theorem newLeaf_original (p : List Char) (ic : Bool) : (LazyRegex.newLeaf p ic).original = p := rfl
@[simp] theorem newNode_original (q : List Char) (ic : Bool) : (LazyRegex.newNode q ic).original = q := rfl

theorem leafWf_iff {rx : LazyRegex} :
    rx.leafWf = true ↔ rx.regex = .leaf rx.original ∧ rx.consistent = true := by
  simp [LazyRegex.leafWf]

theorem nodeWf_iff {rx : LazyRegex} :
    rx.nodeWf = true ↔
      rx.regex = (if rx.original.isEmpty then RxSrc.any else .node rx.original) ∧ rx.consistent = true := by
  simp [LazyRegex.nodeWf]

theorem consistent_iff {rx : LazyRegex} :
    rx.consistent = true ↔ ∀ c, rx.compiled = some c → c = ⟨rx.regex, rx.ic⟩ := by
  unfold LazyRegex.consistent
  cases rx.compiled <;> simp

/-- The sibling relation of `sibOk`: `r` and `r'` are apart under a prefix of `n` chars. -/
def Sib (n : Nat) (r r' : List Char) : Prop := commonPrefixCharSize r r' ≤ n ∧ r ≠ r'

theorem Sib.symm {n : Nat} {r r' : List Char} (h : Sib n r r') : Sib n r' r :=
  ⟨by rw [cpcs_comm]; exact h.1, fun e => h.2 e.symm⟩

theorem sib_commonPrefix {l r : List Char} (h : l ≠ r) : Sib (commonPrefix l r).length l r :=
  ⟨by rw [commonPrefix_length]; exact Nat.le_refl _, h⟩

theorem not_sib_iff {n : Nat} {r r' : List Char} : ¬ Sib n r r' ↔ n < commonPrefixCharSize r r' ∨ r = r' := by
  unfold Sib; by_cases h : r = r' <;> simp [h, Nat.not_le]

theorem Sib.below {n : Nat} {r q p : List Char} (h : Sib n r q) (hb : BPre q p) (hlt : n < q.length) : Sib n r p := by
  -- the scanner stops inside `q` when comparing with `r`, so it stops at the same place on every boundary extension of `q`
  have h1 : commonPrefixCharSize q r < q.length := by have := h.1; rw [cpcs_comm] at this; omega
  refine ⟨by rw [cpcs_comm, cpcs_extend hb h1, cpcs_comm]; exact h.1, fun e => ?_⟩
  exact Nat.not_le_of_lt hlt (cpcs_eq_of_bpre (e ▸ hb) ▸ h.1)

/-- The one fact about the scanner the tree operations rest on: `insert` shrinks a child's prefix to a boundary prefix,
`remove` / `retain` replace a child by its only grandchild, and a stored pattern extends every prefix above it. -/
theorem sib_bpre_iff {n : Nat} {r q p : List Char} (hb : BPre q p) (hlt : n < q.length) : Sib n r q ↔ Sib n r p := by
  refine ⟨fun h => h.below hb hlt, fun h => ⟨Nat.le_trans (cpcs_mono_right hb.1) h.1, fun e => ?_⟩⟩
  subst e
  exact Nat.not_le_of_lt hlt (cpcs_eq_of_bpre hb ▸ cpcs_comm r p ▸ h.1)

theorem sibOk_iff {n : Nat} {rs : List (List Char)} : sibOk n rs = true ↔ rs.Pairwise (Sib n) := by
  induction rs with
  | nil => simp [sibOk]
  | cons r rs ih =>
    simp only [sibOk, Bool.and_eq_true, List.all_eq_true, decide_eq_true_eq, List.pairwise_cons, ih, Sib]

theorem inv_empty_iff {ic ic' : Bool} : (Item.empty ic' : Item ι V).inv ic = true ↔ ic' = ic := by
  simp [Item.inv]

theorem inv_leaf_iff {ic : Bool} {rx : LazyRegex} {vs : List (ι × V)} :
    (Item.leaf rx vs : Item ι V).inv ic = true ↔
      rx.leafWf = true ∧ rx.ic = ic ∧ vs ≠ [] ∧ nodupKeys vs = true := by
  simp [Item.inv, and_assoc]

theorem inv_node_iff {ic : Bool} {rx : LazyRegex} {cs : List (Item ι V)} :
    (Item.node rx cs : Item ι V).inv ic = true ↔
      rx.nodeWf = true ∧ rx.ic = ic ∧ (scan b0 rx.original).atBoundary = true ∧ 2 ≤ cs.length ∧
      (∀ c ∈ cs, childOk rx.original c = true) ∧
      (cs.map Item.regex).Pairwise (Sib rx.original.length) ∧ (∀ c ∈ cs, c.inv ic = true) := by
  simp [Item.inv, and_assoc, sibOk_iff, invL_iff]

theorem childOk_leaf {q : List Char} {rx : LazyRegex} {vs : List (ι × V)} :
    childOk q (Item.leaf rx vs : Item ι V) = true ↔ BPre q rx.original := by
  simp [childOk, bpre_iff]

theorem childOk_node {q : List Char} {rx : LazyRegex} {cs : List (Item ι V)} :
    childOk q (Item.node rx cs : Item ι V) = true ↔ BPre q rx.original ∧ q.length < rx.original.length := by
  simp [childOk, bpre_iff]

@[simp] theorem childOk_empty {q : List Char} {ic : Bool} : childOk q (Item.empty ic : Item ι V) = false := rfl

theorem childOk_iff {q : List Char} {c : Item ι V} :
    childOk q c = true ↔
      c.isEmptyCtor = false ∧ BPre q c.regex ∧ (c.isNode = true → q.length < c.regex.length) := by
  cases c with
  | empty ic => simp [Item.isEmptyCtor]
  | leaf rx vs => simp [childOk_leaf, Item.isEmptyCtor, Item.isNode]
  | node rx cs => simp [childOk_node, Item.isEmptyCtor, Item.isNode]

theorem childOk_notEmpty {q : List Char} {c : Item ι V} (h : childOk q c = true) : c.isEmptyCtor = false :=
  (childOk_iff.1 h).1

theorem childOk_bpre {q : List Char} {c : Item ι V} (h : childOk q c = true) : BPre q c.regex :=
  (childOk_iff.1 h).2.1

theorem childOk_lt {q : List Char} {c : Item ι V} (h : childOk q c = true) (hn : c.isNode = true) :
    q.length < c.regex.length := (childOk_iff.1 h).2.2 hn

theorem childOk_of {q : List Char} {c : Item ι V} (h0 : c.isEmptyCtor = false) (h1 : BPre q c.regex)
    (h2 : c.isNode = true → q.length < c.regex.length) : childOk q c = true := childOk_iff.2 ⟨h0, h1, h2⟩

theorem inv_node_boundary {ic : Bool} {c : Item ι V} (h : c.inv ic = true) (hn : c.isNode = true) :
    (scan b0 c.regex).atBoundary = true := by
  cases c with
  | node rx cs => exact (inv_node_iff.1 h).2.2.1
  | _ => simp [Item.isNode] at hn

theorem map_regex_map {F : Item ι V → Item ι V} (h : ∀ c, (F c).regex = c.regex) (cs : List (Item ι V)) :
    (cs.map F).map Item.regex = cs.map Item.regex := by
  rw [List.map_map]; exact List.map_congr_left fun c _ => h c

/-- The node case of every map on items that keeps the shape of the tree (`strip`, `modifyAt`). -/
theorem inv_node_map {ic : Bool} {rx rx' : LazyRegex} {cs : List (Item ι V)} (F : Item ι V → Item ι V)
    (h : (Item.node rx cs).inv ic = true) (hw : rx'.nodeWf = true) (ho : rx'.original = rx.original)
    (hic : rx'.ic = rx.ic) (hreg : ∀ c, (F c).regex = c.regex) (hok : ∀ q c, childOk q (F c) = childOk q c)
    (hinv : ∀ c ∈ cs, (F c).inv ic = true) : (Item.node rx' (cs.map F)).inv ic = true := by
  obtain ⟨_, h2, h3, h4, h5, h6, _⟩ := inv_node_iff.1 h
  rw [inv_node_iff, ho, hic, List.length_map, map_regex_map hreg]
  refine ⟨hw, h2, h3, h4, ?_, h6, ?_⟩
  · intro c hc
    obtain ⟨d, hd, rfl⟩ := List.mem_map.1 hc
    rw [hok]; exact h5 d hd
  · intro c hc
    obtain ⟨d, hd, rfl⟩ := List.mem_map.1 hc
    exact hinv d hd

theorem nodupKeys_iff {vs : List (ι × V)} :
    nodupKeys vs = true ↔ vs.Pairwise (fun a b => b.1 ≠ a.1) := by
  induction vs with
  | nil => simp [nodupKeys]
  | cons kv rest ih => simp [nodupKeys, ih]

theorem nodupKeys_iff' {vs : List (ι × V)} : nodupKeys vs = true ↔ (vs.map (·.1)).Nodup := by
  rw [nodupKeys_iff, List.Nodup, List.pairwise_map]
  constructor <;> intro h <;> exact h.imp (fun h e => h e.symm)

theorem keys_upsert (vs : List (ι × V)) (id : ι) (v : V) :
    (upsert vs id v).map (·.1) = if id ∈ vs.map (·.1) then vs.map (·.1) else vs.map (·.1) ++ [id] := by
  induction vs with
  | nil => simp [upsert]
  | cons a rest ih =>
    obtain ⟨k, w⟩ := a
    simp only [upsert]
    by_cases hk : k = id
    · subst hk; simp
    · have hk' : ¬ id = k := fun e => hk e.symm
      simp only [hk, if_false, List.map_cons, ih, List.mem_cons, hk', false_or]
      split <;> simp

theorem nodupKeys_upsert {vs : List (ι × V)} (h : nodupKeys vs = true) (id : ι) (v : V) :
    nodupKeys (upsert vs id v) = true := by
  rw [nodupKeys_iff'] at *
  rw [keys_upsert]
  split
  · exact h
  · next hid =>
    rw [List.nodup_append]
    refine ⟨h, by simp, ?_⟩
    intro a ha b hb
    simp at hb; subst hb
    intro e; subst e; exact hid ha

theorem upsert_ne_nil (vs : List (ι × V)) (id : ι) (v : V) : upsert vs id v ≠ [] := by
  cases vs with
  | nil => simp [upsert]
  | cons a rest =>
    obtain ⟨k, w⟩ := a
    simp only [upsert]; split <;> simp

end Rio.Tree
