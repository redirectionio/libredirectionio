/-
C10 helpers: `MarkerString::new` computes the token view (`build_eq_tokens`).  The guarded sequential replace over the
escaped template equals the rendering of the parsed template with every reference filled: by `(?:re)` in the matching
regex; in the capturing regex by `(?P<name>re)` at the FIRST reference of a name and by `(?:re)` at the others.  The code
folds over the markers, the token view is one pass over the template: `capFold_eq_capPass`.
-/
import RioModel.Proofs.Marker

namespace Rio.Marker

/-- Prop form of `plainName`: no regex meta character and no `@`, so `escape` leaves the string alone (`escape_plain`). -/
def Plain (s : Str) : Prop := ∀ c ∈ s, isMeta c = false ∧ c ≠ '@'

theorem plainName_iff (n : Str) : plainName n = true ↔ Plain n := by
  simp [plainName, Plain, List.all_eq_true]

theorem Plain.noAt {s : Str} (h : Plain s) : '@' ∉ s := fun e => (h _ e).2 rfl

theorem Plain.tail {c : Char} {s : Str} (h : Plain (c :: s)) : Plain s :=
  fun d hd => h d (List.mem_cons_of_mem _ hd)

theorem Plain.of_append_right {a b : Str} (h : Plain (a ++ b)) : Plain b :=
  fun d hd => h d (List.mem_append_right _ hd)

theorem escape_plain {s : Str} (h : Plain s) : escape s = s := by
  induction s with
  | nil => rfl
  | cons c cs ih =>
    have hc := (h c (by simp)).1
    simp only [escape, List.flatMap_cons, escChar, hc] at ih ⊢
    simp [ih h.tail]

theorem escape_append (a b : Str) : escape (a ++ b) = escape a ++ escape b := by
  simp [escape]

theorem escChar_noAt (c : Char) (h : c ≠ '@') : '@' ∉ escChar c := by
  unfold escChar
  split <;> simp [Ne.symm h]

theorem escChar_at : escChar '@' = ['@'] := by decide

theorem escape_eq_render (ns : List Str) (hns : ∀ n ∈ ns, Plain n) (t : Str) :
    escape t = render escChar (parse ns t) := by
  induction t using parse_induction ns with
  | hnil => simp [parse_nil, render, escape]
  | hlit c cs hc ih =>
    rw [parse_lit _ _ _ hc, render_cons, ← ih]
    simp [escape, Item.render]
  | href n r hl ih =>
    rw [parse_ref _ _ _ hl, render_cons, ← ih]
    have e1 : escape ('@' :: (n ++ r)) = '@' :: (escape n ++ escape r) := by
      simp [escape, escChar_at]
    rw [e1, escape_plain (hns n (longest_some hl).1)]
    simp [Item.render]
  | hstray cs hl ih =>
    rw [parse_stray _ _ hl, render_cons, ← ih]
    simp [escape, Item.render, escChar_at]

theorem replaceFirst1_nil (p : Char) (ps w : Str) : replaceFirst1 p ps w [] = [] := rfl

theorem replaceFirst1_hit (p : Char) (ps w rest : Str) :
    replaceFirst1 p ps w (p :: (ps ++ rest)) = w ++ rest := by
  have : pre ps (ps ++ rest) = true := pre_iff.mpr (List.prefix_append _ _)
  simp [replaceFirst1, this]

theorem replaceFirst1_miss (p : Char) (ps w : Str) (c : Char) (cs : Str) (h : ¬ (c = p ∧ ps <+: cs)) :
    replaceFirst1 p ps w (c :: cs) = c :: replaceFirst1 p ps w cs := by
  have : ¬ (c = p ∧ pre ps cs = true) := by rw [pre_iff]; exact h
  simp [replaceFirst1, this]

theorem replaceFirst1_skip (p : Char) (ps w : Str) (s rest : Str) (h : p ∉ s) :
    replaceFirst1 p ps w (s ++ rest) = s ++ replaceFirst1 p ps w rest :=
  scan_append_of_not_mem (fun c cs hc => replaceFirst1_miss p ps w c cs fun e => hc e.1) s rest h

/-- What `str::replacen(fmt m, w, 1)` does to the items (`replaceFirst_render`): only the first reference to `m` is filled. -/
def fillFirst (m w : Str) : List Item → List Item
  | [] => []
  | .ref n :: rest => if n = m then .txt w :: rest else .ref n :: fillFirst m w rest
  | i :: rest => i :: fillFirst m w rest

theorem fills_fillFirst (m w : Str) : ∀ is, Fills m w is (fillFirst m w is)
  | [] => .nil
  | .ref n :: is => by
    rw [fillFirst]
    by_cases hn : n = m
    · rw [if_pos hn, hn]; exact .fill (.refl m w is)
    · rw [if_neg hn]; exact .keep _ (fills_fillFirst m w is)
  | .lit c :: is => .keep _ (fills_fillFirst m w is)
  | .txt s :: is => .keep _ (fills_fillFirst m w is)
  | .stray :: is => .keep _ (fills_fillFirst m w is)

theorem replaceFirst_render (esc : Char → Str) (m w : Str) (is : List Item)
    (hclean : Clean esc is) (hsep : Sep esc m is) :
    replaceFirst1 '@' m w (render esc is) = render esc (fillFirst m w is) := by
  induction is with
  | nil => rfl
  | cons i is ih =>
    have ih' := ih hclean.tail
    rw [render_cons]
    cases i with
    | lit c =>
      exact (replaceFirst1_skip _ _ _ _ _ (hclean.lit c List.mem_cons_self)).trans (congrArg (esc c ++ ·) (ih' hsep))
    | txt s =>
      exact (replaceFirst1_skip _ _ _ _ _ (hclean.txt s List.mem_cons_self)).trans (congrArg (s ++ ·) (ih' hsep))
    | stray => exact (replaceFirst1_miss _ _ _ _ _ fun h => hsep.1 h.2).trans (congrArg ('@' :: ·) (ih' hsep.2))
    | ref n =>
      rw [fillFirst]
      by_cases hn : n = m
      · rw [if_pos hn, hn]; exact replaceFirst1_hit _ _ _ _
      · rw [if_neg hn, render_cons, ← ih' hsep.2]
        exact (replaceFirst1_miss _ _ _ _ _ fun h => hsep.1 hn h.2).trans
          (congrArg _ (replaceFirst1_skip _ _ _ _ _ (hclean.ref n List.mem_cons_self)))

/-- The longest prefix of the rendering that consists of non-meta literals: all that a `Plain` name can be a prefix of once
inserted texts start with `(` (`plain_prefix_plainLead`).  `Fills` leaves it unchanged (`Fills.plainLead`), which is why
`PlainInv` survives the loop (`Fills.plainInv`). -/
def plainLead : List Item → Str
  | .lit c :: post => if isMeta c then [] else c :: plainLead post
  | _ => []

/-- Every reference is maximal and every stray `@` is followed by no name, judged on the plain text that
follows (inserted texts start with `(` and can never extend a name). -/
def PlainInv (ns : List Str) : List Item → Prop :=
  AtRefs (fun n post => ∀ m ∈ ns, m <+: n ++ plainLead post → blen m ≤ blen n)
    (fun post => ∀ m ∈ ns, ¬ m <+: plainLead post)

theorem plainLead_prefix_render (is : List Item) : plainLead is <+: render idEsc is := by
  induction is with
  | nil => simp [plainLead]
  | cons i is ih =>
    cases i with
    | lit c =>
      simp only [plainLead, render_cons, Item.render, idEsc]
      split
      · exact List.nil_prefix
      · simpa using ih
    | _ => simp [plainLead]

/-- The parser establishes the invariant: it takes the longest name that fits, and the plain lead is a prefix of the
text that follows. -/
theorem parse_plainInv (ns : List Str) (t : Str) : PlainInv ns (parse ns t) := by
  induction t using parse_induction ns with
  | hnil => rw [parse_nil]; trivial
  | hlit c cs hc ih => rw [parse_lit _ _ _ hc]; exact ih
  | href n r hl ih =>
    rw [parse_ref _ _ _ hl]
    refine ⟨fun m hm hp => longest_max hl m hm ?_, ih⟩
    have hlead := plainLead_prefix_render (parse ns r)
    rw [render_parse] at hlead
    exact hp.trans ((List.prefix_append_right_inj n).mpr hlead)
  | hstray cs hl ih =>
    rw [parse_stray _ _ hl]
    refine ⟨fun m hm hp => longest_none hl m hm ?_, ih⟩
    have hlead := plainLead_prefix_render (parse ns cs)
    rw [render_parse] at hlead
    exact hp.trans hlead

theorem Fills.plainLead {m w : Str} {is is' : List Item} (h : Fills m w is is') : plainLead is' = plainLead is := by
  induction h with
  | nil => rfl
  | keep j _ ih => cases j <;> simp only [Marker.plainLead, ih]
  | fill _ _ => rfl

theorem Fills.plainInv {m w : Str} {is is' : List Item} (h : Fills m w is is') {ns : List Str}
    (hp : PlainInv ns is) : PlainInv ns is' := by
  induction h with
  | nil => trivial
  | keep j h' ih =>
    cases j with
    | lit _ | txt _ => exact ih hp
    | stray | ref _ => exact ⟨by simpa only [h'.plainLead] using hp.1, ih hp.2⟩
  | fill _ ih => exact ih hp.2

/-- Every inserted text starts with a meta character (the second half of `Inserted`, for all `txt` items of a list). -/
def TxtMeta (is : List Item) : Prop := ∀ x, Item.txt x ∈ is → ∃ d r, x = d :: r ∧ isMeta d = true

theorem plain_prefix_plainLead (is : List Item) (htxt : TxtMeta is) (s : Str) (hs : Plain s)
    (h : s <+: render escChar is) : s <+: plainLead is := by
  induction is generalizing s with
  | nil => simpa [render_nil, plainLead] using h
  | cons i is ih =>
    cases s with
    | nil => exact List.nil_prefix
    | cons d ds =>
      -- the first char of `s` is plain and the item renders to it: the item is a non-meta literal
      obtain ⟨hd, hat⟩ := hs d List.mem_cons_self
      rw [render_cons] at h
      cases i with
      | lit c =>
        by_cases hc : isMeta c = true
        · simp only [Item.render, escChar, hc, if_true] at h
          rw [(List.cons_prefix_cons.mp h).1] at hd; cases hd
        · simp only [Item.render, escChar, hc, plainLead] at h ⊢
          exact List.cons_prefix_cons.mpr ⟨(List.cons_prefix_cons.mp h).1,
            ih (fun x hx => htxt x (List.mem_cons_of_mem _ hx)) ds hs.tail (List.cons_prefix_cons.mp h).2⟩
      | txt x =>
        obtain ⟨e, r, rfl, he⟩ := htxt x List.mem_cons_self
        rw [(List.cons_prefix_cons.mp h).1, he] at hd; cases hd
      | stray => exact absurd (List.cons_prefix_cons.mp h).1 hat
      | ref n => exact absurd (List.cons_prefix_cons.mp h).1 hat

/-- The `Sep` that `replace_render` / `replaceFirst_render` need, from the invariant.  As in `sep_of_noJoin` (Proofs/Marker)
an `m` that fits at `ref n` is `n ++ s'`, no reference being longer than `m` (`prefix_append_of_blen_le`); here `s'` lies in
the plain lead, against the maximality of `n`. -/
theorem sep_of_plainInv (ns : List Str) (m : Str) (hm : m ∈ ns) (hmp : Plain m) (is : List Item)
    (htxt : TxtMeta is) (hlen : ∀ n, Item.ref n ∈ is → blen n ≤ blen m) (hinv : PlainInv ns is) :
    Sep escChar m is := by
  have htail : ∀ {i : Item} {post : List Item}, i :: post <:+ is → TxtMeta post :=
    fun hs x hx => htxt x (hs.subset (List.mem_cons_of_mem _ hx))
  refine hinv.imp ?_ ?_
  · intro n post hsuf h hne hp
    obtain ⟨s', rfl, h2⟩ := prefix_append_of_blen_le hp hne (hlen n (hsuf.subset List.mem_cons_self))
    have h3 := plain_prefix_plainLead post (htail hsuf) s' hmp.of_append_right h2
    have h4 := h (n ++ s') hm ((List.prefix_append_right_inj n).mpr h3)
    have := blen_lt_of_prefix_ne (List.prefix_append n s') hne
    omega
  · intro post hsuf h hp
    exact h m hm (plain_prefix_plainLead post (htail hsuf) m hmp hp)

def regexVal (m : Str × Str) : Str × Str := (m.1, groupRegex m.2)

/-- One marker on the capture side: the first reference becomes the named group, the others plain groups.  The code folds
this over the markers (`capFold`), `renderCaptureAux` is ONE pass over the tokens; `capPass` is that pass on items
(`capFold_eq_capPass`). -/
def capStep (m re : Str) (is : List Item) : List Item :=
  (fillFirst m (groupCapture m re) is).map (fill1 m (groupRegex re))

def capFold (l : List (Str × Str)) (is : List Item) : List Item := l.foldl (fun is p => capStep p.1 p.2 is) is

theorem render_append (esc : Char → Str) (a b : List Item) : render esc (a ++ b) = render esc a ++ render esc b := by
  simp [render]

theorem containsSub1_hit (p : Char) (ps a b : Str) : containsSub1 p ps (a ++ p :: (ps ++ b)) = true := by
  induction a with
  | nil =>
    have : pre ps (ps ++ b) = true := pre_iff.mpr (List.prefix_append _ _)
    simp [containsSub1, this]
  | cons c cs ih => simp [containsSub1, ih]

theorem contains_of_ref_mem (esc : Char → Str) (m : Str) (is : List Item) (h : Item.ref m ∈ is) :
    containsSub (fmt m) (render esc is) = true := by
  obtain ⟨l₁, l₂, rfl⟩ := List.append_of_mem h
  rw [render_append, render_cons]
  simp only [fmt, containsSub, Item.render, List.cons_append]
  exact containsSub1_hit _ _ _ _

theorem mem_capStep_ref (m re n : Str) (is : List Item) :
    Item.ref n ∈ capStep m re is ↔ Item.ref n ∈ is ∧ n ≠ m := by
  rw [capStep, mem_map_fill1_ref]
  exact and_congr_left fun hne => (fills_fillFirst m _ is).mem_ref hne

theorem txtMeta_of_sub (w : Str) (hw : ∃ d r, w = d :: r ∧ isMeta d = true) (is is' : List Item)
    (hsub : ∀ i ∈ is', i = .txt w ∨ i ∈ is) (h : TxtMeta is) : TxtMeta is' := by
  intro x hx
  rcases hsub _ hx with h1 | h1
  · simp at h1; subst h1; exact hw
  · exact h x h1

theorem sorted_map {β γ : Type} (f : Str × β → Str × γ) (hf : ∀ p, (f p).1 = p.1) (l : List (Str × β))
    (h : Sorted l) : Sorted (l.map f) := by
  unfold Sorted at h ⊢
  rw [List.pairwise_map]
  exact h.imp (by intro a b hab; rw [hf a, hf b]; exact hab)

theorem names_map {β γ : Type} (f : Str × β → Str × γ) (hf : ∀ p, (f p).1 = p.1) (l : List (Str × β)) :
    names (l.map f) = names l := by
  simp [names, List.map_map, Function.comp_def, hf]

/-- A text the construction inserts: free of `@`, starting with a meta character (`(`). -/
def Inserted (w : Str) : Prop := '@' ∉ w ∧ ∃ d r, w = d :: r ∧ isMeta d = true

theorem inserted_groupRegex {re : Str} (h : '@' ∉ re) : Inserted (groupRegex re) :=
  ⟨by simp [groupRegex, h, Rio.Consts.markerGroupRegexFormat], '(', _, rfl, by decide⟩

theorem inserted_groupCapture {n re : Str} (hn : '@' ∉ n) (h : '@' ∉ re) : Inserted (groupCapture n re) :=
  ⟨by simp [groupCapture, h, hn, Rio.Consts.markerGroupCaptureFormat], '(', _, rfl, by decide⟩

/-- What holds of both item lists all through the loop of `MarkerString::new`. -/
structure Inv (ns : List Str) (is : List Item) : Prop where
  clean : Clean escChar is
  txt : TxtMeta is
  plain : PlainInv ns is

theorem Inv.fills {ns : List Str} {m w : Str} {is is' : List Item} (h : Inv ns is) (hf : Fills m w is is')
    (hw : Inserted w) : Inv ns is' :=
  ⟨clean_of_sub escChar w hw.1 is _ hf.mem h.clean, txtMeta_of_sub w hw.2 is _ hf.mem h.txt, hf.plainInv h.plain⟩

/-- The `contains` guard of the loop of `MarkerString::new` only skips a marker that is not referenced, so both branches
are the same equation in the item view. -/
theorem buildStep_render {ns : List Str} {m re : Str} {isR isC : List Item} (used : List Str)
    (hmns : m ∈ ns) (hmp : Plain m) (hr : '@' ∉ re) (hinvR : Inv ns isR) (hinvC : Inv ns isC)
    (hlenR : ∀ n, Item.ref n ∈ isR → blen n ≤ blen m) (hsame : ∀ n, Item.ref n ∈ isR ↔ Item.ref n ∈ isC) :
    ∃ used', buildStep ⟨render escChar isR, render escChar isC, used⟩ (m, re) =
      ⟨render escChar (isR.map (fill1 m (groupRegex re))), render escChar (capStep m re isC), used'⟩ := by
  by_cases hg : containsSub (fmt m) (render escChar isR) = true
  · have hlenC : ∀ n, Item.ref n ∈ isC → blen n ≤ blen m := fun n hn => hlenR n ((hsame n).mpr hn)
    have hR := replace_render escChar m (groupRegex re) isR hinvR.clean
      (sep_of_plainInv ns m hmns hmp isR hinvR.txt hlenR hinvR.plain)
    have hC1 := replaceFirst_render escChar m (groupCapture m re) isC hinvC.clean
      (sep_of_plainInv ns m hmns hmp isC hinvC.txt hlenC hinvC.plain)
    have hfF := fills_fillFirst m (groupCapture m re) isC
    have hinvF := hinvC.fills hfF (inserted_groupCapture hmp.noAt hr)
    have hC2 := replace_render escChar m (groupRegex re) _ hinvF.clean
      (sep_of_plainInv ns m hmns hmp _ hinvF.txt
        (fun n hn => (hfF.mem _ hn).elim (fun e => nomatch e) (hlenC n)) hinvF.plain)
    refine ⟨used ++ [m], ?_⟩
    rw [buildStep, if_pos hg]
    simp only [fmt, strReplace, strReplaceFirst]
    rw [hR, hC1, hC2]
    rfl
  · have hnR : Item.ref m ∉ isR := fun e => hg (contains_of_ref_mem escChar m isR e)
    have hnC : Item.ref m ∉ isC := fun e => hnR ((hsame m).mpr e)
    refine ⟨used, ?_⟩
    rw [buildStep, if_neg hg, (fills_map_fill1 m _ isR).eq_of_not_mem hnR, capStep,
      (fills_fillFirst m _ isC).eq_of_not_mem hnC, (fills_map_fill1 m _ isC).eq_of_not_mem hnC]

/-- The loop of `MarkerString::new` in the item view, from any two item lists with the same references that satisfy `Inv`:
the matching regex is `fill` with the `(?:re)` values, the capturing one `capFold`.  One `buildStep_render` per marker;
`Sorted` gives its `hlenR`, `Inv.fills` carries the invariant on. -/
theorem foldl_buildStep (ns : List Str) (l : List (Str × Str)) (isR isC : List Item) (used : List Str)
    (hsorted : Sorted l) (hns : ∀ p ∈ l, p.1 ∈ ns) (hplain : ∀ p ∈ l, Plain p.1) (hre : ∀ p ∈ l, '@' ∉ p.2)
    (hinvR : Inv ns isR) (hinvC : Inv ns isC) (hrefsR : ∀ n, Item.ref n ∈ isR → n ∈ names l)
    (hsame : ∀ n, Item.ref n ∈ isR ↔ Item.ref n ∈ isC) :
    (l.foldl buildStep ⟨render escChar isR, render escChar isC, used⟩).regex
        = render escChar (isR.map (fill (l.map regexVal))) ∧
    (l.foldl buildStep ⟨render escChar isR, render escChar isC, used⟩).capture
        = render escChar (capFold l isC) := by
  induction l generalizing isR isC used with
  | nil =>
    simp only [List.foldl_nil, List.map_nil, capFold]
    rw [show (fill []) = id from funext fill_nil]; simp
  | cons p rest ih =>
    obtain ⟨m, re⟩ := p
    have hmp : Plain m := hplain (m, re) List.mem_cons_self
    have hr : '@' ∉ re := hre (m, re) List.mem_cons_self
    obtain ⟨used', hstep⟩ := buildStep_render used (hns (m, re) List.mem_cons_self) hmp hr hinvR hinvC
      (fun n hn => hsorted.blen_le_head n (hrefsR n hn)) hsame
    rw [List.foldl_cons, hstep]
    have hrest := ih (isR.map (fill1 m (groupRegex re))) (capStep m re isC) used'
      (List.pairwise_cons.mp hsorted).2
      (fun p hp => hns p (List.mem_cons_of_mem _ hp))
      (fun p hp => hplain p (List.mem_cons_of_mem _ hp)) (fun p hp => hre p (List.mem_cons_of_mem _ hp))
      (hinvR.fills (fills_map_fill1 m _ isR) (inserted_groupRegex hr))
      ((hinvC.fills (fills_fillFirst m _ isC) (inserted_groupCapture hmp.noAt hr)).fills (fills_map_fill1 m _ _)
        (inserted_groupRegex hr))
      (refs_map_fill1 hrefsR)
      (by
        intro n
        rw [mem_map_fill1_ref, mem_capStep_ref, hsame n])
    rw [hrest.1, hrest.2]
    constructor
    · rw [List.map_cons, show regexVal (m, re) = (m, groupRegex re) from rfl, map_fill_cons]
    · simp [capFold]

/-- One pass with the list of names already declared. -/
def capPass (ms : List (Str × Str)) : List Str → List Item → List Item
  | _, [] => []
  | seen, .ref n :: rest =>
    match ms.lookup n with
    | some re =>
      if n ∈ seen then .txt (groupRegex re) :: capPass ms seen rest
      else .txt (groupCapture n re) :: capPass ms (n :: seen) rest
    | none => .ref n :: capPass ms seen rest
  | seen, .lit c :: rest => .lit c :: capPass ms seen rest
  | seen, .txt x :: rest => .txt x :: capPass ms seen rest
  | seen, .stray :: rest => .stray :: capPass ms seen rest

/-- One marker of the fold, seen from the single pass: before the first reference to `m` (`m ∉ seen'`) the step is
`capStep`, after it only `fill1` is left to do.  Two `seen` lists, equal up to `m` (`hrel`): on the right `m` enters `seen'` at
its first reference, on the left that reference is filled already, so `m` never enters `seen`. -/
theorem capPass_step (m re : Str) (rest : List (Str × Str)) (is : List Item) (seen seen' : List Str)
    (hrel : ∀ n, n ≠ m → (n ∈ seen ↔ n ∈ seen')) :
    capPass rest seen ((if m ∈ seen' then is else fillFirst m (groupCapture m re) is).map (fill1 m (groupRegex re)))
      = capPass ((m, re) :: rest) seen' is := by
  induction is generalizing seen seen' with
  | nil => split <;> simp [capPass, fillFirst]
  | cons i is ih =>
    have push : ∀ (x y : List Item), (if m ∈ seen' then i :: x else i :: y) = i :: (if m ∈ seen' then x else y) :=
      fun x y => (apply_ite (List.cons i) _ x y).symm
    cases i with
    | lit _ | txt _ | stray => simp only [fillFirst, push, List.map_cons, fill1, capPass, ih seen seen' hrel]
    | ref n =>
      by_cases hn : n = m
      · subst hn
        by_cases hm : n ∈ seen'
        · simp only [if_pos hm, List.map_cons, fill1, if_true, capPass, List.lookup_cons_self]
          rw [← ih seen seen' hrel, if_pos hm]
        · have h := ih seen (n :: seen') (fun k hk => by simp only [List.mem_cons, hk, false_or]; exact hrel k hk)
          rw [if_pos (List.mem_cons_self ..)] at h
          simp only [if_neg hm, fillFirst, if_true, List.map_cons, fill1, capPass, List.lookup_cons_self, h]
      · have hcons : ∀ k, k ≠ m → (k ∈ n :: seen ↔ k ∈ n :: seen') := fun k hk => by
          simp only [List.mem_cons, hrel k hk]
        have h1 := ih seen seen' hrel
        have h2 := ih (n :: seen) (n :: seen') hcons
        simp only [List.mem_cons, Ne.symm hn, false_or] at h2
        simp only [fillFirst, if_neg hn, push, List.map_cons, fill1, capPass, List.lookup_cons, beq_false_of_ne hn]
        cases rest.lookup n with
        | none => simp only [h1]
        | some r => simp only [hrel n hn, h1, h2]

theorem capPass_nil (seen : List Str) (is : List Item) : capPass [] seen is = is := by
  induction is generalizing seen with
  | nil => rfl
  | cons i is ih => cases i <;> simp [capPass, ih]

theorem capFold_eq_capPass (l : List (Str × Str)) (is : List Item) : capFold l is = capPass l [] is := by
  induction l generalizing is with
  | nil => simp [capFold, capPass_nil]
  | cons p rest ih =>
    obtain ⟨m, re⟩ := p
    have : capFold ((m, re) :: rest) is = capFold rest (capStep m re is) := by simp [capFold]
    rw [this, ih, ← capPass_step m re rest is [] [] (fun _ _ => Iff.rfl)]
    rfl

theorem capPass_congr (ms ms' : List (Str × Str)) (h : ∀ n, ms.lookup n = ms'.lookup n) (seen : List Str)
    (is : List Item) : capPass ms seen is = capPass ms' seen is := by
  induction is generalizing seen with
  | nil => rfl
  | cons i is ih =>
    cases i with
    | ref n => simp only [capPass, h n]; cases ms'.lookup n <;> simp [ih]
    | lit _ | txt _ | stray => simp [capPass, ih]

theorem insertBy_map {β γ : Type} (before : Str → Str → Bool) (f : Str × β → Str × γ) (hf : ∀ p, (f p).1 = p.1)
    (x : Str × β) (l : List (Str × β)) : insertBy before (f x) (l.map f) = (insertBy before x l).map f := by
  induction l with
  | nil => simp [insertBy]
  | cons y ys ih =>
    simp only [List.map_cons, insertBy, hf]
    split
    · simp [ih]
    · simp

theorem sortByLen_map {β γ : Type} (f : Str × β → Str × γ) (hf : ∀ p, (f p).1 = p.1) (l : List (Str × β)) :
    sortByLen (l.map f) = (sortByLen l).map f := by
  unfold sortByLen
  induction l with
  | nil => simp [sortBy]
  | cons x xs ih => simp only [List.map_cons, sortBy, ih, insertBy_map lenBefore f hf]

theorem lookup_map_regexVal (ms : List (Str × Str)) (n : Str) :
    (ms.map regexVal).lookup n = (ms.lookup n).map groupRegex :=
  lookup_map_value (fun _ => groupRegex) ms n

theorem render_fill_eq_tokens (ms : List (Str × Str)) (t : Str) :
    render escChar ((parse (names ms) t).map (fill (ms.map regexVal))) = renderRegex (tokens t ms) := by
  unfold tokens renderRegex
  induction t using parse_induction (names ms) with
  | hnil => rfl
  | hlit c cs hc ih => rw [parse_lit _ _ _ hc, List.map_cons, render_cons, ih]; rfl
  | href n r hl ih =>
    obtain ⟨re, hre⟩ := lookup_some_of_mem_names ms n (longest_some hl).1
    rw [parse_ref _ _ _ hl, List.map_cons, render_cons, ih]
    simp [fill, lookup_map_regexVal, hre, Item.render, tokOf, Tok.regex]
  | hstray cs hl ih =>
    rw [parse_stray _ _ hl, List.map_cons, render_cons, ih]
    simp [fill, Item.render, tokOf, Tok.regex, escChar_at]

theorem render_capPass_eq_tokens (ms : List (Str × Str)) (t : Str) : ∀ seen,
    render escChar (capPass ms seen (parse (names ms) t)) = renderCaptureAux seen (tokens t ms) := by
  unfold tokens
  induction t using parse_induction (names ms) with
  | hnil => intro _; rfl
  | hlit c cs hc ih =>
    intro seen; rw [parse_lit _ _ _ hc]
    simp [capPass, render_cons, Item.render, tokOf, renderCaptureAux, ih]
  | href n r hl ih =>
    intro seen
    obtain ⟨re, hre⟩ := lookup_some_of_mem_names ms n (longest_some hl).1
    rw [parse_ref _ _ _ hl]
    simp only [capPass, hre, List.map_cons, tokOf, renderCaptureAux]
    by_cases hs : n ∈ seen <;> simp [hs, render_cons, Item.render, ih]
  | hstray cs hl ih =>
    intro seen; rw [parse_stray _ _ hl]
    simp [capPass, render_cons, Item.render, tokOf, renderCaptureAux, ih, escChar_at]

/-- `C10.regex_is_tokens` with `namesPlain`, `regexNoAt` as propositions.  `escape_eq_render` and `parse_plainInv` start the
loop, `foldl_buildStep` runs it; on the capture side `capFold_eq_capPass` turns the fold over the markers into the one pass
of `renderCaptureAux`. -/
theorem build_eq_tokens (t : Str) (ms : List (Str × Str))
    (hplain : ∀ p ∈ ms, Plain p.1) (hre : ∀ p ∈ ms, '@' ∉ p.2) :
    (build t ms).regex = renderRegex (tokens t ms) ∧ (build t ms).capture = renderCapture (tokens t ms) := by
  have hnsPlain : ∀ n ∈ names ms, Plain n := List.forall_mem_map.mpr hplain
  let is := parse (names ms) t
  have hesc : escape t = render escChar is := escape_eq_render (names ms) hnsPlain t
  have hrefs : ∀ n, Item.ref n ∈ is → n ∈ names ms := parse_refs _ _
  have hinv : Inv (names ms) is :=
    { clean := clean_parse escChar _ t escChar_noAt fun n hn => (hnsPlain n hn).noAt
      txt := fun x hx => absurd hx (parse_no_txt _ _ x)
      plain := parse_plainInv _ _ }
  have h := foldl_buildStep (names ms) (sortByLen ms) is is []
    (sorted_sortByLen ms)
    (fun p hp => List.mem_map.mpr ⟨p, (mem_sortByLen p ms).mp hp, rfl⟩)
    (fun p hp => hplain p ((mem_sortByLen p ms).mp hp))
    (fun p hp => hre p ((mem_sortByLen p ms).mp hp))
    hinv hinv (fun n hn => (mem_names_sortByLen ms n).mpr (hrefs n hn)) (fun _ => Iff.rfl)
  have hfR : fill ((sortByLen ms).map regexVal) = fill (ms.map regexVal) := by
    rw [← sortByLen_map regexVal (fun _ => rfl), fill_sortByLen]
  unfold build
  rw [hesc, h.1, h.2, hfR, capFold_eq_capPass, capPass_congr _ ms (lookup_sortByLen ms)]
  exact ⟨render_fill_eq_tokens ms t, render_capPass_eq_tokens ms t []⟩

end Rio.Marker
