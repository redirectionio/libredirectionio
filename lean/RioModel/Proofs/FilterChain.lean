/-
The chain glue of `FilterBodyAction` for chains without codec stages: `do_filter` (with its `break`), `do_end`
(feeding order, in-flight data), the two error branches and `in_error`.

Main result `run_comp`: for every chunking, the concatenated output of a plain chain is related to the concatenated
input by the relational composition of the stages' stream relations (`Edit` for html and append/prepend text stages).
This holds whether or not the chain fails; when it fails during a `filter` call the proof needs that the stages that
had already consumed the chunk hold nothing.  That is the parameter `ErrSafe` here; Proofs/FilterValid.lean supplies it
(`errSafe_shapeP`, `errSafe_shape`).
-/
import RioModel.Proofs.FilterHtml

namespace Rio.Filter

variable {D E : Type}

/-- bytes a stage holds (what its `end()` would give back) -/
def held : Stage D E → Bytes
  | .html s => endHtml s
  | _ => []

def stageRel : Stage D E → StreamRel
  | .html s => editRel (visIns s.visitor) (visRep s.visitor)
  | .text s => textRel s
  | _ => editRel [] []

def isPlain : Stage D E → Bool
  | .html _ => true
  | .text _ => true
  | _ => false

def isHtml : Stage D E → Bool
  | .html _ => true
  | _ => false

/-- state invariant of a stage; the law `TagSpanS` rides along because only replace visitors need it -/
def StOK (tk : Tokenize) : Stage D E → Prop
  | .html s => s.visitor.kind = .replace → TagSpanS tk ∧ HInv s.stack
  | _ => True

section
variable {tk : Tokenize} (hl : LosslessAll tk) (ev : Bytes → Bytes → Bool) (codec : Codec D E)
include hl

theorem Stage.filter_spec (st st' : Stage D E) (x o : Bytes) (hp : isPlain st = true) (hok : StOK tk st)
    (h : st.filter tk ev codec x = some (st', o)) :
    isPlain st' = true ∧ isHtml st' = isHtml st ∧ StOK tk st' ∧ stageRel st' = stageRel st ∧
    (stageRel st).r (held st ++ x) (o ++ held st') := by
  cases st with
  | html s =>
    simp only [Stage.filter, Option.map_eq_some_iff] at h
    obtain ⟨⟨s', o'⟩, hf, heq⟩ := h
    simp only [Prod.mk.injEq] at heq
    obtain ⟨rfl, rfl⟩ := heq
    obtain ⟨h1, h2, h3⟩ := filterHtml_spec hl ev s s' x o' (fun hk => (hok hk).1) (fun hk => (hok hk).2) hf
    refine ⟨rfl, rfl, ?_, ?_, h3⟩
    · intro hk
      have : s.visitor.kind = .replace := (kind_of_static h1) ▸ hk
      exact ⟨(hok this).1, h2 this⟩
    · simp only [stageRel]
      rw [visIns_of_static h1, visRep_of_static h1]
  | text s =>
    simp only [Stage.filter] at h
    injection h with h
    injection h with h1 h2
    subst h1 h2
    refine ⟨rfl, rfl, trivial, ?_, ?_⟩
    · simp only [stageRel]; exact textRel_filter s x
    · simp only [held, stageRel, List.nil_append, List.append_nil]; exact filterText_rel s x
  | decode d => simp [isPlain] at hp
  | encode e => simp [isPlain] at hp

omit hl in
theorem Stage.end_plain (st : Stage D E) (hp : isPlain st = true) :
    ∃ st' o, st.end codec = some (st', o) ∧ (stageRel st).r (held st) o := by
  cases st with
  | html s => exact ⟨_, _, rfl, (stageRel _).refl _⟩
  | text s => exact ⟨_, _, rfl, endText_rel s⟩
  | decode d => cases hp
  | encode e => cases hp

end

/-- `StagesInv items c e`: `c` = bytes consumed by the first stage so far, `e` = bytes emitted by the last stage so far;
between two stages the stream `m` that has been handed over. -/
def StagesInv : List (Stage D E) → Bytes → Bytes → Prop
  | [], c, e => c = e
  | st :: rest, c, e => ∃ m, (stageRel st).r c (m ++ held st) ∧ StagesInv rest m e

theorem flushHtml_cons (st : Stage D E) (rest : List (Stage D E)) :
    flushHtml (st :: rest) = flushHtml rest ++ held st := by
  unfold flushHtml
  rw [List.reverse_cons, List.flatMap_append, List.flatMap_singleton]
  rfl

@[simp] theorem flushHtml_nil : flushHtml ([] : List (Stage D E)) = [] := rfl

/-- Emitting what every stage holds (last stage first) and then passing `y` through is conservative. -/
theorem StagesInv.flush : ∀ (items : List (Stage D E)) (c e y : Bytes), StagesInv items c e →
    Comp (items.map stageRel) (c ++ y) (e ++ flushHtml items ++ y)
  | [], c, e, y, h => by simp [StagesInv] at h; simp [Comp, h]
  | st :: rest, c, e, y, h => by
    obtain ⟨m, h1, h2⟩ := h
    refine ⟨m ++ held st ++ y, (stageRel st).appR y h1, ?_⟩
    have := StagesInv.flush rest m e (held st ++ y) h2
    rw [flushHtml_cons]
    simpa [List.append_assoc] using this

def AllPlain (items : List (Stage D E)) : Prop := ∀ st ∈ items, isPlain st = true
def AllOK (tk : Tokenize) (items : List (Stage D E)) : Prop := ∀ st ∈ items, StOK tk st
section
variable {tk : Tokenize} (hl : LosslessAll tk) (ev : Bytes → Bytes → Bool) (codec : Codec D E)
include hl

theorem doFilter_ok : ∀ (items items' : List (Stage D E)) (x out c e : Bytes),
    AllPlain items → AllOK tk items → StagesInv items c e →
    doFilter tk ev codec items x = (items', some out) →
    AllPlain items' ∧ AllOK tk items' ∧ items'.map stageRel = items.map stageRel ∧
    StagesInv items' (c ++ x) (e ++ out)
  | [], items', x, out, c, e, _, _, hinv, h => by
    simp [doFilter] at h
    obtain ⟨rfl, rfl⟩ := h
    simp [StagesInv] at hinv ⊢
    exact ⟨fun _ h => by simp at h, fun _ h => by simp at h, hinv⟩
  | st :: rest, items', x, out, c, e, hp, hok, hinv, h => by
    obtain ⟨m, h1, h2⟩ := hinv
    obtain ⟨hp0, hp'⟩ := List.forall_mem_cons.mp hp
    obtain ⟨hok0, hok'⟩ := List.forall_mem_cons.mp hok
    rcases doFilter_cons_cases tk ev codec h with ⟨_, _, hr⟩ | ⟨st', o, hf, hcase⟩
    · cases hr
    · obtain ⟨f1, f2, f3, f4, f5⟩ := Stage.filter_spec hl ev codec st st' x o hp0 hok0 hf
      have hstep : (stageRel st').r (c ++ x) (m ++ o ++ held st') := by
        rw [f4, List.append_assoc]
        exact (stageRel st).step h1 f5
      rcases hcase with ⟨rfl, rfl, ho⟩ | ⟨_, rest', hr, rfl⟩
      · injection ho with ho
        subst ho
        exact ⟨List.forall_mem_cons.mpr ⟨f1, hp'⟩, List.forall_mem_cons.mpr ⟨f3, hok'⟩, by simp [f4],
          ⟨m, by simpa using hstep, by simpa using h2⟩⟩
      · obtain ⟨i1, i2, i3, i5⟩ := doFilter_ok rest rest' o out m e hp' hok' h2 hr
        exact ⟨List.forall_mem_cons.mpr ⟨f1, i1⟩, List.forall_mem_cons.mpr ⟨f3, i2⟩, by simp [f4, i3],
          ⟨m ++ o, hstep, i5⟩⟩

/-- `end()` of a plain stage does not fail, so only the `filter` of the in-flight data can, and the stage then keeps its
state -/
theorem Stage.endWith_spec (st : Stage D E) (d : Option Bytes) (hp : isPlain st = true) (hok : StOK tk st) :
    match (st.endWith tk ev codec d).2 with
    | none => (st.endWith tk ev codec d).1 = st
    | some nd => (stageRel st).r (held st ++ d.getD []) nd := by
  cases d with
  | none =>
    obtain ⟨st', o, he, hr⟩ := Stage.end_plain codec st hp
    simp only [Stage.endWith, he]
    simpa using hr
  | some x =>
    cases hf : st.filter tk ev codec x with
    | none => rw [Stage.endWith_filter_none tk ev codec hf]
    | some r =>
      obtain ⟨st1, o1⟩ := r
      obtain ⟨f1, _, _, f4, f5⟩ := Stage.filter_spec hl ev codec st st1 x o1 hp hok hf
      obtain ⟨st2, o2, he, hr⟩ := Stage.end_plain codec st1 f1
      rw [Stage.endWith_filter_some tk ev codec hf]
      simp only [Stage.endWith, he, Option.map_some]
      rw [f4] at hr
      exact (stageRel st).trans f5 ((stageRel st).appL o1 hr)

/-- `do_end`, success (the end output) or failure (the pass-through of the error branch) -/
theorem doEnd_comp (items : List (Stage D E)) (d : Option Bytes) (c e : Bytes) (hp : AllPlain items)
    (hok : AllOK tk items) (hinv : StagesInv items c e) :
    Comp (items.map stageRel) (c ++ d.getD [])
      (e ++ match (doEnd tk ev codec items d).2 with | .ok r => r.getD [] | .error p => p) := by
  induction items generalizing d c with
  | nil => cases hinv; exact rfl
  | cons st rest ih =>
    have hs := Stage.endWith_spec hl ev codec st d (hp st (by simp)) (hok st (by simp))
    rw [doEnd]
    generalize st.endWith tk ev codec d = w at hs ⊢
    obtain ⟨st', _ | nd⟩ := w
    · cases (hs : st' = st)
      simpa [List.append_assoc] using StagesInv.flush (st' :: rest) c e (d.getD []) hinv
    · obtain ⟨m, h1, h2⟩ := hinv
      have ih := ih (if nd.isEmpty then none else some nd) m (fun s hs => hp s (by simp [hs]))
        (fun s hs => hok s (by simp [hs])) h2
      rw [Rio.Util.ite_isEmpty_getD] at ih
      exact ⟨m ++ nd, (stageRel st).step h1 hs, ih⟩

end

/-- A predicate `ES` on the stages that makes a failure inside `do_filter` harmless: it is kept by a successful call,
and when a call fails the invariant still describes the chain before the chunk (the stages that had already consumed
the chunk hold nothing): the error branch emits what the stages hold, then the chunk itself. -/
structure ErrSafe (tk : Tokenize) (ev : Bytes → Bytes → Bool) (codec : Codec D E) (ES : List (Stage D E) → Prop) : Prop where
  ok : ∀ {items items' : List (Stage D E)} {x out : Bytes}, ES items →
    doFilter tk ev codec items x = (items', some out) → ES items'
  err : ∀ {items items' : List (Stage D E)} {x c e : Bytes}, ES items → StagesInv items c e →
    doFilter tk ev codec items x = (items', none) → items'.map stageRel = items.map stageRel ∧ StagesInv items' c e

/-- Invariant of a chain w.r.t. the input consumed `c` and the output emitted `e` so far.  Failed (`in_error`):
whatever comes is passed through, so all that is left to know is that what has been emitted so far, followed by it, is
related to what has been consumed, followed by it. -/
inductive ChainInv (tk : Tokenize) (ES : List (Stage D E) → Prop) (rels : List StreamRel) (ch : Chain D E) (c e : Bytes) : Prop
  | running : ch.inError = false → AllPlain ch.items → AllOK tk ch.items → ES ch.items →
      ch.items.map stageRel = rels → StagesInv ch.items c e → ChainInv tk ES rels ch c e
  | failed : ch.inError = true → (∀ y, Comp rels (c ++ y) (e ++ y)) → ChainInv tk ES rels ch c e

section
variable {tk : Tokenize} (hl : LosslessAll tk) (ev : Bytes → Bytes → Bool) (codec : Codec D E)
include hl

theorem Chain.filter_inv {ES : List (Stage D E) → Prop} (hes : ErrSafe tk ev codec ES) (rels : List StreamRel)
    (ch : Chain D E) (c e x : Bytes) (h : ChainInv tk ES rels ch c e) :
    ChainInv tk ES rels (ch.filter tk ev codec x).1 (c ++ x) (e ++ (ch.filter tk ev codec x).2) := by
  unfold Chain.filter
  cases h with
  | failed herr hc =>
    rw [if_pos herr]
    exact .failed herr fun y => by simpa [List.append_assoc] using hc (x ++ y)
  | running herr hp hok hes' hrel hinv =>
    rw [if_neg (by rw [herr]; exact Bool.false_ne_true)]
    cases hd : doFilter tk ev codec ch.items x with
    | mk items' r =>
      cases r with
      | some out =>
        obtain ⟨a1, a2, a3, a5⟩ := doFilter_ok hl ev codec ch.items items' x out c e hp hok hinv hd
        exact .running herr a1 a2 (hes.ok hes' hd) (a3.trans hrel) a5
      | none =>
        obtain ⟨a2, a3⟩ := hes.err hes' hinv hd
        refine .failed rfl fun y => ?_
        have := StagesInv.flush items' c e (x ++ y) a3
        rw [a2, hrel] at this
        simpa [List.append_assoc] using this

theorem Chain.feed_inv {ES : List (Stage D E) → Prop} (hes : ErrSafe tk ev codec ES) (rels : List StreamRel) :
    ∀ (xs : List Bytes) (ch : Chain D E) (c e : Bytes), ChainInv tk ES rels ch c e →
    ChainInv tk ES rels (ch.feed tk ev codec xs).1 (c ++ xs.flatten) (e ++ (ch.feed tk ev codec xs).2.flatten)
  | [], ch, c, e, h => by simpa [Chain.feed] using h
  | x :: xs, ch, c, e, h => by
    have h1 := Chain.filter_inv hl ev codec hes rels ch c e x h
    have h2 := Chain.feed_inv hes rels xs _ _ _ h1
    simp only [Chain.feed, List.flatten_cons]
    simpa [List.append_assoc] using h2

theorem Chain.end_comp {ES : List (Stage D E) → Prop} (rels : List StreamRel) (ch : Chain D E) (c e : Bytes) (h : ChainInv tk ES rels ch c e) :
    Comp rels c (e ++ (ch.end tk ev codec).2) := by
  unfold Chain.end
  cases h with
  | failed herr hc =>
    rw [if_pos herr]
    simpa using hc []
  | running herr hp hok _ hrel hinv =>
    rw [if_neg (by rw [herr]; exact Bool.false_ne_true)]
    have := doEnd_comp hl ev codec ch.items none c e hp hok hinv
    rw [hrel] at this
    cases hd : doEnd tk ev codec ch.items none with
    | mk items' res =>
      rw [hd] at this
      cases res <;> simpa using this

theorem Chain.run_comp {ES : List (Stage D E) → Prop} (hes : ErrSafe tk ev codec ES) (rels : List StreamRel)
    (ch : Chain D E) (h : ChainInv tk ES rels ch [] []) (cs : List Bytes) :
    Comp rels cs.flatten (ch.run tk ev codec cs) := by
  have h1 := Chain.feed_inv hl ev codec hes rels cs ch [] [] h
  have h2 := Chain.end_comp hl ev codec rels _ _ _ h1
  simpa [Chain.run, Chain.runOuts] using h2

end

theorem StagesInv.init : ∀ (items : List (Stage D E)), (∀ st ∈ items, held st = []) → StagesInv items [] []
  | [], _ => rfl
  | st :: rest, hheld => by
    refine ⟨[], ?_, StagesInv.init rest fun s hs => hheld s (by simp [hs])⟩
    rw [hheld st (by simp)]; exact (stageRel st).refl _

theorem ChainInv.init (tk : Tokenize) (ES : List (Stage D E) → Prop) (items : List (Stage D E)) (hp : AllPlain items)
    (hok : AllOK tk items) (hone : ES items) (hheld : ∀ st ∈ items, held st = []) :
    ChainInv tk ES (items.map stageRel) { items := items } [] [] :=
  .running rfl hp hok hone rfl (StagesInv.init items hheld)

theorem stage_new_allowed (f : BodyFilter) (ct : Option String) (h : htmlAllowed ct = true) :
    (Stage.new f ct : Option (Stage D E)) = Stage.new f none := by
  cases f with
  | html a p s' v =>
    have h0 : htmlAllowed none = true := rfl
    simp only [Stage.new, h, h0]
  | text a c => rfl

theorem chain_new_gate_open (codec : Codec D E) (lower : String → String) (fs : List BodyFilter)
    (headers : List (String × String))
    (hct : htmlAllowed (headerValue lower Rio.Consts.filterHeaderContentType headers) = true)
    (hce : headerValue lower Rio.Consts.filterHeaderContentEncoding headers = none) :
    (Chain.new codec lower fs headers : Chain D E) = Chain.new codec lower fs [] := by
  have hl : (fs.filterMap fun f => (Stage.new f (headerValue lower Rio.Consts.filterHeaderContentType headers) :
      Option (Stage D E))) = fs.filterMap fun f => (Stage.new f none : Option (Stage D E)) := by
    congr 1
    funext f
    exact stage_new_allowed f _ hct
  have hn : ∀ name, headerValue lower name [] = none := fun _ => rfl
  unfold Chain.new
  simp only [hce, hl, hn]

section
variable (tk : Tokenize) (ev : Bytes → Bytes → Bool) (codec : Codec D E)

theorem feed_empty_chain : ∀ (chunks : List Bytes),
    (({ items := [] } : Chain D E).feed tk ev codec chunks) = ({ items := [] }, chunks)
  | [] => rfl
  | x :: xs => by
    simp only [Chain.feed, Chain.filter, doFilter, Bool.false_eq_true, if_false, feed_empty_chain xs]

theorem run_empty_chain (chunks : List Bytes) :
    (({ items := [] } : Chain D E).run tk ev codec chunks) = chunks.flatten := by
  simp [Chain.run, Chain.runOuts, feed_empty_chain, Chain.end, doEnd]

theorem chain_gate_closed (lower : String → String) (fs : List BodyFilter) (headers : List (String × String))
    (hfs : ∀ f ∈ fs, ∃ a p s v, f = BodyFilter.html a p s v)
    (hct : htmlAllowed (headerValue lower Rio.Consts.filterHeaderContentType headers) = false)
    (chunks : List Bytes) :
    (Chain.new codec lower fs headers : Chain D E).run tk ev codec chunks = chunks.flatten := by
  have hl : (fs.filterMap fun f => (Stage.new f (headerValue lower Rio.Consts.filterHeaderContentType headers) :
      Option (Stage D E))) = [] := by
    rw [List.filterMap_eq_nil_iff]
    intro f hf
    obtain ⟨a, p, s', v, rfl⟩ := hfs f hf
    simp [Stage.new, hct]
  have : (Chain.new codec lower fs headers : Chain D E) = { items := [] } := by
    unfold Chain.new
    simp only [hl, List.isEmpty_nil, if_true]
  rw [this]
  exact run_empty_chain tk ev codec chunks

end

end Rio.Filter
