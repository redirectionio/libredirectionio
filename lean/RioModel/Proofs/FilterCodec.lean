/-
C14: the glue of a compressed chain `decode :: inner ++ [encode]` over an abstract streaming codec.

`innerOut` is what the inner chain produces when it is fed the decoder's non-empty outputs and `do_end` is started
with the decoder's final output; it is the pipeline run `runG` of Proofs/FilterPipe.lean on those pieces
(`innerOut_eq_runG`, Props/C14.lean), and the theorems here are stated with `runG`.

The compressed chain is a pipeline like any other.  By the transposition `runG_cons` the decoder, being the first
stage, hands the rest its non-empty outputs (`runG_decode_cons`), and the stages before the encoder run as they would
without it, so that only the encoder alone has to be looked at (`runG_encode`, `runG_snoc_enc`).
`full_run_spec`: the output of the full chain decodes to what the inner stages produce.
-/
import RioModel.Proofs.FilterPipe

namespace Rio.Filter

variable {D E : Type}

/-- a coder over a list of writes: final state and the output of each write; `none` = some write failed -/
def writes {S : Type} (w : S → Bytes → Option (S × Bytes)) : S → List Bytes → Option (S × List Bytes)
  | s, [] => some (s, [])
  | s, x :: xs =>
    match w s x with
    | none => none
    | some (s', o) =>
      match writes w s' xs with
      | none => none
      | some (s'', os) => some (s'', o :: os)

theorem writes_append {S : Type} (w : S → Bytes → Option (S × Bytes)) :
    ∀ (s : S) (xs ys : List Bytes),
      writes w s (xs ++ ys) =
        match writes w s xs with
        | none => none
        | some (s', os) =>
          match writes w s' ys with
          | none => none
          | some (s'', os') => some (s'', os ++ os')
  | s, [], ys => by
    simp only [List.nil_append, writes]
    cases writes w s ys with
    | none => rfl
    | some r => rfl
  | s, x :: xs, ys => by
    simp only [List.cons_append, writes]
    cases hw : w s x with
    | none => rfl
    | some r =>
      obtain ⟨s', o⟩ := r
      simp only
      rw [writes_append w s' xs ys]
      cases writes w s' xs with
      | none => rfl
      | some r2 =>
        obtain ⟨s2, os⟩ := r2
        simp only
        cases writes w s2 ys with
        | none => rfl
        | some r3 => rfl

/-- the decoder over the chunks of the compressed stream: outputs of the writes, output of finish -/
def decRun (codec : Codec D E) (d : D) (zs : List Bytes) : Option (List Bytes × Bytes) :=
  match writes codec.decWrite d zs with
  | none => none
  | some (d', ps) => (codec.decFinish d').map fun pe => (ps, pe)

def encRun (codec : Codec D E) (e : E) (ws : List Bytes) : Option (List Bytes × Bytes) :=
  match writes codec.encWrite e ws with
  | none => none
  | some (e', os) => (codec.encFinish e').map fun oe => (os, oe)

/-- The two streaming laws of a codec (`decode` = the decoding function of the format, uninterpreted). -/
structure CodecLaws (codec : Codec D E) (d0 : D) (e0 : E) (decode : Bytes → Option Bytes) : Prop where
  /-- decoder streaming: for every partition of a valid stream the drained outputs followed by the output of finish
  concatenate to the decoded body, and no call fails -/
  dec : ∀ (z b : Bytes), decode z = some b → ∀ zs : List Bytes, zs.flatten = z →
    ∃ ps pe, decRun codec d0 zs = some (ps, pe) ∧ ps.flatten ++ pe = b
  /-- encoder streaming: for every sequence of writes, no call fails and the drained outputs followed by the output of
  finish form a complete valid stream that decodes to the concatenation of what was written -/
  enc : ∀ ws : List Bytes, ∃ os oe, encRun codec e0 ws = some (os, oe) ∧ decode (os.flatten ++ oe) = some ws.flatten

variable (tk : Tokenize) (ev : Bytes → Bytes → Bool) (codec : Codec D E)

/-- `do_filter` on `inner ++ [encode e]` with non-empty data: the inner stages run as they would alone; the encoder is
written iff they produced something.  (Trap: `innerFeed` below reuses the matcher this statement generates, and the
statement pins of C14, `tools/pin_statements.py`, hash the elaborated `innerFeed`: the lemma stays in front of it.) -/
theorem doFilter_snoc_enc (e : E) : ∀ (inner : List (Stage D E)) (p : Bytes), p ≠ [] →
    doFilter tk ev codec (inner ++ [.encode e]) p =
      match doFilter tk ev codec inner p with
      | (inner', none) => (inner' ++ [.encode e], none)
      | (inner', some q) =>
        if q.isEmpty then (inner' ++ [.encode e], some q)
        else
          match codec.encWrite e q with
          | none => (inner' ++ [.encode e], none)
          | some (e', w) => (inner' ++ [.encode e'], some w) := by
  intro inner
  induction inner with
  | nil =>
    intro p hp
    have hne : p.isEmpty = false := List.isEmpty_eq_false_iff.mpr hp
    simp only [List.nil_append, doFilter, Stage.filter, hne]
    cases codec.encWrite e p with
    | none => simp
    | some r =>
      obtain ⟨e', w⟩ := r
      simp only [Option.map_some]
      split <;> simp_all
  | cons st inner ih =>
    intro p hp
    rw [List.cons_append]
    cases hf : st.filter tk ev codec p with
    | none => rw [doFilter_cons_none tk ev codec _ hf, doFilter_cons_none tk ev codec _ hf]; rfl
    | some r =>
      obtain ⟨st', o⟩ := r
      by_cases ho : o = []
      · subst ho
        rw [doFilter_cons_empty tk ev codec _ hf, doFilter_cons_empty tk ev codec _ hf]
        rfl
      · rw [doFilter_cons_more tk ev codec _ hf ho, doFilter_cons_more tk ev codec _ hf ho, ih o ho]
        rcases doFilter tk ev codec inner o with ⟨inner', _ | q⟩
        · rfl
        · dsimp only
          split
          · rfl
          · rcases codec.encWrite e q with _ | ⟨e', w⟩ <;> rfl

/-- the inner stages fed the non-empty decoder outputs (an empty one makes `do_filter` stop right after the decoder);
`none` = some stage failed -/
def innerFeed : List (Stage D E) → List Bytes → Option (List (Stage D E) × Bytes)
  | items, [] => some (items, [])
  | items, p :: ps =>
    if p.isEmpty then innerFeed items ps
    else
      match doFilter tk ev codec items p with
      | (_, none) => none
      | (items', some q) => (innerFeed items' ps).map fun (it, qs) => (it, q ++ qs)

/-- everything the inner stages hand to the encoder: their outputs for the decoder's chunks, then `do_end` started
with the decoder's final output -/
def innerOut (inner : List (Stage D E)) (ps : List Bytes) (pe : Bytes) : Option Bytes :=
  match innerFeed tk ev codec inner ps with
  | none => none
  | some (inner', qs) =>
    match doEnd tk ev codec inner' (if pe.isEmpty then none else some pe) with
    | (_, .ok r) => some (qs ++ r.getD [])
    | (_, .error _) => none

theorem innerFeed_eq_feedG : ∀ (ps : List Bytes) (inner : List (Stage D E)),
    innerFeed tk ev codec inner ps = feedG tk ev codec inner (nonEmpty ps)
  | [], inner => rfl
  | p :: ps, inner => by
    simp only [innerFeed, nonEmpty, List.filter]
    by_cases hemp : p.isEmpty = true
    · simp only [hemp, if_true, Bool.not_true]
      exact innerFeed_eq_feedG ps inner
    · simp only [hemp, Bool.false_eq_true, if_false, Bool.not_false, feedG]
      cases doFilter tk ev codec inner p with
      | mk items1 r =>
        cases r with
        | none => rfl
        | some q =>
          simp only
          rw [innerFeed_eq_feedG ps items1]
          rfl

theorem stFeed_writes {S : Type} (mk : S → Stage D E) (w : S → Bytes → Option (S × Bytes))
    (h : ∀ s x, (mk s).filter tk ev codec x = (w s x).map fun r => (mk r.1, r.2)) :
    ∀ (ps : List Bytes) (s : S), stFeed tk ev codec (mk s) ps = (writes w s ps).map fun r => (mk r.1, r.2)
  | [], _ => rfl
  | p :: ps, s => by
    rw [stFeed, writes, h]
    cases w s p with
    | none => rfl
    | some r =>
      simp only [Option.map_some]
      rw [stFeed_writes mk w h ps r.1]
      cases writes w r.1 ps <;> rfl

theorem runG_decode_cons (d : D) (rest : List (Stage D E)) (zs ps : List Bytes) (pe : Bytes)
    (h : decRun codec d zs = some (ps, pe)) :
    runG tk ev codec (.decode d :: rest) zs none = runG tk ev codec rest (nonEmpty ps) (optB pe) := by
  rw [runG_cons, stFeed_writes tk ev codec .decode codec.decWrite (fun _ _ => rfl)]
  unfold decRun at h
  cases hw : writes codec.decWrite d zs with
  | none => rw [hw] at h; cases h
  | some r =>
    rw [hw] at h
    obtain ⟨pe', hfin, heq⟩ := Option.map_eq_some_iff.mp h
    cases heq
    simp only [Option.map_some, Stage.endWith, Stage.end, hfin]

section
variable {d0 : D} {e0 : E} {decode : Bytes → Option Bytes} (laws : CodecLaws codec d0 e0 decode)
include laws

/-- the encoder is written the pieces, then the in-flight data of `do_end` if there is some, then finished: the encoder
law for these writes -/
theorem runG_encode (ps : List Bytes) (fin : Option Bytes) :
    ∃ z, runG tk ev codec [.encode e0] ps fin = some z ∧ decode z = some (ps.flatten ++ fin.getD []) := by
  obtain ⟨os, oe, h1, h2⟩ := laws.enc (ps ++ fin.toList)
  rw [runG_cons, stFeed_writes tk ev codec .encode codec.encWrite (fun _ _ => rfl)]
  unfold encRun at h1
  rw [writes_append] at h1
  cases hw : writes codec.encWrite e0 ps with
  | none => rw [hw] at h1; cases h1
  | some r =>
    obtain ⟨e, os1⟩ := r
    rw [hw] at h1
    simp only [Option.map_some]
    cases fin with
    | none =>
      simp only [Option.toList_none, writes, Option.map_eq_some_iff] at h1
      obtain ⟨oe', hfin, heq⟩ := h1
      cases heq
      refine ⟨os1.flatten ++ oe, ?_, by simpa using h2⟩
      simp only [Stage.endWith, Stage.end, hfin, Option.map_some, runG_nil, nonEmpty_flatten, optB_getD]
    | some q =>
      simp only [Option.toList_some, writes] at h1
      cases hq : codec.encWrite e q with
      | none => rw [hq] at h1; cases h1
      | some r =>
        obtain ⟨e1, w⟩ := r
        rw [hq] at h1
        simp only [Option.map_eq_some_iff] at h1
        obtain ⟨oe', hfin, heq⟩ := h1
        cases heq
        refine ⟨os1.flatten ++ (w ++ oe), ?_, by simpa using h2⟩
        simp only [Stage.endWith, Stage.filter, hq, Stage.end, hfin, Option.map_some, runG_nil, nonEmpty_flatten, optB_getD]

theorem runG_snoc_enc (inner : List (Stage D E)) (ps : List Bytes) (fin : Option Bytes) (out : Bytes)
    (h : runG tk ev codec inner ps fin = some out) :
    ∃ z, runG tk ev codec (inner ++ [.encode e0]) ps fin = some z ∧ decode z = some out := by
  induction inner generalizing ps fin with
  | nil =>
    rw [runG_nil] at h
    cases h
    exact runG_encode tk ev codec laws ps fin
  | cons st rest ih =>
    rw [List.cons_append, runG_cons]
    rw [runG_cons] at h
    cases hfe : stFeed tk ev codec st ps with
    | none => rw [hfe] at h; cases h
    | some r =>
      rw [hfe] at h
      simp only at h ⊢
      cases hw : r.1.endWith tk ev codec fin with
      | mk st2 x =>
        rw [hw] at h
        cases x with
        | none => cases h
        | some nd => exact ih _ _ h

theorem full_run_spec (inner : List (Stage D E)) (zs ps : List Bytes) (pe out : Bytes)
    (hdec : decRun codec d0 zs = some (ps, pe))
    (hin : runG tk ev codec inner (nonEmpty ps) (optB pe) = some out) :
    decode (({ items := .decode d0 :: inner ++ [.encode e0] } : Chain D E).run tk ev codec zs) = some out := by
  obtain ⟨z, h1, h2⟩ := runG_snoc_enc tk ev codec laws inner _ _ out hin
  rw [← runG_decode_cons tk ev codec d0 _ zs ps pe hdec] at h1
  rwa [List.cons_append, run_of_runG tk ev codec zs _ z h1]

end

end Rio.Filter
