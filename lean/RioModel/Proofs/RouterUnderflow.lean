/-
Router proofs: NO `self.count -= 1` of ANY matcher of the tower underflows.

`Rio.C02.count_no_underflow` is about the outermost matcher.  `remove` of a matcher calls `remove` of its buckets
(`any_*` first, then – `retain` – EVERY keyed bucket), so one `Router::remove` executes many decrements, in all
seven layers.  The model's `count - 1` is a truncated subtraction; here the decrement sites are made explicit:
`under id m` is the executable predicate "while `remove id` runs on the state `m`, some `count -= 1` – of this
matcher or of any bucket below it – finds `count == 0`" (in the code: a panic with overflow checks, a wrap-around
without), defined layer by layer along the control flow of the `remove` functions, and `safe` proves it false in
every state that represents a rule list.  The two decrements of each matcher (`any` bucket hit / keyed bucket hit;
for the path matcher: tree hit / static hit) are both guarded by "the route was found", which is why one clause
per matcher suffices.
-/
import RioModel.Proofs.RouterTreeTop

namespace Rio.Router
open Rio.Tree

/-- A decrement-site detector with the proof that it never fires in a represented state.  The type alone says little
(`under := fun _ _ => false` inhabits it): the content is in the detectors given below (`lUnderflow`,
`HostT.underflow`, `leafUFlow`), each a transcription of the control flow of the layer's `remove` with `count == 0`
tested at every decrement; Props/C02 shows by examples that they do fire in states outside the representation. -/
structure UFlow (I : MOps) (Repr : I.M → List Route → Prop) where
  /-- some `count -= 1` executed by `remove id` on this state (here or in a bucket below) finds `count == 0` -/
  under : String → I.M → Bool
  safe : ∀ m L id, Repr m L → under id m = false

/-- The innermost matcher (`PathAndQueryMatcher`, over the specification of its tree or over the tree model): both
decrements (`regex_tree_rule.remove(id)` found the route / a static bucket held it) are executed iff `remove`
returns the route. -/
def leafUFlow {I : MOps} (IL : MLaws I) : UFlow I IL.Repr where
  under := fun id m => (I.remove id m).2.isSome && I.len m == 0
  safe := by
    intro m L id h
    cases hs : (I.remove id m).2.isSome
    · rfl
    · have := IL.remove_pos m L id h hs
      have h0 : (I.len m == 0) = false := by simp; omega
      simp [h0]

section
variable {K : Type} [DecidableEq K] (I : MOps)

/-- `remove` of the six outer matchers, decrement sites made explicit: `self.any_*.remove(id)` runs first (and may
underflow below); if it found the route, `self.count -= 1`; otherwise `retain` runs `remove(id)` on EVERY keyed
bucket, and if one of them held the route, `self.count -= 1`. -/
def lUnderflow (Iu : String → I.M → Bool) (id : String) (s : LState I K) : Bool :=
  Iu id s.any ||
    (if (I.remove id s.any).2.isSome then s.count == 0
     else s.map.any (fun e => Iu id e.2) || ((removeAll I id s.map).2.isSome && s.count == 0))

variable {I} (IL : MLaws I) (keysOf : Route → Option (List K))

theorem lUnderflow_safe (U : UFlow I IL.Repr) (s : LState I K) (L : List Route) (id : String)
    (h : LRepr IL keysOf s L) : lUnderflow I U.under id s = false := by
  unfold lUnderflow
  have hany := U.safe _ _ id h.any
  have hmap : s.map.any (fun e => U.under id e.2) = false := by
    rw [List.any_eq_false]
    intro e he
    have := U.safe _ _ id (h.bucket he)
    simp [this]
  rw [hany, Bool.false_or, hmap, Bool.false_or]
  have hpos := lremove_pos IL keysOf s L id h
  cases ha : (I.remove id s.any).2.isSome
  · simp only [Bool.false_eq_true, if_false]
    exact Rio.Util.guard_count (fun hr => hpos (by simp [lRemove, ha, hr]))
  · simp only [if_true]
    exact beq_false_of_ne (Nat.ne_of_gt (hpos (by simp [lRemove, ha])))

def outerUFlow (U : UFlow I IL.Repr) (mr : LState I K → Req → List Route) (tr : LState I K → Req → List Trace) :
    UFlow (outerOps I keysOf mr tr) (LRepr IL keysOf) where
  under := lUnderflow I U.under
  safe := fun s L id h => lUnderflow_safe IL keysOf U s L id h

end

section
variable (T : TEnv) (Good : List Char → Prop) {I : MOps} (IL : MLaws I) (hPS : PrefixSound T.engine Good)

/-- `HostMatcher::remove`, decrement sites made explicit: `any_host.remove(id)`; if found `count -= 1`; otherwise
BOTH `retain`s run `remove(id)` on every static bucket and on every bucket of the regex tree, then `count -= 1` if
one of them held the route. -/
def HostT.underflow (Iu : String → I.M → Bool) (id : String) (s : HostTState I) : Bool :=
  Iu id s.any ||
    (if (I.remove id s.any).2.isSome then s.count == 0
     else s.statics.any (fun e => Iu id e.2) || s.tree.contents.any (fun e => Iu id e.val) ||
       ((HostT.remove I id s).2.isSome && s.count == 0))

/-- The detector of the host matcher over the real tree is the detector of the shared shape on the abstracted state:
the two `retain`s visit the buckets `absH` lists. -/
theorem HostT.underflow_eq (Iu : String → I.M → Bool) (id : String) (s : HostTState I) :
    HostT.underflow Iu id s = lUnderflow I Iu id (absH s) := by
  unfold HostT.underflow lUnderflow
  rw [show (absH s).any = s.any from rfl, show (absH s).count = s.count from rfl]
  cases hra : (I.remove id s.any).2 with
  | some r0 => rfl
  | none =>
    have h := htremove_isSome id s
    rw [lRemove_of_none id (absH s) hra] at h
    rw [h]
    simp only [absH, staticMap, treeMap, List.any_append, List.any_map, Function.comp_def]

set_option linter.unusedSectionVars false in -- `hostTUFlow` passes `hPS`
include hPS in
theorem HostT.underflow_safe (U : UFlow I IL.Repr) (s : HostTState I) (L : List Route) (id : String)
    (h : HTRepr T Good IL s L) : HostT.underflow U.under id s = false := by
  rw [HostT.underflow_eq]
  exact lUnderflow_safe IL (Host.keysOf T.host) U (absH s) L id h.repr

def hostTUFlow (U : UFlow I IL.Repr) : UFlow (hostTOps T I) (HTRepr T Good IL) where
  under := HostT.underflow U.under
  safe := fun s L id h => HostT.underflow_safe T Good IL hPS U s L id h

end

section
variable (E : Env) {P0 : MOps} (PL : MLaws P0) (UP : UFlow P0 PL.Repr)

def dateTimeU : UFlow (dateTimeOps P0) (dateTimeL PL).Repr := outerUFlow PL DateTime.keysOf UP _ _
def headerU : UFlow (headerOps E (dateTimeOps P0)) (headerL E PL).Repr :=
  outerUFlow (dateTimeL PL) (Header.keysOf E) (dateTimeU PL UP) _ _
def methodU : UFlow (methodOps (headerOps E (dateTimeOps P0))) (methodL E PL).Repr :=
  outerUFlow (headerL E PL) Method.keysOf (headerU E PL UP) _ _
def ipU : UFlow (ipOps (methodOps (headerOps E (dateTimeOps P0)))) (ipL E PL).Repr :=
  outerUFlow (methodL E PL) Ip.keysOf (methodU E PL UP) _ _

variable {P : Type} [DecidableEq P] (H : HostCfg P)

def hostU : UFlow (hostOps H (ipOps (methodOps (headerOps E (dateTimeOps P0))))) (hostL E PL H).Repr :=
  outerUFlow (ipL E PL) (Host.keysOf H) (ipU E PL UP) _ _
def towerU : UFlow (schemeOps (hostOps H (ipOps (methodOps (headerOps E (dateTimeOps P0)))))) (towerL E PL H).Repr :=
  outerUFlow (hostL E PL H) Scheme.keysOf (hostU E PL UP H) _ _

/-- The detector of the whole specification-level tower: all 14 decrement sites of the seven matchers. -/
def towerUFlow : UFlow (towerOps E) (towerLaws E).Repr := towerU E (pathLaws E) (leafUFlow (pathLaws E)) (specHost E)

end

section
variable (T : TEnv) (Good : List Char → Prop) (hPS : PrefixSound T.engine Good)

/-- The detector of the tower over the real regex trees (`HostMatcher` and `PathAndQueryMatcher` over tree models). -/
def towerTUFlow : UFlow (towerTOps T) (towerTLaws T Good hPS).Repr :=
  outerUFlow (hostTLaws T Good (innerTLaws T Good hPS) hPS) Scheme.keysOf
    (hostTUFlow T Good (innerTLaws T Good hPS) hPS
      (ipU T.env (pathTLaws T Good hPS) (leafUFlow (pathTLaws T Good hPS)))) _ _

end

end Rio.Router
