/-
C15, byte level: a decidable RECOGNISER of the `Simple` grammar (`SimpleL simpleLaws`, Proofs/FilterDomUniv.lean +
FilterDomLaws.lean) with a soundness proof, so that the driver can count on how many generated documents the universal
theorems (`tokenize_serialize_universal`, `end_to_end_universal`, `compose_universal`) apply.

The attribute text of a tag is given generatively in the grammar (`∃ as trail, a = attrsOf as ++ trail ∧ …`); the
recogniser parses it greedily (`parseAttrs`): white space, key, `=` + quoted / unquoted value or nothing, repeated.
Soundness only (what the recogniser accepts is in the grammar); it is not claimed to accept all of the grammar.
-/
import RioModel.Proofs.FilterDomLaws

namespace Rio.Filter
open Rio.Html Rio.Html.Tokenizer Rio.Consts

theorem not_contains_takeWhile_ne (c : Nat) (l : Bytes) : (l.takeWhile (· != c)).contains c = false := by
  cases h : (l.takeWhile (· != c)).contains c with
  | false => rfl
  | true =>
    have hm : c ∈ l.takeWhile (· != c) := by simpa using h
    have := mem_takeWhile_true (· != c) l c hm
    simp at this

/-- the value that stands after the `=` (and the white space following the `=`) -/
def parseBody (r : Bytes) : Option (SVal × Bytes) :=
  match r with
  | 34 :: r' =>
    match r'.dropWhile (· != 34) with
    | 34 :: rest => some (.dq (r'.takeWhile (· != 34)), rest)
    | _ => none
  | 39 :: r' =>
    match r'.dropWhile (· != 39) with
    | 39 :: rest => some (.sq (r'.takeWhile (· != 39)), rest)
    | _ => none
  | _ =>
    if (SVal.unq (r.takeWhile unqByte)).ok then some (.unq (r.takeWhile unqByte), r.dropWhile unqByte) else none

theorem quoted_split {q : Nat} {r' rest : Bytes} (hd : r'.dropWhile (· != q) = q :: rest) :
    q :: r' = [q] ++ r'.takeWhile (· != q) ++ [q] ++ rest := by
  have := List.takeWhile_append_dropWhile (p := (· != q)) (l := r')
  rw [hd] at this
  simp only [List.cons_append, List.nil_append, List.append_assoc, List.cons.injEq, true_and]
  exact this.symm

theorem parseBody_sound {r : Bytes} {v : SVal} {rest : Bytes} (h : parseBody r = some (v, rest)) :
    r = v.body ++ rest ∧ v.ok = true ∧ v ≠ .none := by
  revert h
  -- cases 1, 3: a closed `"…"`, `'…'`; 2, 4: the quote is not closed; 5, 6: an unquoted value, accepted or not
  fun_cases parseBody r <;> intro h
  case case1 hd | case3 hd =>
    cases h
    exact ⟨quoted_split hd, by simp only [SVal.ok, not_contains_takeWhile_ne]; rfl, by simp⟩
  case case2 | case4 => cases h
  case case5 hok _ _ =>
    rw [if_pos hok] at h
    cases h
    exact ⟨(List.takeWhile_append_dropWhile (p := unqByte) (l := r)).symm, hok, by simp⟩
  case case6 hok _ _ => rw [if_neg hok] at h; cases h

/-- what follows a key: nothing (bare key; the white space stays for the next attribute), or white space, `=`, white
space, value: (value, ws1, ws2, rest) -/
def parseVal (r : Bytes) : Option (SVal × Bytes × Bytes × Bytes) :=
  match r.dropWhile isWs with
  | 61 :: r2 =>
    match parseBody (r2.dropWhile isWs) with
    | some (v, rest) => some (v, r.takeWhile isWs, r2.takeWhile isWs, rest)
    | none => none
  | _ => some (.none, [], [], r)

theorem parseVal_sound {r : Bytes} {v : SVal} {w1 w2 rest : Bytes} (ws key : Bytes)
    (h : parseVal r = some (v, w1, w2, rest)) :
    r = (SAttr.mk ws key v w1 w2).vtext ++ rest ∧ v.ok = true ∧ (SAttr.mk ws key v w1 w2).wsOK = true := by
  revert h
  -- what `cases h` leaves: case 1, `=` and a value; case 3, no `=` (a bare key)
  fun_cases parseVal r <;> intro h <;> cases h
  case case1 r2 hd hb =>
    obtain ⟨e, ok, hne⟩ := parseBody_sound hb
    have s1 := List.takeWhile_append_dropWhile (p := isWs) (l := r)
    have s2 := List.takeWhile_append_dropWhile (p := isWs) (l := r2)
    refine ⟨?_, ok, ?_⟩
    · rw [SAttr.vtext_some (a := SAttr.mk ws key v _ _) hne]
      simp only [List.append_assoc]
      rw [← e, s2]
      simp only [List.cons_append, List.nil_append]
      rw [← hd, s1]
    · simp only [SAttr.wsOK, List.all_takeWhile, Bool.true_and, Bool.or_eq_true, bne_iff_ne, ne_eq]
      exact Or.inl hne
  case case3 => exact ⟨by simp [SAttr.vtext], rfl, by simp [SAttr.wsOK]⟩

/-- (white space, key, value)* + trailing white space; the fuel is the length of the text + 1 -/
def parseAttrsGo : Nat → Bytes → Option (List SAttr × Bytes)
  | 0, _ => none
  | n + 1, a =>
    if (a.dropWhile isWs).isEmpty then some ([], a.takeWhile isWs)
    else if (a.takeWhile isWs).isEmpty then none
    else if ((a.dropWhile isWs).takeWhile keyByte).isEmpty then none
    else
      match parseVal ((a.dropWhile isWs).dropWhile keyByte) with
      | none => none
      | some (v, w1, w2, rest) =>
        match parseAttrsGo n rest with
        | none => none
        | some (as, trail) =>
          some (⟨a.takeWhile isWs, (a.dropWhile isWs).takeWhile keyByte, v, w1, w2⟩ :: as, trail)

def parseAttrs (a : Bytes) : Option (List SAttr × Bytes) := parseAttrsGo (a.length + 1) a

theorem parseAttrsGo_sound (n : Nat) (a : Bytes) (as : List SAttr) (trail : Bytes)
    (h : parseAttrsGo n a = some (as, trail)) :
    a = attrsOf as ++ trail ∧ (∀ x ∈ as, x.ok = true) ∧ (∀ b ∈ trail, isWs b = true) := by
  revert h
  -- the branches that return something: only white space is left; an attribute, then the rest
  fun_induction parseAttrsGo n a generalizing as trail <;> intro h <;> cases h
  case case2 n a he =>
    have hsplit := List.takeWhile_append_dropWhile (p := isWs) (l := a)
    rw [List.isEmpty_iff.mp he, List.append_nil] at hsplit
    exact ⟨by simp [attrsOf, hsplit], fun _ hx => (nomatch hx), fun b hb => mem_takeWhile_true isWs a b hb⟩
  case case7 n a _ hws hkey v w1 w2 rest hv as' trail' hr ih =>
    obtain ⟨ih1, ih2, ih3⟩ := ih as' trail' hr
    obtain ⟨hv1, hv2, hv3⟩ := parseVal_sound (a.takeWhile isWs) ((a.dropWhile isWs).takeWhile keyByte) hv
    refine ⟨?_, ?_, ih3⟩
    · simp only [attrsOf, SAttr.text, List.append_assoc]
      rw [← ih1, ← hv1, List.takeWhile_append_dropWhile, List.takeWhile_append_dropWhile]
    · intro x hx
      rcases List.mem_cons.mp hx with rfl | hx
      · simp only [SAttr.ok, Bool.and_eq_true, Bool.not_eq_true']
        exact ⟨⟨⟨⟨⟨by simpa using hws, List.all_takeWhile⟩, by simpa using hkey⟩, List.all_takeWhile⟩, hv2⟩, hv3⟩
      · exact ih2 x hx

theorem parseAttrs_sound {a : Bytes} {as : List SAttr} {trail : Bytes} (h : parseAttrs a = some (as, trail)) :
    a = attrsOf as ++ trail ∧ (∀ x ∈ as, x.ok = true) ∧ (∀ b ∈ trail, isWs b = true) :=
  parseAttrsGo_sound _ a as trail h

theorem parseAttrs_isSome {a : Bytes} (h : (parseAttrs a).isSome = true) :
    ∃ (as : List SAttr) (trail : Bytes), a = attrsOf as ++ trail ∧ (∀ x ∈ as, x.ok = true) ∧
      (∀ b ∈ trail, isWs b = true) := by
  obtain ⟨⟨as, trail⟩, hp⟩ := Option.isSome_iff_exists.mp h
  exact ⟨as, trail, parseAttrs_sound hp⟩

def nameOKUB (d : Bytes) : Bool := nameOK2 d && d.all (· < 128)

theorem nameOKUB_sound {d : Bytes} (h : nameOKUB d = true) : NameOKU d := by
  simp only [nameOKUB, Bool.and_eq_true, List.all_eq_true, decide_eq_true_eq] at h
  exact h

def startOKB (d a : Bytes) : Bool :=
  nameOKUB d && !isRawName (lowerName d) && (parseAttrs a).isSome

def selfOKB (d a : Bytes) : Bool :=
  nameOKUB d && !isRawName (lowerName d) &&
    (match parseAttrs a with
     | some (as, trail) => endOK as trail .slashGt
     | none => false)

def rawOKB (d a c : Bytes) : Bool :=
  nameOK d && isRawName (lowerName d) && (lowerName d != Rio.Consts.htmlPlaintext) && (parseAttrs a).isSome &&
    rawOK2 ((lowerName d).headD 0) c

/-- `<!--` body `-->` with `commentOK2 body`, or `<!` + DOCTYPE keyword + text free of `>` + `>`, or `<?` + text free of
`>` + `>` -/
def otherOKB (x : Bytes) : Bool :=
  (decide (7 ≤ x.length) && x.take 4 == [60, 33, 45, 45] && x.drop (x.length - 3) == [45, 45, 62] &&
    commentOK2 ((x.drop 4).take (x.length - 7))) ||
  (decide (3 ≤ x.length) && x.take 2 == [60, 63] && x.drop (x.length - 1) == [62] &&
    ((x.drop 2).take (x.length - 3)).all (· != 62)) ||
  (decide (2 + htmlDoctypePat.length + 1 ≤ x.length) && x.take 2 == [60, 33] && x.drop (x.length - 1) == [62] &&
    doctypeOK ((x.drop 2).take htmlDoctypePat.length)
      ((x.drop (2 + htmlDoctypePat.length)).take (x.length - (2 + htmlDoctypePat.length + 1))))

theorem startOKB_sound {d a : Bytes} (h : startOKB d a = true) : StartOKU d a := by
  simp only [startOKB, Bool.and_eq_true, Bool.not_eq_true'] at h
  obtain ⟨⟨h1, h2⟩, h3⟩ := h
  exact ⟨nameOKUB_sound h1, h2, parseAttrs_isSome h3⟩

theorem selfOKB_sound {d a : Bytes} (h : selfOKB d a = true) : SelfOKU d a := by
  simp only [selfOKB, Bool.and_eq_true, Bool.not_eq_true'] at h
  obtain ⟨⟨h1, h2⟩, h3⟩ := h
  cases hp : parseAttrs a with
  | none => rw [hp] at h3; cases h3
  | some r =>
    obtain ⟨as, trail⟩ := r
    rw [hp] at h3
    obtain ⟨e, ok, ws⟩ := parseAttrs_sound hp
    exact ⟨nameOKUB_sound h1, h2, as, trail, e, ok, ws, h3⟩

theorem rawOKB_sound {d a c : Bytes} (h : rawOKB d a c = true) : RawOKU d a c := by
  simp only [rawOKB, Bool.and_eq_true, bne_iff_ne, ne_eq] at h
  obtain ⟨⟨⟨⟨h1, h2⟩, h3⟩, h4⟩, h5⟩ := h
  exact ⟨h1, h2, h3, parseAttrs_isSome h4, h5⟩

theorem take_append_mid_drop (x : Bytes) (i j : Nat) :
    x = x.take i ++ (x.drop i).take j ++ x.drop (i + j) := by
  rw [List.append_assoc, ← List.drop_drop, List.take_append_drop, List.take_append_drop]

theorem otherOKB_sound {x : Bytes} (h : otherOKB x = true) : OtherOKU x := by
  simp only [otherOKB, Bool.or_eq_true, Bool.and_eq_true, decide_eq_true_eq, beq_iff_eq] at h
  rcases h with (⟨⟨⟨hlen, h4⟩, h3⟩, hb⟩ | ⟨⟨⟨hlen, h2⟩, h1⟩, hq⟩) | ⟨⟨⟨hlen, h2⟩, h1⟩, hd⟩
  · refine Or.inl ⟨(x.drop 4).take (x.length - 7), hb, ?_⟩
    have := take_append_mid_drop x 4 (x.length - 7)
    rw [show 4 + (x.length - 7) = x.length - 3 by omega, h4, h3] at this
    exact this
  · refine Or.inr (Or.inr ⟨(x.drop 2).take (x.length - 3), ?_, ?_⟩)
    · intro b hb
      have := List.all_eq_true.mp hq b hb
      simpa using this
    · have := take_append_mid_drop x 2 (x.length - 3)
      rw [show 2 + (x.length - 3) = x.length - 1 by omega, h2, h1] at this
      exact this
  · refine Or.inr <| Or.inl ⟨(x.drop 2).take htmlDoctypePat.length,
      (x.drop (2 + htmlDoctypePat.length)).take (x.length - (2 + htmlDoctypePat.length + 1)), hd, ?_⟩
    have e1 := take_append_mid_drop x 2 htmlDoctypePat.length
    have e2 := take_append_mid_drop (x.drop (2 + htmlDoctypePat.length)) 0
      (x.length - (2 + htmlDoctypePat.length + 1))
    simp only [List.take_zero, List.nil_append, Nat.zero_add, List.drop_drop] at e2
    rw [show 2 + htmlDoctypePat.length + (x.length - (2 + htmlDoctypePat.length + 1)) = x.length - 1 by omega, h1] at e2
    rw [e2, h2] at e1
    simpa [List.append_assoc] using e1

mutual
  def simpleNB : Node → Bool
    | .verb raw _ => (!raw.isEmpty && textOKB raw) || otherOKB raw
    | .el nm d a knd cs =>
      (nm == lowerName d) &&
      (match knd with
       | .normal => startOKB d a && nameOKUB d && simpleLB cs
       | .void => startOKB d a
       | .selfClosing => selfOKB d a
       | .raw => rawOKB d a (serializeList cs))
  def simpleLB : List Node → Bool
    | [] => true
    | n :: ns =>
      simpleNB n &&
      (match ns with
       | [] => true
       | m :: _ => !(isTextB n && isTextB m)) &&
      simpleLB ns
end

mutual
  theorem simpleNB_sound : ∀ (n : Node), simpleNB n = true → SimpleN simpleLaws n
    | .verb raw m, h => by
      unfold SimpleN
      simp only [simpleNB, Bool.or_eq_true, Bool.and_eq_true, Bool.not_eq_true', List.isEmpty_eq_false_iff] at h
      rcases h with ⟨h1, h2⟩ | h
      · exact Or.inl ⟨h1, h2⟩
      · exact Or.inr (otherOKB_sound h)
    | .el nm d a knd cs, h => by
      unfold SimpleN
      cases knd <;> simp only [simpleNB, Bool.and_eq_true, beq_iff_eq] at h
      case normal => exact ⟨h.1, startOKB_sound h.2.1.1, nameOKUB_sound h.2.1.2, simpleLB_sound cs h.2.2⟩
      case void => exact ⟨h.1, startOKB_sound h.2⟩
      case selfClosing => exact ⟨h.1, selfOKB_sound h.2⟩
      case raw => exact ⟨h.1, rawOKB_sound h.2⟩
  theorem simpleLB_sound : ∀ (ns : List Node), simpleLB ns = true → SimpleL simpleLaws ns
    | [], _ => by unfold SimpleL; trivial
    | n :: ns, h => by
      unfold SimpleL
      simp only [simpleLB, Bool.and_eq_true] at h
      refine ⟨simpleNB_sound n h.1.1, ?_, simpleLB_sound ns h.2⟩
      cases ns with
      | nil => trivial
      | cons m _ => exact fun hh => by simp [hh.1, hh.2] at h
end

def stepsSimpleB (ev : Bytes → Bytes → Bool) : List Node → List BodyFilter → Bool
  | _, [] => true
  | d, f :: fs =>
    simpleLB d && decide (utf8Split (serializeList d) = some (serializeList d, [])) && decide (NoHeld d) &&
    inDomainB htmlTokenize vtU d f &&
    (fs.isEmpty || !(serializeList (editD (decOf ev) d f)).isEmpty) &&
    stepsSimpleB ev (editD (decOf ev) d f) fs

theorem stepsSimpleB_sound (ev : Bytes → Bytes → Bool) : ∀ (fs : List BodyFilter) (d : List Node),
    stepsSimpleB ev d fs = true → StepsSimple simpleLaws ev d fs
  | [], _, _ => trivial
  | f :: fs, d, h => by
    unfold stepsSimpleB at h
    simp only [Bool.and_eq_true, Bool.or_eq_true, Bool.not_eq_true', List.isEmpty_eq_false_iff, List.isEmpty_iff,
      decide_eq_true_eq] at h
    obtain ⟨⟨⟨⟨⟨h1, h2⟩, hh⟩, h3⟩, h4⟩, h5⟩ := h
    exact ⟨simpleLB_sound d h1, h2, hh, inDomainB_sound htmlTokenize vtU h3, h4.resolve_left,
      stepsSimpleB_sound ev fs _ h5⟩

/-- tags whose names are the lower-cased display names and whose texts the grammar `Simple` admits are tokenised as
expected on their own: the laws of the readers (`simpleLaws`) say so -/
theorem Vocab.ok_of_laws (V : Vocab)
    (hs : V.starts.all (fun x => x.1 == lowerName x.2.1 && startOKB x.2.1 x.2.2) = true)
    (hf : V.selfs.all (fun x => x.1 == lowerName x.2.1 && selfOKB x.2.1 x.2.2) = true)
    (he : V.ends.all (fun x => x.1 == lowerName x.2 && nameOKUB x.2) = true) : V.ok = true := by
  simp only [List.all_eq_true, Bool.and_eq_true, beq_iff_eq] at hs hf he
  simp only [Vocab.ok, List.all_eq_true, Bool.and_eq_true]
  refine ⟨⟨fun x hx => ?_, fun x hx => ?_⟩, fun x hx => ?_⟩
  · obtain ⟨hc, ho⟩ := simpleLaws.start_closed _ _ (startOKB_sound (hs x hx).2)
    rw [(hs x hx).1]
    exact ⟨closedB_iff.mpr hc, startsOpenerB_iff.mpr ho⟩
  · obtain ⟨hc, ho⟩ := simpleLaws.self_closed _ _ (selfOKB_sound (hf x hx).2)
    rw [(hf x hx).1]
    exact ⟨closedB_iff.mpr hc, startsOpenerB_iff.mpr ho⟩
  · rw [(he x hx).1]
    exact closedB_iff.mpr (simpleLaws.end_closed _ (nameOKUB_sound (he x hx).2))

end Rio.Filter
