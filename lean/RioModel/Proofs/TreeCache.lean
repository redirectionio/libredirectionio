/-
`cache` only writes cached values (`compiled`): it never underflows its budget, always terminates, returns a
budget ≤ the one it was given, and leaves the tree unchanged up to those values (`strip`).  `contents`, `get`, `len`, and
(under the invariant, for non-empty leaf patterns) the trace, hence `find`, are functions of the stripped tree; the
invariant survives stripping and is kept exactly by `cache`.  Also the basic facts about `trace.rs` (`Item.trace`): the
values under its matched leaves are `find`, its counts are `len()`.
-/
import RioModel.Proofs.TreeShape
set_option linter.unusedSectionVars false  -- `[DecidableEq ι]` below: most lemmas here do not use it

namespace Rio.Tree
open Rio.Regex

variable {ι V : Type} [DecidableEq ι]

def LazyRegex.strip (rx : LazyRegex) : LazyRegex := { rx with compiled := none }

mutual
/-- The tree with every cached regex value dropped (`compiled = None` everywhere). -/
def Item.strip : Item ι V → Item ι V
  | .empty ic => .empty ic
  | .leaf rx vs => .leaf rx.strip vs
  | .node rx cs => .node rx.strip (stripL cs)
def stripL : List (Item ι V) → List (Item ι V)
  | [] => []
  | c :: cs => Item.strip c :: stripL cs
end

theorem stripL_eq (cs : List (Item ι V)) : stripL cs = cs.map Item.strip := by
  induction cs with
  | nil => simp [stripL]
  | cons c cs ih => simp [stripL, ih]

@[simp] theorem strip_empty (ic : Bool) : (Item.empty ic : Item ι V).strip = .empty ic := by rw [Item.strip]
@[simp] theorem strip_leaf (rx) (vs : List (ι × V)) : (Item.leaf rx vs).strip = .leaf rx.strip vs := by
  rw [Item.strip]
@[simp] theorem strip_node (rx) (cs : List (Item ι V)) : (Item.node rx cs).strip = .node rx.strip (cs.map Item.strip) := by
  rw [Item.strip, stripL_eq]

@[simp] theorem strip_original (rx : LazyRegex) : rx.strip.original = rx.original := rfl
@[simp] theorem strip_regex (rx : LazyRegex) : rx.strip.regex = rx.regex := rfl
@[simp] theorem strip_compiled (rx : LazyRegex) : rx.strip.compiled = none := rfl
@[simp] theorem strip_ic (rx : LazyRegex) : rx.strip.ic = rx.ic := rfl
@[simp] theorem compile_strip (E : Engine) (rx : LazyRegex) : (rx.compile E).strip = rx.strip := rfl

theorem shapeMap_strip : ShapeMap (Item.strip : Item ι V → Item ι V) LazyRegex.strip fun _ v => v :=
  ⟨strip_empty, fun rx vs => by simp [mapKV], strip_node, fun _ => rfl, fun _ => rfl, fun _ _ => rfl, fun _ _ => rfl⟩

theorem regex_strip (t : Item ι V) : t.strip.regex = t.regex := shapeMap_strip.regex t

theorem childOk_strip (q : List Char) (t : Item ι V) : childOk q t.strip = childOk q t := shapeMap_strip.childOk q t

theorem strip_consistent (rx : LazyRegex) : rx.strip.consistent = true := rfl

theorem leafWf_strip {rx : LazyRegex} (h : rx.leafWf = true) : rx.strip.leafWf = true := by
  rw [leafWf_iff] at *; exact ⟨h.1, rfl⟩

theorem nodeWf_strip {rx : LazyRegex} (h : rx.nodeWf = true) : rx.strip.nodeWf = true := by
  rw [nodeWf_iff] at *; exact ⟨h.1, rfl⟩

/-- Only this direction: `strip` makes every cache consistent, so for a tree holding a stale cached value `t.strip.inv`
holds where `t.inv` does not.  The structural part of the invariant does not read the cache (`inv_node_congr`). -/
theorem inv_strip (ic : Bool) (t : Item ι V) (h : t.inv ic = true) : t.strip.inv ic = true :=
  shapeMap_strip.inv (fun _ => leafWf_strip) (fun _ => nodeWf_strip) t h

theorem contents_strip (t : Item ι V) : t.strip.contents = t.contents := by
  rw [shapeMap_strip.contents]; simp

theorem get_strip (t : Item ι V) (p : List Char) : t.strip.get p = t.get p := by
  rw [shapeMap_strip.get]; simp

theorem len_strip (t : Item ι V) : t.strip.len = t.len := shapeMap_strip.len t

/-- `LazyRegex::is_match` does not depend on whether the regex is cached – *because* the cached value of a well-formed
regex is the one `create_regex` builds from its fields – except for a leaf with the empty pattern. -/
theorem isMatch_strip (E : Engine) (rx : LazyRegex)
    (h : rx.nodeWf = true ∨ (rx.leafWf = true ∧ rx.original ≠ []))
    (s : List Char) : rx.strip.isMatch E s = rx.isMatch E s := by
  rcases h with h | ⟨h, hne⟩
  · rw [isMatch_node E h, isMatch_node E (nodeWf_strip h)]; simp
  · rw [isMatch_leaf E h hne, isMatch_leaf E (leafWf_strip h) (by simpa using hne)]; simp

theorem foundL_eq (ts : List (Trace V)) : Trace.foundL ts = ts.flatMap Trace.found := by
  induction ts with
  | nil => simp [Trace.foundL]
  | cons t ts ih => simp [Trace.foundL, ih]

theorem found_mk (r : List Char) (c : Nat) (m : Bool) (cs : List (Trace V)) (vs : List V) :
    (Trace.mk r c m cs vs).found = if m then vs ++ cs.flatMap Trace.found else [] := by
  rw [Trace.found, foundL_eq]

theorem traceL_eq (E : Engine) (cs : List (Item ι V)) (s : List Char) :
    traceL E cs s = cs.map fun c => c.trace E s := by
  induction cs with
  | nil => simp [traceL]
  | cons c cs ih => simp [traceL, ih]

theorem trace_empty (E : Engine) (ic : Bool) (s : List Char) :
    (Item.empty ic : Item ι V).trace E s = .mk [] 0 true [] [] := by rw [Item.trace]

theorem trace_leaf (E : Engine) (rx) (vs : List (ι × V)) (s : List Char) :
    (Item.leaf rx vs).trace E s = .mk rx.original vs.length (rx.isMatch E s) [] (vs.map (·.2)) := by
  rw [Item.trace]

theorem trace_node (E : Engine) (rx) (cs : List (Item ι V)) (s : List Char) :
    (Item.node rx cs).trace E s =
      .mk rx.original (lenL cs) (rx.isMatch E s)
        (if rx.isMatch E s then cs.map fun c => c.trace E s else []) [] := by
  rw [Item.trace, traceL_eq]

theorem trace_found_eq_find (E : Engine) (t : Item ι V) (s : List Char) :
    (t.trace E s).found = t.find E s := by
  induction t using Item.ind with
  | hE ic => rw [trace_empty, found_mk, find_empty]; simp
  | hL rx vs => rw [trace_leaf, found_mk, find_leaf]; simp
  | hN rx cs ih =>
    rw [trace_node, found_mk, find_node, findL_eq]
    cases hm : rx.isMatch E s
    · simp
    · simp only [if_true, List.nil_append, List.flatMap_map]
      exact Rio.Util.flatMap_congr ih

theorem trace_count (E : Engine) (t : Item ι V) (s : List Char) : (t.trace E s).count = t.len := by
  cases t with
  | empty ic => rw [trace_empty]; simp [Trace.count, Item.len]
  | leaf rx vs => rw [trace_leaf]; simp [Trace.count, Item.len]
  | node rx cs => rw [trace_node]; simp [Trace.count, Item.len]

theorem trace_regex (E : Engine) (t : Item ι V) (s : List Char) : (t.trace E s).regex = t.regex := by
  cases t with
  | empty ic => rw [trace_empty]; rfl
  | leaf rx vs => rw [trace_leaf]; rfl
  | node rx cs => rw [trace_node]; rfl

/-- Under the invariant the trace does not depend on the cached values: the whole `Trace` value, every level. -/
theorem trace_strip (E : Engine) {ic : Bool} (t : Item ι V) (h : t.inv ic = true)
    (hne : ∀ e ∈ t.contents, e.pat ≠ []) (s : List Char) : t.strip.trace E s = t.trace E s := by
  induction t using Item.ind with
  | hE ic' => simp
  | hL rx vs =>
    obtain ⟨h1, _⟩ := inv_leaf_iff.1 h
    rw [strip_leaf, trace_leaf, trace_leaf, isMatch_strip E rx (Or.inr ⟨h1, leaf_pat (· ≠ []) h hne⟩), strip_original]
  | hN rx cs ih =>
    obtain ⟨h1, _, _, _, _, _, h7⟩ := inv_node_iff.1 h
    rw [strip_node, trace_node, trace_node, isMatch_strip E rx (Or.inl h1), strip_original, shapeMap_strip.lenL_map,
      List.map_map]
    have : (cs.map ((fun c => c.trace E s) ∘ Item.strip)) = cs.map fun c => c.trace E s :=
      List.map_congr_left fun c hc => ih c hc (h7 c hc) (fun e he => hne e (mem_contents_node hc he))
    rw [this]

theorem find_strip (E : Engine) {ic : Bool} (t : Item ι V) (h : t.inv ic = true)
    (hne : ∀ e ∈ t.contents, e.pat ≠ []) (s : List Char) : t.strip.find E s = t.find E s := by
  rw [← trace_found_eq_find, trace_strip E t h hne s, trace_found_eq_find]

theorem contents_eq_of_strip_eq {t t' : Item ι V} (hs : t'.strip = t.strip) : t'.contents = t.contents := by
  rw [← contents_strip, hs, contents_strip]

theorem get_eq_of_strip_eq {t t' : Item ι V} (hs : t'.strip = t.strip) (p : List Char) : t'.get p = t.get p := by
  rw [← get_strip, hs, get_strip]

theorem len_eq_of_strip_eq {t t' : Item ι V} (hs : t'.strip = t.strip) : t'.len = t.len := by
  rw [← len_strip, hs, len_strip]

theorem find_eq_of_strip_eq (E : Engine) {ic : Bool} {t t' : Item ι V} (hs : t'.strip = t.strip)
    (h : t.inv ic = true) (h' : t'.inv ic = true) (hne : ∀ e ∈ t.contents, e.pat ≠ []) (s : List Char) :
    t'.find E s = t.find E s := by
  rw [← find_strip E t' h' (by rw [contents_eq_of_strip_eq hs]; exact hne) s, hs, find_strip E t h hne s]

theorem trace_eq_of_strip_eq (E : Engine) {ic : Bool} {t t' : Item ι V} (hs : t'.strip = t.strip)
    (h : t.inv ic = true) (h' : t'.inv ic = true) (hne : ∀ e ∈ t.contents, e.pat ≠ []) (s : List Char) :
    t'.trace E s = t.trace E s := by
  have hne' : ∀ e ∈ t'.contents, e.pat ≠ [] := by rw [contents_eq_of_strip_eq hs]; exact hne
  rw [← trace_strip E t' h' hne' s, hs, trace_strip E t h hne s]

theorem compile_consistent (E : Engine) (rx : LazyRegex) : (rx.compile E).consistent = true := by
  rw [consistent_iff]
  intro c hc
  simp only [LazyRegex.compile, LazyRegex.createRegex] at hc
  split at hc
  · simp only [Option.some.injEq] at hc; exact hc.symm
  · simp at hc

theorem compile_wf (E : Engine) (rx : LazyRegex) (h : rx.compiled = none) :
    (rx.compile E).leafWf = rx.leafWf ∧ (rx.compile E).nodeWf = rx.nodeWf := by
  have hc := compile_consistent E rx
  have hc0 : rx.consistent = true := by unfold LazyRegex.consistent; rw [h]
  simp only [LazyRegex.leafWf, LazyRegex.nodeWf, hc, hc0]
  exact ⟨rfl, rfl⟩

/-- `Leaf::cache` / the head of `Node::cache`: the result differs from the input only in the cached value, which – when it
was written – is `create_regex()` of the unchanged fields: well-formedness (consistency included) is untouched. -/
theorem rxCache_spec (E : Engine) (rx : LazyRegex) {left : Nat} (h : left ≠ 0) :
    ∃ rx' n, rxCache E rx left = some (rx', n) ∧ rx'.strip = rx.strip ∧ n ≤ left ∧
      rx'.leafWf = rx.leafWf ∧ rx'.nodeWf = rx.nodeWf := by
  by_cases h1 : rx.isCompiled = true
  · exact ⟨rx, left, by simp [rxCache, h1], rfl, Nat.le_refl _, rfl, rfl⟩
  · have hnone : rx.compiled = none := by
      unfold LazyRegex.isCompiled at h1; cases hc : rx.compiled <;> simp_all
    have hw := compile_wf E rx hnone
    by_cases h2 : (rx.compile E).isCompiled = true
    · exact ⟨rx.compile E, left - 1, by simp [rxCache, h1, h2, h], rfl, Nat.sub_le _ _, hw.1, hw.2⟩
    · exact ⟨rx.compile E, left, by simp [rxCache, h1, h2], rfl, Nat.le_refl _, hw.1, hw.2⟩

theorem cache_empty (E : Engine) (ic : Bool) (left lvl cur : Nat) :
    (Item.empty ic : Item ι V).cache E left lvl cur = some (.empty ic, left) := by rw [Item.cache]

theorem cacheL_nil (E : Engine) (left lvl cur : Nat) :
    cacheL E ([] : List (Item ι V)) left lvl cur = some ([], left) := by rw [cacheL]

theorem cacheL_cons (E : Engine) (c : Item ι V) (cs : List (Item ι V)) (left lvl cur : Nat) :
    cacheL E (c :: cs) left lvl cur =
      match c.cache E left lvl cur with
      | none => none
      | some r =>
        match cacheL E cs r.2 lvl cur with
        | none => none
        | some r' => some (r.1 :: r'.1, r'.2) := by rw [cacheL]; rfl

theorem inv_node_congr {ic : Bool} {rx rx' : LazyRegex} {cs cs' : List (Item ι V)}
    (hs : rx'.strip = rx.strip) (hw : rx'.nodeWf = rx.nodeWf)
    (hcs : cs'.map Item.strip = cs.map Item.strip)
    (hinv : cs'.map (Item.inv ic) = cs.map (Item.inv ic)) :
    (Item.node rx' cs' : Item ι V).inv ic = (Item.node rx cs).inv ic := by
  have hlen : cs'.length = cs.length := by simpa using congrArg List.length hcs
  have horig : rx'.original = rx.original := by simpa using congrArg LazyRegex.original hs
  have hic : rx'.ic = rx.ic := by simpa using congrArg LazyRegex.ic hs
  have hchild : ∀ q, cs'.all (childOk q) = cs.all (childOk q) := by
    intro q
    have := congrArg (fun l => l.all (childOk q)) hcs
    simpa [List.all_map, Function.comp_def, childOk_strip] using this
  have hreg : cs'.map Item.regex = cs.map Item.regex := by
    rw [← map_regex_map regex_strip cs', hcs, map_regex_map regex_strip]
  have hL : invL ic cs' = invL ic cs := by
    have := congrArg (fun l => l.all id) hinv
    simpa [List.all_map, Function.comp_def, invL_eq] using this
  simp only [Item.inv, hw, hic, horig, hlen, hchild, hreg, hL]

/-- What a `cache` call on `t` with budget `left` owes (`some`: no underflow, it returns). -/
def CacheOk (r : Option (Item ι V × Nat)) (t : Item ι V) (left : Nat) : Prop :=
  ∃ t' n, r = some (t', n) ∧ t'.strip = t.strip ∧ n ≤ left ∧ ∀ ic, t'.inv ic = t.inv ic

theorem CacheOk.same (t : Item ι V) (left : Nat) : CacheOk (some (t, left)) t left :=
  ⟨t, left, rfl, rfl, Nat.le_refl _, fun _ => rfl⟩

theorem CacheOk.of_some {r : Option (Item ι V × Nat)} {t t' : Item ι V} {left n : Nat} (h : CacheOk r t left)
    (hr : r = some (t', n)) : t'.strip = t.strip ∧ n ≤ left ∧ ∀ ic, t'.inv ic = t.inv ic := by
  obtain ⟨t'', n', h', hspec⟩ := h
  rw [hr] at h'; cases h'
  exact hspec

/-- `CacheOk` for the loop of `Node::cache` over the children, from any budget at any level. -/
def CacheLOk (E : Engine) (l : List (Item ι V)) : Prop :=
  ∀ left lvl cur, ∃ l' n, cacheL E l left lvl cur = some (l', n) ∧ l'.map Item.strip = l.map Item.strip ∧ n ≤ left ∧
    ∀ ic, l'.map (Item.inv ic) = l.map (Item.inv ic)

theorem cache_ok (E : Engine) (t : Item ι V) (left lvl cur : Nat) :
    CacheOk (t.cache E left lvl cur) t left := by
  -- `(ι := ι)`: otherwise `induction … using` leaves the `DecidableEq` instance of the list motive open
  induction t using Item.ind₂ (motiveL := CacheLOk (ι := ι) E) generalizing left lvl cur with
  | hE ic => rw [cache_empty]; exact .same _ _
  | hL rx vs =>
    rw [Item.cache]
    by_cases h0 : left = 0
    · rw [if_pos h0]; exact .same _ _
    rw [if_neg h0]
    -- the guards `cur > lvl`, then `lvl = cur`: only under the second is anything written
    split
    · exact .same _ _
    · split
      · obtain ⟨rx', n, he, hs, hn, hw, _⟩ := rxCache_spec E rx h0
        rw [he]
        refine ⟨_, _, rfl, by simp [hs], hn, fun ic => ?_⟩
        have hic : rx'.ic = rx.ic := by simpa using congrArg LazyRegex.ic hs
        simp only [Item.inv, hw, hic]
      · exact .same _ _
  | hN rx cs ih =>
    rw [Item.cache]
    by_cases h0 : left = 0
    · rw [if_pos h0]; exact .same _ _
    rw [if_neg h0]
    split
    · exact .same _ _
    · have hrx : ∃ rx' n, (if lvl = cur then rxCache E rx left else some (rx, left)) = some (rx', n) ∧
          rx'.strip = rx.strip ∧ n ≤ left ∧ rx'.nodeWf = rx.nodeWf := by
        split
        · obtain ⟨rx', n, he, hs, hn, _, hw⟩ := rxCache_spec E rx h0
          exact ⟨rx', n, he, hs, hn, hw⟩
        · exact ⟨rx, left, rfl, rfl, Nat.le_refl _, rfl⟩
      obtain ⟨rx', n1, he, hs, hn1, hw⟩ := hrx
      rw [he]
      simp only
      obtain ⟨l', n2, h2, hs2, hn2, hi2⟩ := ih n1 lvl (cur + 1)
      rw [h2]
      exact ⟨_, _, rfl, by simp [hs, hs2], Nat.le_trans hn2 hn1, fun ic => inv_node_congr hs hw hs2 (hi2 ic)⟩
  | hnil => exact fun left lvl cur => ⟨[], left, cacheL_nil E left lvl cur, rfl, Nat.le_refl _, fun _ => rfl⟩
  | hcons c l ihc ihl =>
    intro left lvl cur
    obtain ⟨c', n1, h1, hs1, hn1, hi1⟩ := ihc left lvl cur
    obtain ⟨l', n2, h2, hs2, hn2, hi2⟩ := ihl n1 lvl cur
    refine ⟨c' :: l', n2, ?_, by simp [hs1, hs2], Nat.le_trans hn2 hn1, fun ic => by simp [hi1, hi2]⟩
    rw [cacheL_cons, h1]; simp only; rw [h2]

/-- The `while` loop of `RegexTreeMap::cache(limit, None)` terminates within `left + 1` iterations: a pass that returns its
budget untouched ends the loop, every other pass lowers it (`cacheLoop`, Model/Tree.lean). -/
theorem cacheLoop_ok (E : Engine) (fuel : Nat) (root : Item ι V) (left lvl : Nat) (hf : left < fuel) :
    CacheOk (cacheLoop E fuel root left lvl) root left := by
  induction fuel generalizing root left lvl with
  | zero => omega
  | succ fuel ih =>
    rw [cacheLoop]
    by_cases h0 : left = 0
    · rw [if_pos h0]; exact .same _ _
    rw [if_neg h0]
    obtain ⟨t1, n1, h1, hs1, hn1, hi1⟩ := cache_ok E root left lvl 0
    rw [h1]
    simp only
    split
    · exact ⟨_, _, rfl, hs1, Nat.le_refl _, hi1⟩
    · next hne =>
      obtain ⟨t2, n2, h2, hs2, hn2, hi2⟩ := ih t1 n1 (lvl + 1) (by omega)
      exact ⟨t2, n2, h2, by rw [hs2, hs1], by omega, fun ic => by rw [hi2, hi1]⟩

theorem cacheLoop_spec (E : Engine) (fuel : Nat) (root : Item ι V) (left lvl : Nat) (hf : left < fuel) :
    ∃ t' n, cacheLoop E fuel root left lvl = some (t', n) ∧ t'.strip = root.strip ∧ n ≤ left := by
  obtain ⟨t', n, h, hs, hn, _⟩ := cacheLoop_ok E fuel root left lvl hf
  exact ⟨t', n, h, hs, hn⟩

theorem treeCache_ok (E : Engine) (root : Item ι V) (limit : Nat) (level : Option Nat) :
    CacheOk (treeCache E root limit level) root limit := by
  cases level with
  | some lvl => exact cache_ok E root limit lvl 0
  | none => exact cacheLoop_ok E (limit + 1) root limit 0 (by omega)

theorem treeCache_spec (E : Engine) (root : Item ι V) (limit : Nat) (level : Option Nat) :
    ∃ t' n, treeCache E root limit level = some (t', n) ∧ t'.strip = root.strip ∧ n ≤ limit := by
  obtain ⟨t', n, h, hs, hn, _⟩ := treeCache_ok E root limit level
  exact ⟨t', n, h, hs, hn⟩

theorem cache_some {E : Engine} {t t' : Item ι V} {left lvl cur n : Nat}
    (h : t.cache E left lvl cur = some (t', n)) : t'.strip = t.strip ∧ n ≤ left ∧ ∀ ic, t'.inv ic = t.inv ic :=
  (cache_ok E t left lvl cur).of_some h

theorem treeCache_some {E : Engine} {t t' : Item ι V} {limit n : Nat} {level : Option Nat}
    (h : treeCache E t limit level = some (t', n)) :
    t'.strip = t.strip ∧ n ≤ limit ∧ ∀ ic, t'.inv ic = t.inv ic :=
  (treeCache_ok E t limit level).of_some h

theorem inv_of_treeCache {E : Engine} {t t' : Item ι V} {limit n : Nat} {level : Option Nat}
    (h : treeCache E t limit level = some (t', n)) (ic : Bool) : t'.inv ic = t.inv ic :=
  (treeCache_some h).2.2 ic

end Rio.Tree
