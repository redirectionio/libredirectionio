/-
Helper lemmas for Props/C19gen.lean: the TRANSLATED `RedirectionLoop::compute`
(`Rio.Consts.genLoopCompute`, regenerated from src/api/redirection_loop.rs on every run by
tools/consts.d/tr_w19_loop.py) equals the hand-written model `Rio.Loop.compute` (Model/Loop.lean).

The translated function has one parameter per callee it does not translate (`Callees`, bundled here).
The model has the two parameters `step` / `ext`; `stepOf` / `extOf` below read them off the callees:
they are exactly the part of one turn of the loop that the model abstracts.  `genCompute` (the translated function at a bundle) is
defined HERE.
-/
import RioModel.Generated.Consts
import RioModel.Model.Loop

set_option linter.unusedSectionVars false

namespace Rio.LoopGen
open Rio.Loop Rio.Consts

/-- A loop that leaves the state alone until the first element satisfying `p`, where it updates the
state with `f` and executes a `break` with code `c + 1`. -/
theorem genLoopFor_find {α σ : Type} (p : α → Bool) (f : α → σ → σ) (c : Nat) (body : α → σ → σ × Nat)
    (h : ∀ x s, body x s = if p x then (f x s, c + 1) else (s, 0)) :
    ∀ (xs : List α) (s : σ), genLoopFor xs s body =
      match xs.find? p with
      | some x => (f x s, c)
      | none => (s, 0) := by
  intro xs
  induction xs with
  | nil => intro s; simp [genLoopFor]
  | cons x rest ih =>
    intro s
    cases hp : p x
    · simp [genLoopFor, h, hp, ih, List.find?]
    · simp [genLoopFor, h, hp, List.find?]

/-- The same loop when the update does not look at the element found (`xs.iter().any(..)` written as a loop). -/
theorem genLoopFor_any {α σ : Type} (p : α → Bool) (f : σ → σ) (c : Nat) (body : α → σ → σ × Nat)
    (h : ∀ x s, body x s = if p x then (f s, c + 1) else (s, 0)) (xs : List α) (s : σ) :
    genLoopFor xs s body = if xs.any p then (f s, c) else (s, 0) := by
  have hany : xs.any p = (xs.find? p).isSome := by rw [Bool.eq_iff_iff, List.any_eq_true, List.find?_isSome]
  rw [genLoopFor_find p (fun _ => f) c body h, hany]
  cases xs.find? p <;> rfl

theorem genLoopFor_nil {α σ : Type} (s : σ) (body : α → σ → σ × Nat) : genLoopFor [] s body = (s, 0) := by
  simp [genLoopFor]

theorem genLoopFor_cons {α σ : Type} (x : α) (rest : List α) (s : σ) (body : α → σ → σ × Nat) :
    genLoopFor (x :: rest) s body =
      match body x s with
      | (s', 0) => genLoopFor rest s' body
      | (s', c + 1) => (s', c) := by
  rcases hb : body x s with ⟨s', c⟩
  cases c <;> simp [genLoopFor, hb]

/-- What the translated body returns for the model body's `(state, go on?)`: `break` is code 1. -/
def repOut {U M σ : Type} (rep : State U M → σ) (r : State U M × Bool) : σ × Nat :=
  (rep r.1, if r.2 then 0 else 1)

/-- The counting loop `for i in i..` against the model's `run`, through a representation `rep` of the state. -/
theorem genLoopFor_range {U M σ : Type} [DecidableEq U] [DecidableEq M]
    (step : U → M → StepOut U) (ext : U → Bool) (get : M) (maxHops : Nat)
    (rep : State U M → σ) (gbody : Nat → σ → σ × Nat)
    (h : ∀ i st, gbody i (rep st) = repOut rep (Loop.body step ext get maxHops i st)) :
    ∀ (n i : Nat) (st : State U M),
      genLoopFor (List.range' i n) (rep st) gbody = (rep (run step ext get maxHops i n st), 0) := by
  intro n
  induction n with
  | zero => intro i st; rfl
  | succ n ih =>
    intro i st
    rw [List.range'_succ, genLoopFor_cons, h i st, run]
    rcases Loop.body step ext get maxHops i st with ⟨st', b⟩
    cases b
    · rfl
    · exact ih (i + 1) st'

/-- The callees `RedirectionLoop::compute` does not translate (see the docstring of tools/consts.d/tr_w19_loop.py). -/
structure Callees (S Ex Rt Cf Rq Rs Ac Pu : Type) where
  lit : String → S
  exampleUrl : Ex → S
  exampleMethod : Ex → Option S
  responseStatusCode : Ex → Option Nat
  withUrl : Ex → S → Ex
  withMethod : Ex → Option S → Ex
  routerConfig : Rt → Cf
  fromExample : Cf → Ex → Option Rq
  matchRequest : Rt → Rq → Rs
  fromRoutesRule : Rs → Rq → Ac
  getStatusCode : Ac → Nat → Nat × Ac
  filterHeaders : Ac → Nat → List (S × S) × Ac
  lower : S → S
  joinUrl : S → S → S
  urlParse : S → Option Pu
  hostStr : Pu → Option S

section
variable {S Ex Rt Cf Rq Rs Ac Pu : Type} [DecidableEq S] (E : Callees S Ex Rt Cf Rq Rs Ac Pu)
variable (router : Rt) (maxHops : Nat) (ex : Ex) (pd : List S)

def genCompute : List (S × Nat × S) × Option GenRedirectionError :=
  genLoopCompute E.lit E.exampleUrl E.exampleMethod E.responseStatusCode E.withUrl E.withMethod E.routerConfig
    E.fromExample E.matchRequest E.fromRoutesRule E.getStatusCode E.filterHeaders E.lower E.joinUrl E.urlParse E.hostStr
    router maxHops ex pd

/-- The status part of one turn: `((final_status_code, backend_status_code), action after the calls)`. -/
def statusOf (req : Rq) (ex' : Ex) : (Nat × Nat) × Ac :=
  let r := E.getStatusCode (E.fromRoutesRule (E.matchRequest router req) req) 0
  if r.1 != 0 then ((r.1, r.1), r.2)
  else
    let b := (E.responseStatusCode ex').getD 200
    let r2 := E.getStatusCode r.2 b
    ((r2.1, b), r2.2)

def locationOf (u : S) (headers : List (S × S)) : Option S :=
  (headers.find? (fun h => E.lower h.1 == E.lit "location")).map (fun h => E.joinUrl u h.2)

def stepOf (u m : S) : StepOut S :=
  let ex' := E.withMethod (E.withUrl ex u) (some m)
  match E.fromExample (E.routerConfig router) ex' with
  | none => .reqErr
  | some req =>
    let r := statusOf E router req ex'
    .resp r.1.1 (locationOf E u (E.filterHeaders r.2 r.1.2).1)

/-- The model's `ext`: the project-domain break. -/
def extOf (u : S) : Bool :=
  match E.urlParse u with
  | some p => !pd.isEmpty && !pd.contains ((E.hostStr p).getD (E.lit ""))
  | none => false

/-- A model hop as the translated code's tuple (fields of `RedirectionHop` in declaration order). -/
def toGenHop (h : Hop S S) : S × Nat × S := (h.url, h.status, h.method)

/-- `enum RedirectionError`, model → translated. -/
def toGenErr : Err → GenRedirectionError
  | .atLeastOneHop => .atLeastOneHop
  | .tooManyHops => .tooManyHops
  | .loop => .loop

theorem toGenErr_inj : ∀ a b : Err, toGenErr a = toGenErr b → a = b := by
  intro a b; cases a <;> cases b <;> simp [toGenErr]

theorem map_toGenErr_eq_some {e : Option Err} {x : Err} : e.map toGenErr = some (toGenErr x) ↔ e = some x := by
  cases e with
  | none => simp
  | some y => exact ⟨fun h => congrArg some (toGenErr_inj y x (Option.some.inj h)), fun h => by rw [h]; rfl⟩

theorem toGenHop_inj : ∀ a b : Hop S S, toGenHop a = toGenHop b → a = b := by
  intro a b h; cases a; cases b; simp [toGenHop] at h; simp [h]

/-- The loop state of the translated code (`current_url, current_method, error, hops`: the variables the
outer loop assigns, in declaration order) for a model state. -/
@[reducible] def rep (st : State S S) : S × S × Option GenRedirectionError × List (S × Nat × S) :=
  (st.url, st.method, st.error.map toGenErr, st.hops.map toGenHop)

theorem any_map_sameKey (u m : S) (hs : List (Hop S S)) :
    (hs.map toGenHop).any (fun h => h.1 == u && h.2.2 == m) = hs.any (sameKey u m) := by
  rw [List.any_map]; rfl

theorem genRedirectionCodes_eq : genRedirectionCodes = redirectionCodes := rfl
theorem loopGetRewriteCodes_eq : loopGetRewriteCodes = [301, 302] := rfl

/-- `if c == 0 { b } else { a }` is `if c != 0 { a } else { b }`. -/
theorem ite_beq_zero {α : Type} (c : Nat) (a b : α) :
    (if (c == 0) = true then b else a) = if (c != 0) = true then a else b := by
  cases h : c == 0 <;> simp [bne, h]

theorem rep_push (st : State S S) (hop : Hop S S) (err : Option Err) :
    rep (st.push hop err) = (hop.url, hop.method, err.map toGenErr, st.hops.map toGenHop ++ [toGenHop hop]) := by
  simp [rep, State.push]

set_option linter.unusedSimpArgs false in
/-- helper form of `Rio.C19.gen_compute_eq_model` -/
theorem genCompute_eq :
    genCompute E router maxHops ex pd =
      ((compute (stepOf E router ex) (extOf E pd) (E.lit "GET") maxHops (E.exampleUrl ex)
          ((E.exampleMethod ex).getD (E.lit "GET"))).hops.map toGenHop,
       (compute (stepOf E router ex) (extOf E pd) (E.lit "GET") maxHops (E.exampleUrl ex)
          ((E.exampleMethod ex).getD (E.lit "GET"))).error.map toGenErr) := by
  unfold genCompute genLoopCompute
  simp only [Nat.add_sub_cancel]
  have h0 : (E.exampleUrl ex, (E.exampleMethod ex).getD (E.lit "GET"), (none : Option GenRedirectionError), [(E.exampleUrl ex, 0, (E.exampleMethod ex).getD (E.lit "GET"))]) = rep (init (E.exampleUrl ex) ((E.exampleMethod ex).getD (E.lit "GET"))) := rfl
  rw [h0, genLoopFor_range (stepOf E router ex) (extOf E pd) (E.lit "GET") maxHops rep _ ?_]
  · rfl
  · intro i st
    rcases st with ⟨u, m, hs, e⟩
    dsimp only [rep]
    cases hfe : E.fromExample (E.routerConfig router) (E.withMethod (E.withUrl ex u) (some m))
    · simp only [Loop.body, stepOf, hfe]; rfl
    rename_i req
    simp only [Loop.body, stepOf, hfe]
    -- the status choice is `statusOf`, word for word (or with the test written `== 0` and the branches the other
    -- way round): name its value on both sides before looking further
    generalize hst : statusOf E router req (E.withMethod (E.withUrl ex u) (some m)) = r
    unfold statusOf at hst
    dsimp only at hst
    -- `ite_beq_zero` rewrites nothing while the source tests `!= 0`; it is there for the other way of writing the test
    simp only [ite_beq_zero, hst]
    clear hst
    rcases r with ⟨⟨fs, bs⟩, ac⟩
    dsimp only
    generalize (E.filterHeaders ac bs).1 = hd
    have hred : genRedirectionCodes.contains fs = isRedirect fs := rfl
    rw [hred]
    cases isRedirect fs
    · rfl
    -- the search for the Location header: the `found` flag loop, or `headers.iter().find(..)` (nothing to rewrite then)
    first
      | rw [genLoopFor_find (p := fun h : S × S => E.lower h.1 == E.lit "location")
          (f := fun h (s : S × Bool) => (E.joinUrl s.1 h.2, true)) (c := 0) (h := fun _ _ => rfl)]
      | skip
    rw [locationOf]
    cases hd.find? (fun h => E.lower h.1 == E.lit "location")
    · rfl
    rename_i hdr
    simp only [Option.map_some, Bool.not_true, Bool.false_eq_true, if_false]
    generalize E.joinUrl u hdr.2 = nu
    have hget : rewritesToGet fs = [301, 302].contains fs := rfl
    rw [hget]
    generalize (if [301, 302].contains fs = true then E.lit "GET" else m) = m'
    have herr : (if decide (i > 1) = true then some GenRedirectionError.atLeastOneHop else e.map toGenErr) =
        (if i > 1 then some Err.atLeastOneHop else e).map toGenErr := by
      by_cases h : i > 1 <;> simp only [h, decide_true, decide_false, if_true, if_false, Bool.false_eq_true] <;> rfl
    rw [herr]
    generalize (if i > 1 then some Err.atLeastOneHop else e) = e1
    -- the repeat test: the loop over `hops` with `break 'outer`, or `hops.iter().any(..)`
    first
      | rw [genLoopFor_any (p := fun h : S × Nat × S => h.1 == nu && h.2.2 == m')
          (f := fun s : Option GenRedirectionError × List (S × Nat × S) => (some GenRedirectionError.loop, s.2 ++ [(nu, fs, m')]))
          (c := 1) (h := fun _ _ => rfl)]
      | skip
    rw [any_map_sameKey]
    cases hs.any (sameKey nu m')
    · simp only [Bool.false_eq_true, if_false, extOf]
      rcases Option.eq_none_or_eq_some (E.urlParse nu) with hp | ⟨pu, hp⟩
      · by_cases h : i ≥ maxHops <;> simp [hp, h, repOut, rep_push, toGenHop, toGenErr]
      · simp only [hp]
        cases (!pd.isEmpty && !pd.contains ((E.hostStr pu).getD (E.lit "")))
        · by_cases h : i ≥ maxHops <;> simp [h, repOut, rep_push, toGenHop, toGenErr]
        · simp [repOut, rep_push, toGenHop]
    · simp [repOut, rep_push, toGenHop, toGenErr]

end
end Rio.LoopGen
