/-
Helper lemmas for Props/C09gen.lean: the request-side URL normaliser TRANSLATED from src/http/query.rs
(`Rio.Consts.genSanitizeUrl`, `Rio.Consts.genPqsFromConfig`, tools/consts.d/w4_translate_w21_urlnorm.py) against the hand-written
model `Rio.Url.fromConfig` (Model/Url.lean).

`fromConfigP` is the hand model with its seven external functions (percent-encoder, `PathAndQuery` parse / `path()` /
`query()`, `form_urlencoded::parse`, the `BTreeMap` collect, `to_lowercase`) turned into PARAMETERS; `fromConfigP_standins`
shows that it is `fromConfig` when the parameters are the executable stand-ins of Model/Url.lean, and
`gen_eq_fromConfigP` that the translated code computes it for ARBITRARY parameter functions.
The same for the rule side's `Request::build_sorted_query` (src/http/request.rs, `Rio.Consts.genBuildSortedQuery`) against `buildSortedQuery`:
`buildSortedQueryP`, `buildSortedQueryP_standins`, `gen_sorted_eq_P`.  Bytes by number: 38 `&`, 61 `=`, 63 `?`.
-/
import RioModel.Model.Url
import RioModel.Generated.Consts
import RioModel.Proofs.UtilList

namespace Rio.UrlGen
open Rio.Url Rio.Consts

/-- the four fields of `PathAndQueryWithSkipped` in declaration order (the shape of the translated result). -/
def toTuple (r : PQS) : Bytes × Option Bytes × Option Bytes × Bytes :=
  (r.pathAndQuery, r.matching, r.skipped, r.original)

def reqParamP (enc : List Nat → Bytes → Bytes) (kv : Bytes × Bytes) : Bytes :=
  enc querySet kv.1 ++ (if !kv.2.isEmpty then 61 :: enc querySet kv.2 else [])

/-- the step of `splitParams` over an arbitrary encoder: (query_string, skipped_query_params). -/
def stepP (enc : List Nat → Bytes → Bytes) (im : Bool) (mk : List Bytes) (acc : Bytes × Bytes)
    (kv : Bytes × Bytes) : Bytes × Bytes :=
  if im && mk.contains kv.1 then (acc.1, pushParam acc.2 (reqParamP enc kv))
  else (pushParam acc.1 (reqParamP enc kv), acc.2)

def fromConfigP {π : Type} (enc : List Nat → Bytes → Bytes) (parse : Bytes → Option π) (path : π → Bytes)
    (query : π → Option Bytes) (pq : Bytes → List (Bytes × Bytes))
    (bt : List (Bytes × Bytes) → List (Bytes × Bytes)) (lower : Bytes → Bytes) (cfg : Cfg) (u : Bytes) : PQS :=
  match parse (enc urlSet u) with
  | none =>
    { pathAndQuery := enc urlSet u,
      matching := some (if cfg.ignoreCase then lower (enc urlSet u) else enc urlSet u),
      skipped := none, original := u }
  | some p =>
    let sp : Bytes × Bytes :=
      match query p with
      | none => ([], [])
      | some q => (bt (pq q)).foldl (stepP enc cfg.ignoreMarketing cfg.marketing) ([], [])
    let npq := if !sp.1.isEmpty then path p ++ 63 :: sp.1 else path p
    { pathAndQuery := npq,
      matching := some (if cfg.ignoreCase then lower npq else npq),
      skipped := if cfg.passMarketing && !sp.2.isEmpty then some sp.2 else none,
      original := u }

theorem stepP_standin (cfg : Cfg) :
    stepP pctEncode cfg.ignoreMarketing cfg.marketing =
      (fun (acc : Bytes × Bytes) kv =>
        if isMarketing cfg kv.1 then (acc.1, pushParam acc.2 (reqParam kv))
        else (pushParam acc.1 (reqParam kv), acc.2)) := by
  funext acc kv
  simp [stepP, isMarketing, reqParam, reqParamP]

theorem fromConfigP_standins (cfg : Cfg) (u : Bytes) :
    fromConfigP pctEncode pqParse (fun x => pqPath x.1) (fun x => x.2) parseQuery btCollect lowerAscii cfg u =
      fromConfig cfg u := by
  unfold fromConfigP fromConfig sanitize
  cases h : pqParse (pctEncode urlSet u) with
  | none => simp [lowerIf, h]
  | some x =>
    obtain ⟨p, q⟩ := x
    cases q with
    | none => simp [lowerIf, h]
    | some q => simp [lowerIf, h, splitParams, stepP_standin]

theorem foldl_swap {α β γ : Type} (f : β × α → γ → β × α) (g : α × β → γ → α × β)
    (h : ∀ st kv, f st kv = ((g (st.2, st.1) kv).2, (g (st.2, st.1) kv).1)) (m : List γ) (a : α) (b : β) :
    List.foldl f (b, a) m = ((List.foldl g (a, b) m).2, (List.foldl g (a, b) m).1) :=
  List.foldl_hom Prod.swap (init := (a, b)) fun x y => h x.swap y

theorem querySet_eq : encSetQueryRsQueryEncodeSet = querySet := rfl
theorem urlSet_eq : encSetQueryRsUrlEncodeSet = urlSet := rfl

theorem gen_eq_fromConfigP {π : Type} (enc : List Nat → Bytes → Bytes) (parse : Bytes → Option π)
    (path : π → Bytes) (query : π → Option Bytes) (pq : Bytes → List (Bytes × Bytes))
    (bt : List (Bytes × Bytes) → List (Bytes × Bytes)) (lower : Bytes → Bytes) (cfg : Cfg) (u : Bytes) :
    genPqsFromConfig enc parse path query pq bt lower cfg.ignoreCase cfg.ignoreMarketing cfg.passMarketing
        cfg.marketing u =
      toTuple (fromConfigP enc parse path query pq bt lower cfg u) := by
  obtain ⟨ic, im, pm, mk, hc, hh⟩ := cfg
  unfold genPqsFromConfig fromConfigP toTuple genSanitizeUrl
  simp only [querySet_eq, urlSet_eq]
  -- the two flags read after the loop are run through, so that either way of writing their tests is accepted
  -- (`if !flag { a } else { b }`, the conjuncts of the `skipped` test in the other order)
  cases h : parse (enc urlSet u) with
  | none => cases ic <;> rfl
  | some p =>
    simp only []
    cases hq : query p with
    | none => cases ic <;> cases pm <;> rfl
    | some q =>
      simp only []
      -- the translated loop keeps its state as (skipped, query), `stepP` as (query, skipped)
      rw [foldl_swap (g := stepP enc im mk)]
      · cases ic <;> cases pm <;> simp [List.append_assoc]
      · intro st kv
        simp only [stepP, pushParam, reqParamP]
        cases hv : kv.2.isEmpty <;> cases hm : (im && mk.contains kv.1) <;> simp [List.append_assoc]

def sortedParamP (enc : List Nat → Bytes → Bytes) (kv : Bytes × Bytes) : Bytes :=
  enc sortedQuerySet kv.1 ++ (if !kv.2.isEmpty then 61 :: enc sortedQuerySet kv.2 else []) ++ [38]

def buildSortedQueryP (enc : List Nat → Bytes → Bytes) (pq : Bytes → List (Bytes × Bytes))
    (bt : List (Bytes × Bytes) → List (Bytes × Bytes)) (q : Bytes) : Option Bytes :=
  if (((bt (pq q)).flatMap (sortedParamP enc)).dropLast).isEmpty then none
  else some ((bt (pq q)).flatMap (sortedParamP enc)).dropLast

theorem buildSortedQueryP_standins (q : Bytes) :
    buildSortedQueryP pctEncode parseQuery btCollect q = buildSortedQuery q := by
  unfold buildSortedQueryP buildSortedQuery
  have : sortedParamP pctEncode = sortedParam := by
    funext kv; simp [sortedParamP, sortedParam]
  simp [this]

theorem sortedQuerySet_eq : encSetRequestRsQueryEncodeSet = sortedQuerySet := rfl

theorem gen_sorted_eq_P (enc : List Nat → Bytes → Bytes) (pq : Bytes → List (Bytes × Bytes))
    (bt : List (Bytes × Bytes) → List (Bytes × Bytes)) (q : Bytes) :
    genBuildSortedQuery enc pq bt q = buildSortedQueryP enc pq bt q := by
  unfold genBuildSortedQuery buildSortedQueryP
  dsimp only
  rw [Util.foldl_append_eq (g := sortedParamP enc)]
  · simp
  · intro st kv
    simp only [sortedParamP, ← sortedQuerySet_eq]
    by_cases hv : kv.2.isEmpty = true <;> simp [hv, List.append_assoc]

theorem ite_some_ne_nil (c : Bool) (s : Bytes) :
    (if (c && !s.isEmpty) = true then some s else none) ≠ some [] := by
  cases s <;> cases c <;> simp

end Rio.UrlGen
