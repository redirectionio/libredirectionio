/-
Where the serde model (C06, `Rio.Json.Action` / `Rio.Json.Request`) meets the models that READ an action or a
request.  `ofJsonAction readId` takes a (restored) serde-model action into the action model of C05, so that C05's
observers, and sequences of them (`runOpsC`), are functions of a serde-model action.  It is a left inverse of
`toJsonAction showId` on every action whose codes fit a `u16` (`ofJson_toJson`) as soon as `readId` reads back what
`showId` renders; the bound holds of every action built from rules whose codes fit (`fromRoutesRule_u16`,
Props/C06obs.lean).  `reqOfJson ipOf instant` takes a (restored) request into the request of the router model of C01.
-/
import RioModel.Proofs.ActionJsonBridge
import RioModel.Model.RouterBase

namespace Rio.Action
open Spec

def ofJsonHeaderFilter (f : Rio.Json.HeaderFilter) : HeaderFilter :=
  ⟨f.action, f.header, f.value, f.id, f.target_hash⟩

def ofJsonTextAction : Rio.Json.TextAction → TextAction
  | .append => .append | .prepend => .prepend | .replace => .replace

def ofJsonBodyFilter : Rio.Json.BodyFilter → BodyFilter
  | .text t => .text ⟨ofJsonTextAction t.action, t.content, t.id, t.target_hash⟩
  | .html h => .html ⟨h.action, h.value, h.inner_value, h.element_tree, h.css_selector, h.id, h.target_hash⟩

/-- a `Vec<u16>` as the action model keeps it -/
def natCodes (l : List UInt16) : List Nat := l.map (·.toNat)

section
variable (readId : String → RuleId)

def ofJsonStatus (u : Rio.Json.StatusCodeUpdate) : StatusCodeUpdate :=
  ⟨u.status_code.toNat, natCodes u.on_response_status_codes, u.exclude_response_status_codes,
   u.fallback_status_code.toNat, u.rule_id.map readId, u.fallback_rule_id.map readId, u.unit_id, u.target_hash⟩

def ofJsonLog (l : Rio.Json.LogOverride) : LogOverride :=
  ⟨l.log_override, l.rule_id.map readId, natCodes l.on_response_status_codes, l.exclude_response_status_codes,
   l.fallback_log_override, l.fallback_rule_id.map readId, l.unit_id⟩

/-- A serde-model action as the action model (C05) sees it: every field is carried over (there is no field of
`Rio.Action.Action` that is not computed from the JSON fields, so whatever an observer reads has travelled). -/
def ofJsonAction (a : Rio.Json.Action) : Action :=
  { statusCodeUpdate := a.status_code_update.map (ofJsonStatus readId)
    headerFilters := a.header_filters.map fun f =>
      ⟨ofJsonHeaderFilter f.filter, natCodes f.on_response_status_codes, f.exclude_response_status_codes,
       f.rule_id.map readId⟩
    bodyFilters := a.body_filters.map fun f =>
      ⟨ofJsonBodyFilter f.filter, natCodes f.on_response_status_codes, f.exclude_response_status_codes,
       f.rule_id.map readId⟩
    ruleIds := a.rule_ids.map readId
    ruleTraces := a.rule_traces.map fun t =>
      ⟨readId t.id, natCodes t.on_response_status_codes, t.exclude_response_status_codes⟩
    rulesApplied := a.rules_applied.map readId
    logOverride := a.log_override.map (ofJsonLog readId) }

end

def CodesOk (l : List Nat) : Prop := ∀ c ∈ l, c < 65536

/-- Every status code an action mentions fits a `u16` (an invariant of the Rust type; the action model keeps the
codes as `Nat`). -/
structure Action.U16 (a : Action) : Prop where
  status : ∀ u, a.statusCodeUpdate = some u →
    u.statusCode < 65536 ∧ u.fallbackStatusCode < 65536 ∧ CodesOk u.onResponseStatusCodes
  headers : ∀ f ∈ a.headerFilters, CodesOk f.onResponseStatusCodes
  bodies : ∀ f ∈ a.bodyFilters, CodesOk f.onResponseStatusCodes
  traces : ∀ t ∈ a.ruleTraces, CodesOk t.onResponseStatusCodes
  log : ∀ l, a.logOverride = some l → CodesOk l.onResponseStatusCodes

/-- The same for a rule (`status_code: Option<u16>`, `response_status_codes: Option<Vec<u16>>`). -/
def Rule.U16 (r : Rule) : Prop := r.statusCode.getD 0 < 65536 ∧ CodesOk (codesOf r)

theorem u16_toNat (n : Nat) (h : n < 65536) : (u16 n).toNat = n := by
  unfold u16
  rw [UInt16.toNat_ofNat']
  exact Nat.mod_eq_of_lt h

theorem map_eq_self {α : Type} (f : α → α) (l : List α) (h : ∀ x ∈ l, f x = x) : l.map f = l :=
  (List.map_congr_left h).trans (List.map_id l)

theorem natCodes_u16 (l : List Nat) (h : CodesOk l) : natCodes (l.map u16) = l := by
  unfold natCodes
  rw [List.map_map]
  exact map_eq_self _ l fun x hx => u16_toNat x (h x hx)

theorem ofJson_toJson_headerFilter (f : HeaderFilter) : ofJsonHeaderFilter (toJsonHeaderFilter f) = f := rfl

theorem ofJson_toJson_bodyFilter (f : BodyFilter) : ofJsonBodyFilter (toJsonBodyFilter f) = f := by
  cases f with
  | text t => cases t with | mk a c i h => cases a <;> rfl
  | html h => rfl

theorem ofJson_toJson (showId : RuleId → String) (readId : String → RuleId)
    (hleft : ∀ i, readId (showId i) = i) (a : Action) (h : a.U16) :
    ofJsonAction readId (toJsonAction showId a) = a := by
  obtain ⟨st, hf, bf, rids, tr, ra, lg⟩ := a
  have hids : ∀ l : List RuleId, (l.map showId).map readId = l := fun l => by
    rw [List.map_map]; exact map_eq_self _ l fun x _ => hleft x
  have hopt : ∀ o : Option RuleId, (o.map showId).map readId = o := fun o => by cases o <;> simp [hleft]
  simp only [ofJsonAction, toJsonAction, hids, List.map_map, Action.mk.injEq, true_and]
  refine ⟨?_, ?_, ?_, ?_, ?_⟩
  · cases st with
    | none => rfl
    | some u =>
      obtain ⟨h1, h2, h3⟩ := h.status u rfl
      simp only [Option.map_some, ofJsonStatus, toJsonStatus, u16_toNat _ h1, u16_toNat _ h2,
        natCodes_u16 _ h3, hopt]
  · apply map_eq_self
    intro f hfm
    simp only [Function.comp, ofJson_toJson_headerFilter, natCodes_u16 _ (h.headers f hfm), hopt]
  · apply map_eq_self
    intro f hfm
    simp only [Function.comp, ofJson_toJson_bodyFilter, natCodes_u16 _ (h.bodies f hfm), hopt]
  · apply map_eq_self
    intro t htm
    simp only [Function.comp, natCodes_u16 _ (h.traces t htm), hleft]
  · cases lg with
    | none => rfl
    | some l =>
      simp only [Option.map_some, ofJsonLog, toJsonLog, natCodes_u16 _ (h.log l rfl), hopt]

theorem spec_action_u16 (q : Req) (C : List Rule) (hC : ∀ r ∈ C, r.U16) : (Spec.action q C).U16 := by
  refine ⟨?_, ?_, ?_, ?_, ?_⟩
  · intro u hu
    obtain ⟨⟨p, fb⟩, hpf, rfl⟩ := Option.map_eq_some_iff.mp hu
    obtain ⟨⟨hp, _⟩, hfb⟩ := primaryFallback_mem carriesStatus C p fb hpf
    refine ⟨(hC p hp).1, ?_, (hC p hp).2⟩
    cases fb with
    | none => simp [statusUpdateOf]
    | some f => exact (hC f (hfb f rfl).1).1
  · intro f hf
    obtain ⟨r, hr, hfr⟩ := List.mem_flatMap.mp hf
    obtain ⟨_, _, rfl⟩ := List.mem_map.mp hfr
    exact (hC r hr).2
  · intro f hf
    obtain ⟨r, hr, hfr⟩ := List.mem_flatMap.mp hf
    obtain ⟨_, _, rfl⟩ := List.mem_map.mp hfr
    exact (hC r hr).2
  · intro t ht
    obtain ⟨r, hr, rfl⟩ := List.mem_map.mp ht
    exact (hC r hr).2
  · intro l hl
    obtain ⟨⟨p, fb⟩, hpf, rfl⟩ := Option.map_eq_some_iff.mp hl
    exact (hC p (primaryFallback_mem carriesLog C p fb hpf).1.1).2

theorem withApplied_u16 (a : Action) (s : List RuleId) (h : a.U16) : (withApplied a s).U16 :=
  ⟨h.status, h.headers, h.bodies, h.traces, h.log⟩

end Rio.Action

namespace Rio.Json

/-- `std::net::IpAddr` as the router model keeps it: family and numeric value. -/
def ipNum : Ip → Rio.Router.Ip
  | .v4 x => ⟨false, ((x.a.toNat * 256 + x.b.toNat) * 256 + x.c.toNat) * 256 + x.d.toNat⟩
  | .v6 x => ⟨true, x.segs.foldl (fun acc s => acc * 65536 + s.toNat) 0⟩

/-- Days from 1970-01-01 to the civil date (proleptic Gregorian, the year beginning in March).  `/` on `Int`
rounds down, so the 400-year era of a negative year needs no correction. -/
def daysFromCivil (y : Int) (m d : Nat) : Int :=
  let y' := if m ≤ 2 then y - 1 else y
  let era := y' / 400
  let yoe := y' - era * 400
  let mp : Int := if m > 2 then (m : Int) - 3 else (m : Int) + 9
  let doy := (153 * mp + 2) / 5 + (d : Int) - 1
  let doe := yoe * 365 + yoe / 4 - yoe / 100 + doy
  era * 146097 + doe - 719468

/-- `DateTime::timestamp()` clipped at the epoch (the router model keeps instants as `Nat` seconds); a leap
second (`sec = 60`) has the timestamp of `:59`, as in chrono. -/
def unixSeconds (t : DateTime) : Nat :=
  (daysFromCivil t.year t.month t.day * 86400 + (t.hour * 3600 + t.min * 60 + min t.sec 59 : Nat)).toNat

/-- The request the router model matches, from the fields of a serde-model request.  `ipOf` / `instant` convert
the two atoms (`ipNum`, `unixSeconds` are the intended ones; the theorems hold for every choice).  `path` is
`Request::path_and_query()`: the `path_and_query_matching` of the skipped pair when present, otherwise its
`path_and_query`.  `path_and_query` (the original), `sampling_override` and the other members of the skipped pair
are not read by matching (they are read by `rebuild_with_config` and `Action::from_routes_rule`). -/
def reqOfJson (ipOf : Ip → Rio.Router.Ip) (instant : DateTime → Nat) (q : Request) : Rio.Router.Req :=
  { scheme := q.scheme
    host := q.host
    method := q.method
    headers := q.headers.map fun h => (h.name, h.value)
    ip := q.remote_addr.map ipOf
    createdAt := q.created_at.map instant
    path := q.path_and_query_skipped.path_and_query_matching.getD q.path_and_query_skipped.path_and_query }

/-- What `Action::from_routes_rule(routes, &request, …)` reads of the request: the sampling override and the
skipped query parameters. -/
def actionReqOfJson (q : Request) : Rio.Action.Req :=
  ⟨q.sampling_override, q.path_and_query_skipped.skipped_query_params⟩

end Rio.Json
