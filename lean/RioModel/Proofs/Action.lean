/-
The fold of `from_routes_rule` equals the specification's closed form over the contributing rules (`foldRoutes_eq_spec`;
of ANY list, sorted or not): `foldRoutes` is the plain fold of `stepRule` over the effective rules through the first
stop (`foldRoutes_eq_foldl`), and that fold is `Spec.action` over these rules from their last reset on, because the
specification obeys the loop's recurrence (`action_snoc`, `fromLastReset_snoc`).  Beside that chain, of any start action:
`foldRoutes_append`, the loop over a concatenation (it ends in the first part iff an effective `stop` rule stands there),
from which Props/C05 reads what `reset`, `stop` and a sampled-out rule do to the result.
-/
import RioModel.Model.Action
import RioModel.Proofs.UtilList

namespace Rio.Action
open Spec

/-- What `from_route_rule` returns for an effective rule (`fromRouteRule_eq`), assembled from the specification's pieces. -/
def ruleAction (q : Req) (r : Rule) : Action := {
  statusCodeUpdate := if carriesStatus r then some (statusUpdateOf r none) else none
  headerFilters := ruleHeaderFilters q r
  bodyFilters := ruleBodyFilters r
  ruleIds := [r.id]
  ruleTraces := [ruleTrace r]
  rulesApplied := []
  logOverride := if carriesLog r then some (logOverrideOf r none) else none }

theorem sampledOut_eq (q : Req) (draw : Rule → Nat) (r : Rule) :
    sampledOut r.sampling q.samplingOverride (draw r) = !effective q draw r := by
  unfold sampledOut effective
  cases r.sampling with
  | none => rfl
  | some s =>
    cases q.samplingOverride with
    | none =>
      by_cases h : draw r ≤ min s 100
      · have : ¬ draw r > min s 100 := by omega
        simp [h, this]
      · have : draw r > min s 100 := by omega
        simp [h, this]
    | some b => cases b <;> simp

theorem fromRouteRule_eq (q : Req) (draw : Rule → Nat) (r : Rule) :
    fromRouteRule r q (draw r) =
      if effective q draw r then (some (ruleAction q r), isReset r, isStop r) else (none, false, false) := by
  unfold fromRouteRule
  rw [sampledOut_eq]
  cases he : effective q draw r
  · simp
  · simp only [Bool.not_true, Bool.false_eq_true, if_false, if_true]
    refine Prod.ext ?_ (Prod.ext ?_ ?_)
    · simp only [ruleAction, Option.some.injEq]
      congr 1
      · unfold carriesStatus statusUpdateOf codesOf exclOf
        cases r.statusCode with
        | none => simp
        | some c =>
          by_cases hc : c = 0
          · simp [hc]
          · simp [hc]
            cases r.responseStatusCodes <;> simp
      · unfold ruleHeaderFilters codesOf exclOf
        cases r.target with
        | none =>
          cases r.headerFilters <;> cases r.responseStatusCodes <;> simp
        | some t =>
          by_cases ht : emptyTarget t
          · cases r.headerFilters <;> cases r.responseStatusCodes <;> simp [ht]
          · cases r.headerFilters <;> cases r.responseStatusCodes <;> simp [ht]
      · unfold ruleBodyFilters codesOf exclOf
        cases r.bodyFilters <;> cases r.responseStatusCodes <;> simp
      · unfold ruleTrace codesOf exclOf
        cases r.responseStatusCodes <;> simp
      · unfold carriesLog logOverrideOf codesOf exclOf
        cases r.logOverride <;> cases r.responseStatusCodes <;> simp
    · simp only [isReset]
      cases r.reset with
      | none => rfl
      | some b => cases b <;> rfl
    · simp only [isStop]
      cases r.stop with
      | none => rfl
      | some b => cases b <;> rfl

/-- One turn of the loop of `from_routes_rule` on an effective rule, its `stop` aside (`foldRoutes_cons`): a `reset` rule
replaces the action built so far (`action = action_rule`), any other is merged into it. -/
def stepRule (q : Req) (a : Action) (r : Rule) : Action :=
  if isReset r then ruleAction q r else a.merge (ruleAction q r)

theorem foldRoutes_cons (q : Req) (draw : Rule → Nat) (a : Action) (r : Rule) (rest : List Rule) :
    foldRoutes q draw a (r :: rest) =
      if effective q draw r then
        (if isStop r then stepRule q a r else foldRoutes q draw (stepRule q a r) rest)
      else foldRoutes q draw a rest := by
  rw [foldRoutes, fromRouteRule_eq]
  cases effective q draw r <;> rfl

theorem foldRoutes_append (q : Req) (draw : Rule → Nat) (a : Action) (P X : List Rule) :
    foldRoutes q draw a (P ++ X) =
      if P.any (fun x => effective q draw x && isStop x) then foldRoutes q draw a P
      else foldRoutes q draw (foldRoutes q draw a P) X := by
  induction P generalizing a with
  | nil => rfl
  | cons x xs ih =>
    rw [List.cons_append, foldRoutes_cons, foldRoutes_cons, List.any_cons]
    cases effective q draw x
    · exact ih a
    · cases isStop x
      · exact ih _
      · rfl

theorem foldRoutes_eq_foldl (q : Req) (draw : Rule → Nat) (a : Action) (S : List Rule) :
    foldRoutes q draw a S = (throughFirstStop (S.filter (effective q draw))).foldl (stepRule q) a := by
  induction S generalizing a with
  | nil => rfl
  | cons r rs ih =>
    rw [foldRoutes_cons, List.filter_cons]
    cases effective q draw r
    · exact ih a
    · rw [if_pos rfl, if_pos rfl, throughFirstStop]
      cases isStop r
      · exact ih _
      · rfl

theorem lhsInsert_nil (x : RuleId) : lhsInsert [] x = [x] := rfl

theorem empty_merge (q : Req) (r : Rule) : Action.empty.merge (ruleAction q r) = ruleAction q r := by
  unfold Action.merge Action.empty ruleAction
  simp only [List.nil_append, List.foldl_cons, List.foldl_nil, lhsInsert_nil]
  congr 1
  · unfold mergeStatus; split <;> simp_all
  · unfold mergeLog; split <;> simp_all

theorem lhsInsert_cons (y : RuleId) (s : List RuleId) (x : RuleId) :
    lhsInsert (y :: s) x = if y == x then lhsInsert s x else y :: lhsInsert s x := by
  unfold lhsInsert idNe
  rw [List.filter_cons]
  cases y == x <;> rfl

theorem lhsInsert_dedupLast (d : List RuleId) (x : RuleId) :
    lhsInsert (dedupLast d) x = dedupLast (d ++ [x]) := by
  induction d with
  | nil => rfl
  | cons y ys ih =>
    rw [List.cons_append, dedupLast, dedupLast, List.contains_append, List.contains_cons, List.contains_nil,
      Bool.or_false, ← ih]
    cases ys.contains y
    · rw [if_neg Bool.false_ne_true, lhsInsert_cons, Bool.false_or]
    · rfl

theorem foldl_lhsInsert_dedupLast (d l : List RuleId) :
    l.foldl lhsInsert (dedupLast d) = dedupLast (d ++ l) := by
  induction l generalizing d with
  | nil => simp
  | cons x xs ih =>
    simp only [List.foldl_cons]
    rw [lhsInsert_dedupLast, ih]
    simp

theorem foldl_lhsInsert_nil (l : List RuleId) : l.foldl lhsInsert [] = dedupLast l :=
  foldl_lhsInsert_dedupLast [] l

theorem dedupLast_of_nodup (l : List RuleId) (h : l.Nodup) : dedupLast l = l := by
  induction l with
  | nil => rfl
  | cons x xs ih =>
    rw [List.nodup_cons] at h
    have : xs.contains x = false := by simpa using h.1
    simp only [dedupLast, this, ih h.2, Bool.false_eq_true, if_false]

theorem mem_dedupLast (l : List RuleId) (x : RuleId) : x ∈ dedupLast l ↔ x ∈ l := by
  induction l with
  | nil => simp [dedupLast]
  | cons y ys ih =>
    simp only [dedupLast]
    cases hy : ys.contains y
    · simp [ih]
    · simp only [if_true, ih, List.mem_cons]
      constructor
      · exact Or.inr
      · rintro (rfl | h)
        · simpa using hy
        · exact h

theorem nodup_dedupLast (l : List RuleId) : (dedupLast l).Nodup := by
  induction l with
  | nil => simp [dedupLast]
  | cons y ys ih =>
    simp only [dedupLast]
    cases hy : ys.contains y
    · simp only [Bool.false_eq_true, if_false, List.nodup_cons, ih, and_true, mem_dedupLast]
      simpa using hy
    · simpa using ih

/-- The fallback the specification assigns to primary `p` preceded by `q`. -/
def fbOf (q p : Rule) : Option Rule := if unconditional q && !unconditional p then some q else none

theorem primaryFallback_snoc (carries : Rule → Bool) (C : List Rule) (r : Rule) :
    primaryFallback carries (C ++ [r]) =
      if carries r then some (r, (primaryFallback carries C).bind fun pf => fbOf pf.1 r)
      else primaryFallback carries C := by
  unfold primaryFallback
  rw [List.filter_append, List.filter_cons]
  cases carries r
  · rw [if_neg Bool.false_ne_true, if_neg Bool.false_ne_true, List.filter_nil, List.append_nil]
  · rw [if_pos rfl, if_pos rfl, List.reverse_append]
    rcases (C.filter carries).reverse with _ | ⟨p, _ | ⟨q, t⟩⟩ <;> rfl

theorem primaryFallback_mem (carries : Rule → Bool) (C : List Rule) (p : Rule) (fb : Option Rule)
    (h : primaryFallback carries C = some (p, fb)) :
    (p ∈ C ∧ carries p = true) ∧
      (∀ f, fb = some f → f ∈ C ∧ carries f = true ∧ unconditional f = true ∧ unconditional p = false) := by
  unfold primaryFallback at h
  have hm : ∀ x, x ∈ (C.filter carries).reverse → x ∈ C ∧ carries x = true := by
    intro x hx
    exact List.mem_filter.mp (List.mem_reverse.mp hx)
  match hr : (C.filter carries).reverse, h with
  | [p'], h =>
    rw [hr] at hm
    simp only [Option.some.injEq, Prod.mk.injEq] at h
    obtain ⟨rfl, rfl⟩ := h
    exact ⟨hm p' (by simp), fun f hf => by cases hf⟩
  | p' :: q' :: t, h =>
    rw [hr] at hm
    simp only [Option.some.injEq, Prod.mk.injEq] at h
    obtain ⟨rfl, hfb⟩ := h
    refine ⟨hm p' (by simp), fun f hf => ?_⟩
    subst hf
    by_cases hc : (unconditional q' && !unconditional p') = true
    · simp only [hc, if_true, Option.some.injEq] at hfb
      subst hfb
      simp only [Bool.and_eq_true, Bool.not_eq_true'] at hc
      exact ⟨(hm q' (by simp)).1, (hm q' (by simp)).2, hc.1, hc.2⟩
    · simp [hc] at hfb

theorem mergeStatus_some (old new : StatusCodeUpdate) :
    mergeStatus (some old) (some new) =
      some (if !old.onResponseStatusCodes.isEmpty || new.onResponseStatusCodes.isEmpty then new
            else { new with fallbackStatusCode := old.statusCode, fallbackRuleId := old.ruleId }) := by
  simp only [mergeStatus]
  split <;> rfl

/-- Whatever fallback the old primary `p` had is forgotten. -/
theorem mergeStatus_snoc (p : Rule) (fb : Option Rule) (r : Rule) :
    mergeStatus (some (statusUpdateOf p fb)) (some (statusUpdateOf r none)) = some (statusUpdateOf r (fbOf p r)) := by
  rw [mergeStatus_some]
  simp only [fbOf, unconditional, statusUpdateOf]
  by_cases hp : codesOf p = []
  · by_cases hr : codesOf r = [] <;> simp [hp, hr]
  · simp [hp]

theorem status_snoc (C : List Rule) (r : Rule) :
    (primaryFallback carriesStatus (C ++ [r])).map (fun pf => statusUpdateOf pf.1 pf.2) =
      mergeStatus ((primaryFallback carriesStatus C).map fun pf => statusUpdateOf pf.1 pf.2)
        (if carriesStatus r then some (statusUpdateOf r none) else none) := by
  rw [primaryFallback_snoc]
  cases carriesStatus r
  · cases primaryFallback carriesStatus C <;> rfl
  · cases primaryFallback carriesStatus C with
    | none => rfl
    | some pf => exact (mergeStatus_snoc pf.1 pf.2 r).symm

theorem mergeLog_some (s o : LogOverride) :
    mergeLog (some s) (some o) =
      some (if !s.onResponseStatusCodes.isEmpty || o.onResponseStatusCodes.isEmpty then o
            else { o with fallbackLogOverride := some s.logOverride, fallbackRuleId := s.ruleId, unitId := s.unitId }) := by
  simp only [mergeLog]
  split <;> rfl

/-- This `merge` hands the OLD unit id on (`unit_id: self_log_override.unit_id`), which is the old FALLBACK's when the
old primary `p` has one; but it does so only when `p` is unconditional, and an unconditional primary has no fallback
(`h`, from `primaryFallback_mem`). -/
theorem mergeLog_snoc (p : Rule) (fb : Option Rule) (r : Rule) (h : ∀ f, fb = some f → unconditional p = false) :
    mergeLog (some (logOverrideOf p fb)) (some (logOverrideOf r none)) = some (logOverrideOf r (fbOf p r)) := by
  rw [mergeLog_some]
  simp only [fbOf, unconditional, logOverrideOf] at h ⊢
  by_cases hp : codesOf p = []
  · cases fb with
    | none => by_cases hr : codesOf r = [] <;> simp [hp, hr]
    | some f => simp [hp] at h
  · simp [hp]

theorem log_snoc (C : List Rule) (r : Rule) :
    (primaryFallback carriesLog (C ++ [r])).map (fun pf => logOverrideOf pf.1 pf.2) =
      mergeLog ((primaryFallback carriesLog C).map fun pf => logOverrideOf pf.1 pf.2)
        (if carriesLog r then some (logOverrideOf r none) else none) := by
  rw [primaryFallback_snoc]
  cases carriesLog r
  · cases primaryFallback carriesLog C <;> rfl
  · cases h : primaryFallback carriesLog C with
    | none => rfl
    | some pf =>
      exact (mergeLog_snoc pf.1 pf.2 r fun f hf => ((primaryFallback_mem carriesLog C pf.1 pf.2 h).2 f hf).2.2.2).symm

theorem action_snoc (q : Req) (C : List Rule) (r : Rule) :
    Spec.action q (C ++ [r]) = (Spec.action q C).merge (ruleAction q r) := by
  simp only [Spec.action, Action.merge, ruleAction, status_snoc, log_snoc, List.flatMap_append, List.map_append,
    List.flatMap_singleton, List.map_singleton, List.foldl_cons, List.foldl_nil, lhsInsert_dedupLast]

theorem fromLastReset_snoc (T : List Rule) (r : Rule) :
    fromLastReset (T ++ [r]) = if isReset r then [r] else fromLastReset T ++ [r] := by
  induction T with
  | nil => simp [fromLastReset]
  | cons x xs ih =>
    rw [List.cons_append, fromLastReset, fromLastReset, List.any_append, ih]
    cases hr : isReset r <;> cases xs.any isReset <;> simp [hr]

theorem foldl_stepRule_eq_spec (q : Req) (P : List Rule) :
    P.foldl (stepRule q) Action.empty = Spec.action q (fromLastReset P) :=
  Util.foldl_eq_of_snoc _ (fun T => Spec.action q (fromLastReset T))
    (fun T r => by
      rw [fromLastReset_snoc, stepRule]
      cases isReset r
      · exact (action_snoc q _ r).symm
      · exact ((action_snoc q [] r).trans (empty_merge q r)).symm) P

theorem foldRoutes_eq_spec (q : Req) (draw : Rule → Nat) (S : List Rule) :
    foldRoutes q draw Action.empty S = Spec.action q (contributing q draw S) := by
  rw [foldRoutes_eq_foldl, foldl_stepRule_eq_spec]
  rfl

end Rio.Action
