/-
C03 for chains of several stages: the chain as a pipeline of stages.

`runG items ps fin` = feed the pieces `ps` through `do_filter`, then `do_end` started with `fin`.
`runG_cons` (transposition): the run of `st :: rest` is the run of `rest` on the NON-EMPTY outputs of `st` (the `break` of
`do_filter`), `do_end` started with what `st` emits at end (its `filter(fin) ++ end()` as ONE piece).
A stage that can be restarted (`Acc`: html with the restart law and an accepted context, or text) is chunk-invariant on
whatever pieces it receives (`stFeed_total`, from the restart law `Acc.step`), hence a run that does not fail is the
closed form `pipeTotal` of the concatenated stream (`runG_total`): two runs on the same stream agree, text chains have
the closed form `textTotal`, a single html stage emits its `htmlTotal`.
-/
import RioModel.Proofs.FilterTotal
import RioModel.Proofs.FilterText
import RioModel.Proofs.FilterChain

namespace Rio.Filter

variable {D E : Type} (tk : Tokenize) (ev : Bytes → Bytes → Bool) (codec : Codec D E)

/-- `data = if new_data.is_empty() { None } else { Some(new_data) }`: how `do_end` hands the end output of a stage to the
next one (src/filter/filter_body.rs:184) -/
def optB (b : Bytes) : Option Bytes := if b.isEmpty then none else some b

theorem optB_getD (b : Bytes) : (optB b).getD [] = b :=
  Rio.Util.ite_isEmpty_getD b

/-- the pieces that reach the next stage -/
def nonEmpty (ps : List Bytes) : List Bytes := ps.filter fun p => !p.isEmpty

theorem nonEmpty_flatten (ps : List Bytes) : (nonEmpty ps).flatten = ps.flatten :=
  List.flatten_filter_not_isEmpty

/-- feed pieces through `do_filter`: stages afterwards, concatenated outputs; `none` = a call failed -/
def feedG : List (Stage D E) → List Bytes → Option (List (Stage D E) × Bytes)
  | items, [] => some (items, [])
  | items, p :: ps =>
    match doFilter tk ev codec items p with
    | (_, none) => none
    | (items1, some o) => (feedG items1 ps).map fun r => (r.1, o ++ r.2)

/-- `fin` is the local `data : Option<Vec<u8>>` of `do_end` on entry: `None` in the code, `optB nd` for the tail of a chain
whose head stage has ended with `nd` (`runG_cons`) -/
def runG (items : List (Stage D E)) (ps : List Bytes) (fin : Option Bytes) : Option Bytes :=
  match feedG tk ev codec items ps with
  | none => none
  | some (items1, os) =>
    match doEnd tk ev codec items1 fin with
    | (_, .ok r) => some (os ++ r.getD [])
    | (_, .error _) => none

/-- one stage over pieces delivered through `filter` -/
def stFeed : Stage D E → List Bytes → Option (Stage D E × List Bytes)
  | st, [] => some (st, [])
  | st, p :: ps =>
    match st.filter tk ev codec p with
    | none => none
    | some (st1, o) => (stFeed st1 ps).map fun r => (r.1, o :: r.2)

theorem nonEmpty_cons (o : Bytes) (os : List Bytes) :
    nonEmpty (o :: os) = if o = [] then nonEmpty os else o :: nonEmpty os := by
  cases o <;> rfl

theorem feedG_cons : ∀ (ps : List Bytes) (st : Stage D E) (rest : List (Stage D E)),
    feedG tk ev codec (st :: rest) ps =
      match stFeed tk ev codec st ps with
      | none => none
      | some (st1, os) => (feedG tk ev codec rest (nonEmpty os)).map fun r => (st1 :: r.1, r.2)
  | [], st, rest => by simp [feedG, stFeed, nonEmpty]
  | p :: ps, st, rest => by
    rw [feedG, stFeed]
    cases hf : st.filter tk ev codec p with
    | none => rw [doFilter_cons_none tk ev codec rest hf]
    | some r =>
      obtain ⟨st1, o⟩ := r
      by_cases ho : o = []
      · -- the `break`: the stages behind are not called, and `nonEmpty` drops the empty output
        subst ho
        rw [doFilter_cons_empty tk ev codec rest hf]
        simp only
        rw [feedG_cons ps st1 rest]
        rcases stFeed tk ev codec st1 ps with _ | ⟨st2, os⟩
        · rfl
        · simp only [Option.map_some, nonEmpty_cons, if_true, Option.map_map]
          rfl
      · -- `o` is the first piece that reaches the stages behind, which fail on it or go on
        rw [doFilter_cons_more tk ev codec rest hf ho]
        simp only
        rcases hd : doFilter tk ev codec rest o with ⟨rest1, _ | q⟩
        · rcases stFeed tk ev codec st1 ps with _ | ⟨st2, os⟩
          · rfl
          · simp only [Option.map_some, nonEmpty_cons, if_neg ho, feedG, hd, Option.map_none]
        · simp only
          rw [feedG_cons ps st1 rest1]
          rcases stFeed tk ev codec st1 ps with _ | ⟨st2, os⟩
          · rfl
          · simp only [Option.map_some, nonEmpty_cons, if_neg ho, feedG, hd, Option.map_map]
            rfl

theorem runG_cons (st : Stage D E) (rest : List (Stage D E)) (ps : List Bytes) (fin : Option Bytes) :
    runG tk ev codec (st :: rest) ps fin =
      match stFeed tk ev codec st ps with
      | none => none
      | some (st1, os) =>
        match st1.endWith tk ev codec fin with
        | (_, none) => none
        | (_, some nd) => runG tk ev codec rest (nonEmpty os) (optB nd) := by
  unfold runG
  rw [feedG_cons]
  cases stFeed tk ev codec st ps with
  | none => rfl
  | some r =>
    obtain ⟨st1, os⟩ := r
    simp only
    cases hfe : feedG tk ev codec rest (nonEmpty os) with
    | none =>
      simp only [Option.map_none]
      cases st1.endWith tk ev codec fin with
      | mk st2 x => cases x <;> simp
    | some r2 =>
      obtain ⟨rest1, out⟩ := r2
      simp only [Option.map_some]
      rw [doEnd]
      cases st1.endWith tk ev codec fin with
      | mk st2 x =>
        cases x with
        | none => simp
        | some nd =>
          simp only [optB]
          cases doEnd tk ev codec rest1 (if nd.isEmpty = true then none else some nd) with
          | mk r3 res => cases res <;> simp

theorem feedG_nil : ∀ ps : List Bytes, feedG tk ev codec ([] : List (Stage D E)) ps = some ([], ps.flatten)
  | [] => rfl
  | p :: ps => by simp [feedG, doFilter, feedG_nil ps]

theorem runG_nil (ps : List Bytes) (fin : Option Bytes) :
    runG tk ev codec ([] : List (Stage D E)) ps fin = some (ps.flatten ++ fin.getD []) := by
  simp [runG, feedG_nil, doEnd]

theorem feed_of_feedG : ∀ (cs : List Bytes) (items items1 : List (Stage D E)) (os : Bytes),
    feedG tk ev codec items cs = some (items1, os) →
    ∃ outs, ({ items := items } : Chain D E).feed tk ev codec cs = ({ items := items1 }, outs) ∧ outs.flatten = os
  | [], items, items1, os, h => by
    cases h
    exact ⟨[], rfl, rfl⟩
  | c :: cs, items, items1, os, h => by
    rw [feedG] at h
    cases hd : doFilter tk ev codec items c with
    | mk it1 r =>
      rw [hd] at h
      cases r with
      | none => cases h
      | some o =>
        obtain ⟨⟨it2, os2⟩, h1, h2⟩ := Option.map_eq_some_iff.mp h
        cases h2
        obtain ⟨outs, f1, f2⟩ := feed_of_feedG cs it1 it2 os2 h1
        refine ⟨o :: outs, ?_, by rw [List.flatten_cons, f2]⟩
        simp only [Chain.feed, Chain.filter, Bool.false_eq_true, if_false, hd, f1]

theorem run_of_runG (cs : List Bytes) (items : List (Stage D E)) (out : Bytes)
    (h : runG tk ev codec items cs none = some out) : ({ items := items } : Chain D E).run tk ev codec cs = out := by
  unfold runG at h
  cases hf : feedG tk ev codec items cs with
  | none => simp [hf] at h
  | some r =>
    obtain ⟨items1, os⟩ := r
    simp only [hf] at h
    obtain ⟨outs, f1, f2⟩ := feed_of_feedG tk ev codec cs items items1 os hf
    cases hd : doEnd tk ev codec items1 none with
    | mk it2 res =>
      rw [hd] at h
      cases res with
      | error p => simp at h
      | ok r =>
        simp only at h
        injection h with h
        subst h
        simp [Chain.run, Chain.runOuts, f1, Chain.end, hd, f2]

/-- `seqRun` keeping the outputs apart -/
def seqRunL (s : HtmlSt) : List Bytes → Option (HtmlSt × List Bytes)
  | [] => some (s, [])
  | x :: xs =>
    match filterHtml tk ev s x with
    | none => none
    | some (s1, o1) => (seqRunL s1 xs).map fun r => (r.1, o1 :: r.2)

theorem seqRunL_flat : ∀ (xs : List Bytes) (s : HtmlSt),
    seqRun tk ev s xs = (seqRunL tk ev s xs).map fun r => (r.1, r.2.flatten)
  | [], s => rfl
  | x :: xs, s => by
    simp only [seqRun, seqRunL]
    cases filterHtml tk ev s x with
    | none => rfl
    | some r =>
      obtain ⟨s1, o1⟩ := r
      simp only
      rw [seqRunL_flat xs s1]
      cases seqRunL tk ev s1 xs with
      | none => rfl
      | some r2 => simp

/-- a stage as `FilterBodyAction::new` builds it, and on which the tokenizer makes no token of the empty input: a fact
about `tk` (hypothesis `hnil` of `stage_new_init`, Props/C03.lean), needed by `htmlTotal_nil` for the empty schedule -/
def StageInit : Stage D E → Prop
  | .html s => Ctx s.ctx ∧ s.last = [] ∧ (tk.stream s.ctx []).1 = []
  | _ => True

/-- what a plain stage makes of the whole stream `b` delivered as one piece followed by `end()` -/
def stOne : Stage D E → Bytes → Option Bytes
  | .html s, b => htmlTotal tk ev s b
  | .text s, b => some (stageTotal s b)
  | _, _ => none

theorem stFeed_html : ∀ (ps : List Bytes) (s : HtmlSt),
    stFeed tk ev codec (.html s : Stage D E) ps =
      (seqRunL tk ev s ps).map fun r => (.html r.1, r.2)
  | [], s => rfl
  | p :: ps, s => by
    simp only [stFeed, seqRunL, Stage.filter]
    cases filterHtml tk ev s p with
    | none => rfl
    | some r =>
      obtain ⟨s1, o⟩ := r
      simp only [Option.map_some]
      rw [stFeed_html ps s1]
      cases seqRunL tk ev s1 ps with
      | none => rfl
      | some r2 => rfl

theorem stFeed_text : ∀ (ps : List Bytes) (s : TextSt),
    ∃ s1 os, stFeed tk ev codec (.text s : Stage D E) ps = some (.text s1, os) ∧
      ∀ b, stageTotal s (ps.flatten ++ b) = os.flatten ++ stageTotal s1 b
  | [], s => ⟨s, [], rfl, fun b => rfl⟩
  | p :: ps, s => by
    obtain ⟨s1, os, h1, h2⟩ := stFeed_text ps (filterText s p).1
    refine ⟨s1, (filterText s p).2 :: os, ?_, ?_⟩
    · simp only [stFeed, Stage.filter]
      rw [h1]
      rfl
    · intro b
      simp only [List.flatten_cons, List.append_assoc]
      rw [stageTotal_filter, h2]

theorem optB_toList_flatten (b : Bytes) : (optB b).toList.flatten = b := by
  have h := optB_getD b
  cases ho : optB b <;> rw [ho] at h <;> simpa using h

/-- a stage that can be restarted: plain, and (html) with a tokenizer obeying the restart law and a context
`new_fragment` accepts (the law stands in the predicate, as in `StOK`: asked for only where there is an html stage) -/
def Acc : Stage D E → Prop
  | .html s => RestartLaw tk ∧ Ctx s.ctx
  | .text _ => True
  | _ => False

theorem stOne_endWith (st : Stage D E) (hp : isPlain st = true) (b : Bytes) :
    (st.endWith tk ev codec (some b)).2 = stOne tk ev st b := by
  cases st with
  | html s =>
    simp only [Stage.endWith, Stage.filter, stOne, htmlTotal]
    cases filterHtml tk ev s b with
    | none => rfl
    | some r => rfl
  | text s =>
    have := stageTotal_filter s b []
    rw [List.append_nil, stageTotal_end] at this
    rw [endWith_text_some, stOne, this]
  | decode d => cases hp
  | encode e => cases hp

/-- a restartable stage at which `end()` alone emits what `filter([])` followed by `end()` would: true of a stage as
`FilterBodyAction::new` builds it and of every state a `filter` call leaves behind -/
def Good (st : Stage D E) : Prop :=
  Acc tk st ∧ stOne tk ev st [] = (st.endWith tk ev codec none).2

theorem Acc.plain {st : Stage D E} (h : Acc tk st) : isPlain st = true := by
  cases st <;> first | rfl | cases h

theorem Acc.step {st st1 : Stage D E} {x o : Bytes} (ha : Acc tk st)
    (h : st.filter tk ev codec x = some (st1, o)) :
    Acc tk st1 ∧ ∀ r, stOne tk ev st (x ++ r) = (stOne tk ev st1 r).map fun t => o ++ t := by
  cases st with
  | html s =>
    obtain ⟨⟨s1, o1⟩, hf, heq⟩ := Option.map_eq_some_iff.mp h
    injection heq with e1 e2
    subst e1 e2
    exact ⟨⟨ha.1, filterHtml_ctx tk ev ha.1 s s1 x o1 ha.2 hf⟩, fun r => total_split tk ev ha.1 s s1 x r o1 ha.2 hf⟩
  | text s =>
    injection h with h
    injection h with e1 e2
    subst e1 e2
    exact ⟨trivial, fun r => congrArg some (stageTotal_filter s x r)⟩
  | decode d => cases ha
  | encode e => cases ha

/-- the restart law at `r = []` -/
theorem Acc.good_step {st st1 : Stage D E} {x o : Bytes} (ha : Acc tk st)
    (h : st.filter tk ev codec x = some (st1, o)) : Good tk ev codec st1 := by
  obtain ⟨h1, h2⟩ := ha.step tk ev codec h
  refine ⟨h1, (Option.map_inj_right (f := fun t => o ++ t) fun _ _ => List.append_cancel_left).mp ?_⟩
  rw [← h2 [], List.append_nil, ← stOne_endWith tk ev codec st (ha.plain tk), Stage.endWith_filter_some tk ev codec h]

theorem good_text (s : TextSt) : Good tk ev codec (.text s : Stage D E) :=
  ⟨trivial, congrArg some (stageTotal_end s)⟩

theorem StageInit.good (hl : LosslessS tk) (hr : RestartLaw tk) {st : Stage D E} (hp : isPlain st = true) (hi : StageInit tk st) :
    Good tk ev codec st := by
  cases st with
  | html s => exact ⟨⟨hr, hi.1⟩, htmlTotal_nil tk ev hl s hi.2.1 hi.2.2⟩
  | text s => exact good_text tk ev codec s
  | decode d => cases hp
  | encode e => cases hp

/-- `Good` is needed for the empty schedule only. -/
theorem stFeed_total (ps : List Bytes) (st st1 st2 : Stage D E) (os : List Bytes) (fin : Option Bytes) (nd : Bytes)
    (ha : Acc tk st) (hg : ps = [] → Good tk ev codec st)
    (hf : stFeed tk ev codec st ps = some (st1, os)) (he : st1.endWith tk ev codec fin = (st2, some nd)) :
    stOne tk ev st (ps.flatten ++ fin.getD []) = some (os.flatten ++ nd) := by
  induction ps generalizing st os with
  | nil =>
    cases hf
    cases fin with
    | none => exact ((hg rfl).2.trans (congrArg Prod.snd he))
    | some d => exact ((stOne_endWith tk ev codec _ (ha.plain tk) d).symm.trans (congrArg Prod.snd he))
  | cons p ps ih =>
    rw [stFeed] at hf
    cases hp : st.filter tk ev codec p with
    | none => rw [hp] at hf; cases hf
    | some r =>
      obtain ⟨st', o⟩ := r
      rw [hp] at hf
      obtain ⟨⟨st1', os'⟩, h1, h2⟩ := Option.map_eq_some_iff.mp hf
      cases h2
      obtain ⟨ha', hs⟩ := ha.step tk ev codec hp
      rw [List.flatten_cons, List.append_assoc, hs,
        ih st' os' ha' (fun _ => ha.good_step tk ev codec hp) h1]
      exact congrArg some (List.append_assoc ..).symm

/-- the closed form of a run: each stage's `stOne` applied in turn to the WHOLE stream; `none` as soon as one stage
fails on it -/
def pipeTotal : List (Stage D E) → Bytes → Option Bytes
  | [], b => some b
  | st :: rest, b => (stOne tk ev st b).bind (pipeTotal rest)

/-- By `runG_cons` the head stage sees `ps` and hands `nonEmpty os`, `optB nd` to the rest: `stFeed_total` for the head,
the induction hypothesis for the rest (the two have the same concatenation: `nonEmpty_flatten`, `optB_getD`). -/
theorem runG_total (items : List (Stage D E)) (ps : List Bytes) (fin : Option Bytes) (out : Bytes)
    (hg : ∀ st ∈ items, Good tk ev codec st) (h : runG tk ev codec items ps fin = some out) :
    pipeTotal tk ev items (ps.flatten ++ fin.getD []) = some out := by
  induction items generalizing ps fin with
  | nil => rwa [runG_nil] at h
  | cons st rest ih =>
    rw [runG_cons] at h
    cases hfe : stFeed tk ev codec st ps with
    | none => rw [hfe] at h; cases h
    | some r =>
      obtain ⟨st1, os⟩ := r
      simp only [hfe] at h
      cases hw : st1.endWith tk ev codec fin with
      | mk st2 x =>
        simp only [hw] at h
        cases x with
        | none => cases h
        | some nd =>
          have hst := hg st (List.mem_cons_self ..)
          have ih := ih (nonEmpty os) (optB nd) (fun s hs => hg s (List.mem_cons_of_mem _ hs)) h
          rw [nonEmpty_flatten, optB_getD] at ih
          rw [pipeTotal, stFeed_total tk ev codec ps st st1 st2 os fin nd hst.1 (fun _ => hst) hfe hw]
          exact ih

theorem good_of_init (hl : LosslessS tk) (hr : RestartLaw tk) {items : List (Stage D E)} (hp : AllPlain items)
    (hinit : ∀ st ∈ items, StageInit tk st) : ∀ st ∈ items, Good tk ev codec st :=
  fun st h => StageInit.good tk ev codec hl hr (hp st h) (hinit st h)

theorem run_total (items : List (Stage D E)) (cs : List Bytes)
    (hg : ∀ st ∈ items, Good tk ev codec st) (hok : runG tk ev codec items cs none ≠ none) :
    pipeTotal tk ev items cs.flatten = some (({ items := items } : Chain D E).run tk ev codec cs) := by
  cases h : runG tk ev codec items cs none with
  | none => exact absurd h hok
  | some out =>
    rw [run_of_runG tk ev codec cs items out h]
    have := runG_total tk ev codec items cs none out hg h
    rwa [Option.getD_none, List.append_nil] at this

theorem AllText.good {items : List (Stage D E)} (h : AllText items) : ∀ st ∈ items, Good tk ev codec st := by
  intro st hst
  obtain ⟨s, rfl⟩ := h st hst
  exact good_text tk ev codec s

theorem pipeTotal_text : ∀ (items : List (Stage D E)) (b : Bytes), AllText items →
    pipeTotal tk ev items b = some (textTotal items b)
  | [], _, _ => rfl
  | st :: rest, b, h => by
    obtain ⟨s, rfl⟩ := h _ (List.mem_cons_self ..)
    exact pipeTotal_text rest _ fun st hs => h st (List.mem_cons_of_mem _ hs)

theorem runG_text_some : ∀ (items : List (Stage D E)) (ps : List Bytes) (fin : Option Bytes), AllText items →
    ∃ out, runG tk ev codec items ps fin = some out
  | [], ps, fin, _ => ⟨_, runG_nil tk ev codec ps fin⟩
  | st :: rest, ps, fin, h => by
    obtain ⟨s, rfl⟩ := h _ (List.mem_cons_self ..)
    obtain ⟨s1, os, h1, _⟩ := stFeed_text tk ev codec ps s
    obtain ⟨st2, nd, hw⟩ := endWith_text tk ev codec s1 fin
    rw [runG_cons, h1]
    simp only [hw]
    exact runG_text_some rest _ _ fun st hs => h st (List.mem_cons_of_mem _ hs)

theorem runG_text (items : List (Stage D E)) (ps : List Bytes) (fin : Option Bytes) (h : AllText items) :
    runG tk ev codec items ps fin = some (textTotal items (ps.flatten ++ fin.getD [])) := by
  obtain ⟨out, ho⟩ := runG_text_some tk ev codec items ps fin h
  rw [ho, ← pipeTotal_text tk ev items _ h, runG_total tk ev codec items ps fin out (h.good tk ev codec) ho]

/-- `do_end` of text stages alone: the run with no piece at all -/
theorem doEnd_text (items : List (Stage D E)) (d : Option Bytes) (h : AllText items) :
    ∃ items' r, doEnd tk ev codec items d = (items', .ok r) ∧ textTotal items (d.getD []) = r.getD [] := by
  have hr := runG_text tk ev codec items [] d h
  simp only [runG, feedG, List.flatten_nil, List.nil_append] at hr
  cases hd : doEnd tk ev codec items d with
  | mk items' res =>
    rw [hd] at hr
    cases res with
    | error p => cases hr
    | ok r => exact ⟨items', r, rfl, (Option.some.inj hr).symm⟩

theorem stFeed_of_seqRun {s s' : HtmlSt} {cs : List Bytes} {o : Bytes} (h : seqRun tk ev s cs = some (s', o)) :
    ∃ os, stFeed tk ev codec (.html s : Stage D E) cs = some (.html s', os) ∧ os.flatten = o := by
  rw [seqRunL_flat] at h
  obtain ⟨⟨s1, os⟩, h1, h2⟩ := Option.map_eq_some_iff.mp h
  injection h2 with e1 e2
  subst e1 e2
  exact ⟨os, by rw [stFeed_html, h1]; rfl, rfl⟩

theorem run_text (ch : Chain D E) (hall : AllText ch.items) (herr : ch.inError = false) (cs : List Bytes) :
    ch.run tk ev codec cs = textTotal ch.items cs.flatten := by
  obtain ⟨items, e⟩ := ch
  cases herr
  have := runG_text tk ev codec items cs none hall
  rw [Option.getD_none, List.append_nil] at this
  exact run_of_runG tk ev codec cs items _ this

theorem run_single_html (cs : List Bytes) (s s' : HtmlSt) (o : Bytes) (h : seqRun tk ev s cs = some (s', o)) :
    ({ items := [.html s] } : Chain D E).run tk ev codec cs = o ++ endHtml s' := by
  obtain ⟨os, h1, rfl⟩ := stFeed_of_seqRun tk ev codec h
  apply run_of_runG
  rw [runG_cons, h1]
  show runG tk ev codec [] (nonEmpty os) (optB (endHtml s')) = _
  rw [runG_nil, nonEmpty_flatten, optB_getD]

theorem run_html_one (s : HtmlSt) (b t : Bytes) (h : htmlTotal tk ev s b = some t) :
    ({ items := [.html s] } : Chain D E).run tk ev codec [b] = t := by
  obtain ⟨⟨sb, ob⟩, hf, rfl⟩ := Option.map_eq_some_iff.mp h
  exact run_single_html tk ev codec [b] s sb ob (by simp [seqRun, hf])

theorem seqRun_total (hr : RestartLaw tk) (cs : List Bytes) (s s' : HtmlSt) (o : Bytes) (hne : cs ≠ []) (hc : Ctx s.ctx)
    (h : seqRun tk ev s cs = some (s', o)) : htmlTotal tk ev s cs.flatten = some (o ++ endHtml s') := by
  obtain ⟨os, h1, rfl⟩ := stFeed_of_seqRun tk ev (D := Unit) (E := Unit) noCodec h
  have := stFeed_total tk ev noCodec cs (.html s) _ _ os none _ ⟨hr, hc⟩ (fun e => absurd e hne) h1 rfl
  rwa [Option.getD_none, List.append_nil] at this

end Rio.Filter
