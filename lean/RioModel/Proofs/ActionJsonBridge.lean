/-
Bridge from the action model (`Rio.Action.Action`, C05) to the serde model (`Rio.Json.Action`, C06):
field-by-field translation, and the fact that every action the C05 model builds or reaches by
observer calls satisfies the representation invariant `Rio.Json.Action.WF` (its two
`LinkedHashSet`s are duplicate-free).  `showId : RuleId → String` renders an id (the model keeps ids
as UTF-8 bytes); it only has to be injective.
-/
import RioModel.Model.JsonAction
import RioModel.Proofs.ActionObs

namespace Rio.Action
open Spec

def toJsonHeaderFilter (f : HeaderFilter) : Rio.Json.HeaderFilter :=
  ⟨f.action, f.header, f.value, f.id, f.targetHash⟩

def toJsonTextAction : TextAction → Rio.Json.TextAction
  | .append => .append | .prepend => .prepend | .replace => .replace

def toJsonBodyFilter : BodyFilter → Rio.Json.BodyFilter
  | .text t => .text ⟨toJsonTextAction t.action, t.content, t.id, t.targetHash⟩
  | .html h => .html ⟨h.action, h.value, h.innerValue, h.elementTree, h.cssSelector, h.id, h.targetHash⟩

/-- `u16` (the model keeps status codes as `Nat`; they come from `u16` fields). -/
def u16 (n : Nat) : UInt16 := UInt16.ofNat n

section
variable (showId : RuleId → String)

def toJsonStatus (u : StatusCodeUpdate) : Rio.Json.StatusCodeUpdate :=
  ⟨u16 u.statusCode, u.onResponseStatusCodes.map u16, u.excludeResponseStatusCodes,
   u16 u.fallbackStatusCode, u.ruleId.map showId, u.fallbackRuleId.map showId, u.unitId, u.targetHash⟩

def toJsonLog (l : LogOverride) : Rio.Json.LogOverride :=
  ⟨l.logOverride, l.ruleId.map showId, l.onResponseStatusCodes.map u16, l.excludeResponseStatusCodes,
   l.fallbackLogOverride, l.fallbackRuleId.map showId, l.unitId⟩

def toJsonAction (a : Action) : Rio.Json.Action :=
  { status_code_update := a.statusCodeUpdate.map (toJsonStatus showId)
    header_filters := a.headerFilters.map fun f =>
      ⟨toJsonHeaderFilter f.filter, f.onResponseStatusCodes.map u16, f.excludeResponseStatusCodes,
       f.ruleId.map showId⟩
    body_filters := a.bodyFilters.map fun f =>
      ⟨toJsonBodyFilter f.filter, f.onResponseStatusCodes.map u16, f.excludeResponseStatusCodes,
       f.ruleId.map showId⟩
    rule_ids := a.ruleIds.map showId
    rule_traces := a.ruleTraces.map fun t =>
      ⟨showId t.id, t.onResponseStatusCodes.map u16, t.excludeResponseStatusCodes⟩
    rules_applied := a.rulesApplied.map showId
    log_override := a.logOverride.map (toJsonLog showId) }

theorem map_nodup_of_injective (hinj : Function.Injective showId) (l : List RuleId) (h : l.Nodup) :
    (l.map showId).Nodup :=
  List.Pairwise.map showId (fun _ _ hne e => hne (hinj e)) h

/-- The action model drops every occurrence before it pushes, the serde model erases the first: on a duplicate-free
list `erase` is a `filter`, and the two predicates agree on ids rendered injectively. -/
theorem lhsInsert_map_eq_insertBack (hinj : Function.Injective showId) (s : List RuleId) (x : RuleId)
    (h : s.Nodup) :
    (lhsInsert s x).map showId = Rio.Json.insertBack (s.map showId) (showId x) := by
  rw [lhsInsert, Rio.Json.insertBack, (map_nodup_of_injective showId hinj s h).erase_eq_filter, List.filter_map,
    List.map_append, List.map_singleton]
  congr 2
  apply List.filter_congr
  intro y _
  have : (y == x) = (showId y == showId x) :=
    Bool.eq_iff_iff.mpr (by rw [beq_iff_eq, beq_iff_eq, hinj.eq_iff])
  simp only [idNe, Function.comp, bne, this]

theorem nodup_lhsInsert (s : List RuleId) (x : RuleId) (h : s.Nodup) : (lhsInsert s x).Nodup :=
  Rio.Util.nodup_filter_ne_concat h x

theorem foldl_lhsInsert_map (hinj : Function.Injective showId) (l s : List RuleId) (h : s.Nodup) :
    (l.foldl lhsInsert s).map showId = (l.map showId).foldl Rio.Json.insertBack (s.map showId) := by
  induction l generalizing s with
  | nil => rfl
  | cons x xs ih =>
    simp only [List.foldl_cons, List.map_cons]
    rw [ih _ (nodup_lhsInsert s x h), lhsInsert_map_eq_insertBack showId hinj s x h]

/-- The action after a sequence of observer calls (`runOps` records the observations; this is the
`&mut self` it leaves behind). -/
def stateAfter (allowLog : Bool) (c : Nat) : Action → List Op → Action
  | a, [] => a
  | a, op :: ops => stateAfter allowLog c (runOp allowLog c a op).2 ops

theorem runOps_append (allow : Bool) (c : Nat) (a : Action) (ops1 ops2 : List Op) :
    runOps allow c a (ops1 ++ ops2) =
      runOps allow c a ops1 ++ runOps allow c (stateAfter allow c a ops1) ops2 := by
  induction ops1 generalizing a with
  | nil => rfl
  | cons op ops ih => simp only [List.cons_append, runOps, stateAfter, ih]

theorem stateAfter_spec (q : Req) (C : List Rule) (allow : Bool) (c : Nat) (done : List RuleId)
    (ops : List Op) :
    stateAfter allow c (withApplied (Spec.action q C) (dedupLast done)) ops =
      withApplied (Spec.action q C) (dedupLast (done ++ ops.flatMap (insertedBy q C c))) := by
  induction ops generalizing done with
  | nil => simp [stateAfter]
  | cons op ops ih =>
    simp only [stateAfter, runOp_spec, List.flatMap_cons]
    rw [ih]
    simp [List.append_assoc]

theorem withApplied_spec_wf (hinj : Function.Injective showId) (q : Req) (C : List Rule)
    (d : List RuleId) :
    (toJsonAction showId (withApplied (Spec.action q C) (dedupLast d))).WF := by
  unfold Rio.Json.Action.WF toJsonAction withApplied Spec.action
  exact ⟨map_nodup_of_injective showId hinj _ (nodup_dedupLast _),
         map_nodup_of_injective showId hinj _ (nodup_dedupLast _)⟩

end
end Rio.Action
