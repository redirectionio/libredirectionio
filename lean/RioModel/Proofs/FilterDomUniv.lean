/-
C15, byte level, universal form: `tokenize (serialize d) = tokensOf d` for every document of the `Simple` grammar,
parametrised by the closed-form facts about the tokenizer's readers (`Laws`: every tag / comment / declaration /
raw-text element that satisfies the grammar's side conditions is a closed piece).  The laws are discharged from
`Proofs/HtmlClosed*.lean` in `Proofs/FilterDomLaws.lean`, through the last part of this file: what a closed form says
about `next` (`StepFacts`) is one round of the token loop (`step_plain`, `step_tag`).
-/
import RioModel.Proofs.FilterDomTok

namespace Rio.Filter
open Rio.Html Rio.Html.Tokenizer

/-- lower-cased tag name as the tokenizer computes it -/
def lowerName (d : Bytes) : Bytes := d.map Tokenizer.lowerByte

/-- side conditions of the grammar and the facts the readers satisfy under them -/
structure Laws where
  /-- display name + raw attribute text of an ordinary (not raw-text) start tag -/
  StartOK : Bytes → Bytes → Prop
  /-- the same of a self-closing tag -/
  SelfOK : Bytes → Bytes → Prop
  /-- display name of an end tag -/
  EndOK : Bytes → Prop
  /-- display name, attribute text and content of a raw-text element -/
  RawOK : Bytes → Bytes → Bytes → Prop
  /-- a comment or a declaration -/
  OtherOK : Bytes → Prop
  start_closed : ∀ d a, StartOK d a →
    Closed (startTok (lowerName d) d a).raw [startTok (lowerName d) d a] ∧ StartsOpener (startTok (lowerName d) d a).raw
  self_closed : ∀ d a, SelfOK d a →
    Closed (selfTok (lowerName d) d a).raw [selfTok (lowerName d) d a] ∧ StartsOpener (selfTok (lowerName d) d a).raw
  end_closed : ∀ d, EndOK d → Closed (endTok (lowerName d) d).raw [endTok (lowerName d) d]
  raw_closed : ∀ d a c, RawOK d a c →
    Closed ((startTok (lowerName d) d a).raw ++ c ++ (endTok (lowerName d) d).raw)
      (startTok (lowerName d) d a :: (textToks c ++ [endTok (lowerName d) d])) ∧
    StartsOpener (startTok (lowerName d) d a).raw
  other_closed : ∀ x, OtherOK x → Closed x [⟨.other, x, []⟩] ∧ StartsOpener x

/-- how the tokenizer sees a verbatim piece of a `Simple` document: a comment / declaration / processing instruction (it
starts with `<` + `!` / `?`; in general: `<` + a byte that opens something) is one token of kind `other`, a text one text
token -/
def vtU (raw : Bytes) : List Tok := if startsOpenerB raw then [⟨.other, raw, []⟩] else textToks raw

theorem startsOpenerB_text {tx : Bytes} (h : textOKB tx = true) : startsOpenerB tx = false := by
  cases hs : startsOpenerB tx with
  | false => rfl
  | true =>
    obtain ⟨c, rest, rfl, hc⟩ := startsOpenerB_iff.mp hs
    simp [textOKB, hc] at h

theorem vtU_lossless : VtLossless vtU := by
  intro raw
  unfold vtU
  split
  · simp [rawsOf]
  · exact rawsOf_textToks raw

/-- a text node (syntactically: a verbatim piece that does not start with `<` + opener) -/
def isTextB : Node → Bool
  | .verb raw _ => !startsOpenerB raw
  | _ => false

section
variable (L : Laws)

mutual
  /-- **the `Simple` grammar**: text = non-empty, every `<` followed inside the text by a byte that opens nothing (`textOKB`);
  comments / declarations, ordinary elements (normal, void, self-closing), raw-text elements under the side conditions of
  `L`; the node name is the lower-cased display name.  (Not `simpleN` of FilterDomTok, the Bool class over a vocabulary;
  `simpleNB` of FilterDomRec is the recogniser of THIS grammar.) -/
  def SimpleN : Node → Prop
    | .verb raw _ => (raw ≠ [] ∧ textOKB raw = true) ∨ L.OtherOK raw
    | .el nm d a knd cs =>
      nm = lowerName d ∧
      (match knd with
       | .normal => L.StartOK d a ∧ L.EndOK d ∧ SimpleL cs
       | .void => L.StartOK d a
       | .selfClosing => L.SelfOK d a
       | .raw => L.RawOK d a (serializeList cs))
  /-- … and no two adjacent text nodes -/
  def SimpleL : List Node → Prop
    | [] => True
    | n :: ns =>
      SimpleN n ∧
      (match ns with
       | [] => True
       | m :: _ => ¬(isTextB n = true ∧ isTextB m = true)) ∧
      SimpleL ns
end

def lastIsText : List Node → Bool
  | [] => false
  | [n] => isTextB n
  | _ :: ns => lastIsText ns

section
variable {P : Bytes → List Tok → Bytes → Prop} (hP : TokLaws P)
include hP

mutual
  /-- the induction of `simpleN_tok` (FilterDomTok, where its idea is told) over the grammar: here what follows a text node
  may also be the end of the input (`TokLaws.text_eof`), hence `∨ y = []` in the side hypothesis on `y` -/
  theorem SimpleN_tok : ∀ (n : Node), SimpleN L n →
      ∀ (y : Bytes) (ts' : List Tok) (r : Bytes), P y ts' r →
        (isTextB n = true → StartsOpener y ∨ y = []) →
        P (serialize n ++ y) (tokensOf vtU n ++ ts') r ∧
        (isTextB n = false → StartsOpener (serialize n))
    | .verb raw m, h, y, ts', r, hy, hop => by
      unfold SimpleN at h
      rcases h with ⟨hne, h60'⟩ | ho
      · have hemp : raw.isEmpty = false := by cases raw with
          | nil => exact absurd rfl hne
          | cons _ _ => rfl
        have hmem : startsOpenerB raw = false := startsOpenerB_text h60'
        refine ⟨?_, fun hv => by simp [isTextB, hmem] at hv⟩
        have htok : tokensOf vtU (Node.verb raw m) = [⟨.text, raw, []⟩] := by
          simp [tokensOf, vtU, hmem, textToks, hemp]
        rw [htok]
        rcases hop (by simp [isTextB, hmem]) with ⟨c, rest, hy0, hc⟩ | hnil
        · exact hP.text hne h60' hy0 hc hy
        · subst hnil
          obtain ⟨rfl, rfl⟩ := hP.nil_inv hy
          simpa [serialize] using hP.text_eof hne h60'
      · obtain ⟨hc, hso⟩ := L.other_closed raw ho
        have htok : tokensOf vtU (Node.verb raw m) = [⟨.other, raw, []⟩] := by
          simp [tokensOf, vtU, startsOpenerB_iff.mpr hso]
        rw [htok]
        exact ⟨hP.append hc hy, fun _ => hso⟩
    | .el nm d a knd cs, h, y, ts', r, hy, _ => by
      unfold SimpleN at h
      obtain ⟨hnm, h⟩ := h
      subst hnm
      cases knd with
      | raw =>
        simp only at h
        obtain ⟨hc, hso⟩ := L.raw_closed d a _ h
        rw [serialize_el_inner _ d a .raw cs (Or.inr rfl), tokensOf_el_raw]
        refine ⟨hP.append hc hy, fun _ => ?_⟩
        rw [List.append_assoc]
        exact startsOpener_append hso _
      | void =>
        simp only at h
        obtain ⟨hc, hso⟩ := L.start_closed d a h
        exact ⟨hP.append hc hy, fun _ => hso⟩
      | selfClosing =>
        simp only at h
        obtain ⟨hc, hso⟩ := L.self_closed d a h
        exact ⟨hP.append hc hy, fun _ => hso⟩
      | normal =>
        simp only at h
        obtain ⟨hs, he, hcs⟩ := h
        obtain ⟨hcS, hoS⟩ := L.start_closed d a hs
        have hcE := L.end_closed d he
        have h1 := hP.append hcE hy
        have h2 := SimpleL_tok cs hcs ((endTok (lowerName d) d).raw ++ y) _ r h1
          (fun _ => Or.inl (startsOpener_append (startsOpener_endTok _ d) y))
        have h3 := hP.append hcS h2
        rw [serialize_el_inner _ d a .normal cs (Or.inl rfl), tokensOf_el_normal]
        refine ⟨?_, fun _ => ?_⟩
        · simpa only [List.append_assoc, List.cons_append, List.nil_append] using h3
        · rw [List.append_assoc]
          exact startsOpener_append hoS _
  theorem SimpleL_tok : ∀ (ns : List Node), SimpleL L ns →
      ∀ (y : Bytes) (ts' : List Tok) (r : Bytes), P y ts' r →
        (lastIsText ns = true → StartsOpener y ∨ y = []) →
        P (serializeList ns ++ y) (tokensOfList vtU ns ++ ts') r
    | [], _, y, ts', r, hy, _ => hy
    | [n], h, y, ts', r, hy, hop => by
      unfold SimpleL at h
      have := (SimpleN_tok n h.1 y ts' r hy hop).1
      simpa only [serializeList, tokensOfList, List.append_nil] using this
    | n :: m :: rest, h, y, ts', r, hy, hop => by
      unfold SimpleL at h
      obtain ⟨hn, hadj, hrest⟩ := h
      simp only at hadj
      have ih := SimpleL_tok (m :: rest) hrest y ts' r hy hop
      have hfollow : isTextB n = true → StartsOpener (serializeList (m :: rest) ++ y) ∨
          serializeList (m :: rest) ++ y = [] := by
        intro hv
        have hm : isTextB m = false := by
          cases hb : isTextB m with
          | false => rfl
          | true => exact absurd ⟨hv, hb⟩ hadj
        have hmS : SimpleN L m := by unfold SimpleL at hrest; exact hrest.1
        have := (SimpleN_tok m hmS [] [] [] hP.nil (fun hv' => by rw [hm] at hv'; cases hv')).2 hm
        rw [serializeList, List.append_assoc]
        exact Or.inl (startsOpener_append this _)
      have := (SimpleN_tok n hn _ _ r ih hfollow).1
      rw [serializeList, tokensOfList, List.append_assoc, List.append_assoc]
      exact this
end

end

/-- **`tokenize (serialize d) = tokensOf d` on `Simple`**, the verbatim pieces read by `vtU`: a text also as the very last
node, any names and attribute texts the laws cover, any shape and size -/
theorem tokenize_serialize_of_laws (doc : List Node) (hs : SimpleL L doc) :
    htmlTokenize (serializeList doc) = (tokensOfList vtU doc, []) := by
  have := SimpleL_tok L plainLaws doc hs [] [] [] plainLaws.nil (fun _ => Or.inr rfl)
  rw [List.append_nil, List.append_nil] at this
  exact this.tokenize

theorem stream_serialize_of_laws (doc : List Node) (hs : SimpleL L doc) :
    StreamTo (serializeList doc) (tokensOfList vtU doc) [] := by
  have := SimpleL_tok L streamLaws doc hs [] [] [] streamLaws.nil (fun _ => Or.inr rfl)
  simpa only [List.append_nil] using this

/-- a top-level node after which `filter` holds nothing back: anything but a text holding `<` -/
def NoLtText : Node → Prop
  | .verb raw _ => startsOpenerB raw = true ∨ raw.contains 60 = false
  | _ => True

/-- the last token of such a node is a tag, a comment / declaration, or a text free of `<` (raw text, which may hold `<`,
is always followed by its end tag) -/
theorem lastTok_node : ∀ (n : Node), NoLtText n → ∀ t, (tokensOf vtU n).getLast? = some t → NotHeldTok t
  | .verb raw m, hn, t, ht => by
    simp only [tokensOf, vtU] at ht
    split at ht
    · obtain rfl : ⟨.other, raw, []⟩ = t := by simpa using ht
      exact fun hh => nomatch hh.1
    · rename_i hc
      exact lastTok_textToks (hn.resolve_left hc) t ht
  | .el nm d a knd cs, _, t, ht => lastTok_el vtU nm d a knd cs t ht

/-- `filter` holds nothing back at the end of the document: the last token is not a text holding `<` (decidable; implied
by `NoLtText` of the top-level nodes) -/
def NoHeld (doc : List Node) : Prop := splitHeld (tokensOfList vtU doc) = (tokensOfList vtU doc, [])

instance (doc : List Node) : Decidable (NoHeld doc) := by unfold NoHeld; infer_instance

theorem noHeld_of_topTexts (doc : List Node) (h : ∀ n ∈ doc, NoLtText n) : NoHeld doc :=
  splitHeld_of_last (lastTok_list vtU doc fun n hn => lastTok_node n (h n hn))

/-- the bridge hypothesis `TokAgree` of the token-level theorems (given valid UTF-8) -/
theorem tokAgree_of_laws (doc : List Node) (hs : SimpleL L doc)
    (hu : utf8Split (serializeList doc) = some (serializeList doc, [])) (hh : NoHeld doc) :
    TokAgree htmlTokenize vtU doc :=
  have h := streamTo_stream (stream_serialize_of_laws L doc hs)
  ⟨h.1, h.2.1, h.2.2, hu, hh⟩

end

/-- several filters on `Simple` documents: every filter in its domain on the document it sees, which is again `Simple`
(the inserted values are texts / comments of the grammar), valid UTF-8 and not empty -/
def StepsSimple (L : Laws) (ev : Bytes → Bytes → Bool) : List Node → List BodyFilter → Prop
  | _, [] => True
  | d, f :: fs =>
    SimpleL L d ∧ utf8Split (serializeList d) = some (serializeList d, []) ∧ NoHeld d ∧ InDomain htmlTokenize vtU d f ∧
    (fs ≠ [] → serializeList (editD (decOf ev) d f) ≠ []) ∧ StepsSimple L ev (editD (decOf ev) d f) fs

theorem stepsOK_of_simple (L : Laws) (ev : Bytes → Bytes → Bool) :
    ∀ (fs : List BodyFilter) (d : List Node), StepsSimple L ev d fs → StepsOK htmlTokenize ev vtU d fs
  | [], _, _ => trivial
  | f :: fs, d, h => by
    obtain ⟨hs, hu, hh, hd, hne, hrest⟩ := h
    exact ⟨hd, tokAgree_of_laws L d hs hu hh, hne, stepsOK_of_simple L ev fs _ hrest⟩

/-- the buffer holds the bytes `l` at position `p` (same as `Tokenizer.Has` of `Proofs/HtmlClosed.lean`) -/
def HasA (buf : Array Nat) (p : Nat) (l : Bytes) : Prop := ∀ i (h : i < l.length), buf[p + i]? = some l[i]

theorem extract_of_hasA {buf : Array Nat} {p : Nat} {l : Bytes} (h : HasA buf p l) :
    (buf.extract p (p + l.length)).toList = l :=
  extract_of_has (t := Tokenizer.new buf) h

theorem HasA.sub {buf : Array Nat} {p : Nat} {x : Bytes} (h : HasA buf p x) (a n : Nat) :
    HasA buf (p + a) ((x.drop a).take n) := by
  intro i hi
  simp only [List.length_take, List.length_drop] at hi
  have := h (a + i) (by omega)
  rw [show p + a + i = p + (a + i) by omega, this]
  simp [List.getElem_take, List.getElem_drop]

/-- what a closed-form lemma says about `next t` when the piece `x` stands at `t.rawE` -/
structure StepFacts (t : Tokenizer) (k : TokenType) (x : Bytes) (tag : List Nat) : Prop where
  has : HasA t.buf t.rawE x
  token : (next t).token = k
  rawE : (next t).rawE = t.rawE + x.length
  err : (next t).err = false
  rawTag : (next t).rawTag = tag
  cdata : (next t).allowCdata = t.allowCdata

theorem rawL_of_facts {t : Tokenizer} {k : TokenType} {x : Bytes} {tag : List Nat} (it : Inv t)
    (f : StepFacts t k x tag) : rawL (next t) = x :=
  rawL_of_has f.has (next_rawS' t it) f.rawE (next_buf' t it)

theorem step_plain {t : Tokenizer} {k : TokenType} {x : Bytes} {tag : List Nat} (it : Inv t)
    (f : StepFacts t k x tag) (hk : k = .text ∨ k = .comment ∨ k = .doctype) :
    tgStep t = .tok ⟨kindOf k, x, []⟩ (next t) := by
  rw [tgStep_plain it f.token hk, rawL_of_facts it f]

/-- a tag token whose data span is `disp`, `a` bytes into the piece -/
theorem step_tag {t : Tokenizer} {k : TokenType} {x disp : Bytes} {tag : List Nat} {a : Nat} (it : Inv t)
    (f : StepFacts t k x tag) (hk : k = .startTag ∨ k = .endTag ∨ k = .selfClosing)
    (hdS : (next t).dataS = t.rawE + a) (hdE : (next t).dataE = t.rawE + a + disp.length)
    (hslice : (x.drop a).take disp.length = disp) (hascii : ∀ b ∈ disp, b < 128) :
    ∃ t2, tgStep t = .tok ⟨kindOf k, x, lowerName disp⟩ t2 ∧ Inv t2 ∧ t2.rawE = t.rawE + x.length ∧
      t2.err = false ∧ t2.rawTag = tag ∧ t2.allowCdata = t.allowCdata ∧ t2.buf = t.buf := by
  have hb : (next t).buf = t.buf := next_buf' t it
  have htl : Tokenizer.isTagLike (next t).token = true := by
    rw [f.token]; rcases hk with rfl | rfl | rfl <;> rfl
  have hne : ((next t).token == TokenType.error) = false := by
    rw [f.token]; rcases hk with rfl | rfl | rfl <;> rfl
  have hdata : dataL (next t) = disp := by
    unfold dataL
    rw [hdS, hdE, hb]
    have := extract_of_hasA (f.has.sub a disp.length)
    rw [hslice] at this
    exact this
  have ft := tagName_next it htl
  rw [tgStep_of_inv it, rawL_of_facts it f, hne, if_neg Bool.false_ne_true, if_pos htl, hdata,
    validUtf8_of_ascii _ hascii, if_pos rfl, f.token]
  refine ⟨_, rfl, ft.inv (next_inv' t it), ?_⟩
  obtain ⟨_, _, h⟩ := ft
  rw [h]
  exact ⟨f.rawE, f.err, f.rawTag, f.cdata, hb⟩

/-- what a closed-form lemma says about `next (Tokenizer.new x.toArray)` -/
structure FreshFacts (x : Bytes) (k : TokenType) : Prop where
  token : (next (Tokenizer.new x.toArray)).token = k
  rawE : (next (Tokenizer.new x.toArray)).rawE = x.length
  err : (next (Tokenizer.new x.toArray)).err = false
  rawTag : (next (Tokenizer.new x.toArray)).rawTag = []
  cdata : (next (Tokenizer.new x.toArray)).allowCdata = true

end Rio.Filter
