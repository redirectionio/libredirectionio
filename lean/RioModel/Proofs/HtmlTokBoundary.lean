/-
Token-level facts of the tokenizer model: a cut next to an ASCII byte is a UTF-8 character boundary (`V_cut`), every
token of `next` ends at EOF, right after a `>` or right before a `<` (`next_end` of `Proofs/HtmlTokenEnd.lean`), so the token
loop keeps the read position at a character boundary (`LoopInv`); a tag token is a `<`…`>` span.
-/
import RioModel.Proofs.FilterUtf8
import RioModel.Proofs.FilterTok

namespace Rio.Filter
open Rio.Html Rio.Html.Tokenizer

/-- inside a sequence an ASCII byte is rejected: an accepted ASCII byte was read at a character boundary -/
theorem u8Step_ascii {s s' : U8St} {b : Nat} (g : GoodSt s) (hb : b < 128) (h : u8Step s b = some s') : s = {} := by
  refine g.2 (Decidable.byContradiction fun h0 => ?_)
  unfold u8Step at h
  rw [if_neg h0, if_neg] at h
  · cases h
  · have := g.1
    simp only [Bool.and_eq_true, decide_eq_true_eq]; omega

theorem V_ascii {c : Nat} (hc : c < 128) : V [c] := by
  show (match u8Step {} c with | none => none | some st' => u8Run st' []) = some {}
  unfold u8Step
  rw [if_pos rfl, if_pos hc]; rfl

theorem V_cut {a r : Bytes} {c : Nat} (h : V (a ++ c :: r)) (hc : c < 128) : V a := by
  unfold V at *
  rw [u8Run_append] at h
  cases ha : u8Run {} a with
  | none => rw [ha] at h; cases h
  | some s =>
    rw [ha] at h
    simp only [u8Run] at h
    cases hs : u8Step s c with
    | none => rw [hs] at h; cases h
    | some s1 => rw [u8Step_ascii (u8Run_good a {} s goodSt_init ha) hc hs]

theorem V_cut_after {r b : Bytes} {c : Nat} (h : V (r ++ c :: b)) (hc : c < 128) : V (r ++ [c]) :=
  V_append (V_cut h hc) (V_ascii hc)

theorem V_take_at {l : Bytes} (hv : V l) (i c : Nat) (h : l[i]? = some c) (hc : c < 128) : V (l.take i) := by
  obtain ⟨hi, hget⟩ := List.getElem?_eq_some_iff.mp h
  rw [← List.take_append_drop i l, List.drop_eq_getElem_cons hi, hget] at hv
  exact V_cut hv hc

theorem V_take_before {l : Bytes} (hv : V l) (i c : Nat) (hi : 1 ≤ i) (h : l[i - 1]? = some c) (hc : c < 128) :
    V (l.take i) := by
  obtain ⟨hi', hget⟩ := List.getElem?_eq_some_iff.mp h
  rw [← List.take_append_drop (i - 1) l, List.drop_eq_getElem_cons hi', hget] at hv
  have := V_cut_after hv hc
  rw [← hget, ← List.take_succ_eq_append_getElem hi', Nat.sub_add_cancel hi] at this
  exact this

theorem V_take_end {l : Bytes} (hv : V l) (i : Nat) (hi : l.length ≤ i) : V (l.take i) := by
  rw [List.take_of_length_le hi]; exact hv

theorem V_span {l : Bytes} (i j : Nat) (hij : i ≤ j) (hi : V (l.take i)) (hj : V (l.take j)) :
    V ((l.take j).drop i) := by
  have e : l.take j = l.take i ++ (l.take j).drop i := by
    have := (List.take_append_drop i (l.take j)).symm
    rw [List.take_take, Nat.min_eq_left hij] at this
    exact this
  rw [e] at hj
  exact V_of_append_left hj hi

theorem V_drop {l : Bytes} (hv : V l) (i : Nat) (hi : V (l.take i)) : V (l.drop i) := by
  rw [← List.take_append_drop i l] at hv
  exact V_of_append_left hv hi

theorem extract_toList_eq (a : Array Nat) (i j : Nat) : (a.extract i j).toList = (a.toList.take j).drop i := by
  rw [Array.toList_extract, List.extract_eq_take_drop, List.drop_take]

def Vp (t : Tokenizer) : Prop := V (t.buf.toList.take t.rawE)

theorem vp_of_end (t : Tokenizer) (hv : V t.buf.toList) (eg : ErrGe t) (h : Tokenizer.End t) : Vp t := by
  unfold Vp
  rcases h with h | h | h
  · exact V_take_end hv _ (by have := eg h; simpa using this)
  · exact V_take_before hv _ 62 h.1 (by rw [Array.getElem?_toList]; exact h.2) (by decide)
  · exact V_take_at hv _ 60 (by rw [Array.getElem?_toList]; exact h) (by decide)

theorem rawL_valid (t : Tokenizer) (inv : Tokenizer.Inv t) (h1 : V (t.buf.toList.take t.rawS)) (h2 : Vp t) : V (rawL t) := by
  unfold rawL
  rw [extract_toList_eq]
  exact V_span _ _ inv.raw h1 h2

structure LoopInv (t : Tokenizer) : Prop where
  inv : Tokenizer.Inv t
  eg : ErrGe t
  hv : V t.buf.toList
  vp : Vp t

theorem LoopInv.next {t : Tokenizer} (h : LoopInv t) : LoopInv (next t) := by
  have i1 := next_inv' t h.inv
  have e1 := next_errGe t h.eg
  have hb := next_buf' t h.inv
  have hv1 : V (Tokenizer.next t).buf.toList := by rw [hb]; exact h.hv
  exact ⟨i1, e1, hv1, vp_of_end _ hv1 e1 (next_end t h.inv)⟩

theorem LoopInv.raw_valid {t : Tokenizer} (h : LoopInv t) : V (rawL (Tokenizer.next t)) := by
  have h1 := h.next
  refine rawL_valid _ h1.inv ?_ h1.vp
  rw [next_buf' t h.inv, next_rawS' t h.inv]
  exact h.vp

theorem loopInv_newFragment (d c : Bytes) (hv : V d) : LoopInv (Tokenizer.newFragment d.toArray c) := by
  obtain ⟨f1, f2, _, f4, _⟩ := newFragment_fields d.toArray c
  refine ⟨newFragment_inv d.toArray c, ?_, ?_, ?_⟩
  · intro h; rw [f4] at h; cases h
  · rw [f1]; simpa using hv
  · unfold Vp; rw [f2]; exact V_nil

theorem rawL_isSpan (t : Tokenizer) (inv : Tokenizer.Inv t) (f : TagFacts t) (hlt : t.rawS < t.rawE) :
    IsSpan (rawL t) := by
  unfold rawL IsSpan
  rw [extract_toList_eq]
  constructor
  · rw [List.head?_drop, List.getElem?_take, if_pos hlt, Array.getElem?_toList]
    exact f.first
  · rw [List.getLast?_drop]
    have hlen : (t.buf.toList.take t.rawE).length = t.rawE := by
      simp; exact Nat.min_eq_left inv.ok.le
    rw [hlen, if_neg (by omega), List.getLast?_take, if_neg (by omega), Array.getElem?_toList, f.last.2]
    rfl

end Rio.Filter
