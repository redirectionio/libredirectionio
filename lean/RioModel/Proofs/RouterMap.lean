/-
Router proofs: association-list lemmas, unique ids, the law interface `MLaws` every
matcher layer is proved to satisfy (the induction hypothesis of the layer tower), and the `count`
bookkeeping every `remove` shares.
-/
import RioModel.Model.RouterBase
import RioModel.Proofs.UtilList

namespace Rio.Router

theorem mem_akeys_of_mem {K V : Type} {k : K} {v : V} {l : List (K × V)} (h : (k, v) ∈ l) : k ∈ akeys l :=
  List.mem_map.mpr ⟨(k, v), h, rfl⟩

section
variable {K V : Type} [DecidableEq K]

@[simp] theorem alookup_nil (k : K) : alookup k ([] : List (K × V)) = none := rfl

theorem alookup_cons (k k' : K) (v : V) (l : List (K × V)) :
    alookup k ((k', v) :: l) = if k' = k then some v else alookup k l := rfl

set_option linter.unusedSectionVars false in
theorem akeys_cons (k : K) (v : V) (l : List (K × V)) : akeys ((k, v) :: l) = k :: akeys l := rfl

set_option linter.unusedSectionVars false in
@[simp] theorem akeys_nil : akeys ([] : List (K × V)) = [] := rfl

theorem alookup_eq_none_iff (k : K) (l : List (K × V)) : alookup k l = none ↔ k ∉ akeys l := by
  induction l with
  | nil => simp
  | cons a l ih =>
    obtain ⟨ka, va⟩ := a
    simp only [alookup_cons, akeys_cons, List.mem_cons]
    by_cases e : ka = k
    · simp [e]
    · simp [e, Ne.symm e, ih]

theorem mem_of_alookup {k : K} {v : V} {l : List (K × V)} (h : alookup k l = some v) : (k, v) ∈ l := by
  induction l with
  | nil => simp at h
  | cons a l ih =>
    obtain ⟨ka, va⟩ := a
    simp only [alookup_cons] at h
    by_cases e : ka = k
    · simp only [e, if_true, Option.some.injEq] at h; subst h; subst e; simp
    · simp only [e, if_false] at h; exact List.mem_cons_of_mem _ (ih h)

theorem alookup_of_mem {k : K} {v : V} {l : List (K × V)} (hn : (akeys l).Nodup) (h : (k, v) ∈ l) :
    alookup k l = some v := by
  induction l with
  | nil => simp at h
  | cons a l ih =>
    obtain ⟨ka, va⟩ := a
    simp only [akeys_cons, List.nodup_cons] at hn
    simp only [alookup_cons]
    rcases List.mem_cons.mp h with h | h
    · simp only [Prod.mk.injEq] at h; simp [h.1, h.2]
    · have : ka ≠ k := fun e => hn.1 (e ▸ mem_akeys_of_mem h)
      simp only [this, if_false]; exact ih hn.2 h

theorem mem_iff_alookup {l : List (K × V)} (hn : (akeys l).Nodup) (k : K) (v : V) :
    (k, v) ∈ l ↔ alookup k l = some v := ⟨alookup_of_mem hn, mem_of_alookup⟩

theorem alookup_aupsert (f : V → V) (emp : V) (k k' : K) (l : List (K × V)) :
    alookup k' (aupsert f emp k l) =
      if k' = k then some (f ((alookup k l).getD emp)) else alookup k' l := by
  induction l with
  | nil =>
    simp only [aupsert, alookup_cons, alookup_nil, Option.getD_none]
    by_cases e : k = k'
    · simp [e]
    · have : ¬ k' = k := fun h => e h.symm
      simp [e, this]
  | cons a l ih =>
    obtain ⟨ka, va⟩ := a
    simp only [aupsert]
    by_cases e : ka = k
    · subst e
      simp only [if_true, alookup_cons]
      by_cases e2 : ka = k'
      · subst e2; simp
      · have : ¬ k' = ka := fun h => e2 h.symm
        simp [e2, this]
    · simp only [e, if_false, alookup_cons, ih]
      by_cases e2 : ka = k'
      · subst e2; simp [e]
      · simp [e2]

theorem akeys_aupsert (f : V → V) (emp : V) (k : K) (l : List (K × V)) :
    akeys (aupsert f emp k l) = if k ∈ akeys l then akeys l else akeys l ++ [k] := by
  induction l with
  | nil => rfl
  | cons a l ih =>
    obtain ⟨ka, va⟩ := a
    by_cases e : ka = k
    · subst e; simp [aupsert, akeys]
    · have e' : ¬ k = ka := fun h => e h.symm
      simp only [aupsert, e, if_false, akeys, List.map_cons, List.mem_cons, e', false_or] at ih ⊢
      rw [ih]; split <;> simp [*]

theorem akeys_aupsert_nodup (f : V → V) (emp : V) (k : K) (l : List (K × V))
    (h : (akeys l).Nodup) : (akeys (aupsert f emp k l)).Nodup := by
  rw [akeys_aupsert]
  split
  · exact h
  · rename_i hk
    refine List.nodup_append.2 ⟨h, by simp, fun a ha b hb e => hk ?_⟩
    rw [List.mem_singleton] at hb
    rw [← hb, ← e]; exact ha

theorem mem_aupsert (f : V → V) (emp : V) (k : K) (l : List (K × V)) (e : K × V)
    (h : e ∈ aupsert f emp k l) : e ∈ l ∨ e = (k, f ((alookup k l).getD emp)) := by
  induction l with
  | nil => exact Or.inr (List.mem_singleton.1 h)
  | cons a l ih =>
    obtain ⟨ka, va⟩ := a
    by_cases hk : ka = k
    · subst hk
      simp only [aupsert, alookup, if_true, Option.getD_some, List.mem_cons] at h ⊢
      exact h.elim Or.inr (fun h => Or.inl (Or.inr h))
    · simp only [aupsert, alookup, hk, if_false, List.mem_cons] at h ⊢
      rcases h with h | h
      · exact Or.inl (Or.inl h)
      · exact (ih h).elim (fun h => Or.inl (Or.inr h)) Or.inr

theorem flatMap_select {β : Type} (l : List (K × V)) (hn : (akeys l).Nodup) (k : K) (g : V → List β) :
    l.flatMap (fun e => if e.1 = k then g e.2 else []) = ((alookup k l).map g).getD [] := by
  induction l with
  | nil => simp
  | cons a l ih =>
    obtain ⟨ka, va⟩ := a
    simp only [akeys_cons, List.nodup_cons] at hn
    simp only [List.flatMap_cons, alookup_cons]
    by_cases e : ka = k
    · subst e
      have hnone : alookup ka l = none := (alookup_eq_none_iff _ _).2 hn.1
      have := ih hn.2
      simp only [hnone] at this
      simp [this]
    · simp [e, ih hn.2]

end

theorem alookup_filter_key {K V : Type} [DecidableEq K] (f : K → Bool) (l : List (K × V)) (k : K) :
    alookup k (l.filter (fun e => f e.1)) = if f k then alookup k l else none := by
  induction l with
  | nil => simp
  | cons a l ih =>
    obtain ⟨ka, va⟩ := a
    simp only [List.filter_cons]
    by_cases e : ka = k
    · subst e
      cases hf : f ka <;> simp [hf, alookup_cons, ih]
    · cases hf : f ka
      · simp only [Bool.false_eq_true, if_false, ih, alookup_cons, e]
      · simp only [if_true, alookup_cons, e, if_false, ih]

theorem akeys_filter_nodup {K V : Type} [DecidableEq K] (f : K × V → Bool) (l : List (K × V))
    (h : (akeys l).Nodup) : (akeys (l.filter f)).Nodup := by
  have : (akeys (l.filter f)).Sublist (akeys l) := (List.filter_sublist (l := l)).map _
  exact this.nodup h

theorem akeys_filter_key {K V : Type} (p : K → Bool) (l : List (K × V)) :
    akeys (l.filter (fun e => p e.1)) = (akeys l).filter p := by
  unfold akeys; rw [List.filter_map]; rfl

theorem aupsert_fresh {K V : Type} [DecidableEq K] (f : V → V) (emp : V) (k : K) (l : List (K × V))
    (h : k ∉ akeys l) : aupsert f emp k l = l ++ [(k, f emp)] := by
  induction l with
  | nil => rfl
  | cons a l ih =>
    obtain ⟨ka, va⟩ := a
    simp only [akeys_cons, List.mem_cons, not_or] at h
    have : ¬ ka = k := fun e => h.1 e.symm
    simp only [aupsert, this, if_false, ih h.2, List.cons_append]

theorem alookup_append {K V : Type} [DecidableEq K] (a b : List (K × V)) (k : K) :
    alookup k (a ++ b) = (alookup k a).orElse (fun _ => alookup k b) := by
  induction a with
  | nil => simp
  | cons e a ih =>
    obtain ⟨ka, va⟩ := e
    simp only [List.cons_append, alookup_cons]
    by_cases h : ka = k <;> simp [h, ih]

theorem alookup_perm {K V : Type} [DecidableEq K] {l l' : List (K × V)} (hn : (akeys l).Nodup)
    (hp : l.Perm l') (k : K) : alookup k l = alookup k l' := by
  have hn' : (akeys l').Nodup := (hp.map _).nodup_iff.1 hn
  cases h : alookup k l with
  | none =>
    symm
    rw [alookup_eq_none_iff] at h ⊢
    intro hk; exact h ((hp.map Prod.fst).mem_iff.2 hk)
  | some v =>
    symm
    exact alookup_of_mem hn' (hp.mem_iff.1 (mem_of_alookup h))

theorem alookup_filterMap_val {K V : Type} [DecidableEq K] (g : K → V → Option V) (t : List (K × V))
    (hn : (akeys t).Nodup) (k : K) :
    alookup k (t.filterMap (fun e => (g e.1 e.2).map (fun v => (e.1, v)))) = (alookup k t).bind (g k) := by
  induction t with
  | nil => simp
  | cons a t ih =>
    obtain ⟨ka, va⟩ := a
    simp only [akeys_cons, List.nodup_cons] at hn
    have ih := ih hn.2
    simp only [List.filterMap_cons, alookup_cons]
    by_cases e : ka = k
    · subst e
      have hnone : alookup ka t = none := (alookup_eq_none_iff _ _).2 hn.1
      cases hg : g ka va with
      | none => simp [hg, ih, hnone]
      | some v => simp [hg, alookup_cons]
    · cases g ka va with
      | none => simp [ih, e]
      | some v => simp [alookup_cons, e, ih]

theorem akeys_filterMap_val_sublist {K V : Type} (g : K → V → Option V) (t : List (K × V)) :
    (akeys (t.filterMap (fun e => (g e.1 e.2).map (fun v => (e.1, v))))).Sublist (akeys t) := by
  induction t with
  | nil => simp
  | cons a t ih =>
    obtain ⟨ka, va⟩ := a
    simp only [List.filterMap_cons]
    cases g ka va with
    | none => simp only [Option.map_none, akeys_cons]; exact ih.cons _
    | some v => simp only [Option.map_some, akeys_cons]; exact ih.cons_cons _

/-- Routes with the same id are the same route (the list may repeat a route). -/
def UIds (L : List Route) : Prop := ∀ a ∈ L, ∀ b ∈ L, a.id = b.id → a = b

theorem UIds.mono {L L' : List Route} (h : UIds L) (hs : ∀ x ∈ L', x ∈ L) : UIds L' :=
  fun a ha b hb e => h a (hs a ha) b (hs b hb) e

theorem UIds.filter {L : List Route} (h : UIds L) (p : Route → Bool) : UIds (L.filter p) :=
  h.mono (fun _ hx => (List.mem_filter.mp hx).1)

theorem UIds.tail {L : List Route} {r : Route} (h : UIds (r :: L)) : UIds L :=
  h.mono (fun _ hx => List.mem_cons_of_mem _ hx)

theorem UIds.nil : UIds [] := fun a ha => by simp at ha

theorem UIds.cons_filter {L : List Route} {r : Route} (h : UIds (r :: L)) (p : Route → Bool) :
    UIds (r :: L.filter p) :=
  h.mono (fun x hx => by
    rcases List.mem_cons.mp hx with hx | hx
    · exact hx ▸ List.mem_cons_self ..
    · exact List.mem_cons_of_mem _ (List.mem_filter.mp hx).1)

theorem UIds.nodup_ids {L : List Route} (h : UIds L) (hn : L.Nodup) : (L.map (·.id)).Nodup := by
  induction L with
  | nil => simp
  | cons a L ih =>
    simp only [List.nodup_cons] at hn
    simp only [List.map_cons, List.nodup_cons, List.mem_map, not_exists, not_and]
    refine ⟨?_, ih h.tail hn.2⟩
    intro b hb e
    have : b = a := h b (List.mem_cons_of_mem _ hb) a (List.mem_cons_self ..) e
    exact hn.1 (this ▸ hb)

theorem nodupIds_uids {L : List Route} (h : (L.map (·.id)).Nodup) : UIds L ∧ L.Nodup :=
  ⟨fun _ ha _ hb e => Rio.Util.eq_of_nodup_map h ha hb e, Rio.Util.nodup_of_map_nodup _ h⟩

theorem pushNew_nil (acc : List Route) : pushNew acc [] = acc := rfl

theorem pushNew_cons (acc : List Route) (r : Route) (new : List Route) :
    pushNew acc (r :: new) =
      pushNew (if acc.any (fun x => x.id == r.id) then acc else acc ++ [r]) new := rfl

theorem pushNew_append (acc a b : List Route) : pushNew acc (a ++ b) = pushNew (pushNew acc a) b :=
  List.foldl_append

theorem pushNew_mem (L : List Route) (hU : UIds L) (new : List Route) (x : Route) :
    ∀ acc, (∀ y ∈ acc, y ∈ L) → (∀ y ∈ new, y ∈ L) →
      (x ∈ pushNew acc new ↔ x ∈ acc ∨ x ∈ new) := by
  induction new with
  | nil => intro acc _ _; simp [pushNew_nil]
  | cons r new ih =>
    intro acc hacc hnew
    rw [pushNew_cons]
    have hr : r ∈ L := hnew r (List.mem_cons_self ..)
    have hnew' : ∀ y ∈ new, y ∈ L := fun y hy => hnew y (List.mem_cons_of_mem _ hy)
    by_cases hany : acc.any (fun y => y.id == r.id) = true
    · simp only [hany, if_true]
      rw [ih acc hacc hnew']
      have hin : r ∈ acc := by
        rw [List.any_eq_true] at hany
        obtain ⟨y, hy, hid⟩ := hany
        have : y = r := hU y (hacc y hy) r hr (by simpa using hid)
        exact this ▸ hy
      rw [List.mem_cons, ← or_assoc, or_iff_left_of_imp (b := x = r) fun e => e ▸ hin]
    · simp only [hany, if_false, Bool.false_eq_true]
      rw [ih (acc ++ [r]) (by
        intro y hy
        rcases List.mem_append.mp hy with hy | hy
        · exact hacc y hy
        · simp at hy; exact hy ▸ hr) hnew']
      simp only [List.mem_append, List.mem_cons, List.not_mem_nil, or_false]
      exact or_assoc

theorem pushNew_nodupIds (new : List Route) :
    ∀ acc, (acc.map (·.id)).Nodup → ((pushNew acc new).map (·.id)).Nodup := by
  induction new with
  | nil => intro acc h; exact h
  | cons r new ih =>
    intro acc h
    rw [pushNew_cons]
    by_cases hany : acc.any (fun y => y.id == r.id) = true
    · simp only [hany, if_true]; exact ih acc h
    · simp only [hany, if_false, Bool.false_eq_true]
      apply ih
      rw [List.map_append, List.nodup_append]
      refine ⟨h, by simp, ?_⟩
      intro a ha b hb hab
      simp only [List.map_cons, List.map_nil, List.mem_singleton] at hb
      subst hab
      apply hany
      rw [List.any_eq_true]
      obtain ⟨y, hy, hid⟩ := List.mem_map.mp ha
      exact ⟨y, hy, by simp [hid, hb]⟩

/-- What is proved about every matcher layer.  `Repr m L`: state `m` represents the list `L` of
inserted, not yet removed routes (a route may be listed several times: a rule listing the same
method twice is inserted twice into the same bucket).  `sat L r q`: the layer's (and the layers'
below) triggers of `r` accept `q`; it depends on `L` only through the any-host fallback. -/
structure MLaws (I : MOps) where
  Repr : I.M → List Route → Prop
  sat : List Route → Route → Req → Bool
  /-- routes that can be found again by `remove` (every route built by `IntoRoute`) -/
  wf : Route → Prop
  /-- routes that may be inserted: `True` for the specification-level layers; for the layers over
  the real regex-tree model "the route's pattern is in the domain of property C08" -/
  okIns : Route → Prop
  sat_congr : ∀ L L' r q, (∀ x, x ∈ L ↔ x ∈ L') → sat L r q = sat L' r q
  repr_empty : Repr I.empty []
  /-- a repeated listing may be dropped (a sublist, so `len` still bounds the length): for a route that lists one key
  twice and is inserted twice into one bucket (`upsert_fold`) -/
  repr_congr : ∀ m L L', Repr m L → L'.Sublist L → (∀ r ∈ L, r ∈ L') → Repr m L'
  /-- a bucket is pruned when `is_empty()`, i.e. `len == 0`: it must then represent nothing -/
  len_zero : ∀ m L, Repr m L → I.len m = 0 → L = []
  repr_insert : ∀ m L r, Repr m L → UIds (r :: L) → okIns r → Repr (I.insert r m) (r :: L)
  repr_remove : ∀ m L id, Repr m L → UIds L →
    Repr (I.remove id m).1 (L.filter (fun r => r.id != id))
  remove_some : ∀ m L id r, Repr m L → UIds L → r ∈ L → wf r → r.id = id → (I.remove id m).2 = some r
  remove_none : ∀ m L id, Repr m L → (∀ r ∈ L, r.id ≠ id) → (I.remove id m).2 = none
  /-- `self.count -= 1` never underflows: it is executed only when `remove` found the route, and then
  the count is positive -/
  remove_pos : ∀ m L id, Repr m L → (I.remove id m).2.isSome = true → 0 < I.len m
  repr_batch : ∀ m L ids, Repr m L →
    Repr (I.batchRemove ids m) (L.filter (fun r => !ids.contains r.id))
  /-- `cache` compiles regexes only: the state represents the same routes afterwards … -/
  repr_cache : ∀ m L limit level, Repr m L → Repr (I.cache limit level m).1 L
  /-- … and the budget it returns is at most the budget it received -/
  cache_le : ∀ m limit level, (I.cache limit level m).2 ≤ limit
  mem_match : ∀ m L q r, Repr m L → UIds L → (r ∈ I.matchReq m q ↔ r ∈ L ∧ sat L r q = true)
  nodup_match : ∀ m L q, Repr m L → UIds L → (I.matchReq m q).Nodup
  /-- about the routes STORED in the traces (`rawRoutesOfList`, a `flatMap`: composes layer by layer); `routesOfList`
  dedupes once over the whole forest and has the same members when ids are unique (`mem_routesOfList_iff`) -/
  mem_trace : ∀ m L q r, Repr m L → UIds L → (r ∈ rawRoutesOfList (I.trace m q) ↔ r ∈ I.matchReq m q)

theorem exists_id_of_hit {L : List Route} {id : String} {res : Option Route}
    (hnone : (∀ r ∈ L, r.id ≠ id) → res = none) (hs : res.isSome = true) : ∃ x ∈ L, x.id = id := by
  apply Classical.byContradiction; intro hne
  rw [hnone (fun x hx e => hne ⟨x, hx, e⟩)] at hs; cases hs

theorem MLaws.exists_of_hit {I : MOps} (IL : MLaws I) {m : I.M} {L : List Route} {id : String}
    (h : IL.Repr m L) (hs : (I.remove id m).2.isSome = true) : ∃ x ∈ L, x.id = id :=
  exists_id_of_hit (IL.remove_none m L id h) hs

theorem MLaws.sat_filter_congr {I : MOps} (IL : MLaws I) {L L' : List Route} (h : ∀ x, x ∈ L ↔ x ∈ L')
    (p : Route → Bool) (r : Route) (q : Req) : IL.sat (L.filter p) r q = IL.sat (L'.filter p) r q :=
  IL.sat_congr _ _ r q fun x => by simp only [List.mem_filter, h x]

theorem filter_ne_length_lt (L : List Route) (id : String) (r : Route) (hr : r ∈ L) (hid : r.id = id) :
    (L.filter (fun x => x.id != id)).length < L.length := by
  rw [List.length_filter_lt_length_iff_exists]
  exact ⟨r, hr, by simp [hid]⟩

/-- The `count` bookkeeping of every `remove`: the count bounds the number of listed routes, and is
decremented only when a route was found. -/
theorem count_remove_le {L : List Route} {id : String} {res : Option Route} {c : Nat}
    (hnone : (∀ r ∈ L, r.id ≠ id) → res = none) (hlen : L.length ≤ c) :
    (L.filter (fun x => x.id != id)).length ≤ (if res.isSome then c - 1 else c) := by
  have hle : (L.filter (fun x => x.id != id)).length ≤ L.length := List.length_filter_le ..
  cases hs : res.isSome
  · simp only [Bool.false_eq_true, if_false]; omega
  · obtain ⟨x, hx, hid⟩ := exists_id_of_hit hnone hs
    have := filter_ne_length_lt L id x hx hid
    simp only [if_true]; omega

theorem count_pos_of_hit {L : List Route} {id : String} {res : Option Route} {c : Nat}
    (hnone : (∀ r ∈ L, r.id ≠ id) → res = none) (hlen : L.length ≤ c) (hs : res.isSome = true) :
    0 < c := by
  obtain ⟨x, hx, _⟩ := exists_id_of_hit hnone hs
  exact Nat.lt_of_lt_of_le (List.length_pos_of_mem hx) hlen

end Rio.Router
