/-
C10: helper lemmas for `translated Route::capture = hand-written Rule.capture`.

`Rio.Consts.genRouteCapture` is generic in the map type κ and in `HashMap::extend`.  Representation used by the hand model
(Model/MarkerRule.lean): a `HashMap<String, String>` is an association list with distinct keys; the map a `capture` callee
returns from the raw group list `l` of the regex engine is `extendMap [] l` (inserts into an empty map) and
`HashMap::extend` is `extendMap`.  The model writes `extendMap p (raw list)` where the code extends by a MAP:
`extendMap_normalise` shows both are the same list.

Also here: the translated `Rule::variables` (`genRuleVariables_unfold`, its comparator is the model's `varBefore`) and the
translated `StaticOrDynamic::replace` (`genReplace_spec`: under the laws `StrLaws` of the string operations it computes
the model's `replaceVars`; `charLaws` is an instance).
-/
import RioModel.Proofs.MarkerMatch
import RioModel.Proofs.Marker

namespace Rio.MarkerGen
open Rio.Marker Rio.Consts

theorem extendMap_append (p l₁ l₂ : List (Str × Str)) : extendMap p (l₁ ++ l₂) = extendMap (extendMap p l₁) l₂ := by
  simp [extendMap]

theorem filter_extendMap (k : Str) (l p : List (Str × Str)) :
    (extendMap p l).filter (fun e => e.1 != k) =
      extendMap (p.filter fun e => e.1 != k) (l.filter fun e => e.1 != k) := by
  induction l generalizing p with
  | nil => simp [extendMap]
  | cons x l ih =>
    rw [extendMap_cons, ih]
    by_cases hx : x.1 = k
    · rw [List.filter_cons_of_neg (by simp [hx])]
      congr 1
      subst hx
      simp [List.filter_append, List.filter_filter]
    · rw [List.filter_cons_of_pos (by simp [hx]), extendMap_cons]
      congr 1
      simp [List.filter_append, List.filter_filter, hx, Bool.and_comm]

theorem extendMap_assoc (p : List (Str × Str)) : ∀ (l q : List (Str × Str)),
    extendMap p (extendMap q l) = extendMap (extendMap p q) l
  | [], q => rfl
  | x :: l, q => by
    rw [extendMap_cons, extendMap_assoc p l, extendMap_cons, extendMap_append]
    congr 1
    have e : ∀ m : List (Str × Str), extendMap m [x] = m.filter (fun e => e.1 != x.1) ++ [x] := fun _ => rfl
    rw [e, filter_extendMap, List.filter_filter, filter_extendMap]
    simp only [Bool.and_self]

theorem extendMap_normalise (l p : List (Str × Str)) : extendMap p (extendMap [] l) = extendMap p l :=
  extendMap_assoc p l []

/-- the inner loop of `Route::capture` over the request header lines, generic form -/
def innerStep {σ η κ : Type} [BEq σ] (lower : σ → σ) (headerName : η → σ) (headerCapture : η → σ → κ) (extend : κ → κ → κ)
    (header : η) (acc : κ) (rh : σ × σ) : κ :=
  if (lower rh.1 != lower (headerName header)) then acc else extend acc (headerCapture header rh.2)

theorem genRouteCapture_unfold {σ δ η κ : Type} [BEq σ]
    (lower : σ → σ) (sodCap : δ → σ → κ) (headerName : η → σ) (headerCapture : η → σ → κ) (extend : κ → κ → κ)
    (pq : δ) (host : Option δ) (headers : List η) (path : σ) (rhost : Option σ) (rheaders : List (σ × σ)) :
    genRouteCapture lower sodCap headerName headerCapture extend pq host headers path rhost rheaders =
      headers.foldl (fun acc h => rheaders.foldl (innerStep lower headerName headerCapture extend h) acc)
        (match host, rhost with
          | some h, some rh => extend (sodCap pq path) (sodCap h rh)
          | _, _ => sodCap pq path) := by
  unfold genRouteCapture innerStep
  cases host <;> cases rhost <;> rfl

theorem foldl_inner_remove {σ η κ : Type} [BEq σ] (lower : σ → σ) (headerName : η → σ) (headerCapture : η → σ → κ)
    (extend : κ → κ → κ) (h : η) (pre post : List (σ × σ)) (x : σ × σ)
    (hx : (lower x.1 != lower (headerName h)) = false → ∀ acc, extend acc (headerCapture h x.2) = acc) (acc : κ) :
    (pre ++ x :: post).foldl (innerStep lower headerName headerCapture extend h) acc =
      (pre ++ post).foldl (innerStep lower headerName headerCapture extend h) acc := by
  rw [List.foldl_append, List.foldl_append, List.foldl_cons]
  congr 1
  unfold innerStep
  cases hc : (lower x.1 != lower (headerName h))
  · simp [hx hc]
  · simp

/-! ### `Rule::variables` -/

theorem foldl_state_push {α β γ : Type} (f : List α × β → γ → List α × β) (g : β → γ → α)
    (h : ∀ vs inp y, f (vs, inp) y = (vs ++ [g inp y], inp)) (l : List γ) (vs : List α) (inp : β) :
    List.foldl f (vs, inp) l = (vs ++ l.map (g inp), inp) := by
  induction l generalizing vs with
  | nil => simp
  | cons a l ih => simp [h, ih]

theorem genRuleVariables_unfold {σ μ ν ι ρ : Type}
    (getMarker : σ → Option μ) (transform : μ → σ → σ) (varName : ν → σ) (getValue : ν → ι → ρ → σ)
    (emptyMap : ι) (insert : ι → σ → σ → ι) (iter : ι → List (σ × σ))
    (sortByKey : (σ → σ → Ordering) → List (σ × σ) → List (σ × σ)) (len : σ → Nat) (cmp : σ → σ → Ordering)
    (vars : List ν) (captured : List (σ × σ)) (req : ρ) :
    genRuleVariables getMarker transform varName getValue emptyMap insert iter sortByKey len cmp vars captured req =
      sortByKey (fun a b => (compare (len b) (len a)).then (cmp a b))
        (if vars.isEmpty then
          iter (captured.foldl (fun inp p => match getMarker p.1 with
            | none => insert inp p.1 p.2
            | some m => insert inp p.1 (transform m p.2)) emptyMap)
         else vars.map fun v => (varName v, getValue v (captured.foldl (fun inp p => match getMarker p.1 with
            | none => insert inp p.1 p.2
            | some m => insert inp p.1 (transform m p.2)) emptyMap) req)) := by
  unfold genRuleVariables
  dsimp only
  rw [List.foldl_hom (Prod.mk _) (l := captured) (g₁ := fun inp p => match getMarker p.1 with
            | none => insert inp p.1 p.2
            | some m => insert inp p.1 (transform m p.2))
      (by intro inp y; obtain ⟨n, v⟩ := y; dsimp only; cases getMarker n <;> rfl)]
  dsimp only
  congr 1
  cases hv : vars.isEmpty
  · simp only [Bool.false_eq_true, if_false]
    rw [foldl_state_push _ (fun inp v => (varName v, getValue v inp req)) (by intro vs inp y; rfl) vars]
    simp
  · simp only [if_true]
    rw [foldl_state_push _ (fun _ (p : σ × σ) => p) (by intro vs inp y; rfl)]
    simp

/-- `String::cmp` as an `Ordering`, from the model's `strLt` (`String::cmp == Less`). -/
def strCmp (a b : Str) : Ordering := if strLt a b then .lt else if a = b then .eq else .gt

theorem gen_comparator_eq_varBefore (a b : Str) :
    ((compare (blen b) (blen a)).then (strCmp a b) == Ordering.lt) = varBefore a b := by
  have hs : strCmp a b = .lt ↔ strLt a b = true := by
    unfold strCmp
    cases strLt a b
    · by_cases he : a = b <;> simp [he]
    · simp
  rw [Bool.eq_iff_iff, beq_iff_eq, Ordering.then_eq_lt, Nat.compare_eq_lt, Nat.compare_eq_eq, hs, varBefore_iff,
    eq_comm (a := blen b)]

theorem foldl_append_map {α β : Type} (f : List β → α → List β) (g : α → β) (h : ∀ acc x, f acc x = acc ++ [g x])
    (l : List α) (init : List β) : List.foldl f init l = init ++ l.map g := by
  rw [Util.foldl_append_eq f (fun x => [g x]) h, List.map_eq_flatMap]

theorem extendMap_of_nodup (m kv : List (Str × Str)) (hnd : (names m ++ names kv).Nodup) : extendMap m kv = m ++ kv := by
  induction kv generalizing m with
  | nil => exact (List.append_nil m).symm
  | cons x kv ih =>
    have hx : m.filter (fun e => e.1 != x.1) = m := List.filter_eq_self.mpr fun e he =>
      bne_iff_ne.mpr ((List.nodup_append.mp hnd).2.2 _ (List.mem_map_of_mem he) _ List.mem_cons_self)
    rw [extendMap_cons, hx, ih _ (by simpa [names, List.append_assoc] using hnd), List.append_assoc]; rfl

/-- `HashMap::insert` on the association-list map, distinct keys: no entry is overwritten -/
theorem foldl_insert_map (f : List (Str × Str) → Str × Str → List (Str × Str)) (g : Str × Str → Str)
    (h : ∀ acc x, f acc x = extendMap acc [(x.1, g x)]) (l : List (Str × Str)) (init : List (Str × Str))
    (hnd : (names init ++ names l).Nodup) : List.foldl f init l = init ++ l.map (fun x => (x.1, g x)) := by
  rw [← extendMap_of_nodup init _ (by simpa [names, List.map_map, Function.comp_def] using hnd), extendMap, List.foldl_map]
  exact congrArg (List.foldl · init l) (funext fun acc => funext (h acc))

/-! ### `StaticOrDynamic::replace` -/

theorem scanAux_nil (vars : List (Str × Str)) (k : Nat) : scanAux vars k [] = [] := by
  cases k <;> simp [scanAux]

theorem scanAux_skip (vars : List (Str × Str)) (k : Nat) (cs : Str) :
    scanAux vars k cs = scanAux vars 0 (cs.drop k) :=
  skip_eq_drop (fun _ => rfl) (fun _ _ _ => rfl) k cs

theorem scanAux_noAt_append (vars : List (Str × Str)) (l cs : Str) (h : '@' ∉ l) :
    scanAux vars 0 (l ++ cs) = l ++ scanAux vars 0 cs :=
  scan_append_of_not_mem (fun c cs hc => by simp [scanAux, hc]) l cs h

theorem scanAux_noAt (vars : List (Str × Str)) (l : Str) (h : '@' ∉ l) : scanAux vars 0 l = l := by
  have := scanAux_noAt_append vars l [] h
  simpa [scanAux_nil] using this

theorem scanAux_at (vars : List (Str × Str)) (cs : Str) :
    scanAux vars 0 ('@' :: cs) = match firstMatch vars cs with
      | some p => p.2 ++ scanAux vars 0 (cs.drop p.1.length)
      | none => '@' :: scanAux vars 0 cs := by
  simp only [scanAux, if_true]
  cases firstMatch vars cs with
  | none => rfl
  | some p => simp only; rw [scanAux_skip]

/-- What the equivalence assumes of the `str` / `String` operations, relative to a reading `toChars` of the string type as a
list of chars; each law constrains a slice ONLY at the offsets the code uses (where Rust does not panic). -/
structure StrLaws {σ : Type} (toChars : σ → Str) (find : σ → Char → Option Nat) (sliceTo sliceFrom : σ → Nat → σ)
    (startsWith : σ → σ → Bool) (len : σ → Nat) (append : σ → σ → σ) (push : σ → Char → σ) (withCapacity : Nat → σ) : Prop where
  /-- `find('@') = None`: no `@` -/
  find_none : ∀ s, find s '@' = none → '@' ∉ toChars s
  /-- `find('@') = Some(at)`: `s = s[..at] + "@" + s[at + 1..]`, no `@` in `s[..at]` -/
  find_some : ∀ s n, find s '@' = some n → '@' ∉ toChars (sliceTo s n) ∧
    toChars s = toChars (sliceTo s n) ++ '@' :: toChars (sliceFrom s (n + 1))
  starts : ∀ a n, startsWith a n = pre (toChars n) (toChars a)
  /-- after `a.starts_with(n)`: `a[n.len()..]` is `a` without the chars of `n` -/
  strip : ∀ a n, startsWith a n = true → toChars (sliceFrom a (len n)) = (toChars a).drop (toChars n).length
  append_chars : ∀ a b, toChars (append a b) = toChars a ++ toChars b
  push_chars : ∀ a c, toChars (push a c) = toChars a ++ [c]
  cap : ∀ n, toChars (withCapacity n) = []

section
variable {σ : Type} {toChars : σ → Str} {find : σ → Char → Option Nat} {sliceTo sliceFrom : σ → Nat → σ}
  {startsWith : σ → σ → Bool} {len : σ → Nat} {append : σ → σ → σ} {push : σ → Char → σ} {withCapacity : Nat → σ}

def varsChars (toChars : σ → Str) (vars : List (σ × σ)) : List (Str × Str) := vars.map fun p => (toChars p.1, toChars p.2)

variable (L : StrLaws toChars find sliceTo sliceFrom startsWith len append push withCapacity)
include L

theorem genReplaceFor_spec (n : Nat) (after result rest : σ) (vars : List (σ × σ)) :
    match firstMatch (varsChars toChars vars) (toChars after) with
    | none => genReplaceFor find sliceTo sliceFrom startsWith len append push n after result rest vars = none
    | some p => ∃ res' rest', genReplaceFor find sliceTo sliceFrom startsWith len append push n after result rest vars
          = some (res', rest') ∧ toChars res' = toChars result ++ p.2 ∧
          toChars rest' = (toChars after).drop p.1.length := by
  induction vars with
  | nil => simp [varsChars, firstMatch, genReplaceFor]
  | cons v vs ih =>
    obtain ⟨name, value⟩ := v
    simp only [varsChars, List.map_cons, firstMatch, genReplaceFor]
    rw [L.starts]
    cases hp : pre (toChars name) (toChars after)
    · simpa [varsChars] using ih
    · simp only [if_true]
      refine ⟨_, _, rfl, L.append_chars _ _, L.strip _ _ (by rw [L.starts]; exact hp)⟩

theorem genReplaceLoop_spec (vars : List (σ × σ)) (fuel : Nat) (result rest : σ) (hfuel : (toChars rest).length < fuel) :
    ∃ r, genReplaceLoop find sliceTo sliceFrom startsWith len append push vars fuel result rest = some r ∧
      toChars r = toChars result ++ scanAux (varsChars toChars vars) 0 (toChars rest) := by
  induction fuel generalizing result rest with
  | zero => omega
  | succ fuel ih =>
    unfold genReplaceLoop
    cases hf : find rest '@' with
    | none =>
      refine ⟨_, rfl, ?_⟩
      rw [L.append_chars, scanAux_noAt _ _ (L.find_none _ hf)]
    | some n =>
      obtain ⟨hno, hsplit⟩ := L.find_some _ _ hf
      simp only
      have hspec := genReplaceFor_spec L n (sliceFrom rest (n + 1)) (append result (sliceTo rest n)) rest vars
      have hlen : (toChars (sliceFrom rest (n + 1))).length < fuel := by
        have : (toChars rest).length = (toChars (sliceTo rest n)).length + (1 + (toChars (sliceFrom rest (n + 1))).length) := by
          rw [hsplit]; simp; omega
        omega
      rw [hsplit, scanAux_noAt_append _ _ _ hno, scanAux_at]
      cases hm : firstMatch (varsChars toChars vars) (toChars (sliceFrom rest (n + 1))) with
      | none =>
        rw [hm] at hspec
        simp only at hspec
        rw [hspec]
        simp only
        obtain ⟨r, hr, hc⟩ := ih (push (append result (sliceTo rest n)) '@') (sliceFrom rest (n + 1)) hlen
        refine ⟨r, hr, ?_⟩
        rw [hc, L.push_chars, L.append_chars]
        simp
      | some p =>
        rw [hm] at hspec
        obtain ⟨res', rest', hfor, hres, hrest⟩ := hspec
        rw [hfor]
        simp only
        obtain ⟨r, hr, hc⟩ := ih res' rest' (by rw [hrest, List.length_drop]; omega)
        refine ⟨r, hr, ?_⟩
        rw [hc, hres, hrest, L.append_chars]
        simp

theorem genReplace_spec (vars : List (σ × σ)) (fuel : Nat) (str : σ) (hfuel : (toChars str).length < fuel) :
    ∃ r, genReplace find sliceTo sliceFrom startsWith len append push withCapacity fuel str vars = some r ∧
      toChars r = replaceVars (toChars str) (varsChars toChars vars) := by
  obtain ⟨r, hr, hc⟩ := genReplaceLoop_spec L vars fuel (withCapacity (len str)) str hfuel
  refine ⟨r, hr, ?_⟩
  rw [hc, L.cap]; rfl
end

/-! an instance of the laws: strings as char lists with CHAR offsets (non-vacuity; the real `str` uses byte offsets) -/

def findChar (c : Char) : Str → Option Nat
  | [] => none
  | x :: xs => if x = c then some 0 else (findChar c xs).map (· + 1)

theorem findChar_none (c : Char) (s : Str) (h : findChar c s = none) : c ∉ s := by
  induction s with
  | nil => simp
  | cons x xs ih =>
    simp only [findChar] at h
    by_cases hx : x = c
    · simp [hx] at h
    · simp only [hx, if_false, Option.map_eq_none_iff] at h
      simp [ih h, Ne.symm hx]

theorem findChar_some (c : Char) (s : Str) (n : Nat) (h : findChar c s = some n) :
    c ∉ s.take n ∧ s = s.take n ++ c :: s.drop (n + 1) := by
  induction s generalizing n with
  | nil => simp [findChar] at h
  | cons x xs ih =>
    simp only [findChar] at h
    by_cases hx : x = c
    · simp only [hx, if_true, Option.some.injEq] at h
      subst h; simp [hx]
    · simp only [hx, if_false, Option.map_eq_some_iff] at h
      obtain ⟨m, hm, rfl⟩ := h
      obtain ⟨h1, h2⟩ := ih m hm
      refine ⟨?_, ?_⟩
      · simp [List.take_succ_cons, h1, Ne.symm hx]
      · simp only [List.take_succ_cons, List.drop_succ_cons, List.cons_append]
        rw [← h2]

theorem charLaws : StrLaws (σ := Str) id (fun s c => findChar c s) (fun s n => s.take n) (fun s n => s.drop n)
    (fun a n => pre n a) List.length (· ++ ·) (fun a c => a ++ [c]) (fun _ => []) where
  find_none := fun s h => findChar_none _ s h
  find_some := fun s n h => findChar_some _ s n h
  starts := fun _ _ => rfl
  strip := fun _ _ _ => rfl
  append_chars := fun _ _ => rfl
  push_chars := fun _ _ => rfl
  cap := fun _ => rfl

end Rio.MarkerGen
