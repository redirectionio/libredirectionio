/-
`Reach a t`: what every helper of the tokenizer model keeps, whatever the state it starts from.  The relation is closed
under every helper up to `next` itself (one induction per loop); the facts are read off as `(Reach.refl t).f.err`, `.buf`, ….
-/
import RioModel.Proofs.HtmlNext

namespace Rio.Html
namespace Tokenizer
open Rio.Consts

/-- once a read has failed, `raw.end` stays at the end of the buffer: every `raw.end -= k` of the code happens after
a *successful* read in a branch where `err` is still unset -/
def ErrGe (t : Tokenizer) : Prop := t.err = true → t.buf.size ≤ t.rawE

@[simp] theorem finishText_err (t : Tokenizer) : (finishText t).err = t.err := by
  unfold finishText; split <;> rfl

theorem startTagRaw_writes (t : Tokenizer) :
    ∃ pn rt ue, startTagRaw t = { t with panic := pn, rawTag := rt, utf8Err := ue } ∧ (t.panic = true → pn = true) := by
  unfold startTagRaw
  split
  · simp only
    split
    · exact ⟨true, _, _, rfl, fun _ => rfl⟩
    · exact ⟨_, _, _, rfl, id⟩
    · split
      · exact ⟨true, _, _, rfl, fun _ => rfl⟩
      · split <;> exact ⟨_, _, _, rfl, id⟩
  · exact ⟨true, _, _, rfl, fun _ => rfl⟩

theorem unread_panic (t : Tokenizer) (k : Nat) (h : t.panic = true) : (t.unread k).panic = true := by
  unfold unread; split
  · exact h
  · rfl

theorem setDataEndBack_panic (t : Tokenizer) (k : Nat) (h : t.panic = true) : (t.setDataEndBack k).panic = true := by
  unfold setDataEndBack; split
  · exact h
  · rfl

/-- `t` is reached from `a` by the moves of the tokenizer: it reads a byte, takes bytes back only while `err` is unset,
skips forward, and updates fields other than the buffer and `allow_cdata`.  The fields are what every such move keeps. -/
structure Reach (a t : Tokenizer) : Prop where
  err : a.err = true → t.err = true
  errGe : ErrGe a → ErrGe t
  panic : a.panic = true → t.panic = true
  hang : a.hang = true → t.hang = true
  buf : t.buf = a.buf
  cdata : t.allowCdata = a.allowCdata

namespace Reach
variable {a t : Tokenizer}

theorem refl (t : Tokenizer) : Reach t t := ⟨id, id, id, id, rfl, rfl⟩

/-- an update of fields other than these six -/
theorem congr {t' : Tokenizer} (h : Reach a t)
    (e : (t'.err, t'.rawE, t'.buf, t'.panic, t'.hang, t'.allowCdata) = (t.err, t.rawE, t.buf, t.panic, t.hang, t.allowCdata)) :
    Reach a t' := by
  simp only [Prod.mk.injEq] at e
  obtain ⟨he, hr, hb, hp, hh, hc⟩ := e
  exact ⟨fun e => he.trans (h.err e), fun g e => by rw [hb, hr]; exact h.errGe g (he.symm.trans e),
    fun e => hp.trans (h.panic e), fun e => hh.trans (h.hang e), hb.trans h.buf, hc.trans h.cdata⟩

theorem panicked (h : Reach a t) : Reach a { t with panic := true } :=
  { h with panic := fun _ => rfl }

theorem hung (h : Reach a t) : Reach a { t with hang := true } :=
  { h with hang := fun _ => rfl }

/-- while `err` is unset, `raw.end` may move anywhere -/
theorem of_noErr {t' : Tokenizer} (h : Reach a t) (hn : ¬ t.err = true)
    (e : (t'.err, t'.buf, t'.panic, t'.hang, t'.allowCdata) = (t.err, t.buf, t.panic, t.hang, t.allowCdata)) :
    Reach a t' := by
  simp only [Prod.mk.injEq] at e
  obtain ⟨he, hb, hp, hh, hc⟩ := e
  exact ⟨fun e => absurd (h.err e) hn, fun _ e => absurd (he.symm.trans e) hn, fun e => hp.trans (h.panic e),
    fun e => hh.trans (h.hang e), hb.trans h.buf, hc.trans h.cdata⟩

theorem readByte (h : Reach a t) : Reach a t.readByte.1 := by
  unfold Tokenizer.readByte
  split
  · exact { h with errGe := fun g e => Nat.le_succ_of_le (h.errGe g e) }
  · rename_i hlt
    exact { h with err := fun _ => rfl, errGe := fun _ _ => Nat.le_of_not_lt hlt }

theorem unread (h : Reach a t) (k : Nat) (hn : ¬ t.err = true) : Reach a (t.unread k) := by
  rw [unread_writes]
  exact { h with err := fun e => absurd (h.err e) hn, errGe := fun _ e => absurd e hn,
                 panic := fun e => unread_panic t k (h.panic e) }

theorem addRawE (h : Reach a t) (k : Nat) : Reach a (t.addRawE k) :=
  { h with errGe := fun g e => Nat.le_trans (h.errGe g e) (Nat.le_add_right _ _) }

theorem setDataEndBack (h : Reach a t) (k : Nat) : Reach a (t.setDataEndBack k) := by
  rw [setDataEndBack_writes]
  exact { h with panic := fun e => setDataEndBack_panic t k (h.panic e) }

/-! In the lemmas about the helpers each case says by which moves the code gets to the state it returns or continues
from.  Each lemma is named after the helper, so that a chain reads like the code (`h.readByte.unread 1 hn`).  Inside this
namespace the bare name of a helper would therefore mean the lemma: the model's functions are written `t.f` or
`Tokenizer.f`.  The `_of_…` variants start from an inner result: `Clean.back` (HtmlSim) takes a property of a
composite's result back to there with them. -/

theorem skipWsGo (h : Reach a t) : Reach a t.skipWsGo := by
  fun_induction Tokenizer.skipWsGo t
  case case1 => exact h.readByte
  case case2 ih => exact ih h.readByte
  case case3 => exact h.readByte.unread 1 ‹_›

theorem skipWhiteSpace (h : Reach a t) : Reach a t.skipWhiteSpace := by
  fun_cases Tokenizer.skipWhiteSpace t
  case case1 => exact h
  case case2 => exact h.skipWsGo

theorem rawEndTagLoop (h : Reach a t) (cs : List Nat) : Reach a (t.rawEndTagLoop cs).1 := by
  fun_induction Tokenizer.rawEndTagLoop t cs
  case case1 => exact h
  case case2 => exact h.readByte
  case case3 => exact h.readByte.panicked
  case case4 => exact h.readByte.unread 1 ‹_›
  case case5 ih => exact ih h.readByte
  case case6 ih => exact ih h.readByte

theorem readRawEndTag_of_loop (l : Reach a (t.rawEndTagLoop t.rawTag).1) : Reach a t.readRawEndTag.1 := by
  unfold Tokenizer.readRawEndTag
  simp only
  split
  · exact l
  · split
    · exact l.readByte
    · split
      · exact l.readByte.unread _ ‹_›
      · exact l.readByte.unread 1 ‹_›

theorem readRawEndTag (h : Reach a t) : Reach a t.readRawEndTag.1 :=
  (h.rawEndTagLoop _).readRawEndTag_of_loop

theorem dblEscLoop (h : Reach a t) (cs : List (Nat × Nat)) : Reach a (t.dblEscLoop cs).1 := by
  fun_induction Tokenizer.dblEscLoop t cs
  case case1 => exact h
  case case2 => exact h.readByte
  case case3 => exact h.readByte.unread 1 ‹_›
  case case4 ih => exact ih h.readByte

theorem scriptGo (h : Reach a t) (st : SS) : Reach a (t.scriptGo st) := by
  fun_induction Tokenizer.scriptGo st t
  -- case numbers: table at `At.scriptGo_adv`
  case case1 => exact h.readByte
  case case2 ih | case3 ih => exact ih h.readByte
  case case4 => exact h.readByte
  case case5 ih | case6 ih => exact ih h.readByte
  case case7 ih => exact ih (h.readByte.unread 1 ‹_›)
  case case8 => exact h.readRawEndTag
  case case9 ih => exact ih h.readRawEndTag
  case case10 | case13 => exact h.readByte
  case case11 ih | case14 ih => exact ih h.readByte
  case case12 ih | case15 ih => exact ih (h.readByte.unread 1 ‹_›)
  case case16 | case20 | case24 => exact h.readByte
  case case17 ih | case18 ih | case19 ih | case21 ih | case22 ih | case23 ih => exact ih h.readByte
  case case25 ih | case26 ih | case27 ih | case28 ih => exact ih h.readByte
  case case29 => exact h.readByte
  case case30 ih => exact ih h.readByte
  case case31 ih | case32 ih => exact ih (h.readByte.unread 1 ‹_›)
  case case33 => exact h.readRawEndTag
  case case34 ih => exact ih h.readRawEndTag
  case case35 => exact h.dblEscLoop _
  case case36 ih => exact ih (h.dblEscLoop _)
  case case37 => exact (h.dblEscLoop _).readByte
  case case38 ih => exact ih (h.dblEscLoop _).readByte
  case case39 ih => exact ih ((h.dblEscLoop _).readByte.unread 1 ‹_›)
  case case40 | case44 | case48 => exact h.readByte
  case case41 ih | case42 ih | case43 ih | case45 ih | case46 ih | case47 ih => exact ih h.readByte
  case case49 ih | case50 ih | case51 ih | case52 ih => exact ih h.readByte
  case case53 => exact h.readByte
  case case54 ih => exact ih h.readByte
  case case55 ih => exact ih (h.readByte.unread 1 ‹_›)
  case case56 ih => exact ih (h.readRawEndTag.addRawE _)
  case case57 => exact h.readRawEndTag
  case case58 ih => exact ih h.readRawEndTag

theorem rawTextGo (h : Reach a t) : Reach a t.rawTextGo := by
  fun_induction Tokenizer.rawTextGo t
  case case1 => exact h.readByte
  case case2 ih => exact ih h.readByte
  case case3 => exact h.readByte.readByte
  case case4 ih => exact ih h.readByte.readByte
  case case5 => exact h.readByte.readByte.readRawEndTag
  case case6 ih => exact ih h.readByte.readByte.readRawEndTag

theorem readRawOrCdata (h : Reach a t) : Reach a t.readRawOrCdata := by
  fun_cases Tokenizer.readRawOrCdata t
  case case1 => exact (h.scriptGo .data).congr rfl
  case case2 => exact h.rawTextGo.congr rfl

theorem readToEnd (h : Reach a t) : Reach a t.readToEnd := by
  fun_induction Tokenizer.readToEnd t
  case case1 => exact h
  case case2 => exact h.readByte
  case case3 ih => exact ih h.readByte

theorem commentGo (h : Reach a t) (dash : Nat) : Reach a (t.commentGo dash) := by
  fun_induction Tokenizer.commentGo t dash
  case case1 => exact h.readByte.setDataEndBack _
  case case2 ih => exact ih h.readByte
  case case3 => exact h.readByte.setDataEndBack _
  case case4 ih => exact ih h.readByte
  case case5 => exact h.readByte.readByte.congr rfl
  case case6 => exact h.readByte.readByte.setDataEndBack _
  case case7 ih => exact ih h.readByte.readByte
  case case8 ih | case9 ih => exact ih h.readByte

theorem readComment (h : Reach a t) : Reach a t.readComment := by
  have g := (h.congr (t' := { t with dataS := t.rawE }) rfl).commentGo 2
  fun_cases Tokenizer.readComment t
  case case1 => exact g.congr rfl
  case case2 => exact g

theorem untilCloseAngleGo (h : Reach a t) : Reach a t.untilCloseAngleGo := by
  fun_induction Tokenizer.untilCloseAngleGo t
  case case1 => exact h.readByte.congr rfl
  case case2 => exact h.readByte.setDataEndBack 1
  case case3 ih => exact ih h.readByte

theorem readUntilCloseAngle (h : Reach a t) : Reach a t.readUntilCloseAngle :=
  .untilCloseAngleGo (h.congr rfl)

theorem declLoop (h : Reach a t) (cs : List (Nat × Nat)) : Reach a (t.declLoop cs).1 := by
  fun_induction Tokenizer.declLoop t cs
  case case1 => exact h
  case case2 => exact h.readByte.congr rfl
  case case3 => exact h.readByte.of_noErr ‹_› rfl
  case case4 ih => exact ih h.readByte

theorem readDocType_of_loop (l : Reach a (t.declLoop htmlDoctypePat).1) : Reach a t.readDocType.1 := by
  fun_cases Tokenizer.readDocType t
  case case1 => exact l
  case case2 => exact l.skipWhiteSpace.congr rfl
  case case3 => exact l.skipWhiteSpace.readUntilCloseAngle

theorem readDocType (h : Reach a t) : Reach a t.readDocType.1 :=
  (h.declLoop _).readDocType_of_loop

theorem cdataGo (h : Reach a t) (brackets : Nat) : Reach a (t.cdataGo brackets) := by
  fun_induction Tokenizer.cdataGo t brackets
  case case1 => exact h.readByte.congr rfl
  case case2 ih => exact ih h.readByte
  case case3 => exact h.readByte.setDataEndBack _
  case case4 ih | case5 ih => exact ih h.readByte

theorem readCdata_of_loop (l : Reach a (t.declLoop htmlCdataPat).1) : Reach a t.readCdata.1 := by
  fun_cases Tokenizer.readCdata t
  case case1 => exact l
  case case2 =>
    refine .cdataGo ?_ 0
    exact l.congr rfl

theorem readCdata (h : Reach a t) : Reach a t.readCdata.1 :=
  (h.declLoop _).readCdata_of_loop

theorem markupRest_of_docType (d : Reach a t.readDocType.1) : Reach a t.markupRest.1 := by
  unfold Tokenizer.markupRest
  simp only
  split
  · exact d
  · split
    · split
      · exact d.readCdata.congr rfl
      · exact d.readCdata.readUntilCloseAngle
    · exact d.readUntilCloseAngle

theorem markupRest (h : Reach a t) : Reach a t.markupRest.1 :=
  h.readDocType.markupRest_of_docType

theorem markupGo (h : Reach a t) : Reach a t.markupGo.1 := by
  unfold Tokenizer.markupGo
  simp only
  split
  · exact h.readByte.congr rfl
  · split
    · exact h.readByte.readByte.congr rfl
    · split
      · exact h.readByte.readByte.readComment
      · exact (h.readByte.readByte.unread 2 ‹_›).markupRest

theorem readMarkupDeclaration (h : Reach a t) : Reach a t.readMarkupDeclaration.1 :=
  .markupGo (h.congr rfl)

theorem tagNameGo (h : Reach a t) : Reach a t.tagNameGo := by
  fun_induction Tokenizer.tagNameGo t
  case case1 => exact h.readByte.congr rfl
  case case2 => exact h.readByte.setDataEndBack 1
  case case3 => exact (h.readByte.unread 1 ‹_›).congr rfl
  case case4 ih => exact ih h.readByte

theorem readTagName (h : Reach a t) : Reach a t.readTagName := by
  fun_cases Tokenizer.readTagName t
  case case1 => exact h.panicked
  case case2 => exact .tagNameGo (h.congr rfl)

theorem attrKeyGo (h : Reach a t) : Reach a t.attrKeyGo := by
  fun_induction Tokenizer.attrKeyGo t
  case case1 | case3 => exact h.readByte.congr rfl
  case case2 => exact h.readByte.panicked
  case case4 => exact (h.readByte.unread 1 ‹_›).congr rfl
  case case5 ih => exact ih h.readByte

theorem attrValQuotedGo (h : Reach a t) (quote : Nat) : Reach a (t.attrValQuotedGo quote) := by
  fun_induction Tokenizer.attrValQuotedGo t quote
  case case1 | case3 => exact h.readByte.congr rfl
  case case2 => exact h.readByte.panicked
  case case4 ih => exact ih h.readByte

theorem attrValUnquotedGo (h : Reach a t) : Reach a t.attrValUnquotedGo := by
  fun_induction Tokenizer.attrValUnquotedGo t
  case case1 | case3 => exact h.readByte.congr rfl
  case case2 => exact h.readByte.panicked
  case case4 => exact (h.readByte.unread 1 ‹_›).congr rfl
  case case5 ih => exact ih h.readByte

theorem attrValRest (h : Reach a t) : Reach a t.attrValRest := by
  have q := h.skipWhiteSpace.readByte
  fun_cases Tokenizer.attrValRest t
  case case1 => exact h.skipWhiteSpace
  case case2 => exact q
  case case3 => exact q.unread 1 ‹_›
  case case4 =>
    refine .attrValQuotedGo ?_ _
    exact q.congr rfl
  case case5 => exact q.panicked
  case case6 =>
    refine .attrValUnquotedGo ?_
    exact q.congr rfl

theorem attrValGo (h : Reach a t) : Reach a t.attrValGo := by
  fun_cases Tokenizer.attrValGo t
  case case1 => exact h.skipWhiteSpace
  case case2 => exact h.skipWhiteSpace.readByte
  case case3 => exact h.skipWhiteSpace.readByte.unread 1 ‹_›
  case case4 => exact h.skipWhiteSpace.readByte.attrValRest

theorem readTagAttrKey (h : Reach a t) : Reach a t.readTagAttrKey :=
  .attrKeyGo (h.congr rfl)

theorem readTagAttrVal (h : Reach a t) : Reach a t.readTagAttrVal :=
  .attrValGo (h.congr rfl)

theorem readAttr_of_val {saveAttr : Bool} (v : Reach a t.readTagAttrKey.readTagAttrVal) :
    Reach a (t.readAttr saveAttr) := by
  unfold Tokenizer.readAttr
  simp only
  split
  · exact .skipWhiteSpace (v.congr rfl)
  · exact v.skipWhiteSpace

theorem readAttr (h : Reach a t) (saveAttr : Bool) : Reach a (t.readAttr saveAttr) :=
  h.readTagAttrKey.readTagAttrVal.readAttr_of_val

theorem tagAttrsGo (h : Reach a t) (saveAttr : Bool) : Reach a (t.tagAttrsGo saveAttr) := by
  fun_induction Tokenizer.tagAttrsGo t saveAttr
  case case1 => exact h.readByte
  case case2 hn _ _ => exact (h.readByte.unread 1 (fun e => hn (by rw [e]; rfl))).readAttr _
  case case3 hn _ _ _ ih => exact ih ((h.readByte.unread 1 (fun e => hn (by rw [e]; rfl))).readAttr _)
  case case4 hn _ _ _ => exact ((h.readByte.unread 1 (fun e => hn (by rw [e]; rfl))).readAttr _).hung

theorem readTag_of_name {saveAttr : Bool}
    (s : Reach a ({ t with attrs := #[], nAttrRet := 0 } : Tokenizer).readTagName.skipWhiteSpace) :
    Reach a (t.readTag saveAttr) := by
  fun_cases Tokenizer.readTag t saveAttr
  case case1 => exact s
  case case2 => exact s.tagAttrsGo _

theorem readTag (h : Reach a t) (saveAttr : Bool) : Reach a (t.readTag saveAttr) :=
  (h.congr (t' := { t with attrs := #[], nAttrRet := 0 }) rfl).readTagName.skipWhiteSpace.readTag_of_name

theorem startTagRaw (h : Reach a t) : Reach a t.startTagRaw := by
  obtain ⟨_, _, _, e, hp⟩ := startTagRaw_writes t
  rw [e]
  exact { h with panic := fun g => hp (h.panic g) }

theorem readStartTag_of_tag (g : Reach a (t.readTag true)) : Reach a t.readStartTag.1 := by
  unfold Tokenizer.readStartTag
  simp only
  split
  · exact g
  · split
    · exact g.startTagRaw
    · split
      · exact g.startTagRaw.panicked
      · exact g.startTagRaw

theorem readStartTag (h : Reach a t) : Reach a t.readStartTag.1 :=
  (h.readTag true).readStartTag_of_tag

theorem finishText (h : Reach a t) : Reach a t.finishText := by
  fun_cases Tokenizer.finishText t
  case case1 | case2 => exact h.congr rfl

/-- `hn`: the text flush `raw.end = x` (case 2) and the `raw.end -= 1` in front of a bogus comment `<?` (case 10) move
`raw.end` back, which `ErrGe` allows only while `err` is unset.  The one caller, `mainLoop` below, gets here right after two
successful reads.  Without `hn` only `err` is sticky: `dispatchTag_err` at the end of the file. -/
theorem dispatchTag (h : Reach a t) (c : Nat) (hn : ¬ t.err = true) : Reach a (t.dispatchTag c) := by
  fun_cases Tokenizer.dispatchTag t c
  case case1 => exact h.panicked
  case case2 => exact h.of_noErr hn rfl
  case case3 => exact h.readStartTag.congr rfl
  case case4 => exact h.readByte.finishText
  case case5 => exact h.readByte.congr rfl
  case case6 | case7 => exact (h.readByte.readTag false).congr rfl
  case case8 => exact (h.readByte.unread 1 ‹_›).readUntilCloseAngle.congr rfl
  case case9 => exact h.readMarkupDeclaration.congr rfl
  case case10 => exact (h.unread 1 hn).readUntilCloseAngle.congr rfl

theorem mainLoop (h : Reach a t) : Reach a t.mainLoop := by
  fun_induction Tokenizer.mainLoop t
  case case1 => exact h.readByte.finishText
  case case2 ih => exact ih h.readByte
  case case3 => exact h.readByte.readByte.finishText
  case case4 ih => exact ih (h.readByte.readByte.unread 1 ‹_›)
  case case5 => exact h.readByte.readByte.dispatchTag _ ‹_›

theorem rawText (h : Reach a t) : Reach a t.rawText := by
  unfold Tokenizer.rawText
  split
  · exact h.readToEnd.congr rfl
  · exact h.readRawOrCdata

theorem nextGo (h : Reach a t) : Reach a t.nextGo := by
  fun_cases Tokenizer.nextGo t
  case case1 => exact h.congr rfl
  case case2 => exact h.rawText.congr rfl
  case case3 => exact .mainLoop (h.rawText.congr rfl)
  case case4 => exact .mainLoop (h.congr rfl)

theorem next (h : Reach a t) : Reach a t.next :=
  .nextGo (h.congr rfl)

end Reach

/-- `err` is sticky through `dispatchTag` whatever the state: `Reach.dispatchTag` needs `¬ t.err` only for its `ErrGe` half -/
theorem dispatchTag_err (t : Tokenizer) (b : Nat) (h : t.err = true) : (dispatchTag t b).err = true := by
  have r := Reach.refl t
  fun_cases Tokenizer.dispatchTag t b
  case case1 | case2 => exact h
  case case3 => exact r.readStartTag.err h
  case case4 => exact r.readByte.finishText.err h
  case case5 => exact r.readByte.err h
  case case6 | case7 => exact (r.readByte.readTag false).err h
  case case8 => exact (r.readByte.unread 1 ‹_›).readUntilCloseAngle.err h
  case case9 => exact r.readMarkupDeclaration.err h
  case case10 => exact (Reach.refl (t.unread 1)).readUntilCloseAngle.err ((unread_err t 1).trans h)

end Tokenizer
end Rio.Html
