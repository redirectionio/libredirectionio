/-
`UniqueRegexTreeMap` (`tree.rs`): the id of an entry is its pattern, so the side
condition "an id in use determines its pattern" holds by construction and `get(p)` is the value stored
under `p`.
-/
import RioModel.Proofs.TreeHistory

namespace Rio.Tree
open Rio.Regex

variable {ι V : Type} [DecidableEq ι]

/-- Every insert stores its value under the pattern itself. -/
def UniqueHist : List (Op (List Char) V) → Prop
  | [] => True
  | .insert p id _ :: ops => id = p ∧ UniqueHist ops
  | _ :: ops => UniqueHist ops

/-- The function `insertedPats` of TreeCacheSim (which this module does not import), clause for clause. -/
def insertedPats' : List (Op ι V) → List (List Char)
  | [] => []
  | .insert p _ _ :: ops => p :: insertedPats' ops
  | _ :: ops => insertedPats' ops

theorem UniqueHist.tail {op : Op (List Char) V} {ops : List (Op (List Char) V)} (h : UniqueHist (op :: ops)) :
    UniqueHist ops := by
  cases op with
  | insert p id v => exact h.2
  | _ => exact h

theorem refStep_unique {L : List (Entry (List Char) V)} (hL : ∀ e ∈ L, e.id = e.pat) {op : Op (List Char) V}
    {ops : List (Op (List Char) V)} (hu : UniqueHist (op :: ops)) : ∀ e ∈ refStep L op, e.id = e.pat := by
  intro e he
  rcases mem_refStep he with ⟨e0, he0, hp, hi⟩ | ⟨v, rfl⟩
  · rw [hp, hi]; exact hL e0 he0
  · exact hu.1

/-- For a unique map the id condition of `histOk` is automatic. -/
theorem histOk_unique (good : List Char → Bool) (ops : List (Op (List Char) V)) :
    ∀ (L : List (Entry (List Char) V)), (∀ e ∈ L, e.id = e.pat) → UniqueHist ops →
      (∀ p ∈ insertedPats' ops, good p = true) → histOk good L ops = true := by
  induction ops with
  | nil => intro _ _ _ _; rfl
  | cons op ops ih =>
    intro L hL hu hg
    rw [histOk_cons, Bool.and_eq_true]
    refine ⟨?_, ih _ (refStep_unique hL hu) hu.tail fun q hq => hg q (by cases op <;> simp [insertedPats', hq])⟩
    cases op with
    | insert p id v =>
      obtain ⟨rfl, _⟩ := hu
      simp only [opOk, Bool.and_eq_true, List.all_eq_true, decide_eq_true_eq]
      exact ⟨hg id (by simp [insertedPats']), fun e he hid => by rw [← hL e he]; exact hid⟩
    | _ => rfl

theorem refRun_unique (ops : List (Op (List Char) V)) :
    ∀ (L : List (Entry (List Char) V)), (∀ e ∈ L, e.id = e.pat) → UniqueHist ops →
      ∀ e ∈ refRun L ops, e.id = e.pat := by
  induction ops with
  | nil => intro L hL _; exact hL
  | cons op ops ih => intro L hL hu; exact ih _ (refStep_unique hL hu) hu.tail

theorem filter_id_length_le_one {L : List (Entry ι V)} (h : IdNodup L) (id : ι) :
    (L.filter fun e => decide (e.id = id)).length ≤ 1 := by
  induction L with
  | nil => simp
  | cons a L ih =>
    rw [IdNodup, List.pairwise_cons] at h
    rw [List.filter_cons]
    split
    · next ha =>
      simp only [decide_eq_true_eq] at ha
      have : (L.filter fun e => decide (e.id = id)) = [] := by
        rw [List.filter_eq_nil_iff]
        intro e he
        simp only [decide_eq_true_eq]
        intro hid; exact h.1 e he (by rw [ha, hid])
      simp [this]
    · exact ih h.2

theorem refRemoved_eq_head (L : List (Entry ι V)) (id : ι) :
    refRemoved L id = ((L.filter fun e => decide (e.id = id)).map (·.val)).head? := by
  induction L with
  | nil => simp [refRemoved]
  | cons a L ih =>
    simp only [refRemoved, List.filter_cons]
    split
    · next ha => simp [ha]
    · next ha => simp [ha, ih]

theorem getLast?_eq_head?_of_short {α : Type} (l : List α) (h : l.length ≤ 1) : l.getLast? = l.head? := by
  match l, h with
  | [], _ => rfl
  | [a], _ => rfl
  | _ :: _ :: _, h => simp at h

/-- `UniqueRegexTreeMap::get(p)` (`self.tree.get(p).pop()`) is the value stored under `p`: ids are patterns here, so that value
is `refRemoved L p`, the value of the first entry with id `p` (what `remove(p)` would return). -/
theorem uGet_spec {ic : Bool} {t : Item (List Char) V} {L : List (Entry (List Char) V)}
    (hrep : Rep ic t L) (hnd : IdNodup L) (hid : ∀ e ∈ L, e.id = e.pat) (p : List Char) :
    uGet t p = refRemoved L p := by
  obtain ⟨hinv, hperm⟩ := hrep
  have hfe : (L.filter fun e => decide (e.pat = p)) = L.filter fun e => decide (e.id = p) := by
    apply List.filter_congr
    intro e he; rw [hid e he]
  have hshort : ((L.filter fun e => decide (e.pat = p)).map (·.val)).length ≤ 1 := by
    rw [hfe, List.length_map]; exact filter_id_length_le_one hnd p
  have hget : t.get p = (L.filter fun e => decide (e.pat = p)).map (·.val) := by
    rw [get_eq_filter t hinv p]
    exact (Rio.Util.perm_eq_of_length_le_one ((hperm.symm.filter _).map _) hshort).symm
  unfold uGet
  rw [hget, refRemoved_eq_head, ← hfe]
  exact getLast?_eq_head?_of_short _ hshort

/-- `UniqueRegexTreeMap::get(p)` after ANY history of a unique map, whatever the patterns: the value last stored under `p` and
not removed since, `None` if there is none. -/
theorem uGet_run (E : Engine) (ic : Bool) (ops : List (Op (List Char) V)) (hu : UniqueHist ops) (p : List Char) :
    ∃ t : Item (List Char) V, treeRun E (.empty ic) ops = some t ∧ uGet t p = refRemoved (refRun [] ops) p := by
  have hok : histOk (fun _ => true) [] ops = true := histOk_unique _ ops [] (by simp) hu fun _ _ => rfl
  obtain ⟨t, hrun, hrep, hnd⟩ :=
    run_rep E (ic := ic) ops (.empty ic) [] ⟨by simp [Item.inv], by simp⟩ (by simp [IdNodup]) hok
  exact ⟨t, hrun, uGet_spec hrep hnd (refRun_unique ops [] (by simp) hu) p⟩

end Rio.Tree
