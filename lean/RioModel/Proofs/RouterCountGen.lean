/-
Router proofs (property C02): the TRANSLATED `insert` / `remove` / `batch_remove` / `len` / `is_empty` of
`HostMatcher` and `PathAndQueryMatcher` (`Rio.Consts.genHost*` / `genPath*`, regenerated from the Rust source by
tools/consts.d/tr_w16_count.py) are the hand-written model's (`HostT.*`, `PathT.*` of Model/RouterTreeLayers.lean).

The translation abstracts every method of the static map, of the inner matcher and of the regex tree.  This file gives
the instantiations (`CountGen.map*` = `HashMap` as the list of its entries, `CountGen.tree*` = the tree model of
Model/Tree.lean) and proves, function by function, the closed form

    translated f (fields of s) args = if <a `count -= 1` is reached with `count = 0`> then none
                                      else some (result of the model, fields of the model's new state)

with NO hypothesis on the state; Props/C02gen.lean discharges the panic condition under the representation relation.

The path layer's `static_rules` is a map of maps in the code and ONE association list keyed `(path, id)` in the model:
`PathFields` is the nested form (what the translated code is literally equal to), `flatN` the abstraction function, and
`SEquiv` (same entries per path, in the same order) the relation under which the flat model's operations are the
nested ones (`remove` / `batch_remove`: equal lists, no hypothesis; `insert`: per path, because a new rule of an
existing path is appended to ITS inner map by the code and to the end of the one list by the model).
-/
import RioModel.Model.RouterTreeLayers
import RioModel.Proofs.RouterMap
import RioModel.Proofs.TreeRemove
import RioModel.Generated.Consts

namespace Rio.Router
open Rio.Consts Rio.Tree

namespace CountGen

section
variable {K V : Type} [DecidableEq K]

/-- `map.contains_key(k)` -/
def mapContainsKey (k : K) (m : List (K × V)) : Bool := (alookup k m).isSome
/-- `map.insert(k, v)` (the value of an existing key is replaced, a new key goes to the end of the iteration order) -/
def mapInsert (k : K) (v : V) (m : List (K × V)) : List (K × V) := aupsert (fun _ => v) v k m
/-- `*map.get_mut(k).unwrap() = f(..)` -/
def mapModify (k : K) (f : V → V) : List (K × V) → List (K × V)
  | [] => []
  | (k', v) :: rest => if k' = k then (k', f v) :: rest else (k', v) :: mapModify k f rest
/-- `map.retain(closure)`: every entry is visited once, in iteration order; the closure gets the key, `&mut` value
and the local it assigns. -/
def mapRetain {χ : Type} (f : K → V → χ → Bool × V × χ) : List (K × V) → χ → List (K × V) × χ
  | [], s => ([], s)
  | (k, v) :: rest, s =>
    ((if (f k v s).1 then (k, (f k v s).2.1) :: (mapRetain f rest (f k v s).2.2).1
      else (mapRetain f rest (f k v s).2.2).1), (mapRetain f rest (f k v s).2.2).2)

theorem modify_of_contains (f : V → V) (emp : V) (k : K) (m : List (K × V))
    (h : mapContainsKey k m = true) : mapModify k f m = aupsert f emp k m := by
  induction m with
  | nil => simp [mapContainsKey, alookup] at h
  | cons a m ih =>
    obtain ⟨k', v⟩ := a
    by_cases e : k' = k
    · simp [mapModify, aupsert, e]
    · have : mapContainsKey k m = true := by simpa [mapContainsKey, alookup, e] using h
      simp [mapModify, aupsert, e, ih this]

theorem modify_insert_of_not_contains (f : V → V) (emp : V) (k : K) (m : List (K × V))
    (h : mapContainsKey k m = false) :
    mapContainsKey k (mapInsert k emp m) = true ∧ mapModify k f (mapInsert k emp m) = aupsert f emp k m := by
  induction m with
  | nil => simp [mapContainsKey, mapInsert, aupsert, alookup, mapModify]
  | cons a m ih =>
    obtain ⟨k', v⟩ := a
    by_cases e : k' = k
    · simp [mapContainsKey, alookup, e] at h
    · have hm : mapContainsKey k m = false := by simpa [mapContainsKey, alookup, e] using h
      have := ih hm
      constructor
      · simpa [mapContainsKey, mapInsert, aupsert, alookup, e] using this.1
      · simpa [mapInsert, aupsert, mapModify, e] using this.2

end

section
variable {ι V : Type} [DecidableEq ι]

/-- `tree.retain(&closure)`: the closure decides / updates every stored value (`Item.retain`) and is called once per
stored value, in tree order (`Item.contents`, C08 `iter_enumerates`); whether a value is kept and its new value do
not depend on the captured local (for the closures of `remove`: `hit_closure_state_independent` in Props/C02gen.lean). -/
def treeRetain {χ : Type} (f : ι → V → χ → Bool × V × χ) (t : Item ι V) (s : χ) : Item ι V × χ :=
  (t.retain (fun k v => if (f k v s).1 then some (f k v s).2.1 else none),
   t.contents.foldl (fun s e => (f e.id e.val s).2.2) s)

end

/-- `regex_tree_rule.get_mut(k).is_some()` (UniqueRegexTreeMap) -/
def treeContains {V : Type} (k : List Char) (t : Item (List Char) V) : Bool := (uGet t k).isSome
/-- `regex_tree_rule.get_mut(k)` followed by an in-place update -/
def treeModify {V : Type} (k : List Char) (f : V → V) (t : Item (List Char) V) : Item (List Char) V :=
  t.modifyAt k (fun _ m => f m)

/-- `marker::StaticOrDynamic` of the model as the translated one. -/
def sod : SoD → GenSoD String Pat
  | .static s => .static s
  | .dyn p => .dynamic p

end CountGen

open CountGen

section
variable (T : TEnv) (I : MOps)

/-- the mutable fields of `HostMatcher`, in the order of the translation -/
def HostTState.fields (s : HostTState I) : List (String × I.M) × Item (List Char) I.M × I.M × Nat :=
  (s.statics, s.tree, s.any, s.count)

theorem genHostInsert_eq (r : Route) (s : HostTState I) :
    genHostInsert (fun r => r.host.map sod) T.render (fun h => decide (h = "")) I.empty I.insert
      mapContainsKey mapInsert mapModify treeContains treeModify (fun k v t => uInsert t k v)
      s.statics s.tree s.any s.count r
    = some ((), (HostT.insert T I r s).fields) := by
  unfold genHostInsert HostT.insert HostTState.fields
  cases hh : r.host with
  | none => simp [hh]
  | some x =>
    cases x with
    | static h =>
      by_cases e : h = ""
      · simp [hh, sod, e]
      · cases hc : mapContainsKey h s.statics
        · have := modify_insert_of_not_contains (I.insert r) I.empty h s.statics hc
          simp [hh, sod, e, hc, this.1, this.2]
        · have := modify_of_contains (I.insert r) I.empty h s.statics hc
          simp [hh, sod, e, hc, this]
    | dyn p =>
      cases hg : uGet s.tree (T.render p) <;> simp [hh, sod, treeContains, treeModify, hg]

/-- the closure of the two `retain`s of `HostMatcher::remove`, as a specification of a translated closure; the third
component is `if let Some(value) = matcher.remove(id) { removed = Some(value) }`: an earlier hit stays unless this
bucket hits, so the local ends as the last hit (`removeAll_snd` of Proofs/RouterGeneric.lean) -/
def IsHitClosure {κ : Type} (id : String) (f : κ → I.M → Option Route → Bool × I.M × Option Route) : Prop :=
  ∀ k v s, f k v s = (!I.isEmpty (I.remove id v).1, (I.remove id v).1, ((I.remove id v).2).orElse (fun _ => s))

theorem mapRetain_removeAll {κ : Type} [DecidableEq κ] (id : String)
    (f : κ → I.M → Option Route → Bool × I.M × Option Route) (hf : IsHitClosure I id f)
    (m : List (κ × I.M)) (init : Option Route) :
    mapRetain f m init = ((removeAll I id m).1, ((removeAll I id m).2).orElse (fun _ => init)) := by
  induction m generalizing init with
  | nil => simp [mapRetain, removeAll]
  | cons a m ih =>
    obtain ⟨k, v⟩ := a
    simp only [mapRetain, removeAll, hf k v init, ih]
    cases he : I.isEmpty (I.remove id v).1 <;> cases hr : (removeAll I id m).2 <;> simp

theorem treeRetain_remove (id : String)
    (f : List Char → I.M → Option Route → Bool × I.M × Option Route) (hf : IsHitClosure I id f)
    (t : Item (List Char) I.M) :
    treeRetain f t none =
      (t.retain (fun _ m => pruneVal I (fun m => (I.remove id m).1) m), lastHit I id (t.contents.map (·.val))) := by
  unfold treeRetain
  congr 1
  · congr 1
    funext k v
    rw [hf k v none]
    simp only [pruneVal]
    cases I.isEmpty (I.remove id v).1 <;> simp
  · unfold lastHit
    rw [List.foldl_map]
    congr 1
    funext s e
    rw [hf e.id e.val s]
    rfl

theorem genHostRemove_eq (id : String) (s : HostTState I) :
    genHostRemove I.remove I.isEmpty mapRetain treeRetain s.statics s.tree s.any s.count id
    = if (HostT.remove I id s).2.isSome && s.count == 0 then none
      else some ((HostT.remove I id s).2, (HostT.remove I id s).1.fields) := by
  unfold genHostRemove HostT.remove HostTState.fields
  rcases I.remove id s.any with ⟨a', _ | r0⟩
  · simp only [Option.isSome_none, Bool.false_eq_true, if_false]
    -- `?h1`, `?h2`: the translated closures, a `match` on what the bucket's `remove` returned, are hit closures
    rw [mapRetain_removeAll I id _ ?h1, treeRetain_remove I id _ ?h2]
    case h1 => intro k v st; dsimp only; split <;> rename_i heq <;> simp [heq]
    case h2 => intro k v st; dsimp only; split <;> rename_i heq <;> simp [heq]
    generalize (removeAll I id s.statics).2 = rs
    generalize lastHit I id _ = lh
    cases rs with
    | some r => by_cases hc : s.count = 0 <;> simp [hc]
    | none =>
      cases lh with
      | none => simp
      | some r => by_cases hc : s.count = 0 <;> simp [hc]
  · by_cases hc : s.count = 0 <;> simp [hc]

/-- the closure of the two `retain`s of `HostMatcher::batch_remove` -/
def IsPruneClosure {κ : Type} (g : I.M → I.M) (f : κ → I.M → Unit → Bool × I.M × Unit) : Prop :=
  ∀ k v s, f k v s = (!I.isEmpty (g v), g v, ())

theorem mapRetain_batch {κ : Type} [DecidableEq κ] (ids : List String)
    (f : κ → I.M → Unit → Bool × I.M × Unit) (hf : IsPruneClosure I (I.batchRemove ids) f)
    (m : List (κ × I.M)) : mapRetain f m () = (batchAll I ids m, ()) := by
  induction m with
  | nil => simp [mapRetain, batchAll]
  | cons a m ih =>
    obtain ⟨k, v⟩ := a
    simp only [mapRetain, hf k v (), ih]
    cases he : I.isEmpty (I.batchRemove ids v) <;> simp [batchAll, he]

theorem treeRetain_batch (g : I.M → I.M)
    (f : List Char → I.M → Unit → Bool × I.M × Unit) (hf : IsPruneClosure I g f)
    (t : Item (List Char) I.M) :
    treeRetain f t () = (t.retain (fun _ m => pruneVal I g m), ()) := by
  unfold treeRetain
  congr 1
  congr 1
  funext k v
  rw [hf k v ()]
  simp only [pruneVal]
  cases I.isEmpty (g v) <;> simp

theorem genHostBatchRemove_eq (ids : List String) (s : HostTState I) :
    genHostBatchRemove I.batchRemove I.isEmpty mapRetain List.isEmpty treeRetain Item.isEmpty
      s.statics s.tree s.any s.count ids
    = some ((I.isEmpty (HostT.batchRemove I ids s).any && (HostT.batchRemove I ids s).statics.isEmpty
              && (HostT.batchRemove I ids s).tree.isEmpty),
            (HostT.batchRemove I ids s).fields) := by
  unfold genHostBatchRemove HostT.batchRemove HostTState.fields
  dsimp only
  rw [mapRetain_batch I ids _ ?h1, treeRetain_batch I (I.batchRemove ids) _ ?h2]
  case h1 => intro k v st; rfl
  case h2 => intro k v st; rfl

end

namespace CountGen

/-- `HashMap<String, Arc<Route>>::remove(id)` of an inner map of `static_rules` -/
def imapRemove (id : String) : List (String × Route) → List (String × Route) × Option Route
  | [] => ([], none)
  | (k, r) :: rest =>
    if k = id then (rest, some r) else ((k, r) :: (imapRemove id rest).1, (imapRemove id rest).2)

/-- `static_rules` (a map of maps) as the model's one association list keyed `(path, id)` -/
def flatN (m : List (String × List (String × Route))) : List ((String × String) × Route) :=
  m.flatMap (fun b => b.2.map (fun e => ((b.1, e.1), e.2)))

theorem flatN_cons (p : String) (b : List (String × Route)) (m : List (String × List (String × Route))) :
    flatN ((p, b) :: m) = b.map (fun e => ((p, e.1), e.2)) ++ flatN m := List.flatMap_cons ..

/-- a path whose inner map became empty is dropped by `retain`: it contributes nothing to the flat list either way -/
theorem flatN_keep (p : String) (b : List (String × Route)) (m : List (String × List (String × Route))) :
    flatN (if (!b.isEmpty) = true then (p, b) :: m else m) = b.map (fun e => ((p, e.1), e.2)) ++ flatN m := by
  cases b <;> rfl

/-- the closure of `static_rules.retain` in `PathAndQueryMatcher::remove`, hand-written -/
def pathRemoveClos (id : String) :
    String → List (String × Route) → Option Route → Bool × List (String × Route) × Option Route :=
  fun _ m st => if st.isSome then (true, m, st) else (!(imapRemove id m).1.isEmpty, (imapRemove id m).1, (imapRemove id m).2)

/-- the closure of `static_rules.retain` in `PathAndQueryMatcher::batch_remove`, hand-written -/
def pathBatchClos (ids : List String) :
    String → List (String × Route) → Unit → Bool × List (String × Route) × Unit :=
  fun _ m _ => (!(m.filter (fun e => !ids.contains e.1)).isEmpty, m.filter (fun e => !ids.contains e.1), ())

theorem mapRetain_congr {K V χ : Type} (f g : K → V → χ → Bool × V × χ) (h : ∀ k v s, f k v s = g k v s)
    (m : List (K × V)) (s : χ) : mapRetain f m s = mapRetain g m s := by
  have : f = g := by funext k v s; exact h k v s
  rw [this]

theorem mapRetain_filter {K V : Type} (pr : K → V → Bool) (f : K → V → Unit → Bool × V × Unit)
    (hf : ∀ k v s, f k v s = (pr k v, v, ())) (m : List (K × V)) :
    mapRetain f m () = (m.filter (fun e => pr e.1 e.2), ()) := by
  induction m with
  | nil => simp [mapRetain]
  | cons a m ih =>
    obtain ⟨k, v⟩ := a
    simp only [mapRetain, hf k v (), ih, List.filter_cons]

theorem entryRemove_map (id p : String) (m : List (String × Route)) :
    entryRemove id (m.map (fun e => ((p, e.1), e.2))) =
      ((imapRemove id m).1.map (fun e => ((p, e.1), e.2)), (imapRemove id m).2) := by
  induction m with
  | nil => simp [entryRemove, imapRemove]
  | cons a m ih =>
    obtain ⟨k, r⟩ := a
    by_cases e : k = id
    · simp [entryRemove, imapRemove, e]
    · simp [entryRemove, imapRemove, e, ih]

theorem entryRemove_append {P : Type} (id : String) (a b : List ((P × String) × Route)) :
    entryRemove id (a ++ b) =
      (match (entryRemove id a).2 with
       | some r => ((entryRemove id a).1 ++ b, some r)
       | none => ((entryRemove id a).1 ++ (entryRemove id b).1, (entryRemove id b).2)) := by
  induction a with
  | nil => simp [entryRemove]
  | cons e a ih =>
    by_cases he : e.1.2 = id
    · simp [entryRemove, he]
    · simp only [List.cons_append, entryRemove, he, if_false, ih]
      cases (entryRemove id a).2 <;> simp

theorem mapRetain_found (id : String) (m : List (String × List (String × Route))) (r : Route) :
    mapRetain (pathRemoveClos id) m (some r) = (m, some r) := by
  induction m with
  | nil => simp [mapRetain]
  | cons a m ih =>
    obtain ⟨k, v⟩ := a
    simp [mapRetain, pathRemoveClos, ih]

theorem nestedRemove_flat (id : String) (m : List (String × List (String × Route))) :
    flatN (mapRetain (pathRemoveClos id) m none).1 = (entryRemove id (flatN m)).1 ∧
    (mapRetain (pathRemoveClos id) m none).2 = (entryRemove id (flatN m)).2 := by
  induction m with
  | nil => exact ⟨rfl, rfl⟩
  | cons a m ih =>
    obtain ⟨p, b⟩ := a
    have hf : pathRemoveClos id p b none =
        (!(imapRemove id b).1.isEmpty, (imapRemove id b).1, (imapRemove id b).2) := rfl
    rw [flatN_cons, entryRemove_append, entryRemove_map]
    simp only [mapRetain, hf]
    cases hr : (imapRemove id b).2 with
    | some r => rw [mapRetain_found]; exact ⟨flatN_keep .., rfl⟩
    | none => exact ⟨(flatN_keep ..).trans (congrArg _ ih.1), ih.2⟩

theorem nestedBatch_flat (ids : List String) (m : List (String × List (String × Route))) :
    flatN (mapRetain (pathBatchClos ids) m ()).1 = (flatN m).filter (fun e => !ids.contains e.1.2) := by
  induction m with
  | nil => rfl
  | cons a m ih =>
    obtain ⟨p, b⟩ := a
    have hm : List.filter (fun e => !ids.contains e.1.2) (b.map (fun e => ((p, e.1), e.2)))
        = (List.filter (fun e => !ids.contains e.1) b).map (fun e => ((p, e.1), e.2)) := by
      rw [List.filter_map]; rfl
    rw [flatN_cons, List.filter_append, hm, ← ih]
    exact flatN_keep ..

end CountGen

section
variable (T : TEnv)

/-- the mutable fields of `PathAndQueryMatcher` in the translation's order; `static_rules` NESTED as in the code -/
abbrev PathFields := Item String Route × List (String × List (String × Route)) × Nat

/-- the model state a nested state stands for -/
def PathFields.abs (n : PathFields) : PathTState := ⟨n.1, flatN n.2.1, n.2.2⟩

theorem genPathInsert_eq (r : Route) (n : PathFields) :
    genPathInsert (fun r => sod r.path) T.render (fun r => r.id) ([] : List (String × Route))
      (fun id r m => mapInsert id r m) mapContainsKey mapInsert mapModify (fun p id r t => Item.insert t p id r)
      n.1 n.2.1 n.2.2 r
    = some ((), match r.path with
        | .static p => (n.1, aupsert (fun m => mapInsert r.id r m) [] p n.2.1, n.2.2 + 1)
        | .dyn p => (n.1.insert (T.render p) r.id r, n.2.1, n.2.2 + 1)) := by
  unfold genPathInsert
  cases hp : r.path with
  | static p =>
    cases hc : mapContainsKey p n.2.1
    · have := modify_insert_of_not_contains (fun m => mapInsert r.id r m) [] p n.2.1 hc
      simp [hp, sod, hc, this.1, this.2]
    · have := modify_of_contains (fun m => mapInsert r.id r m) [] p n.2.1 hc
      simp [hp, sod, hc, this]
  | dyn p => simp [hp, sod]

/-- Result and count are the model's; the tree and the statics (still nested) are what the code returns:
`genPathRemove_tree` / `genPathRemove_statics` relate these two to the model's new state. -/
theorem genPathRemove_eq (id : String) (n : PathFields) :
    genPathRemove imapRemove List.isEmpty mapRetain (fun id t => Item.remove t id) n.1 n.2.1 n.2.2 id
    = if (PathT.remove id n.abs).2.isSome && n.2.2 == 0 then none
      else some ((PathT.remove id n.abs).2, (n.1.remove id).1,
        (match (n.1.remove id).2 with
         | some _ => n.2.1
         | none => (mapRetain (pathRemoveClos id) n.2.1 none).1),
        (PathT.remove id n.abs).1.count) := by
  unfold genPathRemove PathT.remove PathFields.abs
  dsimp only
  rcases n.1.remove id with ⟨t', _ | r0⟩
  · dsimp only
    rw [mapRetain_congr _ (pathRemoveClos id) ?h1]
    case h1 =>
      intro k v st
      cases st <;> simp [pathRemoveClos]
    rw [← (nestedRemove_flat id n.2.1).2]
    cases (mapRetain (pathRemoveClos id) n.2.1 none).2 <;> by_cases hc : n.2.2 = 0 <;> simp [hc]
  · by_cases hc : n.2.2 = 0 <;> simp [hc]

theorem genPathRemove_statics (id : String) (n : PathFields) :
    flatN (match (n.1.remove id).2 with
         | some _ => n.2.1
         | none => (mapRetain (pathRemoveClos id) n.2.1 none).1) = (PathT.remove id n.abs).1.statics := by
  unfold PathT.remove PathFields.abs
  cases ht : (n.1.remove id).2 with
  | some r0 => simp [ht]
  | none => simp [ht, (nestedRemove_flat id n.2.1).1]

/-- the new tree of the translated `remove` is the model's when the tree invariant holds (the model keeps the OLD tree
when `regex_tree_rule.remove(id)` found nothing; the code keeps what `remove` left: the same, `Tree.remove_none`) -/
theorem genPathRemove_tree (id : String) (n : PathFields) (ic : Bool) (hinv : n.1.inv ic = true) :
    (n.1.remove id).1 = (PathT.remove id n.abs).1.tree := by
  unfold PathT.remove PathFields.abs
  cases ht : (n.1.remove id).2 with
  | some r0 => simp [ht]
  | none => simp [ht, Tree.remove_none n.1 id hinv ht]

theorem genPathBatchRemove_eq (ids : List String) (n : PathFields) :
    genPathBatchRemove (fun (ids : List String) id => ids.contains id) mapRetain List.isEmpty mapRetain List.isEmpty
      treeRetain Item.isEmpty n.1 n.2.1 n.2.2 ids
    = some (((mapRetain (pathBatchClos ids) n.2.1 ()).1.isEmpty && (PathT.batchRemove ids n.abs).tree.isEmpty),
        (PathT.batchRemove ids n.abs).tree, (mapRetain (pathBatchClos ids) n.2.1 ()).1, (PathT.batchRemove ids n.abs).count) := by
  unfold genPathBatchRemove PathT.batchRemove PathFields.abs
  dsimp only
  rw [mapRetain_congr _ (pathBatchClos ids) ?h1]
  case h1 =>
    intro k v st
    rw [mapRetain_filter (fun id _ => !ids.contains id) _ (fun _ _ _ => rfl)]
    rfl
  -- the tree side: `treeRetain` of a closure that only decides is `retain (keepIf …)` by unfolding
  rfl

end

namespace CountGen

/-- same entries per path, in the same order (all that `match_request` / `trace` read of `static_rules`) -/
def SEquiv (a b : List ((String × String) × Route)) : Prop :=
  ∀ p : String, a.filter (fun e => e.1.1 == p) = b.filter (fun e => e.1.1 == p)

theorem SEquiv.refl (a : List ((String × String) × Route)) : SEquiv a a := fun _ => rfl

theorem SEquiv.mem {a b : List ((String × String) × Route)} (h : SEquiv a b) (e : (String × String) × Route) :
    e ∈ a ↔ e ∈ b := by
  have key : ∀ l : List ((String × String) × Route), e ∈ l ↔ e ∈ l.filter (fun x => x.1.1 == e.1.1) :=
    fun l => by simp [List.mem_filter]
  rw [key a, key b, h e.1.1]

/-- `batch_remove` on the flat list respects `SEquiv` -/
theorem SEquiv.filter {a b : List ((String × String) × Route)} (h : SEquiv a b) (g : (String × String) × Route → Bool) :
    SEquiv (a.filter g) (b.filter g) := by
  intro p
  rw [List.filter_filter, List.filter_filter]
  have : ∀ l : List ((String × String) × Route),
      l.filter (fun e => (e.1.1 == p) && g e) = (l.filter (fun e => e.1.1 == p)).filter g := by
    intro l; rw [List.filter_filter]; congr 1; funext e; rw [Bool.and_comm]
  rw [this, this, h p]

theorem filter_aupsert {K V : Type} [DecidableEq K] (g : K → Bool) (f : V → V) (emp : V) (k : K) (l : List (K × V)) :
    (aupsert f emp k l).filter (fun e => g e.1) =
      if g k then aupsert f emp k (l.filter (fun e => g e.1)) else l.filter (fun e => g e.1) := by
  induction l with
  | nil => cases hk : g k <;> simp [aupsert, hk]
  | cons a l ih =>
    obtain ⟨k', v⟩ := a
    by_cases e : k' = k
    · subst e
      cases hk : g k' <;> simp [aupsert, hk]
    · cases hk' : g k' <;> cases hk : g k <;> simp [aupsert, e, hk', hk, ih]

theorem filter_aupsert_path (f : Route → Route) (emp : Route) (p id p' : String) (l : List ((String × String) × Route)) :
    (aupsert f emp (p, id) l).filter (fun e => e.1.1 == p') =
      if p = p' then aupsert f emp (p, id) (l.filter (fun e => e.1.1 == p')) else l.filter (fun e => e.1.1 == p') := by
  have := filter_aupsert (fun k : String × String => k.1 == p') f emp (p, id) l
  simpa only [beq_iff_eq] using this

/-- `insert` on the flat list respects `SEquiv` -/
theorem SEquiv.aupsert {a b : List ((String × String) × Route)} (h : SEquiv a b) (f : Route → Route) (emp : Route)
    (p id : String) : SEquiv (aupsert f emp (p, id) a) (aupsert f emp (p, id) b) := by
  intro p'
  rw [filter_aupsert_path, filter_aupsert_path, h p']

theorem aupsert_map_inner (p id : String) (r : Route) (b : List (String × Route)) :
    aupsert (fun _ => r) r (p, id) (b.map (fun e => ((p, e.1), e.2))) =
      (mapInsert id r b).map (fun e => ((p, e.1), e.2)) := by
  induction b with
  | nil => simp [aupsert, mapInsert]
  | cons a b ih =>
    obtain ⟨k, v⟩ := a
    by_cases e : k = id
    · simp [aupsert, mapInsert, e]
    · have : ¬ (p, k) = (p, id) := fun h => e (Prod.mk.inj h).2
      simp only [mapInsert] at ih
      simp [aupsert, mapInsert, e, ih]

theorem filter_flatN (p' : String) (m : List (String × List (String × Route))) (hn : (akeys m).Nodup) :
    (flatN m).filter (fun e => e.1.1 == p') = ((alookup p' m).getD []).map (fun e => ((p', e.1), e.2)) := by
  induction m with
  | nil => simp [flatN, alookup]
  | cons a m ih =>
    obtain ⟨pa, b⟩ := a
    have hn' : pa ∉ akeys m ∧ (akeys m).Nodup := List.nodup_cons.1 hn
    rw [flatN_cons, List.filter_append, ih hn'.2]
    by_cases e : pa = p'
    · subst e
      rw [(alookup_eq_none_iff pa m).2 hn'.1]
      have ht : ∀ l : List (String × Route), l.filter (fun _ => true) = l := fun l => List.filter_eq_self.2 (by simp)
      simp [alookup, List.filter_map, Function.comp_def, ht]
    · have hb : (pa == p') = false := by simpa using e
      simp [alookup, e, List.filter_map, Function.comp_def, hb]

theorem nestedInsert_flat (p id : String) (r : Route) (m : List (String × List (String × Route)))
    (hn : (akeys m).Nodup) :
    SEquiv (flatN (aupsert (fun b => mapInsert id r b) [] p m)) (aupsert (fun _ => r) r (p, id) (flatN m)) := by
  intro p'
  rw [filter_flatN p' _ (akeys_aupsert_nodup _ _ _ _ hn), alookup_aupsert, filter_aupsert_path, filter_flatN p' m hn]
  by_cases e : p' = p
  · subst e
    simp [aupsert_map_inner]
  · have e' : ¬ p = p' := fun h => e h.symm
    simp [e, e']

theorem entryRemove_filter_of_all {P : Type} (id : String) (g : (P × String) × Route → Bool)
    (t : List ((P × String) × Route)) (h : ∀ e ∈ t, e.1.2 = id → g e = true) :
    entryRemove id (t.filter g) = ((entryRemove id t).1.filter g, (entryRemove id t).2) := by
  induction t with
  | nil => rfl
  | cons e t ih =>
    have ih' := ih fun x hx => h x (List.mem_cons_of_mem _ hx)
    by_cases he : e.1.2 = id
    · rw [List.filter_cons_of_pos (h e (List.mem_cons_self ..) he), entryRemove, if_pos he, entryRemove, if_pos he]
    · cases hg : g e
      · rw [List.filter_cons_of_neg (by simp [hg]), ih', entryRemove, if_neg he, List.filter_cons_of_neg (by simp [hg])]
      · rw [List.filter_cons_of_pos hg, entryRemove, if_neg he, ih', entryRemove, if_neg he,
          List.filter_cons_of_pos hg]

theorem filter_entryRemove_of_none {P : Type} (id : String) (g : (P × String) × Route → Bool)
    (t : List ((P × String) × Route)) (h : ∀ e ∈ t, e.1.2 = id → g e = false) :
    (entryRemove id t).1.filter g = t.filter g := by
  induction t with
  | nil => rfl
  | cons e t ih =>
    have ih' := ih fun x hx => h x (List.mem_cons_of_mem _ hx)
    by_cases he : e.1.2 = id
    · rw [entryRemove, if_pos he, List.filter_cons_of_neg (by simp [h e (List.mem_cons_self ..) he])]
    · rw [entryRemove, if_neg he]
      simp only [List.filter_cons, ih']

/-- `remove` on the flat list respects `SEquiv` when at most one entry carries the id -/
theorem SEquiv.entryRemove {a b : List ((String × String) × Route)} (h : SEquiv a b) (id : String)
    (hu : ∀ e1 ∈ b, ∀ e2 ∈ b, e1.1.2 = id → e2.1.2 = id → e1 = e2) :
    SEquiv (Rio.Router.entryRemove id a).1 (Rio.Router.entryRemove id b).1 ∧
    (Rio.Router.entryRemove id a).2 = (Rio.Router.entryRemove id b).2 := by
  -- so all entries under the id have one path `p0`
  obtain ⟨p0, hb⟩ : ∃ p0, ∀ e ∈ b, e.1.2 = id → e.1.1 = p0 := by
    by_cases hex : ∃ e ∈ b, e.1.2 = id
    · obtain ⟨e0, h0, i0⟩ := hex
      exact ⟨e0.1.1, fun e he hi => by rw [hu e he e0 h0 hi i0]⟩
    · exact ⟨"", fun e he hi => absurd ⟨e, he, hi⟩ hex⟩
  have hb1 : ∀ e ∈ b, e.1.2 = id → (e.1.1 == p0) = true := fun e he hi => beq_iff_eq.2 (hb e he hi)
  have ha1 : ∀ e ∈ a, e.1.2 = id → (e.1.1 == p0) = true := fun e he => hb1 e ((h.mem e).1 he)
  -- on the entries of path `p0` the removal is the removal from the `p0`-sublist, which `a` and `b` share
  have e0 := (entryRemove_filter_of_all id _ a ha1).symm.trans
    ((congrArg _ (h p0)).trans (entryRemove_filter_of_all id _ b hb1))
  refine ⟨fun p => ?_, (Prod.mk.inj e0).2⟩
  by_cases hp : p = p0
  · subst hp; exact (Prod.mk.inj e0).1
  · -- the other paths hold no entry under `id`
    have hn : ∀ e : (String × String) × Route, (e.1.1 == p0) = true → (e.1.1 == p) = false :=
      fun e he => by rw [beq_iff_eq.1 he]; exact beq_eq_false_iff_ne.2 (Ne.symm hp)
    rw [filter_entryRemove_of_none id _ a fun e he hi => hn e (ha1 e he hi),
      filter_entryRemove_of_none id _ b fun e he hi => hn e (hb1 e he hi), h p]

theorem akeys_mapRetain_sublist {K V χ : Type} (f : K → V → χ → Bool × V × χ) (m : List (K × V)) (s : χ) :
    (akeys (mapRetain f m s).1).Sublist (akeys m) := by
  induction m generalizing s with
  | nil => simp [mapRetain, akeys]
  | cons a m ih =>
    obtain ⟨k, v⟩ := a
    simp only [mapRetain]
    cases (f k v s).1
    · simp only [Bool.false_eq_true, if_false]
      exact (ih _).trans (List.sublist_cons_self _ _)
    · simp only [if_true]
      exact (ih _).cons_cons _

end CountGen

/-- The representation relation between the translated side's fields (nested `static_rules`) and a model state. -/
structure PathRel (n : PathFields) (s : PathTState) : Prop where
  tree : n.1 = s.tree
  count : n.2.2 = s.count
  statics : SEquiv (flatN n.2.1) s.statics
  /-- a `HashMap` has one entry per key -/
  keys : (akeys n.2.1).Nodup

theorem pathT_remove_rel (id : String) (n : PathFields) (s : PathTState) (h : PathRel n s)
    (hu : ∀ e1 ∈ s.statics, ∀ e2 ∈ s.statics, e1.1.2 = id → e2.1.2 = id → e1 = e2) :
    (PathT.remove id n.abs).2 = (PathT.remove id s).2 ∧
    (PathT.remove id n.abs).1.count = (PathT.remove id s).1.count ∧
    (PathT.remove id n.abs).1.tree = (PathT.remove id s).1.tree ∧
    SEquiv (PathT.remove id n.abs).1.statics (PathT.remove id s).1.statics := by
  have hr := SEquiv.entryRemove h.statics id hu
  unfold PathT.remove PathFields.abs
  simp only [h.tree, h.count]
  cases ht : (s.tree.remove id).2 with
  | some r0 => exact ⟨rfl, rfl, rfl, h.statics⟩
  | none =>
    simp only [hr.2]
    exact ⟨trivial, trivial, trivial, hr.1⟩

end Rio.Router
