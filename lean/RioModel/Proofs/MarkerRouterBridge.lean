/-
Bridge between the marker strings of C10 (`Rio.Marker.build`, its token view, `Decomp`), the regex-engine model of C08
(`Rio.Regex.engineOf G`, `GoodPat`, `PrefixSound`) and the router over the regex-tree model (`towerTOps`, `RReprT`).

The matching theorems of C10 assume of the engine the law `EngineLaws.full_iff`:
  `full (renderRegex ts) s = true ↔ ∃ vs, Decomp L ceq ts s vs`
(`^regex$` matches `s` iff `s` decomposes along the tokens into case-equal literals and strings of the marker languages).
Here it is PROVED for the engine model `engineOf G` (every meaning `G` of group bodies, either case flag), with
  `L  := markerLang G ic`   (`re` accepts `v` iff `G ("?:" ++ re)` is a regex whose language has `v`)
  `ceq := litEq ic`          (class membership of `d` in `[c-c]` under the case flag)
for token lists whose groups are good for the regex tree (`TokGood`: the tree's scanner and the regex syntax agree on
where each `(?:re)` ends).  The other four fields of `EngineLaws` (`search_iff`, `caps_*`) concern unanchored search and
captures; `Regex.Engine` has neither and matching through the router does not need them.

Then: a rule whose only triggers are a marker path and optionally a marker host (`MarkerOnly`), and what `triggersOk`,
`hostBound` and `schemeKey` evaluate to on it.  Props/C10b.lean takes it from there to the router over the trees.
-/
import RioModel.Proofs.MarkerMatch
import RioModel.Proofs.RegexTok
import RioModel.Model.RouterTreeLayers
import RioModel.Proofs.RouterSat

namespace Rio.Bridge
open Rio.Router

/-- A token of the marker string as a token of the regex syntax: the group text of `(?:re)` is `?:re`. -/
def toRTok : Marker.Tok → Regex.Tok
  | .lit c => .lit c
  | .grp _ re => .grp ('?' :: ':' :: re)

theorem tok_render (t : Marker.Tok) : Marker.Tok.regex t = Regex.Tok.render (toRTok t) := by
  cases t with
  | lit c => rfl
  | grp n re =>
    simp [Marker.Tok.regex, Marker.groupRegex, Rio.Consts.markerGroupRegexFormat, toRTok, Regex.Tok.render]

/-- The string `MarkerString::new` builds is the regex syntax's rendering of the same tokens. -/
theorem render_bridge (ts : List Marker.Tok) : Marker.renderRegex ts = Regex.render (ts.map toRTok) := by
  induction ts with
  | nil => rfl
  | cons t ts ih =>
    simp only [Marker.renderRegex, Regex.render, List.flatMap_cons, List.map_cons] at ih ⊢
    rw [tok_render, ih]

/-- the groups are good for the tree (`Regex.Tok.good`: `realClosed ∧ scanClosed` of `?:re`) -/
def TokGood (ts : List Marker.Tok) : Prop := ∀ t ∈ ts.map toRTok, t.good = true

def markerLang (G : List Char → Option Regex.Re) (ic : Bool) (re v : List Char) : Prop :=
  ∃ r, G ('?' :: ':' :: re) = some r ∧ Regex.Lang ic r v

def litEq (ic : Bool) (c d : Char) : Bool := (⟨false, [(c, c)]⟩ : Regex.Cls).mem ic d

theorem litEq_refl (ic : Bool) (c : Char) : litEq ic c c = true := by
  simp [litEq, Regex.Cls.mem, Regex.inRange]

theorem renderRegex_goodPat (ts : List Marker.Tok) (hg : TokGood ts) : Regex.GoodPat (Marker.renderRegex ts) :=
  ⟨ts.map toRTok, render_bridge ts, hg⟩

theorem renderRegex_ne_nil {ts : List Marker.Tok} (hne : ts ≠ []) : Marker.renderRegex ts ≠ [] := by
  cases ts with
  | nil => exact absurd rfl hne
  | cons t ts =>
    rw [render_bridge, List.map_cons, Regex.render, List.flatMap_cons]
    exact fun h => Regex.tok_render_ne_nil _ (List.append_eq_nil_iff.mp h).1

theorem _root_.Rio.Regex.mapOpt_cons_eq_some {α β : Type} {f : α → Option β} {a : α} {l : List α} {rs : List β} :
    Regex.mapOpt f (a :: l) = some rs ↔ ∃ r rs', f a = some r ∧ Regex.mapOpt f l = some rs' ∧ r :: rs' = rs := by
  rw [Regex.mapOpt]
  cases f a with
  | none => simp
  | some r => simp [Option.map_eq_some_iff]

theorem lang_tokens_iff (G : List Char → Option Regex.Re) (ic : Bool) (ts : List Marker.Tok) :
    ∀ s, (∃ rs, Regex.mapOpt (Regex.Tok.re G) (ts.map toRTok) = some rs ∧ Regex.Lang ic (Regex.catAll rs) s) ↔
      ∃ vs, Marker.Decomp (markerLang G ic) (litEq ic) ts s vs := by
  induction ts with
  | nil =>
    intro s
    simp only [List.map_nil, Regex.mapOpt, Option.some.injEq, exists_eq_left', Regex.catAll, Regex.lang_eps]
    constructor
    · intro h; subst h; exact ⟨[], .nil⟩
    · rintro ⟨vs, h⟩; cases h; rfl
  | cons t ts ih =>
    intro s
    rw [List.map_cons]
    constructor
    · -- the first expression takes a prefix `u`, the others decompose the rest; then by the kind of the first token
      rintro ⟨rs, hrs, hl⟩
      obtain ⟨r, rs', hr, hm, rfl⟩ := Regex.mapOpt_cons_eq_some.mp hrs
      obtain ⟨u, w, rfl, hu, hw⟩ := Regex.lang_cat.1 hl
      obtain ⟨vs, hvs⟩ := (ih w).1 ⟨rs', hm, hw⟩
      cases t with
      | lit c =>
        cases hr
        obtain ⟨d, rfl, hd⟩ := Regex.lang_cls.1 hu
        exact ⟨vs, .lit hd hvs⟩
      | grp n re => exact ⟨(n, u) :: vs, .grp ⟨r, hr, hu⟩ hvs⟩
    · rintro ⟨vs, h⟩
      cases h with
      | lit hd hrest =>
        obtain ⟨rs', hm, hw⟩ := (ih _).2 ⟨_, hrest⟩
        exact ⟨_, Regex.mapOpt_cons_eq_some.mpr ⟨_, _, rfl, hm, rfl⟩,
          Regex.lang_cat.2 ⟨[_], _, rfl, Regex.lang_cls.2 ⟨_, rfl, hd⟩, hw⟩⟩
      | grp hv hrest =>
        obtain ⟨r, hG, hu⟩ := hv
        obtain ⟨rs', hm, hw⟩ := (ih _).2 ⟨_, hrest⟩
        exact ⟨_, Regex.mapOpt_cons_eq_some.mpr ⟨_, _, hG, hm, rfl⟩, Regex.lang_cat.2 ⟨_, _, rfl, hu, hw⟩⟩

/-- **The engine model satisfies the matching law that C10 assumes** (`EngineLaws.full_iff`), for every meaning `G` of
group bodies and either case flag, on token lists with good groups. -/
theorem engineOf_full_iff (G : List Char → Option Regex.Re) (ic : Bool) (ts : List Marker.Tok)
    (hg : TokGood ts) (s : List Char) :
    (Regex.engineOf G).full ic (Marker.renderRegex ts) s = true ↔
      ∃ vs, Marker.Decomp (markerLang G ic) (litEq ic) ts s vs := by
  rw [← lang_tokens_iff G ic ts s, render_bridge]
  simp only [Regex.engineOf, Regex.compileStr_render G hg]
  cases hm : Regex.mapOpt (Regex.Tok.re G) (ts.map toRTok) with
  | none => simp
  | some rs => simp [Regex.fmatch_iff]

/-- The matching law for one engine / case flag / token list: the `full_iff` field of `Marker.EngineLaws`, with
`full := E.full ic`. -/
def FullLaw (E : Regex.Engine) (ic : Bool) (L : List Char → List Char → Prop) (ceq : Char → Char → Bool)
    (ts : List Marker.Tok) : Prop :=
  ∀ s, E.full ic (Marker.renderRegex ts) s = true ↔ ∃ vs, Marker.Decomp L ceq ts s vs

theorem fullLaw_of_engineLaws {E : Regex.Engine} {ic : Bool} {L : List Char → List Char → Prop}
    {ceq : Char → Char → Bool} {search : List Char → List Char → Bool}
    {caps : List Char → List Char → Option (List (List Char × List Char))} {ts : List Marker.Tok}
    (laws : Marker.EngineLaws L ceq (E.full ic) search caps ts) : FullLaw E ic L ceq ts := laws.full_iff

/-- A rule whose only triggers are a marker path `p` and, optionally, a marker host `ph`.  `p`, `ph` are patterns of the ROUTER
model (Model/RouterParse); Props/C10b ties them to a template of the MARKER model only by `T.render p = (build t ms).regex`. -/
structure MarkerOnly (r : Route) (p : Pat) (ph : Option Pat) : Prop where
  path : r.path = .dyn p
  host : r.host = ph.map SoD.dyn
  scheme : r.scheme = none
  ips : r.ips = none
  methods : r.methods = none
  headers : r.headers = []
  datetime : r.datetime = none
  time : r.time = none
  weekdays : r.weekdays = none

section
variable (T : TEnv)

theorem triggers_markerOnly (r : Route) (p : Pat) (ph : Option Pat) (h : MarkerOnly r p ph) (q : Req) :
    triggersOk T.env r q =
      ((match ph with
        | none => true
        | some k => match q.host with
          | none => false
          | some hh => T.engine.full T.icHost (T.render k) hh.toList) &&
       T.engine.full T.icPath (T.render p) q.path.toList) := by
  rw [triggersOk_host_path T.env r q h.scheme h.ips h.methods h.headers h.datetime h.time h.weekdays]
  unfold hostOk pathOk
  rw [h.path, h.host]
  cases ph <;> rfl

theorem triggers_pathOnly (r : Route) (p : Pat) (h : MarkerOnly r p none) (q : Req) :
    triggersOk T.env r q = T.engine.full T.icPath (T.render p) q.path.toList := by
  rw [triggers_markerOnly T r p none h q]; simp

theorem triggers_hostPath (r : Route) (p k : Pat) (h : MarkerOnly r p (some k)) (q : Req) (hh : String)
    (hq : q.host = some hh) :
    triggersOk T.env r q =
      (T.engine.full T.icHost (T.render k) hh.toList && T.engine.full T.icPath (T.render p) q.path.toList) := by
  rw [triggers_markerOnly T r p (some k) h q, hq]

theorem hostBound_markerOnly (r : Route) (p : Pat) (ph : Option Pat) (h : MarkerOnly r p ph) :
    hostBound r = ph.isSome := by
  unfold hostBound; rw [h.host]; cases ph <;> rfl

theorem schemeKey_markerOnly (r : Route) (p : Pat) (ph : Option Pat) (h : MarkerOnly r p ph) :
    schemeKey r = none := by
  unfold schemeKey; rw [h.scheme]

end
end Rio.Bridge
