/-
C03, html stage: lemmas shared by the chunk-invariance proofs.  The token loop of `HtmlFilterBodyAction::filter` does not
read `last_buffer` / `last_context` and only appends to `to_return`; `seqRun` = the html stage over a list of chunks.
-/
import RioModel.Proofs.FilterHtml
import RioModel.Proofs.FilterUtf8

namespace Rio.Filter

theorem onStart_setLast (s : HtmlSt) (L c name data : Bytes) :
    onStart { s with last := L, ctx := c } name data =
      ({ (onStart s name data).1 with last := L, ctx := c }, (onStart s name data).2) := by
  by_cases he : s.enter = some name
  · rw [onStart_fires data he, onStart_fires (s := { s with last := L, ctx := c }) data he]
  · rw [onStart_skips data he, onStart_skips (s := { s with last := L, ctx := c }) data he]

theorem onEnd_setLast (tk : Tokenize) (ev : Bytes → Bytes → Bool) (s : HtmlSt) (L c name data : Bytes) :
    onEnd tk ev { s with last := L, ctx := c } name data =
      ({ (onEnd tk ev s name data).1 with last := L, ctx := c }, (onEnd tk ev s name data).2) := by
  by_cases h : s.leave = some name
  · rw [onEnd_fires tk ev data h, onEnd_fires tk ev (s := { s with last := L, ctx := c }) data h]
  · rw [onEnd_skips tk ev data h, onEnd_skips tk ev (s := { s with last := L, ctx := c }) data h]

theorem push_setLast (s : HtmlSt) (L c out d : Bytes) :
    push { s with last := L, ctx := c } out d = ({ (push s out d).1 with last := L, ctx := c }, (push s out d).2) := by
  unfold push
  cases h : s.stack <;> simp [h]

theorem push_out (s : HtmlSt) (out0 out d : Bytes) :
    push s (out0 ++ out) d = ((push s out d).1, out0 ++ (push s out d).2) := by
  unfold push
  cases s.stack <;> simp

variable (tk : Tokenize) (ev : Bytes → Bytes → Bool)

theorem stepTok_setLast (so : HtmlSt × Bytes) (L c : Bytes) (t : Tok) :
    stepTok tk ev ({ so.1 with last := L, ctx := c }, so.2) t =
      ({ (stepTok tk ev so t).1 with last := L, ctx := c }, (stepTok tk ev so t).2) := by
  obtain ⟨s, out⟩ := so
  rw [stepTok_eq, stepTok_eq]
  simp only
  split <;> split <;> simp only [onStart_setLast, onEnd_setLast, push_setLast]

theorem stepTok_out (so : HtmlSt × Bytes) (out0 : Bytes) (t : Tok) :
    stepTok tk ev (so.1, out0 ++ so.2) t = ((stepTok tk ev so t).1, out0 ++ (stepTok tk ev so t).2) := by
  obtain ⟨s, out⟩ := so
  rw [stepTok_eq, stepTok_eq]
  exact push_out _ _ _ _

theorem fold_setLast (ts : List Tok) (s : HtmlSt) (L c out : Bytes) :
    ts.foldl (stepTok tk ev) ({ s with last := L, ctx := c }, out) =
      ({ (ts.foldl (stepTok tk ev) (s, out)).1 with last := L, ctx := c }, (ts.foldl (stepTok tk ev) (s, out)).2) :=
  List.foldl_hom (init := (s, out)) (fun so => ({ so.1 with last := L, ctx := c }, so.2))
    fun so t => stepTok_setLast tk ev so L c t

theorem fold_out (ts : List Tok) (s : HtmlSt) (out0 : Bytes) :
    ts.foldl (stepTok tk ev) (s, out0) =
      ((ts.foldl (stepTok tk ev) (s, [])).1, out0 ++ (ts.foldl (stepTok tk ev) (s, [])).2) := by
  have := List.foldl_hom (l := ts) (init := (s, [])) (fun so => (so.1, out0 ++ so.2))
    fun so t => stepTok_out tk ev so out0 t
  rwa [List.append_nil] at this

def seqRun (s : HtmlSt) : List Bytes → Option (HtmlSt × Bytes)
  | [] => some (s, [])
  | x :: xs =>
    match filterHtml tk ev s x with
    | none => none
    | some (s1, o1) => (seqRun s1 xs).map fun r => (r.1, o1 ++ r.2)

theorem seqRun_cons_some {s s' : HtmlSt} {x o : Bytes} {xs : List Bytes} (h : seqRun tk ev s (x :: xs) = some (s', o)) :
    ∃ s1 o1 o2, filterHtml tk ev s x = some (s1, o1) ∧ seqRun tk ev s1 xs = some (s', o2) ∧ o = o1 ++ o2 := by
  rw [seqRun] at h
  cases hf : filterHtml tk ev s x with
  | none => rw [hf] at h; cases h
  | some r =>
    obtain ⟨s1, o1⟩ := r
    rw [hf] at h
    obtain ⟨⟨s2, o2⟩, h1, h2⟩ := Option.map_eq_some_iff.mp h
    injection h2 with h2 h3
    exact ⟨s1, o1, o2, rfl, by rw [h1, ← h2], h3.symm⟩

theorem filterHtml_none_append (s : HtmlSt) (x y : Bytes) (h : filterHtml tk ev s x = none) :
    filterHtml tk ev s (x ++ y) = none := by
  unfold filterHtml at h ⊢
  cases hsp : utf8Split (s.last ++ x) with
  | none =>
    have := utf8Split_none_append hsp y
    rw [List.append_assoc] at this
    simp [this]
  | some ap => simp [hsp] at h

end Rio.Filter
