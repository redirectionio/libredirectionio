/-
`read_byte` in terms of the bytes; span invariants of every helper of the tokenizer model (`Adv`, and on top of it per
group of readers `EndsAt`, `Reads`, `At` — the script automaton —, `Val`, `TagStep`, `Decl`); the raw-text detection of
`read_start_tag` (`startTagRaw_table`: it stores a name of the dispatch table or nothing; `readStartTag_shape`:
`read_start_tag` is `read_tag` plus that context); at the end the `'main` loop of `next` in terms of the bytes, and the two
states the loop can stop in (`MainStop`).
Bytes are numbers throughout: 60 `<`, 62 `>`, 47 `/`, 33 `!`, 63 `?`, 61 `=`.
-/
import RioModel.Model.Html

namespace Rio.Html
namespace Tokenizer
open Rio.Consts

/-- the state a helper may be called in; every span invariant below is relative to it -/
structure Ok (t : Tokenizer) : Prop where
  le : t.rawE ≤ t.buf.size
  panic : t.panic = false
  hang : t.hang = false
  utf8 : t.utf8Err = false

/-- `t'` is reached from `t` by a helper: `raw.end` moved forward only (net: `unread` inside the run is allowed), the
flags stayed clear -/
structure Adv (t t' : Tokenizer) : Prop where
  buf : t'.buf = t.buf
  rawS : t'.rawS = t.rawS
  mono : t.rawE ≤ t'.rawE
  ok : Ok t'
  rawTag : t'.rawTag = t.rawTag
  cdata : t'.allowCdata = t.allowCdata

theorem Adv.refl {t : Tokenizer} (h : Ok t) : Adv t t := ⟨rfl, rfl, Nat.le_refl _, h, rfl, rfl⟩

theorem Adv.trans {a b c : Tokenizer} (h1 : Adv a b) (h2 : Adv b c) : Adv a c :=
  ⟨h2.buf.trans h1.buf, h2.rawS.trans h1.rawS, Nat.le_trans h1.mono h2.mono, h2.ok,
   h2.rawTag.trans h1.rawTag, h2.cdata.trans h1.cdata⟩

theorem readByte_adv {t : Tokenizer} (h : Ok t) : Adv t t.readByte.1 := by
  unfold readByte; split
  · exact ⟨rfl, rfl, Nat.le_succ _, ⟨by simp; omega, h.panic, h.hang, h.utf8⟩, rfl, rfl⟩
  · exact ⟨rfl, rfl, Nat.le_refl _, ⟨h.le, h.panic, h.hang, h.utf8⟩, rfl, rfl⟩

theorem readByte_lt {t : Tokenizer} (h : t.rawE < t.buf.size) :
    t.readByte = ({ t with rawE := t.rawE + 1 }, t.buf[t.rawE]) := by
  rw [readByte, dif_pos h]

theorem readByte_eof {t : Tokenizer} (h : ¬ t.rawE < t.buf.size) : t.readByte = ({ t with err := true }, 0) := by
  rw [readByte, dif_neg h]

theorem lt_size_of_getElem? {a : Array Nat} {i b : Nat} (h : a[i]? = some b) : i < a.size := by
  rcases Nat.lt_or_ge i a.size with h' | h'
  · exact h'
  · rw [Array.getElem?_eq_none h'] at h; cases h

theorem readByte_some {t : Tokenizer} {b : Nat} (h : t.buf[t.rawE]? = some b) :
    t.readByte = ({ t with rawE := t.rawE + 1 }, b) := by
  have hlt := lt_size_of_getElem? h
  rw [Array.getElem?_eq_getElem hlt] at h
  rw [readByte_lt hlt, Option.some.inj h]

theorem unread_readByte {t : Tokenizer} (h : t.rawE < t.buf.size) : t.readByte.1.unread 1 = t := by
  rw [readByte_lt h, unread, if_pos (Nat.le_add_left 1 _)]
  show { t with rawE := t.rawE + 1 - 1 } = t
  rw [Nat.add_sub_cancel]

/-- `readByte` writes `rawE` and `err` only, `unread` `rawE` and `panic`, `setDataEndBack` `dataE` and `panic`: the three
`_writes` equations, off which the `@[simp]` projections below are read -/
theorem readByte_writes (t : Tokenizer) :
    t.readByte.1 = { t with rawE := t.readByte.1.rawE, err := t.readByte.1.err } := by
  unfold readByte; split <;> rfl

theorem unread_writes (t : Tokenizer) (k : Nat) :
    t.unread k = { t with rawE := (t.unread k).rawE, panic := (t.unread k).panic } := by
  unfold unread; split <;> rfl

theorem setDataEndBack_writes (t : Tokenizer) (k : Nat) :
    t.setDataEndBack k = { t with dataE := (t.setDataEndBack k).dataE, panic := (t.setDataEndBack k).panic } := by
  unfold setDataEndBack; split <;> rfl

@[simp] theorem readByte_dataS (t : Tokenizer) : t.readByte.1.dataS = t.dataS :=
  congrArg (·.dataS) (readByte_writes t)

@[simp] theorem unread_dataS (t : Tokenizer) (k : Nat) : (t.unread k).dataS = t.dataS :=
  congrArg (·.dataS) (unread_writes t k)

@[simp] theorem setDataEndBack_dataS (t : Tokenizer) (k : Nat) : (t.setDataEndBack k).dataS = t.dataS :=
  congrArg (·.dataS) (setDataEndBack_writes t k)

@[simp] theorem readByte_dataE (t : Tokenizer) : t.readByte.1.dataE = t.dataE :=
  congrArg (·.dataE) (readByte_writes t)

@[simp] theorem unread_dataE (t : Tokenizer) (k : Nat) : (t.unread k).dataE = t.dataE :=
  congrArg (·.dataE) (unread_writes t k)

@[simp] theorem readByte_attrs (t : Tokenizer) : t.readByte.1.attrs = t.attrs :=
  congrArg (·.attrs) (readByte_writes t)

@[simp] theorem unread_attrs (t : Tokenizer) (k : Nat) : (t.unread k).attrs = t.attrs :=
  congrArg (·.attrs) (unread_writes t k)

@[simp] theorem readByte_nAttrRet (t : Tokenizer) : t.readByte.1.nAttrRet = t.nAttrRet :=
  congrArg (·.nAttrRet) (readByte_writes t)

@[simp] theorem unread_nAttrRet (t : Tokenizer) (k : Nat) : (t.unread k).nAttrRet = t.nAttrRet :=
  congrArg (·.nAttrRet) (unread_writes t k)

@[simp] theorem readByte_pkS (t : Tokenizer) : t.readByte.1.pkS = t.pkS :=
  congrArg (·.pkS) (readByte_writes t)

@[simp] theorem unread_pkS (t : Tokenizer) (k : Nat) : (t.unread k).pkS = t.pkS :=
  congrArg (·.pkS) (unread_writes t k)

@[simp] theorem readByte_pkE (t : Tokenizer) : t.readByte.1.pkE = t.pkE :=
  congrArg (·.pkE) (readByte_writes t)

@[simp] theorem unread_pkE (t : Tokenizer) (k : Nat) : (t.unread k).pkE = t.pkE :=
  congrArg (·.pkE) (unread_writes t k)

@[simp] theorem readByte_pvS (t : Tokenizer) : t.readByte.1.pvS = t.pvS :=
  congrArg (·.pvS) (readByte_writes t)

@[simp] theorem unread_pvS (t : Tokenizer) (k : Nat) : (t.unread k).pvS = t.pvS :=
  congrArg (·.pvS) (unread_writes t k)

@[simp] theorem readByte_pvE (t : Tokenizer) : t.readByte.1.pvE = t.pvE :=
  congrArg (·.pvE) (readByte_writes t)

@[simp] theorem unread_pvE (t : Tokenizer) (k : Nat) : (t.unread k).pvE = t.pvE :=
  congrArg (·.pvE) (unread_writes t k)

@[simp] theorem unread_err (t : Tokenizer) (k : Nat) : (t.unread k).err = t.err :=
  congrArg (·.err) (unread_writes t k)

@[simp] theorem setDataEndBack_err (t : Tokenizer) (k : Nat) : (t.setDataEndBack k).err = t.err :=
  congrArg (·.err) (setDataEndBack_writes t k)

@[simp] theorem setDataEndBack_buf (t : Tokenizer) (k : Nat) : (t.setDataEndBack k).buf = t.buf :=
  congrArg (·.buf) (setDataEndBack_writes t k)

@[simp] theorem setDataEndBack_rawE (t : Tokenizer) (k : Nat) : (t.setDataEndBack k).rawE = t.rawE :=
  congrArg (·.rawE) (setDataEndBack_writes t k)

@[simp] theorem unread_token (t : Tokenizer) (k : Nat) : (t.unread k).token = t.token :=
  congrArg (·.token) (unread_writes t k)

@[simp] theorem unread_textIsRaw (t : Tokenizer) (k : Nat) : (t.unread k).textIsRaw = t.textIsRaw :=
  congrArg (·.textIsRaw) (unread_writes t k)

@[simp] theorem unread_convertNull (t : Tokenizer) (k : Nat) : (t.unread k).convertNull = t.convertNull :=
  congrArg (·.convertNull) (unread_writes t k)

/- Each of the five `_frame` lemmas that follow lists, of `dataS dataE attrs nAttrRet pkS pkE pvS pvE`, the fields its
function does not write: all eight for white space; `attrKeyGo` lacks `pkE` and the two value loops `pvE`, the end of the
span they read. -/
theorem skipWsGo_frame (t : Tokenizer) :
    (skipWsGo t).dataS = t.dataS ∧ (skipWsGo t).dataE = t.dataE ∧ (skipWsGo t).attrs = t.attrs ∧
    (skipWsGo t).nAttrRet = t.nAttrRet ∧ (skipWsGo t).pkS = t.pkS ∧ (skipWsGo t).pkE = t.pkE ∧
    (skipWsGo t).pvS = t.pvS ∧ (skipWsGo t).pvE = t.pvE := by
  fun_induction skipWsGo t <;> simp_all +zetaDelta

theorem skipWhiteSpace_frame (t : Tokenizer) :
    (skipWhiteSpace t).dataS = t.dataS ∧ (skipWhiteSpace t).dataE = t.dataE ∧ (skipWhiteSpace t).attrs = t.attrs ∧
    (skipWhiteSpace t).nAttrRet = t.nAttrRet ∧ (skipWhiteSpace t).pkS = t.pkS ∧ (skipWhiteSpace t).pkE = t.pkE ∧
    (skipWhiteSpace t).pvS = t.pvS ∧ (skipWhiteSpace t).pvE = t.pvE := by
  unfold skipWhiteSpace; split
  · simp
  · exact skipWsGo_frame t

theorem attrKeyGo_frame (t : Tokenizer) :
    (attrKeyGo t).dataS = t.dataS ∧ (attrKeyGo t).dataE = t.dataE ∧ (attrKeyGo t).attrs = t.attrs ∧
    (attrKeyGo t).nAttrRet = t.nAttrRet ∧ (attrKeyGo t).pkS = t.pkS ∧ (attrKeyGo t).pvS = t.pvS ∧
    (attrKeyGo t).pvE = t.pvE := by
  fun_induction attrKeyGo t <;> simp_all +zetaDelta

theorem readTagAttrKey_keep (t : Tokenizer) :
    (readTagAttrKey t).attrs = t.attrs ∧ (readTagAttrKey t).nAttrRet = t.nAttrRet := by
  unfold readTagAttrKey
  obtain ⟨-, -, fa, fn, -⟩ := attrKeyGo_frame { t with pkS := t.rawE }
  exact ⟨fa, fn⟩

theorem attrKeyGo_pkS (t : Tokenizer) : (attrKeyGo t).pkS = t.pkS := (attrKeyGo_frame t).2.2.2.2.1

theorem attrValQuotedGo_frame (t : Tokenizer) (q : Nat) :
    (attrValQuotedGo t q).dataS = t.dataS ∧ (attrValQuotedGo t q).dataE = t.dataE ∧
    (attrValQuotedGo t q).attrs = t.attrs ∧ (attrValQuotedGo t q).nAttrRet = t.nAttrRet ∧
    (attrValQuotedGo t q).pkS = t.pkS ∧ (attrValQuotedGo t q).pkE = t.pkE ∧ (attrValQuotedGo t q).pvS = t.pvS := by
  fun_induction attrValQuotedGo t q <;> simp_all +zetaDelta

theorem attrValUnquotedGo_frame (t : Tokenizer) :
    (attrValUnquotedGo t).dataS = t.dataS ∧ (attrValUnquotedGo t).dataE = t.dataE ∧
    (attrValUnquotedGo t).attrs = t.attrs ∧ (attrValUnquotedGo t).nAttrRet = t.nAttrRet ∧
    (attrValUnquotedGo t).pkS = t.pkS ∧ (attrValUnquotedGo t).pkE = t.pkE ∧ (attrValUnquotedGo t).pvS = t.pvS := by
  fun_induction attrValUnquotedGo t <;> simp_all +zetaDelta

theorem attrValQuotedGo_pvS (t : Tokenizer) (q : Nat) : (attrValQuotedGo t q).pvS = t.pvS :=
  (attrValQuotedGo_frame t q).2.2.2.2.2.2

theorem attrValUnquotedGo_pvS (t : Tokenizer) : (attrValUnquotedGo t).pvS = t.pvS :=
  (attrValUnquotedGo_frame t).2.2.2.2.2.2

theorem readByte_succ {t : Tokenizer} (h : ¬ t.readByte.1.err = true) : t.readByte.1.rawE = t.rawE + 1 :=
  (readByte_ok h).1

theorem readByte_pos {t : Tokenizer} (h : ¬ t.readByte.1.err = true) : 1 ≤ t.readByte.1.rawE :=
  readByte_succ h ▸ Nat.le_add_left 1 _

/-- The fields `Adv` talks about.  A `{ t with f := … }` on a field outside `advF` is invisible to `Adv`: `.congr` with its
default argument discharges that by `rfl` on the tuple, so the updates of `dataS`, `pkS`, `pvS`, `token`, … need no lemma
each (likewise `okF` / `Ok.congr` and `EndsAt.congr`). -/
def advF (t : Tokenizer) : Array Nat × Nat × Nat × Bool × Bool × Bool × List Nat × Bool :=
  (t.buf, t.rawS, t.rawE, t.panic, t.hang, t.utf8Err, t.rawTag, t.allowCdata)

theorem Adv.congr {t0 t t' : Tokenizer} (h : Adv t0 t) (e : advF t' = advF t := by unfold advF; rfl) :
    Adv t0 t' := by
  simp only [advF, Prod.mk.injEq] at e
  obtain ⟨e1, e2, e3, e4, e5, e6, e7, e8⟩ := e
  exact ⟨e1 ▸ h.buf, e2 ▸ h.rawS, e3 ▸ h.mono, ⟨e1 ▸ e3 ▸ h.ok.le, e4 ▸ h.ok.panic, e5 ▸ h.ok.hang, e6 ▸ h.ok.utf8⟩,
    e7 ▸ h.rawTag, e8 ▸ h.cdata⟩

/-- the fields `Ok` talks about -/
def okF (t : Tokenizer) : Array Nat × Nat × Bool × Bool × Bool := (t.buf, t.rawE, t.panic, t.hang, t.utf8Err)

theorem Ok.congr {t t' : Tokenizer} (h : Ok t) (e : okF t' = okF t := by unfold okF; rfl) : Ok t' := by
  simp only [okF, Prod.mk.injEq] at e
  obtain ⟨e1, e2, e3, e4, e5⟩ := e
  exact ⟨e1 ▸ e2 ▸ h.le, e3 ▸ h.panic, e4 ▸ h.hang, e5 ▸ h.utf8⟩

theorem Adv.setRawE {b t : Tokenizer} {p : Nat} (a : Adv b t) (h1 : b.rawE ≤ p) (h2 : p ≤ t.rawE) :
    Adv b { t with rawE := p } :=
  ⟨a.buf, a.rawS, h1, ⟨Nat.le_trans h2 a.ok.le, a.ok.panic, a.ok.hang, a.ok.utf8⟩, a.rawTag, a.cdata⟩

theorem unread_adv {t0 t : Tokenizer} (k : Nat) (h : Adv t0 t) (hk : t0.rawE + k ≤ t.rawE) : Adv t0 (t.unread k) := by
  rw [unread, if_pos (Nat.le_trans (Nat.le_add_left k _) hk)]
  exact h.setRawE (Nat.le_sub_of_add_le hk) (Nat.sub_le _ _)

theorem unread_rawE_eq {t : Tokenizer} (k : Nat) (hk : k ≤ t.rawE) : (t.unread k).rawE = t.rawE - k := by
  unfold unread; simp [hk]

theorem setDataEndBack_eq {t : Tokenizer} {k : Nat} (hk : k ≤ t.rawE) :
    t.setDataEndBack k = { t with dataE := t.rawE - k } := by
  unfold setDataEndBack; rw [if_pos hk]

theorem setDataEndBack_spec (t : Tokenizer) (k : Nat) (hk : k ≤ t.rawE) :
    (t.setDataEndBack k).dataE = t.rawE - k ∧ (t.setDataEndBack k).rawE = t.rawE := by
  rw [setDataEndBack_eq hk]; exact ⟨rfl, rfl⟩

theorem read_unread_adv {t : Tokenizer} (h : Ok t) (herr : ¬ t.readByte.1.err = true) : Adv t (t.readByte.1.unread 1) :=
  unread_adv 1 (readByte_adv h) (by have := readByte_succ herr; omega)

/-- a reader started at `t` has got to `x` and put the end of its span at `e`, a position it has passed -/
structure EndsAt (t x : Tokenizer) (e : Nat) : Prop where
  adv : Adv t x
  lo : t.rawE ≤ e
  hi : e ≤ x.rawE

theorem EndsAt.congr {t y x : Tokenizer} {e : Nat} (h : EndsAt t y e)
    (hx : advF x = advF y := by unfold advF; rfl) : EndsAt t x e :=
  ⟨h.adv.congr hx, h.lo, (congrArg (·.2.2.1) hx : x.rawE = y.rawE) ▸ h.hi⟩

theorem EndsAt.eof {t : Tokenizer} (h : Ok t) : EndsAt t t.readByte.1 t.readByte.1.rawE :=
  ⟨readByte_adv h, (readByte_adv h).mono, Nat.le_refl _⟩

theorem EndsAt.before {t : Tokenizer} (h : Ok t) (herr : ¬ t.readByte.1.err = true) :
    EndsAt t t.readByte.1 (t.readByte.1.rawE - 1) :=
  ⟨readByte_adv h, by rw [readByte_succ herr]; exact Nat.le_refl _, Nat.sub_le _ _⟩

theorem EndsAt.back {t : Tokenizer} (h : Ok t) (herr : ¬ t.readByte.1.err = true) :
    EndsAt t (t.readByte.1.unread 1) (t.readByte.1.unread 1).rawE :=
  ⟨read_unread_adv h herr, (read_unread_adv h herr).mono, Nat.le_refl _⟩

theorem EndsAt.step {t x : Tokenizer} {e : Nat} (h : Ok t) (i : Ok t.readByte.1 → EndsAt t.readByte.1 x e) :
    EndsAt t x e :=
  have a := readByte_adv h
  ⟨a.trans (i a.ok).adv, Nat.le_trans a.mono (i a.ok).lo, (i a.ok).hi⟩

theorem skipWsGo_adv (t : Tokenizer) (h : Ok t) : Adv t (skipWsGo t) := by
  fun_induction skipWsGo t with
  | case1 t r herr => exact readByte_adv h
  | case2 t r herr hws ih => exact (readByte_adv h).trans (ih (readByte_adv h).ok)
  | case3 t r herr hws => exact read_unread_adv h herr

theorem skipWhiteSpace_adv (t : Tokenizer) (h : Ok t) : Adv t (skipWhiteSpace t) := by
  unfold skipWhiteSpace; split
  · exact Adv.refl h
  · exact skipWsGo_adv t h

theorem untilCloseAngleGo_ends (t : Tokenizer) (h : Ok t) :
    EndsAt t (untilCloseAngleGo t) (untilCloseAngleGo t).dataE := by
  fun_induction untilCloseAngleGo t with
  | case1 t r herr => exact (EndsAt.eof h).congr
  | case2 t r herr hb => rw [setDataEndBack_eq (readByte_pos herr)]; exact (EndsAt.before h herr).congr
  | case3 t r herr hb ih => exact .step h ih

theorem readToEnd_adv (t : Tokenizer) (h : Ok t) : Adv t (readToEnd t) := by
  fun_induction readToEnd t with
  | case1 t herr => exact Adv.refl h
  | case2 t herr r herr2 => exact readByte_adv h
  | case3 t herr r herr2 ih => exact (readByte_adv h).trans (ih (readByte_adv h).ok)

theorem readToEnd_err (t : Tokenizer) : (readToEnd t).err = true := by
  fun_induction readToEnd t with
  | case1 t herr => exact herr
  | case2 t herr r herr2 => exact herr2
  | case3 t herr r herr2 ih => exact ih

/-- invariant of the loops that read the data of a token (comment, CDATA) -/
structure Reads (t x : Tokenizer) : Prop where
  adv : Adv t x
  dataS : x.dataS = t.dataS
  hi : x.dataE ≤ x.rawE

theorem Reads.step {t y x : Tokenizer} (a : Adv t y) (hs : y.dataS = t.dataS) (i : Reads y x) : Reads t x :=
  ⟨a.trans i.adv, i.dataS.trans hs, i.hi⟩

theorem Reads.setBack {t y : Tokenizer} (k : Nat) (a : Adv t y) (hs : y.dataS = t.dataS) (hk : k ≤ y.rawE) :
    Reads t (y.setDataEndBack k) := by
  rw [setDataEndBack_eq hk]; exact ⟨a.congr, hs, Nat.sub_le _ _⟩

theorem Reads.setEnd {t y : Tokenizer} (a : Adv t y) (hs : y.dataS = t.dataS) :
    Reads t { y with dataE := y.rawE } := ⟨a.congr, hs, Nat.le_refl _⟩

/-- `3` is `htmlCommentEndLen`: on `-->` that many bytes are taken back, and the `<!-` in front of `t` pays for them -/
theorem commentGo_reads (t : Tokenizer) (dash : Nat) (h : Ok t) (h3 : 3 ≤ t.rawE) : Reads t (commentGo t dash) := by
  fun_induction commentGo t dash with
  | case1 t dash r herr =>
    have a1 := readByte_adv h
    have hk : (if dash > 2 then 2 else dash) ≤ t.readByte.1.rawE := by have := a1.mono; split <;> omega
    exact .setBack _ a1 (readByte_dataS t) hk
  | case3 t dash r herr hb1 hb2 hd =>
    have a1 := readByte_adv h
    exact .setBack _ a1 (readByte_dataS t) (Nat.le_trans h3 a1.mono)
  | case5 t dash r herr hb1 hb2 hb3 hd r2 herr2 =>
    exact .setEnd ((readByte_adv h).trans (readByte_adv (readByte_adv h).ok)) ((readByte_dataS _).trans (readByte_dataS t))
  | case6 t dash r herr hb1 hb2 hb3 hd r2 herr2 hb4 =>
    simp +zetaDelta only at herr2
    have a2 := (readByte_adv h).trans (readByte_adv (readByte_adv h).ok)
    have hk : htmlCommentBangEndLen ≤ t.readByte.1.readByte.1.rawE := by
      have := readByte_succ herr; have := readByte_succ herr2; rw [htmlCommentBangEndLen]; omega
    exact .setBack _ a2 ((readByte_dataS _).trans (readByte_dataS t)) hk
  | case7 t dash r herr hb1 hb2 hb3 hd r2 herr2 hb4 ih =>
    have a2 := (readByte_adv h).trans (readByte_adv (readByte_adv h).ok)
    exact .step a2 ((readByte_dataS _).trans (readByte_dataS t)) (ih a2.ok (Nat.le_trans h3 a2.mono))
  | case2 t dash r herr hb ih | case4 t dash r herr hb1 hb2 hd ih | case8 t dash r herr hb1 hb2 hb3 hd ih
  | case9 t dash r herr hb1 hb2 hb3 ih =>
    have a1 := readByte_adv h
    exact .step a1 (readByte_dataS t) (ih a1.ok (Nat.le_trans h3 a1.mono))

/-- `cdataGo` with `br` closing brackets just read, all of them inside the data span -/
theorem cdataGo_reads (t : Tokenizer) (br : Nat) (h : Ok t) (hbr : t.dataS + br ≤ t.rawE) :
    Reads t (cdataGo t br) ∧ t.dataS ≤ (cdataGo t br).dataE := by
  fun_induction cdataGo t br with
  | case1 t br r herr =>
    have a1 := readByte_adv h
    exact ⟨.setEnd a1 (readByte_dataS t), Nat.le_trans (Nat.le_trans (Nat.le_add_right _ _) hbr) a1.mono⟩
  | case3 t br r herr hb1 hb2 hbr' =>
    have a1 := readByte_adv h
    have e := readByte_succ herr
    -- the brackets just read are behind `data.start`, so `]]>` can be taken back
    have hk : htmlCdataEndLen ≤ t.readByte.1.rawE := by rw [htmlCdataBracketMin] at hbr'; rw [htmlCdataEndLen]; omega
    refine ⟨.setBack _ a1 (readByte_dataS t) hk, ?_⟩
    rw [setDataEndBack_eq hk]
    simp only [htmlCdataEndLen, htmlCdataBracketMin] at *
    omega
  | case2 t br r herr hb ih =>
    have a1 := readByte_adv h
    have i := ih a1.ok (by simp +zetaDelta only [readByte_dataS, readByte_succ herr]; omega)
    exact ⟨.step a1 (readByte_dataS t) i.1, readByte_dataS t ▸ i.2⟩
  | case4 t br r herr hb1 hb2 hbr' ih | case5 t br r herr hb1 hb2 ih =>
    have a1 := readByte_adv h
    have i := ih a1.ok (by simp +zetaDelta only [readByte_dataS]; have := a1.mono; omega)
    exact ⟨.step a1 (readByte_dataS t) i.1, readByte_dataS t ▸ i.2⟩

/-- on a mismatch `declLoop` sets `raw.end := data.start`; by `hd` that is where `b` stood, so it is no move behind `b` -/
theorem declLoop_adv (b t : Tokenizer) (pat : List (Nat × Nat)) (hb : Adv b t) (hd : t.dataS = b.rawE) :
    Adv b (declLoop t pat).1 ∧ (declLoop t pat).1.dataS = t.dataS := by
  induction pat generalizing t with
  | nil => exact ⟨hb, rfl⟩
  | cons c cs ih =>
    obtain ⟨c, c'⟩ := c
    have a1 := hb.trans (readByte_adv hb.ok)
    have hds : t.readByte.1.dataS = t.dataS := readByte_dataS t
    simp only [declLoop]
    split
    · exact ⟨a1.congr, hds⟩
    · split
      · have he : t.readByte.1.dataS = b.rawE := hds.trans hd
        exact ⟨a1.setRawE (Nat.le_of_eq he.symm) (he ▸ a1.mono), hds⟩
      · have := ih t.readByte.1 a1 (by rw [hds, hd])
        exact ⟨this.1, this.2.trans hds⟩

/-- every byte of the raw-text context is ≥ 32, so that the `u8` subtraction `raw_tag[i] - (b'a' - b'A')` of
`read_raw_end_tag` cannot underflow -/
def TagOk (l : List Nat) : Prop := ∀ c ∈ l, 32 ≤ c

theorem rawEndTagLoop_adv (t : Tokenizer) (cs : List Nat) (h : Ok t) (hcs : TagOk cs) :
    Adv t (rawEndTagLoop t cs).1 := by
  induction cs generalizing t with
  | nil => exact Adv.refl h
  | cons c cs ih =>
    have a1 := readByte_adv h
    have hc : ¬ c < 32 := Nat.not_lt.mpr (hcs c List.mem_cons_self)
    have ih' := a1.trans (ih t.readByte.1 a1.ok fun c hc => hcs c (List.mem_cons_of_mem _ hc))
    simp only [rawEndTagLoop, apply_ite Prod.fst]
    refine iteInduction (fun _ => a1) fun herr => ?_
    refine iteInduction (fun _ => ?_) fun _ => ih'
    rw [if_neg hc]
    exact iteInduction (fun _ => read_unread_adv h herr) fun _ => ih'

/-- Called behind `</` (`h2`: two bytes after `b`).  On a match everything is put back, the `</` included (`unread (3 +
raw_tag.len())`), so `raw.end` ends two bytes before `t`, still not before `b`; the second conjunct records that the name
and its delimiter lay inside the buffer, which `At.endTagSkip` needs to add `htmlScriptEndTagLen`. -/
theorem readRawEndTag_adv (b t : Tokenizer) (hb : Adv b t) (h2 : b.rawE + 2 ≤ t.rawE) (htag : TagOk t.rawTag) :
    Adv b (readRawEndTag t).1 ∧ ((readRawEndTag t).2 = true →
      (readRawEndTag t).1.rawE + 2 = t.rawE ∧ t.rawE + t.rawTag.length + 1 ≤ t.buf.size) := by
  have hl := rawEndTagLoop_adv t t.rawTag hb.ok htag
  have hr := rawEndTagLoop_rawE t t.rawTag
  unfold readRawEndTag
  simp only
  generalize rawEndTagLoop t t.rawTag = l at *
  by_cases hok : (!l.2) = true
  · rw [if_pos hok]; exact ⟨hb.trans hl, nofun⟩
  rw [if_neg hok]
  have he := hr.2 (by simpa using hok)
  have a1 := hl.trans (readByte_adv hl.ok)
  by_cases herr : l.1.readByte.1.err = true
  · rw [if_pos herr]; exact ⟨hb.trans a1, nofun⟩
  rw [if_neg herr]
  have e1 := readByte_succ herr
  by_cases hte : isTagEnd l.1.readByte.2 = true
  · rw [if_pos hte]
    refine ⟨unread_adv _ (hb.trans a1) (by omega), fun _ => ?_⟩
    have hu := unread_rawE_eq (t := l.1.readByte.1) (3 + t.rawTag.length) (by omega)
    have h5 := a1.ok.le
    rw [a1.buf] at h5
    simp only [hu]
    omega
  · rw [if_neg hte]
    exact ⟨hb.trans (hl.trans (read_unread_adv hl.ok herr)), nofun⟩

theorem dblEscLoop_adv (t : Tokenizer) (cs : List (Nat × Nat)) (h : Ok t) : Adv t (dblEscLoop t cs).1 := by
  induction cs generalizing t with
  | nil => exact Adv.refl h
  | cons c cs ih =>
    have a1 := readByte_adv h
    simp only [dblEscLoop, apply_ite Prod.fst]
    refine iteInduction (fun _ => a1) fun herr => ?_
    exact iteInduction (fun _ => read_unread_adv h herr) fun _ => a1.trans (ih _ a1.ok)

/-- bytes of the current token that must already have been read when the automaton is in a state
(`</` before the three end-tag states, `<` before the three less-than-sign states) -/
def SS.need : SS → Nat
  | .endTagOpen | .escapedEndTagOpen | .doubleEscapedEnd => 2
  | .lessThanSign | .escapedLessThanSign | .doubleEscapedLessThanSign => 1
  | _ => 0

theorem script_letters : ∀ c ∈ htmlScript, 32 ≤ c := by decide

theorem addRawE_adv {b t : Tokenizer} (k : Nat) (h : Adv b t) (hk : t.rawE + k ≤ t.buf.size) :
    Adv b (t.addRawE k) :=
  ⟨h.buf, h.rawS, Nat.le_trans h.mono (Nat.le_add_right _ _), ⟨hk, h.ok.panic, h.ok.hang, h.ok.utf8⟩,
    h.rawTag, h.cdata⟩

/-- the script automaton is in state `st` at `t`, the current token having started at `b` -/
structure At (b : Tokenizer) (st : SS) (t : Tokenizer) : Prop where
  adv : Adv b t
  need : b.rawE + st.need ≤ t.rawE

theorem At.stop {b t : Tokenizer} {st : SS} (h : At b st t) : Adv b t.readByte.1 :=
  h.adv.trans (readByte_adv h.adv.ok)

/-- a byte read pays for one more byte of `need` -/
theorem At.read {b t : Tokenizer} {st st' : SS} (h : At b st t) (herr : ¬ t.readByte.1.err = true)
    (hn : st'.need ≤ st.need + 1 := by decide) : At b st' t.readByte.1 :=
  ⟨h.stop, by have := readByte_succ herr; have := h.need; omega⟩

theorem At.reread {b t : Tokenizer} {st st' : SS} (h : At b st t) (herr : ¬ t.readByte.1.err = true)
    (hn : st'.need ≤ st.need := by decide) : At b st' (t.readByte.1.unread 1) := by
  rw [unread_readByte (readByte_ok herr).2]
  exact ⟨h.adv, Nat.le_trans (Nat.add_le_add_left hn _) h.need⟩

theorem At.of_adv {b t : Tokenizer} {st : SS} (a : Adv b t) (hn : st.need = 0 := by decide) : At b st t :=
  ⟨a, by have := a.mono; omega⟩

theorem At.letters {b t : Tokenizer} {st : SS} (h : At b st t) (hs : b.rawTag = htmlScript) : TagOk t.rawTag := by
  rw [h.adv.rawTag, hs]; exact script_letters

theorem At.endTag {b t : Tokenizer} {st st' : SS} (h : At b st t) (hs : b.rawTag = htmlScript)
    (hn : st.need = 2 := by rfl) (hn' : st'.need = 0 := by decide) : At b st' (readRawEndTag t).1 :=
  .of_adv (readRawEndTag_adv b t h.adv (hn ▸ h.need) (h.letters hs)).1 hn'

theorem At.endTagSkip {b t : Tokenizer} {st st' : SS} (h : At b st t) (hs : b.rawTag = htmlScript)
    (htrue : (readRawEndTag t).2 = true) (hn : st.need = 2 := by rfl) (hn' : st'.need = 0 := by decide) :
    At b st' ((readRawEndTag t).1.addRawE htmlScriptEndTagLen) := by
  have hr := readRawEndTag_adv b t h.adv (hn ▸ h.need) (h.letters hs)
  have := hr.2 htrue
  have hlen : t.rawTag.length = 6 := by rw [h.adv.rawTag, hs]; rfl
  have hsz : t.readRawEndTag.1.rawE + htmlScriptEndTagLen ≤ t.readRawEndTag.1.buf.size := by
    rw [readRawEndTag_buf, htmlScriptEndTagLen]; omega
  exact .of_adv (addRawE_adv _ hr.1 hsz) hn'

theorem At.dbl {b t : Tokenizer} {st st' : SS} (h : At b st t) (hn' : st'.need = 0 := by decide) :
    At b st' (dblEscLoop t htmlDoubleEscapePat).1 :=
  .of_adv (h.adv.trans (dblEscLoop_adv _ _ h.adv.ok)) hn'

/- `fun_induction scriptGo` numbers the leaves in source order, one per branch of a state's `if`s: data 1–3,
lessThanSign 4–7, endTagOpen 8–9, escapeStart 10–12, escapeStartDash 13–15, escaped 16–19, escapedDash 20–23,
escapedDashDash 24–28, escapedLessThanSign 29–32, escapedEndTagOpen 33–34, doubleEscapeStart 35–39, doubleEscaped
40–43, doubleEscapedDash 44–47, doubleEscapedDashDash 48–52, doubleEscapedLessThanSign 53–55, doubleEscapedEnd 56–58.
The first case of a state that reads a byte is its EOF; 8, 33 return from `read_raw_end_tag` (found, or EOF), 56 has
found the end tag, 57 is EOF; doubleEscapeStart: 35 EOF in the loop, 37 behind it.  The walks over the automaton that
split by case use these numbers: this one, `Reach.scriptGo` (HtmlReach), `scriptGo_sim` (HtmlSim), `scriptGo_end`
(HtmlTokenEnd). -/
theorem At.scriptGo_adv {b t : Tokenizer} {st : SS} (h : At b st t) (hs : b.rawTag = htmlScript) :
    Adv b (scriptGo st t) := by
  fun_induction scriptGo st t
  -- the three end-tag states
  case case8 | case33 | case57 => exact (h.endTag hs (st' := .data)).adv
  case case9 ih | case34 ih | case58 ih => exact ih (h.endTag hs)
  case case56 htrue ih => exact ih (h.endTagSkip hs htrue)
  -- read_script_data_double_escape_start
  case case35 => exact (h.dbl (st' := .data)).adv
  case case36 ih => exact ih h.dbl
  case case37 => exact (h.dbl (st' := .data)).stop
  case case38 herr _ ih => exact ih ((h.dbl (st' := .data)).read herr)
  case case39 herr _ ih => exact ih ((h.dbl (st' := .data)).reread herr)
  -- the other states read one byte; these edges put it back ...
  case case7 ih | case12 ih | case15 ih | case31 ih | case32 ih | case55 ih => exact ih (h.reread ‹_›)
  -- ... these stop at the end of input ...
  case case1 | case4 | case10 | case13 | case16 | case20 | case24 | case29 | case40 | case44 | case48 | case53 =>
    exact h.stop
  -- ... and the rest keep it
  all_goals exact ‹At b _ _ → _› (h.read ‹_›)

theorem read2_rawEndTag_adv (t : Tokenizer) (h : Ok t) (htag : TagOk t.rawTag)
    (herr : ¬ t.readByte.1.err = true) (herr2 : ¬ t.readByte.1.readByte.1.err = true) :
    Adv t (readRawEndTag t.readByte.1.readByte.1).1 := by
  have a1 := readByte_adv h
  have a2 := a1.trans (readByte_adv a1.ok)
  have e1 := readByte_succ herr
  have e2 := readByte_succ herr2
  exact (readRawEndTag_adv t _ a2 (by omega) (a2.rawTag ▸ htag)).1

theorem rawTextGo_adv (t : Tokenizer) (h : Ok t) (htag : TagOk t.rawTag) : Adv t (rawTextGo t) := by
  fun_induction rawTextGo t with
  | case1 t r herr => exact readByte_adv h
  | case2 t r herr hb ih =>
    have a1 := readByte_adv h
    exact a1.trans (ih a1.ok (by rw [a1.rawTag]; exact htag))
  | case3 t r herr hb r2 herr2 => exact (readByte_adv h).trans (readByte_adv (readByte_adv h).ok)
  | case4 t r herr hb r2 herr2 hb2 ih =>
    have a2 := (readByte_adv h).trans (readByte_adv (readByte_adv h).ok)
    exact a2.trans (ih a2.ok (by rw [a2.rawTag]; exact htag))
  | case5 t r herr hb r2 herr2 hb2 e hend => exact read2_rawEndTag_adv t h htag herr herr2
  | case6 t r herr hb r2 herr2 hb2 e hend ih =>
    have a3 := read2_rawEndTag_adv t h htag herr herr2
    exact a3.trans (ih a3.ok (by rw [a3.rawTag]; exact htag))

theorem tagNameGo_ends (t : Tokenizer) (h : Ok t) : EndsAt t (tagNameGo t) (tagNameGo t).dataE := by
  fun_induction tagNameGo t with
  | case1 t r herr => exact (EndsAt.eof h).congr
  | case2 t r herr hb => rw [setDataEndBack_eq (readByte_pos herr)]; exact (EndsAt.before h herr).congr
  | case3 t r herr hb hb2 u => exact (EndsAt.back h herr).congr
  | case4 t r herr hb hb2 ih => exact .step h ih

theorem readTagName_adv (t : Tokenizer) (h : Ok t) (h1 : 1 ≤ t.rawE) : Adv t (readTagName t) := by
  unfold readTagName
  split
  · omega
  · have h0 : Adv t { t with dataS := t.rawE - 1 } := (Adv.refl h).congr
    exact h0.trans (tagNameGo_ends _ h0.ok).adv

theorem attrKeyGo_ends (t : Tokenizer) (h : Ok t) : EndsAt t (attrKeyGo t) (attrKeyGo t).pkE := by
  fun_induction attrKeyGo t with
  | case1 t r herr => exact (EndsAt.eof h).congr
  | case2 t r herr hb h0 => exact absurd h0 (Nat.ne_of_gt (readByte_pos herr))
  | case3 t r herr hb h0 => exact (EndsAt.before h herr).congr
  | case4 t r herr hb hb2 u => exact (EndsAt.back h herr).congr
  | case5 t r herr hb hb2 ih => exact .step h ih

theorem readTagAttrKey_adv (t : Tokenizer) (h : Ok t) : Adv t (readTagAttrKey t) := by
  unfold readTagAttrKey
  have h0 : Adv t { t with pkS := t.rawE } := (Adv.refl h).congr
  exact h0.trans (attrKeyGo_ends _ h0.ok).adv

theorem attrValQuotedGo_ends (t : Tokenizer) (q : Nat) (h : Ok t) :
    EndsAt t (attrValQuotedGo t q) (attrValQuotedGo t q).pvE := by
  fun_induction attrValQuotedGo t q with
  | case1 t r herr => exact (EndsAt.eof h).congr
  | case2 t r herr hb h0 => exact absurd h0 (Nat.ne_of_gt (readByte_pos herr))
  | case3 t r herr hb h0 => exact (EndsAt.before h herr).congr
  | case4 t r herr hb ih => exact .step h ih

theorem attrValUnquotedGo_ends (t : Tokenizer) (h : Ok t) :
    EndsAt t (attrValUnquotedGo t) (attrValUnquotedGo t).pvE := by
  fun_induction attrValUnquotedGo t with
  | case1 t r herr => exact (EndsAt.eof h).congr
  | case2 t r herr hb h0 => exact absurd h0 (Nat.ne_of_gt (readByte_pos herr))
  | case3 t r herr hb h0 => exact (EndsAt.before h herr).congr
  | case4 t r herr hb hb2 u => exact (EndsAt.back h herr).congr
  | case5 t r herr hb hb2 ih => exact .step h ih

/-- fields of the tag phase that the attribute-value reader leaves alone -/
def valF (t : Tokenizer) : Nat × Nat × Array AttrSpan × Nat × Nat × Nat :=
  (t.dataS, t.dataE, t.attrs, t.nAttrRet, t.pkS, t.pkE)

theorem readByte_valF (t : Tokenizer) : valF t.readByte.1 = valF t := by simp [valF]

theorem unread_valF (t : Tokenizer) (k : Nat) : valF (t.unread k) = valF t := by simp [valF]

theorem attrValQuotedGo_valF (t : Tokenizer) (q : Nat) : valF (attrValQuotedGo t q) = valF t := by
  simp [valF, attrValQuotedGo_frame]

theorem attrValUnquotedGo_valF (t : Tokenizer) : valF (attrValUnquotedGo t) = valF t := by
  simp [valF, attrValUnquotedGo_frame]

theorem skipWhiteSpace_valF (t : Tokenizer) : valF t.skipWhiteSpace = valF t := by
  obtain ⟨f1, f2, f3, f4, f5, f6, _⟩ := skipWhiteSpace_frame t
  simp only [valF, f1, f2, f3, f4, f5, f6]

theorem valF_pvS (t : Tokenizer) (a : Nat) : valF { t with pvS := a } = valF t := rfl

theorem valF_panic (t : Tokenizer) : valF { t with panic := true } = valF t := rfl

theorem attrValRest_valF (t : Tokenizer) : valF (attrValRest t) = valF t := by
  have q : valF t.skipWhiteSpace.readByte.1 = valF t := (readByte_valF _).trans (skipWhiteSpace_valF t)
  unfold attrValRest
  simp only [apply_ite valF, unread_valF, attrValQuotedGo_valF, attrValUnquotedGo_valF, valF_pvS, valF_panic, q,
    skipWhiteSpace_valF, ite_self]

theorem attrValGo_valF (t : Tokenizer) : valF (attrValGo t) = valF t := by
  have q : valF t.skipWhiteSpace.readByte.1 = valF t := (readByte_valF _).trans (skipWhiteSpace_valF t)
  unfold attrValGo
  simp only [apply_ite valF, unread_valF, attrValRest_valF, q, skipWhiteSpace_valF, ite_self]

theorem readTagAttrVal_valF (t : Tokenizer) : valF (readTagAttrVal t) = valF t :=
  attrValGo_valF { t with pvS := t.rawE, pvE := t.rawE }

/-- invariant of the attribute-value readers on the pending value span (what they leave alone is `valF`) -/
structure Val (t x : Tokenizer) : Prop where
  adv : Adv t x
  lo : x.pvS ≤ x.pvE
  hi : x.pvE ≤ x.rawE

theorem Val.refl {t : Tokenizer} (h : Ok t) (lo : t.pvS ≤ t.pvE) (hi : t.pvE ≤ t.rawE) : Val t t :=
  ⟨Adv.refl h, lo, hi⟩

theorem Val.read {t y : Tokenizer} (v : Val t y) : Val t y.readByte.1 :=
  have a := readByte_adv v.adv.ok
  ⟨v.adv.trans a, by rw [readByte_pvS, readByte_pvE]; exact v.lo, by rw [readByte_pvE]; exact Nat.le_trans v.hi a.mono⟩

theorem Val.reread {t y : Tokenizer} (v : Val t y) (herr : ¬ y.readByte.1.err = true) :
    Val t (y.readByte.1.unread 1) := by
  rw [unread_readByte (readByte_ok herr).2]; exact v

theorem Val.skipWs {t y : Tokenizer} (v : Val t y) : Val t y.skipWhiteSpace := by
  have a := skipWhiteSpace_adv y v.adv.ok
  obtain ⟨_, _, _, _, _, _, f7, f8⟩ := skipWhiteSpace_frame y
  exact ⟨v.adv.trans a, by rw [f7, f8]; exact v.lo, by rw [f8]; exact Nat.le_trans v.hi a.mono⟩

/-- a quoted value: the span starts after the quote -/
theorem Val.quoted {t y : Tokenizer} (v : Val t y) (q : Nat) :
    Val t (attrValQuotedGo { y with pvS := y.rawE } q) := by
  have a : Adv t { y with pvS := y.rawE } := v.adv.congr
  have e := attrValQuotedGo_ends { y with pvS := y.rawE } q a.ok
  have f := attrValQuotedGo_pvS { y with pvS := y.rawE } q
  exact ⟨a.trans e.adv, f ▸ e.lo, e.hi⟩

/-- an unquoted value: the span starts at the byte just read -/
theorem Val.unquoted {t y : Tokenizer} (v : Val t y) :
    Val t (attrValUnquotedGo { y with pvS := y.rawE - 1 }) := by
  have a : Adv t { y with pvS := y.rawE - 1 } := v.adv.congr
  have e := attrValUnquotedGo_ends { y with pvS := y.rawE - 1 } a.ok
  have f := attrValUnquotedGo_pvS { y with pvS := y.rawE - 1 }
  exact ⟨a.trans e.adv, f ▸ Nat.le_trans (Nat.sub_le _ _) e.lo, e.hi⟩

theorem attrValRest_val {t y : Tokenizer} (v : Val t y) : Val t (attrValRest y) := by
  unfold attrValRest
  simp only
  have v3 := v.skipWs
  generalize y.skipWhiteSpace = t2 at *
  refine iteInduction (fun _ => v3) fun _ => ?_
  refine iteInduction (fun _ => v3.read) fun herr2 => ?_
  refine iteInduction (fun _ => v3.reread herr2) fun _ => ?_
  refine iteInduction (fun _ => v3.read.quoted _) fun _ => ?_
  rw [if_neg (Nat.ne_of_gt (readByte_pos herr2))]
  exact v3.read.unquoted

theorem attrValGo_val {t y : Tokenizer} (v : Val t y) : Val t (attrValGo y) := by
  unfold attrValGo
  simp only
  have v1 := v.skipWs
  generalize y.skipWhiteSpace = t1 at *
  refine iteInduction (fun _ => v1) fun _ => ?_
  refine iteInduction (fun _ => v1.read) fun herr => ?_
  exact iteInduction (fun _ => v1.reread herr) fun _ => attrValRest_val v1.read

theorem readTagAttrVal_val (t : Tokenizer) (h : Ok t) : Val t (readTagAttrVal t) :=
  attrValGo_val ⟨(Adv.refl h).congr, Nat.le_refl _, Nat.le_refl _⟩

theorem readTagAttrVal_adv (t : Tokenizer) (h : Ok t) : Adv t (readTagAttrVal t) :=
  (readTagAttrVal_val t h).adv

theorem get_of_readByte {t : Tokenizer} (herr : ¬ t.readByte.1.err = true) :
    t.buf[t.rawE]? = some t.readByte.2 ∧ t.err = false := by
  unfold readByte at *
  split
  · rename_i hlt
    simp_all
  · simp_all

theorem skipWhiteSpace_nonWs {t : Tokenizer} {b : Nat} (he : t.err = false) (hb : t.buf[t.rawE]? = some b)
    (hw : isWs b = false) : skipWhiteSpace t = t := by
  have e := unread_readByte (lt_size_of_getElem? hb)
  rw [readByte_some hb] at e
  rw [skipWhiteSpace, if_neg (by rw [he]; exact Bool.false_ne_true), skipWsGo, readByte_some hb]
  dsimp only
  rw [dif_neg (by rw [he]; exact Bool.false_ne_true), if_neg (by rw [hw]; exact Bool.false_ne_true), e]

/-- `61` is `=`, `62` is `>`.  An empty key in front of `=` is the one case in which the key reader consumes nothing -/
theorem attrKeyGo_first {t : Tokenizer} {b : Nat} (h : Ok t) (he : t.err = false) (hb : t.buf[t.rawE]? = some b)
    (h62 : b ≠ 62) :
    if b = 61 then attrKeyGo t = { t with pkE := t.rawE } else t.rawE + 1 ≤ (attrKeyGo t).rawE := by
  have e := unread_readByte (lt_size_of_getElem? hb)
  have hrec := (attrKeyGo_ends _ (readByte_adv h).ok).adv.mono
  rw [readByte_some hb] at e hrec
  rw [attrKeyGo, readByte_some hb]
  dsimp only at e hrec ⊢
  rw [dif_neg (by rw [he]; exact Bool.false_ne_true)]
  by_cases h61 : b = 61
  · subst h61
    rw [if_pos rfl, if_neg (by decide), if_pos (by decide), e]
  · rw [if_neg h61]
    by_cases hs : (isWs b || b == 47) = true
    · rw [if_pos hs, if_neg (Nat.succ_ne_zero _)]; exact Nat.le_refl _
    · rw [if_neg hs, if_neg (by simp only [Bool.or_eq_true, beq_iff_eq]; omega)]; exact hrec

theorem attrValGo_at_eq {t : Tokenizer} (he : t.err = false) (hb : t.buf[t.rawE]? = some 61) :
    attrValGo t = attrValRest { t with rawE := t.rawE + 1 } := by
  have he' : ¬ t.err = true := by rw [he]; exact Bool.false_ne_true
  rw [attrValGo, skipWhiteSpace_nonWs he hb (by decide), readByte_some hb]
  dsimp only
  rw [if_neg he', if_neg he', if_neg (by decide)]

theorem readTagAttrVal_progress {t : Tokenizer} (h : Ok t) (he : t.err = false) (hb : t.buf[t.rawE]? = some 61) :
    t.rawE + 1 ≤ (readTagAttrVal t).rawE := by
  rw [readTagAttrVal, attrValGo_at_eq (t := { t with pvS := t.rawE, pvE := t.rawE }) he hb]
  have ok1 : Ok { t with pvS := t.rawE, pvE := t.rawE, rawE := t.rawE + 1 } :=
    ⟨lt_size_of_getElem? hb, h.panic, h.hang, h.utf8⟩
  exact (attrValRest_val (Val.refl ok1 (Nat.le_refl _) (Nat.le_succ t.rawE))).adv.mono

/-- what `tag_attr()` needs to slice with a saved attribute span -/
def AttrsOk (t : Tokenizer) : Prop :=
  ∀ a ∈ t.attrs.toList, a.ks ≤ a.ke ∧ a.ke ≤ t.buf.size ∧ a.vs ≤ a.ve ∧ a.ve ≤ t.buf.size

/-- what a part of `read_tag` behind the tag name does, from `t` to `x` (the data span is the name) -/
structure TagStep (t x : Tokenizer) : Prop where
  adv : Adv t x
  dataS : x.dataS = t.dataS
  dataE : x.dataE = t.dataE
  nAttrRet : x.nAttrRet = t.nAttrRet
  attrs : AttrsOk t → AttrsOk x

theorem TagStep.trans {a b c : Tokenizer} (h1 : TagStep a b) (h2 : TagStep b c) : TagStep a c :=
  ⟨h1.adv.trans h2.adv, h2.dataS.trans h1.dataS, h2.dataE.trans h1.dataE, h2.nAttrRet.trans h1.nAttrRet,
    fun h => h2.attrs (h1.attrs h)⟩

theorem TagStep.keep {t x : Tokenizer} (a : Adv t x) (hs : x.dataS = t.dataS) (he : x.dataE = t.dataE)
    (hn : x.nAttrRet = t.nAttrRet) (hat : x.attrs = t.attrs) : TagStep t x :=
  ⟨a, hs, he, hn, fun h => by unfold AttrsOk; rw [hat, a.buf]; exact h⟩

theorem skipWhiteSpace_tagStep {t : Tokenizer} (h : Ok t) : TagStep t t.skipWhiteSpace :=
  have ⟨fs, fe, fa, fn, _⟩ := skipWhiteSpace_frame t
  .keep (skipWhiteSpace_adv t h) fs fe fn fa

/-- one round of the attribute loop in two halves (key and value; saving the attribute and skipping white space), because
the progress argument below needs the state in between -/
theorem readAttr_tagStep (t : Tokenizer) (save : Bool) (h : Ok t) :
    TagStep t t.readTagAttrKey.readTagAttrVal ∧ TagStep t.readTagAttrKey.readTagAttrVal (readAttr t save) := by
  have k := attrKeyGo_ends { t with pkS := t.rawE } h.congr
  obtain ⟨ks, ke, ka, kn, kp, -⟩ := attrKeyGo_frame { t with pkS := t.rawE }
  have v := readTagAttrVal_val _ k.adv.ok
  have vf := readTagAttrVal_valF ({ t with pkS := t.rawE } : Tokenizer).attrKeyGo
  simp only [valF, Prod.mk.injEq] at vf
  obtain ⟨v1, v2, v3, v4, v5, v6⟩ := vf
  unfold readAttr readTagAttrKey
  dsimp only
  generalize ({ t with pkS := t.rawE } : Tokenizer).attrKeyGo = t1 at *
  generalize t1.readTagAttrVal = t2 at *
  have a2 : Adv t t2 := ((Adv.refl h).congr.trans k.adv).trans v.adv
  refine ⟨.keep a2 (v1.trans ks) (v2.trans ke) (v4.trans kn) (v3.trans ka), ?_⟩
  split
  · -- the pending attribute is saved: its key span ends where the key reader stopped, its value span is `Val`'s
    have hle := a2.ok.le
    have hk : t2.pkS ≤ t2.pkE ∧ t2.pkE ≤ t2.rawE := by
      rw [v5, v6, kp]; exact ⟨k.lo, Nat.le_trans k.hi v.adv.mono⟩
    have s3 : TagStep t2 t2.pushPending := ⟨(Adv.refl a2.ok).congr, rfl, rfl, rfl, fun ha a hmem => by
      simp only [pushPending, Array.toList_push, List.mem_append, List.mem_singleton] at hmem
      rcases hmem with hmem | rfl
      · exact ha a hmem
      · exact ⟨hk.1, Nat.le_trans hk.2 hle, v.lo, Nat.le_trans v.hi hle⟩⟩
    exact s3.trans (skipWhiteSpace_tagStep s3.adv.ok)
  · exact skipWhiteSpace_tagStep a2.ok

theorem readAttr_adv (t : Tokenizer) (save : Bool) (h : Ok t) : Adv t (readAttr t save) :=
  (readAttr_tagStep t save h).1.adv.trans (readAttr_tagStep t save h).2.adv

/-- the byte a round consumes is one of a key, or the `=` of a value without key -/
theorem readAttr_progress (t : Tokenizer) (b : Nat) (save : Bool) (h : Ok t) (he : t.err = false)
    (hb : t.buf[t.rawE]? = some b) (h62 : b ≠ 62) : t.rawE + 1 ≤ (readAttr t save).rawE := by
  have k := attrKeyGo_first (t := { t with pkS := t.rawE }) h.congr he hb h62
  refine Nat.le_trans ?_ (readAttr_tagStep t save h).2.adv.mono
  unfold readTagAttrKey
  by_cases h61 : b = 61
  · subst h61
    rw [if_pos rfl] at k
    rw [k]
    exact readTagAttrVal_progress (t := { t with pkS := t.rawE, pkE := t.rawE }) h.congr he hb
  · rw [if_neg h61] at k
    exact Nat.le_trans k (readTagAttrVal_adv _ (readTagAttrKey_adv t h).ok).mono

theorem readAttr_round (t : Tokenizer) (save : Bool) (h : Ok t)
    (hne : ¬ (t.readByte.1.err || t.readByte.2 == 62) = true) :
    readAttr (t.readByte.1.unread 1) save = readAttr t save ∧ TagStep t (readAttr t save) ∧
      t.rawE + 1 ≤ (readAttr t save).rawE := by
  have herr : ¬ t.readByte.1.err = true := by intro e; simp [e] at hne
  have h62 : t.readByte.2 ≠ 62 := by intro e; simp [e] at hne
  have g := get_of_readByte herr
  have s := readAttr_tagStep t save h
  exact ⟨by rw [unread_readByte (readByte_ok herr).2], s.1.trans s.2, readAttr_progress t _ save h g.2 g.1 h62⟩

theorem tagAttrsGo_tagStep (t : Tokenizer) (save : Bool) (h : Ok t) : TagStep t (tagAttrsGo t save) := by
  fun_induction tagAttrsGo t save
  all_goals (try simp +zetaDelta only at *)
  case case1 t _ _ =>
    exact .keep (readByte_adv h) (readByte_dataS t) (readByte_dataE t) (readByte_nAttrRet t) (readByte_attrs t)
  case case2 t _ hne _ _ =>
    obtain ⟨e, s, _⟩ := readAttr_round t save h hne
    rw [e]; exact s
  case case3 t _ hne _ _ _ ih =>
    obtain ⟨e, s, _⟩ := readAttr_round t save h hne
    rw [e] at ih ⊢; exact s.trans (ih s.adv.ok)
  case case4 t _ hne _ _ hnp =>
    -- the `hang` branch is impossible: the round has consumed a byte
    obtain ⟨e, s, hp⟩ := readAttr_round t save h hne
    have hle := s.adv.ok.le
    rw [e, s.adv.buf] at hnp
    rw [s.adv.buf] at hle
    omega

theorem tagAttrsGo_adv (t : Tokenizer) (save : Bool) (h : Ok t) : Adv t (tagAttrsGo t save) :=
  (tagAttrsGo_tagStep t save h).adv

theorem tagAttrsGo_spec (t : Tokenizer) (save : Bool) (h : Ok t) (ha : AttrsOk t) :
    AttrsOk (tagAttrsGo t save) ∧ (tagAttrsGo t save).dataS = t.dataS ∧ (tagAttrsGo t save).dataE = t.dataE ∧
    (tagAttrsGo t save).nAttrRet = t.nAttrRet :=
  have s := tagAttrsGo_tagStep t save h
  ⟨s.attrs ha, s.dataS, s.dataE, s.nAttrRet⟩

theorem setDataEndBack_frame (t : Tokenizer) (k : Nat) :
    (t.setDataEndBack k).attrs = t.attrs ∧ (t.setDataEndBack k).nAttrRet = t.nAttrRet :=
  ⟨congrArg (·.attrs) (setDataEndBack_writes t k), congrArg (·.nAttrRet) (setDataEndBack_writes t k)⟩

theorem tagNameGo_frame (t : Tokenizer) :
    (tagNameGo t).dataS = t.dataS ∧ (tagNameGo t).attrs = t.attrs ∧ (tagNameGo t).nAttrRet = t.nAttrRet := by
  fun_induction tagNameGo t <;> simp_all +zetaDelta [setDataEndBack_frame]

/-- `read_tag` is called behind the first letter of the name (hence `data.start = raw.end - 1`) -/
theorem readTag_tagStep (t : Tokenizer) (save : Bool) (h : Ok t) (h1 : 1 ≤ t.rawE) :
    TagStep (tagNameGo { t with attrs := #[], nAttrRet := 0, dataS := t.rawE - 1 }) (readTag t save) := by
  have s := skipWhiteSpace_tagStep (tagNameGo_ends _ (h.congr : Ok { t with attrs := #[], nAttrRet := 0, dataS := t.rawE - 1 })).adv.ok
  rw [readTag, readTagName, if_neg (Nat.ne_of_gt h1)]
  dsimp only
  split
  · exact s
  · exact s.trans (tagAttrsGo_tagStep _ save s.adv.ok)

theorem readTag_adv (t : Tokenizer) (save : Bool) (h : Ok t) (h1 : 1 ≤ t.rawE) : Adv t (readTag t save) :=
  ((Adv.refl h).congr.trans (tagNameGo_ends _ h.congr).adv).trans (readTag_tagStep t save h h1).adv

theorem readTag_spec (t : Tokenizer) (save : Bool) (h : Ok t) (h1 : 1 ≤ t.rawE) :
    (readTag t save).dataS = t.rawE - 1 ∧ t.rawE ≤ (readTag t save).dataE ∧
    (readTag t save).dataE ≤ (readTag t save).rawE ∧ AttrsOk (readTag t save) ∧ (readTag t save).nAttrRet = 0 := by
  have f := tagNameGo_frame { t with attrs := #[], nAttrRet := 0, dataS := t.rawE - 1 }
  have e := tagNameGo_ends { t with attrs := #[], nAttrRet := 0, dataS := t.rawE - 1 } h.congr
  have s := readTag_tagStep t save h h1
  refine ⟨s.dataS.trans f.1, s.dataE ▸ e.lo, ?_, s.attrs fun a hm => ?_, s.nAttrRet.trans f.2.2⟩
  · rw [s.dataE]; exact Nat.le_trans e.hi s.adv.mono
  · rw [f.2.1] at hm; cases hm

/- The raw-text detection of `read_start_tag` (`startTagRaw`): dispatch on the lower-cased first letter of the name
(`rawLookup` over the table `htmlRawDispatch`), then a case-insensitive comparison of the name span with the candidates of
that letter (`startTagIn`, `matchLower`).  With the span inside the buffer none of them panics, and a hit is a name of the
table. -/
theorem extract_toList_cons (a : Array Nat) (p n : Nat) (h : p < a.size) :
    (a.extract p (p + (n + 1))).toList = a[p] :: (a.extract (p + 1) (p + 1 + n)).toList := by
  simp only [Array.toList_extract]
  rw [List.extract_eq_take_drop, List.extract_eq_take_drop]
  have e1 : p + (n + 1) - p = n + 1 := by omega
  have e2 : p + 1 + n - (p + 1) = n := by omega
  rw [e1, e2]
  have hl : p < a.toList.length := by simpa using h
  rw [List.drop_eq_getElem_cons hl, List.take_succ_cons]
  simp

theorem matchLower_eq (t : Tokenizer) (p : Nat) (s : List Nat) (h : p + s.length ≤ t.buf.size) :
    matchLower t p s = some ((t.buf.extract p (p + s.length)).toList.map lowerByte == s) := by
  induction s generalizing p with
  | nil => simp [matchLower]
  | cons c cs ih =>
    have hlt : p < t.buf.size := by simp only [List.length_cons] at h; omega
    rw [matchLower, dif_pos hlt, List.length_cons, extract_toList_cons _ _ _ hlt, List.map_cons, List.cons_beq_cons,
      ih (p + 1) (by simp only [List.length_cons] at h; omega)]
    by_cases hc : lowerByte t.buf[p] = c
    · rw [if_neg (by simpa using hc), beq_iff_eq.mpr hc, Bool.true_and]
    · rw [if_pos (by simpa using hc), beq_eq_false_iff_ne.mpr hc, Bool.false_and]

theorem startTagIn_eq (t : Tokenizer) (ss : List (List Nat)) (hd : t.dataS ≤ t.dataE) (hs : t.dataE ≤ t.buf.size) :
    startTagIn t ss = some (ss.contains ((t.buf.extract t.dataS t.dataE).toList.map lowerByte)) := by
  induction ss with
  | nil => rfl
  | cons s ss ih =>
    rw [startTagIn, if_neg (Nat.not_lt.mpr hd), ih, List.contains_cons]
    by_cases hl : t.dataE - t.dataS = s.length
    · rw [if_neg (by simpa using hl), matchLower_eq t t.dataS s (by omega), show t.dataS + s.length = t.dataE by omega]
      cases ((t.buf.extract t.dataS t.dataE).toList.map lowerByte == s) <;> rfl
    · have hne : ((t.buf.extract t.dataS t.dataE).toList.map lowerByte == s) = false := by
        refine beq_eq_false_iff_ne.mpr fun e => hl ?_
        rw [← e, List.length_map, Array.length_toList, Array.size_extract]
        omega
      rw [if_pos (by simpa using hl), hne, Bool.false_or]

theorem rawLookup_spec (t : Tokenizer) (first : Nat) (tbl : List (Nat × List (List Nat)))
    (hd : t.dataS ≤ t.dataE) (hs : t.dataE ≤ t.buf.size) :
    rawLookup t first tbl ≠ none ∧
    (rawLookup t first tbl = some true →
      ∃ s ∈ tbl.flatMap (·.2), (t.buf.extract t.dataS t.dataE).toList.map lowerByte = s) := by
  induction tbl with
  | nil => simp [rawLookup]
  | cons e tbl ih =>
    obtain ⟨l, names⟩ := e
    simp only [rawLookup, List.flatMap_cons, List.mem_append]
    split
    · rw [startTagIn_eq t names hd hs]
      exact ⟨nofun, fun h => ⟨_, Or.inl (List.contains_iff_mem.mp (Option.some.inj h)), rfl⟩⟩
    · exact ⟨ih.1, fun h => by obtain ⟨s', hm, he⟩ := ih.2 h; exact ⟨s', Or.inr hm, he⟩⟩

theorem rawNames_letters : ∀ s ∈ htmlRawDispatch.flatMap (·.2), ∀ c ∈ s, 97 ≤ c ∧ c ≤ 122 := by decide

theorem le_lowerByte (b : Nat) : b ≤ lowerByte b := by
  unfold lowerByte; split <;> omega

theorem validUtf8_of_ascii (bs : List Nat) (h : ∀ b ∈ bs, b < 128) : validUtf8 bs = true := by
  unfold validUtf8
  have : bs.foldl utf8Step (some {}) = some {} := by
    induction bs with
    | nil => rfl
    | cons b bs ih =>
      have hb : b < 128 := h b (by simp)
      simp only [List.foldl_cons]
      have : utf8Step (some {}) b = some {} := by simp [utf8Step, hb]
      rw [this]
      exact ih (fun b hb => h b (by simp [hb]))
  rw [this]
  rfl

theorem validUtf8_of_rawName {bs : List Nat} (h : bs.map lowerByte ∈ htmlRawDispatch.flatMap (·.2)) :
    validUtf8 bs = true :=
  validUtf8_of_ascii bs fun b hb => by
    have := rawNames_letters _ h _ (List.mem_map_of_mem hb)
    have := le_lowerByte b
    omega

theorem slice?_eq (t : Tokenizer) (a b : Nat) (h1 : a ≤ b) (h2 : b ≤ t.buf.size) :
    t.slice? a b = some (t.buf.extract a b).toList := by
  unfold slice?; simp [h1, h2]

/-- the UTF-8 check of `read_start_tag` cannot fail: only a name of the dispatch table is converted -/
theorem startTagRaw_table (t1 : Tokenizer) (hd : t1.dataS < t1.dataE) (hs : t1.dataE ≤ t1.buf.size) :
    startTagRaw t1 = t1 ∨ ∃ bs ∈ htmlRawDispatch.flatMap (·.2), startTagRaw t1 = { t1 with rawTag := bs } := by
  unfold startTagRaw
  have hlt : t1.dataS < t1.buf.size := by omega
  simp only [hlt, dite_true]
  have hl := rawLookup_spec t1 (lowerByte t1.buf[t1.dataS]) htmlRawDispatch (by omega) hs
  split
  · rename_i hnone; exact absurd hnone hl.1
  · exact Or.inl rfl
  · rename_i htrue
    obtain ⟨s, hmem, hs'⟩ := hl.2 htrue
    rw [slice?_eq t1 _ _ (Nat.le_of_lt hd) hs]
    simp only
    rw [validUtf8_of_rawName (hs' ▸ hmem), if_pos rfl, hs']
    exact Or.inr ⟨s, hmem, rfl⟩

theorem startTagRaw_spec (t1 : Tokenizer) (hd : t1.dataS < t1.dataE) (hs : t1.dataE ≤ t1.buf.size) :
    startTagRaw t1 = t1 ∨ ∃ bs, startTagRaw t1 = { t1 with rawTag := bs } ∧ TagOk bs :=
  (startTagRaw_table t1 hd hs).imp_right fun ⟨bs, hmem, e⟩ =>
    ⟨bs, e, fun c hc => Nat.le_trans (by decide) (rawNames_letters bs hmem c hc).1⟩

/-- after a `read_tag` that did not hit EOF neither guard of `read_start_tag` fires: the name span is inside the
buffer, so the raw-text detection cannot panic, and at least the two bytes `<x` have been read -/
theorem readStartTag_eq (t : Tokenizer) (ok : Ok t) (h2 : 2 ≤ t.rawE) (he : ¬ (readTag t true).err = true) :
    readStartTag t = ((readTag t true).startTagRaw, (readTag t true).startTagRaw.startTagKind) ∧
    (readTag t true).startTagRaw.rawE = (readTag t true).rawE ∧
    (readTag t true).startTagRaw.buf = (readTag t true).buf := by
  have a1 := readTag_adv t true ok (by omega)
  have s1 := readTag_spec t true ok (by omega)
  unfold readStartTag
  simp only
  generalize t.readTag true = t1 at *
  have hle := a1.ok.le
  have hm := a1.mono
  have hflags : (startTagRaw t1).panic = false ∧ (startTagRaw t1).utf8Err = false ∧
      (startTagRaw t1).rawE = t1.rawE ∧ (startTagRaw t1).buf = t1.buf := by
    rcases startTagRaw_spec t1 (by omega) (by omega) with h | ⟨bs, h, _⟩
    · rw [h]; exact ⟨a1.ok.panic, a1.ok.utf8, rfl, rfl⟩
    · rw [h]; exact ⟨a1.ok.panic, a1.ok.utf8, rfl, rfl⟩
  obtain ⟨f1, f2, f3, f4⟩ := hflags
  rw [if_neg he, if_neg (by rw [f1, f2]; decide),
    if_neg (by simp only [Bool.or_eq_true, decide_eq_true_eq, not_or]; rw [f3, f4]; omega)]
  exact ⟨rfl, f3, f4⟩

theorem readStartTag_shape (t : Tokenizer) (h : Ok t) (h2 : 2 ≤ t.rawE) (htag : TagOk t.rawTag) :
    ∃ bs, (readStartTag t).1 = { readTag t true with rawTag := bs } ∧ TagOk bs := by
  have a1 := readTag_adv t true h (by omega)
  have s1 := readTag_spec t true h (by omega)
  have htag1 : TagOk (readTag t true).rawTag := a1.rawTag ▸ htag
  by_cases he : (readTag t true).err = true
  · unfold readStartTag
    dsimp only
    rw [if_pos he]
    exact ⟨_, rfl, htag1⟩
  · have hle := a1.ok.le
    have hm := a1.mono
    rw [(readStartTag_eq t h h2 he).1]
    rcases startTagRaw_spec (readTag t true) (by omega) (by omega) with e | hbs
    · exact ⟨(readTag t true).rawTag, e, htag1⟩
    · exact hbs

theorem untilCloseAngleGo_dataS (t : Tokenizer) : (untilCloseAngleGo t).dataS = t.dataS := by
  fun_induction untilCloseAngleGo t <;> simp_all +zetaDelta

/-- what the readers behind `<!` (`markupRest`, `markupGo`, `readMarkupDeclaration`) leave, whichever of comment,
doctype, CDATA or bogus comment they find -/
structure Decl (b x : Tokenizer) : Prop where
  adv : Adv b x
  lo : x.dataS ≤ x.dataE
  hi : x.dataE ≤ x.rawE

theorem readUntilCloseAngle_decl {b t : Tokenizer} (a : Adv b t) : Decl b t.readUntilCloseAngle := by
  unfold readUntilCloseAngle
  have h0 : Adv b { t with dataS := t.rawE } := a.congr
  have e := untilCloseAngleGo_ends _ h0.ok
  exact ⟨h0.trans e.adv, untilCloseAngleGo_dataS { t with dataS := t.rawE } ▸ e.lo, e.hi⟩

theorem readUntilCloseAngle_adv (t : Tokenizer) (h : Ok t) : Adv t (readUntilCloseAngle t) :=
  (readUntilCloseAngle_decl (Adv.refl h)).adv

theorem readComment_decl (t : Tokenizer) (h : Ok t) (h3 : 3 ≤ t.rawE) : Decl t (readComment t) := by
  unfold readComment
  have h0 : Adv t { t with dataS := t.rawE } := (Adv.refl h).congr
  obtain ⟨a, d, hi⟩ := commentGo_reads { t with dataS := t.rawE } 2 h0.ok h3
  have a := h0.trans a
  simp only at d ⊢
  generalize (commentGo { t with dataS := t.rawE } 2) = t1 at *
  split
  · -- a comment cut short (`<!-->`, `<!--->`): `data.end` is pulled up to `data.start`
    exact ⟨a.congr, Nat.le_refl _, by have := a.mono; simp only; omega⟩
  · exact ⟨a, by omega, hi⟩

/-- `read_doc_type` and `read_cdata`, called at `t` with `data.start` where `b` stood (behind `<!`): when the literal is not
there, `raw.end` and `data.start` are back there, for the next reader to try -/
theorem readDocType_decl (b t : Tokenizer) (hb : Adv b t) (hd : t.dataS = b.rawE) :
    Adv b (readDocType t).1 ∧ ((readDocType t).2 = false → (readDocType t).1.dataS = b.rawE) ∧
    ((readDocType t).2 = true → Decl b (readDocType t).1) := by
  have hl := declLoop_adv b t htmlDoctypePat hb hd
  unfold readDocType
  simp only
  split
  · exact ⟨hl.1, fun _ => hl.2.trans hd, nofun⟩
  · have a1 := hl.1.trans (skipWhiteSpace_adv _ hl.1.ok)
    split
    · exact ⟨a1.congr, nofun, fun _ => ⟨a1.congr, Nat.le_refl _, Nat.le_refl _⟩⟩
    · exact ⟨(readUntilCloseAngle_decl a1).adv, nofun, fun _ => readUntilCloseAngle_decl a1⟩

theorem readCdata_decl (b t : Tokenizer) (hb : Adv b t) (hd : t.dataS = b.rawE) :
    Adv b (readCdata t).1 ∧ ((readCdata t).2 = true → Decl b (readCdata t).1) := by
  have hl := declLoop_adv b t htmlCdataPat hb hd
  unfold readCdata
  simp only
  split
  · exact ⟨hl.1, nofun⟩
  · have h0 : Adv b { (declLoop t htmlCdataPat).1 with dataS := (declLoop t htmlCdataPat).1.rawE } := hl.1.congr
    have r := cdataGo_reads _ 0 h0.ok (Nat.le_refl _)
    exact ⟨h0.trans r.1.adv, fun _ => ⟨h0.trans r.1.adv, r.1.dataS ▸ r.2, r.1.hi⟩⟩

theorem markupRest_decl (b t : Tokenizer) (hb : Adv b t) (hd : t.dataS = b.rawE) :
    Decl b (markupRest t).1 := by
  have dt := readDocType_decl b t hb hd
  unfold markupRest
  simp only [apply_ite Prod.fst]
  generalize t.readDocType = d at *
  refine iteInduction dt.2.2 fun hdt => ?_
  refine iteInduction (fun _ => ?_) fun _ => readUntilCloseAngle_decl dt.1
  have cd := readCdata_decl b _ dt.1 (dt.2.1 (Bool.eq_false_iff.mpr hdt))
  exact iteInduction (fun hct => ⟨(cd.2 hct).adv.congr, (cd.2 hct).lo, (cd.2 hct).hi⟩) fun _ =>
    readUntilCloseAngle_decl cd.1

theorem markupGo_decl (t : Tokenizer) (h : Ok t) (h2 : 2 ≤ t.rawE) (hd : t.dataS = t.rawE) :
    Decl t (markupGo t).1 := by
  unfold markupGo
  simp only [apply_ite Prod.fst]
  have a1 := readByte_adv h
  have a2 := a1.trans (readByte_adv a1.ok)
  have m1 := a1.mono
  have m2 := a2.mono
  refine iteInduction (fun _ => ⟨a1.congr, by simp only [readByte_dataS]; omega, Nat.le_refl _⟩) fun herr1 => ?_
  refine iteInduction (fun _ => ⟨a2.congr, by simp only [readByte_dataS]; omega, Nat.le_refl _⟩) fun herr2 => ?_
  have e1 := readByte_succ herr1
  have e2 := readByte_succ herr2
  refine iteInduction (fun _ => ?_) fun _ => ?_
  · have dc := readComment_decl _ a2.ok (by omega)
    exact ⟨a2.trans dc.adv, dc.lo, dc.hi⟩
  · exact markupRest_decl t _ (unread_adv 2 a2 (by omega)) (by rw [unread_dataS, readByte_dataS, readByte_dataS, hd])

theorem readMarkupDeclaration_decl (t : Tokenizer) (h : Ok t) (h2 : 2 ≤ t.rawE) :
    Decl t (readMarkupDeclaration t).1 := by
  unfold readMarkupDeclaration
  have d := markupGo_decl { t with dataS := t.rawE } h.congr h2 rfl
  exact ⟨(Adv.refl h).congr.trans d.adv, d.lo, d.hi⟩

theorem readMarkupDeclaration_adv (t : Tokenizer) (h : Ok t) (h2 : 2 ≤ t.rawE) : Adv t (readMarkupDeclaration t).1 :=
  (readMarkupDeclaration_decl t h h2).adv

theorem rawEndTagLoop_data (t : Tokenizer) (cs : List Nat) :
    (rawEndTagLoop t cs).1.dataS = t.dataS ∧ (rawEndTagLoop t cs).1.dataE = t.dataE := by
  induction cs generalizing t with
  | nil => exact ⟨rfl, rfl⟩
  | cons c cs ih =>
    simp only [rawEndTagLoop, apply_ite Prod.fst, apply_ite Tokenizer.dataS, apply_ite Tokenizer.dataE, ih,
      unread_dataS, unread_dataE, readByte_dataS, readByte_dataE, ite_self, and_self]

theorem dblEscLoop_data (t : Tokenizer) (cs : List (Nat × Nat)) :
    (dblEscLoop t cs).1.dataS = t.dataS ∧ (dblEscLoop t cs).1.dataE = t.dataE := by
  induction cs generalizing t with
  | nil => exact ⟨rfl, rfl⟩
  | cons c cs ih =>
    simp only [dblEscLoop, apply_ite Prod.fst, apply_ite Tokenizer.dataS, apply_ite Tokenizer.dataE, ih,
      unread_dataS, unread_dataE, readByte_dataS, readByte_dataE, ite_self, and_self]

theorem readRawEndTag_data (t : Tokenizer) :
    (readRawEndTag t).1.dataS = t.dataS ∧ (readRawEndTag t).1.dataE = t.dataE := by
  simp only [readRawEndTag, apply_ite Prod.fst, apply_ite Tokenizer.dataS, apply_ite Tokenizer.dataE,
    unread_dataS, unread_dataE, readByte_dataS, readByte_dataE, rawEndTagLoop_data, ite_self, and_self]

@[simp] theorem addRawE_dataS (t : Tokenizer) (k : Nat) : (t.addRawE k).dataS = t.dataS := rfl
@[simp] theorem addRawE_dataE (t : Tokenizer) (k : Nat) : (t.addRawE k).dataE = t.dataE := rfl

theorem scriptGo_data (st : SS) (t : Tokenizer) :
    (scriptGo st t).dataS = t.dataS ∧ (scriptGo st t).dataE = t.dataE := by
  fun_induction scriptGo st t
  all_goals simp +zetaDelta only [*, readByte_dataS, readByte_dataE, unread_dataS, unread_dataE, addRawE_dataS,
    addRawE_dataE, readRawEndTag_data, dblEscLoop_data, and_self]

theorem rawTextGo_data (t : Tokenizer) :
    (rawTextGo t).dataS = t.dataS ∧ (rawTextGo t).dataE = t.dataE := by
  fun_induction rawTextGo t
  all_goals simp +zetaDelta only [*, readByte_dataS, readByte_dataE, readRawEndTag_data, and_self]

theorem readToEnd_data (t : Tokenizer) :
    (readToEnd t).dataS = t.dataS ∧ (readToEnd t).dataE = t.dataE := by
  fun_induction readToEnd t
  all_goals simp +zetaDelta only [*, readByte_dataS, readByte_dataE, and_self]

/-- a byte that opens a tag, a comment or a declaration when it follows `<` -/
def opens (c : Nat) : Bool := isAlpha c || c == 47 || c == 33 || c == 63

theorem mainLoop_at_eof {t : Tokenizer} (h : ¬ t.rawE < t.buf.size) :
    mainLoop t = finishText { t with err := true } := by
  rw [mainLoop, readByte_eof h, dif_pos rfl]

theorem mainLoop_of_err {t : Tokenizer} (he : t.err = true) : mainLoop t = finishText t.readByte.1 := by
  have : t.readByte.1.err = true := by
    unfold readByte
    split
    · exact he
    · rfl
  rw [mainLoop, dif_pos this]

theorem mainLoop_at_text {t : Tokenizer} {b : Nat} (he : t.err = false) (hb : t.buf[t.rawE]? = some b)
    (hne : b ≠ 60) : mainLoop t = mainLoop { t with rawE := t.rawE + 1 } := by
  rw [mainLoop, readByte_some hb]
  dsimp only
  rw [dif_neg (by rw [he]; exact Bool.false_ne_true), if_pos (bne_iff_ne.mpr hne)]

theorem mainLoop_at_lt_eof {t : Tokenizer} (he : t.err = false) (hb : t.buf[t.rawE]? = some 60)
    (h2 : ¬ t.rawE + 1 < t.buf.size) : mainLoop t = finishText { t with rawE := t.rawE + 1, err := true } := by
  rw [mainLoop, readByte_some hb]
  dsimp only
  rw [dif_neg (by rw [he]; exact Bool.false_ne_true), if_neg (by decide), readByte_eof h2, dif_pos rfl]

theorem mainLoop_at_lt {t : Tokenizer} {c : Nat} (he : t.err = false) (hb : t.buf[t.rawE]? = some 60)
    (hc : t.buf[t.rawE + 1]? = some c) :
    mainLoop t = if opens c then dispatchTag { t with rawE := t.rawE + 2 } c else mainLoop { t with rawE := t.rawE + 1 } := by
  have he' : ¬ t.err = true := by rw [he]; exact Bool.false_ne_true
  rw [mainLoop, readByte_some hb]
  dsimp only
  rw [dif_neg he', if_neg (by decide), readByte_some (t := { t with rawE := t.rawE + 1 }) hc]
  dsimp only
  rw [dif_neg he']
  unfold opens
  cases (isAlpha c || c == 47 || c == 33 || c == 63) with
  | true => rfl
  | false => simp [unread]

/-- The two states the `'main` loop started at `t` can stop in, `r` being its result: at a position `p` where reading
failed (the end of the input; with `err` already set, one byte further at most), or behind a `<` followed by a byte that
opens something.  Whatever is to hold of `mainLoop t` has to be shown of these two states only. -/
def MainStop (t r : Tokenizer) : Prop :=
  (∃ p, t.rawE ≤ p ∧ p ≤ t.buf.size ∧ r = finishText { t with rawE := p, err := true }) ∨
  ∃ q c, t.rawE ≤ q ∧ t.buf[q]? = some 60 ∧ t.buf[q + 1]? = some c ∧ opens c = true ∧
    r = dispatchTag { t with rawE := q + 2 } c

theorem MainStop.pred {t r : Tokenizer} (h : MainStop { t with rawE := t.rawE + 1 } r) : MainStop t r := by
  rcases h with ⟨p, h1, h2⟩ | ⟨q, c, h1, h2⟩
  · exact Or.inl ⟨p, Nat.le_of_succ_le h1, h2⟩
  · exact Or.inr ⟨q, c, Nat.le_of_succ_le h1, h2⟩

theorem mainLoop_stop (t : Tokenizer) (hle : t.rawE ≤ t.buf.size) : MainStop t (mainLoop t) := by
  by_cases he : t.err = false
  · -- induction on the number of unread bytes: the next one or two bytes say which `mainLoop_at_*` equation is the step
    generalize hn : t.buf.size - t.rawE = n
    induction n generalizing t with
    | zero => exact Or.inl ⟨t.rawE, Nat.le_refl _, hle, mainLoop_at_eof (by omega)⟩
    | succ n ih =>
      have hlt : t.rawE < t.buf.size := by omega
      have hb := Array.getElem?_eq_getElem hlt
      have next := (ih { t with rawE := t.rawE + 1 } hlt he (by show t.buf.size - (t.rawE + 1) = n; omega)).pred
      by_cases h60 : t.buf[t.rawE] = 60
      · rw [h60] at hb
        by_cases h2 : t.rawE + 1 < t.buf.size
        · have hc := Array.getElem?_eq_getElem h2
          rw [mainLoop_at_lt he hb hc]
          by_cases ho : opens t.buf[t.rawE + 1] = true
          · rw [if_pos ho]
            exact Or.inr ⟨t.rawE, _, Nat.le_refl _, hb, hc, ho, rfl⟩
          · rw [if_neg ho]
            exact next
        · exact Or.inl ⟨t.rawE + 1, Nat.le_succ _, hlt, mainLoop_at_lt_eof he hb h2⟩
      · rw [mainLoop_at_text he hb h60]
        exact next
  · -- with `err` set the loop stops after one read
    have he : t.err = true := by simpa using he
    rw [mainLoop_of_err he]
    by_cases hlt : t.rawE < t.buf.size
    · exact Or.inl ⟨t.rawE + 1, Nat.le_succ _, hlt, by rw [readByte_lt hlt, ← he]⟩
    · exact Or.inl ⟨t.rawE, Nat.le_refl _, hle, by rw [readByte_eof hlt]⟩

theorem eof_adv {t : Tokenizer} {p : Nat} (ok : Ok t) (h1 : t.rawE ≤ p) (h2 : p ≤ t.buf.size) :
    Adv t { t with rawE := p, err := true } :=
  ⟨rfl, rfl, h1, ⟨h2, ok.panic, ok.hang, ok.utf8⟩, rfl, rfl⟩

/-- the state the `'main` loop hands to `dispatchTag` -/
theorem opened_adv {t : Tokenizer} {q c : Nat} (ok : Ok t) (h1 : t.rawE ≤ q) (hc : t.buf[q + 1]? = some c) :
    Adv t { t with rawE := q + 2 } :=
  ⟨rfl, rfl, Nat.le_trans h1 (Nat.le_add_right _ _), ⟨lt_size_of_getElem? hc, ok.panic, ok.hang, ok.utf8⟩, rfl, rfl⟩

end Tokenizer
end Rio.Html
