/-
Joining strings with a separator, over any alphabet: `join c` is injective on non-empty lists of `c`-free strings.  A
function that cuts at every `c` therefore needs only its specification (its pieces are `c`-free and join back to the
input) to be the inverse of `join c`, and to commute with whatever `join c` commutes with.
-/
namespace Rio.Sep
variable {α : Type} {c : α}

def join (c : α) : List (List α) → List α
  | [] => []
  | p :: rest => p ++ rest.flatMap (c :: ·)

theorem join_cons_cons (c : α) (p q : List α) (rest : List (List α)) :
    join c (p :: q :: rest) = p ++ c :: join c (q :: rest) := by
  simp [join]

theorem join_append {ps qs : List (List α)} (hp : ps ≠ []) (hq : qs ≠ []) :
    join c (ps ++ qs) = join c ps ++ c :: join c qs := by
  cases ps with
  | nil => exact absurd rfl hp
  | cons p ps =>
    cases qs with
    | nil => exact absurd rfl hq
    | cons q qs => simp [join]

theorem join_flatMap {f : α → List α} (hc : f c = [c]) (ps : List (List α)) :
    (join c ps).flatMap f = join c (ps.map (·.flatMap f)) := by
  cases ps with
  | nil => rfl
  | cons p rest =>
    simp only [join, List.flatMap_append, List.map_cons]
    congr 1
    induction rest with
    | nil => rfl
    | cons q rest ih =>
      simp only [List.flatMap_cons, List.flatMap_append, List.map_cons, ih, hc, List.cons_append, List.nil_append]

theorem mem_join {ps : List (List α)} {p : List α} (hp : p ∈ ps) {y : α} (hy : y ∈ p) : y ∈ join c ps := by
  cases ps with
  | nil => cases hp
  | cons q rest =>
    rcases List.mem_cons.mp hp with rfl | hp
    · exact List.mem_append_left _ hy
    · exact List.mem_append_right _ (List.mem_flatMap.mpr ⟨p, hp, List.mem_cons_of_mem _ hy⟩)

theorem append_cons_inj {p q r r' : List α} (hp : c ∉ p) (hq : c ∉ q) (h : p ++ c :: r = q ++ c :: r') :
    p = q ∧ r = r' := by
  induction p generalizing q with
  | nil =>
    cases q with
    | nil => exact ⟨rfl, (List.cons.inj h).2⟩
    | cons b q => exact absurd (List.cons.inj h).1 (fun e => hq (e ▸ List.mem_cons_self))
  | cons a p ih =>
    cases q with
    | nil => exact absurd (List.cons.inj h).1 (fun e => hp (e ▸ List.mem_cons_self))
    | cons b q =>
      obtain ⟨hab, hrest⟩ := List.cons.inj h
      obtain ⟨hpq, hr⟩ := ih (fun e => hp (List.mem_cons_of_mem _ e)) (fun e => hq (List.mem_cons_of_mem _ e)) hrest
      exact ⟨by rw [hab, hpq], hr⟩

theorem flatMap_cons_concat (c : α) (ps : List (List α)) :
    ps.flatMap (c :: ·) ++ [c] = c :: ps.flatMap (· ++ [c]) := by
  induction ps with
  | nil => rfl
  | cons p rest ih => simp only [List.flatMap_cons, List.append_assoc, List.cons_append, List.nil_append, ih]

theorem join_concat {ps : List (List α)} (h : ps ≠ []) : join c ps ++ [c] = ps.flatMap (· ++ [c]) := by
  cases ps with
  | nil => exact absurd rfl h
  | cons p rest =>
    simp only [join, List.flatMap_cons, List.append_assoc, flatMap_cons_concat, List.singleton_append]

theorem dropLast_flatMap_concat (c : α) (ps : List (List α)) : (ps.flatMap (· ++ [c])).dropLast = join c ps := by
  cases ps with
  | nil => rfl
  | cons p rest => rw [← join_concat (List.cons_ne_nil _ _), List.dropLast_concat]

theorem flatMap_ends {β : Type} {f t : β → List α} (h : ∀ x, f x = t x ++ [c]) (m : List β) :
    m.flatMap f = [] ∨ ∃ s, m.flatMap f = s ++ [c] := by
  rw [funext h, ← List.flatMap_map (f := t) (g := (· ++ [c]))]
  cases m with
  | nil => exact Or.inl rfl
  | cons x xs => exact Or.inr ⟨_, (join_concat (List.cons_ne_nil _ _)).symm⟩

theorem join_inj {ps qs : List (List α)} (hp : ps ≠ []) (hq : qs ≠ []) (hps : ∀ p ∈ ps, c ∉ p)
    (hqs : ∀ q ∈ qs, c ∉ q) (h : join c ps = join c qs) : ps = qs := by
  -- in the terminated form every piece is followed by a `c`, so the pieces come off one by one
  have h' : ps.flatMap (· ++ [c]) = qs.flatMap (· ++ [c]) := by rw [← join_concat hp, ← join_concat hq, h]
  clear h hp hq
  induction ps generalizing qs with
  | nil =>
    cases qs with
    | nil => rfl
    | cons q qs => simp at h'
  | cons p ps ih =>
    cases qs with
    | nil => simp at h'
    | cons q qs =>
      simp only [List.flatMap_cons, List.append_assoc, List.singleton_append] at h'
      obtain ⟨e, hrest⟩ := append_cons_inj (hps p List.mem_cons_self) (hqs q List.mem_cons_self) h'
      rw [e, ih (fun x hx => hps x (List.mem_cons_of_mem _ hx)) (fun x hx => hqs x (List.mem_cons_of_mem _ hx)) hrest]

end Rio.Sep
