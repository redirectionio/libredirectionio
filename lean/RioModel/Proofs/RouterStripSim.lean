/-
Router proofs: a history and the same history WITHOUT its cache calls end in states that are equal up to cached regex
values, layer by layer – the router-level analogue of `Proofs/TreeCacheSim.lean`.

`SLaws I Repr` equips a matcher with `strip : I.M → I.M` ("drop every cached value, in every tree below"): it commutes with
the updates, and in a represented state `cache` is invisible after it and `trace` is blind to it.  Hence `stripG` on routers
commutes with every operation and absorbs `cache` (`Rio.C12.run_strip_router_tree`), and `cache` changes neither `trace`
nor `len` of any layer (`SLaws.tcache`).
-/
import RioModel.Proofs.RouterTraceCache
import RioModel.Proofs.TreeCacheSim

-- `[DecidableEq K]` is unused in `pruneMap_strip`, `cacheAll_strip`, `bobs_mapVals_strip`; `outerSLaws` reaches them with it
set_option linter.unusedSectionVars false

namespace Rio.Router
open Rio.Tree

structure SLaws (I : MOps) (Repr : I.M → List Route → Prop) where
  strip : I.M → I.M
  strip_empty : strip I.empty = I.empty
  strip_insert : ∀ r m, strip (I.insert r m) = I.insert r (strip m)
  strip_remove : ∀ id m, strip (I.remove id m).1 = (I.remove id (strip m)).1 ∧ (I.remove id m).2 = (I.remove id (strip m)).2
  strip_batch : ∀ ids m, strip (I.batchRemove ids m) = I.batchRemove ids (strip m)
  strip_len : ∀ m, I.len (strip m) = I.len m
  strip_cache : ∀ m L limit level, Repr m L → strip (I.cache limit level m).1 = strip m
  strip_trace : ∀ m L q, Repr m L → I.trace (strip m) q = I.trace m q

section
variable (T : TEnv) (Good : List Char → Prop) (hPS : PrefixSound T.engine Good)

def pathTSLaws : SLaws (pathTOps T) (pathTLaws T Good hPS).Repr where
  strip := fun (s : PathTState) => ({ s with tree := s.tree.strip } : PathTState)
  strip_empty := rfl
  strip_insert := by
    intro r (s : PathTState)
    show ({ PathT.insert T r s with tree := (PathT.insert T r s).tree.strip } : PathTState) =
      PathT.insert T r { s with tree := s.tree.strip }
    unfold PathT.insert
    cases r.path with
    | static p => rfl
    | dyn p => simp only [insert_strip]
  strip_remove := by
    intro id (s : PathTState)
    show ({ (PathT.remove id s).1 with tree := (PathT.remove id s).1.tree.strip } : PathTState) =
        (PathT.remove id { s with tree := s.tree.strip }).1 ∧
      (PathT.remove id s).2 = (PathT.remove id { s with tree := s.tree.strip }).2
    unfold PathT.remove
    have h1 := (remove_strip s.tree id).1
    have h2 := (remove_strip s.tree id).2
    simp only [← h2]
    cases hr : (s.tree.remove id).2 with
    | some r => simp [h1]
    | none => simp
  strip_batch := by
    intro ids (s : PathTState)
    show ({ PathT.batchRemove ids s with tree := (PathT.batchRemove ids s).tree.strip } : PathTState) =
      PathT.batchRemove ids { s with tree := s.tree.strip }
    unfold PathT.batchRemove
    simp only [retain_strip]
  strip_len := fun _ => rfl
  strip_cache := by
    intro (s : PathTState) L limit level _
    obtain ⟨t', n, _, heq, _, hs⟩ := pathT_cache_ok T limit level s
    show ({ (PathT.cache T limit level s).1 with tree := (PathT.cache T limit level s).1.tree.strip } : PathTState) =
      { s with tree := s.tree.strip }
    rw [heq]; simp only [hs]
  strip_trace := by
    intro (s : PathTState) L q (h : PTRepr T Good s L)
    show PathT.trace T { s with tree := s.tree.strip } q = PathT.trace T s q
    unfold PathT.trace
    simp only
    rw [trace_strip T.engine s.tree h.inv (fun e he => (h.dom e he).2)]

end

section
variable {K : Type} [DecidableEq K] {I : MOps}

def mapVals (g : I.M → I.M) (m : List (K × I.M)) : List (K × I.M) := m.map (fun e => (e.1, g e.2))

theorem aupsert_mapVals (g f : I.M → I.M) (emp : I.M) (hgf : ∀ x, g (f x) = f (g x)) (hemp : g emp = emp) (k : K) :
    ∀ m : List (K × I.M), mapVals g (aupsert f emp k m) = aupsert f emp k (mapVals g m)
  | [] => by simp [mapVals, aupsert, hgf, hemp]
  | (k', v) :: rest => by
    have ih := aupsert_mapVals g f emp hgf hemp k rest
    simp only [mapVals, aupsert, List.map_cons] at ih ⊢
    by_cases h : k' = k
    · simp [h, hgf]
    · simp [h, ih]

theorem foldl_aupsert_mapVals (g f : I.M → I.M) (emp : I.M) (hgf : ∀ x, g (f x) = f (g x)) (hemp : g emp = emp) :
    ∀ (ks : List K) (m : List (K × I.M)),
      mapVals g (ks.foldl (fun m k => aupsert f emp k m) m) = ks.foldl (fun m k => aupsert f emp k m) (mapVals g m)
  | [], _ => rfl
  | k :: ks, m => by
    simp only [List.foldl_cons]
    rw [foldl_aupsert_mapVals g f emp hgf hemp ks, aupsert_mapVals g f emp hgf hemp]

variable {Repr : I.M → List Route → Prop} (SI : SLaws I Repr)

def lStrip (s : LState I K) : LState I K := ⟨SI.strip s.any, mapVals SI.strip s.map, s.count⟩

theorem SLaws.isEmpty_strip (b : I.M) : I.isEmpty (SI.strip b) = I.isEmpty b := by
  unfold MOps.isEmpty; rw [SI.strip_len]

theorem lastHit_strip (id : String) (ms : List I.M) :
    lastHit I id (ms.map SI.strip) = lastHit I id ms := by
  unfold lastHit
  rw [List.foldl_map]
  congr 1
  funext acc m
  unfold hitStep
  rw [← (SI.strip_remove id m).2]

theorem pruneMap_strip (g : I.M → I.M) (hg : ∀ b, SI.strip (g b) = g (SI.strip b)) :
    ∀ m : List (K × I.M), mapVals SI.strip (pruneMap I g m) = pruneMap I g (mapVals SI.strip m)
  | [] => rfl
  | (k, b) :: rest => by
    have ih := pruneMap_strip g hg rest
    simp only [mapVals, pruneMap, List.map_cons, List.filterMap_cons] at ih ⊢
    rw [← hg, SI.isEmpty_strip]
    cases I.isEmpty (g b) <;> simp [ih]

theorem removeAll_strip (id : String) (m : List (K × I.M)) :
    mapVals SI.strip (removeAll I id m).1 = (removeAll I id (mapVals SI.strip m)).1 ∧
      (removeAll I id m).2 = (removeAll I id (mapVals SI.strip m)).2 := by
  refine ⟨?_, ?_⟩
  · rw [removeAll_fst, removeAll_fst]
    exact pruneMap_strip SI _ (fun b => (SI.strip_remove id b).1) m
  · rw [removeAll_snd, removeAll_snd, mapVals, ← List.map_reverse, List.findSome?_map]
    congr 1; funext e; exact (SI.strip_remove id e.2).2

theorem batchAll_strip (ids : List String) (m : List (K × I.M)) :
    mapVals SI.strip (batchAll I ids m) = batchAll I ids (mapVals SI.strip m) := by
  rw [batchAll_eq, batchAll_eq]; exact pruneMap_strip SI (I.batchRemove ids) (SI.strip_batch ids) m

end

section
variable {K : Type} [DecidableEq K] {I : MOps} (IL : MLaws I) (SI : SLaws I IL.Repr) (keysOf : Route → Option (List K))

theorem cacheAll_strip (level : Nat) : ∀ (m : List (K × I.M)) (limit : Nat),
    (∀ e ∈ m, ∃ L, IL.Repr e.2 L) →
    mapVals SI.strip (cacheAll I level m limit).1 = mapVals SI.strip m
  | [], _, _ => rfl
  | (k, b) :: rest, limit, hr => by
    obtain ⟨L, hL⟩ := hr (k, b) (by simp)
    have ih := cacheAll_strip level rest (I.cache limit level b).2 (fun e he => hr e (by simp [he]))
    simp only [mapVals, cacheAll, List.map_cons] at ih ⊢
    rw [ih, SI.strip_cache b L limit level hL]

theorem bobs_mapVals_strip (q : Req) (m : List (K × I.M)) (hr : ∀ e ∈ m, ∃ L, IL.Repr e.2 L) :
    (mapVals SI.strip m).map (bobs I q) = m.map (bobs I q) := by
  unfold mapVals
  rw [List.map_map]
  apply List.map_congr_left
  intro e he
  obtain ⟨L, hL⟩ := hr e he
  simp only [Function.comp, bobs, SI.strip_len, SI.strip_trace e.2 L q hL]

/-- An outer matcher whose `trace` reads its buckets through `bobs` inherits the laws. -/
def outerSLaws (mr : LState I K → Req → List Route) (tr : LState I K → Req → List Trace)
    (hobs : TraceReadsObs I tr) : SLaws (outerOps I keysOf mr tr) (LRepr IL keysOf) where
  strip := lStrip SI
  strip_empty := by
    show lStrip SI (lEmpty I) = lEmpty I
    simp [lStrip, lEmpty, mapVals, SI.strip_empty]
  strip_insert := by
    intro r (s : LState I K)
    show lStrip SI (lInsert I keysOf r s) = lInsert I keysOf r (lStrip SI s)
    unfold lInsert
    cases keysOf r with
    | none => simp only [lStrip, SI.strip_insert]
    | some ks =>
      simp only [lStrip]
      rw [foldl_aupsert_mapVals SI.strip (I.insert r) I.empty (SI.strip_insert r) SI.strip_empty]
  strip_remove := by
    intro id (s : LState I K)
    show lStrip SI (lRemove I id s).1 = (lRemove I id (lStrip SI s)).1 ∧
      (lRemove I id s).2 = (lRemove I id (lStrip SI s)).2
    obtain ⟨h1, h2⟩ := SI.strip_remove id s.any
    obtain ⟨h3, h4⟩ := removeAll_strip SI id s.map
    unfold lRemove
    simp only [lStrip, ← h2, ← h1, ← h3, ← h4]
    split
    · exact ⟨rfl, rfl⟩
    · exact ⟨rfl, rfl⟩
  strip_batch := by
    intro ids (s : LState I K)
    show lStrip SI (lBatchRemove I ids s) = lBatchRemove I ids (lStrip SI s)
    simp only [lStrip, lBatchRemove, SI.strip_batch, batchAll_strip SI]
  strip_len := fun _ => rfl
  strip_cache := by
    intro (s : LState I K) L limit level (h : LRepr IL keysOf s L)
    show lStrip SI (lCache I limit level s).1 = lStrip SI s
    simp only [lStrip, lCache, SI.strip_cache s.any _ limit level h.any]
    rw [cacheAll_strip IL SI level s.map _ (fun e he => ⟨_, h.some e.1 e.2 (alookup_of_mem h.nodup he)⟩)]
  strip_trace := by
    intro (s : LState I K) L q (h : LRepr IL keysOf s L)
    exact hobs s (lStrip SI s) q (SI.strip_trace s.any _ q h.any)
      (bobs_mapVals_strip IL SI q s.map (fun e he => ⟨_, h.some e.1 e.2 (alookup_of_mem h.nodup he)⟩))

end

section
variable {O : MOps} (OL : MLaws O) (SO : SLaws O OL.Repr)

/-- the router with every cached regex value dropped -/
def stripG (S : RouterG O) : RouterG O := ⟨SO.strip S.matcher, S.routes⟩

theorem stripG_insert (r : Route) (S : RouterG O) :
    stripG OL SO (RouterG.insert O r S) = RouterG.insert O r (stripG OL SO S) := by
  simp only [stripG, RouterG.insert, SO.strip_insert]

theorem stripG_batch (ids : List String) (S : RouterG O) :
    stripG OL SO (RouterG.batchRemove O ids S) = RouterG.batchRemove O ids (stripG OL SO S) := by
  simp only [stripG, RouterG.batchRemove, SO.strip_batch]

theorem stripG_remove (id : String) (S : RouterG O) :
    stripG OL SO (RouterG.remove O id S).1 = (RouterG.remove O id (stripG OL SO S)).1 := by
  unfold RouterG.remove
  by_cases h : (alookup id S.routes).isSome = true
  · simp [stripG, h, (SO.strip_remove id S.matcher).1]
  · simp [stripG, h]

theorem stripG_foldl_insert (rs : List Route) : ∀ S : RouterG O,
    stripG OL SO (rs.foldl (fun S r => RouterG.insert O r S) S) =
      rs.foldl (fun S r => RouterG.insert O r S) (stripG OL SO S) := by
  induction rs with
  | nil => intro S; rfl
  | cons r rs ih => intro S; simp only [List.foldl_cons]; rw [ih, stripG_insert]

theorem stripG_changeSet (a u : List Route) (d : List String) (S : RouterG O) :
    stripG OL SO (RouterG.applyChangeSet O a u d S) = RouterG.applyChangeSet O a u d (stripG OL SO S) := by
  unfold RouterG.applyChangeSet
  simp only [stripG_foldl_insert, stripG_batch]

theorem cacheLoop_strip (L : List Route) (fuel : Nat) (prev : Int) (level retry : Nat) (m : O.M)
    (h : OL.Repr m L) : SO.strip (RouterG.cacheLoop O fuel prev level retry m).1 = SO.strip m :=
  (cacheLoop_inv OL L (fun m' => SO.strip m' = SO.strip m)
    (fun m' limit lv hm' hP => (SO.strip_cache m' L limit lv hm').trans hP) fuel prev level retry m h rfl).2

theorem stripG_cache (S : RouterG O) (L : List Route) (h : OL.Repr S.matcher L) (limit : Option Nat) :
    stripG OL SO (RouterG.cache O limit S) = stripG OL SO S := by
  simp only [stripG, RouterG.cache, cacheLoop_strip OL SO L _ _ _ _ _ h]

theorem stripG_op (op : Op) (hnc : ∀ l, op ≠ .cache l) (S : RouterG O) :
    stripG OL SO (op.runG O S) = op.runG O (stripG OL SO S) := by
  cases op with
  | insert r => exact stripG_insert OL SO r S
  | remove id => exact stripG_remove OL SO id S
  | batchRemove ids => exact stripG_batch OL SO ids S
  | changeSet a u d => exact stripG_changeSet OL SO a u d S
  | cache l => exact absurd rfl (hnc l)

end

theorem SLaws.tcache {I : MOps} (IL : MLaws I) (SI : SLaws I IL.Repr) : TCache I IL.Repr where
  trace_cache m L limit level q h := by
    rw [← SI.strip_trace _ L q (IL.repr_cache m L limit level h), SI.strip_cache m L limit level h,
      SI.strip_trace m L q h]
  len_cache m L limit level h := by
    rw [← SI.strip_len, SI.strip_cache m L limit level h, SI.strip_len]

end Rio.Router
