/-
Helper lemmas for the capture clause of C12 (Props/C12marker.lean).
-/
import RioModel.Model.MarkerCache

namespace Rio.MarkerCache
open Rio.Marker
variable {R : Type} (lib : RegexLib R)

theorem createRegex_compile (r : LazyRegex R) : (r.compile lib).createRegex lib = r.createRegex lib := rfl

theorem compile_consistent (r : LazyRegex R) : (r.compile lib).Consistent lib := Or.inr rfl

theorem regexOf_eq_createRegex (r : LazyRegex R) (h : r.Consistent lib) : r.regexOf lib = r.createRegex lib := by
  unfold LazyRegex.regexOf
  rcases h with h | h
  · simp [h]
  · rw [h]; cases r.createRegex lib <;> rfl

theorem regexOf_compile (r : LazyRegex R) (h : r.Consistent lib) :
    (r.compile lib).regexOf lib = r.regexOf lib := by
  rw [regexOf_eq_createRegex lib _ (compile_consistent lib r), regexOf_eq_createRegex lib r h, createRegex_compile]

/-- Every handle captures in `st'` what it captures in `st`.  `StoreOK` of `st'` rides along because the next step starts
from `st'` and `sim_compileString` needs the consistency of its store (`regexOf_compile`). -/
def Sim (st st' : Store R) : Prop :=
  StoreOK lib st' ∧ ∀ (m : MString) (s : Str), m.captureOn lib st' s = m.captureOn lib st s

theorem Sim.refl (st : Store R) (h : StoreOK lib st) : Sim lib st st := ⟨h, fun _ _ => rfl⟩

theorem Sim.trans {a b c : Store R} (h1 : Sim lib a b) (h2 : Sim lib b c) : Sim lib a c :=
  ⟨h2.1, fun m s => (h2.2 m s).trans (h1.2 m s)⟩

theorem storeOK_set (st : Store R) (i : Nat) (r : LazyRegex R) (h : StoreOK lib st) (hr : r.Consistent lib) :
    StoreOK lib (st.set i r) := by
  intro x hx
  rcases List.mem_or_eq_of_mem_set hx with h1 | h1
  · exact h x h1
  · rw [h1]; exact hr

theorem sim_compileString (st : Store R) (h : StoreOK lib st) (m : MString) : Sim lib st (m.compile lib st).1 := by
  unfold MString.compile
  cases hc : st[m.cell]? with
  | none => exact Sim.refl lib st h
  | some r =>
    have hr : r.Consistent lib := h r (List.mem_of_getElem? hc)
    refine ⟨storeOK_set lib st m.cell _ h (compile_consistent lib r), ?_⟩
    intro m' s
    unfold MString.captureOn
    by_cases hcell : m'.cell = m.cell
    · -- the same cell: a clone (or the string itself) sees the compiled value
      have hlt : m.cell < st.length := (List.getElem?_eq_some_iff.mp hc).1
      rw [hcell, List.getElem?_set_self hlt, hc]
      simp only [regexOf_compile lib r hr]
    · rw [List.getElem?_set_ne (Ne.symm hcell)]

theorem compileString_snd (st : Store R) (m : MString) : (m.compile lib st).2 = true := by
  unfold MString.compile
  split <;> rfl

theorem sim_compileSoD (st : Store R) (h : StoreOK lib st) (x : SoD) : Sim lib st (x.compile lib st).1 := by
  cases x with
  | static s => exact Sim.refl lib st h
  | dynamic m => exact sim_compileString lib st h m

theorem sim_compileRoute (st : Store R) (h : StoreOK lib st) (rt : Route) : Sim lib st (rt.compile lib st).1 := by
  unfold Route.compile
  have h1 := sim_compileSoD lib st h rt.pathAndQuery
  cases hh : rt.host with
  | none => simpa using h1
  | some x =>
    have h2 := sim_compileSoD lib _ h1.1 x
    simpa using Sim.trans lib h1 h2

theorem sim_compileRoutes (st : Store R) (h : StoreOK lib st) (rts : List Route) (left : Int) :
    Sim lib st (compileRoutes lib st rts left) := by
  induction rts generalizing st left with
  | nil => exact Sim.refl lib st h
  | cons rt rest ih =>
    have h1 := sim_compileRoute lib st h rt
    simp only [compileRoutes]
    split
    · exact h1
    · exact Sim.trans lib h1 (ih _ h1.1 _)

theorem sim_op (st : Store R) (h : StoreOK lib st) (op : Op) : Sim lib st (op.run lib st) := by
  cases op with
  | compileString m => exact sim_compileString lib st h m
  | compileSoD x => exact sim_compileSoD lib st h x
  | compileRoute rt => exact sim_compileRoute lib st h rt
  | cacheRoutes rts left => exact sim_compileRoutes lib st h rts left

theorem sim_runOps (st : Store R) (h : StoreOK lib st) (ops : List Op) : Sim lib st (runOps lib st ops) := by
  induction ops generalizing st with
  | nil => exact Sim.refl lib st h
  | cons op rest ih =>
    have h1 := sim_op lib st h op
    exact Sim.trans lib h1 (ih _ h1.1)

end Rio.MarkerCache
