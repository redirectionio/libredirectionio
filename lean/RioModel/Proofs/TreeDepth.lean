/-
Depth of the tree as a function of the stored patterns.

Under the invariant, the node prefixes on a root-to-leaf path are boundary prefixes of the pattern at the bottom, of
strictly increasing length.  So the depth is at most 1 + the number of scanner-boundary positions of some stored pattern
(≤ 2 + its length) – and a chain of patterns each extending the previous one reaches a depth equal to their number.
-/
import RioModel.Proofs.TreeSpec
set_option linter.unusedSectionVars false

namespace Rio.Tree
open Rio.Scan Rio.Regex

variable {ι V : Type} [DecidableEq ι]

theorem depth_empty (ic : Bool) : (Item.empty ic : Item ι V).depth = 0 := by rw [Item.depth]
theorem depth_leaf (rx) (vs : List (ι × V)) : (Item.leaf rx vs).depth = 1 := by rw [Item.depth]
theorem depth_node (rx) (cs : List (Item ι V)) : (Item.node rx cs).depth = 1 + depthL cs := by rw [Item.depth]
theorem depthL_nil : depthL ([] : List (Item ι V)) = 0 := by rw [depthL]
theorem depthL_cons (c : Item ι V) (cs : List (Item ι V)) : depthL (c :: cs) = max c.depth (depthL cs) := by
  rw [depthL]

theorem depthL_attained {cs : List (Item ι V)} (h : cs ≠ []) : ∃ c ∈ cs, depthL cs = c.depth := by
  induction cs with
  | nil => exact absurd rfl h
  | cons c cs ih =>
    rw [depthL_cons]
    by_cases hcs : cs = []
    · subst hcs; exact ⟨c, by simp, by simp [depthL_nil]⟩
    · obtain ⟨d, hd, hde⟩ := ih hcs
      by_cases hle : depthL cs ≤ c.depth
      · exact ⟨c, by simp, by omega⟩
      · exact ⟨d, by simp [hd], by omega⟩

theorem depth_le_depthL {cs : List (Item ι V)} {c : Item ι V} (h : c ∈ cs) : c.depth ≤ depthL cs := by
  induction cs with
  | nil => simp at h
  | cons d cs ih =>
    rw [depthL_cons]
    rcases List.mem_cons.1 h with rfl | h
    · omega
    · have := ih h; omega

/-- Number of scanner-boundary positions `k` of `p` with `lo ≤ k ≤ |p|`. -/
def boundariesFrom (lo : Nat) (p : List Char) : Nat :=
  (List.range (p.length + 1)).countP fun k => decide (lo ≤ k) && (scan b0 (p.take k)).atBoundary

theorem countP_lt_of_extra {α : Type} {l : List α} {p q : α → Bool} (hpq : ∀ x, q x = true → p x = true)
    {a : α} (ha : a ∈ l) (hp : p a = true) (hq : q a = false) : l.countP q + 1 ≤ l.countP p := by
  induction l with
  | nil => simp at ha
  | cons x l ih =>
    simp only [List.countP_cons]
    rcases List.mem_cons.1 ha with rfl | ha'
    · have : l.countP q ≤ l.countP p := List.countP_mono_left fun x _ h => hpq x h
      simp [hp, hq]; omega
    · have := ih ha'
      by_cases hqx : q x = true
      · simp [hqx, hpq x hqx]; omega
      · simp only [Bool.not_eq_true] at hqx
        simp [hqx]; split <;> omega

theorem boundariesFrom_lt {q p : List Char} (hq : BPre q p) {lo' : Nat} (hlt : q.length < lo') :
    boundariesFrom lo' p + 1 ≤ boundariesFrom q.length p := by
  unfold boundariesFrom
  apply countP_lt_of_extra (a := q.length)
  · intro k hk
    simp only [Bool.and_eq_true, decide_eq_true_eq] at hk ⊢
    exact ⟨by omega, hk.2⟩
  · simp only [List.mem_range]; have := hq.length_le; omega
  · simp only [Bool.and_eq_true, decide_eq_true_eq, Nat.le_refl, true_and]
    have : p.take q.length = q := by
      obtain ⟨t, rfl⟩ := hq.1; simp
    rw [this]; exact hq.2
  · simp; omega

theorem boundariesFrom_pos {q p : List Char} (hq : BPre q p) : 1 ≤ boundariesFrom q.length p := by
  have := boundariesFrom_lt hq (Nat.lt_succ_self _)
  omega

theorem boundariesFrom_le_length (lo : Nat) (p : List Char) : boundariesFrom lo p ≤ p.length + 1 := by
  unfold boundariesFrom
  have := List.countP_le_length (p := fun k => decide (lo ≤ k) && (scan b0 (p.take k)).atBoundary)
    (l := List.range (p.length + 1))
  simpa using this

theorem boundariesFrom_anti {lo lo' : Nat} (h : lo ≤ lo') (p : List Char) :
    boundariesFrom lo' p ≤ boundariesFrom lo p := by
  unfold boundariesFrom
  refine List.countP_mono_left fun k _ hk => ?_
  simp only [Bool.and_eq_true, decide_eq_true_eq] at hk ⊢
  exact ⟨by omega, hk.2⟩

theorem contents_ne_nil {ic : Bool} (t : Item ι V) (h : t.inv ic = true) (hne : t.isEmptyCtor = false) :
    t.contents ≠ [] := by
  intro hc
  rw [← isEmpty_iff, inv_not_isEmpty t h hne] at hc
  cases hc

/-- Below an item of depth `d` lies a stored pattern with at least `d - 1` boundary positions from the length of the item's
`regex()` on: each node on the way down to it has a longer prefix, a boundary prefix of that pattern. -/
theorem depth_le_from {ic : Bool} (t : Item ι V) (h : t.inv ic = true) (hne : t.isEmptyCtor = false) :
    ∃ e ∈ t.contents, t.depth ≤ 1 + boundariesFrom t.regex.length e.pat := by
  induction t using Item.ind with
  | hE ic' => cases hne
  | hL rx vs =>
    obtain ⟨e, he⟩ := List.exists_mem_of_ne_nil _ (contents_ne_nil _ h rfl)
    exact ⟨e, he, by rw [depth_leaf]; omega⟩
  | hN rx cs ih =>
    obtain ⟨_, _, _, h4, h5, _, h7⟩ := inv_node_iff.1 h
    obtain ⟨c, hc, hd⟩ := depthL_attained (cs := cs) (by rintro rfl; simp at h4)
    obtain ⟨e, he, hle⟩ := ih c hc (h7 c hc) (childOk_notEmpty (h5 c hc))
    have hmem := mem_contents_node (rx := rx) hc he
    have hbe : BPre rx.original e.pat := inv_below h e (by simpa using hmem)
    refine ⟨e, hmem, ?_⟩
    rw [depth_node, hd, regex_node]
    cases hn : c.isNode with
    | true => have := boundariesFrom_lt hbe (childOk_lt (h5 c hc) hn); omega
    | false =>
      -- a leaf child may carry the node prefix itself as its pattern: the boundary at `|q|` pays for its level
      have : c.depth ≤ 1 := by
        cases c with
        | empty _ => rw [depth_empty]; omega
        | leaf _ _ => rw [depth_leaf]; omega
        | node _ _ => cases hn
      have := boundariesFrom_pos hbe; omega

theorem depth_le_boundaries {ic : Bool} (t : Item ι V) (h : t.inv ic = true) (hne : t.contents ≠ []) :
    ∃ e ∈ t.contents, t.depth ≤ 1 + boundariesFrom 0 e.pat ∧ t.depth ≤ 2 + e.pat.length := by
  have hne' : t.isEmptyCtor = false := by
    cases t with
    | empty _ => exact absurd (contents_empty _) hne
    | _ => rfl
  obtain ⟨e, he, hle⟩ := depth_le_from t h hne'
  have := boundariesFrom_anti (Nat.zero_le t.regex.length) e.pat
  have := boundariesFrom_le_length 0 e.pat
  exact ⟨e, he, by omega, by omega⟩

def chainPat (n : Nat) : List Char := List.replicate n 'a'

theorem step_a : b0.step 'a' = b0 := by decide

theorem chainPat_length (n : Nat) : (chainPat n).length = n := by simp [chainPat]

/-- In `aᵐ` every position is a scanner boundary, so the shorter of two such patterns is a boundary prefix of the longer. -/
theorem chainPat_bpre {k m : Nat} (h : k ≤ m) : BPre (chainPat k) (chainPat m) := by
  refine ⟨⟨chainPat (m - k), ?_⟩, ?_⟩
  · rw [chainPat, chainPat, List.replicate_append_replicate, Nat.add_sub_cancel' h]; rfl
  · have : scan b0 (chainPat k) = b0 := by
      induction k with
      | zero => rfl
      | succ k ih => rw [chainPat, List.replicate_succ, scan_cons, step_a]; exact ih (by omega)
    rw [this]; rfl

theorem cpcs_chain (m k : Nat) : commonPrefixCharSize (chainPat m) (chainPat k) = min m k := by
  rcases Nat.le_total k m with h | h
  · rw [cpcs_eq_of_bpre (chainPat_bpre h), chainPat_length]; omega
  · rw [cpcs_comm, cpcs_eq_of_bpre (chainPat_bpre h), chainPat_length]; omega

theorem chainPat_inj {m k : Nat} (h : chainPat m = chainPat k) : m = k := by
  have := congrArg List.length h; simpa [chainPat_length] using this

theorem commonPrefix_chain (m k : Nat) (h : m ≤ k) : commonPrefix (chainPat m) (chainPat k) = chainPat m := by
  rw [commonPrefix_eq, cpcs_chain, Nat.min_eq_left h]
  simp [chainPat]

/-- The tree holding `aⁱ, …, aⁿ` (ids and values = the exponent): a spine of nodes `aⁱ`, each with the leaf `aⁱ` and the rest. -/
def chainFrom (ic : Bool) : Nat → Nat → Item Nat Nat
  | 0, i => .leaf (LazyRegex.newLeaf (chainPat i) ic) [(i, i)]
  | d + 1, i =>
    .node (LazyRegex.newNode (chainPat i) ic)
      [.leaf (LazyRegex.newLeaf (chainPat i) ic) [(i, i)], chainFrom ic d (i + 1)]

theorem chainFrom_regex (ic : Bool) (d i : Nat) : (chainFrom ic d i).regex = chainPat i := by
  cases d <;> simp [chainFrom]

theorem chainFrom_depth (ic : Bool) (d i : Nat) : (chainFrom ic d i).depth = d + 1 := by
  induction d generalizing i with
  | zero => simp [chainFrom, depth_leaf]
  | succ d ih =>
    rw [chainFrom, depth_node, depthL_cons, depthL_cons, depthL_nil, depth_leaf, ih]; omega

theorem chainFrom_insert (ic : Bool) (d i : Nat) :
    (chainFrom ic d i).insert (chainPat (d + i + 1)) (d + i + 1) (d + i + 1) = chainFrom ic (d + 1) i := by
  induction d generalizing i with
  | zero =>
    simp only [chainFrom, Nat.zero_add]
    rw [insert_leaf]; unfold leafInsert
    have hne' : ¬ chainPat (i + 1) = chainPat i := by intro e; have := chainPat_inj e; omega
    simp only [if_false, newLeaf_original, newLeaf_ic, commonPrefix_chain i (i + 1) (by omega), hne']
  | succ d ih =>
    have hlen : (LazyRegex.newNode (chainPat i) ic).original.length = i := by simp [chainPat_length]
    have hsplit : ¬ commonPrefixCharSize (chainPat (d + 1 + i + 1)) (LazyRegex.newNode (chainPat i) ic).original
        < (LazyRegex.newNode (chainPat i) ic).original.length := by
      rw [hlen, newNode_original, cpcs_chain]; omega
    -- the leaf `aⁱ` shares no more than the node prefix with the new pattern, the spine below shares `i + 1`: it is selected
    have hsel : selLoop (chainPat (d + 1 + i + 1))
        (List.map Item.regex [Item.leaf (LazyRegex.newLeaf (chainPat i) ic) [(i, i)], chainFrom ic d (i + 1)]) 0
        (LazyRegex.newNode (chainPat i) ic).original.length none = some 1 := by
      rw [hlen]
      simp only [List.map_cons, List.map_nil, regex_leaf, newLeaf_original, chainFrom_regex, selLoop, cpcs_chain]
      have h1 : ¬ (min (d + 1 + i + 1) i > i) := by omega
      have h2 : (chainPat i == chainPat (d + 1 + i + 1)) = false := by
        rw [beq_eq_false_iff_ne]; intro e; have := chainPat_inj e; omega
      simp [h1, h2]
    conv => lhs; rw [chainFrom]
    rw [insert_node_some hsplit hsel]
    have hidx : d + 1 + i + 1 = d + (i + 1) + 1 := by omega
    simp only [insertAt, List.nil_append]
    rw [hidx, ih (i + 1)]
    conv => rhs; rw [chainFrom]

def chainOps (n : Nat) : List (Op Nat Nat) := (List.range n).map fun i => .insert (chainPat (i + 1)) (i + 1) (i + 1)

theorem chainOps_succ (n : Nat) :
    chainOps (n + 1) = chainOps n ++ [.insert (chainPat (n + 1)) (n + 1) (n + 1)] := by
  simp [chainOps, List.range_succ]

theorem treeRun_append (E : Engine) (t : Item ι V) (a b : List (Op ι V)) :
    treeRun E t (a ++ b) = (treeRun E t a).bind fun t' => treeRun E t' b := by
  induction a generalizing t with
  | nil => simp [treeRun]
  | cons op a ih =>
    simp only [List.cons_append, treeRun]
    cases treeStep E t op with
    | none => simp
    | some t' => simp [ih]

theorem chain_tree (E : Engine) (ic : Bool) (n : Nat) :
    treeRun E (.empty ic) (chainOps (n + 1)) = some (chainFrom ic n 1) := by
  induction n with
  | zero => simp [chainOps, treeRun, treeStep, insert_empty, newLeafItem, chainFrom]
  | succ n ih =>
    rw [chainOps_succ, treeRun_append, ih]
    simp only [Option.bind_some, treeRun, treeStep]
    rw [chainFrom_insert ic n 1]

end Rio.Tree
