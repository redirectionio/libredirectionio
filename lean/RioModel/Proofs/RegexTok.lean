/-
Rule-shaped patterns.  The real-syntax splitter `tokTop` recovers good tokens from their rendering, and a scanner
boundary inside a rendered good token list is a token boundary (`bpre_render`), so every prefix the tree can cut is
itself the rendering of a token prefix.  Hence, for every meaning `G` of group bodies, the engine `engineOf G`
satisfies on `GoodPat` the law the tree needs from the engine (`prefixSound_engineOf`).
-/
import RioModel.Proofs.Regex
import RioModel.Proofs.Scan
import RioModel.Proofs.TreeSpec  -- for the definition `PrefixSound` alone

namespace Rio.Regex
open Rio.Scan

theorem not_meta {c : Char} (h : isMeta c = false) : c ≠ '\\' ∧ c ≠ '(' ∧ c ≠ ')' := by
  refine ⟨?_, ?_, ?_⟩ <;> rintro rfl <;> cases h

theorem render_lit_meta {c : Char} (h : isMeta c = true) : (Tok.lit c).render = ['\\', c] := if_pos h

theorem render_lit_plain {c : Char} (h : isMeta c = false) : (Tok.lit c).render = [c] :=
  if_neg (Bool.eq_false_iff.1 h)

theorem tokTop_nil : tokTop [] = some [] := by rw [tokTop]

theorem tokTop_esc (d : Char) (rest : List Char) :
    tokTop ('\\' :: d :: rest) = if isMeta d then (tokTop rest).map (Tok.lit d :: ·) else none := by
  rw [tokTop.eq_def]; rfl

theorem tokTop_open (rest : List Char) : tokTop ('(' :: rest) = tokGrp rest 1 false [] := by
  rw [tokTop.eq_def]; rfl

theorem tokTop_plain {c : Char} (h : isMeta c = false) (rest : List Char) :
    tokTop (c :: rest) = (tokTop rest).map (Tok.lit c :: ·) := by
  rw [tokTop.eq_def]; simp [not_meta h, h]

theorem tokGrp_esc (d : Char) (rest : List Char) (depth : Nat) (inCls : Bool) (acc : List Char) :
    tokGrp ('\\' :: d :: rest) depth inCls acc = tokGrp rest depth inCls (d :: '\\' :: acc) := by
  rw [tokGrp.eq_def]; rfl

theorem tokGrp_cons {c : Char} (h : c ≠ '\\') (rest : List Char) (depth : Nat) (inCls : Bool) (acc : List Char) :
    tokGrp (c :: rest) depth inCls acc =
      if inCls then tokGrp rest depth (c != ']') (c :: acc)
      else if c = '[' then tokGrp rest depth true (c :: acc)
      else if c = '(' then tokGrp rest (depth + 1) false (c :: acc)
      else if c = ')' then
        if depth ≤ 1 then (tokTop rest).map (Tok.grp acc.reverse :: ·)
        else tokGrp rest (depth - 1) false (c :: acc)
      else tokGrp rest depth false (c :: acc) := by
  rw [tokGrp.eq_def]; simp [h]

theorem tokGrp_gscan {body : List Char} {d : Nat} {k : Bool} {d' : Nat} {k' : Bool}
    (h : gscan body d k = some (d', k')) (rest acc : List Char) :
    tokGrp (body ++ rest) d k acc = tokGrp rest d' k' (body.reverse ++ acc) := by
  -- the branches of `gscan` in its order: end, dangling `\`, escape, in a class, `[`, `(`, closing `)`, inner `)`, other
  fun_induction gscan body d k generalizing acc with
  | case1 => cases h; rfl
  | case2 | case7 => cases h
  | case3 d k c body ih =>
    rw [List.cons_append, List.cons_append, tokGrp_esc]; simpa using ih h (c :: '\\' :: acc)
  | case4 c body d hc ih =>
    rw [List.cons_append, tokGrp_cons hc, if_pos rfl]; simpa using ih h (c :: acc)
  | case5 body d k hk hc ih =>
    rw [List.cons_append, tokGrp_cons hc, if_neg hk, if_pos rfl]; simpa using ih h _
  | case6 body d k hk hc h1 ih =>
    rw [List.cons_append, tokGrp_cons hc, if_neg hk, if_neg h1, if_pos rfl]; simpa using ih h _
  | case8 body d k hk hd hc h1 h2 ih =>
    rw [List.cons_append, tokGrp_cons hc, if_neg hk, if_neg h1, if_neg h2, if_pos rfl, if_neg hd]; simpa using ih h _
  | case9 c body d k hc hk h1 h2 h3 ih =>
    rw [List.cons_append, tokGrp_cons hc, if_neg hk, if_neg h1, if_neg h2, if_neg h3]; simpa using ih h _

theorem tokTop_render_tok {t : Tok} (h : t.good = true) (rest : List Char) :
    tokTop (t.render ++ rest) = (tokTop rest).map (t :: ·) := by
  cases t with
  | lit c =>
    cases hm : isMeta c with
    | true => rw [render_lit_meta hm, List.cons_append, List.cons_append, tokTop_esc, if_pos hm]; rfl
    | false => rw [render_lit_plain hm, List.cons_append, tokTop_plain hm]; rfl
  | grp b =>
    simp only [Tok.good, Bool.and_eq_true, realClosed, beq_iff_eq] at h
    simp only [Tok.render, List.cons_append, List.append_assoc]
    rw [tokTop_open, tokGrp_gscan h.1, tokGrp_cons (by decide)]
    simp

theorem render_cons (t : Tok) (ts : List Tok) : render (t :: ts) = t.render ++ render ts := by
  simp [render]

theorem render_append (a b : List Tok) : render (a ++ b) = render a ++ render b := by
  simp [render]

theorem tok_render_ne_nil (t : Tok) : t.render ≠ [] := by
  cases t with
  | lit c => simp only [Tok.render]; split <;> simp
  | grp b => simp [Tok.render]

theorem tokTop_render {ts : List Tok} (h : ∀ t ∈ ts, t.good = true) (rest : List Char) :
    tokTop (render ts ++ rest) = (tokTop rest).map (ts ++ ·) := by
  induction ts with
  | nil => simp [render]
  | cons t ts ih =>
    rw [render_cons, List.append_assoc, tokTop_render_tok (h t (by simp)), ih fun t' ht' => h t' (by simp [ht'])]
    cases tokTop rest <;> simp

theorem tokTop_render' {ts : List Tok} (h : ∀ t ∈ ts, t.good = true) : tokTop (render ts) = some ts := by
  have := tokTop_render h []
  simpa [tokTop_nil] using this

theorem goodPatB_iff (p : List Char) : goodPatB p = true ↔ GoodPat p := by
  unfold goodPatB GoodPat
  constructor
  · intro h
    split at h
    · next ts _ =>
      simp only [Bool.and_eq_true, List.all_eq_true, beq_iff_eq] at h
      exact ⟨ts, h.2.symm, h.1⟩
    · simp at h
  · rintro ⟨ts, rfl, hg⟩
    rw [tokTop_render' hg]
    simp only [Bool.and_eq_true, List.all_eq_true, beq_self_eq_true, and_true]
    exact hg

theorem closedFrom_single (s : St) (c : Char) : closedFrom s [c] = (s.step c == b0) := by
  rw [closedFrom]

theorem closedFrom_cons2 (s : St) (c d : Char) (rest : List Char) :
    closedFrom s (c :: d :: rest) = (!(s.step c).atBoundary && closedFrom (s.step c) (d :: rest)) := by
  rw [closedFrom]; simp

theorem closedFrom_spec {cs : List Char} {s : St} (h : closedFrom s cs = true) :
    scan s cs = b0 ∧ ∀ u, u <+: cs → u ≠ [] → u ≠ cs → (scan s u).atBoundary = false := by
  induction cs generalizing s with
  | nil => simp [closedFrom] at h
  | cons c rest ih =>
    cases rest with
    | nil =>
      rw [closedFrom_single] at h
      refine ⟨by simpa using h, fun u hu h0 hne => ?_⟩
      obtain ⟨u', rfl, hu'⟩ := (List.prefix_cons_iff.1 hu).resolve_left h0
      exact absurd (by rw [List.prefix_nil.1 hu']) hne
    | cons d rest' =>
      rw [closedFrom_cons2] at h
      simp only [Bool.and_eq_true, Bool.not_eq_true'] at h
      obtain ⟨h1, h2⟩ := ih h.2
      refine ⟨h1, fun u hu h0 hne => ?_⟩
      obtain ⟨u', rfl, hu'⟩ := (List.prefix_cons_iff.1 hu).resolve_left h0
      by_cases hn : u' = []
      · rw [hn]; exact h.1
      · exact h2 u' hu' hn fun e => hne (by rw [e])

theorem tok_closed {t : Tok} (h : t.good = true) : closedFrom b0 t.render = true := by
  cases t with
  | lit c =>
    cases hm : isMeta c with
    | true => rw [render_lit_meta hm, closedFrom_cons2, closedFrom_single]; simp [St.step, b0, St.atBoundary]
    | false => rw [render_lit_plain hm, closedFrom_single]; simp [St.step, b0, not_meta hm]
  | grp b =>
    simp only [Tok.good, Bool.and_eq_true] at h
    exact h.2

theorem bpre_render {ts : List Tok} (hg : ∀ t ∈ ts, t.good = true) {q : List Char}
    (hb : BPre q (render ts)) : ∃ pre suf, ts = pre ++ suf ∧ q = render pre := by
  induction ts generalizing q with
  | nil => exact ⟨[], [], rfl, List.prefix_nil.1 hb.1⟩
  | cons t ts ih =>
    obtain ⟨hend, hin⟩ := closedFrom_spec (tok_closed (hg t (by simp)))
    rw [render_cons] at hb
    by_cases h0 : q = []
    · exact ⟨[], t :: ts, rfl, h0⟩
    by_cases hq : t.render <+: q
    · obtain ⟨q', rfl⟩ := hq
      have hsc := hb.2
      rw [scan_append, hend] at hsc
      obtain ⟨pre, suf, rfl, rfl⟩ := ih (fun t' ht' => hg t' (by simp [ht'])) ⟨(List.prefix_append_right_inj _).1 hb.1, hsc⟩
      exact ⟨t :: pre, suf, rfl, (render_cons t pre).symm⟩
    · -- `q` ends strictly inside the first token
      have hq' := (List.prefix_or_prefix_of_prefix hb.1 (List.prefix_append _ _)).resolve_right hq
      have := hin q hq' h0 fun e => hq (e ▸ List.prefix_refl _)
      rw [hb.2] at this; cases this

theorem mapOpt_append {α β : Type} (f : α → Option β) (a b : List α) :
    mapOpt f (a ++ b) = (mapOpt f a).bind fun ra => (mapOpt f b).map (ra ++ ·) := by
  induction a with
  | nil => simp [mapOpt]
  | cons x a ih =>
    simp only [List.cons_append, mapOpt, ih]
    cases f x <;> cases mapOpt f a <;> cases mapOpt f b <;> rfl

theorem compileStr_render (G : List Char → Option Re) {ts : List Tok} (hg : ∀ t ∈ ts, t.good = true) :
    compileStr G (render ts) = (mapOpt (Tok.re G) ts).map catAll := by
  simp [compileStr, tokTop_render' hg]

theorem prefixSound_engineOf (G : List Char → Option Re) : Rio.Tree.PrefixSound (engineOf G) GoodPat := by
  intro ic p q s hgood hq hb hfull
  obtain ⟨ts, rfl, hg⟩ := hgood
  obtain ⟨pre, suf, rfl, rfl⟩ := bpre_render hg hb
  have hgpre : ∀ t ∈ pre, t.good = true := fun t ht => hg t (by simp [ht])
  simp only [engineOf, compileStr_render G hg, compileStr_render G hgpre, mapOpt_append] at hfull ⊢
  -- both parts compile, and a word of the concatenation starts with a word of its first part
  cases h1 : mapOpt (Tok.re G) pre with
  | none => simp [h1] at hfull
  | some ra =>
    cases h2 : mapOpt (Tok.re G) suf with
    | none => simp [h1, h2] at hfull
    | some rb =>
      simp only [h1, h2, Option.bind_some, Option.map_some, fmatch_iff, lang_catAll_append] at hfull
      obtain ⟨u, v, e, hu, _⟩ := hfull
      exact (pmatch_iff _ _).2 ⟨u, v, e, hu⟩

end Rio.Regex
