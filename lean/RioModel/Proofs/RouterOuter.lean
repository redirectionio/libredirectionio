/-
Router proofs: `outerLaws` assembles the laws of an outer layer from the shared lemmas of
RouterGeneric.lean and the three layer-specific facts (membership / duplicate-freedom of
`match_request`, routes of `trace`); the two condition-group layers (DateTime, Header) get theirs
from the soundness of the per-request memo.
-/
import RioModel.Proofs.RouterGeneric

namespace Rio.Router

section
variable {K : Type} [DecidableEq K] {I : MOps}

def outerLaws (IL : MLaws I) (keysOf : Route → Option (List K))
    (matchReq : LState I K → Req → List Route) (trace : LState I K → Req → List Trace)
    (sat : List Route → Route → Req → Bool)
    (sat_congr : ∀ L L' r q, (∀ x, x ∈ L ↔ x ∈ L') → sat L r q = sat L' r q)
    (mem_match : ∀ s L q r, LRepr IL keysOf s L → UIds L →
      (r ∈ matchReq s q ↔ r ∈ L ∧ sat L r q = true))
    (nodup_match : ∀ s L q, LRepr IL keysOf s L → UIds L → (matchReq s q).Nodup)
    (mem_trace : ∀ s L q r, LRepr IL keysOf s L → UIds L →
      (r ∈ rawRoutesOfList (trace s q) ↔ r ∈ matchReq s q)) :
    MLaws (outerOps I keysOf matchReq trace) where
  Repr := LRepr IL keysOf
  sat := sat
  wf := lWf IL keysOf
  okIns := IL.okIns
  sat_congr := sat_congr
  repr_empty := lrepr_empty IL keysOf
  repr_congr := fun s L L' h hs hm => lrepr_congr IL keysOf s L L' h hs hm
  len_zero := fun s L h h0 => lrepr_len_zero IL keysOf s L h h0
  repr_insert := fun s L r h hU hok => lrepr_insert IL keysOf s L r h hU hok
  repr_remove := fun s L id h hU => lrepr_remove IL keysOf s L id h hU
  remove_some := fun s L id r h hU hr hwf hid => lremove_some IL keysOf s L id r h hU hr hwf hid
  remove_none := fun s L id h hno => lremove_none IL keysOf s L id h hno
  remove_pos := fun s L id h hs => lremove_pos IL keysOf s L id h hs
  repr_batch := fun s L ids h => lrepr_batch IL keysOf s L ids h
  repr_cache := fun s L limit level h => lrepr_cache IL keysOf s L limit level h
  cache_le := fun s limit level => lcache_le IL s limit level
  mem_match := mem_match
  nodup_match := nodup_match
  mem_trace := mem_trace

/-- The bucket half of a layer's `mem_trace`: the routes traced in the buckets whose key accepts `q` are the routes
`lMatchMap` finds, bucket by bucket by the inner layer's `mem_trace`. -/
theorem mem_trace_buckets (IL : MLaws I) (keysOf : Route → Option (List K)) (accepts : K → Req → Bool)
    (s : LState I K) (L : List Route) (h : LRepr IL keysOf s L) (hU : UIds L) (q : Req) (r : Route) :
    (∃ e ∈ s.map, accepts e.1 q = true ∧ r ∈ rawRoutesOfList (I.trace e.2 q)) ↔
      r ∈ lMatchMap I accepts s.map q := by
  rw [lMatchMap, mem_flatMap_ite]
  exact exists_congr fun e => and_congr_right fun he => and_congr_right fun _ =>
    IL.mem_trace _ _ q r (h.bucket he) (hU.filter _)

theorem key_of_bucket_trace (IL : MLaws I) (keysOf : Route → Option (List K))
    (s : LState I K) (L : List Route) (h : LRepr IL keysOf s L) (hU : UIds L) (q : Req) (r : Route)
    (e : K × I.M) (he : e ∈ s.map) (hr : r ∈ rawRoutesOfList (I.trace e.2 q)) : e.1 ∈ keysL keysOf r :=
  ((mem_bucketMatch IL keysOf s L h hU q r he).1
    ((IL.mem_trace _ _ q r (h.bucket he) (hU.filter _)).1 hr)).1.2

end

section
variable {C : Type} [DecidableEq C] {I : MOps} (eval : C → Bool)

/-- `execute_conditions`, the per-request `BTreeMap` of `match_request` / `trace`, as an association list: every recorded
answer is the condition's value. -/
def MemoSound (memo : List (C × Bool)) : Prop := ∀ c b, alookup c memo = some b → b = eval c

theorem memoSound_nil : MemoSound eval [] := by intro c b h; simp at h

theorem memoSound_cons (memo : List (C × Bool)) (c : C) (h : MemoSound eval memo) :
    MemoSound eval ((c, eval c) :: memo) := by
  intro c' b hl
  rw [alookup_cons] at hl
  by_cases e : c = c'
  · simp only [e, if_true, Option.some.injEq] at hl; rw [← hl]
  · simp only [e, if_false] at hl; exact h c' b hl

theorem evalGroup_spec (cs : List C) : ∀ memo, MemoSound eval memo →
    (evalGroup eval cs memo).1 = cs.all eval ∧ MemoSound eval (evalGroup eval cs memo).2 := by
  induction cs with
  | nil => intro memo h; exact ⟨rfl, h⟩
  | cons c cs ih =>
    intro memo h
    -- hit or miss, the condition's result is `eval c` and the memo stays sound
    have step : ∃ memo', MemoSound eval memo' ∧
        evalGroup eval (c :: cs) memo = if !eval c then (false, memo') else evalGroup eval cs memo' := by
      simp only [evalGroup]
      cases hl : alookup c memo with
      | none => exact ⟨_, memoSound_cons eval memo c h, rfl⟩
      | some b => rw [h c b hl]; exact ⟨memo, h, rfl⟩
    obtain ⟨memo', h', e⟩ := step
    rw [e, List.all_cons]
    cases eval c
    · exact ⟨rfl, h'⟩
    · exact ih memo' h'

theorem matchGroups_eq (q : Req) (m : List (List C × I.M)) :
    ∀ memo rules, MemoSound eval memo →
      matchGroups I eval q m memo rules =
        rules ++ m.flatMap (fun e => if e.1.all eval then I.matchReq e.2 q else []) := by
  induction m with
  | nil => intro memo rules _; simp [matchGroups]
  | cons a m ih =>
    obtain ⟨cs, b⟩ := a
    intro memo rules h
    have sp := evalGroup_spec eval cs memo h
    simp only [matchGroups, List.flatMap_cons]
    rw [ih _ _ sp.2, sp.1]
    cases hc : cs.all eval <;> simp

/-- Stated at `matched = executed` (the same `m` twice): `trace` enters the loop with both `true` and sets
`executed = matched` at the end of every turn. -/
theorem traceGroup_spec (cs : List C) : ∀ memo (m : Bool), MemoSound eval memo →
    (traceGroup eval cs m m memo).1 = (m && cs.all eval) ∧
      MemoSound eval (traceGroup eval cs m m memo).2 := by
  induction cs with
  | nil => intro memo m h; simp [traceGroup, h]
  | cons c cs ih =>
    intro memo m h
    -- hit or miss, `matched` becomes `m && eval c`; an entry is written only while `matched` (= `executed`) holds
    have step : ∃ memo', MemoSound eval memo' ∧
        traceGroup eval (c :: cs) m m memo = traceGroup eval cs (m && eval c) (m && eval c) memo' := by
      simp only [traceGroup]
      cases hl : alookup c memo with
      | none =>
        cases m
        · exact ⟨memo, h, rfl⟩
        · exact ⟨_, memoSound_cons eval memo c h, by simp⟩
      | some b => rw [h c b hl]; exact ⟨memo, h, rfl⟩
    obtain ⟨memo', h', e⟩ := step
    rw [e, List.all_cons, ← Bool.and_assoc]
    exact ih memo' _ h'

theorem traceGroups_routes (q : Req) (kind : String) (m : List (List C × I.M)) (r : Route) :
    ∀ memo traces, MemoSound eval memo →
      (r ∈ rawRoutesOfList (traceGroups I eval q kind m memo traces) ↔
        r ∈ rawRoutesOfList traces ∨
          ∃ e ∈ m, e.1.all eval = true ∧ r ∈ rawRoutesOfList (I.trace e.2 q)) := by
  induction m with
  | nil => intro memo traces _; simp [traceGroups]
  | cons a m ih =>
    obtain ⟨cs, b⟩ := a
    intro memo traces h
    have sp := traceGroup_spec eval cs memo true h
    simp only [traceGroups]
    rw [ih _ _ sp.2, sp.1, rawRoutesOfList_append, rawRoutesOfList_singleton, List.mem_append,
      Bool.true_and, mem_raw_guardNode]
    simp only [List.mem_cons, exists_eq_or_imp, or_assoc]

end

section
variable {C : Type} [DecidableEq C] {I : MOps} (IL : MLaws I)
  (keysOf : Route → Option (List (List C))) (ev : C → Req → Bool)

/-- A key of `condition_groups` is the group's set of conditions; it accepts `q` when every condition holds. -/
def groupAccepts (k : List C) (q : Req) : Bool := k.all (fun c => ev c q)

/-- `DateTime.matchReq I` / `Header.matchReq E I` of the model are this at `DCond.eval` / `HCond.eval E`, and their `trace`s
`groupTrace`, by unfolding: hence `dateTimeLaws` / `headerLaws` type-check as `groupLaws`. -/
def groupMatch (s : LState I (List C)) (q : Req) : List Route :=
  matchGroups I (fun c => ev c q) q s.map [] (I.matchReq s.any q)

def groupTrace (kind : String) (s : LState I (List C)) (q : Req) : List Trace :=
  traceGroups I (fun c => ev c q) q kind s.map [] (I.trace s.any q)

theorem groupMatch_eq (s : LState I (List C)) (q : Req) :
    groupMatch ev s q = I.matchReq s.any q ++ lMatchMap I (groupAccepts ev) s.map q := by
  unfold groupMatch
  rw [matchGroups_eq (fun c => ev c q) q s.map [] _ (memoSound_nil _)]
  rfl

/-- a route of a group layer has at most one key -/
def SingleKey : Prop := ∀ r, (keysL keysOf r).length ≤ 1

theorem singleAccept_of_singleKey {K : Type} (keysOf : Route → Option (List K))
    (accepts : K → Req → Bool) (h : ∀ r, (keysL keysOf r).length ≤ 1) :
    SingleAccept keysOf accepts := by
  intro r q k1 k2 h1 h2 _ _
  have := h r
  match hk : keysL keysOf r, this with
  | [], _ => rw [hk] at h1; simp at h1
  | [k], _ =>
    rw [hk] at h1 h2
    simp at h1 h2
    rw [h1, h2]

/-- The laws of a condition-group layer: `outerLaws` at `groupMatch` / `groupTrace`.  The three `by` blocks are its arguments
`mem_match`, `nodup_match`, `mem_trace`, in that order; `hsk` (at most one key per route) serves `nodup_match`. -/
def groupLaws (kind : String) (hsk : ∀ r, (keysL keysOf r).length ≤ 1) :
    MLaws (outerOps I keysOf (groupMatch ev) (groupTrace ev kind)) :=
  outerLaws IL keysOf (groupMatch ev) (groupTrace ev kind)
    (lSat IL keysOf (groupAccepts ev))
    (fun L L' r q h => lSat_congr IL keysOf (groupAccepts ev) L L' r q h)
    (by
      intro s L q r h hU
      rw [groupMatch_eq, List.mem_append]
      exact mem_lMatch IL keysOf (groupAccepts ev) s L h hU q r)
    (by
      intro s L q h hU
      rw [groupMatch_eq]
      exact nodup_lMatch IL keysOf (groupAccepts ev)
        (singleAccept_of_singleKey keysOf _ hsk) s L h hU q)
    (by
      intro s L q r h hU
      rw [groupMatch_eq, List.mem_append]
      unfold groupTrace
      rw [traceGroups_routes (fun c => ev c q) q kind s.map r [] _ (memoSound_nil _),
        mem_any_trace IL keysOf s L h hU q r]
      have := mem_trace_buckets IL keysOf (groupAccepts ev) s L h hU q r
      rw [← this]
      rfl)

end
end Rio.Router
