/-
Round-trip lemmas, type by type, for the serde representation modelled in Model/JsonAction.lean.
-/
import RioModel.Model.JsonAction
import RioModel.Proofs.Json

namespace Rio.Json

/- every object below is a literal: fields are read by walking it (see Proofs/Json.lean) -/
attribute [local simp] reqField_eq optField_eq defaultField_eq Found.elim_one Found.elim_missing find_nil
  find_cons_self find_cons_ne

theorem headerFilter_roundtrip (f : HeaderFilter) : deHeaderFilter (serHeaderFilter f) = some f := by
  simp [deHeaderFilter, serHeaderFilter]

theorem htmlBodyFilter_roundtrip (f : HtmlBodyFilter) :
    deHtmlBodyFilter (serHtmlBodyFilter f) = some f := by
  simp [deHtmlBodyFilter, serHtmlBodyFilter]

@[simp] theorem textAction_ofName_name (a : TextAction) : TextAction.ofName a.name = some a := by
  cases a <;> simp [TextAction.ofName, TextAction.name]

theorem textBodyFilter_roundtrip (f : TextBodyFilter) :
    deTextBodyFilter (serTextBodyFilter f) = some f := by
  simp [deTextBodyFilter, serTextBodyFilter, deTextAction]

/-- An HTML filter's JSON has no `content` key, which `TextBodyFilter` requires. -/
theorem deText_serHtml (h : HtmlBodyFilter) : deTextBodyFilter (serHtmlBodyFilter h) = none := by
  simp [deTextBodyFilter, serHtmlBodyFilter]

/-- A text filter's JSON has no `value` and no `element_tree`. -/
theorem deHtml_serText (t : TextBodyFilter) : deHtmlBodyFilter (serTextBodyFilter t) = none := by
  simp [deHtmlBodyFilter, serTextBodyFilter]

theorem depth_serOption_str (o : Option String) : depth (serOption .str o) = 0 := by
  cases o <;> simp [serOption, depth]

theorem depthList_str (l : List String) : depthList (l.map .str) = 0 := by
  induction l with
  | nil => simp [depthList]
  | cons a t ih => simp [depthList, depth, ih]

theorem depth_serBodyFilter_le (f : BodyFilter) : depth (serBodyFilter f) ≤ 2 := by
  cases f with
  | text t =>
    simp [serBodyFilter, serTextBodyFilter, depth, depthFields, depth_serOption_str]
  | html h =>
    simp [serBodyFilter, serHtmlBodyFilter, depth, depthFields, depth_serOption_str, serVec,
      depthList_str]

theorem hasJunk_serOption_str (o : Option String) : hasJunk (serOption .str o) = false := by
  cases o <;> simp [serOption, hasJunk]

theorem hasJunkList_str (l : List String) : hasJunkList (l.map .str) = false := by
  induction l with
  | nil => simp [hasJunkList]
  | cons a t ih => simp [hasJunkList, hasJunk, ih]

theorem hasJunk_serBodyFilter (f : BodyFilter) : hasJunk (serBodyFilter f) = false := by
  cases f with
  | text t =>
    simp [serBodyFilter, serTextBodyFilter, hasJunk, hasJunkFields, hasJunk_serOption_str]
  | html h =>
    simp [serBodyFilter, serHtmlBodyFilter, hasJunk, hasJunkFields, hasJunk_serOption_str, serVec,
      hasJunkList_str]

theorem bodyFilter_roundtrip (base : Nat) (hb : base + 2 ≤ recursionLimit) (f : BodyFilter) :
    deBodyFilter base (serBodyFilter f) = some f := by
  have hd := depth_serBodyFilter_le f
  have hlim : ¬ (base + depth (serBodyFilter f) > recursionLimit) := by omega
  unfold deBodyFilter
  simp only [hasJunk_serBodyFilter, Bool.false_or, decide_eq_true_eq, if_neg hlim]
  cases f with
  | text t => simp [serBodyFilter, textBodyFilter_roundtrip]
  | html h => simp [serBodyFilter, deText_serHtml, htmlBodyFilter_roundtrip]

theorem statusCodeUpdate_roundtrip (s : StatusCodeUpdate) :
    deStatusCodeUpdate (serStatusCodeUpdate s) = some s := by
  simp [deStatusCodeUpdate, serStatusCodeUpdate]

theorem logOverride_roundtrip (l : LogOverride) : deLogOverride (serLogOverride l) = some l := by
  simp [deLogOverride, serLogOverride]

theorem ruleTrace_roundtrip (t : RuleTrace) : deRuleTrace (serRuleTrace t) = some t := by
  simp [deRuleTrace, serRuleTrace]

theorem headerFilterAction_roundtrip (f : HeaderFilterAction) :
    deHeaderFilterAction (serHeaderFilterAction f) = some f := by
  simp [deHeaderFilterAction, serHeaderFilterAction,
    headerFilter_roundtrip]

theorem bodyFilterAction_roundtrip (base : Nat) (hb : base + 3 ≤ recursionLimit)
    (f : BodyFilterAction) : deBodyFilterAction base (serBodyFilterAction f) = some f := by
  have h := bodyFilter_roundtrip (base + 1) (by omega) f.filter
  simp [deBodyFilterAction, serBodyFilterAction, h]

theorem serStatusCodeUpdate_ne_null (s : StatusCodeUpdate) : serStatusCodeUpdate s ≠ .null := by
  simp [serStatusCodeUpdate]

theorem serLogOverride_ne_null (l : LogOverride) : serLogOverride l ≠ .null := by
  simp [serLogOverride]

theorem deVec_headerFilterAction (l : List HeaderFilterAction) :
    deVec deHeaderFilterAction (serVec serHeaderFilterAction l) = some l :=
  deVec_serVec _ _ _ (fun f _ => headerFilterAction_roundtrip f)

/-- Inside an action a `BodyFilterAction` sits under two containers (the action object, the array), its `filter`
under three. -/
theorem deVec_bodyFilterAction (l : List BodyFilterAction) :
    deVec (deBodyFilterAction 2) (serVec serBodyFilterAction l) = some l :=
  deVec_serVec _ _ _ (fun f _ => bodyFilterAction_roundtrip 2 (by decide) f)

theorem action_roundtrip (a : Action) (h : a.WF) : deAction (serAction a) = some a := by
  have h1 : deOption deStatusCodeUpdate (serOption serStatusCodeUpdate a.status_code_update)
      = some a.status_code_update :=
    deOption_serOption _ _ serStatusCodeUpdate_ne_null _ (fun s _ => statusCodeUpdate_roundtrip s)
  have h5 : deVec deRuleTrace (serVec serRuleTrace a.rule_traces) = some a.rule_traces :=
    deVec_serVec _ _ _ (fun t _ => ruleTrace_roundtrip t)
  have h7 : deOption deLogOverride (serOption serLogOverride a.log_override) = some a.log_override :=
    deOption_serOption _ _ serLogOverride_ne_null _ (fun l _ => logOverride_roundtrip l)
  simp [deAction, serAction, h1, deVec_headerFilterAction,
    deVec_bodyFilterAction, deSet_serSet _ h.1, h5, deSet_serSet _ h.2, h7]

theorem deAction_wf (j : Json) (a : Action) (h : deAction j = some a) : a.WF := by
  unfold deAction at h
  split at h
  · rename_i kvs
    simp only [Option.bind_eq_bind, Option.bind_eq_some_iff, Option.pure_def, Option.some.injEq] at h
    obtain ⟨s, _, hf, _, bf, _, ri, hri, rt, _, ra, hra, lo, _, rfl⟩ := h
    refine ⟨?_, ?_⟩
    · unfold reqField at hri
      split at hri
      · exact deSet_nodup _ _ hri
      · exact absurd hri (by simp)
    · unfold defaultField at hra
      split at hra
      · simp only [Option.some.injEq] at hra; subst hra; simp
      · exact deSet_nodup _ _ hra
      · exact absurd hra (by simp)
  · simp only [Option.bind_eq_bind, Option.bind_eq_some_iff, Option.pure_def, Option.some.injEq] at h
    obtain ⟨s, _, hf, _, bf, _, ri, hri, rt, _, ra, hra, lo, _, rfl⟩ := h
    exact ⟨deSet_nodup _ _ hri, deSet_nodup _ _ hra⟩
  · exact absurd h (by simp)

theorem header_roundtrip (h : Header) : deHeader (serHeader h) = some h := by
  simp [deHeader, serHeader]

theorem pathAndQuery_roundtrip (p : PathAndQuery) : dePathAndQuery (serPathAndQuery p) = some p := by
  simp [dePathAndQuery, serPathAndQuery]

end Rio.Json
