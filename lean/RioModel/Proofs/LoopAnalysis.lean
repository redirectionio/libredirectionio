/-
The analyses of Model/LoopAnalysis.lean are extensional in the router view (they depend
on it only through the config, the *set* of live rules and the *set* of matched rules per
request), and, under the representation laws of a router algebra (`AlgLaws`: what Props/C02 proves of the
real matcher tower), the project entry points agree with the stand-alone ones and do
not depend on the order of the rule list.  The theorems themselves are in Props/C19b.lean; here the lemmas they are
assembled from.
-/
import RioModel.Model.LoopAnalysis
import RioModel.Proofs.UtilList
-- the `[DecidableEq …]` of the `variable` lines enter every theorem that mentions the type, needed there or not
set_option linter.unusedSectionVars false

namespace Rio.Analysis

section
variable {Rule Req Cfg Tr C Ex Id UId UT Core U M Dom : Type}
variable [DecidableEq Id] [DecidableEq U] [DecidableEq M]
variable (P : Pipe Rule Req Cfg Ex Id UId UT Core U M Dom)

def NodupIds (rid : Rule → Id) (L : List Rule) : Prop := (L.map rid).Nodup

theorem NodupIds.nodup {rid : Rule → Id} {L : List Rule} (h : NodupIds rid L) : L.Nodup :=
  Rio.Util.nodup_of_map_nodup rid h

theorem NodupIds.perm {rid : Rule → Id} {L L' : List Rule} (h : NodupIds rid L) (hp : L.Perm L') :
    NodupIds rid L' :=
  (hp.map rid).nodup_iff.mp h

theorem NodupIds.cons {rid : Rule → Id} {L : List Rule} {r : Rule} (h : NodupIds rid L) (hf : rid r ∉ L.map rid) :
    NodupIds rid (r :: L) :=
  List.nodup_cons.2 ⟨hf, h⟩

theorem NodupIds.sublist {rid : Rule → Id} {L L' : List Rule} (h : NodupIds rid L) (hs : L'.Sublist L) :
    NodupIds rid L' :=
  List.Nodup.sublist (hs.map rid) h

theorem NodupIds.filter {rid : Rule → Id} {L : List Rule} (h : NodupIds rid L) (p : Rule → Bool) :
    NodupIds rid (L.filter p) :=
  h.sublist List.filter_sublist

theorem filter_id_perm {L L' : List Rule} (hp : L.Perm L') (h : NodupIds P.ruleId L) (id : Id) :
    L.filter (fun r => decide (P.ruleId r = id)) = L'.filter (fun r => decide (P.ruleId r = id)) := by
  refine Rio.Util.perm_eq_of_length_le_one (hp.filter _) ((List.nodup_replicate (a := id)).1 ?_)
  -- the ids of the rules kept are `id` repeated, and they are distinct
  have hn := h.filter fun r => decide (P.ruleId r = id)
  rwa [NodupIds, List.eq_replicate_iff.2 ⟨List.length_map _, fun b hb => ?_⟩] at hn
  obtain ⟨r, hr, rfl⟩ := List.mem_map.1 hb
  exact of_decide_eq_true (List.mem_filter.1 hr).2

/-- Every per-example evaluation is a function of the *set* of matched rules: permuting a match vector
with distinct ids does not change it.  (For the real pipeline this is C11: `from_routes_rule` sorts the
routes with the total order of `Rule::cmp` before it folds them.) -/
structure PermInv : Prop where
  evalTest : ∀ (R R' : List Rule) q e, R.Perm R' → NodupIds P.ruleId R → P.evalTest R q e = P.evalTest R' q e
  evalUnit : ∀ (R R' : List Rule) q e, R.Perm R' → NodupIds P.ruleId R → P.evalUnit R q e = P.evalUnit R' q e
  evalExplain : ∀ (R R' : List Rule) q e, R.Perm R' → NodupIds P.ruleId R →
    P.evalExplain R q e = P.evalExplain R' q e
  evalHop : ∀ (R R' : List Rule) q e, R.Perm R' → NodupIds P.ruleId R → P.evalHop R q e = P.evalHop R' q e

/-- The router reports every rule once: live ids and matched ids are pairwise distinct (C01). -/
structure View.WF (S : View Rule Req Cfg Tr) : Prop where
  routes : NodupIds P.ruleId S.routes
  matched : ∀ q, NodupIds P.ruleId (S.matchReq q)

/-- What the views of two routers holding the same rule set have in common (`AlgLaws.equiv`): the config, routes and matches
up to order, the traces through `canon`.  The hypothesis of the `*_extensional` theorems of Props/C19b. -/
structure Equiv (canon : Tr → C) (S S' : View Rule Req Cfg Tr) : Prop where
  config : S.config = S'.config
  routes : S.routes.Perm S'.routes
  matchReq : ∀ q, (S.matchReq q).Perm (S'.matchReq q)
  trace : ∀ q, canon (S.trace q) = canon (S'.trace q)

/-- `P` cannot tell `S'` from `S`: everything an analysis reads of a view it reads through the config, the set of
routes, the four evaluations of the matched routes and the canonical projection of the traces.  This is what
`Equiv`, `View.WF` and `PermInv` together give (`Equiv.agree`), and all that the extensionality lemmas use. -/
structure Agree (canon : Tr → C) (S S' : View Rule Req Cfg Tr) : Prop where
  config : S'.config = S.config
  routes : S.routes.Perm S'.routes
  nodup : NodupIds P.ruleId S.routes
  evalTest : ∀ q e, P.evalTest (S'.matchReq q) q e = P.evalTest (S.matchReq q) q e
  evalUnit : ∀ q e, P.evalUnit (S'.matchReq q) q e = P.evalUnit (S.matchReq q) q e
  evalExplain : ∀ q e, P.evalExplain (S'.matchReq q) q e = P.evalExplain (S.matchReq q) q e
  evalHop : ∀ q e, P.evalHop (S'.matchReq q) q e = P.evalHop (S.matchReq q) q e
  trace : ∀ q, canon (S'.trace q) = canon (S.trace q)

variable {P}
variable {canon : Tr → C} {S S' : View Rule Req Cfg Tr}

theorem Equiv.agree (hE : Equiv canon S S') (hI : PermInv P) (hW : View.WF P S) : Agree P canon S S' :=
  ⟨hE.config.symm, hE.routes, hW.routes,
   fun q e => (hI.evalTest _ _ q e (hE.matchReq q) (hW.matched q)).symm,
   fun q e => (hI.evalUnit _ _ q e (hE.matchReq q) (hW.matched q)).symm,
   fun q e => (hI.evalExplain _ _ q e (hE.matchReq q) (hW.matched q)).symm,
   fun q e => (hI.evalHop _ _ q e (hE.matchReq q) (hW.matched q)).symm,
   fun q => (hE.trace q).symm⟩

theorem Agree.loopStep (h : Agree P canon S S') (e : Ex) : loopStep P S' e = loopStep P S e := by
  funext u m
  -- `Analysis.loopStep`: inside a lemma of that name (for `h.loopStep`) the bare name is the lemma
  simp only [Analysis.loopStep, h.config, h.evalHop]

theorem Agree.loop (h : Agree P canon S S') (maxHops : Nat) (dom : Dom) :
    loop P S' maxHops dom = loop P S maxHops dom := by
  funext e
  simp only [Analysis.loop, h.loopStep]

theorem Agree.outcomeWith (h : Agree P canon S S') (lp : Ex → LoopOut U M) :
    outcomeWith P S' lp = outcomeWith P S lp := by
  funext r e
  simp only [Analysis.outcomeWith, h.config, h.evalTest]

/-- `Ord for String` on ids: a total order (what `sort_by(a.cmp(b))` relies on). -/
structure IdOrder (P : Pipe Rule Req Cfg Ex Id UId UT Core U M Dom) : Prop where
  total : ∀ a b, (P.idLe a b || P.idLe b a) = true
  trans : ∀ a b c, P.idLe a b = true → P.idLe b c = true → P.idLe a c = true
  antisymm : ∀ a b, P.idLe a b = true → P.idLe b a = true → a = b

theorem insertById_perm (r : Rule) (L : List Rule) : (insertById P r L).Perm (r :: L) := by
  induction L with
  | nil => exact List.Perm.refl _
  | cons x t ih =>
    unfold insertById
    split
    · exact List.Perm.refl _
    · exact (List.Perm.cons x ih).trans (List.Perm.swap r x t)

theorem sortById_perm_self (L : List Rule) : (sortById P L).Perm L := by
  induction L with
  | nil => exact List.Perm.refl _
  | cons r t ih =>
    show (insertById P r (sortById P t)).Perm (r :: t)
    exact (insertById_perm r _).trans (List.Perm.cons r ih)

theorem insertById_sorted (hO : IdOrder P) (r : Rule) (L : List Rule)
    (h : L.Pairwise fun a b => P.idLe (P.ruleId a) (P.ruleId b) = true) :
    (insertById P r L).Pairwise fun a b => P.idLe (P.ruleId a) (P.ruleId b) = true := by
  induction L with
  | nil => simp [insertById]
  | cons x t ih =>
    rw [List.pairwise_cons] at h
    unfold insertById
    split
    · rename_i hle
      rw [List.pairwise_cons]
      refine ⟨?_, List.pairwise_cons.mpr h⟩
      intro y hy
      rcases List.mem_cons.mp hy with rfl | hy'
      · exact hle
      · exact hO.trans _ _ _ hle (h.1 y hy')
    · rename_i hnle
      have hxr : P.idLe (P.ruleId x) (P.ruleId r) = true :=
        (Bool.or_eq_true_iff.1 (hO.total (P.ruleId r) (P.ruleId x))).resolve_left hnle
      rw [List.pairwise_cons]
      refine ⟨?_, ih h.2⟩
      intro y hy
      rcases List.mem_cons.mp ((insertById_perm r t).mem_iff.mp hy) with rfl | hy'
      · exact hxr
      · exact h.1 y hy'

theorem sortById_sorted (hO : IdOrder P) (L : List Rule) :
    (sortById P L).Pairwise fun a b => P.idLe (P.ruleId a) (P.ruleId b) = true := by
  induction L with
  | nil => simp [sortById]
  | cons r t ih => exact insertById_sorted hO r _ ih

theorem sortById_perm (hO : IdOrder P) {L L' : List Rule} (hp : L.Perm L') (hn : NodupIds P.ruleId L) :
    sortById P L = sortById P L' := by
  have hperm : (sortById P L).Perm (sortById P L') :=
    (sortById_perm_self L).trans (hp.trans (sortById_perm_self L').symm)
  apply List.Perm.eq_of_pairwise (le := fun a b => P.idLe (P.ruleId a) (P.ruleId b) = true) _
    (sortById_sorted hO L) (sortById_sorted hO L') hperm
  intro a b ha hb hab hba
  have hid := hO.antisymm _ _ hab hba
  have haL : a ∈ L := (sortById_perm_self L).mem_iff.mp ha
  have hbL : b ∈ L := hp.mem_iff.mpr ((sortById_perm_self L').mem_iff.mp hb)
  exact Rio.Util.eq_of_nodup_map hn haL hbL hid

theorem Agree.testRuleWith (h : Agree P canon S S') (lp : Ex → LoopOut U M) :
    testRuleWith P S' lp = testRuleWith P S lp := by
  funext st r
  simp only [Analysis.testRuleWith, h.outcomeWith]

/-- `testExamples` (rules visited in id order: the library since its commit 9993ef8) is `testExamplesUnordered` (the library
before) on the id-sorted route list -/
theorem testExamples_eq_unordered (maxHops : Nat) (dom : Dom) :
    testExamples P S maxHops dom =
      testExamplesUnordered P { S with routes := sortById P S.routes } maxHops dom := rfl

/-! From here to `Agree.bounded`: `create_result` as it was before 9993ef8 (`testExamplesUnordered`), only for Props/C19b's
`test_examples_unordered_extensional` and `first_ten_failures_closed_form`. -/

/-- one processed example: the rule, the example, the verdict -/
abbrev Event (Rule Ex Id UId U M : Type) := Rule × Ex × Outcome Ex Id UId U M

def ruleEvents (P : Pipe Rule Req Cfg Ex Id UId UT Core U M Dom) (S : View Rule Req Cfg Tr)
    (maxHops : Nat) (dom : Dom) (r : Rule) : List (Event Rule Ex Id UId U M) :=
  ((P.examples r).getD []).map fun e => (r, e, outcome P S maxHops dom r e)

def events (P : Pipe Rule Req Cfg Ex Id UId UT Core U M Dom) (S : View Rule Req Cfg Tr)
    (maxHops : Nat) (dom : Dom) : List (Event Rule Ex Id UId U M) :=
  S.routes.flatMap (ruleEvents P S maxHops dom)

def applyEvent (P : Pipe Rule Req Cfg Ex Id UId UT Core U M Dom) (st : TestOut Rule Ex Id UId U M)
    (ev : Event Rule Ex Id UId U M) : TestOut Rule Ex Id UId U M :=
  applyOutcome P st ev.1 ev.2.1 ev.2.2

theorem testRule_eq (maxHops : Nat) (dom : Dom) (st : TestOut Rule Ex Id UId U M) (r : Rule) :
    testRule P S maxHops dom st r = (ruleEvents P S maxHops dom r).foldl (applyEvent P) st := by
  unfold testRule testRuleWith ruleEvents
  cases P.examples r with
  | none => rfl
  | some exs => simp [List.foldl_map, applyEvent, outcome]

theorem testExamplesUnordered_eq_fold (maxHops : Nat) (dom : Dom) :
    testExamplesUnordered P S maxHops dom = (events P S maxHops dom).foldl (applyEvent P) TestOut.init := by
  unfold testExamplesUnordered events
  rw [List.foldl_flatMap]
  congr 1
  funext st r
  exact testRule_eq maxHops dom st r

theorem Agree.ruleEvents (h : Agree P canon S S') (maxHops : Nat) (dom : Dom) :
    ruleEvents P S' maxHops dom = ruleEvents P S maxHops dom := by
  funext r
  simp only [Analysis.ruleEvents, outcome, h.outcomeWith, h.loop]

theorem Agree.events_perm (h : Agree P canon S S') (maxHops : Nat) (dom : Dom) :
    (events P S maxHops dom).Perm (events P S' maxHops dom) := by
  unfold events
  rw [h.ruleEvents]
  exact h.routes.flatMap_right _

/-- Which verdicts `applyOutcome` counts in `example_count`, `failure_count`, `error_count` (`applyEvent_counts`): an
example whose request cannot be built is an error and not an example. -/
def countsExample : Outcome Ex Id UId U M → Bool
  | .failed _ => true
  | .passed => true
  | _ => false
def countsFailure : Outcome Ex Id UId U M → Bool
  | .failed _ => true
  | _ => false
def countsError : Outcome Ex Id UId U M → Bool
  | .errored _ => true
  | _ => false

theorem applyEvent_counts (st : TestOut Rule Ex Id UId U M) (ev : Event Rule Ex Id UId U M) :
    (applyEvent P st ev).exampleCount = st.exampleCount + (if countsExample ev.2.2 then 1 else 0) ∧
    (applyEvent P st ev).failureCount = st.failureCount + (if countsFailure ev.2.2 then 1 else 0) ∧
    (applyEvent P st ev).errorCount = st.errorCount + (if countsError ev.2.2 then 1 else 0) := by
  obtain ⟨r, e, o⟩ := ev
  cases o <;> exact ⟨rfl, rfl, rfl⟩

theorem fold_counts (evs : List (Event Rule Ex Id UId U M)) (st : TestOut Rule Ex Id UId U M) :
    (evs.foldl (applyEvent P) st).exampleCount = st.exampleCount + evs.countP (fun ev => countsExample ev.2.2) ∧
    (evs.foldl (applyEvent P) st).failureCount = st.failureCount + evs.countP (fun ev => countsFailure ev.2.2) ∧
    (evs.foldl (applyEvent P) st).errorCount = st.errorCount + evs.countP (fun ev => countsError ev.2.2) := by
  induction evs generalizing st with
  | nil => exact ⟨rfl, rfl, rfl⟩
  | cons ev t ih =>
    obtain ⟨h1, h2, h3⟩ := ih (applyEvent P st ev)
    obtain ⟨e1, e2, e3⟩ := applyEvent_counts (P := P) st ev
    rw [List.foldl_cons, h1, h2, h3, e1, e2, e3]
    simp only [List.countP_cons]
    omega

/-- what a processed example contributes to a map: `(id, rule, item)` or nothing -/
abbrev Contribution (Rule Id α : Type) := Id × Rule × Option α

/-- the map without the `len() <= 10` test -/
def fullMap {α : Type} (l : List (Contribution Rule Id α)) (m : List (Id × Rule × List α)) :
    List (Id × Rule × List α) :=
  l.foldl (fun m t => match t.2.2 with | some x => pushAt t.1 t.2.1 x m | none => m) m

/-- the map as the code builds it -/
def truncMap {α : Type} (l : List (Contribution Rule Id α)) (m : List (Id × Rule × List α)) :
    List (Id × Rule × List α) :=
  l.foldl (fun m t => match t.2.2 with | some x => record m t.1 t.2.1 x | none => m) m

/-- `map.get(id)` on the list model of `first_ten_failures` / `first_ten_errors` (entries `(id, rule, items)`) -/
def lookupE {α : Type} (id : Id) (m : List (Id × Rule × List α)) : Option (Rule × List α) :=
  match m with
  | [] => none
  | (k, r, xs) :: rest => if k = id then some (r, xs) else lookupE id rest

/-- the items `l` holds for `id`, each with the rule that contributed it -/
def itemsFor {α : Type} (id : Id) (l : List (Contribution Rule Id α)) : List (Rule × α) :=
  l.filterMap fun t => if t.1 = id then t.2.2.map (fun x => (t.2.1, x)) else none

/-- an entry after pushing `items` for its key: created by the first item, extended by the others -/
def extendE {α : Type} : Option (Rule × List α) → List (Rule × α) → Option (Rule × List α)
  | o, [] => o
  | none, (r, x) :: rest => extendE (some (r, [x])) rest
  | some (r', xs), (_, x) :: rest => extendE (some (r', xs ++ [x])) rest

theorem lookupE_pushAt {α : Type} (id id' : Id) (r : Rule) (x : α) (m : List (Id × Rule × List α)) :
    lookupE id' (pushAt id r x m) =
      if id = id' then extendE (lookupE id' m) [(r, x)] else lookupE id' m := by
  induction m with
  | nil => by_cases h : id = id' <;> simp [pushAt, lookupE, h, extendE]
  | cons t rest ih =>
    obtain ⟨k, r', xs⟩ := t
    by_cases hk : k = id
    · subst hk
      by_cases h : k = id' <;> simp [pushAt, lookupE, h, extendE]
    · by_cases hk' : k = id'
      · subst hk'
        simp [pushAt, lookupE, hk, Ne.symm hk]
      · simp only [pushAt, lookupE, if_neg hk, if_neg hk', ih]

theorem extendE_append {α : Type} (o : Option (Rule × List α)) (a b : List (Rule × α)) :
    extendE o (a ++ b) = extendE (extendE o a) b := by
  induction a generalizing o with
  | nil => rfl
  | cons t rest ih =>
    obtain ⟨r, x⟩ := t
    cases o with
    | none => simp [extendE, ih]
    | some p => obtain ⟨r', xs⟩ := p; simp [extendE, ih]

theorem lookupE_fullMap {α : Type} (id : Id) (l : List (Contribution Rule Id α))
    (m : List (Id × Rule × List α)) :
    lookupE id (fullMap l m) = extendE (lookupE id m) (itemsFor id l) := by
  induction l generalizing m with
  | nil => simp [fullMap, itemsFor, extendE]
  | cons t rest ih =>
    obtain ⟨k, r, ox⟩ := t
    have hstep : fullMap ((k, r, ox) :: rest) m =
        fullMap rest (match ox with | some x => pushAt k r x m | none => m) := rfl
    rw [hstep, ih]
    cases ox with
    | none => simp [itemsFor]
    | some x =>
      by_cases h : k = id
      · subst h
        have : itemsFor k ((k, r, some x) :: rest) = [(r, x)] ++ itemsFor k rest := by
          simp [itemsFor]
        rw [this, extendE_append, lookupE_pushAt]
        simp
      · have : itemsFor id ((k, r, some x) :: rest) = itemsFor id rest := by
          simp [itemsFor, h]
        rw [this, lookupE_pushAt]
        simp [h]

def keysOf {α : Type} (m : List (Id × Rule × List α)) : List Id := m.map (·.1)

theorem keysOf_pushAt {α : Type} (id : Id) (r : Rule) (x : α) (m : List (Id × Rule × List α)) :
    keysOf (pushAt id r x m) = if id ∈ keysOf m then keysOf m else keysOf m ++ [id] := by
  induction m with
  | nil => simp [pushAt, keysOf]
  | cons t rest ih =>
    obtain ⟨k, r', xs⟩ := t
    by_cases hk : k = id
    · subst hk; simp [pushAt, keysOf]
    · have hk' : ¬ id = k := fun h => hk h.symm
      unfold keysOf at ih
      by_cases hin : id ∈ rest.map (·.1) <;> simp [pushAt, keysOf, hk, hk', hin, ih]

theorem keysOf_pushAt_within {α : Type} {ids : List Id} {m : List (Id × Rule × List α)}
    (h : (keysOf m).Nodup ∧ ∀ k ∈ keysOf m, k ∈ ids) {id : Id} (hid : id ∈ ids) (r : Rule) (x : α) :
    (keysOf (pushAt id r x m)).Nodup ∧ ∀ k ∈ keysOf (pushAt id r x m), k ∈ ids := by
  rw [keysOf_pushAt]
  split
  · exact h
  · exact ⟨(List.perm_append_singleton id (keysOf m)).nodup_iff.2 (List.nodup_cons.2 ⟨‹_›, h.1⟩),
      fun k hk => (List.mem_append.1 hk).elim (h.2 k) fun e => List.mem_singleton.1 e ▸ hid⟩

/-- If at most ten rules ever contribute, the `len() <= 10` test never fails: the code's map is the
untruncated one. -/
theorem truncMap_eq_fullMap {α : Type} (ids : List Id) (hlen : ids.length ≤ 10)
    (l : List (Contribution Rule Id α)) (hl : ∀ t ∈ l, t.2.2.isSome → t.1 ∈ ids)
    (m : List (Id × Rule × List α)) (hm : (keysOf m).Nodup ∧ ∀ k ∈ keysOf m, k ∈ ids) :
    truncMap l m = fullMap l m := by
  induction l generalizing m with
  | nil => rfl
  | cons t rest ih =>
    obtain ⟨k, r, ox⟩ := t
    have hrest : ∀ t ∈ rest, t.2.2.isSome → t.1 ∈ ids := fun t ht => hl t (by simp [ht])
    cases ox with
    | none => exact ih hrest m hm
    | some x =>
      have hle : m.length ≤ 10 := by
        have h1 : (keysOf m).length ≤ ids.length := List.Nodup.length_le_of_subset hm.1 hm.2
        simp only [keysOf, List.length_map] at h1
        omega
      show truncMap rest (record m k r x) = fullMap rest (pushAt k r x m)
      rw [record, if_pos hle]
      exact ih hrest _ (keysOf_pushAt_within hm (hl (k, r, some x) (by simp) rfl) r x)

theorem truncMap_lookup {α : Type} (ids : List Id) (hlen : ids.length ≤ 10)
    (l : List (Contribution Rule Id α)) (hl : ∀ t ∈ l, t.2.2.isSome → t.1 ∈ ids) (id : Id) :
    lookupE id (truncMap l []) = extendE none (itemsFor id l) := by
  rw [truncMap_eq_fullMap ids hlen l hl [] ⟨List.nodup_nil, fun _ h => nomatch h⟩, lookupE_fullMap]
  rfl

/-- what an event contributes to `first_ten_failures` -/
def failureOf (P : Pipe Rule Req Cfg Ex Id UId UT Core U M Dom) (ev : Event Rule Ex Id UId U M) :
    Contribution Rule Id (FailedEx Ex Id UId U M) :=
  (P.ruleId ev.1, ev.1, match ev.2.2 with | .failed f => some f | _ => none)

/-- what an event contributes to `first_ten_errors` -/
def errorOf (P : Pipe Rule Req Cfg Ex Id UId UT Core U M Dom) (ev : Event Rule Ex Id UId U M) :
    Contribution Rule Id (Ex × String) :=
  (P.ruleId ev.1, ev.1, match ev.2.2 with | .errored msg => some (ev.2.1, msg) | _ => none)

theorem fold_maps (evs : List (Event Rule Ex Id UId U M)) (st : TestOut Rule Ex Id UId U M) :
    (evs.foldl (applyEvent P) st).firstTenFailures = truncMap (evs.map (failureOf P)) st.firstTenFailures ∧
    (evs.foldl (applyEvent P) st).firstTenErrors = truncMap (evs.map (errorOf P)) st.firstTenErrors := by
  induction evs generalizing st with
  | nil => exact ⟨rfl, rfl⟩
  | cons ev t ih =>
    obtain ⟨h1, h2⟩ := ih (applyEvent P st ev)
    rw [List.foldl_cons, h1, h2]
    obtain ⟨r, e, o⟩ := ev
    cases o <;> exact ⟨rfl, rfl⟩

theorem itemsFor_events {α : Type} (sel : Event Rule Ex Id UId U M → Option α) (maxHops : Nat) (dom : Dom)
    (id : Id) :
    itemsFor id ((events P S maxHops dom).map (fun ev => (P.ruleId ev.1, ev.1, sel ev))) =
      (S.routes.filter (fun r => decide (P.ruleId r = id))).flatMap
        (fun r => itemsFor id ((ruleEvents P S maxHops dom r).map (fun ev => (P.ruleId ev.1, ev.1, sel ev)))) := by
  unfold events
  induction S.routes with
  | nil => simp [itemsFor]
  | cons r rest ih =>
    simp only [List.flatMap_cons, List.map_append, List.filter_cons]
    have happ : ∀ (a b : List (Contribution Rule Id α)), itemsFor id (a ++ b) = itemsFor id a ++ itemsFor id b := by
      intro a b; simp [itemsFor, List.filterMap_append]
    rw [happ, ih]
    by_cases h : P.ruleId r = id
    · simp [h]
    · have : itemsFor id ((ruleEvents P S maxHops dom r).map (fun ev => (P.ruleId ev.1, ev.1, sel ev))) = [] := by
        unfold itemsFor ruleEvents
        rw [List.filterMap_eq_nil_iff]
        intro t ht
        simp only [List.mem_map] at ht
        obtain ⟨ev, ⟨e, _, rfl⟩, rfl⟩ := ht
        simp [h]
      simp [h, this]

theorem Agree.itemsFor_eq {α : Type} (sel : Event Rule Ex Id UId U M → Option α)
    (h : Agree P canon S S') (maxHops : Nat) (dom : Dom) (id : Id) :
    itemsFor id ((events P S maxHops dom).map (fun ev => (P.ruleId ev.1, ev.1, sel ev))) =
    itemsFor id ((events P S' maxHops dom).map (fun ev => (P.ruleId ev.1, ev.1, sel ev))) := by
  rw [itemsFor_events, itemsFor_events, filter_id_perm P h.routes h.nodup id, h.ruleEvents]

/-- at most ten rules have a failed example -/
def FailuresBounded (P : Pipe Rule Req Cfg Ex Id UId UT Core U M Dom) (S : View Rule Req Cfg Tr)
    (maxHops : Nat) (dom : Dom) : Prop :=
  ∃ ids : List Id, ids.Nodup ∧ ids.length ≤ 10 ∧
    ∀ ev ∈ events P S maxHops dom, (failureOf P ev).2.2.isSome → P.ruleId ev.1 ∈ ids

/-- at most ten rules have an example whose request cannot be built -/
def ErrorsBounded (P : Pipe Rule Req Cfg Ex Id UId UT Core U M Dom) (S : View Rule Req Cfg Tr)
    (maxHops : Nat) (dom : Dom) : Prop :=
  ∃ ids : List Id, ids.Nodup ∧ ids.length ≤ 10 ∧
    ∀ ev ∈ events P S maxHops dom, (errorOf P ev).2.2.isSome → P.ruleId ev.1 ∈ ids

theorem failures_lookup (maxHops : Nat) (dom : Dom) (hb : FailuresBounded P S maxHops dom) (id : Id) :
    lookupE id (testExamplesUnordered P S maxHops dom).firstTenFailures =
      extendE none (itemsFor id ((events P S maxHops dom).map (failureOf P))) := by
  obtain ⟨ids, _, hlen, hall⟩ := hb
  rw [testExamplesUnordered_eq_fold, (fold_maps (P := P) (events P S maxHops dom) TestOut.init).1]
  exact truncMap_lookup ids hlen _ (List.forall_mem_map.2 hall) id

theorem errors_lookup (maxHops : Nat) (dom : Dom) (hb : ErrorsBounded P S maxHops dom) (id : Id) :
    lookupE id (testExamplesUnordered P S maxHops dom).firstTenErrors =
      extendE none (itemsFor id ((events P S maxHops dom).map (errorOf P))) := by
  obtain ⟨ids, _, hlen, hall⟩ := hb
  rw [testExamplesUnordered_eq_fold, (fold_maps (P := P) (events P S maxHops dom) TestOut.init).2]
  exact truncMap_lookup ids hlen _ (List.forall_mem_map.2 hall) id

/-- `FailuresBounded` and `ErrorsBounded` (at their `Q`) carry over: both routers see the same events. -/
theorem Agree.bounded (h : Agree P canon S S') (maxHops : Nat) (dom : Dom)
    {Q : Event Rule Ex Id UId U M → Prop}
    (hb : ∃ ids : List Id, ids.Nodup ∧ ids.length ≤ 10 ∧ ∀ ev ∈ events P S maxHops dom, Q ev → P.ruleId ev.1 ∈ ids) :
    ∃ ids : List Id, ids.Nodup ∧ ids.length ≤ 10 ∧ ∀ ev ∈ events P S' maxHops dom, Q ev → P.ruleId ev.1 ∈ ids := by
  obtain ⟨ids, hn, hlen, hall⟩ := hb
  exact ⟨ids, hn, hlen, fun ev hev => hall ev ((h.events_perm maxHops dom).mem_iff.mpr hev)⟩

theorem Agree.unitExample (h : Agree P canon S S') : unitExample P S' = unitExample P S := by
  funext e
  simp only [Analysis.unitExample, h.config, h.evalUnit]

theorem Agree.unitIds_perm (h : Agree P canon S S') : (unitIds P S).Perm (unitIds P S') := by
  unfold unitIds
  rw [h.unitExample]
  exact h.routes.filterMap _

theorem map_filterMap_sublist {α β κ : Type} (f : α → Option β) (g : β → κ) (k : α → κ)
    (h : ∀ a b, f a = some b → g b = k a) (l : List α) : ((l.filterMap f).map g).Sublist (l.map k) := by
  induction l with
  | nil => exact .slnil
  | cons a t ih =>
    cases hfa : f a with
    | none => rw [List.filterMap_cons_none hfa]; exact ih.cons _
    | some b => rw [List.filterMap_cons_some hfa, List.map_cons, List.map_cons, h a b hfa]; exact ih.cons_cons _

theorem unitIds_keys_nodup (hW : View.WF P S) : ((unitIds P S).map (·.1)).Nodup :=
  List.Nodup.sublist (map_filterMap_sublist _ _ P.ruleId
    (fun r b hb => by obtain ⟨exs, _, rfl⟩ := Option.map_eq_some_iff.1 hb; rfl) S.routes) hW.routes

/-- `map.get(id)` on a plain association list (`UnitIdsOutput.rules`, the handlers of `withPayload`): core's `List.lookup`
up to the spelling of the test, `lookupA_eq_lookup` -/
def lookupA {β : Type} (id : Id) : List (Id × β) → Option β
  | [] => none
  | (k, v) :: rest => if k = id then some v else lookupA id rest

/-- `lookupA` is core's `List.lookup` (which tests `id == k` where `lookupA` tests `k = id`). -/
theorem lookupA_eq_lookup {β : Type} (id : Id) (l : List (Id × β)) : lookupA id l = l.lookup id := by
  induction l with
  | nil => rfl
  | cons t rest ih =>
    obtain ⟨k, v⟩ := t
    rw [lookupA, List.lookup_cons, ih]
    by_cases h : k = id
    · rw [if_pos h, beq_iff_eq.2 h.symm]
    · rw [if_neg h, beq_eq_false_iff_ne.2 (Ne.symm h)]

theorem lookupA_perm {β : Type} (id : Id) (l l' : List (Id × β)) (hp : l.Perm l')
    (hn : (l.map (·.1)).Nodup) : lookupA id l = lookupA id l' := by
  rw [lookupA_eq_lookup, lookupA_eq_lookup]
  exact Rio.Util.lookup_perm hn hp id

/-- compare `match_traces` through the canonical projection only -/
def ExplainOut.project (canon : Tr → C) (o : ExplainOut Ex Core Tr U M) : ExplainOut Ex Core C U M :=
  ⟨o.ex, o.core, canon o.matchTraces, o.redirectionLoop⟩

def Impact.project (canon : Tr → C) : Impact Ex Core Tr U M → Impact Ex Core C U M
  | .err e msg => .err e msg
  | .ok e core tr lp => .ok e core (canon tr) lp

end

section
variable {St Rule Req Cfg Tr C Ex Id UId UT Core U M Dom : Type}
variable [DecidableEq Id] [DecidableEq U] [DecidableEq M]
variable (A : Alg St Rule Req Cfg Tr Id) (rid : Rule → Id)

/-- every id is fresh at the moment it is inserted -/
def FreshAll : List Rule → List Rule → Prop
  | [], _ => True
  | r :: rs, L => rid r ∉ L.map rid ∧ FreshAll rs (r :: L)

def insertAll (rs : List Rule) (L : List Rule) : List Rule := rs.foldl (fun L r => r :: L) L

/-- the live rules after `apply_change_set(added, updated, deleted)`: the deleted and the updated ids
leave, then the updated and the added rules enter (same definition as `Rio.Router.liveChangeSet`) -/
def liveChangeSet (added updated : List Rule) (deleted : List Id) (L : List Rule) : List Rule :=
  insertAll added (insertAll updated
    (L.filter (fun r => !(deleted ++ updated.map rid).contains (rid r))))

/-- the change-set has consistent ids with respect to the live list -/
def ValidChangeSet (D : ChangeSet Rule Id) (L : List Rule) : Prop :=
  FreshAll rid (D.updated ++ D.added)
    (L.filter (fun r => !(D.deleted ++ D.updated.map rid).contains (rid r)))

/-- `apply(B, D)` -/
def ChangeSet.live (D : ChangeSet Rule Id) (L : List Rule) : List Rule :=
  liveChangeSet rid D.added D.updated D.deleted L

/-- The representation laws of a router algebra – the interface of the router model's results (`Rio.C02.repr_*`,
`Rio.Router.rrepr_match_perm`, `rrepr_nodup_match`, `rrepr_trace_perm`): a state *represents* a config and
a list of live rules with distinct ids; every operation keeps that; two states representing the same
set of rules answer every request alike. -/
structure AlgLaws (canon : Tr → C) where
  Repr : St → Cfg → List Rule → Prop
  repr_empty : ∀ c, Repr (A.empty c) c []
  repr_insert : ∀ S c L r, Repr S c L → rid r ∉ L.map rid → Repr (A.insert r S) c (r :: L)
  repr_remove : ∀ S c L id, Repr S c L →
    Repr (A.remove id S) c (L.filter (fun r => decide (rid r ≠ id)))
  repr_changeSet : ∀ S c L (D : ChangeSet Rule Id), Repr S c L → ValidChangeSet rid D L →
    Repr (A.applyChangeSet D.added D.updated D.deleted S) c (D.live rid L)
  nodup : ∀ S c L, Repr S c L → NodupIds rid L
  config : ∀ S c L, Repr S c L → (A.view S).config = c
  routes : ∀ S c L, Repr S c L → ((A.view S).routes).Perm L
  match_nodup : ∀ S c L, Repr S c L → ∀ q, NodupIds rid ((A.view S).matchReq q)
  match_sub : ∀ S c L, Repr S c L → ∀ q x, x ∈ (A.view S).matchReq q → x ∈ L
  match_perm : ∀ S S' c L L', Repr S c L → Repr S' c L' → (∀ x, x ∈ L ↔ x ∈ L') →
    ∀ q, ((A.view S).matchReq q).Perm ((A.view S').matchReq q)
  trace_canon : ∀ S S' c L L', Repr S c L → Repr S' c L' → (∀ x, x ∈ L ↔ x ∈ L') →
    ∀ q, canon ((A.view S).trace q) = canon ((A.view S').trace q)

variable {A rid} {canon : Tr → C}

theorem AlgLaws.wf {P : Pipe Rule Req Cfg Ex Id UId UT Core U M Dom} (W : AlgLaws A P.ruleId canon)
    {S : St} {c : Cfg} {L : List Rule} (h : W.Repr S c L) : View.WF P (A.view S) :=
  ⟨NodupIds.perm (W.nodup S c L h) (W.routes S c L h).symm, W.match_nodup S c L h⟩

variable (W : AlgLaws A rid canon)

theorem AlgLaws.equiv {S S' : St} {c : Cfg} {L L' : List Rule} (h : W.Repr S c L) (h' : W.Repr S' c L')
    (hm : ∀ x, x ∈ L ↔ x ∈ L') : Equiv canon (A.view S) (A.view S') := by
  refine ⟨?_, ?_, W.match_perm S S' c L L' h h' hm, W.trace_canon S S' c L L' h h' hm⟩
  · rw [W.config S c L h, W.config S' c L' h']
  · have hLL' : L.Perm L' :=
      (List.perm_ext_iff_of_nodup (NodupIds.nodup (W.nodup S c L h))
        (NodupIds.nodup (W.nodup S' c L' h'))).mpr hm
    exact (W.routes S c L h).trans (hLL'.trans (W.routes S' c L' h').symm)

theorem repr_foldl_insert (rules : List Rule) : ∀ (S : St) (c : Cfg) (L : List Rule), W.Repr S c L →
    NodupIds rid (rules.reverse ++ L) →
    W.Repr (rules.foldl (fun S r => A.insert r S) S) c (rules.reverse ++ L) := by
  induction rules with
  | nil => intro S c L h _; simpa using h
  | cons r t ih =>
    intro S c L h hn
    simp only [List.foldl_cons, List.reverse_cons, List.append_assoc, List.singleton_append] at hn ⊢
    apply ih _ c (r :: L) _ hn
    exact W.repr_insert S c L r h (List.nodup_cons.1 (hn.sublist (List.sublist_append_right _ _))).1

theorem repr_build (c : Cfg) (rules : List Rule) (hn : NodupIds rid rules) :
    W.Repr (A.build c rules) c rules.reverse := by
  have := repr_foldl_insert W rules (A.empty c) c [] (W.repr_empty c) (by
    simpa using NodupIds.perm hn (List.reverse_perm rules).symm)
  simpa [Alg.build] using this

/-- the router of the project entry points of test-examples / explain represents `apply(B, D)` up to the
order (when the change-set is empty the existing router is used as it is) -/
theorem repr_projectRouter (base : St) (c : Cfg) (B : List Rule) (D : ChangeSet Rule Id)
    (h : W.Repr base c B) (hv : ValidChangeSet rid D B) :
    ∃ L, W.Repr (A.projectRouter D base) c L ∧ ∀ x, x ∈ L ↔ x ∈ D.live rid B := by
  unfold Alg.projectRouter
  by_cases he : D.isEmpty = true
  · refine ⟨B, by simpa [he] using h, ?_⟩
    simp only [ChangeSet.isEmpty, Bool.and_eq_true, List.isEmpty_iff] at he
    obtain ⟨⟨ha, hu⟩, hd⟩ := he
    intro x
    simp [ChangeSet.live, liveChangeSet, insertAll, ha, hu, hd]
  · refine ⟨D.live rid B, ?_, fun _ => Iff.rfl⟩
    simp only [he, Bool.false_eq_true, if_false]
    exact W.repr_changeSet base c B D h hv

end

section
variable {Rule Req Cfg Id : Type} [DecidableEq Id]

theorem insertAll_append (a b L : List Rule) :
    insertAll (a ++ b) L = insertAll b (insertAll a L) := by
  simp [insertAll, List.foldl_append]

theorem nodupIds_insertAll (rid : Rule → Id) : ∀ (rs L : List Rule), NodupIds rid L →
    FreshAll rid rs L → NodupIds rid (insertAll rs L)
  | [], _, h, _ => h
  | _ :: t, _, h, hf => nodupIds_insertAll rid t _ (h.cons hf.1) hf.2

theorem nodupIds_live (rid : Rule → Id) (D : ChangeSet Rule Id) (L : List Rule) (h : NodupIds rid L)
    (hv : ValidChangeSet rid D L) : NodupIds rid (D.live rid L) := by
  unfold ChangeSet.live liveChangeSet
  rw [← insertAll_append]
  exact nodupIds_insertAll rid _ _ (NodupIds.filter h _) hv

/-- the ids listed by a trace, as a set -/
def idSet (rid : Rule → Id) (t : List Rule) : Id → Bool := fun id => (t.map rid).contains id

theorem idSet_perm (rid : Rule → Id) {t t' : List Rule} (hp : t.Perm t') : idSet rid t = idSet rid t' :=
  funext fun _ => (hp.map rid).contains_eq

/-- `Router` as the plain list of live rules; `sat` is the flat matching predicate (C01). -/
def listAlg (rid : Rule → Id) (sat : Cfg → Rule → Req → Bool) :
    Alg (Cfg × List Rule) Rule Req Cfg (List Rule) Id where
  empty c := (c, [])
  insert r S := (S.1, r :: S.2)
  remove id S := (S.1, S.2.filter (fun r => decide (rid r ≠ id)))
  applyChangeSet a u d S := (S.1, liveChangeSet rid a u d S.2)
  view S := ⟨S.1, S.2, fun q => S.2.filter (fun r => sat S.1 r q), fun q => S.2.filter (fun r => sat S.1 r q)⟩

theorem filter_perm_of_mem_iff {L L' : List Rule} (hn : L.Nodup) (hn' : L'.Nodup) (hm : ∀ x, x ∈ L ↔ x ∈ L')
    (p : Rule → Bool) : (L.filter p).Perm (L'.filter p) := by
  rw [List.perm_ext_iff_of_nodup (hn.filter _) (hn'.filter _)]
  intro x
  simp only [List.mem_filter, hm x]

/-- The list router satisfies the laws: `AlgLaws` is not vacuous. -/
def listLaws (rid : Rule → Id) (sat : Cfg → Rule → Req → Bool) :
    AlgLaws (listAlg (Req := Req) rid sat) rid (idSet rid) where
  Repr S c L := S = (c, L) ∧ NodupIds rid L
  repr_empty c := ⟨rfl, by simp [NodupIds]⟩
  repr_insert S c L r h hf := by
    obtain ⟨rfl, hn⟩ := h
    exact ⟨rfl, hn.cons hf⟩
  repr_remove S c L id h := by
    obtain ⟨rfl, hn⟩ := h
    exact ⟨rfl, NodupIds.filter hn _⟩
  repr_changeSet S c L D h hv := by
    obtain ⟨rfl, hn⟩ := h
    exact ⟨rfl, nodupIds_live rid D L hn hv⟩
  nodup S c L h := h.2
  config S c L h := by obtain ⟨rfl, _⟩ := h; rfl
  routes S c L h := by obtain ⟨rfl, _⟩ := h; exact List.Perm.refl _
  match_nodup S c L h q := by
    obtain ⟨rfl, hn⟩ := h
    exact NodupIds.filter hn _
  match_sub S c L h q x hx := by
    obtain ⟨rfl, hn⟩ := h
    exact (List.mem_filter.mp hx).1
  match_perm S S' c L L' h h' hm q := by
    obtain ⟨rfl, hn⟩ := h
    obtain ⟨rfl, hn'⟩ := h'
    exact filter_perm_of_mem_iff (NodupIds.nodup hn) (NodupIds.nodup hn') hm _
  trace_canon S S' c L L' h h' hm q := by
    obtain ⟨rfl, hn⟩ := h
    obtain ⟨rfl, hn'⟩ := h'
    exact idSet_perm rid (filter_perm_of_mem_iff (NodupIds.nodup hn) (NodupIds.nodup hn') hm _)

end

/-! ### handlers: from an algebra over payload-free routes to one over (route, handler) pairs

The router model (Props/C02) stores `Route`s without their handler (`Rule`).  The construction below adds the
handlers as a second association list keyed by the id – what `Route<Rule>::handler()` returns – and
shows that the representation laws carry over, so the theorems apply to rules whose *actions* change
while their triggers do not. -/

section
variable {St R Req Cfg Tr C Id Pl : Type} [DecidableEq Id]

theorem lookupA_filter {β : Type} (p : Id → Bool) (k : Id) (hk : p k = true) (H : List (Id × β)) :
    lookupA k (H.filter (fun e => p e.1)) = lookupA k H := by
  induction H with
  | nil => rfl
  | cons e t ih =>
    obtain ⟨k', v⟩ := e
    by_cases hp : p k' = true
    · simp only [List.filter_cons, hp, if_true, lookupA, ih]
    · have hne : k' ≠ k := fun h => hp (h ▸ hk)
      simp only [List.filter_cons, hp, Bool.false_eq_true, if_false, lookupA, hne, ih]

def insertAllH (rid : R → Id) (rs : List (R × Pl)) (H : List (Id × Pl)) : List (Id × Pl) :=
  rs.foldl (fun H rp => (rid rp.1, rp.2) :: H) H

/-- `Router<Rule>`: the matcher tower over routes plus `handler()` of every stored route. -/
def withPayload (A : Alg St R Req Cfg Tr Id) (rid : R → Id) :
    Alg (St × List (Id × Pl)) (R × Pl) Req Cfg Tr Id where
  empty c := (A.empty c, [])
  insert rp S := (A.insert rp.1 S.1, (rid rp.1, rp.2) :: S.2)
  remove id S := (A.remove id S.1, S.2.filter (fun e => decide (e.1 ≠ id)))
  applyChangeSet a u d S :=
    (A.applyChangeSet (a.map (·.1)) (u.map (·.1)) d S.1,
     insertAllH rid a (insertAllH rid u
       (S.2.filter (fun e => !(d ++ u.map (fun rp => rid rp.1)).contains e.1))))
  view S :=
    let g : R → Option (R × Pl) := fun r => (lookupA (rid r) S.2).map fun p => (r, p)
    ⟨(A.view S.1).config, (A.view S.1).routes.filterMap g,
     fun q => ((A.view S.1).matchReq q).filterMap g, (A.view S.1).trace⟩

theorem filterMap_map_of_left_inv {α β : Type} (f : α → β) (g : β → Option α) (L : List α)
    (h : ∀ x ∈ L, g (f x) = some x) : (L.map f).filterMap g = L := by
  rw [List.filterMap_map]
  exact (Rio.Util.filterMap_congr (g := some) h).trans List.filterMap_some

theorem freshAll_map (rid : R → Id) (rs : List (R × Pl)) : ∀ (L : List (R × Pl)),
    FreshAll (fun rp : R × Pl => rid rp.1) rs L → FreshAll rid (rs.map (·.1)) (L.map (·.1)) := by
  induction rs with
  | nil => intro L _; trivial
  | cons rp t ih =>
    intro L hf
    refine ⟨?_, ih (rp :: L) hf.2⟩
    rw [List.map_map]
    exact hf.1

theorem insertAll_map (rs L : List (R × Pl)) :
    (insertAll rs L).map (·.1) = insertAll (rs.map (·.1)) (L.map (·.1)) := by
  induction rs generalizing L with
  | nil => rfl
  | cons rp t ih =>
    show (insertAll t (rp :: L)).map (·.1) = insertAll (t.map (·.1)) (rp.1 :: L.map (·.1))
    rw [ih]; rfl

theorem live_map (rid : R → Id) (D : ChangeSet (R × Pl) Id) (L : List (R × Pl)) :
    (D.live (fun rp => rid rp.1) L).map (·.1) =
      (ChangeSet.mk (D.added.map (·.1)) (D.updated.map (·.1)) D.deleted).live rid (L.map (·.1)) := by
  unfold ChangeSet.live liveChangeSet
  rw [insertAll_map, insertAll_map]
  simp only [List.filter_map, List.map_map]
  rfl

theorem valid_map (rid : R → Id) (D : ChangeSet (R × Pl) Id) (L : List (R × Pl))
    (hv : ValidChangeSet (fun rp => rid rp.1) D L) :
    ValidChangeSet rid (ChangeSet.mk (D.added.map (·.1)) (D.updated.map (·.1)) D.deleted) (L.map (·.1)) := by
  unfold ValidChangeSet at *
  have := freshAll_map rid _ _ hv
  rw [List.map_append] at this
  simp only [List.filter_map, List.map_map]
  exact this

theorem handlers_filter (rid : R → Id) (p : Id → Bool) {L : List (R × Pl)} {H : List (Id × Pl)}
    (h : ∀ rp ∈ L, lookupA (rid rp.1) H = some rp.2) :
    ∀ rp ∈ L.filter (fun r => p (rid r.1)), lookupA (rid rp.1) (H.filter (fun e => p e.1)) = some rp.2 := by
  intro rp hrp
  have hrp' := List.mem_filter.mp hrp
  exact (lookupA_filter p (rid rp.1) hrp'.2 H).trans (h rp hrp'.1)

theorem mem_map_fst_congr {L L' : List (R × Pl)} (hm : ∀ x, x ∈ L ↔ x ∈ L') (x : R) :
    x ∈ L.map (·.1) ↔ x ∈ L'.map (·.1) := by
  simp only [List.mem_map, hm]

theorem lookup_insertAllH (rid : R → Id) (rs : List (R × Pl)) : ∀ (L : List (R × Pl)) (H : List (Id × Pl)),
    (∀ rp ∈ L, lookupA (rid rp.1) H = some rp.2) → FreshAll (fun rp : R × Pl => rid rp.1) rs L →
    ∀ rp ∈ insertAll rs L, lookupA (rid rp.1) (insertAllH rid rs H) = some rp.2 := by
  induction rs with
  | nil => intro L H h _ rp hrp; exact h rp hrp
  | cons x t ih =>
    intro L H h hf
    show ∀ rp ∈ insertAll t (x :: L), lookupA (rid rp.1) (insertAllH rid t ((rid x.1, x.2) :: H)) = some rp.2
    apply ih (x :: L) _ _ hf.2
    intro rp hrp
    rcases List.mem_cons.mp hrp with h1 | h1
    · subst h1; simp [lookupA]
    · have hne : rid x.1 ≠ rid rp.1 := by
        intro heq
        apply hf.1
        show rid x.1 ∈ L.map (fun rp : R × Pl => rid rp.1)
        rw [heq]
        exact List.mem_map_of_mem (f := fun rp : R × Pl => rid rp.1) h1
      simp only [lookupA, hne, if_false]
      exact h rp h1

def withPayloadLaws {A : Alg St R Req Cfg Tr Id} {rid : R → Id} {canon : Tr → C}
    (W : AlgLaws A rid canon) :
    AlgLaws (withPayload (Pl := Pl) A rid) (fun rp : R × Pl => rid rp.1) canon where
  Repr S c L := W.Repr S.1 c (L.map (·.1)) ∧ ∀ rp ∈ L, lookupA (rid rp.1) S.2 = some rp.2
  repr_empty c := ⟨W.repr_empty c, by intro rp h; cases h⟩
  repr_insert S c L rp h hf := by
    refine ⟨?_, ?_⟩
    · exact W.repr_insert S.1 c (L.map (·.1)) rp.1 h.1 (by rw [List.map_map]; exact hf)
    · exact lookup_insertAllH rid [rp] L S.2 h.2 ⟨hf, trivial⟩
  repr_remove S c L id h := by
    refine ⟨?_, ?_⟩
    · have := W.repr_remove S.1 c (L.map (·.1)) id h.1
      rwa [List.filter_map] at this
    · exact handlers_filter rid (fun k => decide (k ≠ id)) h.2
  repr_changeSet S c L D h hv := by
    refine ⟨?_, ?_⟩
    · have := W.repr_changeSet S.1 c (L.map (·.1))
        (ChangeSet.mk (D.added.map (·.1)) (D.updated.map (·.1)) D.deleted) h.1 (valid_map rid D L hv)
      rw [live_map]
      exact this
    · intro x hx
      unfold ChangeSet.live liveChangeSet at hx
      rw [← insertAll_append] at hx
      have := lookup_insertAllH rid (D.updated ++ D.added) _ _
        (handlers_filter rid (fun k => !(D.deleted ++ D.updated.map (fun rp => rid rp.1)).contains k) h.2) hv x hx
      rw [insertAllH, List.foldl_append] at this
      exact this
  nodup S c L h := by
    have := W.nodup S.1 c _ h.1
    rwa [NodupIds, List.map_map] at this
  config S c L h := W.config S.1 c _ h.1
  routes S c L h := by
    have hp := (W.routes S.1 c _ h.1).filterMap
      (fun r => (lookupA (rid r) S.2).map fun p => (r, p))
    rw [filterMap_map_of_left_inv (·.1) _ L (by intro x hx; simp [h.2 x hx])] at hp
    exact hp
  match_nodup S c L h q := List.Nodup.sublist (map_filterMap_sublist _ _ rid
    (fun r b hb => by obtain ⟨p, _, rfl⟩ := Option.map_eq_some_iff.1 hb; rfl) _) (W.match_nodup S.1 c _ h.1 q)
  match_sub S c L h q x hx := by
    obtain ⟨r, hr, hx⟩ := List.mem_filterMap.1 hx
    obtain ⟨p, hp, rfl⟩ := Option.map_eq_some_iff.1 hx
    have hrL := W.match_sub S.1 c _ h.1 q r hr
    obtain ⟨rp, hrp, rfl⟩ := List.mem_map.mp hrL
    have := h.2 rp hrp
    rw [hp] at this
    cases this
    exact hrp
  match_perm S S' c L L' h h' hm q := by
    have hp := (W.match_perm S.1 S'.1 c _ _ h.1 h'.1 (mem_map_fst_congr hm) q).filterMap
      (fun r => (lookupA (rid r) S.2).map fun p => (r, p))
    refine hp.trans ?_
    have : ((A.view S'.1).matchReq q).filterMap (fun r => (lookupA (rid r) S.2).map fun p => (r, p)) =
        ((A.view S'.1).matchReq q).filterMap (fun r => (lookupA (rid r) S'.2).map fun p => (r, p)) := by
      apply Rio.Util.filterMap_congr
      intro r hr
      have hrL := W.match_sub S'.1 c _ h'.1 q r hr
      obtain ⟨rp, hrp, rfl⟩ := List.mem_map.mp hrL
      rw [h'.2 rp hrp, h.2 rp ((hm rp).mpr hrp)]
    simp only [withPayload]
    rw [this]
  trace_canon S S' c L L' h h' hm q := W.trace_canon S.1 S'.1 c _ _ h.1 h'.1 (mem_map_fst_congr hm) q

end

end Rio.Analysis
