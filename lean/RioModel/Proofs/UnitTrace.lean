/-
The unit trace is write-only (Model/UnitTrace.lean): every traced function returns the result of the untraced
one, paired with `written t ops`, the trace argument after a list of writes (`TOp`s; the `…Ops` of the function) that
does not depend on the trace; so nothing returned depends on the trace, and a call with `None` returns `None`.  Where the
traced result type differs from the untraced one (`TextItemT` carries an id; `OutT`), "the untraced one" is the traced
function called with `none`.

From `mem_sInsert` on, for the attribution theorems of Props/C05b.lean: membership in `diff` / `squash`, and which unit
or rule id a write can carry (`TOp.unit?`, `TOp.rule?`): a unit id in the squashed trace of writes to a fresh trace was
carried by one of them (`squash_units`); a write of `headerOps` / `chainOps` carries the id of one of the filters
(`…_units`) and no rule id (`headerOps_rule`); writes add to the rule ids those of the `ruleId` writes, in order
(`applyAll_ruleIds`).
-/
import RioModel.Model.UnitTrace
import RioModel.Proofs.Action

namespace Rio.Action
open Spec

theorem applyAll_append (t : UnitTrace) (a b : List TOp) :
    t.applyAll (a ++ b) = (t.applyAll a).applyAll b :=
  List.foldl_append

/-- `none` (a call with `None`) stays `none`; `some t` becomes `t` after the writes `ops`. -/
def written (t : Option UnitTrace) (ops : List TOp) : Option UnitTrace := t.map (·.applyAll ops)

theorem written_nil (t : Option UnitTrace) : written t [] = t := by cases t <;> rfl

theorem written_append (t : Option UnitTrace) (a b : List TOp) :
    written t (a ++ b) = written (written t a) b := by
  cases t with
  | none => rfl
  | some t => exact congrArg some (applyAll_append t a b)

theorem traceHeaderUnit_none (add : Bool) (f : HeaderFilter) (v : String) :
    traceHeaderUnit add f v none = none := rfl

def headerUnitOps (add : Bool) (f : HeaderFilter) (value : String) : List TOp :=
  match f.id with
  | none => []
  | some id =>
    .value id value ::
      (match f.targetHash with
       | none => []
       | some th => [if add then .addWithTarget th id else .overrideWithTarget th id])

theorem traceHeaderUnit_eq (add : Bool) (f : HeaderFilter) (v : String) (t : Option UnitTrace) :
    traceHeaderUnit add f v t = written t (headerUnitOps add f v) := by
  cases t with
  | none => rfl
  | some t =>
    unfold traceHeaderUnit headerUnitOps
    cases f.id with
    | none => rfl
    | some id =>
      cases f.targetHash with
      | none => rfl
      | some th => cases add <;> rfl

def configUnitOps (unitId : Option String) (target : String) : List TOp :=
  match unitId with
  | some u => [.addWithTarget target u]
  | none => []

theorem traceConfigUnit_eq (t : Option UnitTrace) (u : Option String) (target : String) :
    traceConfigUnit t u target = written t (configUnitOps u target) := by
  cases t <;> cases u <;> rfl

/-- One `configuration::reset` per effective `reset` rule reached, one `configuration::stop` for the effective `stop`
rule that ends the loop.  Both carry `configurationResetUnitId`, as in the source: `from_route_rule` returns ONE
`configuration_unit_id` (`rule.configuration_reset_unit_id`, src/action/mod.rs:352), used for both writes (:432, :441). -/
def foldOps (q : Req) (draw : Rule → Nat) : List Rule → List TOp
  | [] => []
  | r :: rest =>
    if effective q draw r then
      (if isReset r then configUnitOps r.configurationResetUnitId "configuration::reset" else []) ++
        (if isStop r then configUnitOps r.configurationResetUnitId "configuration::stop"
         else foldOps q draw rest)
    else foldOps q draw rest

theorem foldRoutesT_eq (q : Req) (draw : Rule → Nat) (a : Action) (t : Option UnitTrace) (S : List Rule) :
    foldRoutesT q draw a t S = (foldRoutes q draw a S, written t (foldOps q draw S)) := by
  induction S generalizing a t with
  | nil => rw [foldRoutesT, foldRoutes, foldOps, written_nil]
  | cons r rest ih =>
    rw [foldRoutesT, foldRoutes, foldOps, fromRouteRule_eq]
    cases he : effective q draw r
    · exact ih a t
    · cases hr : isReset r <;> cases hs : isStop r <;>
        simp only [if_true, Bool.false_eq_true, if_false, traceConfigUnit_eq, written_append,
          List.nil_append, ih]

theorem foldRoutesT_none (q : Req) (draw : Rule → Nat) (a : Action) (S : List Rule) :
    (foldRoutesT q draw a none S).2 = none := by
  rw [foldRoutesT_eq]; rfl

def statusOps (a : Action) (c : Nat) : List TOp :=
  match a.statusCodeUpdate with
  | none => []
  | some u =>
    match (u.getStatusCode c).2 with
    | none => []
    | some ruleId =>
      .ruleId ruleId ::
        (match u.targetHash, u.unitId with
         | some th, some uid => [.addWithTarget th uid]
         | _, _ => [])

theorem getStatusCodeT_eq (a : Action) (c : Nat) (t : Option UnitTrace) :
    a.getStatusCodeT c t = (a.getStatusCode c, written t (statusOps a c)) := by
  unfold Action.getStatusCodeT Action.getStatusCode statusOps
  obtain ⟨scu, _, _, _, _, _, _⟩ := a
  cases scu with
  | none => rw [written_nil]
  | some u =>
    simp only
    cases (u.getStatusCode c).2 with
    | none => rw [written_nil]; rfl
    | some id =>
      cases t with
      | none => rfl
      | some t => cases u.targetHash <;> cases u.unitId <;> rfl

theorem getFinalT_eq (a : Action) (c fb : Nat) (t : Option UnitTrace) :
    a.getFinalT c fb t = (a.getFinalStatusCodeWithFallback c fb, written t
      (statusOps a c ++ (if c == 0 && (a.getStatusCode c).1 == 0 then statusOps (a.getStatusCode c).2 fb else []))) := by
  unfold Action.getFinalT Action.getFinalStatusCodeWithFallback
  simp only [getStatusCodeT_eq]
  split
  · rw [written_append]
  · rw [List.append_nil]

/-- `.2.2`: the third component of `get_log_override` (`handled`, src/action/mod.rs:580), which
`LogOverride.getLogOverride` (Model/Action.lean) drops: only the trace reads it. -/
def logOps (a : Action) (c : Nat) : List TOp :=
  match a.logOverride with
  | none => []
  | some l =>
    if (Rio.Consts.logGetLogOverride l.logOverride l.onResponseStatusCodes l.excludeResponseStatusCodes
        l.fallbackLogOverride l.ruleId l.fallbackRuleId c).2.2
    then configUnitOps l.unitId "configuration::log" else []

theorem shouldLogRequestT_eq (a : Action) (allow : Bool) (c : Nat) (t : Option UnitTrace) :
    a.shouldLogRequestT allow c t = (a.shouldLogRequest allow c, written t (logOps a c)) := by
  unfold Action.shouldLogRequestT Action.shouldLogRequest LogOverride.getLogOverride logOps
  cases a.logOverride with
  | none => rw [written_nil]
  | some l =>
    simp only
    cases (Rio.Consts.logGetLogOverride l.logOverride l.onResponseStatusCodes l.excludeResponseStatusCodes
        l.fallbackLogOverride l.ruleId l.fallbackRuleId c).2.2
    · simp only [Bool.false_eq_true, if_false, written_nil]; rfl
    · simp only [if_true, traceConfigUnit_eq]; rfl

section
variable (lower : String → String)
open Rio.Header (Header sameName)

def actOps (f : HeaderFilter) (a : Rio.Header.Act) (hs : List Header) : List TOp :=
  match a with
  | .add _ _ => headerUnitOps true f f.value
  | .remove _ => headerUnitOps false f ""
  | .replace _ _ => (hs.filter (sameName lower f.header)).flatMap fun _ => headerUnitOps false f f.value
  | .override _ _ => headerUnitOps false f f.value
  | .default _ _ => if !Rio.Header.defaultFound lower f.header hs then headerUnitOps true f f.value else []

theorem replaceActionT_eq (f : HeaderFilter) (hs : List Header) (t : Option UnitTrace) :
    replaceActionT lower f hs t =
      (Rio.Header.replaceAction lower f.header f.value hs,
       written t ((hs.filter (sameName lower f.header)).flatMap fun _ => headerUnitOps false f f.value)) :=
  Rio.Util.foldl_prefix_inv _
    (fun T st => st = (Rio.Header.replaceAction lower f.header f.value T,
      written t ((T.filter (sameName lower f.header)).flatMap fun _ => headerUnitOps false f f.value)))
    hs [] ([], t)
    (fun T st h _ e => by
      subst e
      simp only [Rio.Header.replaceAction, List.foldl_append, List.foldl_cons, List.foldl_nil, List.filter_append]
      cases hc : sameName lower f.header h <;> simp [hc, written_append, traceHeaderUnit_eq])
    (by rw [List.filter_nil, List.flatMap_nil, written_nil]; rfl)

theorem createHeaderAction_cases (g : Rio.Header.HeaderFilter) (a : Rio.Header.Act)
    (h : Rio.Header.createHeaderAction g = some a) :
    a = .add g.header g.value ∨ a = .remove g.header ∨ a = .replace g.header g.value ∨
      a = .override g.header g.value ∨ a = .default g.header g.value := by
  unfold Rio.Header.createHeaderAction at h
  refine (Rio.Util.ite_some_eq_some h).imp_right fun h => ?_
  refine (Rio.Util.ite_some_eq_some h).imp_right fun h => ?_
  refine (Rio.Util.ite_some_eq_some h).imp_right fun h => ?_
  refine (Rio.Util.ite_some_eq_some h).imp_right fun h => ?_
  exact (Rio.Util.ite_some_eq_some h).resolve_right nofun

theorem runActT_eq (f : HeaderFilter) (a : Rio.Header.Act)
    (ha : Rio.Header.createHeaderAction (toHeaderOp f) = some a) (hs : List Header) (t : Option UnitTrace) :
    runActT lower f a hs t = (a.run lower hs, written t (actOps lower f a hs)) := by
  rcases createHeaderAction_cases _ a ha with rfl | rfl | rfl | rfl | rfl
  · exact congrArg (Prod.mk _) (traceHeaderUnit_eq ..)
  · exact congrArg (Prod.mk _) (traceHeaderUnit_eq ..)
  · exact replaceActionT_eq lower f hs t
  · exact congrArg (Prod.mk _) (traceHeaderUnit_eq ..)
  · simp only [runActT, defaultActionT, Rio.Header.Act.run, Rio.Header.defaultAction, actOps, toHeaderOp]
    rcases Bool.eq_false_or_eq_true (Rio.Header.defaultFound lower f.header hs) with h | h
    · simp only [h, Bool.not_true, Bool.false_eq_true, if_false, written_nil]
    · simp only [h, Bool.not_false, if_true, traceHeaderUnit_eq]

def pipelineOps : List (HeaderFilter × Rio.Header.Act) → List Header → List TOp
  | [], _ => []
  | fa :: rest, hs => actOps lower fa.1 fa.2 hs ++ pipelineOps rest (fa.2.run lower hs)

theorem pipeline_eq (l : List (HeaderFilter × Rio.Header.Act))
    (hl : ∀ fa ∈ l, Rio.Header.createHeaderAction (toHeaderOp fa.1) = some fa.2)
    (hs : List Header) (t : Option UnitTrace) :
    l.foldl (fun (st : List Header × Option UnitTrace) fa => runActT lower fa.1 fa.2 st.1 st.2) (hs, t) =
      ((l.map (·.2)).foldl (fun hs a => a.run lower hs) hs, written t (pipelineOps lower l hs)) := by
  induction l generalizing hs t with
  | nil => rw [pipelineOps, written_nil]; rfl
  | cons fa rest ih =>
    rw [List.foldl_cons, List.map_cons, List.foldl_cons, pipelineOps, written_append,
      runActT_eq lower fa.1 fa.2 (hl fa List.mem_cons_self)]
    exact ih (fun x hx => hl x (List.mem_cons_of_mem _ hx)) _ _

theorem actions_map_snd (fs : List HeaderFilter) :
    (fs.filterMap fun f => (Rio.Header.createHeaderAction (toHeaderOp f)).map fun a => (f, a)).map (·.2) =
      (fs.map toHeaderOp).filterMap Rio.Header.createHeaderAction := by
  induction fs with
  | nil => rfl
  | cons f rest ih =>
    simp only [List.filterMap_cons, List.map_cons]
    cases Rio.Header.createHeaderAction (toHeaderOp f) <;> simp [ih]

theorem actions_created (fs : List HeaderFilter) :
    ∀ fa ∈ (fs.filterMap fun f => (Rio.Header.createHeaderAction (toHeaderOp f)).map fun a => (f, a)),
      Rio.Header.createHeaderAction (toHeaderOp fa.1) = some fa.2 := by
  intro fa hfa
  obtain ⟨f, _, hf⟩ := List.mem_filterMap.mp hfa
  obtain ⟨a, ha, rfl⟩ := Option.map_eq_some_iff.mp hf
  exact ha

def headerOps (fs : List HeaderFilter) (hs : List Header) : List TOp :=
  pipelineOps lower (fs.filterMap fun f => (Rio.Header.createHeaderAction (toHeaderOp f)).map fun a => (f, a)) hs

theorem filterHeadersT_eq (fs : List HeaderFilter) (hs : List Header) (t : Option UnitTrace) :
    filterHeadersT lower fs hs t =
      (Rio.Header.filterHeaders lower (fs.map toHeaderOp) hs, written t (headerOps lower fs hs)) := by
  rcases fs with _ | ⟨f, fs⟩
  · exact (congrArg (Prod.mk hs) (written_nil t)).symm
  · simp only [filterHeadersT, Rio.Header.filterHeaders, headerOps, ← actions_map_snd,
      pipeline_eq lower _ (actions_created (f :: fs))]
    generalize ((f :: fs).filterMap fun f => (Rio.Header.createHeaderAction (toHeaderOp f)).map fun a => (f, a)) = l
    cases l with
    | nil => exact (congrArg (Prod.mk hs) (written_nil t)).symm
    | cons x l => rfl

def filterHeadersOps (a : Action) (hs : List Header) (c : Nat) : List TOp :=
  headerOps lower (a.filterHeaders c true).filters hs ++
    (a.filterHeaders c true).action.rulesApplied.map TOp.ruleId

theorem foldl_ruleId (t : UnitTrace) (ids : List RuleId) :
    ({ t with ruleIdsApplied := ids.foldl lhsInsert t.ruleIdsApplied } : UnitTrace) =
      t.applyAll (ids.map TOp.ruleId) := by
  induction ids generalizing t with
  | nil => rfl
  | cons id rest ih => exact ih (t.apply (.ruleId id))

theorem filterHeadersFullT_eq (showId : RuleId → String) (a : Action) (hs : List Header) (c : Nat)
    (add : Bool) (t : Option UnitTrace) :
    a.filterHeadersFullT lower showId hs c add t =
      (a.filterHeadersFull lower showId hs c add, written t (filterHeadersOps lower a hs c)) := by
  simp only [Action.filterHeadersFullT, Action.filterHeadersFull, filterHeadersOps, written_append,
    filterHeadersT_eq]
  cases t with
  | none => rfl
  | some t => exact congrArg (fun x => (_, some x)) (foldl_ruleId _ _)

end

namespace ProbeT

/-- The traced item without its id: the item of `Probe` (Model/Action.lean). -/
def forget (it : TextItemT) : Probe.TextItem := ⟨it.action, it.content, it.executed⟩

def textOps (over : Bool) (id : Option String) : List TOp :=
  match id with
  | some i => [if over then .overrideWithTarget "text" i else .addWithTarget "text" i]
  | none => []

theorem traceText_eq (over : Bool) (id : Option String) (t : Option UnitTrace) :
    traceText over id t = written t (textOps over id) := by
  cases t <;> cases id <;> cases over <;> rfl

def itemOps (it : TextItemT) : List TOp :=
  match it.action with
  | .replace => textOps true it.id
  | _ => textOps false it.id

theorem filter_eq (it : TextItemT) (data : String) (t : Option UnitTrace) :
    it.filter data t = ((it.filter data none).1, written t (itemOps it)) := by
  unfold TextItemT.filter itemOps
  cases it.action <;> exact congrArg (Prod.mk _) (traceText_eq ..)

theorem filter_forget (it : TextItemT) (data : String) :
    (forget (it.filter data none).1.1, (it.filter data none).1.2) = (forget it).filter data := by
  obtain ⟨action, _, _, executed⟩ := it
  cases action <;> cases executed <;> rfl

theorem finish_forget (it : TextItemT) : (forget it.finish.1, it.finish.2) = (forget it).finish := by
  obtain ⟨_, _, _, executed⟩ := it
  cases executed <;> rfl

def doFilterOps : List TextItemT → String → List TOp
  | [], _ => []
  | it :: rest, data =>
    itemOps it ++ (if (it.filter data none).1.2.isEmpty then [] else doFilterOps rest (it.filter data none).1.2)

theorem doFilterT_eq (chain : List TextItemT) (data : String) (t : Option UnitTrace) :
    doFilterT chain data t = ((doFilterT chain data none).1, written t (doFilterOps chain data)) := by
  induction chain generalizing data t with
  | nil => rw [doFilterOps, written_nil]; rfl
  | cons it rest ih =>
    rw [doFilterT, doFilterT, doFilterOps, written_append, filter_eq it data t]
    split
    · rw [written_nil]
    · rw [ih _ (written t (itemOps it)), ih _ (it.filter data none).2]

theorem doFilterT_forget (chain : List TextItemT) (data : String) :
    ((doFilterT chain data none).1.1.map forget, (doFilterT chain data none).1.2) =
      Probe.doFilter (chain.map forget) data := by
  induction chain generalizing data with
  | nil => rfl
  | cons it rest ih =>
    rw [doFilterT, List.map_cons, Probe.doFilter, ← filter_forget it data]
    split
    · rfl
    · rw [doFilterT_eq, ← ih]; rfl

def doEndOps : List TextItemT → Option String → List TOp
  | [], _ => []
  | it :: rest, none =>
    doEndOps rest (if it.finish.2.isEmpty then none else some it.finish.2)
  | it :: rest, some s =>
    itemOps it ++
      doEndOps rest
        (if ((it.filter s none).1.2 ++ (it.filter s none).1.1.finish.2).isEmpty then none
         else some ((it.filter s none).1.2 ++ (it.filter s none).1.1.finish.2))

theorem doEndT_eq (chain : List TextItemT) (data : Option String) (t : Option UnitTrace) :
    doEndT chain data t = (Probe.doEnd (chain.map forget) data, written t (doEndOps chain data)) := by
  induction chain generalizing data t with
  | nil => rw [doEndOps, written_nil]; rfl
  | cons it rest ih =>
    cases data with
    | none => rw [doEndT, doEndOps, List.map_cons, Probe.doEnd, ← finish_forget it]; exact ih _ _
    | some s =>
      rw [doEndT, doEndOps, List.map_cons, Probe.doEnd, written_append, filter_eq it s t,
        ← filter_forget it s]
      simp only
      rw [← finish_forget]
      exact ih _ _

theorem chainOf_forget (fs : List BodyFilter) : (chainOf fs).map forget = Probe.chainOf fs := by
  induction fs with
  | nil => rfl
  | cons f rest ih =>
    cases f with
    | text tf => exact congrArg (List.cons _) ih
    | html hf => exact ih

theorem chainOf_isEmpty (fs : List BodyFilter) : (chainOf fs).isEmpty = (Probe.chainOf fs).isEmpty := by
  rw [← chainOf_forget, List.isEmpty_map]

def chainOps (chain : List TextItemT) (body : String) : List TOp :=
  doFilterOps chain body ++ doEndOps (doFilterT chain body none).1.1 none

theorem runChain_eq (chain : List TextItemT) (body : String) (t : Option UnitTrace) :
    runChain chain body t =
      (Probe.runChain (chain.map forget) body, written t (chainOps chain body)) := by
  unfold runChain Probe.runChain chainOps
  rw [doFilterT_eq]
  simp only
  rw [doEndT_eq, written_append, ← doFilterT_forget]

end ProbeT

def opOps (env : EnvT) (c : Nat) (a : Action) : Op → List TOp
  | .status => statusOps a c
  | .headers => filterHeadersOps env.lower a env.headers c
  | .body =>
    if (ProbeT.chainOf (a.createFilterBody c).1).isEmpty then []
    else ProbeT.chainOps (ProbeT.chainOf (a.createFilterBody c).1) env.body
  | .log => logOps a c
  | .final fb =>
    statusOps a c ++
      (if c == 0 && (a.getStatusCode c).1 == 0 then statusOps (a.getStatusCode c).2 fb else [])

theorem runOpT_eq (env : EnvT) (c : Nat) (a : Action) (t : Option UnitTrace) (op : Op) :
    runOpT env c a t op = ((runOpT env c a none op).1, written t (opOps env c a op)) := by
  cases op with
  | status => simp only [runOpT, opOps, getStatusCodeT_eq]
  | headers => simp only [runOpT, opOps, filterHeadersFullT_eq]
  | body =>
    simp only [runOpT, opOps]
    split
    · rw [written_nil]
    · simp only [ProbeT.runChain_eq]
  | log => simp only [runOpT, opOps, shouldLogRequestT_eq]
  | final fb => simp only [runOpT, opOps, getFinalT_eq]

theorem runOpT_action (env : EnvT) (c : Nat) (a : Action) (t : Option UnitTrace) (op : Op) :
    (runOpT env c a t op).1.2 = (runOp env.allowLogConfig c a op).2 := by
  cases op with
  | status => simp only [runOpT, runOp, getStatusCodeT_eq]
  | headers => simp only [runOpT, runOp, filterHeadersFullT_eq, Action.filterHeadersFull]
  | body => simp only [runOpT, runOp]; split <;> rfl
  | log => simp only [runOpT, runOp, shouldLogRequestT_eq]
  | final fb => simp only [runOpT, runOp, getFinalT_eq]

def seqOps (env : EnvT) (c : Nat) : Action → List Op → List TOp
  | _, [] => []
  | a, op :: ops => opOps env c a op ++ seqOps env c (runOp env.allowLogConfig c a op).2 ops

theorem runOpsT_eq (env : EnvT) (c : Nat) (a : Action) (t : Option UnitTrace) (ops : List Op) :
    runOpsT env c a t ops =
      ((runOpsT env c a none ops).1, (runOpsT env c a none ops).2.1, written t (seqOps env c a ops)) := by
  induction ops generalizing a t with
  | nil => rw [seqOps, written_nil]; rfl
  | cons op rest ih =>
    rw [runOpsT, runOpsT, seqOps, written_append, runOpT_eq env c a t op, ← runOpT_action env c a none op]
    simp only
    rw [ih _ (written t (opOps env c a op)), ih _ (runOpT env c a none op).2]

theorem mem_sInsert (s : List String) (x y : String) : y ∈ sInsert s x ↔ y ∈ s ∨ y = x := by
  unfold sInsert
  simp only [List.mem_append, List.mem_filter, List.mem_singleton, Bool.not_eq_true', beq_eq_false_iff_ne]
  constructor
  · rintro (⟨h, _⟩ | h)
    · exact .inl h
    · exact .inr h
  · rintro (h | h)
    · by_cases e : y = x
      · exact .inr e
      · exact .inl ⟨h, e⟩
    · exact .inr h

theorem nodup_sInsert (s : List String) (x : String) (h : s.Nodup) : (sInsert s x).Nodup :=
  Rio.Util.nodup_filter_ne_concat h x

/-- A fold whose step gains `M` exactly when `Q` holds of the element read: `M` at the end iff `M` at the start or `Q`
of some element. -/
theorem foldl_gains {σ ρ : Type} (M : σ → Prop) (step : σ → ρ → σ) (Q : ρ → Prop)
    (h : ∀ s x, M (step s x) ↔ M s ∨ Q x) (l : List ρ) (s : σ) :
    M (l.foldl step s) ↔ M s ∨ ∃ x ∈ l, Q x := by
  induction l generalizing s with
  | nil => simp
  | cons x xs ih =>
    rw [List.foldl_cons, ih, h, or_assoc]
    simp only [List.mem_cons, exists_eq_or_imp]

theorem mem_diff (t : UnitTrace) (other : List String) (u : String) :
    u ∈ t.diff other ↔ u ∈ other ∧ u ∉ t.unitIdsApplied := by
  unfold UnitTrace.diff
  rw [foldl_gains (u ∈ ·) _ (fun x => u = x ∧ u ∉ t.unitIdsApplied)]
  · exact ⟨fun h => h.elim nofun fun ⟨x, hx, e, hn⟩ => ⟨e ▸ hx, hn⟩, fun h => .inr ⟨u, h.1, rfl, h.2⟩⟩
  · intro d x
    cases hx : t.unitIdsApplied.contains x
    · have : x ∉ t.unitIdsApplied := by simpa using hx
      simp only [Bool.not_false, if_true, mem_sInsert]
      exact or_congr_right ⟨fun e => ⟨e, e ▸ this⟩, And.left⟩
    · have : x ∈ t.unitIdsApplied := by simpa using hx
      simp only [Bool.not_true, Bool.false_eq_true, if_false]
      exact ⟨.inl, fun h => h.elim id fun h => absurd (h.1 ▸ this) h.2⟩

theorem nodup_diff (t : UnitTrace) (other : List String) : (t.diff other).Nodup :=
  Rio.Util.foldl_inv List.Nodup _ other [] List.nodup_nil fun d x _ h => by
    split
    · exact nodup_sInsert d x h
    · exact h

theorem mem_sortStrings (l : List String) (u : String) : u ∈ UnitTrace.sortStrings l ↔ u ∈ l :=
  (List.mergeSort_perm l _).mem_iff

theorem mem_foldl_addUnitId (ids : List String) (t : UnitTrace) (u : String) :
    u ∈ (ids.foldl UnitTrace.addUnitId t).unitIdsApplied ↔ u ∈ t.unitIdsApplied ∨ u ∈ ids := by
  have := foldl_gains (fun s : UnitTrace => u ∈ s.unitIdsApplied) UnitTrace.addUnitId (u = ·)
    (fun s x => mem_sInsert _ x u) ids t
  simpa using this

theorem mem_squash (t : UnitTrace) (u : String) :
    u ∈ t.squash.unitIdsApplied ↔ u ∈ t.unitIdsApplied ∨ ∃ e ∈ t.withTarget, u ∈ e.2 := by
  unfold UnitTrace.squash
  simp only [mem_sortStrings]
  exact foldl_gains (fun s : UnitTrace => u ∈ s.unitIdsApplied) _ (fun e : String × List String => u ∈ e.2)
    (fun s e => mem_foldl_addUnitId e.2 s u) _ _

/-- The unit id a write registers under a target (`value` and `ruleId` writes: none). -/
def TOp.unit? : TOp → Option String
  | .addWithTarget _ u => some u
  | .overrideWithTarget _ u => some u
  | _ => none

/-- The rule id a write records. -/
def TOp.rule? : TOp → Option RuleId
  | .ruleId id => some id
  | _ => none

theorem mem_wtAdd (m : List (String × List String)) (target u : String) (e : String × List String)
    (x : String) (he : e ∈ UnitTrace.wtAdd m target u) (hx : x ∈ e.2) :
    x = u ∨ ∃ e' ∈ m, x ∈ e'.2 := by
  unfold UnitTrace.wtAdd at he
  split at he
  · obtain ⟨e0, he0, rfl⟩ := List.mem_map.mp he
    by_cases h : (e0.1 == target) = true
    · simp only [h, if_true] at hx
      rcases (mem_sInsert _ _ _).mp hx with h' | h'
      · exact .inr ⟨e0, he0, h'⟩
      · exact .inl h'
    · simp only [h, Bool.false_eq_true, if_false] at hx
      exact .inr ⟨e0, he0, hx⟩
  · rcases List.mem_append.mp he with h | h
    · exact .inr ⟨e, h, hx⟩
    · simp only [List.mem_singleton] at h
      subst h
      simp only [List.mem_singleton] at hx
      exact .inl hx

theorem mem_wtOverride (m : List (String × List String)) (target u : String) (e : String × List String)
    (x : String) (he : e ∈ UnitTrace.wtOverride m target u) (hx : x ∈ e.2) :
    x = u ∨ ∃ e' ∈ m, x ∈ e'.2 := by
  rcases mem_wtAdd _ target u e x he hx with h | ⟨e', he', hx'⟩
  · exact .inl h
  · exact .inr ⟨e', (List.mem_filter.mp he').1, hx'⟩

theorem apply_unitIdsApplied (t : UnitTrace) (op : TOp) : (t.apply op).unitIdsApplied = t.unitIdsApplied := by
  cases op <;> rfl

theorem applyAll_unitIdsApplied (t : UnitTrace) (ops : List TOp) :
    (t.applyAll ops).unitIdsApplied = t.unitIdsApplied :=
  Rio.Util.foldl_inv (fun s => s.unitIdsApplied = t.unitIdsApplied) _ ops t rfl fun s op _ h =>
    (apply_unitIdsApplied s op).trans h

theorem apply_units (P : String → Prop) (t : UnitTrace) (op : TOp)
    (hop : ∀ u, op.unit? = some u → P u) (hin : ∀ e ∈ t.withTarget, ∀ x ∈ e.2, P x) :
    ∀ e ∈ (t.apply op).withTarget, ∀ x ∈ e.2, P x := by
  intro e he x hx
  cases op with
  | ruleId id => exact hin e he x hx
  | value k v => exact hin e he x hx
  | addWithTarget target u =>
    rcases mem_wtAdd _ target u e x he hx with h | ⟨e', he', hx'⟩
    · subst h; exact hop x rfl
    · exact hin e' he' x hx'
  | overrideWithTarget target u =>
    rcases mem_wtOverride _ target u e x he hx with h | ⟨e', he', hx'⟩
    · subst h; exact hop x rfl
    · exact hin e' he' x hx'

theorem applyAll_units (P : String → Prop) (ops : List TOp) (t : UnitTrace)
    (hop : ∀ op ∈ ops, ∀ u, op.unit? = some u → P u) (hin : ∀ e ∈ t.withTarget, ∀ x ∈ e.2, P x) :
    ∀ e ∈ (t.applyAll ops).withTarget, ∀ x ∈ e.2, P x :=
  Rio.Util.foldl_inv (fun s : UnitTrace => ∀ e ∈ s.withTarget, ∀ x ∈ e.2, P x) _ ops t hin fun s op h =>
    apply_units P s op (hop op h)

theorem squash_units (ops : List TOp) (u : String)
    (h : u ∈ (UnitTrace.empty.applyAll ops).squash.unitIdsApplied) : ∃ op ∈ ops, op.unit? = some u := by
  rcases (mem_squash _ u).mp h with h | ⟨e, he, hx⟩
  · rw [applyAll_unitIdsApplied] at h
    cases h
  · exact applyAll_units (fun x => ∃ op ∈ ops, op.unit? = some x) ops UnitTrace.empty
      (fun op hop x hx => ⟨op, hop, hx⟩) (fun e he => by cases he) e he u hx

theorem applyAll_ruleIds (ops : List TOp) (t : UnitTrace) :
    (t.applyAll ops).ruleIdsApplied = (ops.filterMap TOp.rule?).foldl lhsInsert t.ruleIdsApplied := by
  rw [List.foldl_filterMap]
  exact (List.foldl_hom (fun t : UnitTrace => t.ruleIdsApplied) (g₁ := UnitTrace.apply)
    fun t op => by cases op <;> rfl).symm

theorem configUnitOps_unit (o : Option String) (target : String) (w : TOp) (u : String)
    (hw : w ∈ configUnitOps o target) (hu : w.unit? = some u) : o = some u := by
  cases o with
  | none => cases hw
  | some x =>
    obtain rfl := List.mem_singleton.mp hw
    exact hu

theorem mem_headerUnitOps (add : Bool) (f : HeaderFilter) (v : String) (op : TOp)
    (hop : op ∈ headerUnitOps add f v) :
    ∃ id, f.id = some id ∧
      (op = .value id v ∨ ∃ th, op = .addWithTarget th id ∨ op = .overrideWithTarget th id) := by
  unfold headerUnitOps at hop
  cases hid : f.id with
  | none => rw [hid] at hop; cases hop
  | some id =>
    rw [hid] at hop
    refine ⟨id, rfl, ?_⟩
    rcases List.mem_cons.mp hop with rfl | hop
    · exact .inl rfl
    · cases hth : f.targetHash with
      | none => rw [hth] at hop; cases hop
      | some th =>
        rw [hth] at hop
        obtain rfl := List.mem_singleton.mp hop
        exact .inr ⟨th, by cases add <;> simp⟩

section
variable (lower : String → String)

theorem mem_actOps (f : HeaderFilter) (a : Rio.Header.Act) (hs : List Rio.Header.Header) (op : TOp)
    (hop : op ∈ actOps lower f a hs) : ∃ add v, op ∈ headerUnitOps add f v := by
  cases a with
  | add n v => exact ⟨_, _, hop⟩
  | remove n => exact ⟨_, _, hop⟩
  | replace n v =>
    obtain ⟨_, _, h⟩ := List.mem_flatMap.mp hop
    exact ⟨_, _, h⟩
  | override n v => exact ⟨_, _, hop⟩
  | default n v =>
    simp only [actOps] at hop
    split at hop
    · exact ⟨_, _, hop⟩
    · cases hop

theorem mem_pipelineOps (l : List (HeaderFilter × Rio.Header.Act)) (hs : List Rio.Header.Header) (op : TOp)
    (hop : op ∈ pipelineOps lower l hs) : ∃ fa ∈ l, ∃ hs', op ∈ actOps lower fa.1 fa.2 hs' := by
  induction l generalizing hs with
  | nil => cases hop
  | cons fa rest ih =>
    rcases List.mem_append.mp hop with h | h
    · exact ⟨fa, List.mem_cons_self, hs, h⟩
    · exact let ⟨x, hx, h'⟩ := ih _ h; ⟨x, List.mem_cons_of_mem _ hx, h'⟩

theorem mem_headerOps (fs : List HeaderFilter) (hs : List Rio.Header.Header) (op : TOp)
    (hop : op ∈ headerOps lower fs hs) : ∃ f ∈ fs, ∃ add v, op ∈ headerUnitOps add f v := by
  obtain ⟨fa, hfa, hs', h⟩ := mem_pipelineOps lower _ hs op hop
  obtain ⟨f, hf, hfe⟩ := List.mem_filterMap.mp hfa
  obtain ⟨a, _, rfl⟩ := Option.map_eq_some_iff.mp hfe
  exact ⟨f, hf, mem_actOps lower f a hs' op h⟩

theorem headerOps_units (fs : List HeaderFilter) (hs : List Rio.Header.Header) (op : TOp) (u : String)
    (hop : op ∈ headerOps lower fs hs) (hu : op.unit? = some u) : ∃ f ∈ fs, f.id = some u := by
  obtain ⟨f, hf, add, v, h⟩ := mem_headerOps lower fs hs op hop
  obtain ⟨id, hid, rfl | ⟨th, rfl | rfl⟩⟩ := mem_headerUnitOps add f v op h
  · cases hu
  · exact ⟨f, hf, hid.trans hu⟩
  · exact ⟨f, hf, hid.trans hu⟩

theorem headerOps_rule (fs : List HeaderFilter) (hs : List Rio.Header.Header) (op : TOp)
    (hop : op ∈ headerOps lower fs hs) : op.rule? = none := by
  obtain ⟨f, _, add, v, h⟩ := mem_headerOps lower fs hs op hop
  obtain ⟨id, _, rfl | ⟨th, rfl | rfl⟩⟩ := mem_headerUnitOps add f v op h <;> rfl

end

namespace ProbeT

theorem itemOps_units (it : TextItemT) (op : TOp) (u : String) (hop : op ∈ itemOps it)
    (hu : op.unit? = some u) : it.id = some u := by
  unfold itemOps textOps at hop
  cases hid : it.id with
  | none => cases ha : it.action <;> simp [hid, ha] at hop
  | some i =>
    cases ha : it.action <;> simp only [hid, ha, List.mem_singleton] at hop <;> subst hop <;>
      simp_all [TOp.unit?]

theorem filter_id (it : TextItemT) (data : String) (t : Option UnitTrace) : (it.filter data t).1.1.id = it.id := by
  unfold TextItemT.filter
  cases it.action <;> simp <;> split <;> rfl

theorem finish_id (it : TextItemT) : it.finish.1.id = it.id := by
  unfold TextItemT.finish
  split <;> rfl

theorem doFilterT_ids (chain : List TextItemT) (data : String) (t : Option UnitTrace) :
    (doFilterT chain data t).1.1.map (·.id) = chain.map (·.id) := by
  induction chain generalizing data t with
  | nil => rfl
  | cons it rest ih =>
    simp only [doFilterT]
    split
    · simp [filter_id]
    · simp [filter_id, ih]

theorem doFilterOps_units (chain : List TextItemT) (data : String) (op : TOp) (u : String)
    (hop : op ∈ doFilterOps chain data) (hu : op.unit? = some u) : some u ∈ chain.map (·.id) := by
  induction chain generalizing data with
  | nil => cases hop
  | cons it rest ih =>
    simp only [doFilterOps, List.mem_append] at hop
    rcases hop with h | h
    · simp [itemOps_units it op u h hu]
    · split at h
      · cases h
      · exact List.mem_cons_of_mem _ (ih _ h)

theorem doEndOps_units (chain : List TextItemT) (data : Option String) (op : TOp) (u : String)
    (hop : op ∈ doEndOps chain data) (hu : op.unit? = some u) : some u ∈ chain.map (·.id) := by
  induction chain generalizing data with
  | nil => cases data <;> cases hop
  | cons it rest ih =>
    cases data with
    | none =>
      simp only [doEndOps] at hop
      exact List.mem_cons_of_mem _ (ih _ hop)
    | some s =>
      simp only [doEndOps, List.mem_append] at hop
      rcases hop with h | h
      · simp [itemOps_units it op u h hu]
      · exact List.mem_cons_of_mem _ (ih _ h)

theorem chainOps_units (fs : List BodyFilter) (body : String) (op : TOp) (u : String)
    (hop : op ∈ chainOps (chainOf fs) body) (hu : op.unit? = some u) :
    ∃ tf, BodyFilter.text tf ∈ fs ∧ tf.id = some u := by
  have hmem : some u ∈ (chainOf fs).map (·.id) := by
    unfold chainOps at hop
    rcases List.mem_append.mp hop with h | h
    · exact doFilterOps_units _ _ op u h hu
    · have := doEndOps_units _ _ op u h hu
      rwa [doFilterT_ids] at this
  obtain ⟨it, hit, hid⟩ := List.mem_map.mp hmem
  unfold chainOf at hit
  obtain ⟨f, hf, hfe⟩ := List.mem_filterMap.mp hit
  cases f with
  | text tf =>
    simp only [Option.some.injEq] at hfe
    subst hfe
    exact ⟨tf, hf, hid⟩
  | html h => cases hfe

end ProbeT

end Rio.Action
