/-
Helper lemmas for Props/C19gen2.lean: the TRANSLATED impact entry points (`Rio.Consts.genFromImpactProject`,
`genImpactCreateResult`, `genComputeImpactsHead`; tools/consts.d/w9_tr_w28_impact.py) instantiated on the router algebra `Alg`
and the pipeline `Pipe` of Model/LoopAnalysis.lean (`genComputeImpacts`, `genImpactProject`, `genImpactStandalone`: defined HERE), and
the equalities with the hand-written model.
-/
import RioModel.Model.LoopAnalysis
import RioModel.Generated.Consts

namespace Rio.Analysis

/-- a loop whose body starts with `if p a { continue; }` is the loop over the elements that are not skipped -/
theorem foldl_continue {α β : Type} (p : α → Bool) (f : β → α → β) (l : List α) (s : β) :
    l.foldl (fun s a => if p a then s else f s a) s = (l.filter fun a => !p a).foldl f s := by
  rw [List.foldl_filter]
  congr
  funext s a
  cases p a <;> rfl

section
variable {St Rule Req Cfg Tr Ex Id UId UT Core U M Dom : Type}
variable [DecidableEq Id] [DecidableEq U] [DecidableEq M]
variable (A : Alg St Rule Req Cfg Tr Id) (P : Pipe Rule Req Cfg Ex Id UId UT Core U M Dom)

/-- the part of `compute_impacts` that is NOT translated (everything after its first statement), on the views of the two
routers: the hand-written loop -/
def impactLoopOf (router traceRouter : St) (examples : Option (List Ex)) (withLoop : Bool) (maxHops : Nat)
    (dom : Dom) : List (Impact Ex Core Tr U M) :=
  computeImpacts P (A.view router) (A.view traceRouter) examples withLoop maxHops dom

/-- translated `compute_impacts` (translated head, hand-written loop) on the algebra -/
def genComputeImpacts (router traceRouter : St) (examples : Option (List Ex)) (withLoop : Bool) (maxHops : Nat)
    (action : String) (rule : Rule) (dom : Dom) : List (Impact Ex Core Tr U M) :=
  Rio.Consts.genComputeImpactsHead A.insert (impactLoopOf A P) router traceRouter examples withLoop maxHops action rule dom

/-- translated `from_impact_project` on the algebra: `update_existing_router` = `Alg.update`, `from_arc_config` =
`Alg.empty`, `router.config` = the config of the view -/
def genImpactProject (D : ChangeSet Rule Id) (I : ImpactSpec Rule Dom) (base : St) : List (Impact Ex Core Tr U M) :=
  Rio.Consts.genFromImpactProject (fun D s => A.update D s) A.empty (fun s => (A.view s).config) A.remove P.ruleId
    P.examples (genComputeImpacts A P) I.maxHops I.withLoop I.domains I.rule I.action D base

/-- translated `create_result` on the algebra -/
def genImpactStandalone (c : Cfg) (rules : List Rule) (I : ImpactSpec Rule Dom) : List (Impact Ex Core Tr U M) :=
  Rio.Consts.genImpactCreateResult A.empty A.insert P.ruleId P.examples (genComputeImpacts A P) c I.maxHops I.withLoop
    I.domains I.rule I.action rules

omit [DecidableEq Id] in
theorem genComputeImpacts_eq (router traceRouter : St) (I : ImpactSpec Rule Dom) :
    genComputeImpacts A P router traceRouter (P.examples I.rule) I.withLoop I.maxHops I.action I.rule I.domains =
      impactOn A P router traceRouter I := by
  unfold genComputeImpacts Rio.Consts.genComputeImpactsHead impactOn impactLoopOf
  by_cases h1 : I.action = "add" <;> by_cases h2 : I.action = "update" <;> simp [h1, h2]

theorem genImpactProject_eq (D : ChangeSet Rule Id) (I : ImpactSpec Rule Dom) (base : St) :
    genImpactProject A P D I base = impactProject A P D I base := by
  unfold genImpactProject Rio.Consts.genFromImpactProject impactProject
  exact genComputeImpacts_eq A P _ _ I

theorem genImpactStandalone_eq (c : Cfg) (rules : List Rule) (I : ImpactSpec Rule Dom) :
    genImpactStandalone A P c rules I = impactStandalone A P c rules I := by
  unfold genImpactStandalone Rio.Consts.genImpactCreateResult impactStandalone Alg.build
  simp only []
  rw [genComputeImpacts_eq]
  congr 1
  rw [foldl_continue (fun r => decide (P.ruleId r = P.ruleId I.rule)) (fun S r => A.insert r S)]
  congr 1
  apply List.filter_congr
  intro r _
  simp

end
end Rio.Analysis
