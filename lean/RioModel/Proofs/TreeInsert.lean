/-
`Item.insert` preserves the structural invariant — for every inserted string (no hypothesis on the
pattern: the scanner always cuts at one of its own boundaries).
-/
import RioModel.Proofs.TreeBasic
-- `regex_newLeafItem` takes the `[DecidableEq ι]` of the `variable` line without using it
set_option linter.unusedSectionVars false

namespace Rio.Tree
open Rio.Scan

variable {ι V : Type} [DecidableEq ι]

/-- The invariant of the child-selection loop of `Node::insert`.  The running `mx` only grows, so the selected position is
described relative to any lower bound `mx0` of it: that is what survives the induction and what the caller knows.  `hpp`: the
arm `r == p` sets `mx` to `commonPrefixCharSize p p`, whatever it was, and `mx0` has to stay below that too. -/
theorem selLoop_spec {p : List Char} {rs : List (List Char)} {i mx mx0 : Nat} {item : Option Nat}
    (hmx : mx0 ≤ mx) (hpp : mx0 ≤ commonPrefixCharSize p p) :
    (selLoop p rs i mx item = item ∧ (item = none → ∀ r ∈ rs, Sib mx p r)) ∨
    ∃ pre r post, rs = pre ++ r :: post ∧ selLoop p rs i mx item = some (i + pre.length) ∧ ¬ Sib mx0 p r := by
  induction rs generalizing i mx item with
  | nil => exact .inl ⟨rfl, fun _ _ h => nomatch h⟩
  | cons r rs ih =>
    rw [selLoop]
    by_cases hc : (commonPrefixCharSize p r > mx || (item.isNone && r == p)) = true
    · rw [if_pos hc]
      have hsel : ¬ Sib mx0 p r := by
        simp only [Bool.or_eq_true, decide_eq_true_eq, Bool.and_eq_true, beq_iff_eq] at hc
        exact not_sib_iff.2 (hc.imp (fun h => by omega) fun h => h.2.symm)
      have hmx' : mx0 ≤ commonPrefixCharSize p r := by
        rcases not_sib_iff.1 hsel with h | h
        · omega
        · rw [← h]; exact hpp
      rcases ih (i := i + 1) (item := some i) hmx' with ⟨h, _⟩ | ⟨pre, r', post, e, hs, hn⟩
      · exact .inr ⟨[], r, rs, rfl, h, hsel⟩
      · exact .inr ⟨r :: pre, r', post, by rw [e]; rfl, by rw [hs, Nat.add_right_comm]; rfl, hn⟩
    · rw [if_neg hc]
      rcases ih (i := i + 1) (item := item) hmx with ⟨h, hall⟩ | ⟨pre, r', post, e, hs, hn⟩
      · refine .inl ⟨h, fun hi => List.forall_mem_cons.2 ⟨?_, hall hi⟩⟩
        simp only [hi, Option.isNone_none, Bool.true_and, Bool.or_eq_true, decide_eq_true_eq, beq_iff_eq, not_or] at hc
        exact ⟨by omega, fun e => hc.2 e.symm⟩
      · exact .inr ⟨r :: pre, r', post, by rw [e]; rfl, by rw [hs, Nat.add_right_comm]; rfl, hn⟩

theorem selLoop_cases (p : List Char) (rs : List (List Char)) {mx : Nat} (hpp : mx ≤ commonPrefixCharSize p p) :
    (selLoop p rs 0 mx none = none ∧ ∀ r ∈ rs, Sib mx p r) ∨
    ∃ pre r post, rs = pre ++ r :: post ∧ selLoop p rs 0 mx none = some pre.length ∧ ¬ Sib mx p r := by
  rcases selLoop_spec (rs := rs) (i := 0) (item := none) (Nat.le_refl mx) hpp with ⟨h, hall⟩ | ⟨pre, r, post, e, h, hn⟩
  · exact .inl ⟨h, hall rfl⟩
  · exact .inr ⟨pre, r, post, e, by rw [h, Nat.zero_add], hn⟩

theorem selLoop_lt {p : List Char} {rs : List (List Char)} {mx k : Nat}
    (h : selLoop p rs 0 mx none = some k) : k < rs.length := by
  rcases selLoop_spec (rs := rs) (i := 0) (item := none) (Nat.zero_le mx) (Nat.zero_le _) with ⟨h1, _⟩ | ⟨pre, r, post, rfl, h1, _⟩
  · rw [h1] at h; cases h
  · rw [h1] at h; cases h; simp

theorem insertAt_append (pre : List (Item ι V)) (c : Item ι V) (post : List (Item ι V))
    (p : List Char) (id : ι) (v : V) :
    insertAt (pre ++ c :: post) pre.length p id v = pre ++ post ++ [c.insert p id v] := by
  induction pre with
  | nil => simp [insertAt]
  | cons a pre ih => simp [insertAt, ih]

theorem insertAt_map (F : Item ι V → Item ι V) (cs : List (Item ι V)) (i : Nat) (p : List Char) (id : ι) (v v' : V)
    (h : ∀ c ∈ cs, F (c.insert p id v) = (F c).insert p id v') :
    (insertAt cs i p id v).map F = insertAt (cs.map F) i p id v' := by
  induction cs generalizing i with
  | nil => simp [insertAt]
  | cons c cs ih =>
    cases i with
    | zero => simp [insertAt, h c (by simp)]
    | succ i => simp [insertAt, ih i fun d hd => h d (by simp [hd])]

theorem insert_node_split {rx : LazyRegex} {cs : List (Item ι V)} {p : List Char} {id : ι} {v : V}
    (h : commonPrefixCharSize p rx.original < rx.original.length) :
    (Item.node rx cs).insert p id v =
      .node (LazyRegex.newNode (getPrefixWithCharSize rx.original (commonPrefixCharSize p rx.original)) rx.ic)
        [newLeafItem p id v rx.ic, .node rx cs] := by
  rw [Item.insert]; simp [h]

theorem insert_node_some {rx : LazyRegex} {cs : List (Item ι V)} {p : List Char} {id : ι} {v : V} {i : Nat}
    (h : ¬ commonPrefixCharSize p rx.original < rx.original.length)
    (hs : selLoop p (cs.map Item.regex) 0 rx.original.length none = some i) :
    (Item.node rx cs).insert p id v = .node rx (insertAt cs i p id v) := by
  rw [Item.insert]; simp [h, hs]

theorem insert_node_none {rx : LazyRegex} {cs : List (Item ι V)} {p : List Char} {id : ι} {v : V}
    (h : ¬ commonPrefixCharSize p rx.original < rx.original.length)
    (hs : selLoop p (cs.map Item.regex) 0 rx.original.length none = none) :
    (Item.node rx cs).insert p id v = .node rx (cs ++ [newLeafItem p id v rx.ic]) := by
  rw [Item.insert]; simp [h, hs]

theorem insert_leaf (rx : LazyRegex) (vs : List (ι × V)) (p : List Char) (id : ι) (v : V) :
    (Item.leaf rx vs).insert p id v = leafInsert rx vs p id v := by
  rw [Item.insert]

theorem insert_empty (ic : Bool) (p : List Char) (id : ι) (v : V) :
    (Item.empty ic : Item ι V).insert p id v = newLeafItem p id v ic := by
  rw [Item.insert]

/-- The three ways `Node::insert` goes.  The pattern leaves the node's prefix before its end: a new node with the common
prefix over a fresh leaf and the old node.  Otherwise the prefix is a boundary prefix of the pattern, and either no child
shares more than it with the pattern (`Sib` with every child): a fresh leaf is pushed; or the selected child, one that is not
`Sib`, takes the pattern and moves to the end (`insertAt`). -/
theorem insert_node_cases {ic : Bool} {rx : LazyRegex} {cs : List (Item ι V)} (h : (Item.node rx cs).inv ic = true)
    (p : List Char) (id : ι) (v : V) :
    (commonPrefixCharSize p rx.original < rx.original.length ∧ rx.original ≠ p ∧
      (Item.node rx cs).insert p id v =
        .node (LazyRegex.newNode (commonPrefix rx.original p) rx.ic) [newLeafItem p id v rx.ic, .node rx cs]) ∨
    (BPre rx.original p ∧
      (((∀ c ∈ cs, Sib rx.original.length p c.regex) ∧
        (Item.node rx cs).insert p id v = .node rx (cs ++ [newLeafItem p id v rx.ic])) ∨
      ∃ pre c post, cs = pre ++ c :: post ∧ ¬ Sib rx.original.length p c.regex ∧
        (Item.node rx cs).insert p id v = .node rx (pre ++ post ++ [c.insert p id v]))) := by
  have hbd := (inv_node_iff.1 h).2.2.1
  by_cases hsplit : commonPrefixCharSize p rx.original < rx.original.length
  · refine Or.inl ⟨hsplit, fun e => ?_, by rw [insert_node_split hsplit, commonPrefix, cpcs_comm]⟩
    -- the node prefix is a scanner boundary: compared with itself the scanner consumes all of it
    exact Nat.ne_of_lt hsplit (cpcs_eq_of_bpre ⟨e ▸ List.prefix_refl _, hbd⟩)
  have hq : BPre rx.original p :=
    ⟨prefix_of_cpcs_eq (Nat.le_antisymm (cpcs_le_right p rx.original) (Nat.le_of_not_lt hsplit)), hbd⟩
  refine Or.inr ⟨hq, ?_⟩
  rcases selLoop_cases p (cs.map Item.regex) (le_cpcs_of_bpre hq hq) with ⟨hs, hnone⟩ | ⟨rpre, r, rpost, e, hs, hsel⟩
  · exact Or.inl ⟨fun c hc => hnone c.regex (List.mem_map_of_mem hc), insert_node_none hsplit hs⟩
  · obtain ⟨pre, crest, rfl, rfl, hrest⟩ := List.map_eq_append_iff.1 e
    obtain ⟨c, post, rfl, rfl, _⟩ := List.map_eq_cons_iff.1 hrest
    rw [List.length_map] at hs
    exact Or.inr ⟨pre, c, post, rfl, hsel, by rw [insert_node_some hsplit hs, insertAt_append]⟩

theorem insert_not_emptyCtor (t : Item ι V) (p : List Char) (id : ι) (v : V) :
    (t.insert p id v).isEmptyCtor = false := by
  cases t with
  | empty ic => simp [insert_empty, newLeafItem, Item.isEmptyCtor]
  | leaf rx vs =>
    rw [insert_leaf]; unfold leafInsert; split <;> simp [Item.isEmptyCtor]
  | node rx cs =>
    rw [Item.insert]
    split
    · simp [Item.isEmptyCtor]
    · split <;> simp [Item.isEmptyCtor]

/-- `insert` keeps an item's regex and node-ness, unless it splits above the item: then the regex shrinks to the common
prefix with `p`. -/
theorem insert_regex_cases {ic : Bool} (c : Item ι V) (hc : c.inv ic = true) (hne : c.isEmptyCtor = false)
    (p : List Char) (id : ι) (v : V) :
    ((c.insert p id v).regex = c.regex ∧ (c.insert p id v).isNode = c.isNode) ∨
    ((c.insert p id v).regex = commonPrefix c.regex p ∧ c.regex ≠ p) := by
  cases c with
  | empty ic' => simp [Item.isEmptyCtor] at hne
  | leaf rx vs =>
    rw [insert_leaf]; unfold leafInsert
    split
    · exact .inl ⟨rfl, rfl⟩
    · next hp => exact .inr ⟨rfl, fun e => hp e.symm⟩
  | node rx cs =>
    rcases insert_node_cases hc p id v with ⟨_, hne', e⟩ | ⟨_, ⟨_, e⟩ | ⟨pre, d, post, _, _, e⟩⟩
    · right; rw [e]; exact ⟨rfl, hne'⟩
    · left; rw [e]; exact ⟨rfl, rfl⟩
    · left; rw [e]; exact ⟨rfl, rfl⟩

theorem inv_newLeafItem (p : List Char) (id : ι) (v : V) (ic : Bool) :
    (newLeafItem p id v ic).inv ic = true := by
  simp [newLeafItem, inv_leaf_iff, nodupKeys]

@[simp] theorem regex_newLeafItem (p : List Char) (id : ι) (v : V) (ic : Bool) :
    (newLeafItem p id v ic).regex = p := rfl

theorem inv_node_pair {ic : Bool} {q : List Char} {a b : Item ι V} (hq : (scan b0 q).atBoundary = true)
    (ha : a.inv ic = true) (hb : b.inv ic = true) (hoa : childOk q a = true) (hob : childOk q b = true)
    (hsib : Sib q.length a.regex b.regex) : (Item.node (LazyRegex.newNode q ic) [a, b]).inv ic = true := by
  rw [inv_node_iff, newNode_original]
  exact ⟨newNode_nodeWf _ _, rfl, hq, Nat.le_refl 2, by simp [hoa, hob], List.pairwise_pair.2 hsib, by simp [ha, hb]⟩

/-- `Vec::remove(i)` + `push`: the child at `i` is replaced and moves to the end. -/
theorem forall_mem_moved {α : Type} {P : α → Prop} {pre post : List α} {c c' : α}
    (h : ∀ d ∈ pre ++ c :: post, P d) (hc' : P c') : ∀ d ∈ pre ++ post ++ [c'], P d := by
  intro d hd
  simp only [List.mem_append, List.mem_cons, List.not_mem_nil, or_false] at hd
  rcases hd with (hd | hd) | rfl
  · exact h d (by simp [hd])
  · exact h d (by simp [hd])
  · exact hc'

theorem pairwise_moved {α : Type} {R : α → α → Prop} (hsymm : ∀ {a b}, R a b → R b a) {pre post : List α} {c c' : α}
    (h : (pre ++ c :: post).Pairwise R) (hc' : ∀ a, R a c → R a c') : (pre ++ post ++ [c']).Pairwise R := by
  rw [List.pairwise_append, List.pairwise_cons] at h
  obtain ⟨hp1, ⟨hpc, hp2⟩, hp3⟩ := h
  rw [List.pairwise_append, List.pairwise_append]
  refine ⟨⟨hp1, hp2, fun a ha b hb => hp3 a ha b (List.mem_cons_of_mem _ hb)⟩, List.pairwise_singleton _ _, ?_⟩
  intro a ha b hb
  rw [List.mem_singleton.1 hb]
  rcases List.mem_append.1 ha with ha | ha
  · exact hc' a (hp3 a ha c List.mem_cons_self)
  · exact hc' a (hsymm (hpc a ha))

theorem insert_child_ok {ic : Bool} {q p : List Char} {c : Item ι V} (hq : (scan b0 q).atBoundary = true)
    (hcinv : c.inv ic = true) (hcok : childOk q c = true)
    (hsel : ¬ Sib q.length p c.regex) (id : ι) (v : V) :
    childOk q (c.insert p id v) = true ∧ ∀ r, Sib q.length r c.regex → Sib q.length r (c.insert p id v).regex := by
  have hcpre := childOk_bpre hcok
  rcases insert_regex_cases c hcinv (childOk_notEmpty hcok) p id v with ⟨hr, hn⟩ | ⟨hr, hne⟩
  · refine ⟨childOk_of (insert_not_emptyCtor _ _ _ _) (by rw [hr]; exact hcpre) ?_, ?_⟩
    · intro hn'; rw [hr]; rw [hn] at hn'; exact childOk_lt hcok hn'
    · intro r hsib; rw [hr]; exact hsib
  · -- the child's prefix became the common prefix with `p`, which is longer than `q`
    have hk : q.length < (commonPrefix c.regex p).length := by
      rw [commonPrefix_length, cpcs_comm]; exact (not_sib_iff.1 hsel).resolve_right fun e => hne e.symm
    have hb := commonPrefix_bpre_left c.regex p
    rw [← hr] at hb hk
    exact ⟨childOk_of (insert_not_emptyCtor _ _ _ _)
      ⟨List.prefix_of_prefix_length_le hcpre.1 hb.1 (Nat.le_of_lt hk), hq⟩ fun _ => hk,
      fun r hsib => (sib_bpre_iff hb hk).2 hsib⟩

theorem inv_insert {ic : Bool} (t : Item ι V) (p : List Char) (id : ι) (v : V)
    (h : t.inv ic = true) : (t.insert p id v).inv ic = true := by
  induction t using Item.ind with
  | hE ic' =>
    rw [insert_empty]
    have : ic' = ic := inv_empty_iff.1 h
    subst this; exact inv_newLeafItem _ _ _ _
  | hL rx vs =>
    obtain ⟨h1, h2, h3, h4⟩ := inv_leaf_iff.1 h
    rw [insert_leaf]; unfold leafInsert
    split
    · exact inv_leaf_iff.2 ⟨h1, h2, upsert_ne_nil _ _ _, nodupKeys_upsert h4 _ _⟩
    · next hp =>
      have hl := commonPrefix_bpre_left rx.original p
      rw [h2]
      exact inv_node_pair hl.2 h (inv_newLeafItem p id v ic) (childOk_leaf.2 hl)
        (childOk_leaf.2 (commonPrefix_bpre_right rx.original p)) (sib_commonPrefix fun e => hp e.symm)
  | hN rx cs ih =>
    obtain ⟨h1, h2, h3, h4, h5, h6, h7⟩ := inv_node_iff.1 h
    have hleaf : (newLeafItem p id v rx.ic).inv ic = true := by
      rw [h2]; exact inv_newLeafItem p id v ic
    rcases insert_node_cases h p id v with ⟨hsplit, hne, e⟩ | ⟨hq, ⟨hnone, e⟩ | ⟨pre, c, post, rfl, hsel, e⟩⟩
    · -- split above this node
      have hl := commonPrefix_bpre_left rx.original p
      rw [e, h2]
      exact inv_node_pair hl.2 (h2 ▸ hleaf) h (childOk_leaf.2 (commonPrefix_bpre_right rx.original p))
        (childOk_node.2 ⟨hl, by rw [commonPrefix_length, cpcs_comm]; exact hsplit⟩) (sib_commonPrefix hne).symm
    · -- no child selected: a fresh leaf is pushed
      rw [e, inv_node_iff]
      refine ⟨h1, h2, h3, by simp; omega,
        List.forall_mem_append.2 ⟨h5, List.forall_mem_singleton.2 (childOk_leaf.2 hq)⟩, ?_,
        List.forall_mem_append.2 ⟨h7, List.forall_mem_singleton.2 hleaf⟩⟩
      rw [List.map_append, List.pairwise_append]
      refine ⟨h6, List.pairwise_singleton _ _, ?_⟩
      intro r hr r' hr'
      rw [List.mem_singleton.1 hr']
      obtain ⟨c, hc, rfl⟩ := List.mem_map.1 hr
      exact (hnone c hc).symm
    · -- the selected child is replaced and moves to the end
      rw [e, inv_node_iff]
      have hcmem : c ∈ pre ++ c :: post := by simp
      obtain ⟨hok, hsib⟩ := insert_child_ok h3 (h7 c hcmem) (h5 c hcmem) hsel id v
      refine ⟨h1, h2, h3, by simp at h4 ⊢; omega, forall_mem_moved h5 hok, ?_,
        forall_mem_moved h7 (ih c hcmem (h7 c hcmem))⟩
      simp only [List.map_append, List.map_cons, List.map_nil] at h6 ⊢
      exact pairwise_moved Sib.symm h6 hsib

end Rio.Tree
