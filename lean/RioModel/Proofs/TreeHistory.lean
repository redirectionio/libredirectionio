/-
Lifting the single-operation lemmas over arbitrary operation sequences: after any history over
{insert, remove, retain, modify, cache} in which an id in use is only re-used with its pattern (`histOk`), the tree
represents the flat reference list (up to order), satisfies the invariant, and every `cache` call returned normally
(`run_rep`; the test `good` of `histOk` on the inserted patterns is arbitrary there and matters only for `Dom.refRun`).
Under the invariant no (pattern, id) is stored twice.
-/
import RioModel.Proofs.TreeCache
-- most lemmas about the reference list do not use the `[DecidableEq ι]` their statements take from the `variable` line
set_option linter.unusedSectionVars false

namespace Rio.Tree
open Rio.Regex

variable {ι V : Type} [DecidableEq ι]

/-- Ids of the live entries are pairwise distinct (consequence of "an id determines its pattern" and of
replace-on-same-(pattern,id)). -/
def IdNodup (L : List (Entry ι V)) : Prop := L.Pairwise fun a b => a.id ≠ b.id

theorem IdNodup.perm {L L' : List (Entry ι V)} (h : IdNodup L) (hp : L.Perm L') : IdNodup L' := by
  unfold IdNodup at *
  have hsymm : ∀ {a b : Entry ι V}, a.id ≠ b.id → b.id ≠ a.id := fun hab e => hab e.symm
  exact (hp.pairwise_iff hsymm).1 h

/-- No (pattern, id) occurs twice: the key under which `insert` replaces. -/
def KeyNodup (L : List (Entry ι V)) : Prop := L.Pairwise fun a b => ¬(a.pat = b.pat ∧ a.id = b.id)

theorem KeyNodup.perm {L L' : List (Entry ι V)} (h : KeyNodup L) (hp : L.Perm L') : KeyNodup L' := by
  unfold KeyNodup at *
  have hsymm : ∀ {a b : Entry ι V}, ¬(a.pat = b.pat ∧ a.id = b.id) → ¬(b.pat = a.pat ∧ b.id = a.id) :=
    fun hab hk => hab ⟨hk.1.symm, hk.2.symm⟩
  exact (hp.pairwise_iff hsymm).1 h

theorem KeyNodup.of_idNodup {L : List (Entry ι V)} (h : IdNodup L) : KeyNodup L :=
  h.imp fun hab hk => hab hk.2

theorem mem_refInsert {L : List (Entry ι V)} {p : List Char} {id : ι} {v : V} {e : Entry ι V}
    (h : e ∈ refInsert L p id v) : e = ⟨p, id, v⟩ ∨ e ∈ L := by
  induction L with
  | nil => simp [refInsert] at h; exact Or.inl h
  | cons a L ih =>
    simp only [refInsert] at h
    split at h
    · rcases List.mem_cons.1 h with h | h
      · exact Or.inl h
      · exact Or.inr (List.mem_cons_of_mem _ h)
    · rcases List.mem_cons.1 h with h | h
      · exact Or.inr (by rw [h]; exact List.mem_cons_self)
      · rcases ih h with h | h
        · exact Or.inl h
        · exact Or.inr (List.mem_cons_of_mem _ h)

theorem refInsert_perm_filter {L : List (Entry ι V)} (h : KeyNodup L) (p : List Char) (id : ι) (v : V) :
    (refInsert L p id v).Perm (⟨p, id, v⟩ :: L.filter fun e => !decide (e.pat = p ∧ e.id = id)) := by
  induction L with
  | nil => simp [refInsert]
  | cons a L ih =>
    rw [KeyNodup, List.pairwise_cons] at h
    simp only [refInsert]
    split
    · next hk =>
      have hrest : (L.filter fun e => !decide (e.pat = p ∧ e.id = id)) = L := by
        rw [List.filter_eq_self]
        intro e he
        have := h.1 e he
        simp only [Bool.not_eq_true', decide_eq_false_iff_not]
        intro hk'; exact this ⟨by rw [hk.1, hk'.1], by rw [hk.2, hk'.2]⟩
      rw [List.filter_cons, hrest]
      simp [hk]
    · next hk =>
      rw [List.filter_cons]
      simp only [hk, decide_false, Bool.not_false, if_true]
      exact (List.Perm.cons a (ih h.2)).trans (List.Perm.swap _ _ _)

theorem refRemove_eq_filter {L : List (Entry ι V)} (h : IdNodup L) (id : ι) :
    refRemove L id = L.filter fun e => !decide (e.id = id) := by
  induction L with
  | nil => simp [refRemove]
  | cons a L ih =>
    rw [IdNodup, List.pairwise_cons] at h
    simp only [refRemove, List.filter_cons]
    split
    · next hk =>
      simp only [hk, decide_true, Bool.not_true, Bool.false_eq_true, if_false]
      symm
      rw [List.filter_eq_self]
      intro e he
      have := h.1 e he
      simp only [Bool.not_eq_true', decide_eq_false_iff_not]
      intro hid; exact this (by rw [hk, hid])
    · next hk => simp [hk, ih h.2]

theorem refRemove_sublist (L : List (Entry ι V)) (id : ι) : (refRemove L id).Sublist L := by
  induction L with
  | nil => exact .slnil
  | cons a L ih =>
    simp only [refRemove]
    split
    · exact List.sublist_cons_self _ _
    · exact ih.cons_cons _

theorem mem_refRemove {L : List (Entry ι V)} {id : ι} {e : Entry ι V} (h : e ∈ refRemove L id) : e ∈ L :=
  (refRemove_sublist L id).subset h

theorem IdNodup.refRemove {L : List (Entry ι V)} (h : IdNodup L) (id : ι) : IdNodup (refRemove L id) :=
  List.Pairwise.sublist (refRemove_sublist L id) h

theorem mem_refRetain {L : List (Entry ι V)} {f : ι → V → Option V} {e : Entry ι V} (h : e ∈ refRetain L f) :
    ∃ e0 ∈ L, e.pat = e0.pat ∧ e.id = e0.id ∧ f e0.id e0.val = some e.val := by
  simp only [refRetain, List.mem_filterMap, Option.map_eq_some_iff] at h
  obtain ⟨e0, he0, v', hf, rfl⟩ := h
  exact ⟨e0, he0, rfl, rfl, hf⟩

theorem IdNodup.refRetain {L : List (Entry ι V)} (h : IdNodup L) (f : ι → V → Option V) :
    IdNodup (refRetain L f) := by
  unfold IdNodup Tree.refRetain at *
  rw [List.pairwise_filterMap]
  refine h.imp ?_
  intro a b hab a' ha' b' hb'
  simp only [Option.map_eq_some_iff] at ha' hb'
  obtain ⟨_, _, rfl⟩ := ha'
  obtain ⟨_, _, rfl⟩ := hb'
  exact hab

theorem IdNodup.refInsert {L : List (Entry ι V)} (h : IdNodup L) {p : List Char} {id : ι}
    (hid : ∀ e ∈ L, e.id = id → e.pat = p) (v : V) : IdNodup (refInsert L p id v) := by
  -- up to order the new entry stands in front of the entries with another key, and those have another id
  refine IdNodup.perm ?_ (refInsert_perm_filter (KeyNodup.of_idNodup h) p id v).symm
  refine List.pairwise_cons.2 ⟨fun e he hie => ?_, h.sublist List.filter_sublist⟩
  obtain ⟨heL, hk⟩ := List.mem_filter.1 he
  simp only [Bool.not_eq_true', decide_eq_false_iff_not] at hk
  exact hk ⟨hid e heL hie.symm, hie.symm⟩

theorem refModify_id (p : List Char) (g : ι → V → V) (e : Entry ι V) :
    (if e.pat = p then (⟨e.pat, e.id, g e.id e.val⟩ : Entry ι V) else e).id = e.id ∧
    (if e.pat = p then (⟨e.pat, e.id, g e.id e.val⟩ : Entry ι V) else e).pat = e.pat := by
  split <;> simp

theorem mem_refModify {L : List (Entry ι V)} {p : List Char} {g : ι → V → V} {e : Entry ι V}
    (h : e ∈ refModify L p g) : ∃ e0 ∈ L, e.pat = e0.pat ∧ e.id = e0.id := by
  simp only [refModify, List.mem_map] at h
  obtain ⟨e0, he0, rfl⟩ := h
  exact ⟨e0, he0, (refModify_id p g e0).2, (refModify_id p g e0).1⟩

theorem IdNodup.refModify {L : List (Entry ι V)} (h : IdNodup L) (p : List Char) (g : ι → V → V) :
    IdNodup (refModify L p g) := by
  unfold IdNodup Tree.refModify at *
  rw [List.pairwise_map]
  refine h.imp ?_
  intro a b hab
  rw [(refModify_id p g a).1, (refModify_id p g b).1]; exact hab

/-- `t` satisfies the structural invariant (for the tree's `ignore_case` flag `ic`) and its `contents` are `L` up to order. -/
def Rep (ic : Bool) (t : Item ι V) (L : List (Entry ι V)) : Prop := t.inv ic = true ∧ t.contents.Perm L

/-- The hypothesis of `find_eq_scan` on the stored patterns, for a list (`C08.InDomain Good t` is `Dom Good t.contents`). -/
def Dom (Good : List Char → Prop) (L : List (Entry ι V)) : Prop := ∀ e ∈ L, Good e.pat ∧ e.pat ≠ []

/-- The side condition `histOk` checks for one operation. -/
def opOk (good : List Char → Bool) (L : List (Entry ι V)) : Op ι V → Bool
  | .insert p id _ => good p && L.all (fun e => decide (e.id = id → e.pat = p))
  | _ => true

theorem histOk_cons (good : List Char → Bool) (L : List (Entry ι V)) (op : Op ι V) (ops : List (Op ι V)) :
    histOk good L (op :: ops) = (opOk good L op && histOk good (refStep L op) ops) := by
  cases op <;> simp [histOk, opOk]

theorem mem_refStep {L : List (Entry ι V)} {op : Op ι V} {e : Entry ι V} (he : e ∈ refStep L op) :
    (∃ e0 ∈ L, e.pat = e0.pat ∧ e.id = e0.id) ∨ ∃ v, op = .insert e.pat e.id v := by
  cases op with
  | insert p id v =>
    rcases mem_refInsert he with rfl | he
    · exact Or.inr ⟨v, rfl⟩
    · exact Or.inl ⟨e, he, rfl, rfl⟩
  | remove id => exact Or.inl ⟨e, mem_refRemove he, rfl, rfl⟩
  | retain f =>
    obtain ⟨e0, he0, hp, hi, _⟩ := mem_refRetain he
    exact Or.inl ⟨e0, he0, hp, hi⟩
  | modify p g =>
    obtain ⟨e0, he0, hp, hi⟩ := mem_refModify he
    exact Or.inl ⟨e0, he0, hp, hi⟩
  | cache limit level => exact Or.inl ⟨e, he, rfl, rfl⟩

theorem refStep_perm {L L' : List (Entry ι V)} (h : IdNodup L) (hp : L.Perm L') (op : Op ι V) :
    (refStep L op).Perm (refStep L' op) := by
  cases op with
  | insert p id v =>
    have hk := KeyNodup.of_idNodup h
    exact (refInsert_perm_filter hk p id v).trans
      ((List.Perm.cons _ (hp.filter _)).trans (refInsert_perm_filter (hk.perm hp) p id v).symm)
  | remove id =>
    show (refRemove L id).Perm (refRemove L' id)
    rw [refRemove_eq_filter h, refRemove_eq_filter (h.perm hp)]
    exact hp.filter _
  | retain f => exact hp.filterMap _
  | modify p g => exact hp.map _
  | cache limit level => exact hp

theorem IdNodup.refStep {L : List (Entry ι V)} (h : IdNodup L) {good : List Char → Bool} {op : Op ι V}
    (hok : opOk good L op = true) : IdNodup (refStep L op) := by
  cases op with
  | insert p id v =>
    simp only [opOk, Bool.and_eq_true, List.all_eq_true, decide_eq_true_eq] at hok
    exact h.refInsert hok.2 v
  | remove id => exact h.refRemove id
  | retain f => exact h.refRetain f
  | modify p g => exact h.refModify p g
  | cache limit level => exact h

theorem treeStep_spec (E : Engine) {ic : Bool} {t : Item ι V} (hinv : t.inv ic = true) (op : Op ι V) :
    ∃ t', treeStep E t op = some t' ∧ t'.inv ic = true ∧ t'.contents.Perm (refStep t.contents op) := by
  cases op with
  | insert p id v => exact ⟨_, rfl, inv_insert t p id v hinv, contents_insert t p id v hinv⟩
  | remove id => exact ⟨_, rfl, inv_remove t id hinv, .of_eq (contents_remove t id).1⟩
  | retain f => exact ⟨_, rfl, inv_retain t f hinv, .of_eq (contents_retain t f)⟩
  | modify p g => exact ⟨_, rfl, inv_modifyAt t p g hinv, .of_eq (contents_modifyAt t p g hinv)⟩
  | cache limit level =>
    obtain ⟨t', n, h1, hs, _, hi⟩ := treeCache_ok E t limit level
    exact ⟨t', by simp [treeStep, h1], by rw [hi]; exact hinv, .of_eq (contents_eq_of_strip_eq hs)⟩

/-- Every history in which an id in use is only re-used with its pattern runs to completion, and the tree then represents
the reference list; nothing is asked of the patterns (`good` is arbitrary, e.g. `fun _ => true`). -/
theorem run_rep (E : Engine) {good : List Char → Bool} {ic : Bool} (ops : List (Op ι V)) :
    ∀ (t : Item ι V) (L : List (Entry ι V)), Rep ic t L → IdNodup L → histOk good L ops = true →
      ∃ t', treeRun E t ops = some t' ∧ Rep ic t' (refRun L ops) ∧ IdNodup (refRun L ops) := by
  induction ops with
  | nil => intro t L hrep hnd _; exact ⟨t, rfl, hrep, hnd⟩
  | cons op ops ih =>
    intro t L hrep hnd hok
    rw [histOk_cons, Bool.and_eq_true] at hok
    obtain ⟨hinv, hperm⟩ := hrep
    obtain ⟨t1, h1, hinv1, hc⟩ := treeStep_spec E hinv op
    obtain ⟨t2, h2, hrest⟩ := ih t1 _ ⟨hinv1, hc.trans (refStep_perm (hnd.perm hperm.symm) hperm op)⟩
      (hnd.refStep hok.1) hok.2
    exact ⟨t2, by simp [treeRun, h1, h2], hrest⟩

theorem Dom.refRun {Good : List Char → Prop} {good : List Char → Bool}
    (hgood : ∀ p, good p = true → Good p ∧ p ≠ []) (ops : List (Op ι V)) :
    ∀ L : List (Entry ι V), Dom Good L → histOk good L ops = true → Dom Good (refRun L ops) := by
  induction ops with
  | nil => intro L hdom _; exact hdom
  | cons op ops ih =>
    intro L hdom hok
    rw [histOk_cons, Bool.and_eq_true] at hok
    refine ih _ (fun e he => ?_) hok.2
    rcases mem_refStep he with ⟨e0, he0, hp, _⟩ | ⟨v, rfl⟩
    · rw [hp]; exact hdom e0 he0
    · simp only [opOk, Bool.and_eq_true] at hok
      exact hgood _ hok.1.1

/-- Entries under two sibling children have different patterns: the children's regexes share no more than the parent's
prefix (`Sib`), and every stored pattern inherits that from its child's regex (`Sib.stored`). -/
theorem cross_distinct {ic : Bool} {q : List Char} {ci cj : Item ι V}
    (hsib : Sib q.length ci.regex cj.regex)
    (hi : childOk q ci = true) (hj : childOk q cj = true)
    (hinvi : ci.inv ic = true) (hinvj : cj.inv ic = true) :
    ∀ e ∈ ci.contents, ∀ e' ∈ cj.contents, e.pat ≠ e'.pat :=
  fun _ he _ he' hpat => ((hsib.stored hj hinvj he').symm.stored hi hinvi he).2 hpat.symm

theorem keyNodup_contents {ic : Bool} (t : Item ι V) (h : t.inv ic = true) : KeyNodup t.contents := by
  induction t using Item.ind with
  | hE ic' => simp [KeyNodup]
  | hL rx vs =>
    obtain ⟨_, _, _, h4⟩ := inv_leaf_iff.1 h
    rw [nodupKeys_iff] at h4
    rw [contents_leaf, KeyNodup, List.pairwise_map]
    exact h4.imp fun hab hk => hab hk.2.symm
  | hN rx cs ih =>
    obtain ⟨_, _, _, _, h5, h6, h7⟩ := inv_node_iff.1 h
    rw [contents_node, contentsL_eq, KeyNodup, List.pairwise_flatMap]
    refine ⟨fun c hc => ih c hc (h7 c hc), (List.pairwise_map.1 h6).imp_of_mem ?_⟩
    intro c d hc hd hsib e he e' he' hk
    exact cross_distinct hsib (h5 c hc) (h5 d hd) (h7 c hc) (h7 d hd) e he e' he' hk.1

end Rio.Tree
