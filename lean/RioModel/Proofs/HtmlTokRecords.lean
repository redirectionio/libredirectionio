/-
Closed form of the two token loops of the filter model on complete valid input: none of the failure exits is taken
(the two UTF-8 validators agree, and the name of a tag token of a valid buffer is valid), and the result is the list
`toksX` of the records of `next` up to the first `ErrorToken`; `toks` is the tokens alone, the result of `Tokenizer::new`,
which is the stream tokenizer without a context.
-/
import RioModel.Proofs.HtmlTokBoundary

namespace Rio.Filter
open Rio.Html Rio.Html.Tokenizer

/-- the filter model's validator state as the tokenizer model's (same fields) -/
def U8St.tok (s : U8St) : Tokenizer.U8St := { need := s.need, lo := s.lo, hi := s.hi }

theorem utf8Step_tok (s : U8St) (b : Nat) : utf8Step (some s.tok) b = (u8Step s b).map U8St.tok := by
  unfold utf8Step u8Step
  simp only [apply_ite (Option.map U8St.tok), Option.map_some, Option.map_none]
  rfl

theorem foldl_none : ∀ l : Bytes, l.foldl utf8Step .none = .none
  | [] => rfl
  | _ :: xs => foldl_none xs

/-- the tokenizer model's validator is the carry automaton of the filter model -/
theorem foldl_utf8Step : ∀ (bs : Bytes) (s : U8St), bs.foldl utf8Step (some s.tok) = (u8Run s bs).map U8St.tok
  | [], _ => rfl
  | b :: bs, s => by
    rw [List.foldl_cons, utf8Step_tok, u8Run]
    cases u8Step s b with
    | none => exact foldl_none bs
    | some s' => exact foldl_utf8Step bs s'

theorem validUtf8_eq (bs : Bytes) :
    validUtf8 bs = match u8Run {} bs with | some s => s.need == 0 | none => false := by
  unfold validUtf8
  rw [show (some ({} : Tokenizer.U8St)) = some (U8St.tok {}) from rfl, foldl_utf8Step]
  cases u8Run {} bs <;> rfl

theorem validUtf8_iff (bs : Bytes) : validUtf8 bs = true ↔ V bs := by
  rw [validUtf8_eq, V]
  cases h : u8Run {} bs with
  | none => exact ⟨fun h => (by cases h), fun h => (by cases h)⟩
  | some s =>
    refine ⟨fun h0 => ?_, fun h0 => by cases h0; rfl⟩
    rw [(u8Run_good bs {} s goodSt_init h).2 (by simpa using h0)]

theorem validUtf8_of_V {bs : Bytes} (h : V bs) : validUtf8 bs = true := (validUtf8_iff bs).mpr h

theorem dataL_valid (t : Tokenizer) (hv : V t.buf.toList) (sp : Spans t) (f : TagFacts t) : V (dataL t) := by
  unfold dataL
  rw [extract_toList_eq]
  obtain ⟨c1, h1, l1⟩ := f.nameS.2
  obtain ⟨c2, h2, l2⟩ := f.nameE
  exact V_span _ _ sp.dataLo
    (V_take_before hv _ c1 f.nameS.1 (by rw [Array.getElem?_toList]; exact h1) l1)
    (V_take_at hv _ c2 (by rw [Array.getElem?_toList]; exact h2) l2)

/-- the token `tokenizeGo` records for the state after `next()` -/
def tokOf (t1 : Tokenizer) : Tok :=
  { kind := kindOf t1.token, raw := rawL t1, name := if isTagLike t1.token then (dataL t1).map lowerByte else [] }

theorem next_rawE_gt (t : Tokenizer) (inv : Tokenizer.Inv t) (hne : (Tokenizer.next t).token ≠ .error) :
    t.rawE < (Tokenizer.next t).rawE := by
  have := (next_post t inv).progress hne
  rw [next_rawS' t inv] at this
  exact this

/-- the record `tokenizeGoX` makes for the state after `next()`, `c` = `raw_tag()` before it -/
def tokXOf (c : Bytes) (t1 : Tokenizer) : TokX := { tok := tokOf t1, cut := t1.err, ctx := c }

/-- the records up to the first `ErrorToken`, `raw() ++ buffered()` there, and `raw_tag()` before that call (fuel `n`) -/
def toksXGo : Nat → Tokenizer → List TokX × Bytes × Bytes
  | 0, t => ([], restL t, t.rawTag)
  | n + 1, t =>
    let t1 := t.next
    if t1.token == .error then ([], rawL t1 ++ restL t1, t.rawTag)
    else (tokXOf t.rawTag t1 :: (toksXGo n t1).1, (toksXGo n t1).2)

theorem tokenizeGoX_eq : ∀ (n : Nat) (t : Tokenizer) (acc : List TokX), LoopInv t → t.buf.size - t.rawE + 1 ≤ n →
    tokenizeGoX n t acc = some (acc.reverse ++ (toksXGo n t).1, (toksXGo n t).2)
  | 0, _, _, _, hf => by omega
  | n + 1, t, acc, hi, hf => by
    have hi1 := hi.next
    have hb := next_buf' t hi.inv
    rw [tokenizeGoX_round hi.inv, toksXGo]
    by_cases he : ((Tokenizer.next t).token == TokenType.error) = true
    · rw [if_pos he, if_pos he, List.append_nil]
    · rw [if_neg he, if_neg he]
      have hgt := next_rawE_gt t hi.inv (by simpa using he)
      have hle := hi1.inv.ok.le
      -- the name of a tag token of a valid buffer is valid
      have hv : (isTagLike (Tokenizer.next t).token && !validUtf8 (dataL (Tokenizer.next t))) = false := by
        cases hk : isTagLike (Tokenizer.next t).token with
        | false => rfl
        | true =>
          rw [validUtf8_of_V (dataL_valid _ hi1.hv (next_post t hi.inv).spans (next_tag t hi.inv hk))]
          rfl
      rw [if_neg (by rw [hv]; exact Bool.false_ne_true), tokenizeGoX_eq n _ _ hi1 (by rw [hb] at hle ⊢; omega),
        List.reverse_cons, List.append_assoc]
      rfl

/-- the records of `next` from `t` up to the first `ErrorToken`.  The fuel suffices: every other token consumes a byte
(`next_rawE_gt`), one more call returns the `ErrorToken` (`toksXGo_fuel`); what `toksXGo 0` returns does not matter. -/
def toksX (t : Tokenizer) : List TokX × Bytes × Bytes := toksXGo (t.buf.size - t.rawE + 1) t

theorem toksXGo_fuel2 : ∀ (n m : Nat) (t : Tokenizer), Tokenizer.Inv t → t.buf.size - t.rawE + 1 ≤ n →
    t.buf.size - t.rawE + 1 ≤ m → toksXGo n t = toksXGo m t
  | 0, _, _, _, hn, _ => by omega
  | _ + 1, 0, _, _, _, hm => by omega
  | n + 1, m + 1, t, inv, hn, hm => by
    have i1 := next_inv' t inv
    have hb := next_buf' t inv
    have hle := i1.ok.le
    simp only [toksXGo]
    by_cases he : ((Tokenizer.next t).token == TokenType.error) = true
    · rw [if_pos he, if_pos he]
    · rw [if_neg he, if_neg he]
      have hgt := next_rawE_gt t inv (by simpa using he)
      rw [toksXGo_fuel2 n m _ i1 (by rw [hb] at hle ⊢; omega) (by rw [hb] at hle ⊢; omega)]

theorem toksXGo_fuel (n : Nat) (t : Tokenizer) (inv : Tokenizer.Inv t) (hf : t.buf.size - t.rawE + 1 ≤ n) :
    toksXGo n t = toksX t := toksXGo_fuel2 n _ t inv hf (Nat.le_refl _)

theorem toksX_unfold (t : Tokenizer) (inv : Tokenizer.Inv t) :
    toksX t = if (Tokenizer.next t).token == .error then ([], restL t, t.rawTag)
      else (tokXOf t.rawTag (Tokenizer.next t) :: (toksX (Tokenizer.next t)).1, (toksX (Tokenizer.next t)).2) := by
  have i1 := next_inv' t inv
  have hb := next_buf' t inv
  have hle := i1.ok.le
  unfold toksX
  have e : t.buf.size - t.rawE + 1 = (t.buf.size - t.rawE) + 1 := rfl
  rw [e]
  simp only [toksXGo]
  by_cases he : ((Tokenizer.next t).token == TokenType.error) = true
  · simp only [he, if_true, next_held t inv]
  · simp only [he]
    have hne : (Tokenizer.next t).token ≠ .error := by simpa using he
    have hgt := next_rawE_gt t inv hne
    have h2 : (Tokenizer.next t).buf.size - (Tokenizer.next t).rawE + 1 ≤ t.buf.size - t.rawE := by
      rw [hb] at hle ⊢; omega
    rw [toksXGo_fuel _ _ i1 h2]
    rfl

/-- no hypothesis on the context: `new_fragment` drops one that is not a raw-text element name -/
theorem htmlStream?_eq_toksX (c d : Bytes) (hv : V d) :
    htmlStream? c d = some (toksX (Tokenizer.newFragment d.toArray c)) := by
  unfold htmlStream?
  have hl := loopInv_newFragment d c hv
  obtain ⟨f1, f2, _⟩ := newFragment_fields d.toArray c
  have hf : (Tokenizer.newFragment d.toArray c).buf.size - (Tokenizer.newFragment d.toArray c).rawE + 1 ≤ d.length + 2 := by
    rw [f1, f2]; simp
  rw [tokenizeGoX_eq _ _ [] hl hf, toksXGo_fuel _ _ hl.inv hf]
  simp

theorem htmlStream?_isSome_of_valid (c d : Bytes) (hv : V d) : (htmlStream? c d).isSome = true := by
  rw [htmlStream?_eq_toksX c d hv]; rfl

theorem htmlStream_eq_toksX (c d : Bytes) (hv : V d) :
    htmlTokenize.stream c d = toksX (Tokenizer.newFragment d.toArray c) := by
  show htmlStream c d = _
  unfold htmlStream; rw [htmlStream?_eq_toksX c d hv]; rfl

/-- the tokens of `next` up to the first `ErrorToken`, and `raw() ++ buffered()` there (fuel `n`) -/
def toksGo : Nat → Tokenizer → List Tok × Bytes
  | 0, t => ([], restL t)
  | n + 1, t =>
    let t1 := t.next
    if t1.token == .error then ([], rawL t1 ++ restL t1)
    else (tokOf t1 :: (toksGo n t1).1, (toksGo n t1).2)

def toks (t : Tokenizer) : List Tok × Bytes := toksGo (t.buf.size - t.rawE + 1) t

theorem toksGo_eq_toksXGo : ∀ (n : Nat) (t : Tokenizer), toksGo n t = (toksOf (toksXGo n t).1, (toksXGo n t).2.1)
  | 0, _ => rfl
  | n + 1, t => by
    simp only [toksGo, toksXGo]
    by_cases he : ((Tokenizer.next t).token == TokenType.error) = true
    · rw [if_pos he, if_pos he]; rfl
    · rw [if_neg he, if_neg he, toksGo_eq_toksXGo n]; rfl

theorem toks_eq_toksX (t : Tokenizer) : toks t = (toksOf (toksX t).1, (toksX t).2.1) := toksGo_eq_toksXGo _ t

theorem toks_unfold (t : Tokenizer) (inv : Tokenizer.Inv t) :
    toks t = if (Tokenizer.next t).token == .error then ([], restL t)
      else (tokOf (Tokenizer.next t) :: (toks (Tokenizer.next t)).1, (toks (Tokenizer.next t)).2) := by
  rw [toks_eq_toksX, toksX_unfold t inv]
  by_cases he : ((Tokenizer.next t).token == TokenType.error) = true
  · rw [if_pos he, if_pos he]; rfl
  · rw [if_neg he, if_neg he, toks_eq_toksX]; rfl

theorem htmlTokenize?_eq_toks (d : Bytes) (hv : V d) : htmlTokenize? d = some (toks (Tokenizer.new d.toArray)) := by
  rw [← htmlStream?_nil_erase, htmlStream?_eq_toksX [] d hv, toks_eq_toksX]
  rfl

theorem htmlTokenize?_isSome_of_valid (d : Bytes) (hv : V d) : (htmlTokenize? d).isSome = true := by
  rw [htmlTokenize?_eq_toks d hv]; rfl

theorem htmlTokenize_eq_toks (d : Bytes) (hv : V d) : htmlTokenize d = toks (Tokenizer.new d.toArray) := by
  rw [htmlTokenize_apply, htmlTokenize?_eq_toks d hv]; rfl

end Rio.Filter
