/-
C03, html stage: chunk invariance of the TOTAL output (outputs of the `filter` calls followed by `end()`) at EVERY cut.

The stage carries the tokenizer context across chunks (`last_context`, `Tokenizer::new_fragment`) and keeps
every token that was ended by the end of the data.  What the proof needs from the tokenizer is the restart law with a
context, `RestartLaw tk` (Proofs/FilterStreamLaws.lean), proved for the tokenizer model in Proofs/HtmlTokRestartLaws.lean.
-/
import RioModel.Proofs.FilterSplit
import RioModel.Proofs.FilterUtf8

namespace Rio.Filter

/-- token lists equal up to splitting text tokens -/
inductive TextEq : List Tok → List Tok → Prop
  | refl (ts : List Tok) : TextEq ts ts
  | symm {a b : List Tok} : TextEq a b → TextEq b a
  | trans {a b c : List Tok} : TextEq a b → TextEq b c → TextEq a c
  | split (pre post : List Tok) (t1 t2 t12 : Tok) : t1.kind = .text → t2.kind = .text → t12.kind = .text →
      t12.raw = t1.raw ++ t2.raw → TextEq (pre ++ t12 :: post) (pre ++ t1 :: t2 :: post)

theorem TextEq.cons (t : Tok) {a b : List Tok} (h : TextEq a b) : TextEq (t :: a) (t :: b) := by
  induction h with
  | refl => exact .refl _
  | symm _ ih => exact .symm ih
  | trans _ _ ih1 ih2 => exact .trans ih1 ih2
  | split pre post t1 t2 t12 h1 h2 h3 h4 => exact .split (t :: pre) post t1 t2 t12 h1 h2 h3 h4

theorem TextEq.append_left (p : List Tok) {a b : List Tok} (h : TextEq a b) : TextEq (p ++ a) (p ++ b) := by
  induction p with
  | nil => exact h
  | cons t p ih => exact ih.cons t

variable (tk : Tokenize) (ev : Bytes → Bytes → Bool)

theorem stepTok_text (so : HtmlSt × Bytes) (t : Tok) (h : t.kind = .text) :
    stepTok tk ev so t = push so.1 so.2 t.raw := by
  obtain ⟨s, out⟩ := so
  exact stepTok_other tk ev s out t (by simp [h, isTagKind])

/-- the token loop does not see how text is cut into tokens -/
theorem fold_textEq {a b : List Tok} (h : TextEq a b) : ∀ (so : HtmlSt × Bytes),
    a.foldl (stepTok tk ev) so = b.foldl (stepTok tk ev) so := by
  induction h with
  | refl => intro so; rfl
  | symm _ ih => intro so; exact (ih so).symm
  | trans _ _ ih1 ih2 => intro so; exact (ih1 so).trans (ih2 so)
  | split pre post t1 t2 t12 h1 h2 h3 h4 =>
    intro so
    simp only [List.foldl_append, List.foldl_cons]
    congr 1
    rw [stepTok_text tk ev _ t12 h3, stepTok_text tk ev _ t1 h1, stepTok_text tk ev _ t2 h2, h4]
    exact (push_push _ _ _ _).symm

theorem textEq_normText : ∀ (ts : List Tok), TextEq ts (normText ts)
  | [] => .refl _
  | t :: ts => by
    have ih := (textEq_normText ts).cons t
    simp only [normText]
    cases hn : normText ts with
    | nil => rw [hn] at ih; exact ih
    | cons t' r =>
      rw [hn] at ih
      simp only
      split
      · rename_i hk
        exact .trans ih (.symm (.split [] r t t' _ hk.1 hk.2 rfl rfl))
      · exact ih

theorem textEq_of_norm {a b : List Tok} (h : normText a = normText b) : TextEq a b :=
  .trans (textEq_normText a) (h ▸ .symm (textEq_normText b))

/-- what the stage emits if `b` is all that is still to come: the output of `filter(b)` followed by `end()` -/
def htmlTotal (s : HtmlSt) (b : Bytes) : Option Bytes :=
  (filterHtml tk ev s b).map fun r => r.2 ++ endHtml r.1

/-- the total does not depend on the "held" rule: it is the ledger after ALL tokens before the first cut one, then the
cut token and the remainder -/
theorem total_formula (s : HtmlSt) (b data pending : Bytes) (h : utf8Split (s.last ++ b) = some (data, pending)) :
    htmlTotal tk ev s b =
      some (ledger ((view tk s.ctx data).all.foldl (stepTok tk ev) (s, [])).1
          ((view tk s.ctx data).all.foldl (stepTok tk ev) (s, [])).2 ++
        (view tk s.ctx data).rem ++ pending) := by
  unfold htmlTotal
  rw [filterHtml_view]
  simp only [h, Option.map_some]
  congr 1
  rcases view_cases tk s.ctx data with ⟨h1, h2⟩ | ⟨t, hk, h1, h2⟩
  · rw [h1, h2]
    simp only [endHtml_eq, ledger, List.append_assoc]
  · rw [h1, h2, List.foldl_append, List.foldl_cons, List.foldl_nil]
    rw [stepTok_text tk ev _ t hk, ledger_push]
    simp only [endHtml_eq, ledger, List.append_assoc]

theorem filterHtml_none_of (s : HtmlSt) (b : Bytes) (h : utf8Split (s.last ++ b) = none) :
    filterHtml tk ev s b = none := by
  unfold filterHtml
  rw [h]

theorem filterHtml_ctx (hr : RestartLaw tk) (s s1 : HtmlSt) (x o1 : Bytes) (hc : Ctx s.ctx)
    (h1 : filterHtml tk ev s x = some (s1, o1)) : Ctx s1.ctx := by
  obtain ⟨a1, p1, sf, hsp, _, rfl⟩ := filterHtml_some tk ev h1
  exact (hr s.ctx a1 [] hc (V_utf8Split hsp) V_nil).2.2.2

/-- **The splitting lemma**, every cut: the total on `x ++ r` is the output of `filter(x)` followed by the total of the new
state on `r`.  Both sides by `total_formula`: the UTF-8 carry commutes with the cut (`utf8Split_append_right`,
`utf8Split_prefix`), and by `RestartLaw` the tokens of `a1 ++ a'` are, up to the cutting of text (`fold_textEq`), those
processed for `a1` followed by those of the held tail `++ a'` in the remembered context. -/
theorem total_split (hr : RestartLaw tk) (s s1 : HtmlSt) (x r o1 : Bytes) (hc : Ctx s.ctx)
    (h1 : filterHtml tk ev s x = some (s1, o1)) :
    htmlTotal tk ev s (x ++ r) = (htmlTotal tk ev s1 r).map fun t => o1 ++ t := by
  obtain ⟨a1, p1, sf1, hsp, hf1, rfl⟩ := filterHtml_some tk ev h1
  have hva1 : V a1 := V_utf8Split hsp
  generalize hv1 : view tk s.ctx a1 = v1 at hf1 ⊢
  have hvt : V v1.tail := by
    have := (hr s.ctx a1 [] hc hva1 V_nil).2.2.1
    rw [hv1] at this; exact this
  have hu2 : utf8Split ((v1.tail ++ p1) ++ r) = (utf8Split (p1 ++ r)).map fun q => (v1.tail ++ q.1, q.2) := by
    rw [List.append_assoc]
    exact utf8Split_prefix v1.tail (p1 ++ r) hvt
  have hu : utf8Split (s.last ++ (x ++ r)) = (utf8Split (p1 ++ r)).map fun q => (a1 ++ q.1, q.2) := by
    rw [← List.append_assoc]
    exact utf8Split_append_right hsp r
  cases hpr : utf8Split (p1 ++ r) with
  | none =>
    rw [hpr] at hu hu2
    have e1 : filterHtml tk ev s (x ++ r) = none := filterHtml_none_of tk ev s (x ++ r) hu
    have e2 : filterHtml tk ev { sf1 with last := v1.tail ++ p1, ctx := v1.ctx' } r = none :=
      filterHtml_none_of tk ev _ r hu2
    simp only [htmlTotal, e1, e2, Option.map_none]
  | some ap' =>
    obtain ⟨a', p'⟩ := ap'
    have hva' : V a' := V_utf8Split hpr
    obtain ⟨hk1, hk2, _, _⟩ := hr s.ctx a1 a' hc hva1 hva'
    rw [hv1] at hk1 hk2
    rw [hpr] at hu hu2
    simp only [Option.map_some] at hu hu2
    rw [total_formula tk ev s (x ++ r) (a1 ++ a') p' hu]
    rw [total_formula tk ev { sf1 with last := v1.tail ++ p1, ctx := v1.ctx' } r (v1.tail ++ a') p' hu2]
    simp only [Option.map_some]
    congr 1
    rw [fold_textEq tk ev (textEq_of_norm hk1), hk2, List.foldl_append, hf1]
    generalize view tk v1.ctx' (v1.tail ++ a') = v2
    rw [fold_setLast tk ev v2.all sf1 (v1.tail ++ p1) v1.ctx' [], fold_out tk ev v2.all sf1 o1]
    simp [ledger, List.append_assoc]

/-- `filter([])` adds nothing when `last_buffer` is empty (`run []` = `run [[]]`) -/
theorem htmlTotal_nil (hl : LosslessS tk) (s : HtmlSt) (hlast : s.last = []) (hnil : (tk.stream s.ctx []).1 = []) :
    htmlTotal tk ev s [] = some (endHtml s) := by
  have hsp : utf8Split (s.last ++ []) = some ([], []) := by rw [hlast]; rfl
  rw [total_formula tk ev s [] [] [] hsp]
  have hrem := view_all_rem tk hl s.ctx []
  have hall : (view tk s.ctx []).all = [] := by
    unfold view
    simp only [hnil, cutSplit, toksOf, List.takeWhile_nil, List.map_nil]
  rw [hall] at hrem ⊢
  simp only [rawsOf, List.flatMap_nil, List.nil_append] at hrem
  rw [hrem]
  simp [ledger, endHtml_eq, hlast]

end Rio.Filter
