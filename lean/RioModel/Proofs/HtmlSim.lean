/-
Stream laws of the tokenizer model (for C16, C03, C15): the tokenizer looks at its buffer only at positions below the
final `raw.end` (through `read_byte`, and when it compares a tag name that it has read), so (1) a token that was
produced without hitting EOF is produced identically when bytes are appended to the buffer (PREFIX STABILITY), and
(2) a tokenizer positioned at a token boundary behaves like a fresh tokenizer with the same context on the
remaining bytes, positions shifted (RESTART).  Both are instances of one simulation: `Core F p t u` relates a state `t`
to a state `u` whose buffer is the window of `t`'s buffer starting at `p`.  This file: `Core`, `Clean` and the simulation
of the helpers up to `read_markup_declaration`; `read_tag` / `read_start_tag` follow in HtmlSimTag, `next` and the two
laws (`nexts_prefix_stable`, `nexts_restart`) in HtmlSimNext.

Every simulation lemma of a loop or a reader has the form `Core F p t u → Clean F (f u) → Core F p (f t) (f u)`; where
`f` also returns a value (a byte, a flag, a token type), `Clean` and `Core` are of the states `(f ·).1` and the lemma adds
`(f t).2 = (f u).2`.  The window state itself needs no invariant, because every test by which the code could tell the
window from the whole buffer (a span that would start before the window, an index beyond it) fails by setting `panic` or
`hang`, and these flags, like `err`, are never reset (`Reach`), so `Clean` of the result gives `Clean` of every state on
the way (`Clean.back`).  Each proof follows the branch the window side takes and makes the other side take it too: its
conditions carry over through `Core` and the simulation of the bytes read (`rb`).
-/
import RioModel.Proofs.HtmlReach

namespace Rio.Html
namespace Tokenizer
open Rio.Consts

/-- `F` ("full") = the window reaches the end of `t`'s buffer, so EOF is hit simultaneously.
Not related (stale between tokens, or rebuilt by `read_tag`): `token`, the attribute fields, `text_is_raw`,
`convert_null`. -/
structure Core (F : Prop) (p : Nat) (t u : Tokenizer) : Prop where
  size : p + u.buf.size ≤ t.buf.size
  agree : ∀ i, i < u.buf.size → t.buf[p + i]? = u.buf[i]?
  full : F → p + u.buf.size = t.buf.size
  rawS : t.rawS = p + u.rawS
  rawE : t.rawE = p + u.rawE
  dataS : t.dataS = p + u.dataS
  dataE : t.dataE = p + u.dataE
  err : t.err = u.err
  rawTag : t.rawTag = u.rawTag
  cdata : t.allowCdata = u.allowCdata
  panic : t.panic = u.panic
  hang : t.hang = u.hang
  utf8 : t.utf8Err = u.utf8Err

/-- the fields `Core` talks about -/
def live (t : Tokenizer) : Array Nat × Nat × Nat × Nat × Nat × Bool × List Nat × Bool × Bool × Bool × Bool :=
  (t.buf, t.rawS, t.rawE, t.dataS, t.dataE, t.err, t.rawTag, t.allowCdata, t.panic, t.hang, t.utf8Err)

theorem Core.congr {F : Prop} {p : Nat} {t u t' u' : Tokenizer} (c : Core F p t u)
    (ht : live t' = live t) (hu : live u' = live u) : Core F p t' u' := by
  simp only [live, Prod.mk.injEq] at ht hu
  obtain ⟨a1, a2, a3, a4, a5, a6, a7, a8, a9, a10, a11⟩ := ht
  obtain ⟨b1, b2, b3, b4, b5, b6, b7, b8, b9, b10, b11⟩ := hu
  exact ⟨by rw [a1, b1]; exact c.size, by rw [a1, b1]; exact c.agree, by rw [a1, b1]; exact c.full,
    by rw [a2, b2]; exact c.rawS, by rw [a3, b3]; exact c.rawE, by rw [a4, b4]; exact c.dataS,
    by rw [a5, b5]; exact c.dataE, by rw [a6, b6]; exact c.err, by rw [a7, b7]; exact c.rawTag,
    by rw [a8, b8]; exact c.cdata, by rw [a9, b9]; exact c.panic, by rw [a10, b10]; exact c.hang,
    by rw [a11, b11]; exact c.utf8⟩

theorem Core.isErr {F : Prop} {p : Nat} {t u : Tokenizer} (c : Core F p t u) (h : u.err = true) : t.err = true :=
  c.err.trans h

theorem Core.noErr {F : Prop} {p : Nat} {t u : Tokenizer} (c : Core F p t u) (h : ¬ u.err = true) : ¬ t.err = true :=
  fun g => h (c.err.symm.trans g)

/-- `v` is the window of `a` that starts at `p`: the two buffer clauses of `Core` (and of `Pre`, HtmlSimNext) -/
structure Window (p : Nat) (a v : Array Nat) : Prop where
  size : p + v.size ≤ a.size
  agree : ∀ i, i < v.size → a[p + i]? = v[i]?

/-- the position `x` is given by an equation because the two sides name it differently (`t.rawE` and `u.rawE`) -/
theorem Window.getElem {p : Nat} {a v : Array Nat} (w : Window p a v) {x i : Nat} (hx : x = p + i) (hi : i < v.size) :
    ∃ h : x < a.size, a[x] = v[i] := by
  subst hx
  have h : p + i < a.size := by have := w.size; omega
  refine ⟨h, ?_⟩
  have := w.agree i hi
  simp only [Array.getElem?_eq_getElem h, Array.getElem?_eq_getElem hi, Option.some.injEq] at this
  exact this

theorem Window.extract {p : Nat} {a v : Array Nat} (w : Window p a v) (x y : Nat) (h1 : x ≤ y) (h2 : y ≤ v.size) :
    (a.extract (p + x) (p + y)).toList = (v.extract x y).toList := by
  obtain ⟨n, rfl⟩ := Nat.exists_eq_add_of_le h1
  induction n generalizing x with
  | zero => simp
  | succ n ih =>
    obtain ⟨g1, g2⟩ := w.getElem rfl (by omega : x < v.size)
    rw [← Nat.add_assoc, extract_toList_cons _ _ _ g1, extract_toList_cons _ _ _ (by omega : x < v.size), g2]
    have := ih (x + 1) (by omega) (by omega)
    rw [show p + (x + 1) = p + x + 1 by omega, show p + (x + 1 + n) = p + x + 1 + n by omega] at this
    rw [this]

theorem Core.window {F : Prop} {p : Nat} {t u : Tokenizer} (c : Core F p t u) : Window p t.buf u.buf :=
  ⟨c.size, c.agree⟩

/- `sif [h₁, …]` = `simp only` with the given facts and the lemmas that decide an `if` whose test has become `true` /
`false`: the one step by which the proofs below follow the branch of the code that the hypotheses select. -/
open Lean Parser Tactic in
syntax "sif" " [" (simpStar <|> simpErase <|> simpLemma),* "]" (location)? : tactic
macro_rules
  | `(tactic| sif [$ts,*] $[$loc]?) =>
    `(tactic| simp only [$ts,*, Bool.false_eq_true, if_false, if_true, dite_false, dite_true, ↓reduceIte, ↓reduceDIte,
        Bool.not_true, Bool.not_false, Bool.true_eq_false] $[$loc]?)

/-- the run on the window that ended in `x` hit no EOF of its own: the window is full, or `err` is unset -/
abbrev EO (F : Prop) (x : Tokenizer) : Prop := F ∨ x.err = false

theorem flag_back {a b : Bool} (h : a = true → b = true) (e : b = false) : a = false := by
  cases a with
  | false => rfl
  | true => exact (h rfl).symm.trans e

theorem EO.back {F : Prop} {x y : Tokenizer} (e : EO F y) (sticky : x.err = true → y.err = true) : EO F x :=
  e.elim .inl fun h => .inr (flag_back sticky h)

/-- The run on the window ended well.  This is all the simulation asks of the window side, and it asks it of the RESULT
of a helper. -/
structure Clean (F : Prop) (x : Tokenizer) : Prop where
  eof : EO F x
  panic : x.panic = false
  hang : x.hang = false

theorem Clean.back {F : Prop} {x y : Tokenizer} (e : Clean F y) (r : Reach x y) : Clean F x :=
  ⟨e.eof.back r.err, flag_back r.panic e.panic, flag_back r.hang e.hang⟩

/-- `Clean` reads `err`, `panic`, `hang` only.  The default arguments close by `rfl` when `x` is `y` up to a record update in
other fields (`e.congr` at the `{ r.1 with dataE := … }` leaves). -/
theorem Clean.congr {F : Prop} {x y : Tokenizer} (e : Clean F y) (he : x.err = y.err := by rfl)
    (hp : x.panic = y.panic := by rfl) (hh : x.hang = y.hang := by rfl) : Clean F x :=
  ⟨e.eof.elim .inl fun h => .inr (he.trans h), hp.trans e.panic, hh.trans e.hang⟩

/-- The only simulation lemma of this file and of HtmlSimTag that looks at `Core.full` and `Clean.eof` (the others pass
them on): EOF is met here only, since every other lemma reads a new byte through this one.  (HtmlSimNext looks at the two
again for the `'main` loop: `mainLoop_pairF`, `mainLoop_sim`.) -/
theorem readByte_sim {F : Prop} {p : Nat} {t u : Tokenizer} (c : Core F p t u) (e : Clean F u.readByte.1) :
    Core F p t.readByte.1 u.readByte.1 ∧ t.readByte.2 = u.readByte.2 := by
  have e := e.eof
  unfold readByte at e ⊢
  by_cases hu : u.rawE < u.buf.size
  · obtain ⟨ht, hb⟩ := c.window.getElem c.rawE hu
    simp only [hu, ht, dite_true]
    exact ⟨{ c with rawE := by simp only; have := c.rawE; omega }, hb⟩
  · simp only [hu, dite_false] at e ⊢
    -- the window is at its end without being allowed an EOF of its own: it is full
    have ht : ¬ t.rawE < t.buf.size := by have := c.full (e.resolve_right (by simp)); have := c.rawE; omega
    simp only [ht, dite_false]
    exact ⟨{ c with err := rfl }, trivial⟩

theorem unread_sim {F : Prop} {p : Nat} {t u : Tokenizer} (k : Nat) (c : Core F p t u) (e : Clean F (u.unread k)) :
    Core F p (t.unread k) (u.unread k) := by
  unfold unread at e ⊢
  by_cases hk : k ≤ u.rawE
  · rw [if_pos hk, if_pos (by have := c.rawE; omega)]
    exact { c with rawE := by simp only; have := c.rawE; omega }
  · rw [if_neg hk] at e; cases e.panic

theorem setDataEndBack_sim {F : Prop} {p : Nat} {t u : Tokenizer} (k : Nat) (c : Core F p t u)
    (e : Clean F (u.setDataEndBack k)) : Core F p (t.setDataEndBack k) (u.setDataEndBack k) := by
  unfold setDataEndBack at e ⊢
  by_cases hk : k ≤ u.rawE
  · rw [if_pos hk, if_pos (by have := c.rawE; omega)]
    exact { c with dataE := by simp only; have := c.rawE; omega }
  · rw [if_neg hk] at e; cases e.panic

theorem skipWsGo_sim {F : Prop} {p : Nat} (t u : Tokenizer) (c : Core F p t u) (e : Clean F (skipWsGo u)) :
    Core F p (skipWsGo t) (skipWsGo u) := by
  fun_induction skipWsGo u generalizing t
  case case1 herr =>
    have rb := readByte_sim c e
    rw [skipWsGo, dif_pos (rb.1.isErr herr)]
    exact rb.1
  case case2 herr hws ih =>
    have rb := readByte_sim c (e.back (Reach.refl _).skipWsGo)
    rw [skipWsGo, dif_neg (rb.1.noErr herr), if_pos (by rw [rb.2]; exact hws)]
    exact ih _ rb.1 e
  case case3 herr hws =>
    have rb := readByte_sim c (e.back ((Reach.refl _).unread 1 herr))
    rw [skipWsGo, dif_neg (rb.1.noErr herr), if_neg (by rw [rb.2]; exact hws)]
    exact unread_sim 1 rb.1 e

theorem skipWhiteSpace_sim {F : Prop} {p : Nat} (t u : Tokenizer) (c : Core F p t u)
    (e : Clean F (skipWhiteSpace u)) : Core F p (skipWhiteSpace t) (skipWhiteSpace u) := by
  unfold skipWhiteSpace at e ⊢
  by_cases h : u.err = true
  · rw [if_pos h, if_pos (c.isErr h)]; exact c
  · rw [if_neg h] at e ⊢
    rw [if_neg (c.noErr h)]
    exact skipWsGo_sim t u c e

theorem rawEndTagLoop_sim {F : Prop} {p : Nat} (cs : List Nat) (t u : Tokenizer) (c : Core F p t u)
    (e : Clean F (rawEndTagLoop u cs).1) :
    Core F p (rawEndTagLoop t cs).1 (rawEndTagLoop u cs).1 ∧ (rawEndTagLoop t cs).2 = (rawEndTagLoop u cs).2 := by
  fun_induction rawEndTagLoop u cs generalizing t
  case case1 => exact ⟨c, rfl⟩
  case case2 herr =>
    have rb := readByte_sim c e
    rw [rawEndTagLoop, if_pos (rb.1.isErr herr)]
    exact ⟨rb.1, rfl⟩
  -- the `u8` subtraction would panic
  case case3 => cases e.panic
  case case4 herr hne hlt hne2 =>
    have rb := readByte_sim c (e.back ((Reach.refl _).unread 1 herr))
    rw [rawEndTagLoop, if_neg (rb.1.noErr herr), if_pos (by rw [rb.2]; exact hne), if_neg hlt,
      if_pos (by rw [rb.2]; exact hne2)]
    exact ⟨unread_sim 1 rb.1 e, rfl⟩
  case case5 herr hne hlt hne2 ih =>
    have rb := readByte_sim c (e.back ((Reach.refl _).rawEndTagLoop _))
    rw [rawEndTagLoop, if_neg (rb.1.noErr herr), if_pos (by rw [rb.2]; exact hne), if_neg hlt,
      if_neg (by rw [rb.2]; exact hne2)]
    exact ih _ rb.1 e
  case case6 herr hne ih =>
    have rb := readByte_sim c (e.back ((Reach.refl _).rawEndTagLoop _))
    rw [rawEndTagLoop, if_neg (rb.1.noErr herr), if_neg (by rw [rb.2]; exact hne)]
    exact ih _ rb.1 e

theorem readRawEndTag_sim {F : Prop} {p : Nat} (t u : Tokenizer) (c : Core F p t u)
    (e : Clean F (readRawEndTag u).1) :
    Core F p (readRawEndTag t).1 (readRawEndTag u).1 ∧ (readRawEndTag t).2 = (readRawEndTag u).2 := by
  have l := rawEndTagLoop_sim u.rawTag t u c (e.back (Reach.refl _).readRawEndTag_of_loop)
  unfold readRawEndTag at e ⊢
  rw [c.rawTag]
  simp only [l.2] at e ⊢
  generalize rawEndTagLoop t u.rawTag = lt at *
  generalize rawEndTagLoop u u.rawTag = lu at *
  by_cases hl : lu.2 = true
  · sif [hl] at e ⊢
    by_cases h1 : lu.1.readByte.1.err = true
    · rw [if_pos h1] at e
      have rb := readByte_sim l.1 e
      rw [if_pos h1, if_pos (rb.1.isErr h1)]; exact ⟨rb.1, rfl⟩
    · rw [if_neg h1] at e ⊢
      by_cases h2 : isTagEnd lu.1.readByte.2 = true
      · rw [if_pos h2] at e
        have rb := readByte_sim l.1 (e.back ((Reach.refl _).unread _ h1))
        rw [if_pos h2, if_neg (rb.1.noErr h1), if_pos (by rw [rb.2]; exact h2)]
        exact ⟨unread_sim _ rb.1 e, rfl⟩
      · rw [if_neg h2] at e
        have rb := readByte_sim l.1 (e.back ((Reach.refl _).unread _ h1))
        rw [if_neg h2, if_neg (rb.1.noErr h1), if_neg (by rw [rb.2]; exact h2)]
        exact ⟨unread_sim _ rb.1 e, rfl⟩
  · have hl' : lu.2 = false := by simpa using hl
    sif [hl', Bool.not_false]
    exact ⟨l.1, by trivial⟩

theorem dblEscLoop_sim {F : Prop} {p : Nat} (cs : List (Nat × Nat)) (t u : Tokenizer) (c : Core F p t u)
    (e : Clean F (dblEscLoop u cs).1) :
    Core F p (dblEscLoop t cs).1 (dblEscLoop u cs).1 ∧ (dblEscLoop t cs).2 = (dblEscLoop u cs).2 := by
  induction cs generalizing t u with
  | nil => exact ⟨c, rfl⟩
  | cons x cs ih =>
    simp only [dblEscLoop] at e ⊢
    by_cases h1 : u.readByte.1.err = true
    · rw [if_pos h1] at e ⊢
      have rb := readByte_sim c e
      rw [if_pos (rb.1.isErr h1)]
      exact ⟨rb.1, rfl⟩
    · rw [if_neg h1] at e ⊢
      by_cases h2 : (u.readByte.2 != x.1 && u.readByte.2 != x.2) = true
      · rw [if_pos h2] at e ⊢
        have rb := readByte_sim c (e.back ((Reach.refl _).unread 1 h1))
        rw [if_neg (rb.1.noErr h1), if_pos (by rw [rb.2]; exact h2)]
        exact ⟨unread_sim 1 rb.1 e, rfl⟩
      · rw [if_neg h2] at e ⊢
        have rb := readByte_sim c (e.back ((Reach.refl _).dblEscLoop cs))
        rw [if_neg (rb.1.noErr h1), if_neg (by rw [rb.2]; exact h2)]
        exact ih _ _ rb.1 e

@[simp] theorem addRawE_err (t : Tokenizer) (k : Nat) : (t.addRawE k).err = t.err := rfl

theorem addRawE_sim {F : Prop} {p : Nat} {t u : Tokenizer} (k : Nat) (c : Core F p t u) :
    Core F p (t.addRawE k) (u.addRawE k) :=
  { c with rawE := by simp only [addRawE]; have := c.rawE; omega }

theorem scriptGo_sim {F : Prop} {p : Nat} (st : SS) (t u : Tokenizer) (c : Core F p t u)
    (e : Clean F (scriptGo st u)) : Core F p (scriptGo st t) (scriptGo st u) := by
  fun_induction scriptGo st u generalizing t
  all_goals (try simp +zetaDelta only at *)
  /- `fun_induction` has unfolded the `u` side.  `conv => arg 3` (the `t` of `Core F p t u`) unfolds the other side once;
  `sif` turns its tests into `u`'s (`rb.1.err`, `rb.2`) and decides them by the case's hypotheses (`*`), which also close
  the goal where the branch returns (`rb` is one).  The short loops spell this out as `rw [f, dif_neg …, if_pos …]`.
  Case numbers: table at `At.scriptGo_adv`. -/
  -- EOF at the read of an edge
  case case1 | case4 | case10 | case13 | case16 | case20 | case24 | case29 | case40 | case44 | case48 | case53 =>
    have rb := readByte_sim c e
    conv => arg 3; rw [scriptGo]
    sif [rb.1.err, rb.2, *]
  -- read a byte, go on
  case case2 ih | case3 ih | case5 ih | case6 ih | case11 ih | case14 ih | case17 ih | case18 ih | case19 ih | case21 ih
      | case22 ih | case23 ih | case25 ih | case26 ih | case27 ih | case28 ih | case30 ih | case41 ih | case42 ih
      | case43 ih | case45 ih | case46 ih | case47 ih | case49 ih | case50 ih | case51 ih | case52 ih | case54 ih =>
    have rb := readByte_sim c (e.back ((Reach.refl _).scriptGo _))
    conv => arg 3; rw [scriptGo]
    sif [rb.1.err, rb.2, *, -ih]
    exact ih _ rb.1 e
  -- read a byte, take it back, go on
  case case7 hn _ _ ih | case12 hn _ ih | case15 hn _ ih | case31 hn _ _ ih | case32 hn _ _ ih | case55 hn _ ih =>
    have rb := readByte_sim c (e.back (((Reach.refl _).unread 1 hn).scriptGo _))
    conv => arg 3; rw [scriptGo]
    sif [rb.1.err, rb.2, *, -ih]
    exact ih _ (unread_sim 1 rb.1 (e.back ((Reach.refl _).scriptGo _))) e
  -- `read_raw_end_tag`: return
  case case8 | case33 | case57 =>
    have rr := readRawEndTag_sim t _ c e
    conv => arg 3; rw [scriptGo]
    sif [rr.2, rr.1.err, *]
  -- `read_raw_end_tag`: no end tag, go on
  case case9 ih | case34 ih | case58 ih =>
    have rr := readRawEndTag_sim t _ c (e.back ((Reach.refl _).scriptGo _))
    conv => arg 3; rw [scriptGo]
    sif [rr.2, rr.1.err, *, -ih]
    exact ih _ rr.1 e
  -- `read_script_data_double_escaped_end`: the end tag is skipped
  case case56 u _ htrue ih =>
    have rr := readRawEndTag_sim t u c (e.back (((Reach.refl _).addRawE _).scriptGo _))
    conv => arg 3; rw [scriptGo]
    sif [rr.2, rr.1.err, htrue]
    exact ih _ (addRawE_sim _ rr.1) e
  -- `read_script_data_double_escape_start`: the loop over `script`, then one more byte
  case case35 =>
    have l := dblEscLoop_sim htmlDoubleEscapePat t _ c e
    conv => arg 3; rw [scriptGo]
    sif [l.2, l.1.err, *]
  case case36 ih =>
    have l := dblEscLoop_sim htmlDoubleEscapePat t _ c (e.back ((Reach.refl _).scriptGo _))
    conv => arg 3; rw [scriptGo]
    sif [l.2, l.1.err, *, -ih]
    exact ih _ l.1 e
  case case37 =>
    have l := dblEscLoop_sim htmlDoubleEscapePat t _ c (e.back (Reach.refl _).readByte)
    have rb := readByte_sim l.1 e
    conv => arg 3; rw [scriptGo]
    sif [l.2, l.1.err, rb.2, rb.1.err, *]
  case case38 ih =>
    have l := dblEscLoop_sim htmlDoubleEscapePat t _ c (e.back ((Reach.refl _).readByte.scriptGo _))
    have rb := readByte_sim l.1 (e.back ((Reach.refl _).scriptGo _))
    conv => arg 3; rw [scriptGo]
    sif [l.2, l.1.err, rb.2, rb.1.err, *, -ih]
    exact ih _ rb.1 e
  case case39 hn _ ih =>
    have l := dblEscLoop_sim htmlDoubleEscapePat t _ c
      (e.back (((Reach.refl _).readByte.unread 1 hn).scriptGo _))
    have rb := readByte_sim l.1 (e.back (((Reach.refl _).unread 1 hn).scriptGo _))
    conv => arg 3; rw [scriptGo]
    sif [l.2, l.1.err, rb.2, rb.1.err, *, -ih]
    exact ih _ (unread_sim 1 rb.1 (e.back ((Reach.refl _).scriptGo _))) e

theorem rawTextGo_sim {F : Prop} {p : Nat} (t u : Tokenizer) (c : Core F p t u) (e : Clean F (rawTextGo u)) :
    Core F p (rawTextGo t) (rawTextGo u) := by
  fun_induction rawTextGo u generalizing t
  all_goals (try simp +zetaDelta only at *)
  case case1 =>
    have rb := readByte_sim c e
    conv => arg 3; rw [rawTextGo]
    sif [rb.1.err, rb.2, *]
  case case2 ih =>
    have rb := readByte_sim c (e.back (Reach.refl _).rawTextGo)
    conv => arg 3; rw [rawTextGo]
    sif [rb.1.err, rb.2, *, -ih]
    exact ih _ rb.1 e
  case case3 =>
    have rb := readByte_sim c (e.back (Reach.refl _).readByte)
    have rb2 := readByte_sim rb.1 e
    conv => arg 3; rw [rawTextGo]
    sif [rb.1.err, rb.2, rb2.1.err, rb2.2, *]
  case case4 ih =>
    have rb := readByte_sim c (e.back (Reach.refl _).readByte.rawTextGo)
    have rb2 := readByte_sim rb.1 (e.back (Reach.refl _).rawTextGo)
    conv => arg 3; rw [rawTextGo]
    sif [rb.1.err, rb.2, rb2.1.err, rb2.2, *, -ih]
    exact ih _ rb2.1 e
  case case5 =>
    have rb := readByte_sim c (e.back (Reach.refl _).readByte.readRawEndTag)
    have rb2 := readByte_sim rb.1 (e.back (Reach.refl _).readRawEndTag)
    have rr := readRawEndTag_sim _ _ rb2.1 e
    conv => arg 3; rw [rawTextGo]
    sif [rb.1.err, rb.2, rb2.1.err, rb2.2, rr.2, rr.1.err, *]
  case case6 ih =>
    have rb := readByte_sim c (e.back (Reach.refl _).readByte.readRawEndTag.rawTextGo)
    have rb2 := readByte_sim rb.1 (e.back (Reach.refl _).readRawEndTag.rawTextGo)
    have rr := readRawEndTag_sim _ _ rb2.1 (e.back (Reach.refl _).rawTextGo)
    conv => arg 3; rw [rawTextGo]
    sif [rb.1.err, rb.2, rb2.1.err, rb2.2, rr.2, rr.1.err, *, -ih]
    exact ih _ rr.1 e

theorem readToEnd_sim {F : Prop} {p : Nat} (t u : Tokenizer) (c : Core F p t u) (e : Clean F (readToEnd u)) :
    Core F p (readToEnd t) (readToEnd u) := by
  fun_induction readToEnd u generalizing t
  case case1 herr =>
    rw [readToEnd, if_pos (c.isErr herr)]
    exact c
  case case2 herr _ herr2 =>
    have rb := readByte_sim c e
    rw [readToEnd, if_neg (c.noErr herr), dif_pos (rb.1.isErr herr2)]
    exact rb.1
  case case3 herr _ herr2 ih =>
    have rb := readByte_sim c (e.back (Reach.refl _).readToEnd)
    rw [readToEnd, if_neg (c.noErr herr), dif_neg (rb.1.noErr herr2)]
    exact ih _ rb.1 e

theorem Core.dataS_rawE {F : Prop} {p : Nat} {t u : Tokenizer} (c : Core F p t u) :
    Core F p { t with dataS := t.rawE } { u with dataS := u.rawE } :=
  { c with dataS := c.rawE }

theorem Core.dataE_rawE {F : Prop} {p : Nat} {t u : Tokenizer} (c : Core F p t u) :
    Core F p { t with dataE := t.rawE } { u with dataE := u.rawE } :=
  { c with dataE := c.rawE }

theorem untilCloseAngleGo_sim {F : Prop} {p : Nat} (t u : Tokenizer) (c : Core F p t u)
    (e : Clean F (untilCloseAngleGo u)) : Core F p (untilCloseAngleGo t) (untilCloseAngleGo u) := by
  fun_induction untilCloseAngleGo u generalizing t
  case case1 herr _ =>
    have rb := readByte_sim c e.congr
    rw [untilCloseAngleGo, dif_pos (rb.1.isErr herr)]
    exact rb.1.dataE_rawE
  case case2 herr hgt =>
    have rb := readByte_sim c (e.back ((Reach.refl _).setDataEndBack 1))
    rw [untilCloseAngleGo, dif_neg (rb.1.noErr herr), if_pos (by rw [rb.2]; exact hgt)]
    exact setDataEndBack_sim 1 rb.1 e
  case case3 herr hgt ih =>
    have rb := readByte_sim c (e.back (Reach.refl _).untilCloseAngleGo)
    rw [untilCloseAngleGo, dif_neg (rb.1.noErr herr), if_neg (by rw [rb.2]; exact hgt)]
    exact ih _ rb.1 e

theorem readUntilCloseAngle_sim {F : Prop} {p : Nat} (t u : Tokenizer) (c : Core F p t u)
    (e : Clean F (readUntilCloseAngle u)) : Core F p (readUntilCloseAngle t) (readUntilCloseAngle u) :=
  untilCloseAngleGo_sim _ _ c.dataS_rawE e

theorem commentGo_sim {F : Prop} {p : Nat} (t u : Tokenizer) (d : Nat) (c : Core F p t u)
    (e : Clean F (commentGo u d)) : Core F p (commentGo t d) (commentGo u d) := by
  fun_induction commentGo u d generalizing t
  all_goals (try simp +zetaDelta only at *)
  case case1 =>
    have rb := readByte_sim c (e.back ((Reach.refl _).setDataEndBack _))
    conv => arg 3; rw [commentGo]
    sif [rb.1.err, rb.2, *]
    exact setDataEndBack_sim _ rb.1 e
  case case3 =>
    have rb := readByte_sim c (e.back ((Reach.refl _).setDataEndBack _))
    conv => arg 3; rw [commentGo]
    sif [rb.1.err, rb.2, *]
    exact setDataEndBack_sim _ rb.1 e
  case case2 ih | case4 ih | case8 ih | case9 ih =>
    have rb := readByte_sim c (e.back ((Reach.refl _).commentGo _))
    conv => arg 3; rw [commentGo]
    sif [rb.1.err, rb.2, *, -ih]
    exact ih _ rb.1 e
  -- spelled out: the leaf is a record update, into which `sif [*]` would rewrite `err := true`
  case case5 herr hd hgt hb hge _ herr2 _ =>
    have rb := readByte_sim c (e.congr.back (Reach.refl _).readByte)
    have rb2 := readByte_sim rb.1 e.congr
    rw [commentGo, dif_neg (rb.1.noErr herr), if_neg (by rw [rb.2]; exact hd), if_neg (by rw [rb.2]; exact hgt),
      if_pos (by rw [rb.2]; exact hb), if_pos hge, dif_pos (rb2.1.isErr herr2)]
    simp +zetaDelta only
    exact rb2.1.dataE_rawE
  case case6 =>
    have rb := readByte_sim c (e.back ((Reach.refl _).readByte.setDataEndBack _))
    have rb2 := readByte_sim rb.1 (e.back ((Reach.refl _).setDataEndBack _))
    conv => arg 3; rw [commentGo]
    sif [rb.1.err, rb.2, rb2.1.err, rb2.2, *]
    exact setDataEndBack_sim _ rb2.1 e
  case case7 ih =>
    have rb := readByte_sim c (e.back ((Reach.refl _).readByte.commentGo _))
    have rb2 := readByte_sim rb.1 (e.back ((Reach.refl _).commentGo _))
    conv => arg 3; rw [commentGo]
    sif [rb.1.err, rb.2, rb2.1.err, rb2.2, *, -ih]
    exact ih _ rb2.1 e

theorem readComment_sim {F : Prop} {p : Nat} (t u : Tokenizer) (c : Core F p t u)
    (e : Clean F (readComment u)) : Core F p (readComment t) (readComment u) := by
  have e' : Clean F (commentGo { u with dataS := u.rawE } 2) := by
    unfold readComment at e; simp only at e; split at e
    · exact e.congr
    · exact e
  have g := commentGo_sim _ _ 2 c.dataS_rawE e'
  unfold readComment
  simp only
  generalize commentGo { t with dataS := t.rawE } 2 = t1 at *
  generalize commentGo { u with dataS := u.rawE } 2 = u1 at *
  have hc : (t1.dataE < t1.dataS) ↔ (u1.dataE < u1.dataS) := by rw [g.dataE, g.dataS]; omega
  by_cases h : u1.dataE < u1.dataS
  · sif [h, hc.mpr h]
    exact { g with dataE := g.dataS }
  · have h' : ¬ t1.dataE < t1.dataS := fun x => h (hc.mp x)
    sif [h, h']
    exact g

theorem declLoop_sim {F : Prop} {p : Nat} (cs : List (Nat × Nat)) (t u : Tokenizer) (c : Core F p t u)
    (e : Clean F (declLoop u cs).1) :
    Core F p (declLoop t cs).1 (declLoop u cs).1 ∧ (declLoop t cs).2 = (declLoop u cs).2 := by
  induction cs generalizing t u with
  | nil => exact ⟨c, rfl⟩
  | cons x cs ih =>
    simp only [declLoop] at e ⊢
    by_cases h1 : u.readByte.1.err = true
    · rw [if_pos h1] at e ⊢
      have rb := readByte_sim c e.congr
      rw [if_pos (rb.1.isErr h1)]
      exact ⟨rb.1.dataE_rawE, rfl⟩
    · rw [if_neg h1] at e ⊢
      by_cases h2 : (u.readByte.2 != x.1 && u.readByte.2 != x.2) = true
      · rw [if_pos h2] at e ⊢
        have rb := readByte_sim c e.congr
        rw [if_neg (rb.1.noErr h1), if_pos (by rw [rb.2]; exact h2)]
        exact ⟨{ rb.1 with rawE := rb.1.dataS }, rfl⟩
      · rw [if_neg h2] at e ⊢
        have rb := readByte_sim c (e.back ((Reach.refl _).declLoop cs))
        rw [if_neg (rb.1.noErr h1), if_neg (by rw [rb.2]; exact h2)]
        exact ih _ _ rb.1 e

theorem readDocType_sim {F : Prop} {p : Nat} (t u : Tokenizer) (c : Core F p t u) (e : Clean F (readDocType u).1) :
    Core F p (readDocType t).1 (readDocType u).1 ∧ (readDocType t).2 = (readDocType u).2 := by
  have l := declLoop_sim htmlDoctypePat t u c (e.back (Reach.refl _).readDocType_of_loop)
  unfold readDocType at e ⊢
  simp only [l.2] at e ⊢
  generalize declLoop t htmlDoctypePat = lt at *
  generalize declLoop u htmlDoctypePat = lu at *
  by_cases hl : lu.2 = true
  · sif [hl] at e ⊢
    by_cases h2 : lu.1.skipWhiteSpace.err = true
    · rw [if_pos h2] at e
      have sk := skipWhiteSpace_sim _ _ l.1 e.congr
      rw [if_pos h2, if_pos (sk.isErr h2)]
      exact ⟨{ sk with dataS := sk.rawE, dataE := sk.rawE }, rfl⟩
    · rw [if_neg h2] at e
      have sk := skipWhiteSpace_sim _ _ l.1 (e.back (Reach.refl _).readUntilCloseAngle)
      rw [if_neg h2, if_neg (sk.noErr h2)]
      exact ⟨readUntilCloseAngle_sim _ _ sk e, rfl⟩
  · have hl' : lu.2 = false := by simpa using hl
    sif [hl']
    exact ⟨l.1, by trivial⟩

theorem cdataGo_sim {F : Prop} {p : Nat} (t u : Tokenizer) (br : Nat) (c : Core F p t u)
    (e : Clean F (cdataGo u br)) : Core F p (cdataGo t br) (cdataGo u br) := by
  fun_induction cdataGo u br generalizing t
  case case1 herr _ =>
    have rb := readByte_sim c e.congr
    rw [cdataGo, dif_pos (rb.1.isErr herr)]
    exact rb.1.dataE_rawE
  case case2 herr hb ih =>
    have rb := readByte_sim c (e.back ((Reach.refl _).cdataGo _))
    rw [cdataGo, dif_neg (rb.1.noErr herr), if_pos (by rw [rb.2]; exact hb)]
    exact ih _ rb.1 e
  case case3 r herr hb hgt hge =>
    have rb := readByte_sim c (e.back ((Reach.refl _).setDataEndBack _))
    rw [cdataGo, dif_neg (rb.1.noErr herr), if_neg (by rw [rb.2]; exact hb), if_pos (by rw [rb.2]; exact hgt), if_pos hge]
    exact setDataEndBack_sim _ rb.1 e
  case case4 herr hb hgt hge ih =>
    have rb := readByte_sim c (e.back ((Reach.refl _).cdataGo _))
    rw [cdataGo, dif_neg (rb.1.noErr herr), if_neg (by rw [rb.2]; exact hb), if_pos (by rw [rb.2]; exact hgt), if_neg hge]
    exact ih _ rb.1 e
  case case5 herr hb hgt ih =>
    have rb := readByte_sim c (e.back ((Reach.refl _).cdataGo _))
    rw [cdataGo, dif_neg (rb.1.noErr herr), if_neg (by rw [rb.2]; exact hb), if_neg (by rw [rb.2]; exact hgt)]
    exact ih _ rb.1 e

theorem readCdata_sim {F : Prop} {p : Nat} (t u : Tokenizer) (c : Core F p t u) (e : Clean F (readCdata u).1) :
    Core F p (readCdata t).1 (readCdata u).1 ∧ (readCdata t).2 = (readCdata u).2 := by
  have l := declLoop_sim htmlCdataPat t u c (e.back (Reach.refl _).readCdata_of_loop)
  unfold readCdata at e ⊢
  simp only [l.2] at e ⊢
  generalize declLoop t htmlCdataPat = lt at *
  generalize declLoop u htmlCdataPat = lu at *
  by_cases hl : lu.2 = true
  · sif [hl] at e ⊢
    exact ⟨cdataGo_sim _ _ 0 l.1.dataS_rawE e, by trivial⟩
  · have hl' : lu.2 = false := by simpa using hl
    sif [hl']
    exact ⟨l.1, by trivial⟩

theorem markupRest_sim {F : Prop} {p : Nat} (t u : Tokenizer) (c : Core F p t u) (e : Clean F (markupRest u).1) :
    Core F p (markupRest t).1 (markupRest u).1 ∧ (markupRest t).2 = (markupRest u).2 := by
  have d := readDocType_sim t u c (e.back (Reach.refl _).markupRest_of_docType)
  unfold markupRest at e ⊢
  simp only [d.2, d.1.cdata] at e ⊢
  generalize readDocType t = dt at *
  generalize readDocType u = du at *
  by_cases h1 : du.2 = true
  · sif [h1]; exact ⟨d.1, by trivial⟩
  · sif [h1] at e ⊢
    by_cases h3 : du.1.allowCdata = true
    · sif [h3] at e ⊢
      by_cases h4 : (readCdata du.1).2 = true
      · rw [if_pos h4] at e
        have cc := readCdata_sim _ _ d.1 e.congr
        rw [if_pos h4, if_pos (by rw [cc.2]; exact h4)]
        -- the leaf sets `convert_null`, which `Core` does not relate
        exact ⟨cc.1.congr rfl rfl, rfl⟩
      · rw [if_neg h4] at e
        have cc := readCdata_sim _ _ d.1 (e.back (Reach.refl _).readUntilCloseAngle)
        rw [if_neg h4, if_neg (by rw [cc.2]; exact h4)]
        exact ⟨readUntilCloseAngle_sim _ _ cc.1 e, rfl⟩
    · sif [h3] at e ⊢
      exact ⟨readUntilCloseAngle_sim _ _ d.1 e, by trivial⟩

theorem markupGo_sim {F : Prop} {p : Nat} (t u : Tokenizer) (c : Core F p t u) (e : Clean F (markupGo u).1) :
    Core F p (markupGo t).1 (markupGo u).1 ∧ (markupGo t).2 = (markupGo u).2 := by
  unfold markupGo at e ⊢
  simp only at e ⊢
  by_cases h1 : u.readByte.1.err = true
  · rw [if_pos h1] at e
    have rb := readByte_sim c e.congr
    rw [if_pos h1, if_pos (rb.1.isErr h1)]
    exact ⟨rb.1.dataE_rawE, rfl⟩
  · rw [if_neg h1] at e
    by_cases h3 : u.readByte.1.readByte.1.err = true
    · rw [if_pos h3] at e
      have rb := readByte_sim c (e.congr.back (Reach.refl _).readByte)
      have rb2 := readByte_sim rb.1 e.congr
      rw [if_neg h1, if_neg (rb.1.noErr h1), if_pos h3, if_pos (rb2.1.isErr h3)]
      exact ⟨rb2.1.dataE_rawE, rfl⟩
    · rw [if_neg h3] at e
      by_cases h4 : (u.readByte.2 == 45 && u.readByte.1.readByte.2 == 45) = true
      · rw [if_pos h4] at e
        have rb := readByte_sim c (e.back (Reach.refl _).readByte.readComment)
        have rb2 := readByte_sim rb.1 (e.back (Reach.refl _).readComment)
        rw [if_neg h1, if_neg (rb.1.noErr h1), if_neg h3, if_neg (rb2.1.noErr h3), if_pos h4,
          if_pos (by rw [rb.2, rb2.2]; exact h4)]
        exact ⟨readComment_sim _ _ rb2.1 e, rfl⟩
      · rw [if_neg h4] at e
        have rb := readByte_sim c (e.back ((Reach.refl _).readByte.unread 2 h3).markupRest)
        have rb2 := readByte_sim rb.1 (e.back ((Reach.refl _).unread 2 h3).markupRest)
        rw [if_neg h1, if_neg (rb.1.noErr h1), if_neg h3, if_neg (rb2.1.noErr h3), if_neg h4,
          if_neg (by rw [rb.2, rb2.2]; exact h4)]
        exact markupRest_sim _ _ (unread_sim 2 rb2.1 (e.back (Reach.refl _).markupRest)) e

theorem readMarkupDeclaration_sim {F : Prop} {p : Nat} (t u : Tokenizer) (c : Core F p t u)
    (e : Clean F (readMarkupDeclaration u).1) :
    Core F p (readMarkupDeclaration t).1 (readMarkupDeclaration u).1 ∧
    (readMarkupDeclaration t).2 = (readMarkupDeclaration u).2 :=
  markupGo_sim _ _ c.dataS_rawE e

end Tokenizer
end Rio.Html
