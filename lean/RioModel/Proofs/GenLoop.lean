/-
What the shapes the translator emits mean, stated once over variables, for the `*Gen` modules.

A `for` loop of the source without `break` / `return` is translated into a recursion on the iterated list that threads the
loop's variables (one function per source loop, the body inlined: `Rio.Consts.gen…Loop…`).  The model writes the same
loop as a `List.foldl`.  `map_eq_foldl` is the bridge; what remains to be shown per loop is that ONE turn of the translated
body is one turn of the model's step.  (Loops with an exit are compared with the model's own recursions by induction in
their files; the one emitted combinator, `genLoopFor`, has its lemmas in Proofs/LoopGen.lean.)

Also here: the translated integer casts (`x as u64`, `as i64`, `as i32`) are the identity in range.

A proof that unfolds translated text is meant to go through on the behaviour-preserving respellings of the source as well (the
accepted ones are recorded per tie in notes/wp, DESIGN.md §8): a case split on a test where a rewrite with its text would do, a
`first` of two proofs, a simp argument unused today.  Such a step has a comment naming the source shapes, and
`set_option linter.unusedSimpArgs false in` where needed; without the comment it is not one.
-/
import RioModel.Generated.Consts
import RioModel.Proofs.UtilList

namespace Rio.GenLoop
open Rio.Consts

theorem genAsU64_of_lt (n : Nat) (h : n < 2 ^ 64) : genAsU64 n = n := by
  unfold genAsU64
  exact Nat.mod_eq_of_lt (by simpa using h)

theorem genAsI64_of_lt (n : Nat) (h : n < 2 ^ 63) : genAsI64 n = n := by
  unfold genAsI64
  have : n % 2 ^ 64 = n := Nat.mod_eq_of_lt (by omega)
  rw [this]; simp [h]

theorem genI64AsU64_of_pos (i : Int) (h0 : 0 < i) (h : i < 2 ^ 63) : genI64AsU64 i = i.toNat := by
  unfold genI64AsU64
  have : i % 2 ^ 64 = i := Int.emod_eq_of_lt (by omega) (by omega)
  rw [this]

theorem genAsI32_small {n : Nat} (h : n < 2147483648) : genAsI32 n = (n : Int) := by
  unfold genAsI32
  have hm : n % 4294967296 = n := Nat.mod_eq_of_lt (by omega)
  simp [hm, h]

theorem genAsI32_pos_iff {n : Nat} (h : n < 2147483648) : (genAsI32 n > 0) ↔ 0 < n := by
  rw [genAsI32_small h]; omega

/-- no hypothesis: a positive `n as i32` comes from a positive `n` (so a `n -= 1` under that guard does not underflow) -/
theorem genAsI32_pos_imp (n : Nat) (h : genAsI32 n > 0) : 0 < n := by
  cases n with
  | zero => simp [genAsI32] at h
  | succ k => omega

/-- `rep` represents the model's state, `g` its elements.  Several loop variables, kept as separate arguments in any order,
are one state: take `L := fun l t => loop l t.1 t.2` and let `rep` build the tuple. -/
theorem map_eq_foldl {α β σ τ : Type} {L : List β → τ → τ} (rep : σ → τ) (g : α → β) (f : σ → α → σ)
    (nil : ∀ t, L [] t = t) (cons : ∀ x r s, L (g x :: r) (rep s) = L r (rep (f s x))) :
    ∀ (l : List α) (s : σ), L (l.map g) (rep s) = rep (l.foldl f s)
  | [], _ => nil _
  | x :: r, s => (cons x _ s).trans (map_eq_foldl rep g f nil cons r (f s x))

theorem eq_foldl {α σ : Type} {L : List α → σ → σ} (f : σ → α → σ)
    (nil : ∀ s, L [] s = s) (cons : ∀ x r s, L (x :: r) s = L r (f s x)) :
    ∀ (l : List α) (s : σ), L l s = l.foldl f s :=
  fun l s => by simpa using map_eq_foldl id id f nil cons l s

theorem foldl_push {α : Type} (l s : List α) : l.foldl (fun s x => s ++ [x]) s = s ++ l := by
  rw [Util.foldl_append_eq _ (fun x => [x]) (fun _ _ => rfl), List.flatMap_singleton']

end Rio.GenLoop
