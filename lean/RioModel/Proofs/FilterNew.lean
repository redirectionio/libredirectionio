/-
What the constructors build, case by case: `FilterBodyAction::new` without a `Content-Encoding` (`new_plain`),
`HtmlBodyVisitor::new` (`visitor_new_*`: a non-empty path and one of the three actions), the html arm of
`FilterBodyActionItem::new` (`stage_new_html`), the chain of one html filter (`chain_new_one_html`).
-/
import RioModel.Model.Filter

namespace Rio.Filter
open Rio.Consts

variable {D E : Type}

theorem new_plain (codec : Codec D E) (lower : String → String) (fs : List BodyFilter) (headers : List (String × String))
    (henc : headerValue lower filterHeaderContentEncoding headers = none) :
    Chain.new codec lower fs headers =
      { items := fs.filterMap fun f => Stage.new f (headerValue lower filterHeaderContentType headers) } := by
  simp only [Chain.new, henc]
  split <;> rfl

theorem visitor_new_cases {action : String} {path : List Bytes} {sel : Option Bytes} {value : Bytes} {v : Visitor}
    (h : Visitor.new action path sel value = some v) :
    ∃ p ps, path = p :: ps ∧
      (action = filterActionAppend ∧ v = { kind := .append, cur := p, after := ps, sel := sel, content := value } ∨
       action = filterActionPrepend ∧ v = { kind := .prepend, cur := p, after := ps, sel := sel, content := value } ∨
       action = filterActionReplace ∧ v = { kind := .replace, cur := p, after := ps, sel := sel, content := value }) := by
  cases path with
  | nil => cases h
  | cons p ps =>
    refine ⟨p, ps, rfl, ?_⟩
    simp only [Visitor.new] at h
    by_cases ha : action = filterActionAppend
    · rw [if_pos ha] at h
      exact Or.inl ⟨ha, (Option.some.inj h).symm⟩
    rw [if_neg ha] at h
    by_cases hp : action = filterActionPrepend
    · rw [if_pos hp] at h
      exact Or.inr (Or.inl ⟨hp, (Option.some.inj h).symm⟩)
    rw [if_neg hp] at h
    by_cases hr : action = filterActionReplace
    · rw [if_pos hr] at h
      exact Or.inr (Or.inr ⟨hr, (Option.some.inj h).symm⟩)
    rw [if_neg hr] at h
    cases h

theorem visitor_new_shape {action : String} {path : List Bytes} {sel : Option Bytes} {value : Bytes} {v : Visitor}
    (h : Visitor.new action path sel value = some v) :
    ∃ k p ps, path = p :: ps ∧ v = { kind := k, cur := p, after := ps, sel := sel, content := value } := by
  obtain ⟨p, ps, hp, ⟨_, hv⟩ | ⟨_, hv⟩ | ⟨_, hv⟩⟩ := visitor_new_cases h
  · exact ⟨_, p, ps, hp, hv⟩
  · exact ⟨_, p, ps, hp, hv⟩
  · exact ⟨_, p, ps, hp, hv⟩

theorem visitor_new_append (p : Bytes) (ps : List Bytes) (sel : Option Bytes) (value : Bytes) :
    Visitor.new filterActionAppend (p :: ps) sel value =
      some { kind := .append, cur := p, after := ps, sel := sel, content := value } := by
  rw [Visitor.new, if_pos rfl]

theorem visitor_new_prepend (p : Bytes) (ps : List Bytes) (sel : Option Bytes) (value : Bytes) :
    Visitor.new filterActionPrepend (p :: ps) sel value =
      some { kind := .prepend, cur := p, after := ps, sel := sel, content := value } := by
  rw [Visitor.new, if_neg (by decide), if_pos rfl]

theorem visitor_new_replace (p : Bytes) (ps : List Bytes) (sel : Option Bytes) (value : Bytes) :
    Visitor.new filterActionReplace (p :: ps) sel value =
      some { kind := .replace, cur := p, after := ps, sel := sel, content := value } := by
  rw [Visitor.new, if_neg (by decide), if_neg (by decide), if_pos rfl]

theorem visitor_new_insert {action : String} (hact : action = filterActionAppend ∨ action = filterActionPrepend)
    (p : Bytes) (ps : List Bytes) (sel : Option Bytes) (value : Bytes) :
    ∃ kd, kd ≠ .replace ∧ (kd == .prepend) = (action == filterActionPrepend) ∧
      Visitor.new action (p :: ps) sel value = some { kind := kd, cur := p, after := ps, sel := sel, content := value } := by
  rcases hact with rfl | rfl
  · exact ⟨.append, VKind.noConfusion, by decide, visitor_new_append p ps sel value⟩
  · exact ⟨.prepend, VKind.noConfusion, by decide, visitor_new_prepend p ps sel value⟩

theorem stage_new_html {action : String} {path : List Bytes} {sel : Option Bytes} {value : Bytes} {ct : Option String}
    {st : Stage D E} (h : Stage.new (.html action path sel value) ct = some st) :
    ∃ v, Visitor.new action path sel value = some v ∧ st = .html (HtmlSt.new v) := by
  simp only [Stage.new] at h
  split at h
  · obtain ⟨v, hv, rfl⟩ := Option.map_eq_some_iff.mp h
    exact ⟨v, hv, rfl⟩
  · cases h

theorem chain_new_one_html (lower : String → String) (headers : List (String × String)) (action : String)
    (p : Bytes) (ps : List Bytes) (sel : Option Bytes) (value : Bytes) (k : VKind)
    (henc : headerValue lower filterHeaderContentEncoding headers = none)
    (hct : htmlAllowed (headerValue lower filterHeaderContentType headers) = true)
    (hk : Visitor.new action (p :: ps) sel value = some { kind := k, cur := p, after := ps, sel := sel, content := value }) :
    Chain.new noCodec lower [.html action (p :: ps) sel value] headers =
      ({ items := [.html (HtmlSt.new { kind := k, cur := p, after := ps, sel := sel, content := value })] } : Chain Unit Unit) := by
  rw [new_plain noCodec lower _ headers henc]
  simp [Stage.new, hct, hk]

end Rio.Filter
