/-
C04, chains with several html stages: only the FIRST html stage of a chain can fail inside `filter()`.
The output of an html stage is a Rust `String` — in the model: complete valid UTF-8, because it is a concatenation of
raw bytes of tokens of a validated buffer (tokenizer law `TokValid`: token boundaries are character boundaries) and of
configured values (Rust `String`s: hypothesis `V content`).  A later html stage therefore only ever sees complete valid
input, its `last_buffer` stays complete valid, and its UTF-8 prologue never fails (`filterHtml_total_of_V`; a whole chain
of such stages: `doFilter_down`).  `Ctx c` (Proofs/FilterStreamLaws.lean): `c` is `[]` or a raw-text tag `new_fragment` accepts.

The second half supplies `ErrSafe`, the parameter of `Chain.run_comp` (Proofs/FilterChain.lean).  Chains of the shape
`ShapeP Ph Pr` — text stages, one html stage, then stages that take what it emits without failing (`Behind`) — are
`ErrSafe` (`errSafe_shapeP`).  Two instances: at most one html stage (`behind_text`: only text stages behind it), and any
number of html stages with valid values (`Shape`, `behind_down`, `errSafe_shape`).
-/
import RioModel.Proofs.FilterChain
import RioModel.Proofs.FilterUtf8
import RioModel.Proofs.FilterText

namespace Rio.Filter

/-- token boundaries of a valid buffer are character boundaries: the raw bytes of every token are valid again (the plain
tokenizer `tk d`; `TokValidS`, Proofs/FilterStreamLaws.lean, for the filter loop's) -/
def TokValid (tk : Tokenize) : Prop := ∀ d, V d → ∀ t ∈ (tk d).1, V t.raw

/-- the tokenizer laws that keep an html stage inside valid UTF-8: token boundaries are character boundaries for both
entry points, and the contexts the stream tokenizer reports are contexts `new_fragment` accepts -/
structure TokValidAll (tk : Tokenize) : Prop where
  plain : TokValid tk
  stream : TokValidS tk
  ctx : CtxClosed tk

theorem V_flatMap {α : Type} (f : α → Bytes) {l : List α} (h : ∀ a ∈ l, V (f a)) : V (l.flatMap f) := by
  induction l with
  | nil => exact V_nil
  | cons a l ih =>
    rw [List.flatMap_cons]
    exact V_append (h a (by simp)) (ih fun b hb => h b (by simp [hb]))

theorem V_rawsOf {ts : List Tok} (h : ∀ t ∈ ts, V t.raw) : V (rawsOf ts) :=
  V_flatMap _ h

theorem V_rest {tk : Tokenize} (hl : LosslessAll tk) (hv : TokValidAll tk) {d : Bytes} (hd : V d) : V (tk d).2 := by
  have := hl.plain d
  rw [← this] at hd
  exact V_of_append_left hd (V_rawsOf (hv.plain d (by rw [this] at hd; exact hd)))

theorem view_all_V {tk : Tokenize} (hv : TokValidAll tk) {c d : Bytes} (hc : Ctx c) (hd : V d) :
    ∀ t ∈ (view tk c d).all, V t.raw := by
  intro t ht
  obtain ⟨x, hx, rfl⟩ := view_all_mem tk c d t ht
  exact hv.stream c d hc hd x hx

theorem view_rem_V {tk : Tokenize} (hl : LosslessAll tk) (hv : TokValidAll tk) {c d : Bytes} (hc : Ctx c) (hd : V d) :
    V (view tk c d).rem := by
  have h := view_all_rem tk hl.stream c d
  have hd' := hd
  rw [← h] at hd'
  exact V_of_append_left hd' (V_rawsOf (view_all_V hv hc hd))

theorem view_tail_V {tk : Tokenize} (hl : LosslessAll tk) (hv : TokValidAll tk) {c d : Bytes} (hc : Ctx c) (hd : V d) :
    V (view tk c d).tail := by
  rcases view_cases tk c d with ⟨_, h2⟩ | ⟨t, _, h1, h2⟩
  · rw [h2]; exact view_rem_V hl hv hc hd
  · rw [h2]
    exact V_append (view_all_V hv hc hd t (by rw [h1]; simp)) (view_rem_V hl hv hc hd)

theorem heldCtx_ctx (pre post : List TokX) (held ctxE : Bytes) (hpre : ∀ x ∈ pre, Ctx x.ctx)
    (hpost : ∀ x ∈ post, Ctx x.ctx) (he : Ctx ctxE) : Ctx (heldCtx pre post held ctxE) := by
  unfold heldCtx
  cases post with
  | cons x rest => exact hpost x (by simp)
  | nil =>
    simp only
    split
    · exact he
    · cases hg : pre.getLast? with
      | none => simpa using he
      | some x =>
        simp only [Option.map_some, Option.getD_some]
        exact hpre x (List.mem_of_getLast? hg)

theorem view_ctx {tk : Tokenize} (hv : TokValidAll tk) {c : Bytes} (d : Bytes) (hc : Ctx c) : Ctx (view tk c d).ctx' := by
  obtain ⟨h1, h2⟩ := hv.ctx c d hc
  exact heldCtx_ctx _ _ _ _
    (fun x hx => h1 x (by rw [← cutSplit_append (tk.stream c d).1]; simp [hx]))
    (fun x hx => h1 x (by rw [← cutSplit_append (tk.stream c d).1]; simp [hx])) h2

section
variable {tk : Tokenize} (hl : LosslessAll tk) (hv : TokValidAll tk) (ev : Bytes → Bytes → Bool)
include hl hv

theorem V_of_split {content child r : Bytes} (h1 : V content) (h2 : V child)
    (h : r = content ∨ ∃ ts1 ts2, (tk content).1 = ts1 ++ ts2 ∧ r = rawsOf ts1 ++ child ++ rawsOf ts2 ++ (tk content).2) :
    V r := by
  rcases h with rfl | ⟨ts1, ts2, e1, rfl⟩
  · exact h1
  · have hts := hv.plain content h1
    rw [e1] at hts
    exact V_append (V_append (V_append (V_rawsOf fun t ht => hts t (List.mem_append_left _ ht)) h2)
      (V_rawsOf fun t ht => hts t (List.mem_append_right _ ht))) (V_rest hl hv h1)

theorem Visitor.leave_V (v : Visitor) (d : Bytes) (hc : V v.content) (hd : V d) :
    V (v.leave tk ev d).1.2.2 ∧ (v.leave tk ev d).2.content = v.content := by
  refine ⟨?_, content_of_static (v.leave_static tk ev d)⟩
  rcases v.leave_data tk ev d with h | h
  · rw [h]; exact hd
  · cases hk : v.kind <;> simp only [hk] at h
    · rcases h with ⟨_, h⟩ | ⟨_, h⟩ <;> rw [h]
      · exact V_of_split hl hv hd hc (appendChild_split tk d v.content)
      · exact V_append hc hd
    · rw [h.2]; exact V_of_split hl hv hd hc (prependChild_split tk d v.content)
    · rw [h]; exact hc

omit hl hv in
theorem Visitor.enter_V (v : Visitor) (d : Bytes) (hc : V v.content) (hd : V d) :
    V (v.enter d).1.2.2.2 ∧ (v.enter d).2.content = v.content := by
  refine ⟨?_, content_of_static (v.enter_static d)⟩
  rcases v.enter_data d with h | ⟨_, _, h⟩ <;> rw [h]
  · exact hd
  · exact V_append hd hc

/-- what an html stage that is only ever fed valid input keeps (`filterHtml_V`): its value and every buffer on its stack
are valid -/
def HV (s : HtmlSt) : Prop := V s.visitor.content ∧ ∀ l ∈ s.stack, V l.buffer

omit hl hv in
theorem onStart_V (s : HtmlSt) (name data : Bytes) (hs : HV s) (hd : V data) :
    HV (onStart s name data).1 ∧ V (onStart s name data).2 := by
  by_cases he : s.enter = some name
  · rw [onStart_fires data he]
    obtain ⟨e1, e2⟩ := s.visitor.enter_V data hs.1 hd
    refine ⟨⟨e2.symm ▸ hs.1, fun l hl' => ?_⟩, e1⟩
    dsimp only at hl'
    split at hl'
    · rcases List.mem_cons.mp hl' with rfl | h
      · exact V_nil
      · exact hs.2 l h
    · exact hs.2 l hl'
  · rw [onStart_skips data he]
    exact ⟨hs, hd⟩

theorem onEnd_V (s : HtmlSt) (name data : Bytes) (hs : HV s) (hd : V data) :
    HV (onEnd tk ev s name data).1 ∧ V (onEnd tk ev s name data).2 := by
  have hbuf : V (if topMatches s.stack name = true then topBuffer s.stack ++ data else data) := by
    split
    · apply V_append _ hd
      cases hst : s.stack with
      | nil => exact V_nil
      | cons l rest => exact hs.2 l (by simp [hst])
    · exact hd
  have hst : ∀ l ∈ (if topMatches s.stack name = true then s.stack.tail else s.stack), V l.buffer := by
    intro l h
    split at h
    · exact hs.2 l (List.mem_of_mem_tail h)
    · exact hs.2 l h
  by_cases hlv : s.leave = some name
  · rw [onEnd_fires tk ev data hlv]
    obtain ⟨l1, l2⟩ := Visitor.leave_V hl hv ev s.visitor _ hs.1 hbuf
    exact ⟨⟨l2.symm ▸ hs.1, hst⟩, l1⟩
  · rw [onEnd_skips tk ev data hlv]
    exact ⟨⟨hs.1, hst⟩, hbuf⟩

omit hl hv in
theorem push_V (s : HtmlSt) (out d : Bytes) (hs : HV s) (ho : V out) (hd : V d) :
    HV (push s out d).1 ∧ V (push s out d).2 := by
  unfold push
  cases hst : s.stack with
  | nil => simp only; exact ⟨hs, V_append ho hd⟩
  | cons l rest =>
    simp only
    refine ⟨⟨hs.1, ?_⟩, ho⟩
    intro l' hl'
    simp at hl'
    rcases hl' with rfl | hl'
    · exact V_append (hs.2 l (by simp [hst])) hd
    · exact hs.2 l' (by simp [hst, hl'])

theorem stepTok_V (s : HtmlSt) (out : Bytes) (t : Tok) (hs : HV s) (ho : V out) (ht : V t.raw) :
    HV (stepTok tk ev (s, out) t).1 ∧ V (stepTok tk ev (s, out) t).2 := by
  rw [stepTok_eq]
  extract_lets a e
  have ha : HV a.1 ∧ V a.2 := by
    unfold a
    split
    · exact onStart_V s t.name t.raw hs ht
    · exact ⟨hs, ht⟩
  have he : HV e.1 ∧ V e.2 := by
    unfold e
    split
    · exact onEnd_V hl hv ev a.1 t.name a.2 ha.1 ha.2
    · exact ha
  exact push_V e.1 out e.2 he.1 ho he.2

theorem fold_V (ts : List Tok) (s : HtmlSt) (out : Bytes) (hs : HV s) (ho : V out) (hts : ∀ t ∈ ts, V t.raw) :
    HV (ts.foldl (stepTok tk ev) (s, out)).1 ∧ V (ts.foldl (stepTok tk ev) (s, out)).2 :=
  Rio.Util.foldl_inv (fun so : HtmlSt × Bytes => HV so.1 ∧ V so.2) (stepTok tk ev) ts (s, out) ⟨hs, ho⟩
    fun so t ht h => stepTok_V hl hv ev so.1 so.2 t h.1 h.2 (hts t ht)

theorem filterHtml_V (s s' : HtmlSt) (x o : Bytes) (hs : HV s) (hc : Ctx s.ctx)
    (h : filterHtml tk ev s x = some (s', o)) : HV s' ∧ Ctx s'.ctx ∧ V o := by
  obtain ⟨data, pending, sf, hsp, hf, rfl⟩ := filterHtml_some tk ev h
  have hd : V data := V_utf8Split hsp
  obtain ⟨f1, f2⟩ := fold_V hl hv ev (view tk s.ctx data).todo s [] hs V_nil
    fun t ht => view_all_V hv hc hd t (view_todo_sub tk s.ctx data t ht)
  rw [hf] at f1 f2
  exact ⟨f1, view_ctx hv data hc, f2⟩

theorem filterHtml_total_of_V (s : HtmlSt) (x : Bytes) (hs : HV s) (hc : Ctx s.ctx) (hlast : V s.last) (hx : V x) :
    ∃ s' o, filterHtml tk ev s x = some (s', o) ∧ HV s' ∧ Ctx s'.ctx ∧ V s'.last ∧ V o := by
  have hd : V (s.last ++ x) := V_append hlast hx
  have hsp := utf8Split_of_V hd
  obtain ⟨⟨s', o⟩, hf⟩ : ∃ r, filterHtml tk ev s x = some r := by
    rw [filterHtml_view, hsp]
    exact ⟨_, rfl⟩
  obtain ⟨h1, h2, h3⟩ := filterHtml_V hl hv ev s s' x o hs hc hf
  -- nothing is pending after valid data: what the stage keeps is the tail of the view
  obtain ⟨data, pending, sf, hsp', _, rfl⟩ := filterHtml_some tk ev hf
  cases hsp.symm.trans hsp'
  exact ⟨_, o, hf, h1, h2, V_append (view_tail_V hl hv hc hd) V_nil, h3⟩

end

variable {D E : Type}

/-- a stage downstream of an html stage -/
def DStage : Stage D E → Prop
  | .html s => (HV s ∧ Ctx s.ctx) ∧ V s.last
  | .text s => V s.content
  | _ => False

/-- every stage may stand behind an html stage (`DStage`): none fails on valid input, and what it emits is valid
(`doFilter_down`) -/
def Down (items : List (Stage D E)) : Prop := ∀ st ∈ items, DStage st

/-- text stages, then an html stage of which `Ph` holds, then stages of which `Pr` holds — or text stages only -/
def ShapeP (Ph : HtmlSt → Prop) (Pr : List (Stage D E) → Prop) : List (Stage D E) → Prop
  | [] => True
  | .text _ :: rest => ShapeP Ph Pr rest
  | .html h :: rest => Ph h ∧ Pr rest
  | _ :: _ => False

/-- what makes such a shape last, and a failure inside `do_filter` harmless: a successful call of the html stage keeps
`Ph`, and the stages behind it take what it emits without failing and keep `Pr` — so only that html stage can fail, and
the stages in front of it, being text stages, hold nothing -/
structure Behind (tk : Tokenize) (ev : Bytes → Bytes → Bool) (codec : Codec D E) (Ph : HtmlSt → Prop)
    (Pr : List (Stage D E) → Prop) : Prop where
  html : ∀ {h h' : HtmlSt} {x o : Bytes}, Ph h → filterHtml tk ev h x = some (h', o) → Ph h'
  rest : ∀ {h h' : HtmlSt} {x o : Bytes} {rest : List (Stage D E)}, Ph h → filterHtml tk ev h x = some (h', o) → Pr rest →
    ∃ rest' out, doFilter tk ev codec rest o = (rest', some out) ∧ Pr rest'

section
variable {tk : Tokenize} {ev : Bytes → Bytes → Bool} {codec : Codec D E} {Ph : HtmlSt → Prop}
  {Pr : List (Stage D E) → Prop} (hB : Behind tk ev codec Ph Pr)
include hB

theorem ShapeP.doFilter_ok {items items' : List (Stage D E)} {x out : Bytes} (hs : ShapeP Ph Pr items)
    (h : doFilter tk ev codec items x = (items', some out)) : ShapeP Ph Pr items' := by
  induction items generalizing items' x with
  | nil =>
    injection h with h _
    rw [← h]
    trivial
  | cons st rest ih =>
    rcases doFilter_cons_cases tk ev codec h with ⟨_, _, hr⟩ | ⟨st', o, hf, hcase⟩
    · cases hr
    cases st with
    | text s =>
      rw [Stage.filter_text] at hf
      cases hf
      rcases hcase with ⟨_, rfl, _⟩ | ⟨_, rest', hr, rfl⟩
      · exact hs
      · exact (ih hs hr : ShapeP Ph Pr rest')
    | html h0 =>
      obtain ⟨⟨h', o'⟩, hf', heq⟩ := Option.map_eq_some_iff.mp hf
      cases heq
      rcases hcase with ⟨_, rfl, _⟩ | ⟨_, rest', hr, rfl⟩
      · exact ⟨hB.html hs.1 hf', hs.2⟩
      · obtain ⟨rest'', out', r1, r2⟩ := hB.rest hs.1 hf' hs.2
        cases hr.symm.trans r1
        exact ⟨hB.html hs.1 hf', r2⟩
    | decode _ => exact hs.elim
    | encode _ => exact hs.elim

theorem ShapeP.doFilter_err {items items' : List (Stage D E)} {x c e : Bytes}
    (hs : ShapeP Ph Pr items) (hinv : StagesInv items c e) (h : doFilter tk ev codec items x = (items', none)) :
    items'.map stageRel = items.map stageRel ∧ StagesInv items' c e := by
  induction items generalizing items' x c with
  | nil => cases h
  | cons st rest ih =>
    rcases doFilter_cons_cases tk ev codec h with ⟨_, rfl, _⟩ | ⟨st', o, hf, ⟨_, _, hr⟩ | ⟨_, rest', hr, rfl⟩⟩
    · exact ⟨rfl, hinv⟩
    · cases hr
    cases st with
    | text s =>
      rw [Stage.filter_text] at hf
      cases hf
      obtain ⟨m, h1, h2⟩ := hinv
      obtain ⟨i2, i3⟩ := ih hs h2 hr
      exact ⟨by simp [stageRel, textRel_filter, i2], ⟨m, by simp only [stageRel, textRel_filter]; exact h1, i3⟩⟩
    | html h0 =>
      obtain ⟨⟨h', o'⟩, hf', heq⟩ := Option.map_eq_some_iff.mp hf
      cases heq
      obtain ⟨_, _, r1, _⟩ := hB.rest hs.1 hf' hs.2
      cases hr.symm.trans r1
    | decode _ => exact hs.elim
    | encode _ => exact hs.elim

theorem errSafe_shapeP : ErrSafe tk ev codec (ShapeP Ph Pr) :=
  ⟨fun hs hd => hs.doFilter_ok hB hd, fun hs hinv hd => hs.doFilter_err hB hinv hd⟩

end

/-- at most one html stage: what stands behind it are text stages, which never fail -/
theorem behind_text (tk : Tokenize) (ev : Bytes → Bytes → Bool) (codec : Codec D E) :
    Behind tk ev codec (fun _ => True) (AllText (D := D) (E := E)) :=
  ⟨fun _ _ => trivial, fun _ _ ha => let ⟨i, o, e1, e2, _⟩ := doFilter_text tk ev codec _ _ ha; ⟨i, o, e1, e2⟩⟩

/-- the first html stage is the only one that is handed bytes no html stage has emitted -/
def Shape : List (Stage D E) → Prop := ShapeP (fun h => HV h ∧ Ctx h.ctx) Down

theorem shape_of_down : ∀ (items : List (Stage D E)), Down items → Shape items
  | [], _ => trivial
  | .text _ :: rest, hd => shape_of_down rest fun s hs => hd s (by simp [hs])
  | .html h :: rest, hd => ⟨(hd (.html h) (by simp)).1, fun s hs => hd s (by simp [hs])⟩
  | .decode d :: _, hd => hd (.decode d) (by simp)
  | .encode e :: _, hd => hd (.encode e) (by simp)

section
variable {tk : Tokenize} (hl : LosslessAll tk) (hv : TokValidAll tk) (ev : Bytes → Bytes → Bool) (codec : Codec D E)
include hl hv

theorem Stage.filter_down (st : Stage D E) (x : Bytes) (hd : DStage st) (hx : V x) :
    ∃ st' o, st.filter tk ev codec x = some (st', o) ∧ DStage st' ∧ V o := by
  cases st with
  | html s =>
    obtain ⟨s', o, h1, h2, h2', h3, h4⟩ := filterHtml_total_of_V hl hv ev s x hd.1.1 hd.1.2 hd.2 hx
    exact ⟨.html s', o, Stage.filter_html_some tk ev codec h1, ⟨⟨h2, h2'⟩, h3⟩, h4⟩
  | text s =>
    refine ⟨.text (filterText s x).1, (filterText s x).2, rfl, ?_, ?_⟩
    · show V (filterText s x).1.content
      rw [(filterText_static s x).2]; exact hd
    · obtain ⟨a, c, e⟩ := s
      have hc : V c := hd
      -- the output is `x`, or `c ++ x` (prepend, first call), `c` (replace, first call), `[]` (replace, later calls)
      cases a <;> cases e <;> simp [filterText] <;> first | exact hx | exact V_nil | exact hc | exact V_append hc hx
  | decode d => exact absurd hd (by simp [DStage])
  | encode e => exact absurd hd (by simp [DStage])

theorem doFilter_down : ∀ (items : List (Stage D E)) (x : Bytes), Down items → V x →
    ∃ items' out, doFilter tk ev codec items x = (items', some out) ∧ Down items' ∧ V out
  | [], x, _, hx => ⟨[], x, rfl, fun _ h => by simp at h, hx⟩
  | st :: rest, x, hd, hx => by
    obtain ⟨hd0, hrest⟩ := List.forall_mem_cons.mp hd
    obtain ⟨st', o, h1, h2, h3⟩ := Stage.filter_down hl hv ev codec st x hd0 hx
    by_cases ho : o = []
    · subst ho
      exact ⟨st' :: rest, [], doFilter_cons_empty tk ev codec rest h1, List.forall_mem_cons.mpr ⟨h2, hrest⟩, h3⟩
    · obtain ⟨rest', out, r1, r2, r3⟩ := doFilter_down rest o hrest h3
      refine ⟨st' :: rest', out, ?_, List.forall_mem_cons.mpr ⟨h2, r2⟩, r3⟩
      rw [doFilter_cons_more tk ev codec rest h1 ho, r1]

theorem behind_down : Behind tk ev codec (fun h => HV h ∧ Ctx h.ctx) (Down (D := D) (E := E)) :=
  ⟨fun hh hf => let ⟨a, b, _⟩ := filterHtml_V hl hv ev _ _ _ _ hh.1 hh.2 hf; ⟨a, b⟩,
    fun hh hf hd =>
      let ⟨r', out, r1, r2, _⟩ := doFilter_down hl hv ev codec _ _ hd (filterHtml_V hl hv ev _ _ _ _ hh.1 hh.2 hf).2.2
      ⟨r', out, r1, r2⟩⟩

theorem errSafe_shape : ErrSafe tk ev codec (Shape (D := D) (E := E)) :=
  errSafe_shapeP (behind_down hl hv ev codec)

end

end Rio.Filter
