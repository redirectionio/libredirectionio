/-
Stream laws of the tokenizer model: where tokens end.  `err` set means `raw.end` is at the end of the buffer;
a token that did not hit EOF ends right after a `>` or right before a `<`; tag tokens start with `<`, their name is
delimited by ASCII bytes.  (Used for: token boundaries are UTF-8 character boundaries; `TagSpan`.)
-/
import RioModel.Proofs.HtmlReach

namespace Rio.Html
namespace Tokenizer
open Rio.Consts

theorem readToEnd_errGe (t : Tokenizer) (h : ErrGe t) : ErrGe (readToEnd t) := (Reach.refl t).readToEnd.errGe h

theorem next_errGe (t : Tokenizer) (h : ErrGe t) : ErrGe (next t) := (Reach.refl t).next.errGe h

theorem nexts_errGe (n : Nat) (t : Tokenizer) (h : ErrGe t) : ErrGe (nexts n t) := by
  induction n with
  | zero => exact h
  | succ n ih => exact next_errGe _ ih

theorem err_rawE_eq (t : Tokenizer) (inv : Inv t) (h : ErrGe t) (he : t.err = true) : t.rawE = t.buf.size :=
  Nat.le_antisymm inv.ok.le (h he)

/-- the last byte read is `>` -/
def EndsGt (t : Tokenizer) : Prop := 1 ≤ t.rawE ∧ t.buf[t.rawE - 1]? = some 62
/-- the next byte is `<` -/
def AtLt (t : Tokenizer) : Prop := t.buf[t.rawE]? = some 60
/-- how every reader of a markup token (tag, comment, doctype, CDATA) ends: at EOF or right behind a `>` -/
def EndG (t : Tokenizer) : Prop := t.err = true ∨ EndsGt t

theorem lastRead {t : Tokenizer} (herr : ¬ t.readByte.1.err = true) :
    1 ≤ t.readByte.1.rawE ∧ t.readByte.1.buf[t.readByte.1.rawE - 1]? = some t.readByte.2 := by
  have g := get_of_readByte herr
  have e := readByte_succ herr
  refine ⟨by omega, ?_⟩
  rw [e, readByte_buf]
  simpa using g.1

theorem EndG.congr {t t' : Tokenizer} (h : EndG t) (e1 : t'.err = t.err) (e2 : t'.rawE = t.rawE) (e3 : t'.buf = t.buf) :
    EndG t' := by
  unfold EndG EndsGt at *
  rw [e1, e2, e3]; exact h

theorem endG_of_gt {t : Tokenizer} (herr : ¬ t.readByte.1.err = true) (h : (t.readByte.2 == 62) = true) :
    EndG t.readByte.1 := by
  have l := lastRead herr
  have : t.readByte.2 = 62 := by simpa using h
  exact Or.inr ⟨l.1, by rw [l.2, this]⟩

theorem EndG.setDataEndBack {t : Tokenizer} (h : EndG t) (k : Nat) : EndG (t.setDataEndBack k) :=
  h.congr (setDataEndBack_err t k) (setDataEndBack_rawE t k) (setDataEndBack_buf t k)

theorem untilCloseAngleGo_end (t : Tokenizer) : EndG (untilCloseAngleGo t) := by
  fun_induction untilCloseAngleGo t
  all_goals (try simp +zetaDelta only at *)
  case case1 => exact Or.inl (by assumption)
  case case2 => exact (endG_of_gt (by assumption) (by assumption)).setDataEndBack _
  case case3 ih => exact ih

theorem readUntilCloseAngle_end (t : Tokenizer) : EndG (readUntilCloseAngle t) := untilCloseAngleGo_end _

theorem commentGo_end (t : Tokenizer) (d : Nat) : EndG (commentGo t d) := by
  fun_induction commentGo t d
  all_goals (try simp +zetaDelta only at *)
  case case1 => exact Or.inl (by simpa using ‹_ = true›)
  case case3 => exact (endG_of_gt (by assumption) (by assumption)).setDataEndBack _
  case case5 => exact Or.inl (by assumption)
  case case6 => exact (endG_of_gt (by assumption) (by assumption)).setDataEndBack _
  all_goals assumption

theorem readComment_end (t : Tokenizer) : EndG (readComment t) := by
  fun_cases readComment t
  case case1 => exact (commentGo_end _ 2).congr rfl rfl rfl
  case case2 => exact commentGo_end _ 2

theorem cdataGo_end (t : Tokenizer) (b : Nat) : EndG (cdataGo t b) := by
  fun_induction cdataGo t b
  all_goals (try simp +zetaDelta only at *)
  case case1 => exact Or.inl (by assumption)
  case case3 => exact (endG_of_gt (by assumption) (by assumption)).setDataEndBack _
  all_goals assumption

theorem readDocType_end (t : Tokenizer) (h : (readDocType t).2 = true) : EndG (readDocType t).1 := by
  revert h
  fun_cases readDocType t <;> intro h
  case case1 => cases h
  case case2 he => exact Or.inl he
  case case3 => exact readUntilCloseAngle_end _

theorem readCdata_end (t : Tokenizer) (h : (readCdata t).2 = true) : EndG (readCdata t).1 := by
  revert h
  fun_cases readCdata t <;> intro h
  case case1 => cases h
  case case2 => exact cdataGo_end _ _

theorem markupRest_end (t : Tokenizer) : EndG (markupRest t).1 := by
  fun_cases markupRest t
  case case1 h => exact readDocType_end t h
  case case2 h => exact (readCdata_end _ h).congr rfl rfl rfl
  case case3 | case4 => exact readUntilCloseAngle_end _

theorem markupGo_end (t : Tokenizer) : EndG (markupGo t).1 := by
  fun_cases markupGo t
  case case1 h | case2 h => exact Or.inl h
  case case3 => exact readComment_end _
  case case4 => exact markupRest_end _

theorem readMarkupDeclaration_end (t : Tokenizer) : EndG (readMarkupDeclaration t).1 := markupGo_end _

theorem tagAttrsGo_end (t : Tokenizer) (s : Bool) (ok : Ok t) : EndG (tagAttrsGo t s) := by
  fun_induction tagAttrsGo t s
  case case1 t r h =>
    by_cases he : r.1.err = true
    · exact Or.inl he
    · exact endG_of_gt he (by simpa [he] using h)
  case case2 he => exact Or.inl he
  case case3 t r hne _ _ _ ih =>
    have hn : ¬ t.readByte.1.err = true := fun h => hne (by rw [h]; rfl)
    exact ih (readAttr_adv _ _ (read_unread_adv ok hn).ok).ok
  case case4 t r hne _ herr hnp =>
    -- this branch sets `hang`, which `tagAttrsGo_adv` excludes
    have hh := (tagAttrsGo_adv t s ok).ok.hang
    rw [tagAttrsGo.eq_1 t, if_neg hne, if_neg herr, dif_neg hnp] at hh
    cases hh

theorem readTag_end (t : Tokenizer) (s : Bool) (ok : Ok t) (h1 : 1 ≤ t.rawE) : EndG (readTag t s) := by
  have a2 := skipWhiteSpace_adv _ (readTagName_adv { t with attrs := #[], nAttrRet := 0 } ok.congr h1).ok
  fun_cases readTag t s
  case case1 he => exact Or.inl he
  case case2 => exact tagAttrsGo_end _ s a2.ok

theorem readStartTag_end (t : Tokenizer) (ok : Ok t) (h2 : 2 ≤ t.rawE) (htag : TagOk t.rawTag) :
    EndG (readStartTag t).1 := by
  obtain ⟨bs, e, _⟩ := readStartTag_shape t ok h2 htag
  rw [e]
  exact (readTag_end t true ok (Nat.le_of_succ_le h2)).congr rfl rfl rfl

/-- the last byte read is `<` -/
def Lt1 (t : Tokenizer) : Prop := 1 ≤ t.rawE ∧ t.buf[t.rawE - 1]? = some 60
/-- the last but one is: `<x` has been read -/
def Lt2 (t : Tokenizer) : Prop := 2 ≤ t.rawE ∧ t.buf[t.rawE - 2]? = some 60
/-- how the raw-text readers (`rawTextGo`, `scriptGo`) end: at EOF or in front of the `<` of the end tag -/
def EndL (t : Tokenizer) : Prop := t.err = true ∨ AtLt t

theorem lt1_of_read {t : Tokenizer} (herr : ¬ t.readByte.1.err = true) (h : (t.readByte.2 == 60) = true) :
    Lt1 t.readByte.1 := by
  have l := lastRead herr
  have : t.readByte.2 = 60 := by simpa using h
  exact ⟨l.1, by rw [l.2, this]⟩

theorem lt2_of_read {t : Tokenizer} (herr : ¬ t.readByte.1.err = true) (h : Lt1 t) : Lt2 t.readByte.1 := by
  have e := readByte_succ herr
  refine ⟨by have := h.1; omega, ?_⟩
  rw [e, readByte_buf, show t.rawE + 1 - 2 = t.rawE - 1 by omega]
  exact h.2

/-- the end tag found: `read_raw_end_tag` has put `raw.end` back in front of the `<` of `</` -/
theorem rawEndTag_atLt {b t : Tokenizer} (hb : Adv b t) (hk : b.rawE + 2 ≤ t.rawE) (h2 : Lt2 t)
    (htag : TagOk t.rawTag) (h : (readRawEndTag t).2 = true) : AtLt (readRawEndTag t).1 := by
  have r := readRawEndTag_adv b t hb hk htag
  have e := (r.2 h).1
  unfold AtLt
  rw [r.1.buf, ← hb.buf, show (readRawEndTag t).1.rawE = t.rawE - 2 by omega]
  exact h2.2

theorem rawTextGo_end (t : Tokenizer) (ok : Ok t) (htag : TagOk t.rawTag) : EndL (rawTextGo t) := by
  fun_induction rawTextGo t
  all_goals (try simp +zetaDelta only at *)
  case case1 => exact Or.inl (by assumption)
  case case2 ih =>
    have a1 := readByte_adv ok
    exact ih a1.ok (by rw [a1.rawTag]; exact htag)
  case case3 => exact Or.inl (by assumption)
  case case4 ih =>
    have a1 := readByte_adv ok
    have a2 := readByte_adv a1.ok
    exact ih a2.ok (by rw [a2.rawTag, a1.rawTag]; exact htag)
  case case5 t _ herr hlt _ herr2 hsl _ hor =>
    have a2 := (readByte_adv ok).trans (readByte_adv (readByte_adv ok).ok)
    by_cases he : t.readByte.1.readByte.1.readRawEndTag.1.err = true
    · exact Or.inl he
    · have htrue : t.readByte.1.readByte.1.readRawEndTag.2 = true := by simpa [he] using hor
      have hl : (t.readByte.2 == 60) = true := by simpa using hlt
      have e1 := readByte_succ herr
      have e2 := readByte_succ herr2
      exact Or.inr (rawEndTag_atLt a2 (by omega) (lt2_of_read herr2 (lt1_of_read herr hl))
        (by rw [a2.rawTag]; exact htag) htrue)
  case case6 t _ herr _ _ herr2 _ _ _ ih =>
    have a3 := read2_rawEndTag_adv t ok htag herr herr2
    exact ih a3.ok (by rw [a3.rawTag]; exact htag)

/-- in the three "less-than-sign" states the last byte read is `<`, in the three "end tag" states the last but one -/
def Seen (st : SS) (t : Tokenizer) : Prop := (st.need = 1 → Lt1 t) ∧ (st.need = 2 → Lt2 t)

theorem Seen.zero {st : SS} {t : Tokenizer} (h : st.need = 0) : Seen st t :=
  ⟨fun h1 => by omega, fun h2 => by omega⟩

theorem Seen.lt {st : SS} {t : Tokenizer} (hn : ¬ t.readByte.1.err = true) (h : (t.readByte.2 == 60) = true)
    (h1 : st.need = 1) : Seen st t.readByte.1 :=
  ⟨fun _ => lt1_of_read hn h, fun h2 => by omega⟩

theorem Seen.slash {st st' : SS} {t : Tokenizer} (s : Seen st t) (h1 : st.need = 1) (hn : ¬ t.readByte.1.err = true)
    (h2 : st'.need = 2) : Seen st' t.readByte.1 :=
  ⟨fun h => by omega, fun _ => lt2_of_read hn (s.1 h1)⟩

theorem scriptGo_end {b t : Tokenizer} {st : SS} (h : At b st t) (hs : b.rawTag = htmlScript) (s : Seen st t) :
    EndL (scriptGo st t) := by
  fun_induction scriptGo st t
  -- EOF (case numbers: table at `At.scriptGo_adv`)
  case case1 | case4 | case10 | case13 | case16 | case20 | case24 | case29 | case35 | case37 | case40 | case44 | case48
      | case53 | case57 =>
    exact Or.inl ‹_›
  -- an edge that reads `<`
  case case2 hn hlt ih | case18 hn _ hlt ih | case22 hn _ hlt ih | case26 hn _ hlt ih | case42 hn _ hlt ih
      | case46 hn _ hlt ih | case50 hn _ hlt ih =>
    exact ih (h.read hn) (.lt hn hlt rfl)
  -- an edge that reads `/` after `<`
  case case5 hn _ ih | case30 hn _ ih | case54 hn _ ih =>
    exact ih (h.read hn) (s.slash rfl hn rfl)
  -- the other edges that read a byte, or read it and put it back
  case case3 ih | case6 ih | case11 ih | case14 ih | case17 ih | case19 ih | case21 ih | case23 ih | case25 ih | case27 ih
      | case28 ih | case41 ih | case43 ih | case45 ih | case47 ih | case49 ih | case51 ih | case52 ih =>
    exact ih (h.read ‹_›) (.zero rfl)
  case case7 ih | case12 ih | case15 ih | case31 ih | case32 ih | case55 ih =>
    exact ih (h.reread ‹_›) (.zero rfl)
  -- `read_raw_end_tag` found the end tag: the return points
  case case8 hor | case33 hor =>
    rcases (Bool.or_eq_true _ _).mp hor with hf | he
    · exact Or.inr (rawEndTag_atLt h.adv h.need (s.2 rfl) (h.letters hs) hf)
    · exact Or.inl he
  -- … or not; in the double-escaped state it is stepped over
  case case9 ih | case34 ih | case58 ih => exact ih (h.endTag hs) (.zero rfl)
  case case56 htrue ih => exact ih (h.endTagSkip hs htrue) (.zero rfl)
  -- `read_script_data_double_escape_start`
  case case36 ih => exact ih h.dbl (.zero rfl)
  case case38 ih => exact ih ((h.dbl (st' := .data)).read ‹_›) (.zero rfl)
  case case39 ih => exact ih ((h.dbl (st' := .data)).reread ‹_›) (.zero rfl)

/-- where a token can end -/
def End (t : Tokenizer) : Prop := t.err = true ∨ EndsGt t ∨ AtLt t

theorem EndG.toEnd {t : Tokenizer} (h : EndG t) : End t := h.imp_right .inl

theorem EndL.toEnd {t : Tokenizer} (h : EndL t) : End t := h.imp_right .inr

theorem End.congr {t t' : Tokenizer} (h : End t) (e1 : t'.err = t.err) (e2 : t'.rawE = t.rawE) (e3 : t'.buf = t.buf) :
    End t' := by
  unfold End EndsGt AtLt at *
  rw [e1, e2, e3]; exact h

theorem finishText_end (t : Tokenizer) (h : t.err = true) : End (finishText t) := Or.inl (by simpa using h)

theorem dispatchTag_end (t : Tokenizer) (b : Nat) (ok : Ok t) (h2 : Lt2 t) (htag : TagOk t.rawTag) :
    End (dispatchTag t b) := by
  fun_cases dispatchTag t b
  case case1 hlt => exact absurd hlt (Nat.not_lt.mpr h2.1)
  case case2 => exact Or.inr (Or.inr h2.2)
  case case3 => exact (readStartTag_end t ok h2.1 htag).toEnd.congr rfl rfl rfl
  case case4 he => exact finishText_end _ he
  case case5 => exact (endG_of_gt (t := t) ‹_› ‹_›).toEnd.congr rfl rfl rfl
  case case6 | case7 =>
    exact (readTag_end t.readByte.1 false (readByte_adv ok).ok (readByte_pos ‹_›)).toEnd.congr rfl rfl rfl
  case case8 => exact (readUntilCloseAngle_end _).toEnd.congr rfl rfl rfl
  case case9 => exact (readMarkupDeclaration_end t).toEnd.congr rfl rfl rfl
  case case10 => exact (readUntilCloseAngle_end _).toEnd.congr rfl rfl rfl

theorem opened_lt2 {t : Tokenizer} {q : Nat} (h60 : t.buf[q]? = some 60) : Lt2 { t with rawE := q + 2 } :=
  ⟨Nat.le_add_left _ _, h60⟩

theorem mainLoop_end (t : Tokenizer) (ok : Ok t) (htag : TagOk t.rawTag) : End (mainLoop t) := by
  rcases mainLoop_stop t ok.le with ⟨p, _, _, e⟩ | ⟨q, c, h1, h60, hc, _, e⟩
  · rw [e]; exact finishText_end _ rfl
  · rw [e]; exact dispatchTag_end _ _ (opened_adv ok h1 hc).ok (opened_lt2 h60) htag

theorem readRawOrCdata_end (t : Tokenizer) (ok : Ok t) (htag : TagOk t.rawTag) : End (readRawOrCdata t) := by
  unfold readRawOrCdata readScript
  split
  · rename_i hs
    have hs' : t.rawTag = htmlScript := by simpa using hs
    exact (scriptGo_end (.of_adv (Adv.refl ok)) hs' (.zero rfl)).toEnd.congr rfl rfl rfl
  · exact ((rawTextGo_end t ok htag).toEnd).congr rfl rfl rfl

theorem rawText_end (t : Tokenizer) (ok : Ok t) (htag : TagOk t.rawTag) : End (rawText t) := by
  fun_cases rawText t
  case case1 => exact Or.inl (readToEnd_err t)
  case case2 => exact readRawOrCdata_end t ok htag

theorem nextGo_end (t : Tokenizer) (ok : Ok t) (htag : TagOk t.rawTag) : End (nextGo t) := by
  have s := rawText_spec t ok htag
  fun_cases nextGo t
  case case1 he => exact Or.inl he
  case case2 => exact (rawText_end t ok htag).congr rfl rfl rfl
  case case3 => exact mainLoop_end _ s.1.ok.congr (rawText_tagOk t ok htag)
  case case4 => exact mainLoop_end _ ok.congr htag

theorem next_end (t : Tokenizer) (inv : Inv t) : End (next t) :=
  nextGo_end _ inv.ok.congr inv.tag

def AsciiAt (t : Tokenizer) (i : Nat) : Prop := ∃ c, t.buf[i]? = some c ∧ c < 128

theorem isWs_lt {c : Nat} (h : isWs c = true) : c < 128 := by
  simp only [isWs, Bool.or_eq_true, beq_iff_eq] at h
  omega

theorem tagNameGo_dataE (t : Tokenizer) : (tagNameGo t).err = true ∨ AsciiAt (tagNameGo t) (tagNameGo t).dataE := by
  fun_induction tagNameGo t
  all_goals (try simp +zetaDelta only at *)
  case case1 => exact Or.inl (by assumption)
  case case2 t _ herr hws =>
    have l := lastRead herr
    have s := setDataEndBack_spec t.readByte.1 1 l.1
    refine Or.inr ⟨t.readByte.2, ?_, isWs_lt hws⟩
    rw [s.1, setDataEndBack_buf]; exact l.2
  case case3 t _ herr _ hsg _ =>
    refine Or.inr ⟨t.readByte.2, ?_, by simp only [Bool.or_eq_true, beq_iff_eq] at hsg; omega⟩
    show (t.readByte.1.unread 1).buf[(t.readByte.1.unread 1).rawE]? = some t.readByte.2
    rw [unread_readByte (readByte_ok herr).2]
    exact (get_of_readByte herr).1
  case case4 ih => exact ih

theorem readTag_nameEnd (t : Tokenizer) (save : Bool) (ok : Ok t) (h1 : 1 ≤ t.rawE) :
    (readTag t save).err = true ∨ AsciiAt (readTag t save) (readTag t save).dataE := by
  have s := readTag_tagStep t save ok h1
  rcases tagNameGo_dataE { t with attrs := #[], nAttrRet := 0, dataS := t.rawE - 1 } with n | ⟨c, hc, hlt⟩
  · -- EOF inside the name: `read_tag` returns after the white space
    have sk := (Reach.refl _).skipWhiteSpace.err n
    rw [readTag, readTagName, if_neg (Nat.ne_of_gt h1)]
    dsimp only
    rw [if_pos sk]
    exact Or.inl sk
  · exact Or.inr ⟨c, by rw [s.dataE, s.adv.buf]; exact hc, hlt⟩

theorem startTagKind_cases (t : Tokenizer) :
    startTagKind t = .selfClosing ∨ startTagKind t = .startTag ∨ startTagKind t = .error := by
  unfold startTagKind
  (repeat' split) <;> simp

theorem startTagKind_inRange {t : Tokenizer} (h : t.rawE - 2 < t.buf.size) :
    startTagKind t = .selfClosing ∨ startTagKind t = .startTag := by
  rw [startTagKind, dif_pos h]
  split
  · exact Or.inl rfl
  · exact Or.inr rfl

/-- what holds of a start / end / self-closing tag token.  `nameS`, `nameE`: the bytes before (`<` or `/`) and behind the
name are ASCII, so its span lies on UTF-8 character boundaries -/
structure TagFacts (t : Tokenizer) : Prop where
  noErr : t.err = false
  first : t.buf[t.rawS]? = some 60
  last : EndsGt t
  nameS : 1 ≤ t.dataS ∧ AsciiAt t (t.dataS - 1)
  nameE : AsciiAt t t.dataE

theorem TagFacts.congr {t t' : Tokenizer} (h : TagFacts t) (e0 : t'.err = t.err) (e1 : t'.buf = t.buf)
    (e2 : t'.rawS = t.rawS) (e3 : t'.rawE = t.rawE) (e4 : t'.dataS = t.dataS) (e5 : t'.dataE = t.dataE) :
    TagFacts t' := by
  obtain ⟨h1, h2, h3, h4, h5⟩ := h
  refine ⟨by rw [e0]; exact h1, by rw [e1, e2]; exact h2, ?_, ?_, ?_⟩
  · unfold EndsGt at *; rw [e1, e3]; exact h3
  · unfold AsciiAt at *; rw [e1, e4]; exact h4
  · unfold AsciiAt at *; rw [e1, e5]; exact h5

/-- the tag token read by `read_tag`, called at `y` behind `<` or `</` and the first letter of the name -/
theorem readTag_tag (y : Tokenizer) (save : Bool) (ok : Ok y) (h2 : 2 ≤ y.rawE) (hf : (readTag y save).err = false)
    (h60 : y.buf[y.rawS]? = some 60) (hn : AsciiAt y (y.rawE - 2)) : TagFacts (readTag y save) := by
  have h1 := Nat.le_of_succ_le h2
  have a := readTag_adv y save ok h1
  have s := readTag_spec y save ok h1
  refine ⟨hf, by rw [a.buf, a.rawS]; exact h60, (readTag_end y save ok h1).resolve_left (by rw [hf]; nofun),
    ⟨by omega, ?_⟩, (readTag_nameEnd y save ok h1).resolve_left (by rw [hf]; nofun)⟩
  unfold AsciiAt
  rw [a.buf, s.1, show y.rawE - 1 - 1 = y.rawE - 2 by omega]
  exact hn

theorem finishText_notTag (t : Tokenizer) : isTagLike (finishText t).token = false := by
  unfold finishText; split <;> rfl

theorem dispatchTag_tag (t : Tokenizer) (b : Nat) (ok : Ok t) (h2 : Lt2 t) (hr : t.rawS + 2 ≤ t.rawE)
    (htag : TagOk t.rawTag) (hb : t.buf[t.rawE - 1]? = some b)
    (hk : isTagLike (dispatchTag t b).token = true) : TagFacts (dispatchTag t b) := by
  revert hk
  fun_cases dispatchTag t b <;> intro hk
  -- only `read_start_tag` and the `read_tag` of an end tag give a tag token
  case case1 hlt => exact absurd hlt (Nat.not_lt.mpr h2.1)
  case case2 | case5 | case6 | case8 | case10 => cases hk
  case case4 => exact Bool.noConfusion ((finishText_notTag _).symm.trans hk)
  case case9 => exact Bool.noConfusion ((markup_kind t).1.symm.trans hk)
  case case3 _ _ hx _ _ _ =>
    have hrs : t.rawS = t.rawE - 2 := Nat.le_antisymm (Nat.le_sub_of_add_le hr) (Nat.not_lt.mp hx)
    dsimp +zetaDelta only at hk ⊢
    have hf : (readTag t true).err = false := by
      -- with `err` set `read_start_tag` returns the error token
      refine Bool.eq_false_iff.mpr fun he => ?_
      rw [readStartTag, if_pos he] at hk
      cases hk
    obtain ⟨bs, e, _⟩ := readStartTag_shape t ok h2.1 htag
    rw [e]
    exact (readTag_tag t true ok h2.1 hf (hrs ▸ h2.2) ⟨60, h2.2, by decide⟩).congr rfl rfl rfl rfl rfl rfl
  case case7 _ _ hx _ hs _ h3 _ _ _ h6 =>
    have hrs : t.rawS = t.rawE - 2 := Nat.le_antisymm (Nat.le_sub_of_add_le hr) (Nat.not_lt.mp hx)
    have a3 := readByte_adv ok
    have e3 := readByte_succ h3
    refine (readTag_tag t.readByte.1 false a3.ok (by omega) (by simpa using h6) ?_ ⟨b, ?_, ?_⟩).congr rfl rfl rfl rfl rfl rfl
    · rw [a3.buf, a3.rawS, hrs]; exact h2.2
    · rw [a3.buf, e3]; exact hb
    · have : b = 47 := by simpa using hs
      omega

theorem mainLoop_tag (t : Tokenizer) (ok : Ok t) (hr : t.rawS ≤ t.rawE) (htag : TagOk t.rawTag)
    (hk : isTagLike (mainLoop t).token = true) : TagFacts (mainLoop t) := by
  rcases mainLoop_stop t ok.le with ⟨p, _, _, e⟩ | ⟨q, c, h1, h60, hc, _, e⟩
  · rw [e] at hk
    exact Bool.noConfusion ((finishText_notTag _).symm.trans hk)
  · rw [e] at hk ⊢
    exact dispatchTag_tag _ _ (opened_adv ok h1 hc).ok (opened_lt2 h60) (by show t.rawS + 2 ≤ q + 2; omega) htag hc hk

theorem nextGo_tag (t : Tokenizer) (ok : Ok t) (hr : t.rawS ≤ t.rawE) (htag : TagOk t.rawTag)
    (hk : isTagLike (nextGo t).token = true) : TagFacts (nextGo t) := by
  have s := rawText_spec t ok htag
  revert hk
  fun_cases nextGo t <;> intro hk
  case case1 | case2 => cases hk
  case case3 =>
    exact mainLoop_tag _ s.1.ok.congr (Nat.le_trans (Nat.le_of_eq s.1.rawS) (Nat.le_trans hr s.1.mono))
      (rawText_tagOk t ok htag) hk
  case case4 => exact mainLoop_tag _ ok.congr hr htag hk

theorem next_tag (t : Tokenizer) (inv : Inv t) (hk : isTagLike (next t).token = true) : TagFacts (next t) :=
  nextGo_tag _ inv.ok.congr (Nat.le_refl _) inv.tag hk

end Tokenizer
end Rio.Html
