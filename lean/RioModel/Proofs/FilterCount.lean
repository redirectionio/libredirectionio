/-
C04, strong form for INSERT stages (append_child / prepend_child): the number of copies of the value an html stage inserts
is bounded by the number of tag tokens of its input that are named on the filter's path — at most one copy per such token
(`enter` inserts only for prepend without selector, `leave` only otherwise).

Stated on lengths: `|ledger after T| ≤ |rawsOf T| + |value| · #{t ∈ T : the visitor can insert at t}` (`fold_len_le`, `insTok`), which
with `Edit [value] []` (whole copies only) bounds the number of copies (`Edit_count`).  The bound holds from any state,
buffering or not; `Keeps` is all it needs of the state.
-/
import RioModel.Proofs.FilterStrong

namespace Rio.Filter

def insAtEnter (v : Visitor) : Bool := v.kind == .prepend && !v.hasSel

theorem insAtEnter_of_static {v w : Visitor} (h : v.static = w.static) : insAtEnter v = insAtEnter w := by
  simp [Visitor.static] at h
  simp [insAtEnter, Visitor.hasSel, h.1, h.2.1]

theorem enter_len (v : Visitor) (d : Bytes) :
    (v.enter d).1.2.2.2.length ≤ d.length + (if insAtEnter v then v.content.length else 0) := by
  rcases v.enter_data d with h | ⟨hk, hs, h⟩ <;> rw [h]
  · exact Nat.le_add_right _ _
  · have hi : insAtEnter v = true := by simp [insAtEnter, hk, hs]
    rw [hi, List.length_append]
    exact Nat.le_refl _

theorem leave_len {tk : Tokenize} (hl : Lossless tk) (ev : Bytes → Bytes → Bool) (v : Visitor) (d : Bytes) :
    (v.leave tk ev d).1.2.2.length ≤ d.length + (if !insAtEnter v then v.content.length else 0) := by
  rcases v.leave_data tk ev d with h | h
  · rw [h]; exact Nat.le_add_right _ _
  · cases hk : v.kind <;> simp only [hk] at h
    · have hi : insAtEnter v = false := by simp [insAtEnter, hk]
      rw [hi]
      rcases h with ⟨_, h⟩ | ⟨_, h⟩ <;> rw [h]
      · exact length_of_ins (appendChild_ins hl _ _)
      · rw [List.length_append]; exact Nat.le_of_eq (Nat.add_comm _ _)
    · have hi : insAtEnter v = false := by simp [insAtEnter, h.1]
      rw [hi, h.2]
      exact length_of_ins (prependChild_ins hl _ _)
    · have hi : insAtEnter v = false := by simp [insAtEnter, hk]
      rw [hi, h]
      exact Nat.le_add_left _ _

structure PInv (P : List Bytes) (s : HtmlSt) : Prop where
  path : pathOf s.visitor = P
  enter : ∀ x, s.enter = some x → x ∈ P
  leave : ∀ x, s.leave = some x → x ∈ P

theorem cur_mem_path (v : Visitor) : v.cur ∈ pathOf v := by simp [pathOf]

theorem pathOf_enter (v : Visitor) (d : Bytes) : pathOf (v.enter d).2 = pathOf v := by
  obtain ⟨_, ⟨ha, _, _, h⟩ | ⟨_, _, h⟩⟩ := v.enter_shape d
  · rw [h]; exact pathOf_advance v ha
  · rw [h]; rfl

theorem pathOf_leave (tk : Tokenize) (ev : Bytes → Bytes → Bool) (v : Visitor) (d : Bytes) :
    pathOf (v.leave tk ev d).2 = pathOf v := by
  obtain ⟨_, _, h | h⟩ := v.leave_shape tk ev d <;> rw [h] <;> exact pathOf_leaveMove v _

theorem enter_names (v : Visitor) (d : Bytes) :
    (∀ x, (v.enter d).1.1 = some x → x ∈ pathOf v) ∧ (∀ x, (v.enter d).1.2.1 = some x → x ∈ pathOf v) := by
  obtain ⟨h2, h⟩ := v.enter_shape d
  refine ⟨fun x hx => ?_, fun x hx => ?_⟩
  · rcases h with ⟨ha, h1, _⟩ | ⟨_, h1, _⟩ <;> rw [h1] at hx
    · injection hx with hx
      rw [← hx, ← pathOf_advance v ha]
      exact cur_mem_path _
    · cases hx
  · rw [h2] at hx
    injection hx with hx
    exact hx ▸ cur_mem_path v

theorem leaveMove_names (v : Visitor) (g : Bool) : ∀ x, (v.leaveMove g).1 = some x → x ∈ pathOf v := by
  intro x hx
  unfold Visitor.leaveMove at hx
  split at hx
  · rename_i h
    simp only at hx; injection hx with hx; subst hx
    rw [← pathOf_retreat v h.1]; exact cur_mem_path _
  · simp at hx

theorem leave_names (tk : Tokenize) (ev : Bytes → Bytes → Bool) (v : Visitor) (d : Bytes) :
    (∀ x, (v.leave tk ev d).1.1 = some x → x ∈ pathOf v) ∧ (∀ x, (v.leave tk ev d).1.2.1 = some x → x ∈ pathOf v) := by
  obtain ⟨h1, h2, _⟩ := v.leave_shape tk ev d
  refine ⟨fun x hx => ?_, fun x hx => leaveMove_names v _ x (h2 ▸ hx)⟩
  rw [h1] at hx
  injection hx with hx
  exact hx ▸ cur_mem_path v

/-- what no step of the token loop changes -/
structure Keeps (v0 : Visitor) (P : List Bytes) (s : HtmlSt) : Prop where
  static : s.visitor.static = v0.static
  pinv : PInv P s

theorem keeps_new (v : Visitor) (hb : v.before = []) : Keeps v (pathOf v) (HtmlSt.new v) :=
  ⟨rfl, rfl, fun x hx => by rw [HtmlSt.new_enter hb] at hx; exact Option.some.inj hx ▸ cur_mem_path v,
    fun x hx => by cases hx⟩

section
variable {v0 : Visitor} {P : List Bytes} {s : HtmlSt}

theorem Keeps.onStart (h : Keeps v0 P s) (n d : Bytes) : Keeps v0 P (onStart s n d).1 := by
  by_cases he : s.enter = some n
  · rw [onStart_fires d he]
    obtain ⟨hn1, hn2⟩ := enter_names s.visitor d
    exact ⟨(s.visitor.enter_static d).trans h.static, (pathOf_enter s.visitor d).trans h.pinv.path,
      fun x hx => h.pinv.path ▸ hn1 x hx, fun x hx => h.pinv.path ▸ hn2 x hx⟩
  · rw [onStart_skips d he]
    exact h

theorem Keeps.onEnd (tk : Tokenize) (ev : Bytes → Bytes → Bool) (h : Keeps v0 P s) (n d : Bytes) :
    Keeps v0 P (onEnd tk ev s n d).1 := by
  by_cases hlv : s.leave = some n
  · rw [onEnd_fires tk ev d hlv]
    obtain ⟨hn1, hn2⟩ := leave_names tk ev s.visitor (if topMatches s.stack n then topBuffer s.stack ++ d else d)
    exact ⟨(s.visitor.leave_static tk ev _).trans h.static, (pathOf_leave tk ev s.visitor _).trans h.pinv.path,
      fun x hx => h.pinv.path ▸ hn1 x hx, fun x hx => h.pinv.path ▸ hn2 x hx⟩
  · rw [onEnd_skips tk ev d hlv]
    exact ⟨h.static, h.pinv.path, h.pinv.enter, h.pinv.leave⟩

theorem Keeps.push (h : Keeps v0 P s) (out d : Bytes) : Keeps v0 P (push s out d).1 := by
  unfold Filter.push
  split
  · exact ⟨h.static, h.pinv.path, h.pinv.enter, h.pinv.leave⟩
  · exact h

theorem onStart_len (h : Keeps v0 P s) (n d : Bytes) :
    (flat (onStart s n d).1.stack).length = (flat s.stack).length ∧
    (onStart s n d).2.length ≤ d.length + (if insAtEnter v0 && P.contains n then v0.content.length else 0) := by
  by_cases he : s.enter = some n
  · rw [onStart_fires d he, (by simpa using h.pinv.enter n he : P.contains n = true), Bool.and_true,
      ← insAtEnter_of_static h.static, ← content_of_static h.static]
    exact ⟨congrArg List.length (flat_open _ _ _), enter_len s.visitor d⟩
  · rw [onStart_skips d he]
    exact ⟨rfl, Nat.le_add_right _ _⟩

theorem onEnd_len {tk : Tokenize} (hl : Lossless tk) (ev : Bytes → Bytes → Bool) (h : Keeps v0 P s) (n d : Bytes) :
    (flat (onEnd tk ev s n d).1.stack).length + (onEnd tk ev s n d).2.length ≤
      (flat s.stack).length + d.length + (if !insAtEnter v0 && P.contains n then v0.content.length else 0) := by
  have hbuf := congrArg List.length (flat_close s.stack n d)
  rw [List.length_append, List.length_append] at hbuf
  by_cases hlv : s.leave = some n
  · rw [onEnd_fires tk ev d hlv, (by simpa using h.pinv.leave n hlv : P.contains n = true), Bool.and_true,
      ← insAtEnter_of_static h.static, ← content_of_static h.static]
    have hlen := leave_len hl ev s.visitor (if topMatches s.stack n then topBuffer s.stack ++ d else d)
    dsimp only
    omega
  · rw [onEnd_skips tk ev d hlv]
    dsimp only
    omega

end

/-- a token that opens an element for the stage: `on_start_tag_token` is called -/
def isOpener (t : Tok) : Bool := t.kind == .startTag || t.kind == .selfClosing

/-- a token that closes an element for the stage: `on_end_tag_token` is called -/
def isCloser (t : Tok) : Bool := t.kind == .endTag || t.kind == .selfClosing || (t.kind == .startTag && isVoid t.name)

theorem closer_iff (tgt : Bytes) (t : Tok) : Closer tgt t ↔ t.name = tgt ∧ isCloser t = true := by
  simp [Closer, isCloser, or_assoc]

theorem opener_kind {t : Tok} (ho : isOpener t = true) :
    (isCloser t = true → t.kind = .selfClosing ∨ (t.kind = .startTag ∧ isVoid t.name = true)) ∧
    (¬ isCloser t = true → t.kind = .startTag ∧ isVoid t.name = false) := by
  unfold isOpener at ho
  unfold isCloser
  cases hk : t.kind <;> simp [hk] at ho ⊢

theorem OpenSpan.single {tgt : Bytes} {t : Tok} (ho : isOpener t = true) (hn : t.name = tgt) :
    (Closer tgt t → ElemSpan tgt [t]) ∧ (¬ Closer tgt t → OpenSpan tgt [t]) := by
  obtain ⟨k1, k2⟩ := opener_kind ho
  rw [hn] at k1 k2
  refine ⟨fun hc => Or.inl ⟨t, rfl, hn, k1 ((closer_iff tgt t).mp hc).2⟩, fun hc => ?_⟩
  have hk := k2 fun h => hc ((closer_iff tgt t).mpr ⟨hn, h⟩)
  exact ⟨t, [], rfl, hk.1, hn, hk.2, nofun⟩

/-- (Trap: `isOpener` cannot stand in front of `stepTok_eq`: Proofs/FilterDomTok.lean, downstream of Proofs/FilterHtml.lean,
declares another `Rio.Filter.isOpener`.) -/
theorem stepTok_openClose (tk : Tokenize) (ev : Bytes → Bytes → Bool) (s : HtmlSt) (out : Bytes) (t : Tok) :
    stepTok tk ev (s, out) t =
      let a := if isOpener t then onStart s t.name t.raw else (s, t.raw)
      let e := if isCloser t then onEnd tk ev a.1 t.name a.2 else a
      push e.1 out e.2 :=
  stepTok_eq tk ev s out t

theorem Keeps.stepTok (tk : Tokenize) (ev : Bytes → Bytes → Bool) {v0 : Visitor} {P : List Bytes} {s : HtmlSt}
    (h : Keeps v0 P s) (out : Bytes) (t : Tok) : Keeps v0 P (stepTok tk ev (s, out) t).1 := by
  rw [stepTok_openClose]
  extract_lets a e
  have ha : Keeps v0 P a.1 := by
    unfold a
    split
    · exact h.onStart _ _
    · exact h
  refine Keeps.push ?_ _ _
  unfold e
  split
  · exact ha.onEnd tk ev _ _
  · exact ha

/-- the tokens at which the visitor `v` can insert a copy of its value -/
def insTok (v : Visitor) (P : List Bytes) (t : Tok) : Bool :=
  P.contains t.name && (if insAtEnter v then isOpener t else isCloser t)

/-- a copy at `enter` or a copy at `leave`, never both: the two bounds add up to the bound of `insTok` -/
theorem ins_split (i pc o cl : Bool) (c : Nat) :
    (if i && pc && o then c else 0) + (if !i && pc && cl then c else 0) =
      if pc && (if i then o else cl) then c else 0 := by
  cases i <;> cases pc <;> simp

theorem stepTok_len_le {tk : Tokenize} (hl : Lossless tk) (ev : Bytes → Bytes → Bool) {v0 : Visitor} {P : List Bytes}
    (s : HtmlSt) (out : Bytes) (t : Tok) (h : Keeps v0 P s) :
    (ledger (stepTok tk ev (s, out) t).1 (stepTok tk ev (s, out) t).2).length ≤
      (ledger s out).length + t.raw.length + (if insTok v0 P t then v0.content.length else 0) := by
  rw [stepTok_openClose]
  extract_lets a e
  have ha : Keeps v0 P a.1 ∧ (flat a.1.stack).length = (flat s.stack).length ∧
      a.2.length ≤ t.raw.length + (if insAtEnter v0 && P.contains t.name && isOpener t then v0.content.length else 0) := by
    unfold a
    cases isOpener t
    · exact ⟨h, rfl, Nat.le_add_right _ _⟩
    · rw [Bool.and_true]; exact ⟨h.onStart _ _, onStart_len h t.name t.raw⟩
  obtain ⟨a1, a2, a3⟩ := ha
  have he : (flat e.1.stack).length + e.2.length ≤ (flat a.1.stack).length + a.2.length +
      (if !insAtEnter v0 && P.contains t.name && isCloser t then v0.content.length else 0) := by
    unfold e
    cases isCloser t
    · exact Nat.le_add_right _ _
    · rw [Bool.and_true]; exact onEnd_len hl ev a1 t.name a.2
  have hsum := ins_split (insAtEnter v0) (P.contains t.name) (isOpener t) (isCloser t) v0.content.length
  rw [ledger_push]
  unfold insTok ledger
  simp only [List.length_append]
  omega

/-- **At most one copy of the value per opener (prepend_child without selector) / per closer (append_child, prepend_child
with a selector) named on the path.** -/
theorem fold_len_le {tk : Tokenize} (hl : Lossless tk) (ev : Bytes → Bytes → Bool) {v0 : Visitor} {P : List Bytes} :
    ∀ (T : List Tok) (s : HtmlSt) (out : Bytes), Keeps v0 P s →
      (ledger (T.foldl (stepTok tk ev) (s, out)).1 (T.foldl (stepTok tk ev) (s, out)).2).length ≤
        (ledger s out).length + (rawsOf T).length + v0.content.length * (T.filter (insTok v0 P)).length
  | [], s, out, _ => by simp [rawsOf]
  | t :: T, s, out, h => by
    have a1 := h.stepTok tk ev out t
    have a2 := stepTok_len_le hl ev s out t h
    rw [List.foldl_cons]
    generalize stepTok tk ev (s, out) t = p at a1 a2
    obtain ⟨s1, o1⟩ := p
    simp only at a1 a2
    have ih := fold_len_le hl ev T s1 o1 a1
    rw [rawsOf_cons, List.length_append, List.filter_cons]
    by_cases hon : insTok v0 P t = true
    · rw [if_pos hon] at a2 ⊢
      rw [List.length_cons, Nat.mul_succ]
      omega
    · rw [if_neg hon] at a2 ⊢
      omega

theorem fold_len_new {tk : Tokenize} (hl : Lossless tk) (ev : Bytes → Bytes → Bool) (v : Visitor) (hb : v.before = [])
    (T : List Tok) :
    (ledger (T.foldl (stepTok tk ev) (HtmlSt.new v, [])).1 (T.foldl (stepTok tk ev) (HtmlSt.new v, [])).2).length ≤
      (rawsOf T).length + v.content.length * (T.filter (insTok v (pathOf v))).length := by
  have := fold_len_le hl ev T (HtmlSt.new v) [] (keeps_new v hb)
  rwa [show (ledger (HtmlSt.new v) []).length = 0 from rfl, Nat.zero_add] at this

def onPath (P : List Bytes) (t : Tok) : Bool := isTagKind t.kind && P.contains t.name

theorem onPath_of_insTok {v : Visitor} {P : List Bytes} {t : Tok} (h : insTok v P t = true) : onPath P t = true := by
  unfold insTok at h
  unfold onPath
  rw [Bool.and_eq_true] at h ⊢
  refine ⟨?_, h.1⟩
  have h2 := h.2
  split at h2
  · exact isTagKind_of_opens h2
  · exact isTagKind_of_closes h2

theorem insTok_count_le (v : Visitor) (P : List Bytes) (T : List Tok) :
    (T.filter (insTok v P)).length ≤ (T.filter (onPath P)).length := by
  rw [← List.countP_eq_length_filter, ← List.countP_eq_length_filter]
  exact List.countP_mono_left fun t _ => onPath_of_insTok

/-- `InsN c k a b`: `b` is `a` after `k` insertions of whole copies of `c` -/
inductive InsN (c : Bytes) : Nat → Bytes → Bytes → Prop
  | refl (a : Bytes) : InsN c 0 a a
  | ins {k : Nat} {a p q : Bytes} : InsN c k a (p ++ q) → InsN c (k + 1) a (p ++ c ++ q)

theorem Edit_count {c a b : Bytes} (h : Edit [c] [] a b) : ∃ k, InsN c k a b ∧ b.length = a.length + k * c.length := by
  induction h with
  | refl => exact ⟨0, .refl _, by simp⟩
  | @ins p q v hv _ ih =>
    obtain ⟨k, h1, h2⟩ := ih
    have : v = c := by simpa using hv
    subst this
    refine ⟨k + 1, .ins h1, ?_⟩
    simp at h2 ⊢
    rw [Nat.succ_mul]; omega
  | rep hv => simp at hv

theorem count_of_len {c a b : Bytes} {N : Nat} (hc : c ≠ []) (h : Edit [c] [] a b)
    (hlen : b.length ≤ a.length + c.length * N) : ∃ k, k ≤ N ∧ InsN c k a b := by
  obtain ⟨k, h1, h2⟩ := Edit_count h
  refine ⟨k, ?_, h1⟩
  have hpos : 0 < c.length := by cases c with | nil => exact absurd rfl hc | cons _ _ => simp
  rw [h2, Nat.mul_comm c.length N] at hlen
  have : k * c.length ≤ N * c.length := by omega
  exact Nat.le_of_mul_le_mul_right this hpos

end Rio.Filter
