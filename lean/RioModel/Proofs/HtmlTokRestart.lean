/-
What restarting the tokenizer at a token boundary rests on.  On the tokenizer: `next` keeps `allow_cdata` and returns the
`ErrorToken` only at EOF (`next_error_err`); the main loop with pending text against the related one without
(`mainLoop_pending`, on top of `mainLoop_pairF` of `Proofs/HtmlSimNext.lean`).  On records: related tokenizers (`Pre F p t u`
of HtmlSimNext: the buffer of `u` is the window of `t`'s from `p` on, `F`: up to its end) produce the same records, so the
records of `a1 ++ a'` are the first `k` records of `a1` followed by those of a fresh tokenizer on the unread rest in the
context reached there (`restartX_at`); a plain text cut by EOF merges with what follows (`MergeHead`, `toksX_text_cases`,
from `mainLoop_pending`); how the records of a buffer end (`toksX_last`, `cut_text_last`: where HtmlTokRestartLaws restarts).
Last, `synSafeEnd`: the syntactic condition on a cut under which `Tokenizer::new` may be restarted (`htmlTokenize_restart`;
the filter theorems rest on `RestartLaw`, which has none).
-/
import RioModel.Proofs.HtmlTokRecords
import RioModel.Proofs.FilterStreamLaws
import RioModel.Proofs.HtmlClosedPieces

namespace Rio.Html
namespace Tokenizer

theorem readStartTag_errKind (t : Tokenizer) (ok : Ok t) (h2 : 2 ≤ t.rawE)
    (hk : (readStartTag t).2 = .error) : (readStartTag t).1.err = true := by
  by_cases he : (readTag t true).err = true
  · unfold readStartTag
    simp only
    rw [if_pos he]; exact he
  · -- `read_tag` did not hit the end: the kind is read off the byte before `>`, which is in range
    obtain ⟨q, f3, f4⟩ := readStartTag_eq t ok h2 he
    have a1 := readTag_adv t true ok (by omega)
    have hlt : (startTagRaw (readTag t true)).rawE - 2 < (startTagRaw (readTag t true)).buf.size := by
      have := a1.ok.le; have := a1.mono; rw [f3, f4]; omega
    rw [q] at hk
    rcases startTagKind_inRange hlt with e | e <;> rw [e] at hk <;> cases hk

/-! An `ErrorToken` is returned only after a failed read: every leaf of `next` that sets the error token has `err` set. -/

theorem dispatchTag_errTok (t : Tokenizer) (c : Nat) (ok : Ok t) (h2 : 2 ≤ t.rawE)
    (hk : (dispatchTag t c).token = .error) : (dispatchTag t c).err = true := by
  revert hk
  fun_cases dispatchTag t c <;> intro hk
  case case1 hlt => exact absurd hlt (Nat.not_lt.mpr h2)
  case case2 | case5 | case7 | case8 | case10 => cases hk
  case case3 => exact readStartTag_errKind t ok h2 hk
  case case4 he => exact (finishText_err _).trans he
  case case6 he => exact he
  case case9 => exact absurd hk (markup_kind t).2

theorem mainLoop_errTok (t : Tokenizer) (ok : Ok t) (hk : (mainLoop t).token = .error) : (mainLoop t).err = true := by
  rcases mainLoop_stop t ok.le with ⟨p, _, _, e⟩ | ⟨q, c, h1, _, hc, _, e⟩
  · rw [e]; exact finishText_err _
  · rw [e] at hk ⊢; exact dispatchTag_errTok _ c (opened_adv ok h1 hc).ok (Nat.le_add_left _ _) hk

theorem nextGo_errTok (t : Tokenizer) (ok : Ok t) (htag : TagOk t.rawTag) (hk : (nextGo t).token = .error) :
    (nextGo t).err = true := by
  revert hk
  fun_cases nextGo t <;> intro hk
  case case1 he => exact he
  case case2 => cases hk
  case case3 => exact mainLoop_errTok _ (rawText_spec t ok htag).1.ok.congr hk
  case case4 => exact mainLoop_errTok _ ok.congr hk

theorem nexts_cdata (n : Nat) (t : Tokenizer) (inv : Inv t) : (nexts n t).allowCdata = t.allowCdata := by
  induction n with
  | zero => rfl
  | succ n ih => exact (Reach.refl _).next.cdata.trans ih

theorem next_error_err (t : Tokenizer) (inv : Inv t) (h : (next t).token = .error) : (next t).err = true :=
  nextGo_errTok _ ⟨inv.ok.le, inv.ok.panic, inv.ok.hang, inv.ok.utf8⟩ inv.tag h

theorem dispatchTag_flush (t : Tokenizer) (b : Nat) (h2 : 2 ≤ t.rawE) (hf : t.rawS < t.rawE - 2) :
    dispatchTag t b = { t with rawE := t.rawE - 2, dataE := t.rawE - 2, token := .text } := by
  unfold dispatchTag
  simp only [Rio.Consts.htmlTagOpenLen]
  rw [if_neg (by omega), if_pos hf]

theorem finishText_pre {F : Prop} {p : Nat} {t u : Tokenizer} (c : Pre F p t u) :
    Pre F p (finishText t) (finishText u) := by
  unfold finishText
  split <;> split <;> exact { c with }

/-- outcome of the main loop on `t`, which has strictly more pending text than the related `v`: both loops stopped
together, or `t'` in front of the tag opener at which `v` starts (nothing is said of `v'` then) -/
def PendingOut (p : Nat) (t v t' v' : Tokenizer) : Prop :=
  t'.token = .text ∧ t'.rawS = t.rawS ∧ t'.buf = t.buf ∧
  ((Pre True p t' v' ∧ v'.rawS = v.rawS ∧ (v'.token = .text ∨ (v'.token = .error ∧ v'.rawE = v.rawS))) ∨
   (t'.rawE = p + v.rawS ∧ t'.err = false ∧ t'.rawTag = t.rawTag ∧ t'.allowCdata = t.allowCdata))

/-- both loops end at EOF: `t1` has pending text, `v1` may not -/
theorem PendingOut.finish {p : Nat} {t v t1 v1 : Tokenizer} (c : Pre True p t1 v1) (e1 : t1.rawS = t.rawS)
    (e2 : t1.buf = t.buf) (e3 : v1.rawS = v.rawS) (hrs : t.rawS < p + v.rawS) (hv : v.rawS ≤ v1.rawE) :
    PendingOut p t v (finishText t1) (finishText v1) := by
  have hlt : t1.rawS < t1.rawE := by have := c.rawE; omega
  refine ⟨?_, ?_, ?_, Or.inl ⟨finishText_pre c, ?_, ?_⟩⟩
  · unfold finishText; rw [if_pos hlt]
  · unfold finishText; rw [if_pos hlt]; exact e1
  · unfold finishText; rw [if_pos hlt]; exact e2
  · unfold finishText; split <;> exact e3
  · unfold finishText
    by_cases h : v1.rawS < v1.rawE
    · rw [if_pos h]; exact Or.inl rfl
    · rw [if_neg h]; exact Or.inr ⟨rfl, by show v1.rawE = v.rawS; omega⟩

/-- both loops reach a tag opener: `T` flushes its pending text in front of the `<`; `V` does the same, or has none -/
theorem PendingOut.dispatch {p : Nat} {t v T V : Tokenizer} (b : Nat) (c : Pre True p T V) (e1 : T.rawS = t.rawS)
    (e2 : T.buf = t.buf) (e3 : V.rawS = v.rawS) (e4 : T.rawTag = t.rawTag) (e5 : T.allowCdata = t.allowCdata)
    (herr : V.err = false) (h2 : v.rawS + 2 ≤ V.rawE) (hrs : t.rawS < p + v.rawS) :
    PendingOut p t v (dispatchTag T b) (dispatchTag V b) := by
  have hE := c.rawE
  rw [dispatchTag_flush T b (by omega) (by omega)]
  refine ⟨rfl, e1, e2, ?_⟩
  by_cases hx : V.rawS < V.rawE - 2
  · rw [dispatchTag_flush V b (by omega) hx]
    exact Or.inl ⟨{ c with rawE := by simp only; omega }, e3, Or.inl rfl⟩
  · exact Or.inr ⟨by simp only; omega, c.err.trans herr, e4, e5⟩

theorem Pre.refl {F : Prop} (t : Tokenizer) : Pre F 0 t t :=
  ⟨Nat.le_of_eq (Nat.zero_add _), fun i _ => by rw [Nat.zero_add], fun _ => Nat.zero_add _, (Nat.zero_add _).symm,
    rfl, rfl, rfl, rfl, rfl, rfl⟩

theorem mainLoop_pending {p : Nat} (t v : Tokenizer) (c : Pre True p t v) (he : v.err = false)
    (hle : v.rawE ≤ v.buf.size) (hrs : t.rawS < p + v.rawS) (hv : v.rawS ≤ v.rawE) :
    PendingOut p t v (mainLoop t) (mainLoop v) := by
  rcases mainLoop_pairF t v c he hle (Or.inl trivial) with ⟨h1, h2⟩ | ⟨q, ch, hq, hq2, h1, h2⟩
  · rw [h1, h2]
    exact .finish { c with rawE := (c.full trivial).symm, err := rfl } rfl rfl rfl hrs (Nat.le_trans hv hle)
  · rw [h1, h2]
    exact .dispatch ch { c with rawE := Nat.add_assoc p q 2 } rfl rfl rfl rfl rfl he (by show v.rawS + 2 ≤ q + 2; omega) hrs

end Tokenizer
end Rio.Html

namespace Rio.Filter
open Rio.Html Rio.Html.Tokenizer

theorem tokOf_sim {F : Prop} {p : Nat} {t u : Tokenizer} (c : CoreT F p t u) (inv : Tokenizer.Inv u) (sp : Spans u) :
    tokOf t = tokOf u := by
  unfold tokOf
  rw [c.2, c.rawL inv, c.dataL inv sp]

theorem tokXOf_sim {F : Prop} {p : Nat} {t u : Tokenizer} (c : Bytes) (s : CoreT F p t u) (inv : Tokenizer.Inv u)
    (sp : Spans u) : tokXOf c t = tokXOf c u := by
  unfold tokXOf
  rw [tokOf_sim s inv sp, s.1.err]

theorem toksXGo_sim_full {p : Nat} : ∀ (n : Nat) (t u : Tokenizer), Pre True p t u → Tokenizer.Inv t → Tokenizer.Inv u →
    toksXGo n t = toksXGo n u
  | 0, t, u, c, _, iu => by simp only [toksXGo]; rw [restL_sim c trivial iu.ok.le, c.rawTag]
  | n + 1, t, u, c, it, iu => by
    have s := next_sim t u c iu (Or.inl trivial)
    have iu1 := next_inv' u iu
    have it1 := next_inv' t it
    have sp := (next_post u iu).spans
    simp only [toksXGo, s.2]
    rw [tokXOf_sim _ s iu1 sp, s.rawL iu1, restL_sim s.1.toPre trivial iu1.ok.le, c.rawTag,
      toksXGo_sim_full n _ _ s.1.toPre it1 iu1]

theorem toksX_sim_full {p : Nat} (t u : Tokenizer) (c : Pre True p t u) (it : Tokenizer.Inv t) (iu : Tokenizer.Inv u) :
    toksX t = toksX u := by
  unfold toksX
  have hsz : t.buf.size - t.rawE = u.buf.size - u.rawE := by
    have := c.full trivial; have := c.rawE; omega
  rw [hsz]
  exact toksXGo_sim_full _ t u c it iu

theorem toksX_restart (t : Tokenizer) (inv : Tokenizer.Inv t) (herr : t.err = false) (hc : RawCtx t.rawTag) :
    toksX t = toksX (restartCtx t) :=
  toksX_sim_full t (restartCtx t) (pre_restart_ctx t inv herr hc) inv (restartCtx_inv t inv hc)

/-- `k` calls of `next` (unfolding at the front) -/
def nextsF : Nat → Tokenizer → Tokenizer
  | 0, t => t
  | k + 1, t => nextsF k (Tokenizer.next t)

/-- `firstToksX` below with the records forgotten (`toksOf_firstToksX`) -/
def firstToks : Nat → Tokenizer → List Tok
  | 0, _ => []
  | k + 1, t => tokOf (Tokenizer.next t) :: firstToks k (Tokenizer.next t)

theorem nextsF_succ_back (k : Nat) (t : Tokenizer) : nextsF (k + 1) t = Tokenizer.next (nextsF k t) := by
  induction k generalizing t with
  | zero => rfl
  | succ k ih => simp only [nextsF]; exact ih (Tokenizer.next t)

/-- iterating `next` at the front (`nextsF`, what the record lists unfold along) and at the back (`nexts`, what the
simulation lemmas and C16 are stated for) is the same function -/
theorem nextsF_eq_nexts (k : Nat) (t : Tokenizer) : nextsF k t = nexts k t := by
  induction k with
  | zero => rfl
  | succ k ih => rw [nextsF_succ_back, ih]; rfl

theorem nextsF_inv (k : Nat) (t : Tokenizer) (inv : Tokenizer.Inv t) : Tokenizer.Inv (nextsF k t) :=
  nextsF_eq_nexts k t ▸ nexts_inv k t inv

theorem nextsF_buf (k : Nat) (t : Tokenizer) (inv : Tokenizer.Inv t) : (nextsF k t).buf = t.buf :=
  nextsF_eq_nexts k t ▸ nexts_buf k t inv

theorem nextsF_cdata (k : Nat) (t : Tokenizer) (inv : Tokenizer.Inv t) : (nextsF k t).allowCdata = t.allowCdata :=
  nextsF_eq_nexts k t ▸ nexts_cdata k t inv

theorem nextsF_rawCtx (k : Nat) (t : Tokenizer) (inv : Tokenizer.Inv t) (h : RawCtx t.rawTag) :
    RawCtx (nextsF k t).rawTag := nextsF_eq_nexts k t ▸ nexts_rawCtx k t inv h

theorem nextsF_noErr {k : Nat} {t : Tokenizer} (h : (nextsF k t).err = false) : t.err = false := by
  induction k generalizing t with
  | zero => exact h
  | succ k ih =>
    have h1 : (Tokenizer.next t).err = false := ih h
    exact Bool.eq_false_iff.mpr fun e => by rw [next_err_sticky t e] at h1; cases h1

theorem loopInv_nextsF (k : Nat) (t : Tokenizer) (h : LoopInv t) : LoopInv (nextsF k t) := by
  induction k generalizing t with
  | zero => exact h
  | succ k ih => exact ih _ h.next

/-- the records of the first `k` calls of `next` from `t`: each call gives the token of the state after it, `cut` = that
state's `err`, `ctx` = the `rawTag` BEFORE the call (`firstToksX_eq_map`) -/
def firstToksX : Nat → Tokenizer → List TokX
  | 0, _ => []
  | k + 1, t => tokXOf t.rawTag (Tokenizer.next t) :: firstToksX k (Tokenizer.next t)

theorem toksOf_firstToksX (k : Nat) (t : Tokenizer) : toksOf (firstToksX k t) = firstToks k t := by
  induction k generalizing t with
  | zero => rfl
  | succ k ih => simp only [firstToksX, firstToks, toksOf, List.map_cons] at ih ⊢; rw [ih]; rfl

theorem firstToksX_succ_back (k : Nat) (t : Tokenizer) :
    firstToksX (k + 1) t = firstToksX k t ++ [tokXOf (nextsF k t).rawTag (Tokenizer.next (nextsF k t))] := by
  induction k generalizing t with
  | zero => rfl
  | succ k ih => simp only [firstToksX, nextsF, List.cons_append]; rw [← ih (Tokenizer.next t)]; rfl

theorem firstToks_succ_back (k : Nat) (t : Tokenizer) :
    firstToks (k + 1) t = firstToks k t ++ [tokOf (Tokenizer.next (nextsF k t))] := by
  rw [← toksOf_firstToksX, firstToksX_succ_back, toksOf_append, toksOf_firstToksX]; rfl

theorem firstToksX_eq_map (k : Nat) (t : Tokenizer) :
    firstToksX k t = (List.range k).map fun i => tokXOf (nexts i t).rawTag (nexts (i + 1) t) := by
  induction k with
  | zero => rfl
  | succ k ih => rw [firstToksX_succ_back, ih, List.range_succ, List.map_append, nextsF_eq_nexts]; rfl

theorem firstToksX_uncut (k : Nat) (t : Tokenizer) (hk : (nextsF k t).err = false) :
    ∀ x ∈ firstToksX k t, x.cut = false := by
  induction k generalizing t with
  | zero => intro x hx; cases hx
  | succ k ih =>
    intro x hx
    simp only [firstToksX, List.mem_cons] at hx
    simp only [nextsF] at hk
    rcases hx with rfl | hx
    · exact nextsF_noErr hk
    · exact ih _ hk x hx

/-- `T` sees the buffer of `u` as a prefix of its own (`c`, from `pre_extend`).  While `u` has not hit its end after `k` calls
(`hk`), `T` makes `u`'s first `k` records and stays related: per call `next_sim` at `Or.inr` (no EOF inside the window); the
`ErrorToken` cannot come up, since it implies `err` (`next_error_err`). -/
theorem toksX_prefix (k : Nat) (T u : Tokenizer) (c : Pre False 0 T u) (iT : Tokenizer.Inv T) (iu : Tokenizer.Inv u)
    (hk : (nextsF k u).err = false) :
    toksX T = (firstToksX k u ++ (toksX (nextsF k T)).1, (toksX (nextsF k T)).2) ∧ Pre False 0 (nextsF k T) (nextsF k u) := by
  induction k generalizing T u with
  | zero => exact ⟨by simp [firstToksX, nextsF], c⟩
  | succ k ih =>
    have herr1 : (Tokenizer.next u).err = false := nextsF_noErr (k := k) hk
    have s := next_sim T u c iu (Or.inr herr1)
    have iu1 := next_inv' u iu
    have iT1 := next_inv' T iT
    have sp := (next_post u iu).spans
    have hne : ¬ ((Tokenizer.next T).token == TokenType.error) = true := by
      rw [s.2]
      intro he
      have he' : (Tokenizer.next u).token = .error := by simpa using he
      rw [next_error_err u iu he'] at herr1; cases herr1
    have r := ih _ _ s.1.toPre iT1 iu1 hk
    refine ⟨?_, r.2⟩
    rw [toksX_unfold T iT, if_neg hne, r.1, tokXOf_sim _ s iu1 sp, c.rawTag]
    simp [firstToksX, nextsF]

theorem toksX_split (k : Nat) (t : Tokenizer) (inv : Tokenizer.Inv t) (hk : (nextsF k t).err = false) :
    toksX t = (firstToksX k t ++ (toksX (nextsF k t)).1, (toksX (nextsF k t)).2) :=
  (toksX_prefix k t t (.refl t) inv inv hk).1

/-- shape of `toksX`: `m` proper records, then the `ErrorToken` (`n` bounds the unread bytes, for the induction) -/
theorem toksX_shape : ∀ (n : Nat) (t : Tokenizer), Tokenizer.Inv t → t.buf.size - t.rawE + 1 ≤ n →
    (toksX t).1 = firstToksX (toksX t).1.length t ∧
    (Tokenizer.next (nextsF (toksX t).1.length t)).token = .error ∧
    (toksX t).2 = (restL (nextsF (toksX t).1.length t), (nextsF (toksX t).1.length t).rawTag) ∧
    (∀ i, i < (toksX t).1.length → (nextsF i t).err = false)
  | 0, _, _, hf => by omega
  | n + 1, t, inv, hf => by
    have i1 := next_inv' t inv
    by_cases he : ((Tokenizer.next t).token == TokenType.error) = true
    · have he' : (Tokenizer.next t).token = .error := by simpa using he
      rw [toksX_unfold t inv, if_pos he]
      exact ⟨rfl, he', rfl, fun i hi => absurd hi (Nat.not_lt_zero _)⟩
    · have hne : (Tokenizer.next t).token ≠ .error := by simpa using he
      have hgt := next_rawE_gt t inv hne
      have hb := next_buf' t inv
      have hle := i1.ok.le
      have ih := toksX_shape n _ i1 (by rw [hb] at hle ⊢; omega)
      have h0 : t.err = false := by
        cases h : t.err with
        | false => rfl
        | true => exact absurd (next_after_err t h).1 hne
      rw [toksX_unfold t inv, if_neg he]
      simp only [List.length_cons, firstToksX, nextsF]
      refine ⟨by rw [← ih.1], ih.2.1, ih.2.2.1, ?_⟩
      intro i hi
      cases i with
      | zero => exact h0
      | succ i => simp only [nextsF]; exact ih.2.2.2 i (by omega)

theorem extract_drop_append (a1 a' : Bytes) (e : Nat) (hle : e ≤ a1.length) :
    (a1 ++ a').toArray.extract e (a1 ++ a').toArray.size = (a1.drop e ++ a').toArray := by
  apply Array.ext'
  simp only [Array.toList_extract, List.toList_toArray, List.extract_eq_take_drop, List.size_toArray]
  rw [List.drop_append_of_le_length hle, List.take_of_length_le (by simp; omega)]

/-- Three steps: `toksX_prefix` at the window `pre_extend` gives the first `k` records and a state `S` on `a1 ++ a'` with the
`rawE` and `rawTag` of `s`; `S` goes on as `restartCtx S` (`toksX_restart`); `restartCtx S` IS the fresh fragment tokenizer on
the unread rest in context `s.rawTag` (`hres`).  `V`: valid UTF-8 (of the rest by `LoopInv`: a token boundary is a character
boundary); `Ctx`: a context `newFragment` accepts. -/
theorem restartX_at (c a1 a' : Bytes) (hv : V a1) (k : Nat) {s : Tokenizer}
    (hs : nextsF k (Tokenizer.newFragment a1.toArray c) = s) (herr : s.err = false) :
    toksX (Tokenizer.newFragment (a1 ++ a').toArray c) =
      (firstToksX k (Tokenizer.newFragment a1.toArray c) ++
        (toksX (Tokenizer.newFragment (a1.drop s.rawE ++ a').toArray s.rawTag)).1,
       (toksX (Tokenizer.newFragment (a1.drop s.rawE ++ a').toArray s.rawTag)).2) ∧
    V (a1.drop s.rawE) ∧ Ctx s.rawTag := by
  have iu := newFragment_inv a1.toArray c
  have iT := newFragment_inv (a1 ++ a').toArray c
  have fu := newFragment_fields a1.toArray c
  have fT := newFragment_fields (a1 ++ a').toArray c
  have li := loopInv_nextsF k _ (loopInv_newFragment a1 c hv)
  have hbu : (nextsF k (Tokenizer.newFragment a1.toArray c)).buf = a1.toArray := (nextsF_buf k _ iu).trans fu.1
  have hctx := nextsF_rawCtx k _ iu (newFragment_rawCtx a1.toArray c)
  rw [hs] at li hbu hctx
  have hle : s.rawE ≤ a1.length := by have := li.inv.ok.le; rw [hbu] at this; simpa using this
  have hvp : V (a1.take s.rawE) := by have := li.vp; unfold Vp at this; rw [hbu] at this; simpa using this
  refine ⟨?_, V_drop hv _ hvp, hctx⟩
  have pr := toksX_prefix k (Tokenizer.newFragment (a1 ++ a').toArray c) (Tokenizer.newFragment a1.toArray c)
    (by rw [newFragment_append]; exact pre_extend _ _) iT iu (by rw [hs]; exact herr)
  rw [hs] at pr
  generalize hS : nextsF k (Tokenizer.newFragment (a1 ++ a').toArray c) = S at *
  have iS : Tokenizer.Inv S := by rw [← hS]; exact nextsF_inv k _ iT
  have hSbuf : S.buf = (a1 ++ a').toArray := by rw [← hS]; exact (nextsF_buf k _ iT).trans fT.1
  have hScd : S.allowCdata = true := by rw [← hS]; exact (nextsF_cdata k _ iT).trans fT.2.2.2.2.1
  have hSe : S.rawE = s.rawE := by have := pr.2.rawE; omega
  have hStag : S.rawTag = s.rawTag := pr.2.rawTag
  have hrs := toksX_restart S iS (pr.2.err.trans herr) (by rw [hStag]; exact hctx)
  have hres : restartCtx S = Tokenizer.newFragment (a1.drop s.rawE ++ a').toArray s.rawTag := by
    unfold restartCtx
    rw [hSbuf, hSe, hStag, hScd, extract_drop_append a1 a' s.rawE hle, newFragment_setCdata]
  rw [pr.1, hrs, hres]

theorem toks_split (k : Nat) (t : Tokenizer) (inv : Tokenizer.Inv t) (hk : (nextsF k t).err = false) :
    toks t = (firstToks k t ++ (toks (nextsF k t)).1, (toks (nextsF k t)).2) := by
  rw [toks_eq_toksX t, toks_eq_toksX (nextsF k t), toksX_split k t inv hk]
  simp only [toksOf_append, toksOf_firstToksX]

def textTok (c : Bytes) : Tok := { kind := .text, raw := c, name := [] }

theorem tokOf_text {t : Tokenizer} (h : t.token = .text) : tokOf t = textTok (rawL t) := by
  unfold tokOf textTok; rw [h]; rfl

theorem normText_merge (c y : Bytes) (R : List Tok) :
    normText (textTok (c ++ y) :: R) = normText (textTok c :: textTok y :: R) := by
  simp only [normText]
  cases hN : normText R with
  | nil => simp [textTok]
  | cons t' r =>
    by_cases hk : t'.kind = .text
    · simp [textTok, hk, List.append_assoc]
    · simp [textTok, hk]

theorem normText_prefix_congr (pre x y : List Tok) (h : normText x = normText y) :
    normText (pre ++ x) = normText (pre ++ y) := by
  induction pre with
  | nil => exact h
  | cons t ts ih => simp only [List.cons_append, normText, ih]

/-- `Y` is `N` with the plain text `r` put in front: merged into a first text record of `N`, or as a record of its
own (when `N` starts with a tag or is empty); same remainder.  This is what restarting before a text that was cut by the
end of the data yields, on the level of records; `MergeHead.toks` is its projection to tokens. -/
def MergeHead (ctx r : Bytes) (Y N : List TokX × Bytes × Bytes) : Prop :=
  Y.2.1 = N.2.1 ∧
  ((∃ r' e R, Y.1 = { tok := textTok (r ++ r'), cut := e, ctx := ctx } :: R ∧
      N.1 = { tok := textTok r', cut := e, ctx := ctx } :: R) ∨
   (∃ e, Y.1 = { tok := textTok r, cut := e, ctx := ctx } :: N.1))

theorem MergeHead.toks {ctx r : Bytes} {Y N : List TokX × Bytes × Bytes} (h : MergeHead ctx r Y N) :
    normText (toksOf Y.1) = normText (textTok r :: toksOf N.1) ∧ Y.2.1 = N.2.1 := by
  obtain ⟨hrem, ⟨r', e, R, hY, hN⟩ | ⟨e, hY⟩⟩ := h
  · rw [hY, hN]; exact ⟨normText_merge r r' _, hrem⟩
  · rw [hY]; exact ⟨rfl, hrem⟩

theorem rawL_eq_take (t : Tokenizer) (h : t.rawS = 0) : rawL t = t.buf.toList.take t.rawE := by
  unfold rawL; rw [extract_toList_eq, h]; simp

/-- The state `U` after the first `next` on `c ++ a'`, for a plain text `c ≠ []` (`hno`: no `<`, byte 60), against the state
`W` after the first `next` on `a'`: `U` holds a text token that starts with `c`; either the two calls stopped together, or
`U` stopped right after `c`, where `a'` begins with a tag, and the rest is a restart on `a'`. -/
theorem next_text_pending (c a' : Bytes) (hc : c ≠ []) (hno : ∀ b ∈ c, b ≠ 60) {U W : Tokenizer}
    (hU : U = Tokenizer.next (Tokenizer.new (c ++ a').toArray)) (hW : W = Tokenizer.next (Tokenizer.new a'.toArray)) :
    U.token = .text ∧
    ((Pre True c.length U W ∧ rawL U = c ++ a'.take W.rawE ∧ W.rawS = 0 ∧
        (W.token = .text ∨ (W.token = .error ∧ W.rawE = 0))) ∨
     (rawL U = c ∧ U.err = false ∧ U.rawTag = [] ∧ U.allowCdata = true ∧ restartOf U = Tokenizer.new a'.toArray)) := by
  subst hU hW
  have hclen : 0 < c.length := List.length_pos_iff.mpr hc
  have hext : (c ++ a').toArray.extract c.length (c ++ a').toArray.size = a'.toArray := by
    rw [extract_drop_append c a' _ (Nat.le_refl _), List.drop_length, List.nil_append]
  -- the first call on `c ++ a'` = the main loop after skipping `c`
  have hnU : Tokenizer.next (Tokenizer.new (c ++ a').toArray) =
      mainLoop { Tokenizer.new (c ++ a').toArray with rawE := c.length } := by
    rw [next_mainLoop _ rfl rfl, mainLoop_run c (mainStart (Tokenizer.new (c ++ a').toArray)) rfl
      (textOK2_of_textOK c (List.all_eq_true.mpr fun b hb => bne_iff_ne.mpr (hno b hb))) ((has_new (c ++ a')).congr rfl)]
    simp [Tokenizer.new]
  have hnW : Tokenizer.next (Tokenizer.new a'.toArray) = mainLoop (Tokenizer.new a'.toArray) := next_mainLoop _ rfl rfl
  -- there the unread rest is `a'`
  have pre : Pre True c.length { Tokenizer.new (c ++ a').toArray with rawE := c.length } (Tokenizer.new a'.toArray) :=
    Pre.ofSuffix (t := { Tokenizer.new (c ++ a').toArray with rawE := c.length }) (u := Tokenizer.new a'.toArray)
      (by show c.length ≤ (c ++ a').toArray.size; simp) hext.symm rfl rfl rfl rfl rfl rfl rfl
  have po := mainLoop_pending _ _ pre rfl (Nat.zero_le _) hclen (Nat.le_refl _)
  rw [← hnU, ← hnW] at po
  obtain ⟨p1, p2, p3, p4⟩ := po
  have hrawU : rawL (Tokenizer.next (Tokenizer.new (c ++ a').toArray)) =
      (c ++ a').take (Tokenizer.next (Tokenizer.new (c ++ a').toArray)).rawE := by
    rw [rawL_eq_take _ p2, p3]; rfl
  refine ⟨p1, ?_⟩
  rcases p4 with ⟨q1, q2, q3⟩ | ⟨q1, q2, q3, q4⟩
  · refine Or.inl ⟨q1, ?_, q2, q3⟩
    rw [hrawU, q1.rawE, List.take_append, Nat.add_sub_cancel_left, List.take_of_length_le (by omega)]
  · have hre : (Tokenizer.next (Tokenizer.new (c ++ a').toArray)).rawE = c.length := q1
    refine Or.inr ⟨by rw [hrawU, hre]; simp, q2, q3, q4, ?_⟩
    unfold restartOf
    rw [p3, hre]
    exact congrArg Tokenizer.new hext

theorem restartCtx_eq_restartOf (t : Tokenizer) (htag : t.rawTag = []) (hcd : t.allowCdata = true) :
    restartCtx t = restartOf t := by
  unfold restartCtx restartOf
  rw [htag, hcd, newFragment_nil]
  rfl

theorem toksX_of_err (t : Tokenizer) (inv : Tokenizer.Inv t) (h : t.err = true) : toksX t = ([], restL t, t.rawTag) := by
  rw [toksX_unfold t inv, if_pos (by rw [(next_after_err t h).1]; rfl)]

theorem toksX_text_cases (c a' : Bytes) (hc : c ≠ []) (hno : ∀ b ∈ c, b ≠ 60) :
    MergeHead [] c (toksX (Tokenizer.new (c ++ a').toArray)) (toksX (Tokenizer.new a'.toArray)) := by
  unfold MergeHead
  have hU : Tokenizer.Inv (Tokenizer.new (c ++ a').toArray) := newFragment_inv _ []
  have hW : Tokenizer.Inv (Tokenizer.new a'.toArray) := newFragment_inv _ []
  obtain ⟨p1, p4⟩ := next_text_pending c a' hc hno rfl rfl
  have iU1 := next_inv' _ hU
  have iW1 := next_inv' _ hW
  rw [toksX_unfold _ hU, if_neg (by rw [p1]; decide), tokXOf, tokOf_text p1]
  rcases p4 with ⟨q1, hrawU, q2, q3⟩ | ⟨hrawU, q2, htag, hcd, hres⟩
  · -- the two main loops stopped together
    rw [toksX_sim_full _ _ q1 iU1 iW1, hrawU, q1.err]
    rcases q3 with q3 | ⟨q3, hq⟩
    · rw [toksX_unfold _ hW, if_neg (by rw [q3]; decide), tokXOf, tokOf_text q3, rawL_eq_take _ q2, next_buf' _ hW]
      exact ⟨rfl, Or.inl ⟨_, _, _, rfl, rfl⟩⟩
    · -- `a'` is empty: nothing follows
      have hrW : restL (Tokenizer.next (Tokenizer.new a'.toArray)) = restL (Tokenizer.new a'.toArray) := by
        unfold restL; rw [hq, next_buf' _ hW]; rfl
      rw [toksX_unfold _ hW, if_pos (by rw [q3]; rfl), toksX_of_err _ iW1 (next_error_err _ hW q3), hq, hrW,
        List.take_zero, List.append_nil]
      exact ⟨rfl, Or.inr ⟨_, rfl⟩⟩
  · -- the text `c` was flushed right before a tag of `a'`: restart
    rw [toksX_restart _ iU1 q2 (Or.inl htag), restartCtx_eq_restartOf _ htag hcd, hres, hrawU]
    exact ⟨rfl, Or.inr ⟨_, rfl⟩⟩

theorem restL_of_buf (s : Tokenizer) (a1 : Bytes) (h : s.buf = a1.toArray) : restL s = a1.drop s.rawE := by
  unfold restL
  rw [extract_toList_eq, h]
  simp

/-- how the records of a buffer end: there is none, or there is a last one, produced from a state `sp` that had not
seen the end of the data -/
theorem toksX_last {u : Tokenizer} {a1 : Bytes} (iu : Tokenizer.Inv u) (hbuf : u.buf = a1.toArray) :
    toksX u = ([], a1.drop u.rawE, u.rawTag) ∨
    ∃ m' sp, nextsF m' u = sp ∧ sp.err = false ∧ Tokenizer.Inv sp ∧ sp.buf = a1.toArray ∧
      (toksX u).1.length = m' + 1 ∧
      toksX u = (firstToksX m' u ++ [tokXOf sp.rawTag (Tokenizer.next sp)],
                 a1.drop (Tokenizer.next sp).rawE, (Tokenizer.next sp).rawTag) ∧
      a1.drop sp.rawE = rawL (Tokenizer.next sp) ++ a1.drop (Tokenizer.next sp).rawE := by
  obtain ⟨sh1, _, sh3, sh4⟩ := toksX_shape _ u iu (Nat.le_refl _)
  generalize hm : (toksX u).1.length = m at sh1 sh3 sh4
  cases m with
  | zero => exact Or.inl (Prod.ext sh1 (by rw [sh3]; simp only [nextsF]; rw [restL_of_buf u a1 hbuf]))
  | succ m' =>
    have isp := nextsF_inv m' u iu
    have hspbuf := (nextsF_buf m' u iu).trans hbuf
    have hsmbuf := (next_buf' _ isp).trans hspbuf
    refine Or.inr ⟨m', _, rfl, sh4 m' (by omega), isp, hspbuf, rfl, Prod.ext (by rw [sh1, firstToksX_succ_back]) ?_, ?_⟩
    · rw [sh3, nextsF_succ_back, restL_of_buf _ a1 hsmbuf]
    · rw [← restL_of_buf _ a1 hspbuf, ← restL_of_buf _ a1 hsmbuf]
      exact (next_held _ isp).symm

/-- when the call from `sp` hits the end of the data and returns a text without `<` (byte 60), that text is the whole unread
rest, nothing is left behind it, and it is not empty: the hypotheses on `c` of `toksX_cut_text_cases` (HtmlTokRestartLaws) at
`c := rawL (next sp)`, for `restartX_merge` there -/
theorem cut_text_last {sp : Tokenizer} {a1 : Bytes} (isp : Tokenizer.Inv sp) (eg : ErrGe sp) (hbuf : sp.buf = a1.toArray)
    (herr : (Tokenizer.next sp).err = true) (htok : (Tokenizer.next sp).token = .text)
    (hnolt : hasLt (rawL (Tokenizer.next sp)) = false) :
    a1.drop sp.rawE = rawL (Tokenizer.next sp) ∧ a1.drop (Tokenizer.next sp).rawE = [] ∧
    rawL (Tokenizer.next sp) ≠ [] ∧ tokOf (Tokenizer.next sp) = textTok (rawL (Tokenizer.next sp)) ∧
    ∀ b ∈ rawL (Tokenizer.next sp), b ≠ 60 := by
  have cb := next_cut_buffered sp isp eg herr
  have ism := next_inv' sp isp
  have hsmbuf := (next_buf' sp isp).trans hbuf
  refine ⟨by rw [← restL_of_buf sp a1 hbuf]; exact cb.2.symm, by rw [← restL_of_buf _ a1 hsmbuf]; exact cb.1,
    ?_, ?_, ?_⟩
  · -- a proper token is not empty
    have hp := (next_post sp isp).progress (by rw [htok]; decide)
    have hlen : (rawL (Tokenizer.next sp)).length = (Tokenizer.next sp).rawE - (Tokenizer.next sp).rawS := by
      unfold rawL; simp; have := ism.ok.le; omega
    intro hnil
    rw [hnil] at hlen; simp at hlen; omega
  · exact tokOf_text htok
  · intro b hb h60
    subst h60
    have : hasLt (rawL (Tokenizer.next sp)) = true := by unfold hasLt; simpa using hb
    rw [this] at hnolt; cases hnolt

/-- `restartX_at` without a context (`c = []`, `s.rawTag = []`), on tokens -/
theorem restart_at (a1 a' : Bytes) (hv : V a1) (k : Nat) {s : Tokenizer}
    (hs : nextsF k (Tokenizer.new a1.toArray) = s) (herr : s.err = false) (htag : s.rawTag = []) :
    toks (Tokenizer.new (a1 ++ a').toArray) =
      (firstToks k (Tokenizer.new a1.toArray) ++ (toks (Tokenizer.new (a1.drop s.rawE ++ a').toArray)).1,
       (toks (Tokenizer.new (a1.drop s.rawE ++ a').toArray)).2) ∧
    V (a1.drop s.rawE) := by
  obtain ⟨h1, h2, _⟩ := restartX_at [] a1 a' hv k hs herr
  simp only [newFragment_nil] at h1
  rw [htag, newFragment_nil] at h1
  refine ⟨?_, h2⟩
  rw [toks_eq_toksX, toks_eq_toksX, h1]
  simp only [toksOf_append, toksOf_firstToksX]

theorem kindOf_text {k : TokenType} (h : kindOf k = .text) : k = .text := by
  revert h; cases k <;> decide

/-- the decidable syntactic condition "the end of `a1` is a safe cut": no token, or the last token is a (held) text
containing `<` and the restart point before it is outside every raw-text context and not at EOF, or all tokens are
complete and no raw-text context is pending, or the last token is a plain text cut by EOF (again with a clean restart
point before it).  Not allowed: a comment / doctype / `<!…>` / `<?…>` / CDATA cut by EOF, a raw-text zone. -/
def synSafeEnd (a1 : Bytes) : Bool :=
  let u0 := Tokenizer.new a1.toArray
  let m := (toks u0).1.length
  if m = 0 then true
  else
    let sp := nextsF (m - 1) u0
    let sm := nextsF m u0
    let tl := tokOf (Tokenizer.next sp)
    if tl.kind == .text && hasLt tl.raw then !sp.err && sp.rawTag == []
    else if !sm.err then sm.rawTag == []
    else tl.kind == .text && (!sp.err && sp.rawTag == [])

/-! Non-vacuity of `synSafeEnd` (kernel evaluation of the model): safe — a cut inside a start tag (`<di`), inside plain
text (`<p>ab`), after a held text (`<p>a<`); not safe — inside a raw-text element (`<textarea><p>`), a comment (`<!-`),
a CDATA section (`<![C`), a processing instruction (`<?x`). -/
example : synSafeEnd [60, 100, 105] = true ∧ synSafeEnd [60, 112, 62, 97, 98] = true ∧
    synSafeEnd [60, 112, 62, 97, 60] = true := by decide +kernel

example : synSafeEnd [60, 116, 101, 120, 116, 97, 114, 101, 97, 62, 60, 112, 62] = false ∧
    synSafeEnd [60, 33, 45] = false ∧ synSafeEnd [60, 33, 91, 67] = false ∧ synSafeEnd [60, 63, 120] = false := by
  decide +kernel

end Rio.Filter
