/-
C15: adjacent verbatim pieces.  The reference edit leaves the inserted value as ONE verbatim node next to whatever
stood there: two adjacent text pieces (`a` + value `b`, or `a`, EMPTY value, `b` after a replace) are ONE text token for
the tokenizer, so the document the next filter sees is outside `Simple2` although its bytes are fine.

`mergeL` merges every run of adjacent verbatim pieces into one piece (recursively); the bytes do not change, the merged
piece is read as a forest by `vtP` (Proofs/FilterDomUniv2.lean), and the reference edit commutes with merging when the
selector decision depends on the bytes only; hence merging before every edit (`editAllM`) gives the bytes of `editAllD`.
-/
import RioModel.Proofs.FilterDomNoop
import RioModel.Proofs.FilterDomUniv2
set_option linter.unusedSectionVars false

namespace Rio.Filter

/-- put a node in front of a merged list -/
def consM : Node → List Node → List Node
  | .verb a m, .verb b m' :: rest => .verb (a ++ b) (m ++ m') :: rest
  | x, l => x :: l

mutual
  def mergeN : Node → Node
    | .verb r m => .verb r m
    | .el nm d a k cs => .el nm d a k (mergeL cs)
  /-- every run of adjacent verbatim pieces merged into one, at every level -/
  def mergeL : List Node → List Node
    | [] => []
    | n :: ns => consM (mergeN n) (mergeL ns)
end

theorem consM_el (nm d a : Bytes) (k : ElKind) (cs : List Node) (l : List Node) :
    consM (.el nm d a k cs) l = .el nm d a k cs :: l := by
  simp [consM]

theorem consM_verb_cases (a : Bytes) (m : List Bytes) (l : List Node) :
    (∃ b m' r, l = .verb b m' :: r ∧ consM (.verb a m) l = .verb (a ++ b) (m ++ m') :: r) ∨
    consM (.verb a m) l = .verb a m :: l := by
  match l with
  | [] => exact Or.inr rfl
  | .verb b m' :: r => exact Or.inl ⟨b, m', r, rfl, rfl⟩
  | .el _ _ _ _ _ :: r => exact Or.inr rfl

theorem consM_assoc (a b : Bytes) (m m' : List Bytes) (l : List Node) :
    consM (.verb a m) (consM (.verb b m') l) = consM (.verb (a ++ b) (m ++ m')) l := by
  match l with
  | [] => rfl
  | .verb c m'' :: r => simp [consM, List.append_assoc]
  | .el _ _ _ _ _ :: r => rfl

theorem serializeList_consM (x : Node) (l : List Node) :
    serializeList (consM x l) = serialize x ++ serializeList l := by
  match x, l with
  | .verb a m, [] => rfl
  | .verb a m, .verb b m' :: r => simp [consM, serializeList, serialize, List.append_assoc]
  | .verb a m, .el _ _ _ _ _ :: r => rfl
  | .el _ _ _ _ _, l => simp [consM, serializeList]

mutual
  theorem serialize_mergeN : ∀ n : Node, serialize (mergeN n) = serialize n
    | .verb r m => by simp [mergeN]
    | .el nm d a k cs => by
      cases k <;> simp [mergeN, serialize, serializeList_mergeL cs]
  theorem serializeList_mergeL : ∀ ns : List Node, serializeList (mergeL ns) = serializeList ns
    | [] => by simp [mergeL]
    | n :: ns => by
      simp [mergeL, serializeList_consM, serializeList, serialize_mergeN n, serializeList_mergeL ns]
end

theorem mergeL_cons (n : Node) (ns : List Node) : mergeL (n :: ns) = consM (mergeN n) (mergeL ns) := by
  simp [mergeL]

theorem mergeN_verb (r : Bytes) (m : List Bytes) : mergeN (.verb r m) = .verb r m := by simp [mergeN]

theorem mergeN_el (nm d a : Bytes) (k : ElKind) (cs : List Node) :
    mergeN (.el nm d a k cs) = .el nm d a k (mergeL cs) := by simp [mergeN]

theorem mergeL_consM_append (x : Node) (l b : List Node) :
    mergeL (consM x l ++ b) = consM (mergeN x) (mergeL (l ++ b)) := by
  match x with
  | .el nm d a k cs => simp [consM_el, mergeL_cons]
  | .verb a m =>
    rcases consM_verb_cases a m l with ⟨c, m', r, rfl, h⟩ | h
    · rw [h]
      simp only [List.cons_append, mergeL_cons, mergeN_verb, consM_assoc]
    · rw [h]
      simp only [List.cons_append, mergeL_cons, mergeN_verb]

theorem mergeL_consM (x : Node) (l : List Node) : mergeL (consM x l) = consM (mergeN x) (mergeL l) := by
  have := mergeL_consM_append x l []
  simpa using this

mutual
  theorem mergeN_idem : ∀ n : Node, mergeN (mergeN n) = mergeN n
    | .verb r m => by simp [mergeN]
    | .el nm d a k cs => by simp [mergeN, mergeL_idem cs]
  theorem mergeL_idem : ∀ ns : List Node, mergeL (mergeL ns) = mergeL ns
    | [] => by simp [mergeL]
    | n :: ns => by rw [mergeL_cons, mergeL_consM, mergeN_idem n, mergeL_idem ns]
end

theorem mergeL_append_left : ∀ (a b : List Node), mergeL (mergeL a ++ b) = mergeL (a ++ b)
  | [], b => by simp [mergeL]
  | n :: a, b => by
    rw [mergeL_cons, mergeL_consM_append, mergeN_idem, mergeL_append_left a b, List.cons_append, mergeL_cons]

section
variable (dec : Node → Bytes → Bool) (hdec : ∀ n s, dec (mergeN n) s = dec n s)
variable (op : EditOp) (sel : Option Bytes) (ins : Node)

/-- a verbatim piece in front: the edit leaves it, merging joins it with what follows -/
theorem mergeL_edit_consM_verb (p : Bytes) (ps : List Bytes) (aw : Bool) (a : Bytes) (m : List Bytes) (l : List Node) :
    mergeL (editListD dec op sel ins p ps aw (consM (.verb a m) l)) =
      consM (.verb a m) (mergeL (editListD dec op sel ins p ps aw l)) := by
  rcases consM_verb_cases a m l with ⟨c, m', r, rfl, h⟩ | h
  · rw [h]
    simp only [editListD, editNodeD, mergeL_cons, mergeN_verb, consM_assoc]
  · rw [h]
    simp only [editListD, editNodeD, mergeL_cons, mergeN_verb]

include hdec in
theorem mergeN_applyOpD (nm d a : Bytes) (k : ElKind) (cs : List Node) :
    mergeN (applyOpD dec op sel ins (.el nm d a k (mergeL cs))) = mergeN (applyOpD dec op sel ins (.el nm d a k cs)) := by
  have hd : dec (.el nm d a k (mergeL cs)) = dec (.el nm d a k cs) := by
    funext s
    have := hdec (.el nm d a k cs) s
    rwa [mergeN_el] at this
  cases op with
  | replace =>
    simp only [applyOpD, hd]
    split
    · rfl
    · simp [mergeN_el, mergeL_idem]
  | append =>
    simp only [applyOpD, hd]
    split
    · simp only [mergeN_el, mergeL_append_left]
    · simp [mergeN_el, mergeL_idem]
  | prepend =>
    simp only [applyOpD, hd]
    split
    · simp only [mergeN_el, mergeL_cons, mergeL_idem]
    · simp [mergeN_el, mergeL_idem]

include hdec in
mutual
  theorem mergeN_editNodeD : ∀ (n : Node) (p : Bytes) (ps : List Bytes) (aw : Bool),
      mergeN (editNodeD dec op sel ins p ps aw (mergeN n)) = mergeN (editNodeD dec op sel ins p ps aw n)
    | .verb r m, _, _, _ => by simp [mergeN, editNodeD]
    | .el nm d a k cs, p, ps, aw => by
      rw [mergeN_el]
      unfold editNodeD
      by_cases hb : (nm == p) = true
      · simp only [hb, if_true]
        cases ps with
        | nil => exact mergeN_applyOpD dec hdec op sel ins nm d a k cs
        | cons q qs => simp only [mergeN_el, mergeL_editListD cs q qs false]
      · simp only [hb, Bool.false_eq_true, if_false]
        split
        · simp only [mergeN_el, mergeL_editListD cs p ps true]
        · simp [mergeN_el, mergeL_idem]
  theorem mergeL_editListD : ∀ (ns : List Node) (p : Bytes) (ps : List Bytes) (aw : Bool),
      mergeL (editListD dec op sel ins p ps aw (mergeL ns)) = mergeL (editListD dec op sel ins p ps aw ns)
    | [], _, _, _ => by simp [mergeL]
    | .verb r m :: rest, p, ps, aw => by
      rw [mergeL_cons, mergeN_verb, mergeL_edit_consM_verb, mergeL_editListD rest p ps aw]
      simp only [editListD, editNodeD, mergeL_cons, mergeN_verb]
    | .el nm d a k cs :: rest, p, ps, aw => by
      rw [mergeL_cons, mergeN_el, consM_el]
      simp only [editListD, mergeL_cons]
      rw [mergeL_editListD rest p ps aw]
      have := mergeN_editNodeD (.el nm d a k cs) p ps aw
      rw [mergeN_el] at this
      rw [this]
end

include hdec in
theorem mergeL_editD (doc : List Node) (f : BodyFilter) :
    mergeL (editD dec (mergeL doc) f) = mergeL (editD dec doc f) := by
  unfold editD
  split
  · simp only
    split
    · exact mergeL_editListD dec hdec _ _ _ doc _ _ true
    · exact mergeL_idem doc
  · exact mergeL_idem doc

/-- the reference edits with a merge before every edit -/
def editAllM : List Node → List BodyFilter → List Node
  | d, [] => d
  | d, f :: fs => editAllM (editD dec (mergeL d) f) fs

include hdec in
theorem mergeL_editAllM : ∀ (fs : List BodyFilter) (d d' : List Node), mergeL d = mergeL d' →
    mergeL (editAllM dec d fs) = mergeL (editAllD dec d' fs)
  | [], d, d', h => by simpa [editAllM, editAllD] using h
  | f :: fs, d, d', h => by
    simp only [editAllM, editAllD, List.foldl_cons]
    apply mergeL_editAllM fs
    rw [h, mergeL_editD dec hdec d' f]

include hdec in
theorem serializeList_editAllM (doc : List Node) (fs : List BodyFilter) :
    serializeList (editAllM dec doc fs) = serializeList (editAllD dec doc fs) := by
  rw [← serializeList_mergeL (editAllM dec doc fs), mergeL_editAllM dec hdec fs doc doc rfl, serializeList_mergeL]

end

theorem decOf_mergeN (ev : Bytes → Bytes → Bool) (n : Node) (s : Bytes) : decOf ev (mergeN n) s = decOf ev n s := by
  simp [decOf, serialize_mergeN]

open Rio.Html Rio.Html.Tokenizer Rio.Consts in
def StepsSimple4 (L : Laws) (ev : Bytes → Bytes → Bool) : List Node → List BodyFilter → Prop
  | _, [] => True
  | d, f :: fs =>
    Simple2L L (mergeL d) ∧ utf8Split (serializeList d) = some (serializeList d, []) ∧ NoHeld2 (mergeL d) ∧
    (InDomain htmlTokenize vtP (mergeL d) f ∨ NoOp vtP (mergeL d) f) ∧
    (fs ≠ [] → serializeList (editD (decOf ev) (mergeL d) f) ≠ []) ∧
    StepsSimple4 L ev (editD (decOf ev) (mergeL d) f) fs

theorem runsTo_of_steps4 (L : Laws) (ev : Bytes → Bytes → Bool) :
    ∀ (fs : List BodyFilter) (d : List Node), StepsSimple4 L ev d fs →
      RunsTo htmlTokenize ev fs (serializeList d) (serializeList (editAllM (decOf ev) d fs))
  | [], _, _ => .nil htmlTokenize ev _
  | _ :: fs, d, ⟨hs, hu, hh, hdom, hne, hrest⟩ => by
    have hag := tokAgree2_of_laws L (mergeL d) hs (by rw [serializeList_mergeL]; exact hu) hh
    have := RunsTo.cons htmlTokenize ev vtP hag (fold_inDomain_or_noOp vtP htmlTokenize ev vtP_lossless hdom) hne
      (runsTo_of_steps4 L ev fs _ hrest)
    rwa [serializeList_mergeL] at this

open Rio.Html Rio.Html.Tokenizer Rio.Consts in
def stepsSimple4B (ev : Bytes → Bytes → Bool) : List Node → List BodyFilter → Bool
  | _, [] => true
  | d, f :: fs =>
    simple2LB (mergeL d) && decide (utf8Split (serializeList d) = some (serializeList d, [])) &&
    decide (NoHeld2 (mergeL d)) &&
    (inDomainB htmlTokenize vtP (mergeL d) f || noOpB vtP (mergeL d) f) &&
    (fs.isEmpty || !(serializeList (editD (decOf ev) (mergeL d) f)).isEmpty) &&
    stepsSimple4B ev (editD (decOf ev) (mergeL d) f) fs

theorem stepsSimple4B_sound (ev : Bytes → Bytes → Bool) : ∀ (fs : List BodyFilter) (d : List Node),
    stepsSimple4B ev d fs = true → StepsSimple4 simpleLaws ev d fs
  | [], _, _ => trivial
  | f :: fs, d, h => by
    unfold stepsSimple4B at h
    simp only [Bool.and_eq_true, Bool.or_eq_true, Bool.not_eq_true', List.isEmpty_eq_false_iff, List.isEmpty_iff,
      decide_eq_true_eq] at h
    obtain ⟨⟨⟨⟨⟨h1, h2⟩, hh⟩, h3⟩, h4⟩, h5⟩ := h
    exact ⟨simple2LB_sound _ h1, h2, hh, h3.imp (inDomainB_sound htmlTokenize vtP) (noOpB_sound vtP),
      h4.resolve_left, stepsSimple4B_sound ev fs _ h5⟩

end Rio.Filter
