/-
The date / time / week-day / ip primitives TRANSLATED from the source on every run
(`Rio.Consts.genRouteTimeMatch`, `genRouteDateTimeMatch`, `genRouteWeekdayMatch`, `genRouteIpMatchInRange /
NotInRange`; section `w4_translate_time` of Generated/Consts.lean, tools/consts.d/w4_translate_time.py) are the
hand-written models: the concrete primitives `Rio.TimeWindow.Window.matches` / `matchTime` / `matchDateTime` /
`RouteWeekday.matchDateTime` / `Rio.Cidr.RouteIp.matchIp` (Model/TimeWindow.lean, Model/Cidr.lean) and the
router model's `DRange.matchInstant` / `DCond.eval` / `RouteIp.matchIp` (Model/RouterBase.lean).

The translation keeps chrono's values abstract: a bound and `datetime.naive_utc()[.time()]` are `Nat`s whose
order is the order of the chrono values (the models' reading: ns resp. seconds), `datetime.weekday()` is a
value of any type with `==`, `AnyIpCidr::contains` a parameter.
-/
import RioModel.Generated.Consts
import RioModel.Model.TimeWindow
import RioModel.Model.Cidr
import RioModel.Model.RouterBase

namespace Rio.TimeGen
open Rio.Consts Rio.TimeWindow

theorem genRouteDateTimeMatch_eq (w : Window) (t : Nat) :
    genRouteDateTimeMatch w.start w.stop t = w.matches t := by
  obtain ⟨start, stop⟩ := w
  cases start <;> cases stop <;> simp [genRouteDateTimeMatch, Window.matches]

theorem genRouteTimeMatch_eq (w : Window) (t : Nat) :
    genRouteTimeMatch w.start w.stop t = w.matches t := by
  obtain ⟨start, stop⟩ := w
  cases start <;> cases stop <;> simp [genRouteTimeMatch, Window.matches]

theorem gen_matchTime (w : Window) (t : Nat) :
    genRouteTimeMatch w.start w.stop (timeOfDay t) = matchTime w t := genRouteTimeMatch_eq w _

theorem gen_matchWeekday (r : RouteWeekday) (t : Nat) :
    genRouteWeekdayMatch r.days (weekdayOf t) = r.matchDateTime t := rfl

theorem gen_matchIp (k : Rio.Cidr.RouteIp) (a : Rio.Cidr.IpAddr) :
    k.matchIp a =
      match k with
      | .inRange c => genRouteIpMatchInRange Rio.Cidr.AnyIpCidr.contains c a
      | .notInRange c => genRouteIpMatchNotInRange Rio.Cidr.AnyIpCidr.contains c a := by
  cases k <;> rfl

theorem gen_drange (r : Rio.Router.DRange) (t : Nat) :
    genRouteDateTimeMatch r.start r.stop t = r.matchInstant t ∧
    genRouteTimeMatch r.start r.stop t = r.matchInstant t := by
  obtain ⟨start, stop⟩ := r
  cases start <;> cases stop <;> simp [genRouteDateTimeMatch, genRouteTimeMatch, Rio.Router.DRange.matchInstant]

/-- `DateTimeCondition::match_value` of the router model, over the translated primitives -/
theorem gen_dcond (c : Rio.Router.DCond) (q : Rio.Router.Req) :
    c.eval q =
      match q.createdAt with
      | none => false
      | some t =>
        match c with
        | .dateRange rs => rs.any fun r => genRouteDateTimeMatch r.start r.stop t
        | .timeRange rs => rs.any fun r => genRouteTimeMatch r.start r.stop (Rio.Router.timeOfDay t)
        | .weekdays ws => genRouteWeekdayMatch ws (Rio.Router.weekdayOf t) := by
  unfold Rio.Router.DCond.eval
  cases q.createdAt with
  | none => rfl
  | some t =>
    cases c with
    | dateRange rs => simp only [(gen_drange _ _).1]
    | timeRange rs => simp only [(gen_drange _ _).2]
    | weekdays ws => rfl

theorem gen_router_matchIp (k : Rio.Router.RouteIp) (a : Rio.Router.Ip) :
    k.matchIp a =
      match k with
      | .inRange c => genRouteIpMatchInRange Rio.Router.Cidr.contains c a
      | .notInRange c => genRouteIpMatchNotInRange Rio.Router.Cidr.contains c a := by
  cases k <;> rfl

end Rio.TimeGen
