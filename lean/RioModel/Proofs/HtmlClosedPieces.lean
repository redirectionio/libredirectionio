/-
Closed forms of `next` on end tags, comments, doctypes and text (raw text: `Proofs/HtmlClosedRaw.lean`); `PieceM` is what the
`mainLoop_*` lemmas of the first three conclude.  At the end, `next` at the end of the input: after a last text
(`text_eof_closed_form2`), with nothing left (`eof_closed_form`), and once the error flag is set (`next_of_err`).
-/
import RioModel.Proofs.HtmlClosedStart

namespace Rio.Html
namespace Tokenizer
open Rio.Consts

/-- what a token-producing step on state `T` (whose pending span is empty: `raw.start = raw.end`) returns -/
structure PieceM (T t1 : Tokenizer) (k : TokenType) (len : Nat) : Prop where
  token : t1.token = k
  rawS : t1.rawS = T.rawS
  rawE : t1.rawE = T.rawE + len
  err : t1.err = false
  rawTag : t1.rawTag = T.rawTag
  cdata : t1.allowCdata = T.allowCdata
  buf : t1.buf = T.buf

/-- the token made of the state `X` in which a reader, started by `dispatchTag` on the state `S` the main loop handed
over, stopped after `n` more bytes, having kept what the main loop keeps -/
theorem PieceM.of_frame {T S X : Tokenizer} {k : TokenType} {n len : Nat} (o : OpenedFacts T S)
    (rawS : X.rawS = S.rawS) (rawTag : X.rawTag = S.rawTag) (cdata : X.allowCdata = S.allowCdata) (buf : X.buf = S.buf)
    (st : Stops S X n) (hl : len = n + 2) : PieceM T { X with token := k } k len :=
  ⟨rfl, rawS.trans o.rawS, by show X.rawE = _; rw [st.1, o.rawE, hl]; omega, st.2, rawTag.trans o.rawTag,
    cdata.trans o.cdata, buf.trans o.buf⟩

theorem PieceM.of_adv {T S X : Tokenizer} {k : TokenType} {n len : Nat} (o : OpenedFacts T S) (a : Adv S X)
    (st : Stops S X n) (hl : len = n + 2) : PieceM T { X with token := k } k len :=
  PieceM.of_frame o a.rawS a.rawTag a.cdata a.buf st hl

/-- `</`, `disp`, `>` from the main loop: `dispatchTag` reads the first byte `c` of `disp` itself (a letter: `nameOK2_cons`) and
calls `read_tag` with `save = false` behind it, which is `readTag_closed` without attributes; the name span is `disp`. -/
theorem mainLoop_end_tag2 (T : Tokenizer) (disp : Bytes) (ok : Ok T) (he : T.err = false) (hrs : T.rawS = T.rawE)
    (hn : nameOK2 disp = true) (h : Has T T.rawE ([60, 47] ++ disp ++ [62])) :
    PieceM T (mainLoop T) .endTag ([60, 47] ++ disp ++ [62]).length ∧
    (mainLoop T).dataS = T.rawE + 2 ∧ (mainLoop T).dataE = T.rawE + 2 + disp.length := by
  obtain ⟨c, nm, rfl, hc, hnm⟩ := nameOK2_cons hn
  have hx : [60, 47] ++ (c :: nm) ++ [62] = 60 :: 47 :: c :: (nm ++ [62]) := by simp
  rw [hx] at h ⊢
  obtain ⟨S, hml, o⟩ := mainLoop_dispatch T 47 _ ok he h (by decide)
  have hS : Has S S.rawE (c :: (nm ++ [62])) := (h.tail.tail.congr o.buf).at o.rawE
  obtain ⟨e1, e2, e3, _, hnm'⟩ := hS.read o.err
  have a3 := readByte_adv o.ok
  obtain ⟨⟨r1, r2⟩, r3, r4⟩ := (readTag_closed nm [] [] .gt S.readByte.1 false a3.ok (by omega) e3
    hnm (by simp) (by simp) rfl hnm').1
  have a4 := readTag_adv S.readByte.1 false a3.ok (by omega)
  have hc62 : ¬ (c == 62) = true := by
    simp only [isAlpha, Bool.or_eq_true, Bool.and_eq_true, decide_eq_true_eq] at hc
    simp; omega
  rw [hml]
  unfold dispatchTag
  rw [if_neg (o.noflush hrs).1, if_neg (o.noflush hrs).2, if_neg (by decide : ¬ isAlpha 47 = true), if_pos (by decide)]
  rw [if_neg (by rw [e3]; exact Bool.false_ne_true), e1, if_neg hc62, if_pos hc,
    if_neg (by rw [r2]; exact Bool.false_ne_true)]
  have st : Stops S (readTag S.readByte.1 false) (nm.length + 2) :=
    ⟨by rw [r1, e2]; simp [attrsOf, TagEnd.text]; omega, r2⟩
  refine ⟨PieceM.of_adv o (a3.trans a4) st (by simp), ?_, ?_⟩
  · exact r3.trans (by rw [e2, o.rawE]; omega)
  · exact r4.trans (by rw [e2, o.rawE]; simp; omega)

theorem PieceM.toPiece {t t1 : Tokenizer} {k : TokenType} {len : Nat} (htag : t.rawTag = [])
    (p : PieceM (mainStart t) t1 k len) : Piece t t1 k len [] :=
  ⟨p.token, p.rawS, p.rawE, p.err, p.rawTag.trans htag, p.cdata, p.buf⟩

theorem end_tag_closed_form2 (t : Tokenizer) (disp : Bytes) (ok : Ok t) (he : t.err = false) (htag : t.rawTag = [])
    (hn : nameOK2 disp = true) (h : Has t t.rawE ([60, 47] ++ disp ++ [62])) :
    Piece t (next t) .endTag ([60, 47] ++ disp ++ [62]).length [] ∧
    (next t).dataS = t.rawE + 2 ∧ (next t).dataE = t.rawE + 2 + disp.length := by
  rw [next_mainLoop t he htag]
  obtain ⟨p, d⟩ := mainLoop_end_tag2 (mainStart t) disp ok.mainStart he rfl hn (h.congr rfl)
  exact ⟨p.toPiece htag, d⟩

/-- the comment bodies covered by `comment_closed_form`: no `>` and no `!` (the real terminators are `-->`, `--!>`,
and an initial `>` / `->`; any body without `>` is fine for `-->`, and excluding `!` avoids `--!>`) -/
def commentOK (body : Bytes) : Bool := body.all (fun b => b != 62 && b != 33)

theorem commentGo_close (t : Tokenizer) (d : Nat) (h : Has t t.rawE [45, 45, 62]) (he : t.err = false) :
    Stops t (commentGo t d) 3 ∧ (commentGo t d).dataS = t.dataS ∧ (commentGo t d).dataE = t.rawE := by
  obtain ⟨e1, _, e3, _, h1⟩ := h.read he
  obtain ⟨f1, _, f3, _, h2⟩ := h1.read e3
  obtain ⟨g1, _, g3, _, _⟩ := h2.read f3
  rw [commentGo]
  simp only [e3, e1, Bool.false_eq_true, dite_false, beq_self_eq_true, if_true]
  rw [commentGo]
  simp only [f3, f1, Bool.false_eq_true, dite_false, beq_self_eq_true, if_true]
  rw [commentGo]
  simp only [g3, g1, Bool.false_eq_true, dite_false, if_false, beq_self_eq_true, if_true,
    show (62 == 45) = false by decide, show d + 1 + 1 ≥ 2 by omega, htmlCommentEndLen]
  have s := setDataEndBack_spec t.readByte.1.readByte.1.readByte.1 3 (by omega)
  exact ⟨⟨by rw [s.2]; omega, by rw [setDataEndBack_err, g3]⟩, by simp, by rw [s.1]; omega⟩

/-- `read_comment`'s loop replayed on the body (dash = number of `-` just seen, 2 initially): on an accepted body the loop
does not terminate inside it and ends in a state from which the final `-->` terminates it (`commentGo_at`).
`-` → dash+1; `>` needs dash < 2; `!` after `--` needs a following byte in the body other than `>` (it is consumed);
everything else resets dash. -/
def cOK : Nat → Bytes → Bool
  | _, [] => true
  | d, b :: rest =>
    if b == 45 then cOK (d + 1) rest
    else if b == 62 then decide (d < 2) && cOK 0 rest
    else if b == 33 then
      if d ≥ 2 then
        match rest with
        | [] => false
        | b2 :: rest2 => b2 != 62 && cOK 0 rest2
      else cOK 0 rest
    else cOK 0 rest

/-- comment bodies covered by `comment_closed_form2`: those on which `read_comment`'s loop, entered with a dash count of 2
for the `--` of `<!--`, does not stop (see `cOK`).  Read on `--` ++ body this excludes `-->` and `--!>` inside and `--!` at
the end — so the bodies `>…`, `->…`, `!>…`, `-!>…`, `!`, `-!` — except that the byte after a `--!` is consumed unseen:
`!-->x` is accepted, the loop does not stop at that `-->` -/
def commentOK2 (body : Bytes) : Bool := cOK 2 body

theorem cOK_of_commentOK : ∀ (body : Bytes) (d : Nat), commentOK body = true → cOK d body = true
  | [], _, _ => rfl
  | b :: rest, d, h => by
    simp only [commentOK, List.all_cons, Bool.and_eq_true, bne_iff_ne, ne_eq] at h
    obtain ⟨⟨h1, h2⟩, h3⟩ := h
    have ih1 := cOK_of_commentOK rest (d + 1) (by simpa [commentOK] using h3)
    have ih0 := cOK_of_commentOK rest 0 (by simpa [commentOK] using h3)
    unfold cOK
    simp only [show (b == 62) = false by simp [h1], show (b == 33) = false by simp [h2], Bool.false_eq_true, if_false]
    split
    · exact ih1
    · exact ih0

theorem commentOK2_of_commentOK {body : Bytes} (h : commentOK body = true) : commentOK2 body = true :=
  cOK_of_commentOK body 2 h

/-- `read_comment`'s loop on a body that `cOK` accepts, along the recursion of `cOK`.  Stated with the position `p` of the closing
`-->`, so that each step of the loop is the induction hypothesis as it stands. -/
theorem commentGo_at (body : Bytes) (d : Nat) : ∀ (t : Tokenizer) (p : Nat), p = t.rawE + body.length →
    Has t t.rawE (body ++ [45, 45, 62]) → cOK d body = true → t.err = false →
    (commentGo t d).rawE = p + 3 ∧ (commentGo t d).err = false ∧ (commentGo t d).dataS = t.dataS ∧
    (commentGo t d).dataE = p := by
  fun_induction cOK d body with
  | case1 d =>
    intro t p hp h _ he
    obtain ⟨⟨r1, r2⟩, r3, r4⟩ := commentGo_close t d h he
    exact ⟨by rw [r1, hp]; rfl, r2, r3, by rw [r4, hp]; rfl⟩
  | case2 d b rest h45 ih =>
    intro t p hp h hb he
    obtain ⟨e1, e2, e3, _, hh⟩ := h.read he
    rw [commentGo]
    simp only [e3, e1, h45, Bool.false_eq_true, dite_false, if_true]
    simpa only [readByte_dataS] using ih _ p (by rw [hp, e2]; simp only [List.length_cons]; omega) hh hb e3
  | case3 d b rest h45 h62 ih =>
    intro t p hp h hb he
    simp only [Bool.and_eq_true, decide_eq_true_eq] at hb
    obtain ⟨e1, e2, e3, _, hh⟩ := h.read he
    rw [commentGo]
    simp only [e3, e1, h45, h62, Bool.false_eq_true, dite_false, if_true, if_false, show ¬ d ≥ 2 by omega]
    simpa only [readByte_dataS] using ih _ p (by rw [hp, e2]; simp only [List.length_cons]; omega) hh hb.2 e3
  | case4 d b h45 h62 h33 hd => intro _ _ _ _ hb; cases hb
  | case5 d b h45 h62 h33 hd b2 rest2 ih =>
    -- `--!`: the byte after the `!` is consumed with it
    intro t p hp h hb he
    simp only [Bool.and_eq_true, bne_iff_ne, ne_eq] at hb
    obtain ⟨e1, e2, e3, _, hh⟩ := h.read he
    obtain ⟨f1, f2, f3, _, hh2⟩ := hh.read e3
    rw [commentGo]
    simp only [e3, e1, f3, f1, h45, h62, h33, hd, show (b2 == 62) = false by simp [hb.1], Bool.false_eq_true, dite_false,
      if_true, if_false]
    simpa only [readByte_dataS] using ih _ p (by rw [hp, f2, e2]; simp only [List.length_cons]; omega) hh2 hb.2 f3
  | case6 d b rest h45 h62 h33 hd ih =>
    intro t p hp h hb he
    obtain ⟨e1, e2, e3, _, hh⟩ := h.read he
    rw [commentGo]
    simp only [e3, e1, h45, h62, h33, hd, Bool.false_eq_true, dite_false, if_true, if_false]
    simpa only [readByte_dataS] using ih _ p (by rw [hp, e2]; simp only [List.length_cons]; omega) hh hb e3
  | case7 d b rest h45 h62 h33 ih =>
    intro t p hp h hb he
    obtain ⟨e1, e2, e3, _, hh⟩ := h.read he
    rw [commentGo]
    simp only [e3, e1, h45, h62, h33, Bool.false_eq_true, dite_false, if_false]
    simpa only [readByte_dataS] using ih _ p (by rw [hp, e2]; simp only [List.length_cons]; omega) hh hb e3

theorem commentGo_run2 (body : Bytes) (d : Nat) (t : Tokenizer) (h : Has t t.rawE (body ++ [45, 45, 62]))
    (hb : cOK d body = true) (he : t.err = false) :
    Stops t (commentGo t d) (body.length + 3) ∧ (commentGo t d).dataS = t.dataS ∧
    (commentGo t d).dataE = t.rawE + body.length := by
  obtain ⟨r1, r2, r3, r4⟩ := commentGo_at body d t _ rfl h hb he
  exact ⟨⟨r1, r2⟩, r3, r4⟩

theorem commentGo_run : ∀ (body : Bytes) (d : Nat) (t : Tokenizer), Has t t.rawE (body ++ [45, 45, 62]) →
    commentOK body = true → t.err = false →
    Stops t (commentGo t d) (body.length + 3) ∧ (commentGo t d).dataS = t.dataS ∧
    (commentGo t d).dataE = t.rawE + body.length :=
  fun body d t h hb he => commentGo_run2 body d t h (cOK_of_commentOK body d hb) he

theorem readComment_run2 (body : Bytes) (t : Tokenizer) (h : Has t t.rawE (body ++ [45, 45, 62]))
    (hb : commentOK2 body = true) (he : t.err = false) :
    Stops t (readComment t) (body.length + 3) ∧ (readComment t).dataS = t.rawE ∧
    (readComment t).dataE = t.rawE + body.length := by
  have r := commentGo_run2 body 2 { t with dataS := t.rawE } (h.congr rfl) hb he
  obtain ⟨⟨r1, r2⟩, r3, r4⟩ := r
  unfold readComment
  simp only
  rw [if_neg (by rw [r3, r4]; show ¬ t.rawE + body.length < t.rawE; omega)]
  exact ⟨⟨r1, r2⟩, r3, r4⟩

theorem dispatchTag_bang {T S : Tokenizer} (o : OpenedFacts T S) (hrs : T.rawS = T.rawE) :
    dispatchTag S 33 = { S.readMarkupDeclaration.1 with token := S.readMarkupDeclaration.2 } := by
  unfold dispatchTag
  rw [if_neg (o.noflush hrs).1, if_neg (o.noflush hrs).2]
  rfl

theorem mainLoop_comment2 (T : Tokenizer) (body : Bytes) (ok : Ok T) (he : T.err = false) (hrs : T.rawS = T.rawE)
    (hb : commentOK2 body = true) (h : Has T T.rawE ([60, 33, 45, 45] ++ body ++ [45, 45, 62])) :
    PieceM T (mainLoop T) .comment ([60, 33, 45, 45] ++ body ++ [45, 45, 62]).length ∧
    (mainLoop T).dataS = T.rawE + 4 ∧ (mainLoop T).dataE = T.rawE + 4 + body.length := by
  have hx : [60, 33, 45, 45] ++ body ++ [45, 45, 62] = 60 :: 33 :: 45 :: 45 :: (body ++ [45, 45, 62]) := by simp
  rw [hx] at h ⊢
  obtain ⟨S, hml, o⟩ := mainLoop_dispatch T 33 _ ok he h (by decide)
  let S' : Tokenizer := { S with dataS := S.rawE }
  have hS : Has S' S'.rawE (45 :: 45 :: (body ++ [45, 45, 62])) :=
    (h.tail.tail.congr (show S'.buf = T.buf from o.buf)).at (show S.rawE = _ from o.rawE)
  obtain ⟨e1, e2, e3, _, h1⟩ := hS.read o.err
  obtain ⟨f1, f2, f3, _, hbody⟩ := h1.read e3
  have hre : S'.readByte.1.readByte.1.rawE = S.rawE + 2 := by rw [f2, e2]
  obtain ⟨⟨r1, r2⟩, r3, r4⟩ := readComment_run2 body _ hbody hb f3
  have amd := readMarkupDeclaration_adv S o.ok (by rw [o.rawE]; omega)
  have hmd : S.readMarkupDeclaration = (S'.readByte.1.readByte.1.readComment, TokenType.comment) := by
    unfold readMarkupDeclaration markupGo
    simp only
    rw [if_neg (by rw [e3]; exact Bool.false_ne_true), if_neg (by rw [f3]; exact Bool.false_ne_true),
      if_pos (by rw [e1, f1]; decide)]
  rw [hml, dispatchTag_bang o hrs]
  rw [hmd] at amd ⊢
  have st : Stops S S'.readByte.1.readByte.1.readComment (body.length + 5) := ⟨by rw [r1, hre]; omega, r2⟩
  refine ⟨PieceM.of_adv o amd st (by simp), ?_, ?_⟩
  · exact r3.trans (by rw [hre, o.rawE])
  · exact r4.trans (by rw [hre, o.rawE])

theorem comment_closed_form2 (t : Tokenizer) (body : Bytes) (ok : Ok t) (he : t.err = false) (htag : t.rawTag = [])
    (hb : commentOK2 body = true) (h : Has t t.rawE ([60, 33, 45, 45] ++ body ++ [45, 45, 62])) :
    Piece t (next t) .comment ([60, 33, 45, 45] ++ body ++ [45, 45, 62]).length [] ∧
    (next t).dataS = t.rawE + 4 ∧ (next t).dataE = t.rawE + 4 + body.length := by
  rw [next_mainLoop t he htag]
  obtain ⟨p, d⟩ := mainLoop_comment2 (mainStart t) body ok.mainStart he rfl hb (h.congr rfl)
  exact ⟨p.toPiece htag, d⟩

theorem readComment_run (body : Bytes) (t : Tokenizer) (h : Has t t.rawE (body ++ [45, 45, 62]))
    (hb : commentOK body = true) (he : t.err = false) :
    Stops t (readComment t) (body.length + 3) ∧ (readComment t).dataS = t.rawE ∧
    (readComment t).dataE = t.rawE + body.length :=
  readComment_run2 body t h (commentOK2_of_commentOK hb) he

theorem mainLoop_comment (T : Tokenizer) (body : Bytes) (ok : Ok T) (he : T.err = false) (hrs : T.rawS = T.rawE)
    (hb : commentOK body = true) (h : Has T T.rawE ([60, 33, 45, 45] ++ body ++ [45, 45, 62])) :
    PieceM T (mainLoop T) .comment ([60, 33, 45, 45] ++ body ++ [45, 45, 62]).length ∧
    (mainLoop T).dataS = T.rawE + 4 ∧ (mainLoop T).dataE = T.rawE + 4 + body.length :=
  mainLoop_comment2 T body ok he hrs (commentOK2_of_commentOK hb) h

theorem comment_closed_form (t : Tokenizer) (body : Bytes) (ok : Ok t) (he : t.err = false) (htag : t.rawTag = [])
    (hb : commentOK body = true) (h : Has t t.rawE ([60, 33, 45, 45] ++ body ++ [45, 45, 62])) :
    Piece t (next t) .comment ([60, 33, 45, 45] ++ body ++ [45, 45, 62]).length [] ∧
    (next t).dataS = t.rawE + 4 ∧ (next t).dataE = t.rawE + 4 + body.length :=
  comment_closed_form2 t body ok he htag (commentOK2_of_commentOK hb) h

/-- `kw` matches a pattern of `(upper, lower)` pairs byte by byte -/
def patMatch : Bytes → List (Nat × Nat) → Bool
  | [], [] => true
  | b :: bs, (c, c') :: ps => (b == c || b == c') && patMatch bs ps
  | _, _ => false

/-- `<!` ++ kw ++ r ++ `>` with `kw` a case variant of `DOCTYPE` and no `>` in `r` -/
def doctypeOK (kw r : Bytes) : Bool := patMatch kw htmlDoctypePat && r.all (· != 62)

theorem declLoop_eq : ∀ (kw : Bytes) (pat : List (Nat × Nat)) (t : Tokenizer), patMatch kw pat = true →
    Has t t.rawE kw → t.err = false → declLoop t pat = ({ t with rawE := t.rawE + kw.length }, true)
  | [], [], _, _, _, _ => rfl
  | [], _ :: _, _, hm, _, _ => by simp [patMatch] at hm
  | _ :: _, [], _, hm, _, _ => by simp [patMatch] at hm
  | b :: bs, (c, c') :: ps, t, hm, h, he => by
    simp only [patMatch, Bool.and_eq_true, Bool.or_eq_true, beq_iff_eq] at hm
    rw [declLoop, readByte_has h]
    simp only
    rw [if_neg (by rw [he]; exact Bool.false_ne_true), if_neg (by rcases hm.1 with h | h <;> simp [h]),
      declLoop_eq bs ps { t with rawE := t.rawE + 1 } hm.2 h.tail he]
    show (({ t with rawE := t.rawE + 1 + bs.length } : Tokenizer), true) = _
    rw [Nat.add_assoc, Nat.add_comm 1]
    rfl

theorem untilCloseAngleGo_run : ∀ (r : Bytes) (t : Tokenizer), (∀ b ∈ r, b ≠ 62) → Has t t.rawE (r ++ [62]) →
    t.err = false →
    Stops t (untilCloseAngleGo t) (r.length + 1) ∧ (untilCloseAngleGo t).dataS = t.dataS ∧
    (untilCloseAngleGo t).dataE = t.rawE + r.length
  | [], t, _, h, he => by
    obtain ⟨e1, e2, e3, _, _⟩ := h.read he
    rw [untilCloseAngleGo]
    simp only [e3, e1, Bool.false_eq_true, dite_false, beq_self_eq_true, if_true]
    have s := setDataEndBack_spec t.readByte.1 1 (by omega)
    exact ⟨⟨by rw [s.2, e2]; rfl, by rw [setDataEndBack_err, e3]⟩, by simp, by rw [s.1, e2]; simp⟩
  | b :: r, t, hr, h, he => by
    obtain ⟨e1, e2, e3, _, hh⟩ := h.read he
    have ih := untilCloseAngleGo_run r t.readByte.1 (fun x hx => hr x (by simp [hx])) hh e3
    rw [untilCloseAngleGo]
    simp only [e3, e1, Bool.false_eq_true, dite_false, show (b == 62) = false by simp [hr b (by simp)], if_false]
    obtain ⟨⟨r1, r2⟩, r3, r4⟩ := ih
    exact ⟨⟨by rw [r1, e2]; simp; omega, r2⟩, by rw [r3]; simp, by rw [r4, e2]; simp; omega⟩

theorem readUntilCloseAngle_run (r : Bytes) (t : Tokenizer) (hr : ∀ b ∈ r, b ≠ 62) (h : Has t t.rawE (r ++ [62]))
    (he : t.err = false) :
    Stops t (readUntilCloseAngle t) (r.length + 1) ∧ (readUntilCloseAngle t).dataS = t.rawE ∧
    (readUntilCloseAngle t).dataE = t.rawE + r.length :=
  untilCloseAngleGo_run r { t with dataS := t.rawE } hr (h.congr rfl) he

theorem dropWs_head : ∀ (r : Bytes), ∃ d rest, r.dropWhile isWs ++ [62] = d :: rest ∧ isWs d = false
  | [] => ⟨62, [], rfl, by decide⟩
  | a :: r => by
    rw [List.dropWhile_cons]
    split
    · exact dropWs_head r
    · exact ⟨a, r ++ [62], rfl, by simpa using ‹¬ isWs a = true›⟩

/-- The data span of a doctype token is `r` without its leading white space: `read_doc_type` skips white space behind the
keyword before it calls `read_until_close_angle`. -/
theorem readDocType_run (kw r : Bytes) (t : Tokenizer) (hok : doctypeOK kw r = true)
    (h : Has t t.rawE (kw ++ r ++ [62])) (he : t.err = false) :
    (readDocType t).2 = true ∧ Stops t (readDocType t).1 (kw.length + r.length + 1) ∧
    (readDocType t).1.dataS = t.rawE + kw.length + (r.takeWhile isWs).length ∧
    (readDocType t).1.dataE = t.rawE + kw.length + r.length := by
  simp only [doctypeOK, Bool.and_eq_true, List.all_eq_true, bne_iff_ne, ne_eq] at hok
  obtain ⟨hkw, hr⟩ := hok
  obtain ⟨d, rest, hd, hdws⟩ := dropWs_head r
  have hlen : r.length = (r.takeWhile isWs).length + (r.dropWhile isWs).length := by
    have := congrArg List.length (List.takeWhile_append_dropWhile (p := isWs) (l := r))
    rw [List.length_append] at this; omega
  have h1 : Has t (t.rawE + kw.length) (r.takeWhile isWs ++ (r.dropWhile isWs ++ [62])) := by
    rw [← List.append_assoc, List.takeWhile_append_dropWhile]
    rw [List.append_assoc] at h
    exact h.right
  let D : Tokenizer := { t with rawE := t.rawE + kw.length }
  let D' : Tokenizer := { D with rawE := t.rawE + kw.length + (r.takeWhile isWs).length }
  have sk : skipWhiteSpace D = D' :=
    skipWhiteSpace_eq (r.takeWhile isWs) d D (hd ▸ h1)
      (fun b hb => List.all_eq_true.mp List.all_takeWhile b hb) hdws he
  obtain ⟨⟨r1, r2⟩, r3, r4⟩ := readUntilCloseAngle_run (r.dropWhile isWs) D'
    (fun b hb => hr b ((List.dropWhile_sublist isWs).subset hb)) h1.right he
  unfold readDocType
  simp only
  rw [declLoop_eq kw htmlDoctypePat t hkw h.left.left he]
  simp only [Bool.not_true, Bool.false_eq_true, if_false]
  rw [sk, if_neg (by show ¬ t.err = true; rw [he]; exact Bool.false_ne_true)]
  exact ⟨rfl, ⟨r1.trans (by show t.rawE + _ + _ + _ = _; omega), r2⟩, r3, r4.trans (by show t.rawE + _ + _ + _ = _; omega)⟩

/-- `<!` followed by anything but `--` is a doctype, a CDATA section or a bogus comment -/
theorem markupGo_rest {S : Tokenizer} {a b : Nat} {l : Bytes} (h : Has S S.rawE (a :: b :: l)) (he : S.err = false)
    (hab : ¬ (a = 45 ∧ b = 45)) : markupGo S = markupRest S := by
  obtain ⟨e1, _, e3, _, h1⟩ := h.read he
  obtain ⟨f1, _, f3, _, _⟩ := h1.read e3
  unfold markupGo
  simp only []
  rw [if_neg (by rw [e3]; exact Bool.false_ne_true), if_neg (by rw [f3]; exact Bool.false_ne_true),
    if_neg (by rw [e1, f1]; simpa using hab), read2_unread h]

theorem mainLoop_doctype (T : Tokenizer) (kw r : Bytes) (ok : Ok T) (he : T.err = false) (hrs : T.rawS = T.rawE)
    (hok : doctypeOK kw r = true) (h : Has T T.rawE ([60, 33] ++ kw ++ r ++ [62])) :
    PieceM T (mainLoop T) .doctype ([60, 33] ++ kw ++ r ++ [62]).length ∧
    (mainLoop T).dataS = T.rawE + 2 + kw.length + (r.takeWhile isWs).length ∧
    (mainLoop T).dataE = T.rawE + 2 + kw.length + r.length := by
  have hx : [60, 33] ++ kw ++ r ++ [62] = 60 :: 33 :: (kw ++ r ++ [62]) := by simp
  rw [hx] at h ⊢
  obtain ⟨S, hml, o⟩ := mainLoop_dispatch T 33 _ ok he h (by decide)
  let S' : Tokenizer := { S with dataS := S.rawE }
  have hall : Has S' S'.rawE (kw ++ r ++ [62]) :=
    (h.tail.tail.congr (show S'.buf = T.buf from o.buf)).at (show S.rawE = _ from o.rawE)
  -- the keyword has two bytes at least and starts with `D` or `d`, so this is not a comment
  obtain ⟨k0, k1, kws, rfl, hk0⟩ : ∃ k0 k1 kws, kw = k0 :: k1 :: kws ∧ k0 ≠ 45 := by
    have hkw : patMatch kw htmlDoctypePat = true := by
      simp only [doctypeOK, Bool.and_eq_true] at hok; exact hok.1
    match kw, hkw with
    | [], h => simp [patMatch, htmlDoctypePat] at h
    | [_], h => simp [patMatch, htmlDoctypePat] at h
    | k0 :: k1 :: kws, h =>
      refine ⟨k0, k1, kws, rfl, ?_⟩
      simp only [patMatch, htmlDoctypePat, Bool.and_eq_true, Bool.or_eq_true, beq_iff_eq] at h
      omega
  obtain ⟨d2, d1, d3, d4⟩ := readDocType_run (k0 :: k1 :: kws) r S' hok hall o.err
  have amd := readMarkupDeclaration_adv S o.ok (by rw [o.rawE]; omega)
  have hmd : S.readMarkupDeclaration = (S'.readDocType.1, TokenType.doctype) := by
    unfold readMarkupDeclaration
    rw [markupGo_rest hall o.err (fun h => hk0 h.1)]
    unfold markupRest
    simp only []
    rw [if_pos d2]
  rw [hml, dispatchTag_bang o hrs]
  rw [hmd] at amd ⊢
  refine ⟨PieceM.of_adv o amd d1 (by simp; omega), ?_, ?_⟩
  · exact d3.trans (by show S.rawE + _ + _ = _; rw [o.rawE])
  · exact d4.trans (by show S.rawE + _ + _ = _; rw [o.rawE])

theorem doctype_closed_form (t : Tokenizer) (kw r : Bytes) (ok : Ok t) (he : t.err = false) (htag : t.rawTag = [])
    (hok : doctypeOK kw r = true) (h : Has t t.rawE ([60, 33] ++ kw ++ r ++ [62])) :
    Piece t (next t) .doctype ([60, 33] ++ kw ++ r ++ [62]).length [] ∧
    (next t).dataS = t.rawE + 2 + kw.length + (r.takeWhile isWs).length ∧
    (next t).dataE = t.rawE + 2 + kw.length + r.length := by
  rw [next_mainLoop t he htag]
  obtain ⟨p, d⟩ := mainLoop_doctype (mainStart t) kw r ok.mainStart he rfl hok (h.congr rfl)
  exact ⟨p.toPiece htag, d⟩

/-- the raw-text contents covered by `rawtext_closed_form`: no `<` at all (so the script automaton stays in its data state) -/
def rawContentOK (c : Bytes) : Bool := c.all (· != 60)

/-- the texts covered by `text_closed_form`: no `<` at all (the same test as `rawContentOK`; `textOK2` is the wider one) -/
def textOK (tx : Bytes) : Bool := tx.all (· != 60)

/-- a text as the main loop delimits it: every `<` is followed, inside the text, by a byte that opens no tag, comment or
declaration, so `a < b`, `1<2` are text; the last byte is not `<` -/
def textOK2 : Bytes → Bool
  | [] => true
  | [b] => b != 60
  | b :: c :: r => (b != 60 || !isOpener c) && textOK2 (c :: r)

theorem textOK2_of_textOK : ∀ (tx : Bytes), textOK tx = true → textOK2 tx = true
  | [], _ => rfl
  | [b], h => by simpa [textOK, textOK2] using h
  | b :: c :: r, h => by
    simp only [textOK, List.all_cons, Bool.and_eq_true] at h
    have ih := textOK2_of_textOK (c :: r) (by simp only [textOK, List.all_cons, Bool.and_eq_true]; exact h.2)
    simp only [textOK2, Bool.and_eq_true, Bool.or_eq_true]
    exact ⟨Or.inl h.1, ih⟩

/-- The main loop walks over a text that `textOK2` accepts without leaving: over a byte other than `<` by `mainLoop_at_text`,
over a `<` in front of a byte that opens nothing by `mainLoop_has_lt`. -/
theorem mainLoop_run {l : Bytes} : ∀ (tx : Bytes) (T : Tokenizer), T.err = false → textOK2 tx = true →
    Has T T.rawE (tx ++ l) → mainLoop T = mainLoop { T with rawE := T.rawE + tx.length }
  | [], T, _, _, _ => rfl
  | b :: tx, T, he, htx, h => by
    have step : mainLoop T = mainLoop { T with rawE := T.rawE + 1 } ∧ textOK2 tx = true := by
      by_cases hb : b = 60
      · subst hb
        cases tx with
        | nil => simp [textOK2] at htx
        | cons c r =>
          simp only [textOK2, Bool.and_eq_true, Bool.or_eq_true, bne_self_eq_false, Bool.false_eq_true, false_or,
            Bool.not_eq_true'] at htx
          refine ⟨?_, htx.2⟩
          rw [mainLoop_has_lt he h, if_neg (Bool.eq_false_iff.mp htx.1)]
      · refine ⟨mainLoop_at_text he h.head hb, ?_⟩
        cases tx with
        | nil => rfl
        | cons c r => simp only [textOK2, Bool.and_eq_true] at htx; exact htx.2
    rw [step.1, mainLoop_run tx { T with rawE := T.rawE + 1 } he step.2 h.tail]
    show mainLoop { T with rawE := T.rawE + 1 + tx.length } = _
    rw [Nat.add_assoc, Nat.add_comm 1]
    rfl

/-- a non-empty text run followed by `<` and a tag-opening byte (a letter, `/`, `!` or `?`), then anything, is ONE text
token -/
theorem text_closed_form2 {l : Bytes} (t : Tokenizer) (tx : Bytes) (c : Nat) (he : t.err = false) (htag : t.rawTag = [])
    (htx : textOK2 tx = true) (hne : tx ≠ []) (hop : isOpener c = true) (h : Has t t.rawE (tx ++ 60 :: c :: l)) :
    Piece t (next t) .text tx.length [] ∧ (next t).dataS = t.rawE ∧ (next t).dataE = t.rawE + tx.length := by
  have hlen : 0 < tx.length := List.length_pos_iff.mpr hne
  rw [next_mainLoop t he htag, mainLoop_run tx (mainStart t) he htx (h.congr rfl),
    mainLoop_has_lt (t := { mainStart t with rawE := t.rawE + tx.length }) he (h.right.congr rfl), if_pos hop]
  -- the pending text is flushed; the `<` and the opener are put back
  unfold dispatchTag
  simp only [htmlTagOpenLen]
  rw [if_neg (by show ¬ t.rawE + tx.length + 2 < 2; omega), if_pos (by show t.rawE < t.rawE + tx.length + 2 - 2; omega)]
  exact ⟨⟨rfl, rfl, Nat.add_sub_cancel _ _, he, htag, rfl, rfl⟩, rfl, Nat.add_sub_cancel _ _⟩

theorem text_closed_form (t : Tokenizer) (tx : Bytes) (c : Nat) (ok : Ok t) (he : t.err = false) (htag : t.rawTag = [])
    (htx : textOK tx = true) (hne : tx ≠ []) (hop : isOpener c = true) (h : Has t t.rawE (tx ++ [60, c])) :
    Piece t (next t) .text tx.length [] ∧ (next t).dataS = t.rawE ∧ (next t).dataE = t.rawE + tx.length := by
  have _ := ok  -- not needed by the proof
  exact text_closed_form2 t tx c he htag (textOK2_of_textOK tx htx) hne hop h

/-- a text run at the end of the input is ONE text token, with the error flag set (the following `next` returns the
`ErrorToken`, see `next_of_err`) -/
theorem text_eof_closed_form2 (t : Tokenizer) (tx : Bytes) (he : t.err = false) (htag : t.rawTag = [])
    (htx : textOK2 tx = true) (hne : tx ≠ []) (h : Has t t.rawE tx) (hsz : t.buf.size = t.rawE + tx.length) :
    (next t).token = .text ∧ (next t).rawS = t.rawE ∧ (next t).rawE = t.rawE + tx.length ∧ (next t).err = true ∧
    (next t).rawTag = [] ∧ (next t).allowCdata = t.allowCdata ∧ (next t).buf = t.buf ∧
    (next t).dataS = t.rawE ∧ (next t).dataE = t.rawE + tx.length := by
  have hlen : 0 < tx.length := List.length_pos_iff.mpr hne
  rw [next_mainLoop t he htag, mainLoop_run (l := []) tx (mainStart t) he htx (by rw [List.append_nil]; exact h),
    mainLoop_at_eof (by show ¬ t.rawE + tx.length < t.buf.size; omega)]
  unfold finishText
  rw [if_pos (by show t.rawE < t.rawE + tx.length; omega)]
  exact ⟨rfl, rfl, rfl, rfl, htag, rfl, rfl, rfl, rfl⟩

theorem text_eof_closed_form (t : Tokenizer) (tx : Bytes) (he : t.err = false) (htag : t.rawTag = [])
    (htx : textOK tx = true) (hne : tx ≠ []) (h : Has t t.rawE tx) (hsz : t.buf.size = t.rawE + tx.length) :
    (next t).token = .text ∧ (next t).rawS = t.rawE ∧ (next t).rawE = t.rawE + tx.length ∧ (next t).err = true ∧
    (next t).rawTag = [] ∧ (next t).allowCdata = t.allowCdata ∧ (next t).buf = t.buf ∧
    (next t).dataS = t.rawE ∧ (next t).dataE = t.rawE + tx.length := by
  exact text_eof_closed_form2 t tx he htag (textOK2_of_textOK tx htx) hne h hsz

theorem eof_closed_form (t : Tokenizer) (he : t.err = false) (htag : t.rawTag = []) (hsz : t.buf.size = t.rawE) :
    (next t).token = .error ∧ (next t).rawS = t.rawE ∧ (next t).rawE = t.rawE ∧ (next t).err = true ∧
    (next t).buf = t.buf := by
  rw [next_mainLoop t he htag, mainLoop_at_eof (by show ¬ t.rawE < t.buf.size; omega)]
  unfold finishText
  rw [if_neg (by show ¬ t.rawE < t.rawE; omega)]
  exact ⟨rfl, rfl, rfl, rfl, rfl⟩

theorem next_of_err (t : Tokenizer) (he : t.err = true) :
    (next t).token = .error ∧ (next t).rawS = t.rawE ∧ (next t).rawE = t.rawE ∧ (next t).err = true ∧
    (next t).buf = t.buf := by
  unfold next nextGo
  simp only
  rw [if_pos he]
  exact ⟨rfl, rfl, rfl, he, rfl⟩

end Tokenizer
end Rio.Html
