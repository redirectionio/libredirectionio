/-
Helper lemmas for C10 (Props/C10.lean).  `C10.substitution` (the one-pass `StaticOrDynamic::replace` is the simultaneous
substitution) rests on the `longest` lemmas, the sorts (`LawfulBefore`: stable, longest first), `firstMatch_sorted` and
`scanAux_eq` alone; that neither the order of the variable list nor the choice of the lawful order matters is `subst_congr`
(`parse_congr`, by `parse_induction`) and `sortVars_perm` (the order of `Rule::variables` is total on names).
`parse_induction` and the item view of one textual replace (`Fills`, `AtRefs`, `Sep`, `Clean`, `replace_render`: "one
`str::replace` = filling one name") serve `MarkerString::new` (Proofs/MarkerRegex) and the last block (the fold of such
replaces over a length-sorted list), which is there only for `C10.sequential_replace_substitution`, about the sequential
`replaceSeq` that the one-pass scan replaced.
-/
import RioModel.Model.Marker
import RioModel.Proofs.UtilList

namespace Rio.Marker

theorem pre_iff {p s : Str} : pre p s = true ↔ p <+: s := by
  unfold pre; exact List.isPrefixOf_iff_prefix

theorem pre_false_iff {p s : Str} : pre p s = false ↔ ¬ p <+: s := by
  rw [← pre_iff]; simp

theorem blen_append (a b : Str) : blen (a ++ b) = blen a + blen b := by
  induction a with
  | nil => simp [blen]
  | cons c cs ih => simp [blen, ih]; omega

theorem blen_pos_of_ne_nil {s : Str} (h : s ≠ []) : 0 < blen s := by
  cases s with
  | nil => exact absurd rfl h
  | cons c cs =>
    have := Char.utf8Size_pos c
    simp [blen]; omega

theorem blen_lt_of_prefix_ne {n m : Str} (h : n <+: m) (hne : n ≠ m) : blen n < blen m := by
  obtain ⟨s, rfl⟩ := h
  have hs : s ≠ [] := by
    intro hs; apply hne; simp [hs]
  have := blen_pos_of_ne_nil hs
  rw [blen_append]; omega

theorem eq_nil_of_prefix_cons {s r : Str} {d : Char} (hd : d ∉ s) (h : s <+: d :: r) : s = [] := by
  cases s with
  | nil => rfl
  | cons c cs =>
    have hc : c = d := (List.cons_prefix_cons.mp h).1
    exact absurd (by simp [hc]) hd

theorem prefix_eq_of_blen_eq {a b s : Str} (ha : a <+: s) (hb : b <+: s) (h : blen a = blen b) : a = b :=
  Decidable.byContradiction fun hne => by
    rcases List.prefix_or_prefix_of_prefix ha hb with h1 | h1
    · have := blen_lt_of_prefix_ne h1 hne; omega
    · have := blen_lt_of_prefix_ne h1 (Ne.symm hne); omega

theorem prefix_append_of_blen_le {m n r : Str} (hp : m <+: n ++ r) (hne : n ≠ m) (hlen : blen n ≤ blen m) :
    ∃ s, m = n ++ s ∧ s <+: r := by
  rcases List.prefix_or_prefix_of_prefix hp (List.prefix_append n r) with h1 | h1
  · have := blen_lt_of_prefix_ne h1 (Ne.symm hne)
    omega
  · obtain ⟨s, rfl⟩ := h1
    exact ⟨s, rfl, (List.prefix_append_right_inj n).mp hp⟩

/-- The three scanners of the model (`replaceAux`, `parseAux`, `scanAux`) pass over a recognised name with a skip counter. -/
theorem skip_eq_drop {α : Type} {F : Nat → Str → α} (hnil : ∀ k, F k [] = F 0 [])
    (hskip : ∀ k c cs, F (k + 1) (c :: cs) = F k cs) : ∀ k cs, F k cs = F 0 (cs.drop k)
  | 0, _ => rfl
  | _ + 1, [] => hnil _
  | k + 1, c :: cs => (hskip k c cs).trans (skip_eq_drop hnil hskip k cs)

theorem replaceAux_skip (p : Char) (ps w : Str) (a rest : Str) :
    replaceAux p ps w a.length (a ++ rest) = replaceAux p ps w 0 rest := by
  rw [skip_eq_drop (F := replaceAux p ps w) (fun _ => rfl) (fun _ _ _ => rfl), List.drop_left]

theorem replaceAll1_nil (p : Char) (ps w : Str) : replaceAll1 p ps w [] = [] := by
  simp [replaceAll1, replaceAux]

theorem replaceAll1_hit (p : Char) (ps w rest : Str) :
    replaceAll1 p ps w (p :: (ps ++ rest)) = w ++ replaceAll1 p ps w rest := by
  have : pre ps (ps ++ rest) = true := pre_iff.mpr (List.prefix_append _ _)
  simp [replaceAll1, replaceAux, this, replaceAux_skip]

theorem replaceAll1_miss (p : Char) (ps w : Str) (c : Char) (cs : Str)
    (h : ¬ (c = p ∧ ps <+: cs)) :
    replaceAll1 p ps w (c :: cs) = c :: replaceAll1 p ps w cs := by
  have : ¬ (c = p ∧ pre ps cs = true) := by rw [pre_iff]; exact h
  simp [replaceAll1, replaceAux, this]

theorem scan_append_of_not_mem {F : Str → Str} {p : Char} (hcopy : ∀ c cs, c ≠ p → F (c :: cs) = c :: F cs) :
    ∀ (s rest : Str), p ∉ s → F (s ++ rest) = s ++ F rest
  | [], _, _ => rfl
  | c :: cs, rest, h => by
    rw [List.cons_append, hcopy c _ fun e => h (e ▸ List.mem_cons_self),
      scan_append_of_not_mem hcopy cs rest fun e => h (List.mem_cons_of_mem _ e), List.cons_append]

theorem replaceAll1_skip (p : Char) (ps w : Str) (s rest : Str) (h : p ∉ s) :
    replaceAll1 p ps w (s ++ rest) = s ++ replaceAll1 p ps w rest :=
  scan_append_of_not_mem (fun c cs hc => replaceAll1_miss p ps w c cs fun e => hc e.1) s rest h

theorem replaceAll1_of_not_contains (p : Char) (ps w : Str) (s : Str)
    (h : containsSub1 p ps s = false) : replaceAll1 p ps w s = s := by
  induction s with
  | nil => simp [replaceAll1_nil]
  | cons c cs ih =>
    simp only [containsSub1, Bool.or_eq_false_iff, Bool.and_eq_false_iff, decide_eq_false_iff_not] at h
    have hm : ¬ (c = p ∧ ps <+: cs) := by
      rintro ⟨e, hp⟩
      rcases h.1 with h1 | h1
      · exact h1 e
      · rw [pre_false_iff] at h1; exact h1 hp
    rw [replaceAll1_miss _ _ _ _ _ hm, ih h.2]

/-- The `if regex.contains(..)` guard of `MarkerString::new` does not change the strings. -/
theorem strReplace_fmt_of_not_contains (n w s : Str) (h : containsSub (fmt n) s = false) :
    strReplace (fmt n) w s = s := by
  simp only [fmt, containsSub] at h
  simp only [fmt, strReplace]
  exact replaceAll1_of_not_contains _ _ _ _ h

theorem longest_spec (ns : List Str) (s : Str) :
    match longest ns s with
    | none => ∀ m ∈ ns, ¬ m <+: s
    | some n => n ∈ ns ∧ n <+: s ∧ ∀ m ∈ ns, m <+: s → blen m ≤ blen n := by
  induction ns with
  | nil => simp [longest]
  | cons a as ih =>
    rw [longest]
    cases hl : longest as s with
    | none =>
      rw [hl] at ih
      cases hp : pre a s with
      | false => simpa [pre_false_iff.mp hp] using ih
      | true =>
        refine ⟨by simp, pre_iff.mp hp, fun m hm hpm => ?_⟩
        rcases List.mem_cons.mp hm with rfl | hm'
        · exact Nat.le_refl _
        · exact absurd hpm (ih m hm')
    | some b =>
      rw [hl] at ih
      obtain ⟨hb, hpb, hmax⟩ := ih
      by_cases hc : (pre a s && decide (blen b < blen a)) = true
      · simp only [if_pos hc]
        simp only [Bool.and_eq_true, decide_eq_true_eq] at hc
        refine ⟨by simp, pre_iff.mp hc.1, fun m hm hpm => ?_⟩
        rcases List.mem_cons.mp hm with rfl | hm'
        · exact Nat.le_refl _
        · have := hmax m hm' hpm; omega
      · simp only [if_neg hc]
        refine ⟨List.mem_cons_of_mem _ hb, hpb, fun m hm hpm => ?_⟩
        rcases List.mem_cons.mp hm with rfl | hm'
        · simp only [Bool.and_eq_true, decide_eq_true_eq, not_and, Nat.not_lt] at hc
          exact hc (pre_iff.mpr hpm)
        · exact hmax m hm' hpm

theorem longest_none {ns : List Str} {s : Str} (h : longest ns s = none) : ∀ m ∈ ns, ¬ m <+: s := by
  have := longest_spec ns s; rwa [h] at this

theorem longest_some {ns : List Str} {s n : Str} (h : longest ns s = some n) : n ∈ ns ∧ n <+: s := by
  have := longest_spec ns s; rw [h] at this; exact ⟨this.1, this.2.1⟩

theorem longest_max {ns : List Str} {s n : Str} (h : longest ns s = some n) :
    ∀ m ∈ ns, m <+: s → blen m ≤ blen n := by
  have := longest_spec ns s; rw [h] at this; exact this.2.2

theorem longest_eq_none_iff {ns : List Str} {s : Str} : longest ns s = none ↔ ∀ m ∈ ns, ¬ m <+: s := by
  constructor
  · exact longest_none
  · intro h
    cases hl : longest ns s with
    | none => rfl
    | some n => exact absurd (longest_some hl).2 (h n (longest_some hl).1)

theorem longest_eq_some_iff {ns : List Str} {s n : Str} :
    longest ns s = some n ↔ n ∈ ns ∧ n <+: s ∧ ∀ m ∈ ns, m <+: s → blen m ≤ blen n := by
  constructor
  · intro h; exact ⟨(longest_some h).1, (longest_some h).2, longest_max h⟩
  · rintro ⟨hn, hp, hmax⟩
    cases hl : longest ns s with
    | none => exact absurd hp (longest_none hl n hn)
    | some n' =>
      have h1 := longest_max hl n hn hp
      have h2 := hmax n' (longest_some hl).1 (longest_some hl).2
      rw [prefix_eq_of_blen_eq (longest_some hl).2 hp (by omega)]

theorem longest_congr {ns ns' : List Str} (h : ∀ m, m ∈ ns ↔ m ∈ ns') (s : Str) : longest ns s = longest ns' s := by
  cases hl : longest ns s with
  | none =>
    symm; rw [longest_eq_none_iff]
    intro m hm; exact longest_none hl m ((h m).mpr hm)
  | some n =>
    symm; rw [longest_eq_some_iff]
    obtain ⟨h1, h2, h3⟩ := longest_eq_some_iff.mp hl
    exact ⟨(h n).mp h1, h2, fun m hm => h3 m ((h m).mpr hm)⟩

theorem longest_cons_of_not_pre {n : Str} {ns : List Str} {s : Str} (h : pre n s = false) :
    longest (n :: ns) s = longest ns s := by
  rw [longest, h]; cases longest ns s <;> rfl

theorem parseAux_skip (ns : List Str) (k : Nat) (cs : Str) :
    parseAux ns k cs = parseAux ns 0 (cs.drop k) :=
  skip_eq_drop (fun _ => rfl) (fun _ _ _ => rfl) k cs

theorem parse_nil (ns : List Str) : parse ns [] = [] := by simp [parse, parseAux]

theorem parse_lit (ns : List Str) (c : Char) (cs : Str) (h : c ≠ '@') :
    parse ns (c :: cs) = .lit c :: parse ns cs := by
  simp [parse, parseAux, h]

theorem parse_ref (ns : List Str) (n r : Str) (h : longest ns (n ++ r) = some n) :
    parse ns ('@' :: (n ++ r)) = .ref n :: parse ns r := by
  simp only [parse, parseAux, h, if_true]
  rw [parseAux_skip, List.drop_left]

theorem parse_stray (ns : List Str) (cs : Str) (h : longest ns cs = none) :
    parse ns ('@' :: cs) = .stray :: parse ns cs := by
  simp [parse, parseAux, h]

theorem parse_induction (ns : List Str) (P : Str → Prop)
    (hnil : P [])
    (hlit : ∀ c cs, c ≠ '@' → P cs → P (c :: cs))
    (href : ∀ n r, longest ns (n ++ r) = some n → P r → P ('@' :: (n ++ r)))
    (hstray : ∀ cs, longest ns cs = none → P cs → P ('@' :: cs)) :
    ∀ t, P t := by
  intro t
  induction hlen : t.length using Nat.strongRecOn generalizing t with
  | _ k ih =>
    cases t with
    | nil => exact hnil
    | cons c cs =>
      by_cases hc : c = '@'
      · subst hc
        cases hl : longest ns cs with
        | none => exact hstray cs hl (ih cs.length (by simp at hlen; omega) cs rfl)
        | some n =>
          obtain ⟨r, rfl⟩ := (longest_some hl).2
          exact href n r hl (ih r.length (by simp at hlen; omega) r rfl)
      · exact hlit c cs hc (ih cs.length (by simp at hlen; omega) cs rfl)

theorem render_cons (esc : Char → Str) (i : Item) (is : List Item) :
    render esc (i :: is) = i.render esc ++ render esc is := by
  simp [render]

theorem render_nil (esc : Char → Str) : render esc [] = [] := rfl

theorem render_parse (ns : List Str) (t : Str) : render idEsc (parse ns t) = t := by
  induction t using parse_induction ns with
  | hnil => rfl
  | hlit c cs hc ih => rw [parse_lit _ _ _ hc, render_cons, ih]; rfl
  | href n r hl ih => rw [parse_ref _ _ _ hl, render_cons, ih]; rfl
  | hstray cs hl ih => rw [parse_stray _ _ hl, render_cons, ih]; rfl

/-- What one `str::replace(fmt m, w)` does to an item (`replace_render`); `fill` is one `fill1` per entry (`fill_cons`). -/
def fill1 (m w : Str) : Item → Item
  | .ref n => if n = m then .txt w else .ref n
  | i => i

/-- `is'` is `is` with some of the references to `m` filled by the text `w`: all of them (`map (fill1 m w)`, what one
`str::replace` does) or only the first (`fillFirst m w` of Proofs/MarkerRegex, what `str::replacen(.., 1)` does). -/
inductive Fills (m w : Str) : List Item → List Item → Prop
  | nil : Fills m w [] []
  | keep (i : Item) {is is' : List Item} : Fills m w is is' → Fills m w (i :: is) (i :: is')
  | fill {is is' : List Item} : Fills m w is is' → Fills m w (.ref m :: is) (.txt w :: is')

theorem Fills.refl (m w : Str) : ∀ is, Fills m w is is
  | [] => .nil
  | i :: is => .keep i (Fills.refl m w is)

theorem fills_map_fill1 (m w : Str) : ∀ is, Fills m w is (is.map (fill1 m w))
  | [] => .nil
  | .ref n :: is => by
    rw [List.map_cons, fill1]
    by_cases hn : n = m
    · rw [if_pos hn, hn]; exact .fill (fills_map_fill1 m w is)
    · rw [if_neg hn]; exact .keep _ (fills_map_fill1 m w is)
  | .lit c :: is => .keep _ (fills_map_fill1 m w is)
  | .txt s :: is => .keep _ (fills_map_fill1 m w is)
  | .stray :: is => .keep _ (fills_map_fill1 m w is)

section
variable {m w : Str} {is is' : List Item} (h : Fills m w is is')
include h

theorem Fills.mem : ∀ i ∈ is', i = .txt w ∨ i ∈ is := by
  induction h with
  | nil => exact fun _ hi => nomatch hi
  | keep j _ ih =>
    exact List.forall_mem_cons.mpr ⟨.inr List.mem_cons_self, fun i hi => (ih i hi).imp_right (List.mem_cons_of_mem _)⟩
  | fill _ ih =>
    exact List.forall_mem_cons.mpr ⟨.inl rfl, fun i hi => (ih i hi).imp_right (List.mem_cons_of_mem _)⟩

theorem Fills.mem_ref {n : Str} (hn : n ≠ m) : Item.ref n ∈ is' ↔ Item.ref n ∈ is := by
  induction h with
  | nil => exact Iff.rfl
  | keep j _ ih => rw [List.mem_cons, List.mem_cons, ih]
  | fill _ ih =>
    rw [List.mem_cons, List.mem_cons, ih]
    exact or_congr_left ⟨fun e => (nomatch e), fun e => absurd (Item.ref.inj e) hn⟩

theorem Fills.eq_of_not_mem (hm : Item.ref m ∉ is) : is' = is := by
  induction h with
  | nil => rfl
  | keep j _ ih => rw [ih fun e => hm (List.mem_cons_of_mem _ e)]
  | fill _ _ => exact absurd List.mem_cons_self hm

end

/-- `R n post` at every `ref n` and `S post` at every stray `@`, `post` = the items after it: the recursion that `Sep`,
`NoJoinP` (`noJoinP_iff`) and `PlainInv` (Proofs/MarkerRegex) share.  `AtRefs.imp` weakens pointwise, knowing that the
position is a suffix of the list. -/
def AtRefs (R : Str → List Item → Prop) (S : List Item → Prop) : List Item → Prop
  | [] => True
  | .ref n :: post => R n post ∧ AtRefs R S post
  | .stray :: post => S post ∧ AtRefs R S post
  | _ :: post => AtRefs R S post

theorem AtRefs.imp {R R' : Str → List Item → Prop} {S S' : List Item → Prop} {is : List Item}
    (hR : ∀ n post, .ref n :: post <:+ is → R n post → R' n post)
    (hS : ∀ post, .stray :: post <:+ is → S post → S' post) (h : AtRefs R S is) : AtRefs R' S' is := by
  induction is with
  | nil => trivial
  | cons i is ih =>
    have ih := ih (fun n post hs => hR n post (hs.trans (List.suffix_cons _ _)))
      (fun post hs => hS post (hs.trans (List.suffix_cons _ _)))
    cases i with
    | lit _ | txt _ => exact ih h
    | stray => exact ⟨hS is (List.suffix_refl _) h.1, ih h.2⟩
    | ref n => exact ⟨hR n is (List.suffix_refl _) h.1, ih h.2⟩

/-- `@m` occurs in the rendering only where a `ref m` item stands: at a reference to another name and at a
stray `@`, the text that follows does not read as `m`. -/
def Sep (esc : Char → Str) (m : Str) : List Item → Prop :=
  AtRefs (fun n post => n ≠ m → ¬ m <+: n ++ render esc post) (fun post => ¬ m <+: render esc post)

/-- `@` occurs in the rendering only at stray `@`s and at the head of references. -/
structure Clean (esc : Char → Str) (is : List Item) : Prop where
  lit : ∀ c, Item.lit c ∈ is → '@' ∉ esc c
  txt : ∀ s, Item.txt s ∈ is → '@' ∉ s
  ref : ∀ n, Item.ref n ∈ is → '@' ∉ n

theorem Clean.tail {esc : Char → Str} {i : Item} {is : List Item} (h : Clean esc (i :: is)) : Clean esc is :=
  ⟨fun c hc => h.lit c (List.mem_cons_of_mem _ hc), fun s hs => h.txt s (List.mem_cons_of_mem _ hs),
   fun n hn => h.ref n (List.mem_cons_of_mem _ hn)⟩

/-- One `str::replace` = filling one name: under `Clean` and `Sep` the scanner finds `@m` exactly at the `ref m` items, so
it passes item by item (`replaceAll1_skip`, `_miss`, `_hit`). -/
theorem replace_render (esc : Char → Str) (m w : Str) (is : List Item)
    (hclean : Clean esc is) (hsep : Sep esc m is) :
    replaceAll1 '@' m w (render esc is) = render esc (is.map (fill1 m w)) := by
  induction is with
  | nil => rfl
  | cons i is ih =>
    have ih' := ih hclean.tail
    rw [List.map_cons, render_cons, render_cons]
    cases i with
    | lit c => rw [← ih' hsep]; exact replaceAll1_skip _ _ _ _ _ (hclean.lit c List.mem_cons_self)
    | txt s => rw [← ih' hsep]; exact replaceAll1_skip _ _ _ _ _ (hclean.txt s List.mem_cons_self)
    | stray => rw [← ih' hsep.2]; exact replaceAll1_miss _ _ _ _ _ fun h => hsep.1 h.2
    | ref n =>
      rw [fill1, ← ih' hsep.2]
      by_cases hn : n = m
      · rw [if_pos hn, hn]; exact replaceAll1_hit _ _ _ _
      · rw [if_neg hn]
        exact (replaceAll1_miss _ _ _ _ _ fun h => hsep.1 hn h.2).trans
          (congrArg _ (replaceAll1_skip _ _ _ _ _ (hclean.ref n List.mem_cons_self)))

theorem fill1_eq_ref {m w n : Str} {i : Item} : fill1 m w i = .ref n ↔ i = .ref n ∧ n ≠ m := by
  cases i with
  | ref k =>
    by_cases h : k = m
    · simp only [fill1, if_pos h, reduceCtorEq, Item.ref.injEq, false_iff, not_and]
      intro e hne; exact hne (e ▸ h)
    · simp only [fill1, if_neg h, Item.ref.injEq, iff_self_and]
      intro e; rw [← e]; exact h
  | _ => simp [fill1]

theorem mem_map_fill1_ref (m w n : Str) (is : List Item) :
    Item.ref n ∈ is.map (fill1 m w) ↔ Item.ref n ∈ is ∧ n ≠ m := by
  simp only [List.mem_map, fill1_eq_ref]
  constructor
  · rintro ⟨i, hi, rfl, hne⟩; exact ⟨hi, hne⟩
  · rintro ⟨hi, hne⟩; exact ⟨_, hi, rfl, hne⟩

theorem clean_of_sub (esc : Char → Str) (w : Str) (hw : '@' ∉ w) (is is' : List Item)
    (hsub : ∀ i ∈ is', i = .txt w ∨ i ∈ is) (h : Clean esc is) : Clean esc is' :=
  ⟨fun c hc => (hsub _ hc).elim (fun e => nomatch e) (h.lit c),
   fun x hx => (hsub _ hx).elim (fun e => Item.txt.inj e ▸ hw) (h.txt x),
   fun n hn => (hsub _ hn).elim (fun e => nomatch e) (h.ref n)⟩

theorem refs_map_fill1 {β : Type} {m w : Str} {v : β} {rest : List (Str × β)} {is : List Item}
    (hrefs : ∀ n, Item.ref n ∈ is → n ∈ names ((m, v) :: rest)) :
    ∀ n, Item.ref n ∈ is.map (fill1 m w) → n ∈ names rest := fun n hn => by
  obtain ⟨h1, h2⟩ := (mem_map_fill1_ref m w n is).mp hn
  exact (List.mem_cons.mp (hrefs n h1)).resolve_left h2

/-- Longest name first, by UTF-8 byte length (`blen`), ties allowed: what the sort by a `LawfulBefore` order establishes
(`sorted_sortBy`). -/
def Sorted {β : Type} (vs : List (Str × β)) : Prop := vs.Pairwise fun a b => blen b.1 ≤ blen a.1

theorem Sorted.blen_le_head {β : Type} {p : Str × β} {rest : List (Str × β)} (h : Sorted (p :: rest)) :
    ∀ n ∈ names (p :: rest), blen n ≤ blen p.1 :=
  List.forall_mem_cons.mpr ⟨Nat.le_refl _, List.forall_mem_map.mpr (List.pairwise_cons.mp h).1⟩

/-- Prop form of `noJoinItems` (`noJoinItems_iff`); only the last block speaks of it. -/
def NoJoinP (esc : Char → Str) (vs : List (Str × Str)) : List Item → Prop
  | [] => True
  | .ref n :: post =>
    (∀ m ∈ names vs, n <+: m → n ≠ m → ¬ m <+: n ++ render esc (post.map (fill vs))) ∧ NoJoinP esc vs post
  | .stray :: post => (∀ m ∈ names vs, ¬ m <+: render esc (post.map (fill vs))) ∧ NoJoinP esc vs post
  | _ :: post => NoJoinP esc vs post

theorem fill_cons (m w : Str) (rest : List (Str × Str)) (i : Item) :
    fill ((m, w) :: rest) i = fill rest (fill1 m w i) := by
  cases i with
  | ref n =>
    by_cases h : n = m
    · subst h; simp [fill, fill1, List.lookup]
    · have : (n == m) = false := by simpa using h
      simp [fill, fill1, List.lookup, this, h]
  | _ => simp [fill, fill1]

theorem map_fill_cons (m w : Str) (rest : List (Str × Str)) (is : List Item) :
    is.map (fill ((m, w) :: rest)) = (is.map (fill1 m w)).map (fill rest) := by
  simp [List.map_map, Function.comp_def, fill_cons]

theorem fill_nil (i : Item) : fill [] i = i := by
  cases i <;> simp [fill, List.lookup]

theorem fill_congr {vs vs' : List (Str × Str)} (hl : ∀ n, vs.lookup n = vs'.lookup n) : fill vs = fill vs' := by
  funext i
  cases i with
  | ref n => simp [fill, hl n]
  | _ => simp [fill]

/-- What the substitution needs of the comparator: it is a longest-first order (`before a b` only if `a` is at
least as long, `¬ before a b` only if `b` is at least as long) and strict (never relates a name to itself, so a
stable sort keeps the first entry of every name first). -/
structure LawfulBefore (before : Str → Str → Bool) : Prop where
  len_of_before : ∀ a b, before a b = true → blen b ≤ blen a
  len_of_not : ∀ a b, before a b = false → blen a ≤ blen b
  irrefl : ∀ a, before a a = false

theorem lawful_lenBefore : LawfulBefore lenBefore := by
  refine ⟨?_, ?_, ?_⟩
  · intro a b h; simp [lenBefore] at h; omega
  · intro a b h; simp [lenBefore] at h; omega
  · intro a; simp [lenBefore]

theorem strLt_iff {a b : Str} : strLt a b = true ↔ a.map Char.toNat < b.map Char.toNat := by
  induction a generalizing b with
  | nil => cases b <;> simp [strLt]
  | cons x xs ih =>
    cases b with
    | nil => simp [strLt]
    | cons y ys => simp [strLt, List.cons_lt_cons_iff, ih, Char.toNat_inj]

theorem strLt_irrefl (a : Str) : strLt a a = false :=
  Bool.eq_false_iff.mpr fun h => List.lt_irrefl _ (strLt_iff.mp h)

theorem varBefore_iff {a b : Str} :
    varBefore a b = true ↔ blen b < blen a ∨ (blen a = blen b ∧ strLt a b = true) := by
  simp [varBefore]

theorem varBefore_eq_false_iff {a b : Str} :
    varBefore a b = false ↔ blen a ≤ blen b ∧ (blen a = blen b → strLt a b = false) := by
  simp [← Bool.not_eq_true, varBefore_iff]

theorem lawful_varBefore : LawfulBefore varBefore := by
  refine ⟨?_, ?_, ?_⟩
  · intro a b h
    rcases varBefore_iff.mp h with h | h <;> omega
  · intro a b h
    have := (varBefore_eq_false_iff.mp h).1
    omega
  · intro a; simp [varBefore, strLt_irrefl]

section generic
variable {before : Str → Str → Bool}

theorem perm_insertBy {β : Type} (x : Str × β) (l : List (Str × β)) :
    (insertBy before x l).Perm (x :: l) := by
  induction l with
  | nil => simp [insertBy]
  | cons y ys ih =>
    simp only [insertBy]
    split
    · exact (List.Perm.cons y ih).trans (List.Perm.swap x y ys)
    · exact List.Perm.refl _

theorem perm_sortBy {β : Type} (l : List (Str × β)) : (sortBy before l).Perm l := by
  induction l with
  | nil => simp [sortBy]
  | cons x xs ih => exact (perm_insertBy x _).trans (List.Perm.cons x ih)

theorem mem_insertBy {β : Type} (x y : Str × β) (l : List (Str × β)) :
    y ∈ insertBy before x l ↔ y = x ∨ y ∈ l :=
  (perm_insertBy x l).mem_iff.trans List.mem_cons

theorem mem_sortBy {β : Type} (y : Str × β) (l : List (Str × β)) : y ∈ sortBy before l ↔ y ∈ l :=
  (perm_sortBy l).mem_iff

/-- The stable insertion keeps `R` if what `x` passes stands in `R` before `x` (`hpass`), what `x` stops at stands in `R`
after `x` (`hstop`), and `R` is transitive to the right of `x` (`hthen`).  Instances: `Sorted` (`sorted_sortBy`), `VarLe`
(`pairwise_sortVars`). -/
theorem pairwise_insertBy {β : Type} {R : Str × β → Str × β → Prop} (x : Str × β)
    (hpass : ∀ z, before z.1 x.1 = true → R z x) (hstop : ∀ z, before z.1 x.1 = false → R x z)
    (hthen : ∀ z y, R x z → R z y → R x y) (l : List (Str × β)) (h : l.Pairwise R) :
    (insertBy before x l).Pairwise R := by
  induction l with
  | nil => simp [insertBy]
  | cons z zs ih =>
    have hz := List.pairwise_cons.mp h
    simp only [insertBy]
    split
    · rename_i hbz
      refine List.pairwise_cons.mpr ⟨fun y hy => ?_, ih hz.2⟩
      rcases (mem_insertBy x y zs).mp hy with rfl | hy'
      · exact hpass _ hbz
      · exact hz.1 y hy'
    · rename_i hnb
      have hxz : R x z := hstop z (by simpa using hnb)
      refine List.pairwise_cons.mpr ⟨fun y hy => ?_, h⟩
      rcases List.mem_cons.mp hy with rfl | hy'
      · exact hxz
      · exact hthen z y hxz (hz.1 y hy')

theorem pairwise_sortBy {β : Type} {R : Str × β → Str × β → Prop}
    (hpass : ∀ x z : Str × β, before z.1 x.1 = true → R z x) (hstop : ∀ x z : Str × β, before z.1 x.1 = false → R x z)
    (htrans : ∀ x z y, R x z → R z y → R x y) (l : List (Str × β)) : (sortBy before l).Pairwise R := by
  induction l with
  | nil => simp [sortBy]
  | cons x xs ih => exact pairwise_insertBy x (hpass x) (hstop x) (htrans x) _ ih

theorem sorted_sortBy (hb : LawfulBefore before) {β : Type} (l : List (Str × β)) : Sorted (sortBy before l) :=
  pairwise_sortBy (R := fun a b => blen b.1 ≤ blen a.1) (fun _ _ => hb.len_of_before _ _)
    (fun _ _ => hb.len_of_not _ _) (fun _ _ _ h1 h2 => Nat.le_trans h2 h1) l

/-- Stability: the element that is moved only passes names different from its own, so the first entry of every
name stays the first. -/
theorem lookup_insertBy (hb : LawfulBefore before) {β : Type} (x : Str × β) (l : List (Str × β)) (n : Str) :
    (insertBy before x l).lookup n = (x :: l).lookup n := by
  induction l with
  | nil => simp [insertBy]
  | cons z zs ih =>
    simp only [insertBy]
    split
    · rename_i hbz
      have hne : z.1 ≠ x.1 := by
        intro e; rw [e, hb.irrefl] at hbz; simp at hbz
      obtain ⟨zk, zv⟩ := z
      obtain ⟨xk, xv⟩ := x
      simp only [List.lookup_cons] at ih ⊢
      rw [ih]
      by_cases h1 : n = zk
      · subst h1
        have : (n == xk) = false := by simpa using hne
        simp [this]
      · have : (n == zk) = false := by simpa using h1
        simp [this]
    · rfl

theorem lookup_sortBy (hb : LawfulBefore before) {β : Type} (l : List (Str × β)) (n : Str) :
    (sortBy before l).lookup n = l.lookup n := by
  induction l with
  | nil => simp [sortBy]
  | cons x xs ih =>
    obtain ⟨xk, xv⟩ := x
    simp only [sortBy]
    rw [lookup_insertBy hb]
    simp only [List.lookup_cons, ih]

theorem mem_names_sortBy {β : Type} (l : List (Str × β)) (n : Str) :
    n ∈ names (sortBy before l) ↔ n ∈ names l := by
  simp only [names, List.mem_map, mem_sortBy]

theorem fill_sortBy (hb : LawfulBefore before) (vs : List (Str × Str)) : fill (sortBy before vs) = fill vs :=
  fill_congr (lookup_sortBy hb vs)

end generic

theorem mem_sortByLen {β : Type} (y : Str × β) (l : List (Str × β)) : y ∈ sortByLen l ↔ y ∈ l := mem_sortBy y l
theorem sorted_sortByLen {β : Type} (l : List (Str × β)) : Sorted (sortByLen l) := sorted_sortBy lawful_lenBefore l
theorem lookup_sortByLen {β : Type} (l : List (Str × β)) (n : Str) : (sortByLen l).lookup n = l.lookup n :=
  lookup_sortBy lawful_lenBefore l n
theorem mem_names_sortByLen {β : Type} (l : List (Str × β)) (n : Str) : n ∈ names (sortByLen l) ↔ n ∈ names l :=
  mem_names_sortBy l n
theorem fill_sortByLen (vs : List (Str × Str)) : fill (sortByLen vs) = fill vs := fill_sortBy lawful_lenBefore vs

theorem parse_items (ns : List Str) (t : Str) : ∀ i ∈ parse ns t,
    match i with
    | .lit c => c ≠ '@'
    | .ref n => n ∈ ns
    | .txt _ => False
    | .stray => True := by
  induction t using parse_induction ns with
  | hnil => simp [parse_nil]
  | hlit c cs hc ih => rw [parse_lit _ _ _ hc]; exact List.forall_mem_cons.mpr ⟨hc, ih⟩
  | href n r hl ih => rw [parse_ref _ _ _ hl]; exact List.forall_mem_cons.mpr ⟨(longest_some hl).1, ih⟩
  | hstray cs hl ih => rw [parse_stray _ _ hl]; exact List.forall_mem_cons.mpr ⟨trivial, ih⟩

theorem parse_refs (ns : List Str) (t : Str) : ∀ n, Item.ref n ∈ parse ns t → n ∈ ns :=
  fun _ h => parse_items ns t _ h

theorem parse_no_txt (ns : List Str) (t : Str) : ∀ s, Item.txt s ∉ parse ns t :=
  fun _ h => parse_items ns t _ h

theorem parse_lit_ne_at (ns : List Str) (t : Str) : ∀ c, Item.lit c ∈ parse ns t → c ≠ '@' :=
  fun _ h => parse_items ns t _ h

theorem clean_parse (esc : Char → Str) (ns : List Str) (t : Str) (hesc : ∀ c, c ≠ '@' → '@' ∉ esc c)
    (hns : ∀ n ∈ ns, '@' ∉ n) : Clean esc (parse ns t) :=
  ⟨fun c hc => hesc c (parse_lit_ne_at ns t c hc), fun s hs => absurd hs (parse_no_txt ns t s),
   fun n hn => hns n (parse_refs ns t n hn)⟩

theorem noAt_iff (s : Str) : noAt s = true ↔ '@' ∉ s := by
  simp [noAt]

theorem parse_congr {ns ns' : List Str} (h : ∀ m, m ∈ ns ↔ m ∈ ns') (t : Str) : parse ns t = parse ns' t := by
  induction t using parse_induction ns with
  | hnil => rw [parse_nil, parse_nil]
  | hlit c cs hc ih => rw [parse_lit _ _ _ hc, parse_lit _ _ _ hc, ih]
  | href n r hl ih => rw [parse_ref _ _ _ hl, parse_ref _ _ _ (longest_congr h _ ▸ hl), ih]
  | hstray cs hl ih => rw [parse_stray _ _ hl, parse_stray _ _ (longest_congr h cs ▸ hl), ih]

theorem subst_congr {vs vs' : List (Str × Str)} (hn : ∀ m, m ∈ names vs ↔ m ∈ names vs')
    (hl : ∀ n, vs.lookup n = vs'.lookup n) (t : Str) : subst vs t = subst vs' t := by
  unfold subst
  rw [parse_congr hn t, fill_congr hl]

theorem mem_names_iff_lookup {β : Type} (l : List (Str × β)) (n : Str) :
    n ∈ names l ↔ (l.lookup n).isSome = true := by
  rw [List.lookup_isSome_iff]; simp [names]

theorem lookup_some_of_mem_names {β : Type} (l : List (Str × β)) (n : Str) (h : n ∈ names l) :
    ∃ v, l.lookup n = some v :=
  Option.isSome_iff_exists.mp ((mem_names_iff_lookup l n).mp h)

theorem lookup_map_value {β γ : Type} (g : Str → β → γ) (l : List (Str × β)) (n : Str) :
    (l.map fun p => (p.1, g p.1 p.2)).lookup n = (l.lookup n).map (g n) := by
  induction l with
  | nil => rfl
  | cons p ps ih =>
    obtain ⟨k, v⟩ := p
    simp only [List.map_cons, List.lookup_cons]
    cases h : n == k with
    | false => exact ih
    | true => rw [eq_of_beq h]; rfl

theorem strLt_asymm (a b : Str) (h : strLt a b = true) : strLt b a = false :=
  Bool.eq_false_iff.mpr fun h' => List.lt_asymm (strLt_iff.mp h) (strLt_iff.mp h')

theorem strLt_eq_false_iff {a b : Str} : strLt a b = false ↔ b.map Char.toNat ≤ a.map Char.toNat := by
  rw [← Bool.not_eq_true, strLt_iff, List.not_lt]

theorem strLt_total (a b : Str) (h1 : strLt a b = false) (h2 : strLt b a = false) : a = b :=
  (List.map_inj_right fun _ _ h => Char.toNat_inj.mp h).mp
    (List.le_antisymm (strLt_eq_false_iff.mp h2) (strLt_eq_false_iff.mp h1))

theorem strLt_false_trans {a b c : Str} (h1 : strLt b a = false) (h2 : strLt c b = false) : strLt c a = false :=
  strLt_eq_false_iff.mpr (List.le_trans (strLt_eq_false_iff.mp h1) (strLt_eq_false_iff.mp h2))

theorem varBefore_asymm (a b : Str) (h : varBefore a b = true) : varBefore b a = false := by
  rw [varBefore_eq_false_iff]
  rcases varBefore_iff.mp h with h | ⟨h, hs⟩
  · exact ⟨by omega, fun e => by omega⟩
  · exact ⟨by omega, fun _ => strLt_asymm a b hs⟩

theorem varBefore_total (a b : Str) (h1 : varBefore a b = false) (h2 : varBefore b a = false) : a = b := by
  rw [varBefore_eq_false_iff] at h1 h2
  have hlen : blen a = blen b := by omega
  exact strLt_total a b (h1.2 hlen) (h2.2 hlen.symm)

def VarLe {β : Type} (p q : Str × β) : Prop := varBefore q.1 p.1 = false

theorem varLe_trans {β : Type} (p q r : Str × β) (h1 : VarLe p q) (h2 : VarLe q r) : VarLe p r := by
  unfold VarLe at *
  rw [varBefore_eq_false_iff] at *
  exact ⟨by omega, fun e => strLt_false_trans (h1.2 (by omega)) (h2.2 (by omega))⟩

theorem pairwise_sortVars {β : Type} (l : List (Str × β)) : (sortVars l).Pairwise VarLe :=
  pairwise_sortBy (R := VarLe) (fun _ _ => varBefore_asymm _ _) (fun _ _ h => h) varLe_trans l

/-- `varBefore` is a strict total order on names (`varBefore_asymm`, `varBefore_total`), so the sorted list of a
duplicate-free variable map does not depend on the order in which the `HashMap` yields it. -/
theorem sortVars_perm {β : Type} (l l' : List (Str × β)) (hperm : l.Perm l') (hnd : (names l).Nodup) :
    sortVars l = sortVars l' := by
  apply List.Perm.eq_of_pairwise (le := VarLe) ?_ (pairwise_sortVars l) (pairwise_sortVars l')
  · exact ((perm_sortBy l).trans hperm).trans (perm_sortBy l').symm
  · intro p q hp hq h1 h2
    have hp' : p ∈ l := (mem_sortBy p l).mp hp
    have hq' : q ∈ l := hperm.mem_iff.mpr ((mem_sortBy q l').mp hq)
    exact Rio.Util.eq_of_nodup_map hnd hp' hq' (varBefore_total _ _ h2 h1)

/-- On a longest-first list the first entry whose name fits is the entry of the longest fitting name (an earlier fitting
entry is at least as long), with the value `lookup` finds. -/
theorem firstMatch_sorted (l : List (Str × Str)) (hs : Sorted l) (s : Str) :
    firstMatch l s = (longest (names l) s).bind fun n => (l.lookup n).map fun v => (n, v) := by
  induction l with
  | nil => rfl
  | cons p rest ih =>
    obtain ⟨k, v⟩ := p
    rw [firstMatch]
    cases hk : pre k s with
    | true =>
      have : longest (names ((k, v) :: rest)) s = some k :=
        longest_eq_some_iff.mpr ⟨List.mem_cons_self, pre_iff.mp hk, fun m hm _ => hs.blen_le_head m hm⟩
      rw [if_pos rfl, this, Option.bind_some, List.lookup_cons_self]; rfl
    | false =>
      rw [if_neg Bool.false_ne_true, ih (List.pairwise_cons.mp hs).2]
      show _ = (longest (k :: names rest) s).bind _
      rw [longest_cons_of_not_pre hk]
      cases hl : longest (names rest) s with
      | none => rfl
      | some b =>
        have : b ≠ k := fun e => pre_false_iff.mp hk (e ▸ (longest_some hl).2)
        rw [Option.bind_some, Option.bind_some, List.lookup_cons, beq_false_of_ne this]

theorem firstMatch_sortBy (before : Str → Str → Bool) (hb : LawfulBefore before) (vs : List (Str × Str)) (s : Str) :
    firstMatch (sortBy before vs) s = (longest (names vs) s).bind fun n => (vs.lookup n).map fun v => (n, v) := by
  rw [firstMatch_sorted _ (sorted_sortBy hb vs), longest_congr (fun m => mem_names_sortBy vs m) s]
  cases longest (names vs) s with
  | none => rfl
  | some n => simp [lookup_sortBy hb]

/-- Scanner and parser walk in step, skip counter included: at an `@` the scanner's first fitting entry is the parser's longest
fitting name with the value `fill` looks up (`firstMatch_sortBy`). -/
theorem scanAux_eq (before : Str → Str → Bool) (hb : LawfulBefore before) (vs : List (Str × Str)) (k : Nat) (t : Str) :
    scanAux (sortBy before vs) k t = render idEsc ((parseAux (names vs) k t).map (fill vs)) := by
  induction t generalizing k with
  | nil => cases k <;> simp [scanAux, parseAux, render]
  | cons c cs ih =>
    cases k with
    | succ k => simp only [scanAux, parseAux]; exact ih k
    | zero =>
      simp only [scanAux, parseAux]
      by_cases hc : c = '@'
      · subst hc
        simp only [if_true, firstMatch_sortBy before hb]
        cases hl : longest (names vs) cs with
        | none =>
          simp only [Option.bind_none, List.map_cons, fill, render_cons, Item.render, ih 0]
          rfl
        | some n =>
          obtain ⟨v, hv⟩ := lookup_some_of_mem_names vs n (longest_some hl).1
          simp only [Option.bind_some, hv, Option.map_some, List.map_cons, fill, render_cons, Item.render, ih n.length]
      · simp only [if_neg hc, List.map_cons, fill, render_cons, Item.render, idEsc, ih 0]
        rfl

/-! The last block: `C10.sequential_replace_substitution` only. -/

theorem noJoinP_iff (esc : Char → Str) (vs : List (Str × Str)) (is : List Item) :
    NoJoinP esc vs is ↔
      AtRefs (fun n post => ∀ m ∈ names vs, n <+: m → n ≠ m → ¬ m <+: n ++ render esc (post.map (fill vs)))
        (fun post => ∀ m ∈ names vs, ¬ m <+: render esc (post.map (fill vs))) is := by
  induction is with
  | nil => exact Iff.rfl
  | cons i is ih => cases i <;> simp only [NoJoinP, AtRefs, ih]

theorem properExt_iff {n m : Str} : properExt n m = true ↔ n <+: m ∧ n ≠ m := by
  simp [properExt, pre_iff]

theorem noJoinItems_iff (esc : Char → Str) (vs : List (Str × Str)) (is : List Item) :
    noJoinItems esc vs is = true ↔ NoJoinP esc vs is := by
  induction is with
  | nil => simp [noJoinItems, NoJoinP]
  | cons i is ih =>
    cases i with
    | lit _ | txt _ => simp [noJoinItems, NoJoinP, ih]
    | stray =>
      simp only [noJoinItems, NoJoinP, Bool.and_eq_true, List.all_eq_true, Bool.not_eq_true', ih,
        pre_false_iff]
    | ref n =>
      simp only [noJoinItems, NoJoinP, Bool.and_eq_true, List.all_eq_true, Bool.not_eq_true', ih,
        ← Bool.not_eq_true, properExt_iff, pre_iff, not_and, and_imp]

theorem noJoinP_congr (esc : Char → Str) {vs vs' : List (Str × Str)} (hn : ∀ m, m ∈ names vs ↔ m ∈ names vs')
    (hl : ∀ n, vs.lookup n = vs'.lookup n) (is : List Item) (h : NoJoinP esc vs is) : NoJoinP esc vs' is := by
  rw [noJoinP_iff] at h ⊢
  rw [← fill_congr hl]
  exact h.imp (fun n post _ h m hm => h m ((hn m).mpr hm)) (fun post _ h m hm => h m ((hn m).mpr hm))

theorem noJoinP_sortBy {before : Str → Str → Bool} (hb : LawfulBefore before) (esc : Char → Str) (vs : List (Str × Str)) (is : List Item)
    (h : NoJoinP esc vs is) : NoJoinP esc (sortBy before vs) is :=
  noJoinP_congr esc (fun m => (mem_names_sortBy vs m).symm) (fun n => (lookup_sortBy hb vs n).symm) is h

/-- An `@`-free prefix of a rendering ends before the first `ref` / `stray` item (both render with a leading `@`: `atHead`),
and up to there `f` changes nothing (`key`). -/
theorem prefix_map_of_noAt (esc : Char → Str) (f : Item → Item)
    (hf : ∀ i, (∀ n, i ≠ .ref n) → f i = i) (is : List Item) (s : Str) (hs : '@' ∉ s)
    (h : s <+: render esc is) : s <+: render esc (is.map f) := by
  induction is generalizing s with
  | nil => simpa [render_nil] using h
  | cons i is ih =>
    rw [render_cons] at h
    rw [List.map_cons, render_cons]
    have key : ∀ x : Str, s <+: x ++ render esc is → s <+: x ++ render esc (is.map f) := by
      intro x hx
      rcases List.prefix_or_prefix_of_prefix hx (List.prefix_append x (render esc is)) with h1 | h1
      · exact h1.trans (List.prefix_append _ _)
      · obtain ⟨s', rfl⟩ := h1
        have hs' : '@' ∉ s' := fun e => hs (by simp [e])
        have := ih s' hs' ((List.prefix_append_right_inj x).mp hx)
        exact (List.prefix_append_right_inj x).mpr this
    have atHead : ∀ r r' : Str, s <+: '@' :: r → s <+: r' := fun r r' hx => by
      rw [eq_nil_of_prefix_cons hs hx]; exact List.nil_prefix
    cases i with
    | lit c => rw [hf (.lit c) (by simp)]; exact key _ h
    | txt x => rw [hf (.txt x) (by simp)]; exact key _ h
    | stray =>
      rw [hf .stray (by simp)]
      exact atHead _ _ (by simpa [Item.render] using h)
    | ref n => exact atHead _ _ (by simpa [Item.render] using h)

theorem fill_fixes (vs : List (Str × Str)) (i : Item) (h : ∀ n, i ≠ .ref n) : fill vs i = i := by
  cases i with
  | ref n => exact absurd rfl (h n)
  | _ => simp [fill]

theorem sep_of_noJoin (esc : Char → Str) (m w : Str) (rest : List (Str × Str)) (is : List Item)
    (hsorted : Sorted ((m, w) :: rest)) (hm : '@' ∉ m)
    (hrefs : ∀ n, Item.ref n ∈ is → n ∈ names ((m, w) :: rest))
    (hnj : NoJoinP esc ((m, w) :: rest) is) : Sep esc m is := by
  have hmem : m ∈ names ((m, w) :: rest) := by simp [names]
  rw [noJoinP_iff] at hnj
  refine hnj.imp ?_ ?_
  · intro n post hsuf h hne hp
    -- `m` is not a proper prefix of `n` by the sort (longer names first); `n` a proper prefix of `m` is excluded by
    -- the no-join condition
    obtain ⟨s', rfl, h2⟩ := prefix_append_of_blen_le hp hne
      (hsorted.blen_le_head n (hrefs n (hsuf.subset List.mem_cons_self)))
    have h3 := prefix_map_of_noAt esc _ (fill_fixes ((n ++ s', w) :: rest)) post s' (fun e => hm (by simp [e])) h2
    exact h (n ++ s') hmem (List.prefix_append _ _) hne ((List.prefix_append_right_inj n).mpr h3)
  · intro post _ h hp
    exact h m hmem (prefix_map_of_noAt esc _ (fill_fixes _) post m hm hp)

theorem noJoin_step (esc : Char → Str) (m w : Str) (rest : List (Str × Str)) (is : List Item)
    (hnj : NoJoinP esc ((m, w) :: rest) is) : NoJoinP esc rest (is.map (fill1 m w)) := by
  have hsub : ∀ x ∈ names rest, x ∈ names ((m, w) :: rest) := fun x hx => List.mem_cons_of_mem _ hx
  induction is with
  | nil => trivial
  | cons i is ih =>
    cases i with
    | lit _ | txt _ => exact ih hnj
    | stray => exact ⟨fun x hx => by rw [← map_fill_cons]; exact hnj.1 x (hsub x hx), ih hnj.2⟩
    | ref n =>
      rw [List.map_cons, fill1]
      by_cases hn : n = m
      · rw [if_pos hn]; exact ih hnj.2
      · rw [if_neg hn]; exact ⟨fun x hx => by rw [← map_fill_cons]; exact hnj.1 x (hsub x hx), ih hnj.2⟩

theorem replaceSeq_cons (t m w : Str) (rest : List (Str × Str)) :
    replaceSeq t ((m, w) :: rest) = replaceSeq (replaceAll1 '@' m w t) rest := rfl

theorem replaceSeq_nil (t : Str) : replaceSeq t [] = t := rfl

/-- The sequential `replaceSeq` over a longest-first list is `fill vs` on the items.  Induction on `vs`, one `replace_render`
per entry, its `Sep` from `sep_of_noJoin`; `noJoin_step`, `clean_of_sub`, `refs_map_fill1` carry the hypotheses on. -/
theorem foldl_replace_render (esc : Char → Str) (vs : List (Str × Str)) (is : List Item)
    (hsorted : Sorted vs) (hnames : ∀ p ∈ vs, '@' ∉ p.1) (hvals : ∀ p ∈ vs, '@' ∉ p.2)
    (hclean : Clean esc is) (hrefs : ∀ n, Item.ref n ∈ is → n ∈ names vs)
    (hnj : NoJoinP esc vs is) :
    replaceSeq (render esc is) vs = render esc (is.map (fill vs)) := by
  induction vs generalizing is with
  | nil =>
    rw [replaceSeq_nil, show (fill []) = id from funext fill_nil]; simp
  | cons p rest ih =>
    obtain ⟨m, w⟩ := p
    have hm : '@' ∉ m := hnames (m, w) (by simp)
    have hw : '@' ∉ w := hvals (m, w) (by simp)
    have hsep := sep_of_noJoin esc m w rest is hsorted hm hrefs hnj
    rw [replaceSeq_cons, replace_render esc m w is hclean hsep]
    have hclean' : Clean esc (is.map (fill1 m w)) := clean_of_sub esc w hw is _ (fills_map_fill1 m w is).mem hclean
    have := ih (is.map (fill1 m w)) (List.pairwise_cons.mp hsorted).2
      (fun p hp => hnames p (List.mem_cons_of_mem _ hp)) (fun p hp => hvals p (List.mem_cons_of_mem _ hp))
      hclean' (refs_map_fill1 hrefs) (noJoin_step esc m w rest is hnj)
    rw [this, map_fill_cons]

end Rio.Marker
