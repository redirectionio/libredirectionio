/-
Generic lemmas about the building blocks of Model/Json.lean: each primitive `de` inverts its
`ser`, `LinkedHashSet` insertion keeps lists duplicate-free, field lookup is insensitive to key
order and to unknown keys.
-/
import RioModel.Model.Json
import RioModel.Proofs.UtilList

namespace Rio.Json

@[simp] theorem deString_str (s : String) : deString (.str s) = some s := rfl
@[simp] theorem deBool_bool (b : Bool) : deBool (.bool b) = some b := rfl

@[simp] theorem deU16_serU16 (c : UInt16) : deU16 (serU16 c) = some c := by
  have h : c.toNat < 65536 := UInt16.toNat_lt c
  have h2 : (c.toNat : Int) < 65536 := by omega
  simp [serU16, deU16, h2]

theorem deOption_serOption {α} (d : Json → Option α) (s : α → Json)
    (hnn : ∀ a, s a ≠ .null) (o : Option α) (h : ∀ a, o = some a → d (s a) = some a) :
    deOption d (serOption s o) = some o := by
  cases o with
  | none => rfl
  | some a =>
    have hd := h a rfl
    simp only [serOption]
    cases hs : s a with
    | null => exact absurd hs (hnn a)
    | _ => simp [deOption, ← hs, hd]

@[simp] theorem deOption_str (o : Option String) : deOption deString (serOption .str o) = some o :=
  deOption_serOption _ _ (by intro a h; cases h) o (by intro a _; rfl)

@[simp] theorem deOption_bool (o : Option Bool) : deOption deBool (serOption .bool o) = some o :=
  deOption_serOption _ _ (by intro a h; cases h) o (by intro a _; rfl)

theorem mapOpt_map {α} (d : Json → Option α) (s : α → Json) (l : List α)
    (h : ∀ a ∈ l, d (s a) = some a) : mapOpt d (l.map s) = some l := by
  induction l with
  | nil => rfl
  | cons a t ih =>
    have ha := h a (by simp)
    have ht := ih (fun b hb => h b (by simp [hb]))
    simp [mapOpt, ha, ht]

theorem deVec_serVec {α} (d : Json → Option α) (s : α → Json) (l : List α)
    (h : ∀ a ∈ l, d (s a) = some a) : deVec d (serVec s l) = some l := by
  simp [deVec, serVec, mapOpt_map d s l h]

@[simp] theorem deVec_u16 (l : List UInt16) : deVec deU16 (serVec serU16 l) = some l :=
  deVec_serVec _ _ _ (by intro a _; simp)

@[simp] theorem deVec_str (l : List String) : deVec deString (serVec .str l) = some l :=
  deVec_serVec _ _ _ (by intro a _; rfl)

theorem insertBack_of_not_mem (l : List String) (x : String) (h : x ∉ l) :
    insertBack l x = l ++ [x] := by
  simp [insertBack, List.erase_of_not_mem h]

theorem foldl_insertBack_nodup (l acc : List String) (h : (acc ++ l).Nodup) :
    l.foldl insertBack acc = acc ++ l := by
  induction l generalizing acc with
  | nil => simp
  | cons x t ih =>
    have hx : x ∉ acc := fun hm => (List.nodup_append.mp h).2.2 x hm x List.mem_cons_self rfl
    simp only [List.foldl_cons]
    rw [insertBack_of_not_mem acc x hx, ih (acc ++ [x]) (by simpa using h)]
    simp

theorem insertBack_nodup (l : List String) (x : String) (h : l.Nodup) : (insertBack l x).Nodup :=
  List.perm_append_comm.nodup_iff.2 (List.nodup_cons.2 ⟨h.not_mem_erase, h.erase x⟩)

theorem foldl_insertBack_is_nodup (l acc : List String) (h : acc.Nodup) : (l.foldl insertBack acc).Nodup :=
  Rio.Util.foldl_inv List.Nodup insertBack l acc h fun b a _ hb => insertBack_nodup b a hb

theorem deSet_serSet (l : List String) (h : l.Nodup) : deSet (serSet l) = some l := by
  have hm : mapOpt deString (l.map .str) = some l := mapOpt_map _ _ _ (by intro a _; rfl)
  simp [deSet, serSet, hm, foldl_insertBack_nodup l [] (by simpa using h)]

theorem deSet_nodup (j : Json) (l : List String) (h : deSet j = some l) : l.Nodup := by
  cases j with
  | arr xs =>
    obtain ⟨ys, _, rfl⟩ := Option.map_eq_some_iff.1 h
    exact foldl_insertBack_is_nodup ys [] List.nodup_nil
  | _ => cases h

theorem find_cons_ne (k' : String) (v : Json) (rest : List (String × Json)) (k : String)
    (h : k' ≠ k) : find ((k', v) :: rest) k = find rest k := by
  simp [find, keyEq, h]

theorem find_nil (k : String) : find [] k = .missing := by rw [find]

theorem find_cons_self (k : String) (v : Json) (rest : List (String × Json)) (h : find rest k = .missing) :
    find ((k, v) :: rest) k = .one v := by
  simp [find, keyEq, h]

def Found.elim {β : Type} (missing : β) (one : Json → β) (dup : β) : Found → β
  | .missing => missing
  | .one v => one v
  | .dup => dup

/-! The field readers over a LITERAL object.  Unfolding `reqField` / `optField` / `find` there leaves a `match`
on a closed lookup, which `simp` (and then the kernel again) evaluates by running `String.decEq` on every pair of
key literals.  The lemmas below let `simp` walk the object (`find_cons_ne`: its side condition `k' ≠ k`
is refuted from the first differing character) and never expose such a `match`; `elim_missing` / `elim_one` are
deliberately not proved by a bare `rfl`, so that they are applied as rewrite steps with a proof. -/

theorem Found.elim_missing {β : Type} (m : β) (o : Json → β) (d : β) : Found.elim m o d .missing = m := by
  unfold Found.elim; rfl

theorem Found.elim_one {β : Type} (m : β) (o : Json → β) (d : β) (v : Json) :
    Found.elim m o d (.one v) = o v := by
  unfold Found.elim; rfl

theorem reqField_eq {α : Type} (d : Json → Option α) (kvs : List (String × Json)) (k : String) :
    reqField d kvs k = (find kvs k).elim none d none := by
  rw [reqField]; cases find kvs k <;> rfl

theorem optField_eq {α : Type} (d : Json → Option α) (kvs : List (String × Json)) (k : String) :
    optField d kvs k = (find kvs k).elim (some none) (deOption d) none := by
  rw [optField]; cases find kvs k <;> rfl

theorem defaultField_eq {α : Type} (d : Json → Option α) (dflt : α) (kvs : List (String × Json)) (k : String) :
    defaultField d dflt kvs k = (find kvs k).elim (some dflt) d none := by
  rw [defaultField]; cases find kvs k <;> rfl

theorem find_eq_filter (kvs : List (String × Json)) (k : String) :
    find kvs k = find (kvs.filter (fun e => keyEq e.1 k)) k := by
  induction kvs with
  | nil => rfl
  | cons e t ih =>
    obtain ⟨ke, ve⟩ := e
    by_cases h : keyEq ke k = true
    · simp only [find, h, if_true, List.filter_cons_of_pos, ← ih]
    · simp only [Bool.not_eq_true] at h
      simp [find, h, ← ih]

theorem find_append_ne (pre : List (String × Json)) (k' : String) (v : Json)
    (post : List (String × Json)) (k : String) (h : k' ≠ k) :
    find (pre ++ (k', v) :: post) k = find (pre ++ post) k := by
  rw [find_eq_filter, find_eq_filter (pre ++ post), List.filter_append, List.filter_append,
    List.filter_cons_of_neg (by simpa [keyEq] using h)]

def countKey (kvs : List (String × Json)) (k : String) : Nat :=
  (kvs.filter (fun e => keyEq e.1 k)).length

theorem find_perm (kvs kvs' : List (String × Json)) (k : String) (hp : kvs.Perm kvs')
    (hu : countKey kvs k ≤ 1) : find kvs k = find kvs' k := by
  rw [find_eq_filter kvs k, find_eq_filter kvs' k, Rio.Util.perm_eq_of_length_le_one (hp.filter _) hu]

end Rio.Json
