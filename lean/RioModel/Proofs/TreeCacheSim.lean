/-
Updates commute with dropping the cached values (`strip`), so a history with `cache` calls and the
same history without them end in trees that are equal up to those values – for *every* history, with no
hypothesis on the patterns.
-/
import RioModel.Proofs.TreeHistory
set_option linter.unusedSectionVars false

namespace Rio.Tree
open Rio.Regex

variable {ι V : Type} [DecidableEq ι]

theorem isEmpty_strip (t : Item ι V) : t.strip.isEmpty = t.isEmpty := shapeMap_strip.isEmpty t

@[simp] theorem newLeaf_strip (p : List Char) (ic : Bool) : (LazyRegex.newLeaf p ic).strip = LazyRegex.newLeaf p ic := rfl
@[simp] theorem newNode_strip (p : List Char) (ic : Bool) : (LazyRegex.newNode p ic).strip = LazyRegex.newNode p ic := rfl

theorem insert_strip (t : Item ι V) (p : List Char) (id : ι) (v : V) :
    (t.insert p id v).strip = t.strip.insert p id v := shapeMap_strip.insert t p id v

theorem leafRemove_strip (rx : LazyRegex) (vs : List (ι × V)) (id : ι) :
    (leafRemove rx vs id).1.strip = (leafRemove rx.strip vs id).1 ∧
    (leafRemove rx vs id).2 = (leafRemove rx.strip vs id).2 := by
  cases hl : lookupKey vs id with
  | none => rw [leafRemove_none hl, leafRemove_none hl]; simp
  | some w =>
    rw [leafRemove_some hl, leafRemove_some hl]
    simp only [strip_ic, and_true]
    split <;> simp

theorem remove_strip (t : Item ι V) (id : ι) :
    (t.remove id).1.strip = (t.strip.remove id).1 ∧ (t.remove id).2 = (t.strip.remove id).2 := by
  induction t using Item.ind₂ (motiveL := fun l =>
      (removeL l id).1.map Item.strip = (removeL (l.map Item.strip) id).1 ∧
      (removeL l id).2 = (removeL (l.map Item.strip) id).2) with
  | hE ic => simp [remove_empty]
  | hL rx vs => rw [strip_leaf, remove_leaf, remove_leaf]; exact leafRemove_strip rx vs id
  | hN rx cs ih =>
    rw [strip_node, remove_node, remove_node]
    exact ⟨by rw [collapse1_map Item.strip (strip_node rx), ih.1], ih.2⟩
  | hnil => simp [removeL_nil]
  | hcons c l hc hl =>
    obtain ⟨h1, h2⟩ := hc
    rw [List.map_cons]
    cases hrc : (c.remove id).2 with
    | some w =>
      rw [removeL_cons_some hrc, removeL_cons_some (by rw [← h2]; exact hrc)]
      simp [← h1, keepNonEmpty_map Item.strip (isEmpty_strip _)]
    | none =>
      rw [removeL_cons_none hrc, removeL_cons_none (by rw [← h2]; exact hrc)]
      simp [← h1, keepNonEmpty_map Item.strip (isEmpty_strip _), hl.1, hl.2]

theorem retain_strip (t : Item ι V) (f : ι → V → Option V) : (t.retain f).strip = t.strip.retain f :=
  shapeMap_strip.retain f f (fun _ _ => by simp) t

theorem modifyAt_strip (t : Item ι V) (p : List Char) (g : ι → V → V) :
    (t.modifyAt p g).strip = t.strip.modifyAt p g := shapeMap_strip.modifyAt g g (fun _ _ => rfl) t p

def dropCache : List (Op ι V) → List (Op ι V)
  | [] => []
  | .cache _ _ :: ops => dropCache ops
  | op :: ops => op :: dropCache ops

theorem run_drop_cache (E : Engine) (ops : List (Op ι V)) :
    ∀ (t t0 : Item ι V), t.strip = t0.strip →
      ∃ t' t0', treeRun E t ops = some t' ∧ treeRun E t0 (dropCache ops) = some t0' ∧ t'.strip = t0'.strip := by
  induction ops with
  | nil => intro t t0 h; exact ⟨t, t0, rfl, rfl, h⟩
  | cons op ops ih =>
    intro t t0 h
    -- an update `u` that commutes with `strip`, applied on both sides
    have update : ∀ u : Item ι V → Item ι V, (∀ x, (u x).strip = u x.strip) →
        treeStep E t op = some (u t) → dropCache (op :: ops) = op :: dropCache ops →
        treeStep E t0 op = some (u t0) →
        ∃ t' t0', treeRun E t (op :: ops) = some t' ∧ treeRun E t0 (dropCache (op :: ops)) = some t0' ∧
          t'.strip = t0'.strip := by
      intro u hu h1 hd h0
      obtain ⟨t', t0', r1, r2, r3⟩ := ih (u t) (u t0) (by rw [hu, hu, h])
      exact ⟨t', t0', by simp [treeRun, h1, r1], by rw [hd]; simp [treeRun, h0, r2], r3⟩
    cases op with
    | insert p id v => exact update (·.insert p id v) (fun x => insert_strip x p id v) rfl rfl rfl
    | remove id => exact update (fun x => (x.remove id).1) (fun x => (remove_strip x id).1) rfl rfl rfl
    | retain f => exact update (·.retain f) (fun x => retain_strip x f) rfl rfl rfl
    | modify p g => exact update (·.modifyAt p g) (fun x => modifyAt_strip x p g) rfl rfl rfl
    | cache limit level =>
      obtain ⟨tc, n, hc, hs, _⟩ := treeCache_spec E t limit level
      obtain ⟨t', t0', h1, h2, h3⟩ := ih tc t0 (by rw [hs, h])
      exact ⟨t', t0', by simp [treeRun, treeStep, hc, h1], by simpa [dropCache] using h2, h3⟩

def insertedPats : List (Op ι V) → List (List Char)
  | [] => []
  | .insert p _ _ :: ops => p :: insertedPats ops
  | _ :: ops => insertedPats ops

/-- What holds of every tree a history reaches: the invariant, and any `P` that holds of the stored patterns at the start and
of every pattern the history inserts. -/
theorem run_reachable (E : Engine) {ic : Bool} (P : List Char → Prop) (ops : List (Op ι V)) :
    ∀ (t : Item ι V), t.inv ic = true → (∀ e ∈ t.contents, P e.pat) → (∀ p ∈ insertedPats ops, P p) →
      ∀ t', treeRun E t ops = some t' → t'.inv ic = true ∧ ∀ e ∈ t'.contents, P e.pat := by
  induction ops with
  | nil => intro t hinv hP _ t' h; simp [treeRun] at h; subst h; exact ⟨hinv, hP⟩
  | cons op ops ih =>
    intro t hinv hP hins t' h
    obtain ⟨t1, h1, hinv1, hc⟩ := treeStep_spec E hinv op
    simp only [treeRun, h1] at h
    refine ih t1 hinv1 ?_ (fun q hq => hins q (by cases op <;> simp [insertedPats, hq])) t' h
    intro e he
    rcases mem_refStep (hc.subset he) with ⟨e0, he0, hp, _⟩ | ⟨v, rfl⟩
    · rw [hp]; exact hP e0 he0
    · exact hins _ (by simp [insertedPats])

theorem insertedPats_dropCache (ops : List (Op ι V)) : insertedPats (dropCache ops) = insertedPats ops := by
  induction ops with
  | nil => rfl
  | cons op ops ih => cases op <;> simp [dropCache, insertedPats, ih]

theorem refRun_dropCache (L : List (Entry ι V)) (ops : List (Op ι V)) :
    refRun L (dropCache ops) = refRun L ops := by
  induction ops generalizing L with
  | nil => rfl
  | cons op ops ih => cases op <;> simp [dropCache, refRun, refStep, ih]

theorem histOk_dropCache (good : List Char → Bool) (L : List (Entry ι V)) (ops : List (Op ι V)) :
    histOk good L (dropCache ops) = histOk good L ops := by
  induction ops generalizing L with
  | nil => rfl
  | cons op ops ih => cases op <;> simp [dropCache, histOk, refStep, ih]

end Rio.Tree
