/-
C04, strong form: what an html stage as `HtmlFilterBodyAction::new` builds it makes of a token stream, for every kind of
visitor, with or without selector (`Script`).

`fold_script`: the token loop keeps `ScriptInv` — besides what every state keeps (`Keeps`, Proofs/FilterCount.lean), the
stage is `Outside` a buffered element with the tokens so far rendered, or `Inside` one target element that began at a
start tag.  `RScript` (replace) and `IScript` (insert without selector, Proofs/FilterInsPos.lean) are readings of the
script.
-/
import RioModel.Proofs.FilterCount

namespace Rio.Filter

/-- what `leave` may hand back for the data `x` (the configuration of `v` only) -/
def LeaveRes (tk : Tokenize) (v : Visitor) (x r : Bytes) : Prop :=
  r = x ∨
    match v.kind with
    | .append => (v.hasSel = true ∧ r = appendChild tk x v.content) ∨ (v.hasSel = false ∧ r = v.content ++ x)
    | .prepend => v.hasSel = true ∧ r = prependChild tk x v.content
    | .replace => r = v.content

theorem LeaveRes_of_static {tk : Tokenize} {v w : Visitor} (h : v.static = w.static) {x r : Bytes}
    (hr : LeaveRes tk v x r) : LeaveRes tk w x r := by
  unfold LeaveRes at hr ⊢
  rw [← kind_of_static h, ← hasSel_of_static h, ← content_of_static h]
  exact hr

/-- `Script tk v tgt T out`: `out` renders the token list `T` left to right; every token is kept; or a copy of the value
follows an opener named on the path (prepend_child without selector); or a closer named on the path, alone, is handed to
`leave` (append_child only: with an absent last element it acts on the parent, observation O7); or a whole element span
of the target is buffered and handed to `leave` (replace, or any kind with a selector). -/
inductive Script (tk : Tokenize) (v : Visitor) (tgt : Bytes) : List Tok → Bytes → Prop
  | nil : Script tk v tgt [] []
  | keep (t : Tok) {T : List Tok} {o : Bytes} : Script tk v tgt T o → Script tk v tgt (T ++ [t]) (o ++ t.raw)
  | after (t : Tok) {T : List Tok} {o : Bytes} : insAtEnter v = true → isOpener t = true → t.name ∈ pathOf v →
      Script tk v tgt T o → Script tk v tgt (T ++ [t]) (o ++ (t.raw ++ v.content))
  | lone (t : Tok) (r : Bytes) {T : List Tok} {o : Bytes} : v.kind = .append → isCloser t = true → t.name ∈ pathOf v →
      LeaveRes tk v t.raw r → Script tk v tgt T o → Script tk v tgt (T ++ [t]) (o ++ r)
  | span (ts : List Tok) (r : Bytes) {T : List Tok} {o : Bytes} : (v.kind = .replace ∨ v.hasSel = true) → ElemSpan tgt ts →
      LeaveRes tk v (rawsOf ts) r → Script tk v tgt T o → Script tk v tgt (T ++ ts) (o ++ r)

theorem Script.keeps {tk : Tokenize} {v : Visitor} {tgt : Bytes} {T : List Tok} {o : Bytes} (h : Script tk v tgt T o) :
    ∀ ts : List Tok, Script tk v tgt (T ++ ts) (o ++ rawsOf ts) := by
  intro ts
  induction ts generalizing T o with
  | nil => simpa [rawsOf] using h
  | cons t ts ih =>
    have := ih (Script.keep t h)
    simpa [rawsOf_cons, List.append_assoc] using this

/-- the stage outside a buffered element: nothing buffered, and what it waits for is where the zipper stands (at `cur`, or,
when a `leave` has stepped back, at the head of `after`: `leaveMove_cur`) -/
structure Outside (s : HtmlSt) : Prop where
  nobuf : s.visitor.isBuffering = false
  stack : s.stack = []
  enterOK : ∀ x, s.enter = some x → x = s.visitor.cur ∨ s.visitor.after.head? = some x

/-- the stage inside the target element, whose bytes so far are `buf`: one link, nothing awaited but the closer, whose `leave`
resets `is_buffering` if it is set (`clears`: the stage is `Outside` again afterwards) -/
structure Inside (tgt : Bytes) (s : HtmlSt) (buf : Bytes) : Prop where
  after : s.visitor.after = []
  cur : s.visitor.cur = tgt
  clears : s.visitor.leaveClears = s.visitor.isBuffering
  stack : s.stack = [⟨buf, tgt⟩]
  enter : s.enter = none
  leave : s.leave = some tgt

/-- `enter` at the last element of the path; its result reads `((next_enter, next_leave, start_buffer, data), self)`
(`Visitor.enter`, Model/Filter.lean).  A replace visitor or one with a selector starts a buffer and awaits only its own
`leave`; any other (`enter_last_nobuf`) starts none and may append its value to the data. -/
theorem Visitor.enter_last_buf (v : Visitor) (d : Bytes) (ha : v.after = []) (hb : v.isBuffering = false)
    (h : v.kind = .replace ∨ v.hasSel = true) :
    ∃ v', v.enter d = ((none, some v.cur, true, d), v') ∧ v'.after = [] ∧ v'.cur = v.cur ∧
      v'.leaveClears = v'.isBuffering := by
  unfold Visitor.enter Visitor.leaveClears
  rw [if_neg (not_not_intro ha)]
  cases hk : v.kind
  · have hs : v.hasSel = true := h.resolve_left (by rw [hk]; nofun)
    exact ⟨v, by rw [hs], ha, rfl, by rw [hk, hb]⟩
  · have hs : v.hasSel = true := h.resolve_left (by rw [hk]; nofun)
    rw [hs]
    exact ⟨_, rfl, ha, rfl, hs⟩
  · exact ⟨_, rfl, ha, rfl, rfl⟩

theorem Visitor.enter_last_nobuf (v : Visitor) (d : Bytes) (ha : v.after = []) (hb : v.isBuffering = false)
    (h : ¬ (v.kind = .replace ∨ v.hasSel = true)) :
    v.enter d = ((none, some v.cur, false, d ++ if insAtEnter v then v.content else []), v) := by
  unfold Visitor.enter insAtEnter
  rw [if_neg (not_not_intro ha), hb]
  have hs : v.hasSel = false := Bool.eq_false_iff.mpr fun e => h (Or.inr e)
  rw [hs]
  cases hk : v.kind
  · simp
  · simp
  · exact absurd (Or.inl hk) h

section
variable (tk : Tokenize) (ev : Bytes → Bytes → Bool) {v0 : Visitor} {tgt : Bytes}

theorem push_outside {s : HtmlSt} (h : Outside s) (out d : Bytes) : push s out d = (s, out ++ d) := by
  unfold push; rw [h.stack]

theorem push_inside {s : HtmlSt} {buf : Bytes} (h : Inside tgt s buf) (out d : Bytes) :
    (push s out d).2 = out ∧ Inside tgt (push s out d).1 (buf ++ d) := by
  unfold push
  rw [h.stack]
  exact ⟨rfl, ⟨h.after, h.cur, h.clears, rfl, h.enter, h.leave⟩⟩

theorem onStart_inside {s : HtmlSt} {buf : Bytes} (h : Inside tgt s buf) (n d : Bytes) : onStart s n d = (s, d) :=
  onStart_skips d (by rw [h.enter]; simp)

theorem onEnd_inside_other {s : HtmlSt} {buf : Bytes} (h : Inside tgt s buf) (n d : Bytes) (hn : n ≠ tgt) :
    onEnd tk ev s n d = (s, d) := by
  have htm : topMatches s.stack n = false := by
    rw [h.stack]; simp [topMatches]; exact fun e => hn e.symm
  have hlv : ¬ s.leave = some n := by rw [h.leave]; simp; exact fun e => hn e.symm
  rw [onEnd_skips tk ev d hlv, htm, if_neg Bool.false_ne_true, if_neg Bool.false_ne_true]

/-- `hb`: after this `leave` the visitor does not buffer (`leave_eq`: `is_buffering` is reset if `leaveClears`, else kept) -/
theorem leave_outside (v : Visitor) (d : Bytes) (hb : (if v.leaveClears then false else v.isBuffering) = false) :
    (v.leave tk ev d).2.isBuffering = false ∧
    ∀ x, (v.leave tk ev d).1.1 = some x → x = (v.leave tk ev d).2.cur ∨ (v.leave tk ev d).2.after.head? = some x := by
  rw [v.leave_eq tk ev d]
  have m2 := leaveMove_cur v v.leaveGuard
  cases hc : v.leaveClears
  · rw [hc] at hb
    exact ⟨(v.leaveMove_isBuffering _).trans hb, fun x hx => (Option.some.inj hx) ▸ m2.imp Eq.symm id⟩
  · exact ⟨rfl, fun x hx => (Option.some.inj hx) ▸ m2.imp Eq.symm id⟩

theorem leave_nobuf (v : Visitor) (d : Bytes) (hb : v.isBuffering = false) (hk : v.kind ≠ .append) :
    (v.leave tk ev d).1.2.2 = d := by
  rw [v.leave_eq tk ev d]
  show v.leaveOut tk ev d = d
  unfold Visitor.leaveOut
  rw [hb]
  cases hkk : v.kind
  · exact absurd hkk hk
  · rfl
  · rfl

theorem onEnd_inside_close {s : HtmlSt} {buf : Bytes} (hK : Keeps v0 (pathOf v0) s) (h : Inside tgt s buf) (d : Bytes) :
    Outside (onEnd tk ev s tgt d).1 ∧ LeaveRes tk v0 (buf ++ d) (onEnd tk ev s tgt d).2 := by
  have htm : topMatches s.stack tgt = true := by rw [h.stack]; simp [topMatches]
  have htb : topBuffer s.stack = buf := by rw [h.stack]; rfl
  rw [onEnd_fires tk ev d h.leave]
  simp only [htm, if_true, htb]
  obtain ⟨l1, l2⟩ := leave_outside tk ev s.visitor (buf ++ d) (by rw [h.clears]; cases s.visitor.isBuffering <;> rfl)
  exact ⟨⟨l1, by simp only [h.stack, List.tail_cons], l2⟩, LeaveRes_of_static hK.static (s.visitor.leave_data tk ev _)⟩

theorem onEnd_outside {s : HtmlSt} (hK : Keeps v0 (pathOf v0) s) (h : Outside s) (n d : Bytes) :
    Outside (onEnd tk ev s n d).1 ∧
      ((onEnd tk ev s n d).2 = d ∨ (v0.kind = .append ∧ n ∈ pathOf v0 ∧ LeaveRes tk v0 d (onEnd tk ev s n d).2)) := by
  have htm : topMatches s.stack n = false := by rw [h.stack]; rfl
  by_cases hlv : s.leave = some n
  · rw [onEnd_fires tk ev d hlv, htm]
    simp only [Bool.false_eq_true, if_false]
    obtain ⟨l1, l2⟩ := leave_outside tk ev s.visitor d (by rw [h.nobuf]; cases s.visitor.leaveClears <;> rfl)
    refine ⟨⟨l1, h.stack, l2⟩, ?_⟩
    by_cases hk : s.visitor.kind = .append
    · exact Or.inr ⟨(kind_of_static hK.static).symm.trans hk, hK.pinv.leave n hlv,
        LeaveRes_of_static hK.static (s.visitor.leave_data tk ev d)⟩
    · exact Or.inl (leave_nobuf tk ev s.visitor d h.nobuf hk)
  · rw [onEnd_skips tk ev d hlv, htm, if_neg Bool.false_ne_true, if_neg Bool.false_ne_true]
    exact ⟨h, Or.inl rfl⟩

theorem onStart_outside {s : HtmlSt} (hK : Keeps v0 (pathOf v0) s) (h : Outside s)
    (htgt : (pathOf v0).getLast? = some tgt) (n d : Bytes) :
    (Outside (onStart s n d).1 ∧
      ((onStart s n d).2 = d ∨ (insAtEnter v0 = true ∧ n ∈ pathOf v0 ∧ (onStart s n d).2 = d ++ v0.content))) ∨
    (n = tgt ∧ (onStart s n d).2 = d ∧ (v0.kind = .replace ∨ v0.hasSel = true) ∧ Inside tgt (onStart s n d).1 []) := by
  by_cases he : s.enter = some n
  · rw [onStart_fires d he]
    by_cases ha : s.visitor.after = []
    · -- the last element of the path: it is the one awaited
      have hcur : n = s.visitor.cur := (h.enterOK n he).resolve_right (by rw [ha]; exact nofun)
      by_cases hbf : s.visitor.kind = .replace ∨ s.visitor.hasSel = true
      · obtain ⟨v', e1, e2, e3, e4⟩ := s.visitor.enter_last_buf d ha h.nobuf hbf
        have htg : s.visitor.cur = tgt := by
          rw [← hK.pinv.path] at htgt
          simpa [pathOf, ha] using htgt
        rw [e1]
        refine Or.inr ⟨hcur.trans htg, rfl, by rwa [← kind_of_static hK.static, ← hasSel_of_static hK.static],
          e2, e3.trans htg, e4, ?_, rfl, congrArg some htg⟩
        simp only [if_true, h.stack, hcur, htg]
      · rw [s.visitor.enter_last_nobuf d ha h.nobuf hbf]
        refine Or.inl ⟨⟨h.nobuf, h.stack, fun x hx => nomatch hx⟩, ?_⟩
        rw [insAtEnter_of_static hK.static, content_of_static hK.static]
        by_cases hi : insAtEnter v0 = true
        · rw [if_pos hi]; exact Or.inr ⟨hi, hK.pinv.enter n he, rfl⟩
        · rw [if_neg hi]; exact Or.inl (List.append_nil d)
    · rw [s.visitor.enter_eq d, if_pos ha]
      exact Or.inl ⟨⟨s.visitor.advance_isBuffering.trans h.nobuf, h.stack, fun x hx => Or.inl (Option.some.inj hx).symm⟩,
        Or.inl rfl⟩
  · rw [onStart_skips d he]
    exact Or.inl ⟨h, Or.inl rfl⟩

/-- The second half of a step as `stepTok_openClose` splits it: `(s, d)` is what `on_start_tag_token` left (the `a` there),
then `onEnd` for a closer, then `push`.  Here for a stage `Outside`; `hd`: `d` is `t.raw`, or `t.raw ++ content` after an
`enter` that inserted. -/
theorem endTok_outside {s : HtmlSt} {T : List Tok} {out d : Bytes} {t : Tok} (hK : Keeps v0 (pathOf v0) s) (hI : Outside s)
    (hr : Script tk v0 tgt T out)
    (hd : d = t.raw ∨ (isOpener t = true ∧ insAtEnter v0 = true ∧ t.name ∈ pathOf v0 ∧ d = t.raw ++ v0.content)) :
    let e := if isCloser t then onEnd tk ev s t.name d else (s, d)
    Outside (push e.1 out e.2).1 ∧ Script tk v0 tgt (T ++ [t]) (push e.1 out e.2).2 := by
  intro e
  have hs : Script tk v0 tgt (T ++ [t]) (out ++ d) := by
    rcases hd with rfl | ⟨ho, hi, hn, rfl⟩
    · exact .keep t hr
    · exact .after t hi ho hn hr
  by_cases hc : isCloser t = true
  · obtain ⟨f1, f2⟩ := onEnd_outside tk ev hK hI t.name d
    simp only [e, if_pos hc, push_outside f1]
    refine ⟨f1, ?_⟩
    rcases f2 with f2 | ⟨hk, hn, f2⟩
    · rw [f2]; exact hs
    · rcases hd with rfl | ⟨_, hi, _, _⟩
      · exact .lone t _ hk hc hn f2 hr
      · -- a visitor that inserts at `enter` is a prepend_child visitor
        simp [insAtEnter, hk] at hi
  · simp only [e, if_neg hc, push_outside hI]
    exact ⟨hI, hs⟩

/-- In the second case `T = T0 ++ ts`: `T0` is rendered in `so.2`, and `ts` is the open span of the target (`OpenSpan`,
Proofs/FilterStrong.lean) whose bytes are on the stack. -/
def ScriptInv (tk : Tokenize) (v0 : Visitor) (tgt : Bytes) (T : List Tok) (so : HtmlSt × Bytes) : Prop :=
  Keeps v0 (pathOf v0) so.1 ∧
  ((Outside so.1 ∧ Script tk v0 tgt T so.2) ∨
   (∃ T0 ts, Inside tgt so.1 (rawsOf ts) ∧ T = T0 ++ ts ∧ Script tk v0 tgt T0 so.2 ∧
      (v0.kind = .replace ∨ v0.hasSel = true) ∧ OpenSpan tgt ts))

/-- The same half for a stage `Inside` the target with the tokens `ts` buffered (`on_start_tag_token` awaits nothing there, so
`d = t.raw`): the target's closer ends the span and the stage is `Outside` again, any other token joins the buffer. -/
theorem endTok_inside {s : HtmlSt} {T0 ts : List Tok} {out : Bytes} {t : Tok} (hK : Keeps v0 (pathOf v0) s)
    (hB : Inside tgt s (rawsOf ts)) (hr : Script tk v0 tgt T0 out) (hbf : v0.kind = .replace ∨ v0.hasSel = true)
    (hp : (Closer tgt t → ElemSpan tgt (ts ++ [t])) ∧ (¬ Closer tgt t → OpenSpan tgt (ts ++ [t]))) :
    let e := if isCloser t then onEnd tk ev s t.name t.raw else (s, t.raw)
    (Outside (push e.1 out e.2).1 ∧ Script tk v0 tgt (T0 ++ (ts ++ [t])) (push e.1 out e.2).2) ∨
      ∃ T0' ts', Inside tgt (push e.1 out e.2).1 (rawsOf ts') ∧ T0 ++ (ts ++ [t]) = T0' ++ ts' ∧
        Script tk v0 tgt T0' (push e.1 out e.2).2 ∧ (v0.kind = .replace ∨ v0.hasSel = true) ∧ OpenSpan tgt ts' := by
  intro e
  by_cases hcl : Closer tgt t
  · obtain ⟨hn, hc⟩ := (closer_iff tgt t).mp hcl
    obtain ⟨i1, i2⟩ := onEnd_inside_close tk ev hK hB t.raw
    rw [← hn] at i1 i2
    simp only [e, if_pos hc, push_outside i1]
    exact Or.inl ⟨i1, .span _ _ hbf (hp.1 hcl) (by rw [rawsOf_snoc]; exact i2) hr⟩
  · have he : e = (s, t.raw) := by
      simp only [e]
      split
      · rename_i hc
        exact onEnd_inside_other tk ev hB t.name t.raw fun hn => hcl ((closer_iff tgt t).mpr ⟨hn, hc⟩)
      · rfl
    obtain ⟨p1, p2⟩ := push_inside hB out t.raw
    rw [he]
    exact Or.inr ⟨T0, ts ++ [t], by rw [rawsOf_snoc]; exact p2, rfl, by rw [p1]; exact hr, hbf, hp.2 hcl⟩

theorem stepTok_scriptInv (htgt : (pathOf v0).getLast? = some tgt) (T : List Tok) (so : HtmlSt × Bytes) (t : Tok)
    (h : ScriptInv tk v0 tgt T so) : ScriptInv tk v0 tgt (T ++ [t]) (stepTok tk ev so t) := by
  obtain ⟨s, out⟩ := so
  obtain ⟨hK, h⟩ := h
  refine ⟨hK.stepTok tk ev out t, ?_⟩
  rw [stepTok_openClose]
  rcases h with ⟨hI, hr⟩ | ⟨T0, ts, hB, rfl, hr, hbf, hts⟩
  · by_cases ho : isOpener t = true
    · have hKa := hK.onStart t.name t.raw
      have hst := onStart_outside hK hI htgt t.name t.raw
      rw [if_pos ho]
      generalize onStart s t.name t.raw = a at hKa hst
      obtain ⟨s1, d1⟩ := a
      rcases hst with ⟨hI1, hd⟩ | ⟨hn, rfl, hbf, hB1⟩
      · exact Or.inl (endTok_outside tk ev hKa hI1 hr (hd.imp id (And.intro ho)))
      · exact endTok_inside tk ev (ts := []) hKa hB1 hr hbf (OpenSpan.single ho hn)
    · rw [if_neg ho]
      exact Or.inl (endTok_outside tk ev hK hI hr (Or.inl rfl))
  · -- inside the target element nothing is awaited by `on_start_tag_token`
    rw [onStart_inside hB, ite_self, List.append_assoc]
    exact endTok_inside tk ev hK hB hr hbf (hts.snoc t)

/-- what is still buffered is kept -/
theorem scriptInv_ledger {T : List Tok} {so : HtmlSt × Bytes} (h : ScriptInv tk v0 tgt T so) :
    Script tk v0 tgt T (ledger so.1 so.2) := by
  rcases h.2 with ⟨hI, hr⟩ | ⟨T0, ts, hB, rfl, hr, _⟩
  · simpa [ledger, hI.stack] using hr
  · have := hr.keeps ts
    simpa [ledger, hB.stack, flat] using this

theorem fold_script (v : Visitor) (hb : v.before = []) (hnb : v.isBuffering = false)
    (htgt : (pathOf v).getLast? = some tgt) (T : List Tok) :
    ScriptInv tk v tgt T (T.foldl (stepTok tk ev) (HtmlSt.new v, [])) := by
  have h0 : ScriptInv tk v tgt [] (HtmlSt.new v, []) := by
    refine ⟨keeps_new v hb, Or.inl ⟨⟨hnb, rfl, ?_⟩, .nil⟩⟩
    intro x hx
    rw [HtmlSt.new_enter hb] at hx
    exact Or.inl (Option.some.inj hx).symm
  simpa using Rio.Util.foldl_prefix_inv (stepTok tk ev) (ScriptInv tk v tgt) T [] _
    (fun T so t _ h => stepTok_scriptInv tk ev htgt T so t h) h0

end

theorem Script.toR {tk : Tokenize} {v : Visitor} {tgt : Bytes} {T : List Tok} {o : Bytes} (hk : v.kind = .replace) (h : Script tk v tgt T o) :
    RScript tgt v.content T o := by
  induction h with
  | nil => exact .nil
  | keep t _ ih => exact .keep t ih
  | after t hi => simp [insAtEnter, hk] at hi
  | lone t r hka => rw [hk] at hka; cases hka
  | span ts r _ hs hr _ ih =>
    rcases hr with rfl | hr
    · exact ih.keeps ts
    · rw [hk] at hr
      rw [show r = v.content from hr]
      exact .rep ts hs ih

/-- **The token loop of a fresh replace stage renders any token list by replacing non-overlapping element spans of the
target (the last element of the path) and keeping every other token in place.** -/
theorem fold_replace_strong (tk : Tokenize) (ev : Bytes → Bytes → Bool) {tgt : Bytes} (v : Visitor)
    (hk : v.kind = .replace) (hb : v.before = []) (hnb : v.isBuffering = false)
    (htgt : (pathOf v).getLast? = some tgt) (T : List Tok) :
    RScript tgt v.content T
      (ledger (T.foldl (stepTok tk ev) (HtmlSt.new v, [])).1 (T.foldl (stepTok tk ev) (HtmlSt.new v, [])).2) :=
  (scriptInv_ledger tk (fold_script tk ev v hb hnb htgt T)).toR hk

end Rio.Filter
