/-
Router proofs: `PathAndQueryMatcher` over the real regex-tree model satisfies the layer
laws `MLaws` (`pathTLaws`), from the theorems of property C08 (`inv_insert`, `contents_insert`, `contents_remove`,
`contents_retain`, `find_eq_scan`).

The tree's stored entries (`Item.contents`) are read as an association list `(pattern, id) ↦ route`
(`entriesOf`); on that list the real tree's operations are the specification-level operations of
RouterLayers.lean (`aupsert` up to a permutation, `entryRemove`, `filter`), so the representation
lemmas `ERepr` of RouterPath.lean apply.
-/
import RioModel.Proofs.RouterPath
import RioModel.Model.RouterTreeLayers
import RioModel.Proofs.TreeSpec
import RioModel.Proofs.TreeHistory
import RioModel.Proofs.TreeCache

namespace Rio.Router
open Rio.Regex Rio.Tree

theorem erepr_perm {P : Type} [DecidableEq P] (pathOf : Route → Option P)
    {t t' : List ((P × String) × Route)} {L : List Route} (h : ERepr pathOf t L) (hp : t.Perm t') :
    ERepr pathOf t' L :=
  .of_mem pathOf ((hp.map _).nodup_iff.1 h.nodup) fun e => hp.mem_iff.symm.trans (h.mem pathOf e)

section
variable {ι V : Type}

def toPair (e : Entry ι V) : (List Char × ι) × V := ((e.pat, e.id), e.val)

/-- the entries stored in a tree, as `(pattern, id) ↦ value` -/
def entriesOf (t : Item ι V) : List ((List Char × ι) × V) := t.contents.map toPair

theorem refInsert_pairs [DecidableEq ι] (L : List (Entry ι V)) (p : List Char) (id : ι) (v : V) :
    (refInsert L p id v).map toPair = aupsert (fun _ => v) v (p, id) (L.map toPair) := by
  induction L with
  | nil => simp [refInsert, aupsert, toPair]
  | cons e L ih =>
    simp only [refInsert, List.map_cons, aupsert]
    by_cases h : e.pat = p ∧ e.id = id
    · simp [h, toPair]
    · have : ¬ (toPair e).1 = (p, id) := by
        intro hh; apply h; simp only [toPair, Prod.mk.injEq] at hh; exact hh
      simp only [h, if_false, List.map_cons, ih, this]

theorem refRemove_pairs (L : List (Entry String Route)) (id : String) :
    (refRemove L id).map toPair = (entryRemove id (L.map toPair)).1 ∧
    refRemoved L id = (entryRemove id (L.map toPair)).2 := by
  induction L with
  | nil => simp [refRemove, refRemoved, entryRemove]
  | cons e L ih =>
    simp only [refRemove, refRemoved, List.map_cons, entryRemove]
    by_cases h : e.id = id
    · simp [h, toPair]
    · have : ¬ (toPair e).1.2 = id := h
      simp only [h, if_false, List.map_cons, this, ih.1, ih.2]
      trivial

theorem refRetain_keepIf (L : List (Entry ι V)) (g : ι → V → Bool) :
    refRetain L (keepIf g) = L.filter (fun e => g e.id e.val) := by
  unfold refRetain
  induction L with
  | nil => rfl
  | cons e L ih =>
    rw [List.filterMap_cons, List.filter_cons, ih]
    cases hg : g e.id e.val <;> simp [keepIf, hg]

theorem refRetain_keepIf_pairs (L : List (Entry ι V)) (g : ι → V → Bool) :
    (refRetain L (keepIf g)).map toPair = (L.map toPair).filter (fun e => g e.1.2 e.2) := by
  rw [refRetain_keepIf, List.filter_map]
  rfl

end

section
variable (T : TEnv) (Good : List Char → Prop)

/-- the tree key of a route's path pattern -/
def dynKey (r : Route) : Option (List Char) := (dynOf r).map T.render

/-- the route's path pattern, if any, is in the domain of C08 -/
def PathGood (r : Route) : Prop := ∀ p, dynOf r = some p → Good (T.render p) ∧ T.render p ≠ []

structure PTRepr (s : PathTState) (L : List Route) : Prop where
  len : L.length ≤ s.count
  inv : s.tree.inv T.icPath = true
  dom : ∀ e ∈ s.tree.contents, Good e.pat ∧ e.pat ≠ []
  tree : ERepr (dynKey T) (entriesOf s.tree) L
  statics : ERepr staticOf s.statics L

theorem dynKey_static (r : Route) (p : String) (h : r.path = .static p) : dynKey T r = none := by
  simp [dynKey, dynOf, h]

theorem dynKey_dyn (r : Route) (p : Pat) (h : r.path = .dyn p) : dynKey T r = some (T.render p) := by
  simp [dynKey, dynOf, h]

theorem ptrepr_insert (s : PathTState) (L : List Route) (r : Route) (h : PTRepr T Good s L)
    (hU : UIds (r :: L)) (hg : PathGood T Good r) : PTRepr T Good (PathT.insert T r s) (r :: L) := by
  unfold PathT.insert
  cases hp : r.path with
  | static p =>
    refine ⟨Nat.succ_le_succ h.len, h.inv, h.dom, ?_, ?_⟩
    · exact erepr_insert_none (dynKey T) _ _ r h.tree (dynKey_static T r p hp)
    · exact erepr_insert_some staticOf _ _ r p h.statics hU (by simp [staticOf, hp])
  | dyn p =>
    have hperm := contents_insert s.tree (T.render p) r.id r h.inv
    refine ⟨Nat.succ_le_succ h.len, inv_insert _ _ _ _ h.inv, ?_, ?_, ?_⟩
    · intro e he
      rcases mem_refInsert (hperm.subset he) with he | he
      · rw [he]; exact hg p (by simp [dynOf, hp])
      · exact h.dom e he
    · have h1 := erepr_insert_some (dynKey T) _ _ r (T.render p) h.tree hU (dynKey_dyn T r p hp)
      have hp2 : (entriesOf (s.tree.insert (T.render p) r.id r)).Perm
          (aupsert (fun _ => r) r (T.render p, r.id) (entriesOf s.tree)) := by
        unfold entriesOf
        rw [← refInsert_pairs]
        exact hperm.map _
      exact erepr_perm _ h1 hp2.symm
    · exact erepr_insert_none staticOf _ _ r h.statics (by simp [staticOf, hp])

theorem PathT.remove_of_some (id : String) (s : PathTState) (r : Route)
    (h : (s.tree.remove id).2 = some r) :
    PathT.remove id s = ({ s with tree := (s.tree.remove id).1, count := s.count - 1 }, some r) := by
  simp [PathT.remove, h]

theorem PathT.remove_of_none (id : String) (s : PathTState) (h : (s.tree.remove id).2 = none) :
    PathT.remove id s =
      ({ s with statics := (entryRemove id s.statics).1,
                count := if (entryRemove id s.statics).2.isSome then s.count - 1 else s.count },
       (entryRemove id s.statics).2) := by
  simp [PathT.remove, h]

theorem tree_remove_pairs (t : Item String Route) (id : String) :
    entriesOf (t.remove id).1 = (entryRemove id (entriesOf t)).1 ∧
    (t.remove id).2 = (entryRemove id (entriesOf t)).2 := by
  unfold entriesOf
  rw [(contents_remove t id).1, (contents_remove t id).2]
  exact refRemove_pairs t.contents id

theorem dynKey_excl (r : Route) (h : dynKey T r ≠ none) : staticOf r = none :=
  dynOf_excl r (fun e => h (by simp [dynKey, e]))

theorem ptrepr_remove (s : PathTState) (L : List Route) (id : String) (h : PTRepr T Good s L)
    (hU : UIds L) : PTRepr T Good (PathT.remove id s).1 (L.filter (fun r => r.id != id)) := by
  have hpairs := tree_remove_pairs s.tree id
  have ht := erepr_remove (dynKey T) (entriesOf s.tree) L id h.tree hU
  cases hr : (s.tree.remove id).2 with
  | some r =>
    rw [PathT.remove_of_some id s r hr]
    rw [hpairs.2] at hr
    have hc := eremove_count (dynKey T) (entriesOf s.tree) L id s.count h.tree h.len
    rw [hr] at hc
    rw [← hpairs.1] at ht
    refine ⟨hc, inv_remove s.tree id h.inv, ?_, ht,
      erepr_remove_other (dynKey T) staticOf (dynKey_excl T) _ _ L id r h.tree h.statics hU hr⟩
    intro e he
    rw [(contents_remove s.tree id).1] at he
    exact h.dom e (mem_refRemove he)
  | none =>
    -- the model keeps `s.tree` on a miss (the code what `remove` left of it: the same tree under `h.inv`)
    rw [PathT.remove_of_none id s hr]
    rw [hpairs.2] at hr
    rw [entryRemove_fst_of_none id _ hr] at ht
    exact ⟨eremove_count staticOf s.statics L id s.count h.statics h.len, h.inv, h.dom, ht,
      erepr_remove staticOf s.statics L id h.statics hU⟩

theorem ptremove_some (s : PathTState) (L : List Route) (id : String) (r : Route)
    (h : PTRepr T Good s L) (hU : UIds L) (hr : r ∈ L) (hid : r.id = id) :
    (PathT.remove id s).2 = some r := by
  have hpairs := tree_remove_pairs s.tree id
  cases hp : r.path with
  | dyn p =>
    have := eremove_some (dynKey T) (entriesOf s.tree) L id r (T.render p) h.tree hU hr
      (dynKey_dyn T r p hp) hid
    rw [← hpairs.2] at this
    rw [PathT.remove_of_some id s r this]
  | static p =>
    rw [PathT.remove_of_none id s (hpairs.2.trans
      (eremove_none_of_unkeyed (dynKey T) (entriesOf s.tree) L id r h.tree hU hr hid (dynKey_static T r p hp)))]
    exact eremove_some staticOf s.statics L id r p h.statics hU hr (by simp [staticOf, hp]) hid

theorem ptremove_none (s : PathTState) (L : List Route) (id : String) (h : PTRepr T Good s L)
    (hno : ∀ r ∈ L, r.id ≠ id) : (PathT.remove id s).2 = none := by
  have hpairs := tree_remove_pairs s.tree id
  have hnone : (s.tree.remove id).2 = none := by
    rw [hpairs.2]
    exact eremove_none (dynKey T) (entriesOf s.tree) L id h.tree (fun x hx _ => hno x hx)
  rw [PathT.remove_of_none id s hnone]
  exact eremove_none staticOf s.statics L id h.statics (fun x hx _ => hno x hx)

theorem ptrepr_batch (s : PathTState) (L : List Route) (ids : List String) (h : PTRepr T Good s L) :
    PTRepr T Good (PathT.batchRemove ids s) (L.filter (fun r => !ids.contains r.id)) := by
  unfold PathT.batchRemove
  have hc := contents_retain s.tree (keepIf fun id _ => !ids.contains id)
  refine ⟨Nat.le_trans (List.length_filter_le ..) h.len, inv_retain _ _ h.inv, ?_, ?_,
    erepr_batch staticOf _ _ ids h.statics⟩
  · intro e he
    rw [hc, refRetain_keepIf] at he
    exact h.dom e (List.mem_filter.mp he).1
  · have := erepr_batch (dynKey T) _ _ ids h.tree
    unfold entriesOf at this ⊢
    rw [hc, refRetain_keepIf_pairs]
    exact this

variable (hPS : PrefixSound T.engine Good)
include hPS

theorem pt_find_pairs (s : PathTState) (L : List Route) (h : PTRepr T Good s L) (hay : List Char) :
    s.tree.find T.engine hay =
      ((entriesOf s.tree).filter (fun e => T.engine.full T.icPath e.1.1 hay)).map Prod.snd := by
  rw [find_eq_scan hPS s.tree h.inv h.dom hay]
  unfold entriesOf
  rw [List.filter_map, List.map_map]
  rfl

theorem pt_mem_match (s : PathTState) (L : List Route) (h : PTRepr T Good s L) (q : Req) (r : Route) :
    r ∈ PathT.matchReq T s q ↔ r ∈ L ∧ pathOk T.env r q = true := by
  unfold PathT.matchReq
  rw [pt_find_pairs T Good hPS s L h, List.mem_append,
    mem_entries_match (dynKey T) (entriesOf s.tree) L h.tree (fun k => T.engine.full T.icPath k q.path.toList),
    mem_entries_match staticOf s.statics L h.statics (fun p => p == q.path)]
  unfold pathOk dynKey dynOf staticOf TEnv.env
  cases r.path <;> simp

theorem pt_nodup_match (s : PathTState) (L : List Route) (h : PTRepr T Good s L) (q : Req) :
    (PathT.matchReq T s q).Nodup := by
  unfold PathT.matchReq
  rw [pt_find_pairs T Good hPS s L h]
  exact nodup_entries_two (dynKey T) staticOf (dynKey_excl T) _ s.statics L h.tree h.statics _ _

omit hPS

theorem pathTreeTraceL_eq (ts : List (Tree.Trace Route)) : pathTreeTraceL ts = ts.map pathTreeTrace := by
  induction ts with
  | nil => simp [pathTreeTraceL]
  | cons t ts ih => simp [pathTreeTraceL, ih]

theorem pathTreeTrace_mk (rx : List Char) (c : Nat) (m : Bool) (cs : List (Tree.Trace Route))
    (vs : List Route) :
    pathTreeTrace (.mk rx c m cs vs) =
      Trace.mk m true c (.other "regex")
        (cs.map pathTreeTrace ++
          (if vs.isEmpty then []
           else [Trace.mk m true vs.length (.storage (if m then vs else [])) []])) := by
  rw [pathTreeTrace, pathTreeTraceL_eq]

theorem raw_treeTrace {ι V : Type} [DecidableEq ι] (conv : Tree.Trace V → Trace) (g : V → List Route)
    (hconv : ∀ rx c m cs vs, (conv (.mk rx c m cs vs)).rawRoutes =
      rawRoutesOfList (cs.map conv) ++ (if m then vs.flatMap g else []))
    (E : Engine) (t : Item ι V) (hay : List Char) :
    (conv (t.trace E hay)).rawRoutes = (t.find E hay).flatMap g := by
  induction t using Item.ind with
  | hE ic => rw [trace_empty, hconv, find_empty]; rfl
  | hL rx vs => rw [trace_leaf, hconv, find_leaf]; cases rx.isMatch E hay <;> rfl
  | hN rx cs ih =>
    rw [trace_node, hconv, find_node, findL_eq]
    cases rx.isMatch E hay
    · rfl
    · rw [if_pos rfl, if_pos rfl, if_pos rfl, List.map_map, rawRoutesOfList_map, List.flatMap_assoc]
      exact (List.append_nil _).trans (Rio.Util.flatMap_congr ih)

theorem raw_pathTreeTrace (E : Engine) (t : Item String Route) (hay : List Char) :
    (pathTreeTrace (t.trace E hay)).rawRoutes = t.find E hay := by
  rw [raw_treeTrace pathTreeTrace (fun r => [r]) ?_ E t hay, List.flatMap_singleton']
  intro rx c m cs vs
  rw [pathTreeTrace_mk, Trace.rawRoutes_mk, rawRoutesOfList_append, List.flatMap_singleton']
  cases vs <;> cases m <;> simp [TInfo.routes, rawRoutesOfList_singleton, Trace.rawRoutes_mk]

theorem pt_mem_trace (s : PathTState) (q : Req) (r : Route) :
    r ∈ rawRoutesOfList (PathT.trace T s q) ↔ r ∈ PathT.matchReq T s q := by
  unfold PathT.trace PathT.matchReq
  simp only [rawRoutesOfList_cons, rawRoutesOfList_nil, Trace.rawRoutes_mk, TInfo.routes,
    List.append_nil, List.nil_append, List.mem_append, raw_pathTreeTrace, raw_staticT]

/-- `regex_tree_rule.cache(limit, Some(level))` returns normally (no budget underflow), hands back at
most the budget it got, and changes nothing but compiled values. -/
theorem pathT_cache_ok (limit level : Nat) (s : PathTState) :
    ∃ t' n, Tree.treeCache T.engine s.tree limit (some level) = some (t', n) ∧
      PathT.cache T limit level s = ({ s with tree := t' }, n) ∧ n ≤ limit ∧ t'.strip = s.tree.strip := by
  obtain ⟨t', n, h1, hs, hn⟩ := treeCache_spec T.engine s.tree limit (some level)
  exact ⟨t', n, h1, by simp [PathT.cache, h1], hn, hs⟩

theorem ptrepr_cache (s : PathTState) (L : List Route) (limit level : Nat) (h : PTRepr T Good s L) :
    PTRepr T Good (PathT.cache T limit level s).1 L := by
  obtain ⟨t', n, h1, heq, _, hs⟩ := pathT_cache_ok T limit level s
  rw [heq]
  have hc : t'.contents = s.tree.contents := contents_eq_of_strip_eq hs
  have hi : t'.inv T.icPath = s.tree.inv T.icPath := inv_of_treeCache h1 T.icPath
  refine ⟨h.len, by rw [hi]; exact h.inv, by intro e he; rw [hc] at he; exact h.dom e he, ?_, h.statics⟩
  unfold entriesOf
  simp only [hc]
  exact h.tree

set_option linter.unusedSimpArgs false in
def pathTLaws (hPS : PrefixSound T.engine Good) : MLaws (pathTOps T) where
  Repr := PTRepr T Good
  sat := fun _ r q => pathOk T.env r q
  wf := fun _ => True
  okIns := PathGood T Good
  sat_congr := by intros; rfl
  repr_empty := ⟨by simp [pathTOps, PathT.empty], by simp [pathTOps, PathT.empty, Item.inv],
    by intro e he; simp [pathTOps, PathT.empty, Item.contents] at he,
    by simpa [pathTOps, PathT.empty, entriesOf, Item.contents] using erepr_empty (dynKey T),
    erepr_empty _⟩
  repr_congr := by
    intro m L L' h hsub hmem
    have hm : ∀ x, x ∈ L ↔ x ∈ L' := fun x => ⟨hmem x, fun hx => hsub.subset hx⟩
    exact ⟨Nat.le_trans hsub.length_le h.len, h.inv, h.dom, erepr_congr _ _ _ _ h.tree hm,
      erepr_congr _ _ _ _ h.statics hm⟩
  len_zero := by
    intro m L h h0
    have := h.len
    have h0' : m.count = 0 := h0
    rw [h0'] at this
    exact List.eq_nil_of_length_eq_zero (Nat.le_zero.mp this)
  repr_insert := fun m L r h hU hg => ptrepr_insert T Good m L r h hU hg
  repr_remove := fun m L id h hU => ptrepr_remove T Good m L id h hU
  remove_some := fun m L id r h hU hr _ hid => ptremove_some T Good m L id r h hU hr hid
  remove_none := fun m L id h hno => ptremove_none T Good m L id h hno
  remove_pos := by
    intro m L id h hs
    have hex : ∃ r ∈ L, r.id = id := by
      apply Classical.byContradiction; intro hne
      have := ptremove_none T Good m L id h (fun r hr e => hne ⟨r, hr, e⟩)
      have hs' : (PathT.remove id m).2.isSome = true := hs
      rw [this] at hs'; simp at hs'
    obtain ⟨r, hr, _⟩ := hex
    have := List.length_pos_of_mem hr
    have := h.len
    show 0 < m.count
    omega
  repr_batch := fun m L ids h => ptrepr_batch T Good m L ids h
  repr_cache := fun m L limit level h => ptrepr_cache T Good m L limit level h
  cache_le := by
    intro m limit level
    obtain ⟨t', n, _, heq, hn, _⟩ := pathT_cache_ok T limit level m
    show (PathT.cache T limit level m).2 ≤ limit
    rw [heq]; exact hn
  mem_match := fun m L q r h _ => pt_mem_match T Good hPS m L h q r
  nodup_match := fun m L q h _ => pt_nodup_match T Good hPS m L h q
  mem_trace := fun m L q r _ _ => pt_mem_trace T m q r

end
end Rio.Router
