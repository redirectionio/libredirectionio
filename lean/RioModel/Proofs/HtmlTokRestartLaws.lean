/-
The restart laws.  With a context (`RestartLaw htmlTokenize`), at any cut: what the filter keeps (`tail`, from the first
byte of the first held token) re-tokenised with `new_fragment(tail ++ next chunk, remembered context)` continues the token
stream exactly (up to merging a plain text that was cut by the end of the chunk with the text that follows).  Without one
(`htmlTokenize_restart`, `Tokenizer::new` under the syntactic condition `synSafeEnd`; a result of its own, the filter
theorems use the first).
Both are read off the records: how the records of a buffer end (`toksX_last`), restart at a token boundary
(`restartX_at`) or before a last plain text cut by the end of the data (`restartX_merge`), and then the filter's view of
the records (`view_snoc`, `MergeHead.view`) resp. the tokens alone (`splitHeld`, `MergeHead.toks`).
-/
import RioModel.Proofs.HtmlTokRestart

namespace Rio.Filter
open Rio.Html Rio.Html.Tokenizer Rio.Consts

/-- what the filter sees of a record list: the tokens before the first cut one, and the bytes from there on -/
def allOf (r : List TokX × Bytes × Bytes) : List Tok := toksOf (cutSplit r.1).1
def remOf (r : List TokX × Bytes × Bytes) : Bytes := rawsOf (toksOf (cutSplit r.1).2) ++ r.2.1

theorem view_toksX (c d : Bytes) (hd : V d) :
    (view htmlTokenize c d).all = allOf (toksX (Tokenizer.newFragment d.toArray c)) ∧
    (view htmlTokenize c d).rem = remOf (toksX (Tokenizer.newFragment d.toArray c)) := by
  rw [← htmlStream_eq_toksX c d hd]
  exact ⟨rfl, rfl⟩

theorem view_uncut_prefix (c d : Bytes) (hd : V d) (pre : List TokX) (X : List TokX × Bytes × Bytes)
    (hs : toksX (Tokenizer.newFragment d.toArray c) = (pre ++ X.1, X.2)) (hpre : ∀ x ∈ pre, x.cut = false) :
    (view htmlTokenize c d).all = toksOf pre ++ allOf X ∧ (view htmlTokenize c d).rem = remOf X := by
  obtain ⟨h1, h2⟩ := view_toksX c d hd
  rw [h1, h2, hs]
  unfold allOf remOf
  simp only
  rw [cutSplit_uncut_append _ _ hpre, toksOf_append]
  exact ⟨rfl, rfl⟩

/-- the conclusion of the restart law when the restart point is the `k`-th token boundary of `a1` -/
theorem finish_view (c a1 a' : Bytes) (hv : V a1) (hv' : V a') (k : Nat) {todo : List Tok}
    {tail ctx' : Bytes} (herr : (nextsF k (Tokenizer.newFragment a1.toArray c)).err = false)
    (htodo : todo = toksOf (firstToksX k (Tokenizer.newFragment a1.toArray c)))
    (htail : tail = a1.drop (nextsF k (Tokenizer.newFragment a1.toArray c)).rawE)
    (hctx' : ctx' = (nextsF k (Tokenizer.newFragment a1.toArray c)).rawTag) :
    normText (view htmlTokenize c (a1 ++ a')).all = normText (todo ++ (view htmlTokenize ctx' (tail ++ a')).all) ∧
    (view htmlTokenize c (a1 ++ a')).rem = (view htmlTokenize ctx' (tail ++ a')).rem ∧ V tail ∧ Ctx ctx' := by
  obtain ⟨r1, r2, r3⟩ := restartX_at c a1 a' hv k rfl herr
  subst htodo htail hctx'
  obtain ⟨h1, h2⟩ := view_uncut_prefix c _ (V_append hv hv') _ _ r1 (firstToksX_uncut k _ herr)
  obtain ⟨g1, g2⟩ := view_toksX _ _ (V_append r2 hv')
  exact ⟨by rw [h1, g1], by rw [h2, g2], r2, r3⟩

/-- `nextGo` in the `plaintext` context (`readToEnd`, then a text token or, on nothing, the main loop): everything up to
the end of the data is one text token, and the context never ends -/
theorem nextGo_plaintext (T : Tokenizer) (ok : Ok T) (he : T.err = false) (hp : T.rawTag = htmlPlaintext)
    (hS : T.rawS = T.rawE) (hD : T.dataS = T.rawE) :
    (nextGo T).err = true ∧ (nextGo T).rawTag = htmlPlaintext ∧
    (if T.rawE < T.buf.size then (nextGo T).token = .text else (nextGo T).token = .error) := by
  have hR : rawText T = { T.readToEnd with dataE := T.readToEnd.rawE, textIsRaw := true } := by
    unfold rawText; rw [if_pos (by rw [hp]; rfl)]
  rw [nextGo_eq, if_neg (by rw [he]; exact Bool.false_ne_true), if_pos (by rw [hp]; decide), hR]
  have a := readToEnd_adv T ok
  have e1 : (readToEnd T).err = true := readToEnd_err T
  have hre : (readToEnd T).rawE = T.buf.size := by
    have h1 := readToEnd_errGe T (fun h => by rw [he] at h; cases h) e1
    have h2 := a.ok.le; rw [a.buf] at h1 h2
    exact Nat.le_antisymm h2 h1
  have hds : (readToEnd T).dataS = T.rawE := (readToEnd_data T).1.trans hD
  have htag : (readToEnd T).rawTag = htmlPlaintext := a.rawTag.trans hp
  by_cases hlt : T.rawE < T.buf.size
  · rw [if_pos (show (readToEnd T).rawE > (readToEnd T).dataS by rw [hre, hds]; exact hlt), if_pos hlt]
    exact ⟨e1, htag, rfl⟩
  · rw [if_neg (show ¬ (readToEnd T).rawE > (readToEnd T).dataS by rw [hre, hds]; exact hlt), if_neg hlt]
    -- nothing was left: the main loop is at the end of the data, with no pending text
    have hle := ok.le
    rw [mainLoop_at_eof (by show ¬ (readToEnd T).rawE < (readToEnd T).buf.size; rw [hre, a.buf]; omega)]
    unfold finishText
    rw [if_neg (by show ¬ (readToEnd T).rawS < (readToEnd T).rawE; rw [a.rawS, hre, hS]; omega)]
    exact ⟨rfl, htag, rfl⟩

theorem next_plaintext (t : Tokenizer) (inv : Tokenizer.Inv t) (he : t.err = false)
    (hp : t.rawTag = htmlPlaintext) :
    (Tokenizer.next t).err = true ∧ (Tokenizer.next t).rawTag = htmlPlaintext ∧
    (if t.rawE < t.buf.size then (Tokenizer.next t).token = .text else (Tokenizer.next t).token = .error) :=
  nextGo_plaintext _ ⟨inv.ok.le, inv.ok.panic, inv.ok.hang, inv.ok.utf8⟩ he hp rfl rfl

theorem toksX_plaintext (t : Tokenizer) (inv : Tokenizer.Inv t) (eg : ErrGe t) (he : t.err = false)
    (hp : t.rawTag = htmlPlaintext) :
    toksX t = if t.rawE < t.buf.size then
        ([{ tok := textTok (restL t), cut := true, ctx := htmlPlaintext }], [], htmlPlaintext)
      else ([], [], htmlPlaintext) := by
  obtain ⟨p1, p2, p3⟩ := next_plaintext t inv he hp
  have cb := next_cut_buffered t inv eg p1
  by_cases hlt : t.rawE < t.buf.size
  · rw [if_pos hlt] at p3 ⊢
    rw [toksX_unfold t inv, if_neg (by rw [p3]; decide), toksX_of_err _ (next_inv' t inv) p1, cb.1, p2, hp, tokXOf,
      tokOf_text p3, p1, cb.2]
  · rw [if_neg hlt] at p3 ⊢
    rw [toksX_unfold t inv, if_pos (by rw [p3]; rfl), hp]
    have : restL t = [] := by
      unfold restL; have := inv.ok.le
      have e : t.rawE = t.buf.size := by omega
      rw [e]; simp
    rw [this]

theorem isCut_text {ctx : Bytes} (hctx : ctx = [] ∨ ctx = htmlPlaintext) (r : Bytes) (e : Bool) :
    isCut { tok := textTok r, cut := e, ctx := ctx } = false := by
  rcases hctx with rfl | rfl <;> simp [isCut, textTok]

theorem plaintext_ctx : Ctx htmlPlaintext := Or.inr (by decide)

theorem toksX_newFragment_plaintext (b : Bytes) :
    toksX (Tokenizer.newFragment b.toArray htmlPlaintext) =
      if b = [] then ([], [], htmlPlaintext)
      else ([{ tok := textTok b, cut := true, ctx := htmlPlaintext }], [], htmlPlaintext) := by
  have f := newFragment_fields b.toArray htmlPlaintext
  have f9 := newFragment_of_ctx b.toArray plaintext_ctx
  have inv := newFragment_inv b.toArray htmlPlaintext
  have eg : ErrGe (Tokenizer.newFragment b.toArray htmlPlaintext) := by intro h; rw [f.2.2.2.1] at h; cases h
  rw [toksX_plaintext _ inv eg f.2.2.2.1 f9, f.2.1, f.1, restL_newFragment]
  by_cases hb : b = []
  · subst hb; simp
  · have : 0 < b.toArray.size := by
      simp; exact List.length_pos_iff.mpr hb
    rw [if_pos this, if_neg hb]

theorem MergeHead.view {ctx r : Bytes} {Y N : List TokX × Bytes × Bytes} (h : MergeHead ctx r Y N)
    (hctx : ctx = [] ∨ ctx = htmlPlaintext) :
    normText (allOf Y) = normText (textTok r :: allOf N) ∧ remOf Y = remOf N := by
  have hcut := isCut_text hctx
  obtain ⟨hrem, ⟨r', e, R, hY, hN⟩ | ⟨e, hY⟩⟩ := h
  · unfold allOf remOf
    rw [hrem, hY, hN, cutSplit_cons_ok _ _ (hcut _ _), cutSplit_cons_ok _ _ (hcut _ _)]
    exact ⟨normText_merge r r' _, rfl⟩
  · unfold allOf remOf
    rw [hrem, hY, cutSplit_cons_ok _ _ (hcut _ _)]
    exact ⟨rfl, rfl⟩

theorem toksX_cut_text_cases (ctx c a' : Bytes) (hctx : ctx = [] ∨ ctx = htmlPlaintext) (hc : c ≠ [])
    (hno : ∀ b ∈ c, b ≠ 60) :
    MergeHead ctx c (toksX (Tokenizer.newFragment (c ++ a').toArray ctx)) (toksX (Tokenizer.newFragment a'.toArray ctx)) := by
  rcases hctx with rfl | rfl
  · rw [newFragment_nil, newFragment_nil]; exact toksX_text_cases c a' hc hno
  · have hne : c ++ a' ≠ [] := fun h => hc (List.append_eq_nil_iff.mp h).1
    rw [toksX_newFragment_plaintext, toksX_newFragment_plaintext, if_neg hne]
    by_cases ha : a' = []
    · subst ha; rw [if_pos rfl, List.append_nil]; exact ⟨rfl, Or.inr ⟨true, rfl⟩⟩
    · rw [if_neg ha]; exact ⟨rfl, Or.inl ⟨a', true, [], rfl, rfl⟩⟩

/-- a last plain text cut by the end of the data (context "" or `plaintext`) was all that was unread, and the records of
`a1 ++ a'` are the records before it followed by those of `a'` with that text in front -/
theorem restartX_merge (c a1 a' : Bytes) (hv : V a1) (m' : Nat) {sp : Tokenizer}
    (hs : nextsF m' (Tokenizer.newFragment a1.toArray c) = sp) (hsperr : sp.err = false)
    (herr : (Tokenizer.next sp).err = true) (htok : (Tokenizer.next sp).token = .text)
    (hnolt : hasLt (rawL (Tokenizer.next sp)) = false) (hctx : sp.rawTag = [] ∨ sp.rawTag = htmlPlaintext) :
    a1.drop (Tokenizer.next sp).rawE = [] ∧ tokOf (Tokenizer.next sp) = textTok (rawL (Tokenizer.next sp)) ∧
    (Tokenizer.next sp).rawTag = sp.rawTag ∧ Ctx sp.rawTag ∧
    ∃ Y, toksX (Tokenizer.newFragment (a1 ++ a').toArray c) =
        (firstToksX m' (Tokenizer.newFragment a1.toArray c) ++ Y.1, Y.2) ∧
      MergeHead sp.rawTag (rawL (Tokenizer.next sp)) Y (toksX (Tokenizer.newFragment a'.toArray sp.rawTag)) := by
  have iu := newFragment_inv a1.toArray c
  have isp : Tokenizer.Inv sp := by rw [← hs]; exact nextsF_inv m' _ iu
  have hspbuf : sp.buf = a1.toArray := by
    rw [← hs]; exact (nextsF_buf m' _ iu).trans (newFragment_fields a1.toArray c).1
  have lsp : LoopInv sp := by rw [← hs]; exact loopInv_nextsF m' _ (loopInv_newFragment a1 c hv)
  obtain ⟨hctext, hdrop2, hcne, hltok, hno⟩ := cut_text_last isp lsp.eg hspbuf herr htok hnolt
  obtain ⟨r1, _, r3⟩ := restartX_at c a1 a' hv m' hs hsperr
  rw [hctext] at r1
  refine ⟨hdrop2, hltok, ?_, r3, _, r1, toksX_cut_text_cases _ _ a' hctx hcne hno⟩
  rcases hctx with h | h
  · rcases next_ctx sp isp with e | ⟨_, e, _⟩ | ⟨e, _⟩
    · rw [e, h]
    · rw [htok] at e; rcases e with e | e <;> cases e
    · exact e
  · rw [h]; exact (next_plaintext sp isp hsperr h).2.1

theorem htmlTokenize_restartLaw : RestartLaw htmlTokenize := by
  intro c a1 a' _ hv hv'  -- (`Ctx c` is not needed: `new_fragment` drops any other context)
  have fu := newFragment_fields a1.toArray c
  have hst := htmlStream_eq_toksX c a1 hv
  -- restart at a token boundary ends with `finish_view`, restart before a cut text with `restartX_merge`
  rcases toksX_last (newFragment_inv a1.toArray c) fu.1 with h0 | ⟨m', sp, hsp, hsperr, isp, hspbuf, _, hX, hdrop⟩
  · rw [h0] at hst
    have v := view_of_nil htmlTokenize c a1 _ [] _ _ hst rfl
    exact finish_view c a1 a' hv hv' 0 fu.2.2.2.1 (by rw [v.1]; rfl) (by rw [v.2.1]; rfl) (by rw [v.2.2]; rfl)
  · rw [hX] at hst
    have hpre := firstToksX_uncut m' _ (by rw [hsp]; exact hsperr)
    obtain ⟨vkept, vdone⟩ := view_snoc htmlTokenize c a1 _ _ _ _ hst hpre
    have hsm : nextsF (m' + 1) (Tokenizer.newFragment a1.toArray c) = Tokenizer.next sp := by
      rw [nextsF_succ_back, hsp]
    by_cases hkeep : isCut (tokXOf sp.rawTag (Tokenizer.next sp)) = true ∨
        (kindOf (Tokenizer.next sp).token = .text ∧ hasLt (rawL (Tokenizer.next sp)) = true)
    · -- the last token is cut, or a text holding `<`: it is kept, restart before it
      obtain ⟨v1, v2, v3⟩ := vkept hkeep
      exact finish_view c a1 a' hv hv' m' (by rw [hsp]; exact hsperr) v1 (by rw [v2, hsp, hdrop]; rfl)
        (by rw [v3, hsp]; rfl)
    · have hncut : isCut (tokXOf sp.rawTag (Tokenizer.next sp)) = false :=
        Bool.eq_false_iff.mpr fun h => hkeep (Or.inl h)
      obtain ⟨v1, v2, v3⟩ := vdone hncut fun h => hkeep (Or.inr h)
      by_cases hsmerr : (Tokenizer.next sp).err = false
      · -- every token is complete: restart after the last one
        exact finish_view c a1 a' hv hv' (m' + 1) (by rw [hsm]; exact hsmerr)
          (by rw [v1, firstToksX_succ_back, hsp, toksOf_append]; rfl) (by rw [v2, hsm]) (by rw [v3, hsm])
      · -- the last token is a plain text cut by the end of the data (context "" or plaintext): it merges
        have hsmerr' : (Tokenizer.next sp).err = true := by simpa using hsmerr
        -- `isCut` of the record, written out
        have hk : ((Tokenizer.next sp).err && (kindOf (Tokenizer.next sp).token != .text ||
            (sp.rawTag != [] && sp.rawTag != htmlPlaintext))) = false := hncut
        rw [hsmerr'] at hk
        simp only [Bool.true_and, Bool.or_eq_false_iff, Bool.and_eq_false_iff, bne_eq_false_iff_eq] at hk
        have hnolt : hasLt (rawL (Tokenizer.next sp)) = false :=
          Bool.eq_false_iff.mpr fun h' => hkeep (Or.inr ⟨hk.1, h'⟩)
        obtain ⟨hrest, hltok, hsmtag, r3, Y, hU, mh⟩ :=
          restartX_merge c a1 a' hv m' hsp hsperr hsmerr' (kindOf_text hk.1) hnolt hk.2
        obtain ⟨h1, h2⟩ := view_uncut_prefix c _ (V_append hv hv') _ Y hU hpre
        obtain ⟨g1, g2⟩ := view_toksX sp.rawTag a' hv'
        obtain ⟨mg1, mg2⟩ := mh.view hk.2
        rw [v1, v2, v3, hrest, List.nil_append, hsmtag, h1, h2, g1, g2, List.append_assoc]
        refine ⟨normText_prefix_congr _ _ _ ?_, mg2, V_nil, r3⟩
        rw [mg1, ← hltok]
        rfl

/-- the restart law for the plain tokenizer (`Tokenizer::new`), at a syntactically safe end of `a1`: tokenising `a1 ++ a'`
gives — up to merging of adjacent text tokens — the tokens already processed for `a1` (all but a held text containing `<`)
followed by the tokens of `held tail ++ a'` from a fresh tokenizer -/
theorem htmlTokenize_restart (a1 a' : Bytes) (hv : V a1) (hv' : V a') (hsafe : synSafeEnd a1 = true) :
    normText (htmlTokenize (a1 ++ a')).1 =
      normText ((splitHeld (htmlTokenize a1).1).1 ++
        (htmlTokenize ((splitHeld (htmlTokenize a1).1).2 ++ (htmlTokenize a1).2 ++ a')).1) ∧
    (htmlTokenize (a1 ++ a')).2 =
      (htmlTokenize ((splitHeld (htmlTokenize a1).1).2 ++ (htmlTokenize a1).2 ++ a')).2 ∧
    V ((splitHeld (htmlTokenize a1).1).2 ++ (htmlTokenize a1).2) := by
  have iu : Tokenizer.Inv (Tokenizer.new a1.toArray) := newFragment_inv _ []
  rw [htmlTokenize_eq_toks a1 hv, htmlTokenize_eq_toks (a1 ++ a') (V_append hv hv')]
  unfold synSafeEnd at hsafe
  simp only at hsafe
  -- the exact cases: the restart point is the `k`-th token boundary, outside every raw-text context
  have finish : ∀ (k : Nat) (todo : List Tok) (tail : Bytes),
      (nextsF k (Tokenizer.new a1.toArray)).err = false → (nextsF k (Tokenizer.new a1.toArray)).rawTag = [] →
      todo = firstToks k (Tokenizer.new a1.toArray) → tail = a1.drop (nextsF k (Tokenizer.new a1.toArray)).rawE →
      normText (toks (Tokenizer.new (a1 ++ a').toArray)).1 = normText (todo ++ (htmlTokenize (tail ++ a')).1) ∧
      (toks (Tokenizer.new (a1 ++ a').toArray)).2 = (htmlTokenize (tail ++ a')).2 ∧ V tail := by
    intro k todo tail herr htag htodo htail
    have r := restart_at a1 a' hv k rfl herr htag
    rw [htail, htodo, htmlTokenize_eq_toks _ (V_append r.2 hv'), r.1]
    exact ⟨rfl, rfl, r.2⟩
  rcases toksX_last iu rfl with h0 | ⟨m', sp, hsp, hsperr, isp, hspbuf, hlen, hX, hdrop⟩
  · -- no token at all: everything is the remainder
    have ht : toks (Tokenizer.new a1.toArray) = ([], a1) := by rw [toks_eq_toksX, h0]; rfl
    rw [ht, show splitHeld ([] : List Tok) = ([], []) from rfl]
    simp only [List.nil_append]
    rw [htmlTokenize_eq_toks (a1 ++ a') (V_append hv hv')]
    exact ⟨rfl, rfl, hv⟩
  · have ht : toks (Tokenizer.new a1.toArray) =
        (firstToks m' (Tokenizer.new a1.toArray) ++ [tokOf (Tokenizer.next sp)], a1.drop (Tokenizer.next sp).rawE) := by
      rw [toks_eq_toksX, hX, toksOf_append, toksOf_firstToksX]; rfl
    have hm : (toks (Tokenizer.new a1.toArray)).1.length = m' + 1 := by
      rw [toks_eq_toksX, ← hlen]; simp [toksOf]
    have hsm : nextsF (m' + 1) (Tokenizer.new a1.toArray) = Tokenizer.next sp := by rw [nextsF_succ_back, hsp]
    rw [hm, if_neg (Nat.succ_ne_zero _), Nat.add_sub_cancel, hsp, hsm] at hsafe
    rw [ht]
    have hraw : (tokOf (Tokenizer.next sp)).raw = rawL (Tokenizer.next sp) := rfl
    have hkind : (tokOf (Tokenizer.next sp)).kind = kindOf (Tokenizer.next sp).token := rfl
    generalize htl : tokOf (Tokenizer.next sp) = tl at hsafe hraw hkind ⊢
    by_cases hheld : (tl.kind == TokKind.text && hasLt tl.raw) = true
    · -- the last token is a held text: restart before it
      rw [if_pos hheld] at hsafe
      have hs2 : sp.err = false ∧ sp.rawTag = [] := by simpa using hsafe
      rw [splitHeld_snoc_held _ _ (by simpa using hheld)]
      exact finish m' _ _ (by rw [hsp]; exact hs2.1) (by rw [hsp]; exact hs2.2) rfl (by rw [hsp, hdrop, hraw])
    · rw [if_neg hheld] at hsafe
      have hnh : ¬ (tl.kind = .text ∧ hasLt tl.raw = true) := by simpa using hheld
      rw [splitHeld_snoc_not _ _ hnh]
      simp only [List.nil_append]
      by_cases hcomp : (!(Tokenizer.next sp).err) = true
      · -- every token is complete: restart after the last one
        rw [if_pos hcomp] at hsafe
        exact finish (m' + 1) _ _ (by rw [hsm]; simpa using hcomp) (by rw [hsm]; simpa using hsafe)
          (by rw [firstToks_succ_back, hsp, htl]) (by rw [hsm])
      · -- the last token is a plain text cut by EOF: it merges with what follows
        rw [if_neg hcomp] at hsafe
        have he : (Tokenizer.next sp).err = true := by simpa using hcomp
        have hs3 : tl.kind = .text ∧ sp.err = false ∧ sp.rawTag = [] := by simpa using hsafe
        have hnolt : hasLt (rawL (Tokenizer.next sp)) = false :=
          Bool.eq_false_iff.mpr fun h => hnh ⟨hs3.1, hraw ▸ h⟩
        obtain ⟨hrest, hltok, _, _, Y, hU, mh⟩ :=
          restartX_merge [] a1 a' hv m' hsp hsperr he (kindOf_text (hkind ▸ hs3.1)) hnolt (Or.inl hs3.2.2)
        obtain ⟨mg1, mg2⟩ := mh.toks
        rw [hs3.2.2, newFragment_nil] at mg1 mg2
        rw [hrest, List.nil_append, htmlTokenize_eq_toks a' hv', toks_eq_toksX, toks_eq_toksX (Tokenizer.new a'.toArray)]
        rw [newFragment_nil] at hU
        rw [hU, toksOf_append, toksOf_firstToksX, List.append_assoc]
        refine ⟨normText_prefix_congr _ _ _ ?_, mg2, V_nil⟩
        rw [mg1, ← htl, hltok]
        rfl

end Rio.Filter
