/-
Lemmas about the prefix scanner (Model/Scan.lean): `commonPrefixCharSize l r` is the largest `k` such
that `l` and `r` agree on their first `k` chars (`Common k l r`) and the scanner is in its boundary state after them
(`Bd b0 l k`; `cpcs_spec`, from the loop invariant `cpLoop_spec`).  In terms of boundary prefixes (`BPre`, the model's
`bpre` as a proposition): `commonPrefix l r`, of that length, is the longest common boundary prefix of `l` and `r`
(`commonPrefix_bpre_left`, `commonPrefix_bpre_right`, `commonPrefix_length`, `le_cpcs_of_bpre`); the facts about
`commonPrefixCharSize` after these follow from them alone.
-/
import RioModel.Model.Scan

namespace Rio.Scan

@[simp] theorem scan_nil (s : St) : scan s [] = s := rfl
@[simp] theorem scan_cons (s : St) (c : Char) (cs : List Char) : scan s (c :: cs) = scan (s.step c) cs := rfl
theorem scan_append (s : St) (a b : List Char) : scan s (a ++ b) = scan (scan s a) b := by
  simp [scan, List.foldl_append]

@[simp] theorem b0_atBoundary : b0.atBoundary = true := by decide

def Common (k : Nat) (l r : List Char) : Prop :=
  k ≤ l.length ∧ k ≤ r.length ∧ l.take k = r.take k

def Bd (s : St) (l : List Char) (k : Nat) : Prop := (scan s (l.take k)).atBoundary = true

theorem common_zero (l r : List Char) : Common 0 l r := by simp [Common]

theorem common_cons_succ {c d : Char} {l r : List Char} {k : Nat} :
    Common (k + 1) (c :: l) (d :: r) ↔ c = d ∧ Common k l r := by
  simp only [Common, List.length_cons, List.take_succ_cons, List.cons.injEq]
  constructor
  · rintro ⟨h1, h2, h3, h4⟩; exact ⟨h3, by omega, by omega, h4⟩
  · rintro ⟨h3, h1, h2, h4⟩; exact ⟨by omega, by omega, h3, h4⟩

theorem bd_zero {s : St} {l : List Char} : Bd s l 0 ↔ s.atBoundary = true := by simp [Bd]

theorem bd_cons_succ {s : St} {c : Char} {l : List Char} {k : Nat} :
    Bd s (c :: l) (k + 1) ↔ Bd (s.step c) l k := by
  simp [Bd]

/-- The common end of the three cases of `cpLoop_spec`: when no common boundary position lies ahead, the last one is the
current position (`k = 0`, if the scanner is at a boundary now) or there is none. -/
theorem last_of_none_ahead {l r : List Char} {s : St} {i best : Nat} (hb : s.atBoundary = true → best = i)
    (hno : ∀ k, Common (k + 1) l r → ¬ Bd s l (k + 1)) :
    (∃ k, best = i + k ∧ Common k l r ∧ Bd s l k ∧ ∀ k', Common k' l r → Bd s l k' → k' ≤ k) ∨
    ∀ k, Common k l r → ¬ Bd s l k := by
  by_cases hs : s.atBoundary = true
  · refine .inl ⟨0, hb hs, common_zero l r, bd_zero.2 hs, fun k' hc hbd => ?_⟩
    cases k' with
    | zero => exact Nat.le_refl 0
    | succ k' => exact absurd hbd (hno k' hc)
  · refine .inr fun k hc => ?_
    cases k with
    | zero => exact fun h => hs (bd_zero.1 h)
    | succ k => exact hno k hc

/-- The loop invariant of `common_prefix_char_size`: `best` is the last boundary position passed, which is `i` itself
when the scanner is at a boundary now. -/
theorem cpLoop_spec (l r : List Char) (s : St) (i best : Nat) (hb : s.atBoundary = true → best = i) :
    (∃ k, cpLoop l r s i best = i + k ∧ Common k l r ∧ Bd s l k ∧ ∀ k', Common k' l r → Bd s l k' → k' ≤ k) ∨
    (cpLoop l r s i best = best ∧ ∀ k, Common k l r → ¬ Bd s l k) := by
  fun_induction cpLoop l r s i best with
  | case1 a l b r s i best hab =>
    exact (last_of_none_ahead hb fun k hc => absurd (common_cons_succ.1 hc).1 hab).imp_right (And.intro rfl)
  | case2 a l b r s i best hab s' ih =>
    obtain rfl : a = b := Decidable.of_not_not hab
    rcases ih (fun h => if_pos h) with ⟨k, e, hc, hbd, hmax⟩ | ⟨e, hno⟩
    · refine .inl ⟨k + 1, by rw [e]; omega, common_cons_succ.2 ⟨rfl, hc⟩, bd_cons_succ.2 hbd, fun k' hc' hbd' => ?_⟩
      cases k' with
      | zero => omega
      | succ k' => exact Nat.succ_le_succ (hmax k' (common_cons_succ.1 hc').2 (bd_cons_succ.1 hbd'))
    · -- no boundary from the next position on: in particular not there, so `best` was kept
      rw [e, if_neg fun h => hno 0 (common_zero l r) (bd_zero.2 h)]
      exact (last_of_none_ahead hb fun k hc hbd => hno k (common_cons_succ.1 hc).2 (bd_cons_succ.1 hbd)).imp_right
        (And.intro rfl)
  | case3 l r s i best hno =>
    refine (last_of_none_ahead hb fun k hc => ?_).imp_right (And.intro rfl)
    obtain ⟨a, l, rfl⟩ := List.exists_cons_of_length_pos (Nat.lt_of_lt_of_le k.succ_pos hc.1)
    obtain ⟨b, r, rfl⟩ := List.exists_cons_of_length_pos (Nat.lt_of_lt_of_le k.succ_pos hc.2.1)
    exact (hno a l b r rfl rfl).elim

theorem cpcs_spec (l r : List Char) :
    Common (commonPrefixCharSize l r) l r ∧ Bd b0 l (commonPrefixCharSize l r) ∧
    ∀ k, Common k l r → Bd b0 l k → k ≤ commonPrefixCharSize l r := by
  rcases cpLoop_spec l r b0 0 0 (fun _ => rfl) with ⟨k, e, h⟩ | ⟨_, hno⟩
  · rw [commonPrefixCharSize, e, Nat.zero_add]; exact h
  · exact absurd (bd_zero.2 b0_atBoundary) (hno 0 (common_zero l r))

theorem cpcs_common (l r : List Char) : Common (commonPrefixCharSize l r) l r := (cpcs_spec l r).1

theorem cpcs_bd (l r : List Char) : Bd b0 l (commonPrefixCharSize l r) := (cpcs_spec l r).2.1

theorem cpcs_max (l r : List Char) (k : Nat) (hc : Common k l r) (hb : Bd b0 l k) :
    k ≤ commonPrefixCharSize l r := (cpcs_spec l r).2.2 k hc hb

theorem cpcs_le_left (l r : List Char) : commonPrefixCharSize l r ≤ l.length := (cpcs_common l r).1
theorem cpcs_le_right (l r : List Char) : commonPrefixCharSize l r ≤ r.length := (cpcs_common l r).2.1

def BPre (q p : List Char) : Prop := q <+: p ∧ (scan b0 q).atBoundary = true

theorem bpre_iff {q p : List Char} : bpre q p = true ↔ BPre q p := by
  simp [bpre, BPre, List.isPrefixOf_iff_prefix]

theorem BPre.trans {a b c : List Char} (h1 : BPre a b) (h2 : BPre b c) : BPre a c :=
  ⟨h1.1.trans h2.1, h1.2⟩

theorem BPre.length_le {q p : List Char} (h : BPre q p) : q.length ≤ p.length := h.1.length_le

theorem prefix_common {q p : List Char} (h : q <+: p) : Common q.length q p := by
  obtain ⟨t, rfl⟩ := h
  simp [Common]

theorem common_prefix_of {k : Nat} {l r : List Char} (h : Common k l r) : l.take k <+: r := by
  rw [h.2.2]; exact List.take_prefix _ _

theorem getPrefix_eq_take (s : List Char) (n : Nat) : getPrefixWithCharSize s n = s.take n := by
  unfold getPrefixWithCharSize; split
  · next h => subst h; simp
  · rfl

theorem commonPrefix_eq (l r : List Char) : commonPrefix l r = l.take (commonPrefixCharSize l r) := by
  simp [commonPrefix, getPrefix_eq_take]

theorem commonPrefix_length (l r : List Char) : (commonPrefix l r).length = commonPrefixCharSize l r := by
  rw [commonPrefix_eq, List.length_take]; have := cpcs_le_left l r; omega

theorem commonPrefix_bpre_left (l r : List Char) : BPre (commonPrefix l r) l := by
  rw [commonPrefix_eq]; exact ⟨List.take_prefix _ _, cpcs_bd l r⟩

theorem commonPrefix_bpre_right (l r : List Char) : BPre (commonPrefix l r) r := by
  rw [commonPrefix_eq]; exact ⟨common_prefix_of (cpcs_common l r), cpcs_bd l r⟩

theorem le_cpcs_of_bpre {q a b : List Char} (ha : BPre q a) (hb : BPre q b) :
    q.length ≤ commonPrefixCharSize a b := by
  apply cpcs_max
  · obtain ⟨t, rfl⟩ := ha.1
    obtain ⟨u, rfl⟩ := hb.1
    simp [Common]
  · obtain ⟨t, rfl⟩ := ha.1
    simpa [Bd] using ha.2

theorem cpcs_comm (l r : List Char) : commonPrefixCharSize l r = commonPrefixCharSize r l := by
  apply Nat.le_antisymm
  · rw [← commonPrefix_length l r]; exact le_cpcs_of_bpre (commonPrefix_bpre_right l r) (commonPrefix_bpre_left l r)
  · rw [← commonPrefix_length r l]; exact le_cpcs_of_bpre (commonPrefix_bpre_right r l) (commonPrefix_bpre_left r l)

/-- The test `prefix_size < max_prefix_size` of `Node::insert` fails in this case (and in no other: `prefix_of_cpcs_eq`,
`cpcs_bd`). -/
theorem cpcs_eq_of_bpre {q p : List Char} (h : BPre q p) : commonPrefixCharSize p q = q.length :=
  Nat.le_antisymm (cpcs_le_right p q) (le_cpcs_of_bpre h ⟨List.prefix_refl _, h.2⟩)

theorem prefix_of_cpcs_eq {q p : List Char} (h : commonPrefixCharSize p q = q.length) : q <+: p := by
  have := (commonPrefix_bpre_left q p).1.eq_of_length (by rw [commonPrefix_length, cpcs_comm, h])
  rw [← this]; exact (commonPrefix_bpre_right q p).1

theorem cpcs_mono_left {a' a b : List Char} (h : a' <+: a) :
    commonPrefixCharSize a' b ≤ commonPrefixCharSize a b := by
  have hl := commonPrefix_bpre_left a' b
  rw [← commonPrefix_length a' b]
  exact le_cpcs_of_bpre ⟨hl.1.trans h, hl.2⟩ (commonPrefix_bpre_right a' b)

theorem cpcs_mono_right {a b' b : List Char} (h : b' <+: b) :
    commonPrefixCharSize a b' ≤ commonPrefixCharSize a b := by
  rw [cpcs_comm a b', cpcs_comm a b]; exact cpcs_mono_left h

theorem cpcs_extend {a a' b : List Char} (h : BPre a a') (hlt : commonPrefixCharSize a b < a.length) :
    commonPrefixCharSize a' b = commonPrefixCharSize a b := by
  apply Nat.le_antisymm _ (cpcs_mono_left h.1)
  have hl := commonPrefix_bpre_left a' b
  have hr := commonPrefix_bpre_right a' b
  rw [← commonPrefix_length a' b]
  -- `a` and the common boundary prefix of `a'` and `b` are both prefixes of `a'`: the shorter is a prefix of the longer
  by_cases hk : (commonPrefix a' b).length ≤ a.length
  · exact le_cpcs_of_bpre ⟨List.prefix_of_prefix_length_le hl.1 h.1 hk, hl.2⟩ hr
  · -- then all of `a` would be a common boundary prefix of `a` and `b`
    have ha : a <+: commonPrefix a' b := List.prefix_of_prefix_length_le h.1 hl.1 (by omega)
    have := le_cpcs_of_bpre ⟨List.prefix_refl a, h.2⟩ ⟨ha.trans hr.1, h.2⟩
    omega

end Rio.Scan
