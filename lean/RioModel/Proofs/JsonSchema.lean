/-
Tie between the hand-written serde model and the source, by regeneration: the tables
`Rio.Consts.serde*` are re-extracted from the `#[derive(Serialize, Deserialize)]` items of
/repo/src on every run (tools/consts.d/w4_serde.py).  This file

* pins, literally, the schema the model was transcribed from (`schema_*`): an added, removed,
  renamed, reordered or re-typed field, a changed `#[serde(..)]` attribute, a changed variant
  order of the untagged union – each makes this module fail to build, so C06 is reported until
  the model has been revisited;
* proves that the keys the model's `ser*` emits are exactly the extracted keys, in the
  extracted order (`ser*_keys`), and that the variant names of `TextAction` are the extracted
  renames.
-/
import RioModel.Generated.Consts
import RioModel.Model.JsonAction

namespace Rio.Json
open Rio.Consts

def objKeys : Json → List String
  | .obj kvs => kvs.map (·.1)
  | _ => []

def schemaKeys (s : List (String × String × String)) : List String := s.map (·.1)

theorem schema_Action : serdeActionAttrs = [] ∧ serdeAction =
    [("status_code_update", "Option<StatusCodeUpdate>", ""),
     ("header_filters", "Vec<HeaderFilterAction>", ""),
     ("body_filters", "Vec<BodyFilterAction>", ""),
     ("rule_ids", "LinkedHashSet<String>", ""),
     ("rule_traces", "Vec<RuleTrace>", "default"),
     ("rules_applied", "LinkedHashSet<String>", "default"),
     ("log_override", "Option<LogOverride>", "")] := ⟨rfl, rfl⟩

theorem schema_RuleTrace : serdeRuleTraceAttrs = [] ∧ serdeRuleTrace =
    [("id", "String", ""), ("on_response_status_codes", "Vec<u16>", ""),
     ("exclude_response_status_codes", "bool", "")] := ⟨rfl, rfl⟩

theorem schema_HeaderFilterAction : serdeHeaderFilterActionAttrs = [] ∧ serdeHeaderFilterAction =
    [("filter", "HeaderFilter", ""), ("on_response_status_codes", "Vec<u16>", ""),
     ("exclude_response_status_codes", "bool", ""), ("rule_id", "Option<String>", "")] := ⟨rfl, rfl⟩

theorem schema_BodyFilterAction : serdeBodyFilterActionAttrs = [] ∧ serdeBodyFilterAction =
    [("filter", "BodyFilter", ""), ("on_response_status_codes", "Vec<u16>", ""),
     ("exclude_response_status_codes", "bool", ""), ("rule_id", "Option<String>", "")] := ⟨rfl, rfl⟩

theorem schema_StatusCodeUpdate : serdeStatusCodeUpdateAttrs = [] ∧ serdeStatusCodeUpdate =
    [("status_code", "u16", ""), ("on_response_status_codes", "Vec<u16>", ""),
     ("exclude_response_status_codes", "bool", ""), ("fallback_status_code", "u16", ""),
     ("rule_id", "Option<String>", ""), ("fallback_rule_id", "Option<String>", ""),
     ("unit_id", "Option<String>", ""), ("target_hash", "Option<String>", "")] := ⟨rfl, rfl⟩

theorem schema_LogOverride : serdeLogOverrideAttrs = [] ∧ serdeLogOverride =
    [("log_override", "bool", ""), ("rule_id", "Option<String>", ""),
     ("on_response_status_codes", "Vec<u16>", ""), ("exclude_response_status_codes", "bool", ""),
     ("fallback_log_override", "Option<bool>", ""), ("fallback_rule_id", "Option<String>", ""),
     ("unit_id", "Option<String>", "")] := ⟨rfl, rfl⟩

theorem schema_HeaderFilter : serdeHeaderFilterAttrs = [] ∧ serdeHeaderFilter =
    [("action", "String", ""), ("header", "String", ""), ("value", "String", ""),
     ("id", "Option<String>", ""), ("target_hash", "Option<String>", "")] := ⟨rfl, rfl⟩

theorem schema_HtmlBodyFilter : serdeHtmlBodyFilterAttrs = [] ∧ serdeHtmlBodyFilter =
    [("action", "String", ""), ("value", "String", ""), ("inner_value", "Option<String>", ""),
     ("element_tree", "Vec<String>", ""), ("css_selector", "Option<String>", ""),
     ("id", "Option<String>", ""), ("target_hash", "Option<String>", "")] := ⟨rfl, rfl⟩

theorem schema_TextBodyFilter : serdeTextBodyFilterAttrs = [] ∧ serdeTextBodyFilter =
    [("action", "TextAction", ""), ("content", "String", ""), ("id", "Option<String>", ""),
     ("target_hash", "Option<String>", "")] := ⟨rfl, rfl⟩

/-- unit variants, each renamed -/
theorem schema_TextAction : serdeTextActionAttrs = [] ∧ serdeTextAction =
    [("append_text", "", "rename = \"append_text\""),
     ("prepend_text", "", "rename = \"prepend_text\""),
     ("replace_text", "", "rename = \"replace_text\"")] := ⟨rfl, rfl⟩

/-- `#[serde(untagged)]`, `Text` declared (hence tried) before `HTML` -/
theorem schema_BodyFilter : serdeBodyFilterAttrs = ["untagged"] ∧ serdeBodyFilter =
    [("Text", "TextBodyFilter", ""), ("HTML", "HTMLBodyFilter", "")] := ⟨rfl, rfl⟩

theorem schema_Request : serdeRequestAttrs = [] ∧ serdeRequest =
    [("path_and_query", "PathAndQueryWithSkipped", "rename = \"path_and_query\""),
     ("path_and_query_v2", "Option<String>", "rename = \"path_and_query_v2\""),
     ("host", "Option<String>", ""), ("scheme", "Option<String>", ""),
     ("method", "Option<String>", ""), ("headers", "Vec<Header>", ""),
     ("remote_addr", "Option<IpAddr>", ""), ("created_at", "Option<DateTime<Utc>>", ""),
     ("sampling_override", "Option<bool>", "")] := ⟨rfl, rfl⟩

theorem schema_PathAndQuery : serdePathAndQueryAttrs = [] ∧ serdePathAndQuery =
    [("path_and_query", "String", ""), ("path_and_query_matching", "Option<String>", ""),
     ("skipped_query_params", "Option<String>", ""), ("original", "String", "")] := ⟨rfl, rfl⟩

theorem schema_Header : serdeHeaderAttrs = [] ∧ serdeHeader =
    [("name", "String", ""), ("value", "String", "")] := ⟨rfl, rfl⟩

theorem serAction_keys (a : Action) : objKeys (serAction a) = schemaKeys serdeAction := rfl
theorem serRuleTrace_keys (t : RuleTrace) : objKeys (serRuleTrace t) = schemaKeys serdeRuleTrace := rfl
theorem serHeaderFilterAction_keys (f : HeaderFilterAction) :
    objKeys (serHeaderFilterAction f) = schemaKeys serdeHeaderFilterAction := rfl
theorem serBodyFilterAction_keys (f : BodyFilterAction) :
    objKeys (serBodyFilterAction f) = schemaKeys serdeBodyFilterAction := rfl
theorem serStatusCodeUpdate_keys (s : StatusCodeUpdate) :
    objKeys (serStatusCodeUpdate s) = schemaKeys serdeStatusCodeUpdate := rfl
theorem serLogOverride_keys (l : LogOverride) :
    objKeys (serLogOverride l) = schemaKeys serdeLogOverride := rfl
theorem serHeaderFilter_keys (f : HeaderFilter) :
    objKeys (serHeaderFilter f) = schemaKeys serdeHeaderFilter := rfl
theorem serHtmlBodyFilter_keys (f : HtmlBodyFilter) :
    objKeys (serHtmlBodyFilter f) = schemaKeys serdeHtmlBodyFilter := rfl
theorem serTextBodyFilter_keys (f : TextBodyFilter) :
    objKeys (serTextBodyFilter f) = schemaKeys serdeTextBodyFilter := rfl
theorem serRequest_keys (q : Request) : objKeys (serRequest q) = schemaKeys serdeRequest := rfl
theorem serPathAndQuery_keys (p : PathAndQuery) :
    objKeys (serPathAndQuery p) = schemaKeys serdePathAndQuery := rfl
theorem serHeader_keys (h : Header) : objKeys (serHeader h) = schemaKeys serdeHeader := rfl

theorem textAction_names :
    [TextAction.append, .prepend, .replace].map TextAction.name = schemaKeys serdeTextAction := rfl

end Rio.Json
