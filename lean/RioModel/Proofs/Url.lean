/-
Both keys as functions of the path before the first `?` and of the collected decoded parameters: `reqKey_accepted`
(request side, when `PathAndQuery` accepts the sanitised URL: `pqParse_sanitize_eq`) and `ruleKey_eq` (rule side), in one
shape, `path ++ tailOf 63 (nonEmpty? query)`.  They agree inside `WFurl` (`ruleKey_eq_reqKey`).  What the key determines:
`map_npq_inj` (path and kept parameters, up to the byte map applied to the key); what determines it: `keptOf_congr`,
`lower_npq`.
Bytes by number: 35 `#`, 37 `%`, 38 `&`, 42 `*`, 43 `+`, 47 `/`, 61 `=`, 63 `?`, 96 back-quote.
-/
import RioModel.Proofs.UrlEnc
import RioModel.Proofs.UrlMap

namespace Rio.Url

/-- `for p in ps { if !acc.is_empty() { acc.push('&') } acc.push_str(p) }` from the empty string
(src/http/query.rs:84-88 for the kept parameters, :78-82 for the skipped ones). -/
def joinParams (ps : List Bytes) : Bytes := ps.foldl pushParam []

def notMarketing (cfg : Cfg) (kv : Bytes × Bytes) : Bool := !isMarketing cfg kv.1

def keptOf (cfg : Cfg) (m : Map) : Bytes := joinParams ((m.filter (notMarketing cfg)).map reqParam)

def skippedStr (cfg : Cfg) (m : Map) : Bytes :=
  joinParams ((m.filter (fun kv => isMarketing cfg kv.1)).map reqParam)

theorem splitParams_eq (cfg : Cfg) (m : Map) : splitParams cfg m = (keptOf cfg m, skippedStr cfg m) := by
  unfold splitParams keptOf skippedStr joinParams
  have : ∀ (a b : Bytes),
      m.foldl (fun (acc : Bytes × Bytes) kv =>
        if isMarketing cfg kv.1 then (acc.1, pushParam acc.2 (reqParam kv))
        else (pushParam acc.1 (reqParam kv), acc.2)) (a, b) =
      (((m.filter (notMarketing cfg)).map reqParam).foldl pushParam a,
       ((m.filter (fun kv => isMarketing cfg kv.1)).map reqParam).foldl pushParam b) := by
    induction m with
    | nil => intro a b; rfl
    | cons kv rest ih =>
      intro a b
      rw [List.foldl_cons]
      cases hk : isMarketing cfg kv.1 <;> simp [ih, notMarketing, hk]
  exact this [] []

theorem foldl_pushParam_of_ne (acc : Bytes) (hacc : acc ≠ []) (ps : List Bytes) :
    ps.foldl pushParam acc = acc ++ ps.flatMap (38 :: ·) := by
  induction ps generalizing acc with
  | nil => simp
  | cons p rest ih =>
    rw [List.foldl_cons]
    have h1 : pushParam acc p = acc ++ 38 :: p := by
      cases acc with
      | nil => exact absurd rfl hacc
      | cons a as => simp [pushParam]
    rw [h1, ih _ (by simp)]
    simp

theorem joinParams_eq_join {ps : List Bytes} (h : ∀ p ∈ ps, p ≠ []) : joinParams ps = Sep.join 38 ps := by
  cases ps with
  | nil => rfl
  | cons p rest =>
    unfold joinParams Sep.join
    rw [List.foldl_cons]
    have hp : p ≠ [] := h p (by simp)
    have : pushParam [] p = p := by simp [pushParam]
    rw [this, foldl_pushParam_of_ne p hp]

theorem shouldEncode_urlSet_35 : shouldEncode urlSet 35 = true := by decide
theorem shouldEncode_urlSet_43 : shouldEncode urlSet 43 = false := by decide
theorem shouldEncode_urlSet_63 : shouldEncode urlSet 63 = false :=
  not_shouldEncode_delim safe_urlSet (Or.inr (Or.inr rfl))
theorem shouldEncode_urlSet_96 : shouldEncode urlSet 96 = false := by decide
theorem pathClass_63 : pathClass 63 = .query := by decide
theorem pathClass_96 : pathClass 96 = .invalid := by decide

theorem not_mem_sanitize_35 (u : Bytes) : 35 ∉ sanitize u := by
  intro h
  have := (mem_pctEncode isDelim_35).mp h
  rw [shouldEncode_urlSet_35] at this
  exact absurd this.2 (by simp)

theorem pathClass_of_ne {b : Nat} (h63 : b ≠ 63) (h35 : b ≠ 35) :
    pathClass b = .valid ∨ pathClass b = .high ∨ pathClass b = .invalid := by
  unfold pathClass
  rw [if_neg (by simpa using h63), if_neg (by simpa using h35)]
  split
  · exact Or.inl rfl
  · split
    · exact Or.inr (Or.inl rfl)
    · split
      · exact Or.inl rfl
      · exact Or.inr (Or.inr rfl)

theorem scanQuery_of_valid {r : Bytes} (h : ∀ b ∈ r, queryClass b = .valid) : scanQuery r = some r := by
  induction r with
  | nil => rfl
  | cons b r ih =>
    rw [scanQuery, h b (List.mem_cons_self ..), ih (fun x hx => h x (List.mem_cons_of_mem _ hx))]

theorem not_shouldEncode_of_mem_pctEncode {S : List Nat} (hS : SafeSet S = true) {x : Bytes} {b : Nat}
    (h : b ∈ pctEncode S x) : shouldEncode S b = false := by
  rcases mem_pctEncode_cases h with (rfl | h | h) | ⟨_, h⟩
  · exact not_shouldEncode_37 hS
  · exact not_shouldEncode_of_hex hS (v := b - 48) (by unfold hexVal; rw [if_pos h])
  · exact not_shouldEncode_of_hex hS (v := b - 55) (by unfold hexVal; rw [if_neg (by omega), if_pos h])
  · exact h

theorem shouldEncode_false_lt {S : List Nat} {b : Nat} (h : shouldEncode S b = false) : b < 128 := by
  unfold shouldEncode at h
  simp only [Bool.or_eq_false_iff, decide_eq_false_iff_not] at h
  omega

/-- `PATH_MAP` and `QUERY_MAP` against the sanitising set: what `sanitize_url` leaves alone is valid
in a query, and valid in a path except for `?` and the back-quote (left by `sanitize_url`, refused by `PATH_MAP`: the fourth
clause of `AcceptedSyntax`, finding `self-match-rejected-by-pathandquery`). -/
theorem class_of_not_encoded : ∀ b, b < 128 → shouldEncode urlSet b = false →
    queryClass b = .valid ∧ (b ≠ 63 → b ≠ 96 → pathClass b = .valid) := by
  decide +kernel

theorem queryClass_sanitize {x : Bytes} {b : Nat} (h : b ∈ sanitize x) : queryClass b = .valid :=
  have hb := not_shouldEncode_of_mem_pctEncode safe_urlSet h
  (class_of_not_encoded b (shouldEncode_false_lt hb) hb).1

theorem pathClass_sanitize {x : Bytes} (h63 : 63 ∉ x) (h96 : 96 ∉ x) {b : Nat} (h : b ∈ sanitize x) :
    pathClass b = .valid := by
  have hb := not_shouldEncode_of_mem_pctEncode safe_urlSet h
  have h63' : b ≠ 63 := fun e => not_mem_pctEncode_of_not_mem isDelim_63 h63 (e ▸ h)
  have h96' : b ≠ 96 := fun e => not_mem_pctEncode_of_not_mem isDelim_96 h96 (e ▸ h)
  exact (class_of_not_encoded b (shouldEncode_false_lt hb) hb).2 h63' h96'

theorem head?_pctEncode {S : List Nat} {u : Bytes} {c : Nat} (hc : c ≠ 37) :
    (pctEncode S u).head? = some c ↔ u.head? = some c ∧ shouldEncode S c = false := by
  cases u with
  | nil => simp
  | cons b r =>
    rw [pctEncode_cons]
    cases hb : shouldEncode S b with
    | true =>
      rw [encOne_of_true hb, encByte]
      simp only [List.cons_append, List.head?_cons, Option.some.injEq]
      constructor
      · intro h; exact absurd h.symm hc
      · rintro ⟨rfl, h⟩; rw [hb] at h; cases h
    | false =>
      rw [encOne_of_false hb]
      simp only [List.cons_append, List.nil_append, List.head?_cons, Option.some.injEq]
      constructor
      · rintro rfl; exact ⟨rfl, hb⟩
      · exact fun h => h.1

theorem sanitize_head (u : Bytes) (c : Nat) (hc : c = 47 ∨ c = 63) :
    (sanitize u).head? = some c ↔ u.head? = some c := by
  have he : shouldEncode urlSet c = false := by
    rcases hc with rfl | rfl
    · decide
    · exact shouldEncode_urlSet_63
  rw [sanitize, head?_pctEncode (by omega)]
  exact and_iff_left he

theorem sanitize_eq_star (u : Bytes) : sanitize u = [42] ↔ u = [42] := by
  constructor
  · intro h
    obtain ⟨hu, h42⟩ :=
      (head?_pctEncode (S := urlSet) (u := u) (c := 42) (by omega)).mp (by rw [← sanitize, h]; rfl)
    match u, hu with
    | _ :: r, rfl =>
      rw [sanitize, pctEncode_cons, encOne_of_false h42] at h
      rw [pctEncode_eq_nil.mp (List.cons.inj h).2]
  · rintro rfl; decide

/-- no byte of the path part is refused by `PATH_MAP`. -/
def pathOk (p : Bytes) : Bool := p.all fun b => pathClass b != .invalid

theorem scanPath_cons_ne {b : Nat} (h63 : b ≠ 63) (h35 : b ≠ 35) (r : Bytes) :
    scanPath (b :: r) =
      if pathClass b = .invalid then none else (scanPath r).map fun pq => (b :: pq.1, pq.2) := by
  rcases pathClass_of_ne h63 h35 with e | e | e <;> rw [scanPath, e] <;> cases scanPath r <;> rfl

theorem scanPath_eq {s : Bytes} (h35 : 35 ∉ s) :
    scanPath s = if pathOk (splitFirst 63 s).1 then some (splitFirst 63 s) else none := by
  induction s with
  | nil => rfl
  | cons b r ih =>
    by_cases hb : b = 63
    · subst hb; rw [scanPath, pathClass_63]; rfl
    · have hsf : splitFirst 63 (b :: r) = (b :: (splitFirst 63 r).1, (splitFirst 63 r).2) := by
        simp [splitFirst, hb]
      rw [scanPath_cons_ne hb (fun e => h35 (by simp [e])), ih (fun e => h35 (List.mem_cons_of_mem _ e)), hsf]
      simp only [pathOk, List.all_cons]
      by_cases e : pathClass b = .invalid
      · simp [e]
      · by_cases hok : ((splitFirst 63 r).1.all fun b => pathClass b != .invalid) = true <;> simp [e, hok]

theorem pqParse_eq {s : Bytes} (h35 : 35 ∉ s) (hq : ∀ b ∈ s, queryClass b = .valid) :
    pqParse s =
      if s.length ≤ maxLen ∧ (s = [42] ∨ s.head? = some 47 ∨ s.head? = some 63) ∧ pathOk (splitFirst 63 s).1 = true
      then some (splitFirst 63 s) else none := by
  unfold pqParse
  by_cases h0 : s = []
  · subst h0; rfl
  rw [if_neg (by simpa using h0)]
  by_cases hlen : s.length > maxLen
  · rw [if_pos hlen, if_neg (fun h => absurd h.1 (Nat.not_le.mpr hlen))]
  rw [if_neg hlen]
  by_cases hstar : s = [42]
  · subst hstar; rfl
  rw [if_neg (by simpa using hstar)]
  have h35' : s.head? ≠ some 35 := fun e => h35 (List.mem_of_mem_head? e)
  by_cases hhead : s.head? = some 47 ∨ s.head? = some 63
  · rw [if_neg (by rcases hhead with e | e <;> simp [e]), scanPath_eq h35]
    by_cases hok : pathOk (splitFirst 63 s).1 = true
    · rw [if_pos hok, if_pos ⟨Nat.le_of_not_gt hlen, Or.inr hhead, hok⟩]
      rcases hs : splitFirst 63 s with ⟨p, _ | r⟩
      · rfl
      · simp only [scanQuery_of_valid fun b hb => hq b (mem_of_splitFirst_snd (congrArg Prod.snd hs) b hb)]
    · rw [if_neg hok, if_neg (fun h => hok h.2.2)]
  · rw [if_pos (by simp only [not_or] at hhead; simp [hhead.1, hhead.2, h35']),
      if_neg (fun h => h.2.1.elim hstar hhead)]

theorem pathOk_sanitize (P : Bytes) (h63 : 63 ∉ P) : pathOk (sanitize P) = true ↔ 96 ∉ P := by
  constructor
  · intro h h96
    have := List.all_eq_true.mp h 96 ((mem_pctEncode isDelim_96).mpr ⟨h96, shouldEncode_urlSet_96⟩)
    rw [pathClass_96] at this; cases this
  · intro h96
    refine List.all_eq_true.mpr fun b hb => ?_
    rw [pathClass_sanitize h63 h96 hb]; rfl

theorem pqParse_sanitize_eq (u : Bytes) :
    pqParse (sanitize u) =
      if (sanitize u).length ≤ maxLen ∧ (u = [42] ∨ u.head? = some 47 ∨ u.head? = some 63) ∧ 96 ∉ (splitFirst 63 u).1
      then some (sanitize (splitFirst 63 u).1, (splitFirst 63 u).2.map sanitize) else none := by
  have hcomm : splitFirst 63 (sanitize u) = (sanitize (splitFirst 63 u).1, (splitFirst 63 u).2.map sanitize) :=
    splitFirst_pctEncode isDelim_63 shouldEncode_urlSet_63 u
  rw [pqParse_eq (not_mem_sanitize_35 u) (fun b hb => queryClass_sanitize hb), hcomm]
  simp only [sanitize_eq_star, sanitize_head u 47 (Or.inl rfl), sanitize_head u 63 (Or.inr rfl),
    pathOk_sanitize _ (splitFirst_spec 63 u).1]

theorem pqParse_sanitize {u p : Bytes} {q : Option Bytes} (h : pqParse (sanitize u) = some (p, q)) :
    p = sanitize (splitFirst 63 u).1 ∧ q = (splitFirst 63 u).2.map sanitize := by
  rw [pqParse_sanitize_eq] at h
  split at h
  · cases h; exact ⟨rfl, rfl⟩
  · cases h

/-- What `PathAndQuery::from_str` accepts of the sanitised URL, read off the RAW url (`accepted_iff`): at most `maxLen`
bytes after sanitising, `*` alone or a first byte `/` or `?`, no back-quote before the first `?`. -/
def AcceptedSyntax (u : Bytes) : Prop :=
  u ≠ [] ∧ (sanitize u).length ≤ maxLen ∧
  (u = [42] ∨ u.head? = some 47 ∨ u.head? = some 63) ∧ 96 ∉ (splitFirst 63 u).1

theorem accepted_iff (u : Bytes) : (pqParse (sanitize u)).isSome = true ↔ AcceptedSyntax u := by
  rw [pqParse_sanitize_eq, AcceptedSyntax]
  have hne : (u = [42] ∨ u.head? = some 47 ∨ u.head? = some 63) → u ≠ [] := by
    rintro (h | h | h) e <;> simp [e] at h
  constructor
  · intro h
    split at h
    · rename_i hc; exact ⟨hne hc.2.1, hc⟩
    · cases h
  · rintro ⟨_, hc⟩; rw [if_pos hc]; rfl

/-- of the four conditions of `accepted_iff` only the length looks at the query, and the sanitised length does not depend
on the order of the bytes. -/
theorem accepted_perm (P Q Q' : Bytes) (hP : 63 ∉ P) (h : (pieces 38 Q).Perm (pieces 38 Q'))
    (hacc : (pqParse (sanitize (P ++ 63 :: Q))).isSome = true) :
    (pqParse (sanitize (P ++ 63 :: Q'))).isSome = true := by
  rw [accepted_iff] at hacc ⊢
  obtain ⟨_, hlen, hhead, h96⟩ := hacc
  refine ⟨by simp, ?_, ?_, ?_⟩
  · have hp : (P ++ 63 :: Q).Perm (P ++ 63 :: Q') := ((perm_of_pieces_perm h).cons 63).append_left P
    exact Nat.le_trans (Nat.le_of_eq (hp.flatMap_right (encOne urlSet)).length_eq.symm) hlen
  · have e : (P ++ 63 :: Q').head? = (P ++ 63 :: Q).head? := by cases P <;> rfl
    rw [e]
    rcases hhead with hstar | hhead
    · have : 63 ∈ [42] := hstar ▸ List.mem_append_right _ (List.mem_cons_self ..)
      simp at this
    · exact Or.inr hhead
  · rw [splitFirst_append_cons P Q' hP]
    rwa [splitFirst_append_cons P Q hP] at h96

/-- the normalised path-and-query for path `path` and collected parameters `m`. -/
def npq (cfg : Cfg) (path : Bytes) (m : Map) : Bytes := path ++ tailOf 63 (nonEmpty? (keptOf cfg m))

/-- the field `skipped_query_params` (src/http/query.rs:106). -/
def skippedOf (cfg : Cfg) (m : Map) : Option Bytes :=
  if cfg.passMarketing && !(skippedStr cfg m).isEmpty then some (skippedStr cfg m) else none

theorem keptOf_nil (cfg : Cfg) : keptOf cfg [] = [] := rfl
theorem skippedStr_nil (cfg : Cfg) : skippedStr cfg [] = [] := rfl

/-- When the sanitised URL is accepted, the four fields are functions of the
sanitised path before the first `?` and of the collected decoded parameters of the RAW query. -/
theorem fromConfig_accepted (cfg : Cfg) (u : Bytes) (hb : IsBytes u)
    (hacc : (pqParse (sanitize u)).isSome = true) :
    fromConfig cfg u =
      { pathAndQuery := npq cfg (pqPath (sanitize (splitFirst 63 u).1)) (paramsOf u),
        matching := some (lowerIf cfg.ignoreCase (npq cfg (pqPath (sanitize (splitFirst 63 u).1)) (paramsOf u))),
        skipped := skippedOf cfg (paramsOf u),
        original := u } := by
  cases hp : pqParse (sanitize u) with
  | none => rw [hp] at hacc; cases hacc
  | some pq =>
    obtain ⟨p, q⟩ := pq
    obtain ⟨rfl, rfl⟩ := pqParse_sanitize hp
    unfold fromConfig paramsOf
    simp only [hp, npq, skippedOf, append_tailOf_nonEmpty?]
    cases hq : (splitFirst 63 u).2 with
    | none => rfl
    | some Q =>
      have hpar : parseQuery (sanitize Q) = parseQuery Q :=
        parseQuery_pctEncode safe_urlSet shouldEncode_urlSet_43 Q ((IsBytes.splitFirst hb).2 Q hq)
      simp only [Option.map_some, splitParams_eq, hpar]

/-- `path_and_query_matching` is never `None`: the fallback arm of `Request::path_and_query()` is dead. -/
theorem fromConfig_matching (cfg : Cfg) (u : Bytes) :
    (fromConfig cfg u).matching = some (lowerIf cfg.ignoreCase (fromConfig cfg u).pathAndQuery) := by
  unfold fromConfig
  simp only
  split <;> rfl

theorem reqKey_eq (cfg : Cfg) (u : Bytes) :
    reqKey cfg u = lowerIf cfg.ignoreCase (fromConfig cfg u).pathAndQuery := by
  rw [reqKey, PQS.key, fromConfig_matching]

theorem reqKey_accepted (cfg : Cfg) (u : Bytes) (hb : IsBytes u)
    (hacc : (pqParse (sanitize u)).isSome = true) :
    reqKey cfg u = lowerIf cfg.ignoreCase (npq cfg (pqPath (sanitize (splitFirst 63 u).1)) (paramsOf u)) := by
  rw [reqKey_eq, fromConfig_accepted cfg u hb hacc]

/-- a URL that `PathAndQuery` rejects is matched as sanitised, unsorted. -/
theorem reqKey_rejected (cfg : Cfg) (u : Bytes) (h : pqParse (sanitize u) = none) :
    reqKey cfg u = lowerIf cfg.ignoreCase (sanitize u) := by
  simp only [reqKey_eq, fromConfig, h]

theorem pqPath_of_ne {p : Bytes} (h : p ≠ []) : pqPath p = p := by
  cases p with
  | nil => exact absurd rfl h
  | cons _ _ => rfl

/-- Whether or not `PathAndQuery` accepts it: why `Marker.Request.fromConfig` (paths without `?`) needs no `pqParse`. -/
theorem reqKey_no_query (cfg : Cfg) (u : Bytes) (h63 : 63 ∉ u) :
    reqKey cfg u = lowerIf cfg.ignoreCase (sanitize u) := by
  cases hp : pqParse (sanitize u) with
  | none => exact reqKey_rejected cfg u hp
  | some pq =>
    obtain ⟨p, q⟩ := pq
    obtain ⟨rfl, rfl⟩ := pqParse_sanitize hp
    have hne : sanitize u ≠ [] := by
      intro e; rw [e] at hp; cases hp
    simp [reqKey_eq, fromConfig, hp, splitFirst_of_not_mem h63, pqPath_of_ne hne]

theorem shouldEncode_mono {S0 S1 : List Nat} (h : ∀ x ∈ S0, x ∈ S1) (b : Nat)
    (hb : shouldEncode S0 b = true) : shouldEncode S1 b = true := by
  unfold shouldEncode at hb ⊢
  simp only [Bool.or_eq_true, List.contains_iff_mem] at hb ⊢
  rcases hb with hb | hb
  · exact Or.inl hb
  · exact Or.inr (h b hb)

theorem sortedQuerySet_sub : ∀ x ∈ sortedQuerySet, x ∈ querySet := by decide

/-- a parameter rendered with the encode set `S`, without separator: `reqParam` is the case `querySet`,
`sortedBody` the case `sortedQuerySet`. -/
def paramBody (S : List Nat) (kv : Bytes × Bytes) : Bytes :=
  pctEncode S kv.1 ++ (if !kv.2.isEmpty then 61 :: pctEncode S kv.2 else [])

/-- a parameter as `build_sorted_query` renders it (without its trailing `&`). -/
def sortedBody (kv : Bytes × Bytes) : Bytes :=
  pctEncode sortedQuerySet kv.1 ++ (if !kv.2.isEmpty then 61 :: pctEncode sortedQuerySet kv.2 else [])

theorem sortedParam_eq (kv : Bytes × Bytes) : sortedParam kv = sortedBody kv ++ [38] := rfl

theorem shouldEncode_querySet_38 : shouldEncode querySet 38 = false :=
  not_shouldEncode_delim safe_querySet (Or.inl rfl)

/-- `=` is in no set and `%XX` escapes survive a second pass. -/
theorem pctEncode_paramBody {S0 S1 : List Nat} (hS1 : SafeSet S1 = true)
    (hsub : ∀ b, shouldEncode S0 b = true → shouldEncode S1 b = true) (kv : Bytes × Bytes) :
    pctEncode S1 (paramBody S0 kv) = paramBody S1 kv := by
  unfold paramBody
  rw [pctEncode_append, pctEncode_pctEncode hS1 hsub]
  congr 1
  cases kv.2.isEmpty with
  | true => rfl
  | false =>
    simp only [Bool.not_false, if_true, pctEncode_cons,
      encOne_of_false (not_shouldEncode_delim hS1 (Or.inr (Or.inl rfl))), List.cons_append, List.nil_append]
    rw [pctEncode_pctEncode hS1 hsub]

/-- the rule side's second pass gives the request-side rendering (`+` is the only byte the second set adds). -/
theorem pctEncode_sortedBody (kv : Bytes × Bytes) :
    pctEncode querySet (sortedBody kv) = reqParam kv :=
  pctEncode_paramBody safe_querySet (shouldEncode_mono sortedQuerySet_sub) kv

theorem paramBody_eq_nil {S : List Nat} {kv : Bytes × Bytes} : paramBody S kv = [] ↔ kv = ([], []) := by
  obtain ⟨k, v⟩ := kv
  unfold paramBody
  cases v with
  | nil =>
    simp only [List.isEmpty_nil, Bool.not_true, Bool.false_eq_true, if_false, List.append_nil,
      pctEncode_eq_nil, Prod.mk.injEq, and_true]
  | cons b r => simp

theorem reqParam_eq_nil {kv : Bytes × Bytes} : reqParam kv = [] ↔ kv = ([], []) := paramBody_eq_nil

theorem sortedBody_eq_nil {kv : Bytes × Bytes} : sortedBody kv = [] ↔ kv = ([], []) := paramBody_eq_nil

theorem buildSortedQuery_eq (q : Bytes) :
    buildSortedQuery q = nonEmpty? (Sep.join 38 ((btCollect (parseQuery q)).map sortedBody)) := by
  unfold buildSortedQuery nonEmpty?
  have : (btCollect (parseQuery q)).flatMap sortedParam =
      ((btCollect (parseQuery q)).map sortedBody).flatMap (· ++ [38]) := by
    rw [List.flatMap_map]; rfl
  simp only [this, Sep.dropLast_flatMap_concat]

theorem ruleKey_eq (cfg : Cfg) (u : Bytes) :
    ruleKey cfg u = lowerIf cfg.ignoreCase (pctEncode ruleUrlSet (splitFirst 63 u).1 ++
      tailOf 63 (nonEmpty? (pctEncode ruleQuerySet (Sep.join 38 ((paramsOf u).map sortedBody))))) := by
  unfold ruleKey ruleKeyOf sourceOf paramsOf
  cases (splitFirst 63 u).2 with
  | none => simp [nonEmpty?, tailOf, Sep.join]
  | some q =>
    simp only [buildSortedQuery_eq]
    rw [← nonEmpty?_map (pctEncode_isEmpty ruleQuerySet)]
    cases nonEmpty? (Sep.join 38 ((btCollect (parseQuery q)).map sortedBody)) <;> simp [tailOf]

/-- The empty parameter `([], [])`, if present, is the only one (a clause of `WFurl`).  Behind it the two sides differ:
`build_sorted_query` keeps its `&` (`?&a=b`), `from_config`, whose accumulator is still empty, pushes none (`?a=b`). -/
def EmptyParamAlone (m : Map) : Prop := ¬(([], []) ∈ m ∧ 2 ≤ m.length)

/-- **the two renderings of the parameter list agree** (rule: `p&` for each, pop, second pass;
request: push `&` only onto a non-empty accumulator). -/
theorem pctEncode_join_sortedBody (m : Map) (h : EmptyParamAlone m) :
    pctEncode ruleQuerySet (Sep.join 38 (m.map sortedBody)) = joinParams (m.map reqParam) := by
  by_cases hmem : (([], []) : Bytes × Bytes) ∈ m
  · -- then m = [([], [])]
    have hlen : m.length ≤ 1 := Nat.le_of_not_lt fun h2 => h ⟨hmem, h2⟩
    match m, hmem, hlen with
    | [kv], hmem, _ => rw [← List.mem_singleton.mp hmem]; rfl
  · have hr : ∀ p ∈ m.map reqParam, p ≠ [] := by
      intro p hp
      obtain ⟨kv, hkv, rfl⟩ := List.mem_map.mp hp
      intro e; exact hmem (reqParam_eq_nil.mp e ▸ hkv)
    rw [ruleQuerySet_eq, pctEncode_join shouldEncode_querySet_38, joinParams_eq_join hr, List.map_map]
    exact congrArg _ (List.map_congr_left fun kv _ => pctEncode_sortedBody kv)

theorem keptOf_of_no_marketing (cfg : Cfg) (m : Map)
    (h : m.all (fun kv => !isMarketing cfg kv.1) = true) : keptOf cfg m = joinParams (m.map reqParam) := by
  unfold keptOf
  rw [(List.filter_eq_self (p := notMarketing cfg)).mpr (List.all_eq_true.mp h)]

theorem WFurl_iff (cfg : Cfg) (u : Bytes) :
    WFurl cfg u = true ↔
      (pqParse (sanitize u)).isSome = true ∧ (splitFirst 63 u).1 ≠ [] ∧
      (paramsOf u).all (fun kv => !isMarketing cfg kv.1) = true ∧ EmptyParamAlone (paramsOf u) := by
  unfold WFurl EmptyParamAlone
  -- the Boolean test read as a proposition, nothing else
  simp only [Bool.and_eq_true, Bool.not_eq_true', List.isEmpty_eq_false_iff, ne_eq, Bool.and_eq_false_imp,
    List.contains_iff_mem, decide_eq_false_iff_not, not_and, Nat.not_le, and_assoc]

theorem ruleKey_eq_reqKey (cfg : Cfg) (u : Bytes) (hb : IsBytes u) (hwf : WFurl cfg u = true) :
    ruleKey cfg u = reqKey cfg u := by
  obtain ⟨hacc, hpath, hmk, hemp⟩ := (WFurl_iff cfg u).mp hwf
  rw [ruleKey_eq, reqKey_accepted cfg u hb hacc, npq, keptOf_of_no_marketing cfg _ hmk, ruleUrlSet_eq,
    pqPath_of_ne (p := sanitize (splitFirst 63 u).1) (fun e => hpath (pctEncode_eq_nil.mp e)),
    pctEncode_join_sortedBody _ hemp]
  rfl

/-- inside `WFurl` the rule's key is the key of its own URL, so a request with another key is not matched. -/
theorem ruleMatches_false_of_reqKey_ne (cfg : Cfg) {u u' : Bytes} (hb : IsBytes u) (hwf : WFurl cfg u = true)
    (h : reqKey cfg u ≠ reqKey cfg u') : ruleMatches cfg u u' = false := by
  unfold ruleMatches matchesKey
  rw [ruleKey_eq_reqKey cfg u hb hwf]
  exact beq_false_of_ne h

def queryOf (u : Bytes) : Bytes := ((splitFirst 63 u).2).getD []

theorem parseQuery_nil : parseQuery [] = [] := by decide

theorem paramsOf_queryOf (u : Bytes) : paramsOf u = btCollect (parseQuery (queryOf u)) := by
  unfold paramsOf queryOf
  cases (splitFirst 63 u).2 with
  | none => simp [parseQuery_nil, btCollect]
  | some q => rfl

theorem paramsOf_url (P Q : Bytes) (hP : 63 ∉ P) : paramsOf (P ++ 63 :: Q) = btCollect (parseQuery Q) := by
  rw [paramsOf, splitFirst_append_cons P Q hP]

/-- the non-empty `&`-pieces of the raw query whose decoded name is not an ignored marketing parameter. -/
def keptPieces (cfg : Cfg) (q : Bytes) : List Bytes :=
  ((pieces 38 q).filter (fun s => !s.isEmpty)).filter (fun s => !isMarketing cfg (parsePair s).1)

theorem filter_paramsOf (cfg : Cfg) (u : Bytes) :
    (paramsOf u).filter (notMarketing cfg) = btCollect ((keptPieces cfg (queryOf u)).map parsePair) := by
  rw [paramsOf_queryOf]
  have := filter_btCollect (fun k => !isMarketing cfg k) (parseQuery (queryOf u))
  unfold notMarketing
  rw [this]
  congr 1
  unfold parseQuery keptPieces
  rw [List.filter_map]
  rfl

theorem keptOf_congr (cfg : Cfg) {u u' : Bytes}
    (h : keptPieces cfg (queryOf u) = keptPieces cfg (queryOf u')) :
    keptOf cfg (paramsOf u) = keptOf cfg (paramsOf u') := by
  unfold keptOf
  rw [filter_paramsOf, filter_paramsOf, h]

theorem pushParam_eq_nil {acc p : Bytes} : pushParam acc p = [] ↔ acc = [] ∧ p = [] := by
  cases acc <;> simp [pushParam]

theorem foldl_pushParam_eq_nil {ps : List Bytes} {acc : Bytes} :
    ps.foldl pushParam acc = [] ↔ acc = [] ∧ ∀ p ∈ ps, p = [] := by
  induction ps generalizing acc with
  | nil => simp
  | cons p rest ih => rw [List.foldl_cons, ih, pushParam_eq_nil, List.forall_mem_cons, and_assoc]

theorem joinParams_eq_nil {ps : List Bytes} : joinParams ps = [] ↔ ∀ p ∈ ps, p = [] := by
  rw [joinParams, foldl_pushParam_eq_nil]
  exact and_iff_right rfl

theorem skippedStr_ne_nil (cfg : Cfg) (m : Map) :
    skippedStr cfg m ≠ [] ↔ ∃ kv ∈ m, isMarketing cfg kv.1 = true ∧ kv ≠ ([], []) := by
  simp only [skippedStr, Ne, joinParams_eq_nil, List.forall_mem_map, List.mem_filter, reqParam_eq_nil,
    Classical.not_forall, and_imp, exists_prop]

theorem skippedStr_of_not_ignore (cfg : Cfg) (h : cfg.ignoreMarketing = false) (m : Map) :
    skippedStr cfg m = [] := by
  unfold skippedStr
  have : m.filter (fun kv => isMarketing cfg kv.1) = [] := by
    apply List.filter_eq_nil_iff.mpr
    intro kv _
    simp [isMarketing, h]
  rw [this]; rfl

theorem keptPieces_append (cfg : Cfg) (q seg : Bytes) :
    keptPieces cfg (q ++ 38 :: seg) = keptPieces cfg q ++ keptPieces cfg seg := by
  unfold keptPieces
  rw [pieces_append_sep, List.filter_append, List.filter_append]

theorem keptPieces_marketing (cfg : Cfg) {seg : Bytes} (h38 : 38 ∉ seg)
    (hmk : isMarketing cfg (parsePair seg).1 = true) : keptPieces cfg seg = [] := by
  unfold keptPieces
  rw [pieces_of_not_mem h38]
  cases seg with
  | nil => rfl
  | cons b r => simp [hmk]

theorem keptPieces_nil (cfg : Cfg) : keptPieces cfg [] = [] := by
  simp [keptPieces, pieces, splitAll]

theorem lowerAscii_append (a b : Bytes) : lowerAscii (a ++ b) = lowerAscii a ++ lowerAscii b := by
  simp [lowerAscii]

theorem lowerAscii_cons (x : Nat) (a : Bytes) : lowerAscii (x :: a) = lowerByte x :: lowerAscii a := rfl

theorem lowerAscii_isEmpty {a b : Bytes} (h : lowerAscii a = lowerAscii b) : a.isEmpty = b.isEmpty := by
  cases a <;> cases b <;> simp [lowerAscii] at h ⊢

theorem lowerByte_idem (b : Nat) : lowerByte (lowerByte b) = lowerByte b := by
  unfold lowerByte; split <;> (try split) <;> omega

theorem lowerAscii_idem (s : Bytes) : lowerAscii (lowerAscii s) = lowerAscii s := by
  simp [lowerAscii, lowerByte_idem]

theorem lowerIf_idem (f : Bool) (s : Bytes) : lowerIf f (lowerIf f s) = lowerIf f s := by
  cases f
  · rfl
  · exact lowerAscii_idem s

/-- not an ASCII letter: lower-casing neither changes it nor produces it -/
def NonLetter (c : Nat) : Prop := ¬(65 ≤ c ∧ c ≤ 90) ∧ ¬(97 ≤ c ∧ c ≤ 122)

theorem not_shouldEncode_letter {S : List Nat} (hS : ∀ x ∈ S, NonLetter x) {b : Nat} (hb : ¬NonLetter b) :
    shouldEncode S b = false := by
  have hmem : b ∉ S := fun h => hb (hS b h)
  unfold NonLetter at hb
  simp only [shouldEncode, isControl, Bool.or_eq_false_iff, decide_eq_false_iff_not, beq_eq_false_iff_ne,
    List.contains_eq_mem, hmem, decide_false, and_true]
  omega

theorem nonLetter_urlSet : ∀ x ∈ urlSet, NonLetter x := by unfold NonLetter; decide
theorem nonLetter_querySet : ∀ x ∈ querySet, NonLetter x := by unfold NonLetter; decide
theorem nonLetter_37 : NonLetter 37 := by unfold NonLetter; omega
theorem nonLetter_38 : NonLetter 38 := by unfold NonLetter; omega
theorem nonLetter_61 : NonLetter 61 := by unfold NonLetter; omega
theorem nonLetter_63 : NonLetter 63 := by unfold NonLetter; omega

theorem lowerAscii_encOne {S : List Nat} (hS : ∀ x ∈ S, NonLetter x) (b : Nat) :
    lowerAscii (encOne S (lowerByte b)) = lowerAscii (encOne S b) := by
  by_cases hb : 65 ≤ b ∧ b ≤ 90
  · -- an upper-case letter and its lower-case twin both stand unencoded
    have e : lowerByte b = b + 32 := if_pos hb
    rw [e, encOne_of_false (not_shouldEncode_letter hS fun hn => hn.1 hb),
      encOne_of_false (not_shouldEncode_letter hS fun hn => hn.2 ⟨by omega, by omega⟩), ← e]
    exact congrArg (· :: []) (lowerByte_idem b)
  · rw [show lowerByte b = b from if_neg hb]

theorem lowerAscii_pctEncode {S : List Nat} (hS : ∀ x ∈ S, NonLetter x) (x : Bytes) :
    lowerAscii (pctEncode S (lowerAscii x)) = lowerAscii (pctEncode S x) := by
  show ((x.map lowerByte).flatMap (encOne S)).map lowerByte = (x.flatMap (encOne S)).map lowerByte
  rw [List.flatMap_map, List.map_flatMap, List.map_flatMap]
  exact congrArg (x.flatMap ·) (funext fun b => lowerAscii_encOne hS b)

theorem lower_pctEncode {S : List Nat} (hS : ∀ x ∈ S, NonLetter x) {x x' : Bytes}
    (h : lowerAscii x = lowerAscii x') : lowerAscii (pctEncode S x) = lowerAscii (pctEncode S x') := by
  rw [← lowerAscii_pctEncode hS x, h, lowerAscii_pctEncode hS x']

def lowerKV (kv : Bytes × Bytes) : Bytes × Bytes := (lowerAscii kv.1, lowerAscii kv.2)

theorem lowerAscii_reqParam (kv : Bytes × Bytes) :
    lowerAscii (reqParam (lowerKV kv)) = lowerAscii (reqParam kv) := by
  unfold reqParam lowerKV
  rw [lowerAscii_append, lowerAscii_append, lowerAscii_pctEncode nonLetter_querySet]
  congr 1
  cases kv.2 with
  | nil => rfl
  | cons b r => exact congrArg (lowerByte 61 :: ·) (lowerAscii_pctEncode nonLetter_querySet (b :: r))

theorem lowerAscii_pushParam (acc p : Bytes) :
    lowerAscii (pushParam acc p) = pushParam (lowerAscii acc) (lowerAscii p) := by
  cases acc <;> simp [pushParam, lowerAscii, lowerByte]

theorem lowerAscii_joinParams (ps : List Bytes) : lowerAscii (joinParams ps) = joinParams (ps.map lowerAscii) := by
  have : ∀ acc, lowerAscii (ps.foldl pushParam acc) = (ps.map lowerAscii).foldl pushParam (lowerAscii acc) := by
    induction ps with
    | nil => intro acc; rfl
    | cons p rest ih => intro acc; rw [List.foldl_cons, ih, lowerAscii_pushParam]; rfl
  exact this []

/-- the lower-cased kept string is a function of the lower-cased kept parameters. -/
theorem lowerAscii_keptOf (cfg : Cfg) (m : Map) :
    lowerAscii (keptOf cfg m) =
      joinParams (((m.filter (notMarketing cfg)).map lowerKV).map fun kv => lowerAscii (reqParam kv)) := by
  unfold keptOf
  rw [lowerAscii_joinParams, List.map_map, List.map_map]
  exact congrArg joinParams (List.map_congr_left fun kv _ => (lowerAscii_reqParam kv).symm)

theorem map_npq {g : Nat → Nat} (h63 : g 63 = 63) (cfg : Cfg) (path : Bytes) (m : Map) :
    (npq cfg path m).map g = path.map g ++ tailOf 63 (nonEmpty? ((keptOf cfg m).map g)) := by
  rw [npq, map_append_tailOf h63, nonEmpty?_map (by simp)]

/-- the converse, for parameters without encoded delimiters, is `lower_npq_inj`. -/
theorem lower_npq (cfg : Cfg) {path path' : Bytes} {m m' : Map} (hp : lowerAscii path = lowerAscii path')
    (hm : (m.filter (notMarketing cfg)).map lowerKV = (m'.filter (notMarketing cfg)).map lowerKV) :
    lowerAscii (npq cfg path m) = lowerAscii (npq cfg path' m') := by
  have e : ∀ path m, lowerAscii (npq cfg path m) =
      lowerAscii path ++ tailOf 63 (nonEmpty? (lowerAscii (keptOf cfg m))) := map_npq rfl cfg
  rw [e, e, hp, lowerAscii_keptOf, lowerAscii_keptOf, hm]

theorem lower_pqPath {p p' : Bytes} (h : lowerAscii p = lowerAscii p') :
    lowerAscii (pqPath p) = lowerAscii (pqPath p') := by
  unfold pqPath
  rw [lowerAscii_isEmpty h]
  cases p'.isEmpty <;> simp [h]

theorem fixes_lower {c : Nat} (hc : NonLetter c) : Fixes lowerByte c := by
  intro b
  unfold NonLetter at hc
  unfold lowerByte
  split <;> constructor <;> intro h <;> omega

theorem pieces_lowerAscii {c : Nat} (hc : NonLetter c) (s : Bytes) :
    pieces c (lowerAscii s) = (pieces c s).map lowerAscii :=
  (fixes_lower hc).pieces s

theorem splitFirst_lowerAscii {c : Nat} (hc : NonLetter c) (s : Bytes) :
    splitFirst c (lowerAscii s) = (lowerAscii (splitFirst c s).1, (splitFirst c s).2.map lowerAscii) :=
  (fixes_lower hc).splitFirst s

theorem hexVal_lowerByte (b : Nat) : hexVal (lowerByte b) = hexVal b := by
  unfold lowerByte
  by_cases hu : 65 ≤ b ∧ b ≤ 90
  · rw [if_pos hu]
    unfold hexVal
    by_cases h70 : b ≤ 70
    · rw [if_neg (by omega), if_neg (by omega), if_pos (by omega), if_neg (by omega), if_pos (by omega)]
      congr 1
    · rw [if_neg (by omega), if_neg (by omega), if_neg (by omega), if_neg (by omega), if_neg (by omega),
        if_neg (by omega)]
  · rw [if_neg hu]

theorem decMap_lower {S : List Nat} (hL : ∀ b, 65 ≤ b → b ≤ 90 → shouldEncode S b = false) :
    DecMap S lowerByte := by
  refine ⟨fixes_lower nonLetter_37, hexVal_lowerByte, ?_⟩
  intro b hb
  unfold lowerByte
  rw [if_neg (fun h => by rw [hL b h.1 h.2] at hb; cases hb)]

/-- a decoded parameter without encoded delimiters: no `%`, `&` in name or value, no `=` in the
name, valid UTF-8 (a fixed point of the lossy conversion), not the empty parameter.  No proof reads `uk`, `uv`: `rawPair`, which
reads the parameters back, has no lossy step. -/
structure Plain (kv : Bytes × Bytes) : Prop where
  bk : IsBytes kv.1
  bv : IsBytes kv.2
  k37 : 37 ∉ kv.1
  k38 : 38 ∉ kv.1
  k61 : 61 ∉ kv.1
  v37 : 37 ∉ kv.2
  v38 : 38 ∉ kv.2
  uk : utf8Lossy kv.1 = kv.1
  uv : utf8Lossy kv.2 = kv.2
  ne : kv ≠ ([], [])

theorem not_mem_reqParam_38 {kv : Bytes × Bytes} (h : Plain kv) : 38 ∉ reqParam kv := by
  unfold reqParam
  intro hm
  rcases List.mem_append.mp hm with hm | hm
  · exact not_mem_pctEncode_of_not_mem isDelim_38 h.k38 hm
  · split at hm
    · rcases List.mem_cons.mp hm with e | hm
      · omega
      · exact not_mem_pctEncode_of_not_mem isDelim_38 h.v38 hm
    · cases hm

theorem reqParam_plain {m : Map} (h : ∀ kv ∈ m, Plain kv) :
    (∀ p ∈ m.map reqParam, p ≠ []) ∧ ∀ p ∈ m.map reqParam, 38 ∉ p := by
  constructor <;> intro p hp <;> obtain ⟨kv, hkv, rfl⟩ := List.mem_map.mp hp
  · exact fun e => (h kv hkv).ne (reqParam_eq_nil.mp e)
  · exact not_mem_reqParam_38 (h kv hkv)

theorem not_mem_pqPath_63 {p : Bytes} (h : 63 ∉ p) : 63 ∉ pqPath p := by
  unfold pqPath; split
  · decide
  · exact h

theorem not_mem_reqPath_63 (u : Bytes) : 63 ∉ pqPath (sanitize (splitFirst 63 u).1) :=
  not_mem_pqPath_63 (not_mem_pctEncode_of_not_mem isDelim_63 (splitFirst_spec 63 u).1)

/-- name / value of a rendered parameter read back WITHOUT the lossy UTF-8 step (the entries of `paramsOf` are decoded already:
only `reqParam`'s re-encoding is to be undone). -/
def rawPair (p : Bytes) : Bytes × Bytes :=
  (pctDecode (splitFirst 61 p).1, pctDecode ((splitFirst 61 p).2.getD []))

/-- What reading the parameters back from the key needs of the byte map `g` applied to the key (`id` in the case-sensitive
configuration, `lowerByte` under the flag): decoding does not see it, and it fixes the three delimiters. -/
structure KeyMap (g : Nat → Nat) : Prop where
  dec : DecMap querySet g
  f38 : Fixes g 38
  f61 : Fixes g 61
  f63 : Fixes g 63

/-- `lowerKV` is `mapKV lowerByte` by unfolding (`lower_npq_inj` relies on it). -/
def mapKV (g : Nat → Nat) (kv : Bytes × Bytes) : Bytes × Bytes := (kv.1.map g, kv.2.map g)

theorem pctDecode_map_pctEncode {g : Nat → Nat} (hg : KeyMap g) (x : Bytes) (hx : IsBytes x) (h37 : 37 ∉ x) :
    pctDecode ((pctEncode querySet x).map g) = x.map g := by
  rw [pctDecode_enc_map safe_querySet hg.dec x hx]
  exact pctDecode_of_no_pct _ (fun h => h37 (hg.dec.g37.mem_map.mp h))

theorem rawPair_map_reqParam {g : Nat → Nat} (hg : KeyMap g) {kv : Bytes × Bytes} (h : Plain kv) :
    rawPair ((reqParam kv).map g) = mapKV g kv := by
  obtain ⟨k, v⟩ := kv
  have h61 : 61 ∉ (pctEncode querySet k).map g := fun e =>
    not_mem_pctEncode_of_not_mem isDelim_61 h.k61 (hg.f61.mem_map.mp e)
  have hk := pctDecode_map_pctEncode hg k h.bk h.k37
  have hv := pctDecode_map_pctEncode hg v h.bv h.v37
  unfold rawPair reqParam mapKV
  simp only
  rw [List.map_append, splitFirst_append_of_not_mem 61 _ _ h61]
  cases v with
  | nil =>
    simp only [List.isEmpty_nil, Bool.not_true, Bool.false_eq_true, if_false, List.map_nil, splitFirst, List.append_nil,
      Option.getD_none, hk]
    rfl
  | cons b r =>
    simp only [List.isEmpty_cons, Bool.not_false, if_true, List.map_cons, (hg.f61 61).mpr rfl, splitFirst,
      beq_self_eq_true, List.append_nil, Option.getD_some, hk]
    rw [← List.map_cons, hv]

/-- the left side cuts at `&` as `parseQuery` does and reads each piece with `rawPair`. -/
theorem rawPairs_map_joinParams {g : Nat → Nat} (hg : KeyMap g) {m : Map} (hm : ∀ kv ∈ m, Plain kv) :
    ((pieces 38 ((joinParams (m.map reqParam)).map g)).filter (fun s => !s.isEmpty)).map rawPair =
      m.map (mapKV g) := by
  obtain ⟨hne, h38⟩ := reqParam_plain hm
  rw [joinParams_eq_join hne, hg.f38.join, filter_pieces_join, List.map_map, List.map_map]
  · exact List.map_congr_left fun kv hkv => rawPair_map_reqParam hg (hm kv hkv)
  -- `g` keeps the rendered parameters non-empty and free of `&`
  · exact List.forall_mem_map.mpr fun q hq e => hne q hq (List.map_eq_nil_iff.mp e)
  · exact List.forall_mem_map.mpr fun q hq e => h38 q hq (hg.f38.mem_map.mp e)

theorem map_npq_inj {g : Nat → Nat} (hg : KeyMap g) (cfg : Cfg) {path path' : Bytes} {m m' : Map}
    (hp : 63 ∉ path) (hp' : 63 ∉ path')
    (hm : ∀ kv ∈ m.filter (notMarketing cfg), Plain kv) (hm' : ∀ kv ∈ m'.filter (notMarketing cfg), Plain kv)
    (h : (npq cfg path m).map g = (npq cfg path' m').map g) :
    path.map g = path'.map g ∧
    (m.filter (notMarketing cfg)).map (mapKV g) = (m'.filter (notMarketing cfg)).map (mapKV g) := by
  have hs : ∀ (path : Bytes) (m : Map), 63 ∉ path →
      splitFirst 63 ((npq cfg path m).map g) = (path.map g, nonEmpty? ((keptOf cfg m).map g)) := by
    intro path m hp
    rw [map_npq ((hg.f63 63).mpr rfl)]
    exact splitFirst_eq_iff.mpr ⟨mt hg.f63.mem_map.mp hp, rfl⟩
  have h1 := hs path m hp
  rw [h, hs path' m' hp'] at h1
  obtain ⟨hpath, hq⟩ := Prod.mk.inj h1
  exact ⟨hpath.symm, by rw [← rawPairs_map_joinParams hg hm, ← rawPairs_map_joinParams hg hm', ← keptOf, ← keptOf,
    nonEmpty?_inj hq]⟩

theorem keyMap_id : KeyMap id := ⟨decMap_id _, fun _ => Iff.rfl, fun _ => Iff.rfl, fun _ => Iff.rfl⟩

theorem keyMap_lower : KeyMap lowerByte :=
  ⟨decMap_lower fun _ h1 h2 => not_shouldEncode_letter nonLetter_querySet fun hn => hn.1 ⟨h1, h2⟩,
    fixes_lower nonLetter_38, fixes_lower nonLetter_61, fixes_lower nonLetter_63⟩

theorem npq_inj (cfg : Cfg) {path path' : Bytes} {m m' : Map} (hp : 63 ∉ path) (hp' : 63 ∉ path')
    (hm : ∀ kv ∈ m.filter (notMarketing cfg), Plain kv) (hm' : ∀ kv ∈ m'.filter (notMarketing cfg), Plain kv)
    (h : npq cfg path m = npq cfg path' m') :
    path = path' ∧ m.filter (notMarketing cfg) = m'.filter (notMarketing cfg) := by
  have := map_npq_inj keyMap_id cfg hp hp' hm hm' (by rw [List.map_id, List.map_id]; exact h)
  have e : mapKV id = id := funext fun kv => by simp [mapKV]
  simpa only [List.map_id, e] using this

theorem lower_npq_inj (cfg : Cfg) {path path' : Bytes} {m m' : Map} (hp : 63 ∉ path) (hp' : 63 ∉ path')
    (hm : ∀ kv ∈ m.filter (notMarketing cfg), Plain kv) (hm' : ∀ kv ∈ m'.filter (notMarketing cfg), Plain kv)
    (h : lowerAscii (npq cfg path m) = lowerAscii (npq cfg path' m')) :
    lowerAscii path = lowerAscii path' ∧
    (m.filter (notMarketing cfg)).map lowerKV = (m'.filter (notMarketing cfg)).map lowerKV :=
  map_npq_inj keyMap_lower cfg hp hp' hm hm' h

end Rio.Url
