/-
Router proofs: the tower of the seven layers satisfies `MLaws`, and its layered `sat`
is the flat specification `sat` of RouterSpec.lean.
-/
import RioModel.Proofs.RouterTower
import RioModel.Proofs.RouterPath

namespace Rio.Router

/-! The tower is assembled over an arbitrary innermost layer `P0` with laws `PL` whose `sat` is the
path trigger, and an arbitrary host configuration `H` agreeing with the environment – so that the
same lemmas serve the specification-level tower (`towerLaws`) and the tower over the real
regex-tree model (RouterTreeTop.lean). -/

section
variable (E : Env) {P0 : MOps} (PL : MLaws P0)

def dateTimeL := dateTimeLaws PL
def headerL := headerLaws (dateTimeL PL) E
def methodL := methodLaws (headerL E PL)
def ipL := ipLaws (methodL E PL)

variable {P : Type} [DecidableEq P] (H : HostCfg P)

def hostL := hostLaws (ipL E PL) H
/-- The laws of a whole tower `SchemeMatcher<T>`. -/
def towerL := schemeLaws (hostL E PL H)

variable (hP : ∀ L r q, PL.sat L r q = pathOk E r q)
  (hfind : ∀ p h, H.find (H.pk p) h = E.hostFind p h) (halways : H.always = E.alwaysAnyHost)

theorem dateOk_eq (r : Route) (q : Req) :
    dateOk r q = (DateTime.conds r).all (fun c => DCond.eval c q) := by
  unfold dateOk DateTime.conds
  rw [List.all_append, List.all_append]
  -- constraint by constraint: an absent one contributes no condition
  congr 1
  · congr 1
    · cases r.datetime <;> cases hq : q.createdAt <;> simp [DCond.eval, hq]
    · cases r.time <;> cases hq : q.createdAt <;> simp [DCond.eval, hq]
  · cases r.weekdays <;> cases hq : q.createdAt <;> simp [DCond.eval, hq]

include hP in
theorem dateTime_sat (L : List Route) (r : Route) (q : Req) :
    (dateTimeL PL).sat L r q = (dateOk r q && pathOk E r q) := by
  show lSat PL DateTime.keysOf (groupAccepts DCond.eval) L r q = _
  unfold lSat
  simp only [hP]
  rw [dateOk_eq]
  unfold DateTime.keysOf
  by_cases he : (DateTime.conds r).isEmpty = true
  · have : DateTime.conds r = [] := by simpa using he
    simp [this]
  · simp only [he, if_false, Bool.false_eq_true, List.any_cons, List.any_nil, Bool.or_false]
    rfl

theorem mem_insertCond (c x : HCond) (l : List HCond) : x ∈ insertCond c l ↔ x = c ∨ x ∈ l := by
  induction l with
  | nil => simp [insertCond]
  | cons d ds ih =>
    simp only [insertCond]
    by_cases e : c = d
    · subst e; simp
    · simp only [e, if_false]
      by_cases hl : c.lt d = true
      · simp [hl]
      · simp only [hl, if_false, Bool.false_eq_true, List.mem_cons, ih]
        exact or_left_comm

theorem mem_canonH_aux (cs : List HCond) (x : HCond) :
    ∀ acc, x ∈ cs.foldl (fun acc c => insertCond c acc) acc ↔ x ∈ acc ∨ x ∈ cs := by
  induction cs with
  | nil => intro acc; simp
  | cons c cs ih =>
    intro acc
    simp only [List.foldl_cons, ih, mem_insertCond, List.mem_cons]
    exact or_assoc.trans or_left_comm

theorem mem_canonH (cs : List HCond) (x : HCond) : x ∈ canonH cs ↔ x ∈ cs := by
  unfold canonH; rw [mem_canonH_aux]; simp

theorem all_congr_mem {α : Type} (l l' : List α) (p : α → Bool) (h : ∀ x, x ∈ l ↔ x ∈ l') :
    l.all p = l'.all p := by
  rw [Bool.eq_iff_iff]; simp only [List.all_eq_true, h]

include hP in
theorem header_sat (L : List Route) (r : Route) (q : Req) :
    (headerL E PL).sat L r q = (headersOk E r q && (dateOk r q && pathOk E r q)) := by
  show lSat (dateTimeL PL) (Header.keysOf E) (groupAccepts (HCond.eval E)) L r q = _
  unfold lSat Header.keysOf headersOk
  by_cases he : r.headers.isEmpty = true
  · have : r.headers = [] := by simpa using he
    simp only [this, List.all_nil, Bool.true_and]
    exact dateTime_sat E PL hP _ r q
  · simp only [he, if_false, Bool.false_eq_true, List.any_cons, List.any_nil, Bool.or_false]
    rw [dateTime_sat E PL hP]
    congr 1
    unfold groupAccepts
    rw [all_congr_mem _ _ _ (mem_canonH _), List.all_map]
    rfl

include hP in
theorem method_sat (L : List Route) (r : Route) (q : Req) :
    (methodL E PL).sat L r q = (methodOk r q && (headersOk E r q && (dateOk r q && pathOk E r q))) := by
  show lSat (headerL E PL) Method.keysOf Method.accepts L r q = _
  unfold lSat Method.keysOf methodOk
  cases hm : r.methods with
  | none => simp only [Bool.true_and]; exact header_sat E PL hP _ r q
  | some ms =>
    simp only
    by_cases he : ms.isEmpty = true
    · simp only [he, if_true, Bool.true_or, Bool.true_and]; exact header_sat E PL hP _ r q
    · simp only [he, if_false, Bool.false_eq_true, Bool.false_or]
      by_cases hx : r.excludeMethods.isSome = true
      · simp only [hx, if_true, List.any_cons, List.any_nil, Bool.or_false, header_sat E PL hP]
        rfl
      · simp only [hx, if_false, Bool.false_eq_true, header_sat E PL hP]
        rw [← List.and_any_distrib_right, List.any_map]
        congr 1
        rw [Bool.eq_iff_iff]
        simp only [List.any_eq_true, Function.comp, Method.accepts, beq_iff_eq, List.contains_iff_mem]
        constructor
        · rintro ⟨x, hx1, hx2⟩; rw [← hx2]; exact hx1
        · intro h; exact ⟨_, h, rfl⟩

/-- the triggers below the host layer -/
def lowerOk (r : Route) (q : Req) : Bool :=
  ipOk r q && (methodOk r q && (headersOk E r q && (dateOk r q && pathOk E r q)))

include hP in
theorem ip_sat (L : List Route) (r : Route) (q : Req) : (ipL E PL).sat L r q = lowerOk E r q := by
  show lSat (methodL E PL) Ip.keysOf Ip.accepts L r q = _
  unfold lSat Ip.keysOf lowerOk ipOk
  cases hi : r.ips with
  | none => simp only [Bool.true_and]; exact method_sat E PL hP _ r q
  | some ks =>
    simp only [method_sat E PL hP]
    rw [← List.and_any_distrib_right]
    congr 1
    unfold Ip.accepts
    cases q.ip <;> simp

theorem triggersOk_eq (r : Route) (q : Req) :
    triggersOk E r q = (schemeOk r q && (hostOk E r q && lowerOk E r q)) := by
  unfold triggersOk lowerOk
  simp only [Bool.and_assoc]

theorem triggersOk_host_path (r : Route) (q : Req) (hs : r.scheme = none) (hi : r.ips = none)
    (hm : r.methods = none) (hh : r.headers = []) (hd : r.datetime = none) (ht : r.time = none)
    (hw : r.weekdays = none) : triggersOk E r q = (hostOk E r q && pathOk E r q) := by
  unfold triggersOk schemeOk schemeKey ipOk methodOk headersOk dateOk
  rw [hs, hi, hm, hh, hd, ht, hw]
  simp only [List.all_nil, Bool.true_and, Bool.and_true]

theorem sat_iff (R : List Route) (r : Route) (q : Req) :
    sat E R r q = true ↔ triggersOk E r q = true ∧ (hostBound r = true ∨ E.alwaysAnyHost = true ∨
      ¬ ∃ r' ∈ R, hostBound r' = true ∧ schemeKey r' = schemeKey r ∧ triggersOk E r' q = true) := by
  unfold sat
  simp only [Bool.and_eq_true, Bool.or_eq_true, Bool.not_eq_true', List.any_eq_false, beq_iff_eq, or_assoc,
    not_exists, not_and, and_assoc]

omit [DecidableEq P] in
theorem hostBound_iff (r : Route) : hostBound r = (Host.keysOf H r).isSome := by
  unfold hostBound Host.keysOf
  cases r.host with
  | none => rfl
  | some sd =>
    cases sd with
    | static h => by_cases e : h = "" <;> simp [e]
    | dyn p => rfl

theorem hostOk_of_not_bound (r : Route) (q : Req) (h : hostBound r = false) : hostOk E r q = true := by
  unfold hostBound at h
  unfold hostOk
  split <;> simp_all

include hP hfind in
theorem hostBoundSat_eq (L : List Route) (r : Route) (q : Req) :
    hostBoundSat (ipL E PL) H L r q = (hostBound r && (hostOk E r q && lowerOk E r q)) := by
  unfold hostBoundSat
  simp only [ip_sat E PL hP]
  rw [← List.and_any_distrib_right]
  -- a route has at most one host key, and that key accepts `q` iff the host trigger holds
  unfold keysL Host.keysOf hostBound hostOk Host.accepts
  generalize lowerOk E r q = c
  cases r.host with
  | none => simp
  | some sd =>
    cases sd with
    | static h =>
      by_cases e : h = ""
      · simp [e]
      · cases hq : q.host with
        | none => simp [e]
        | some hh =>
          simp only [e, if_false, Option.getD_some, List.any_cons, List.any_nil, Bool.or_false, Option.some_beq_some]
          rw [bne_iff_ne.2 e, beq_eq_false_iff_ne.2 e, BEq.comm (a := h)]; rfl
    | dyn p => cases q.host <;> simp [hfind]

include hP hfind halways in
theorem host_sat (L : List Route) (r : Route) (q : Req) :
    (hostL E PL H).sat L r q =
      (hostOk E r q && lowerOk E r q &&
        (hostBound r || E.alwaysAnyHost ||
          !(L.any (fun r' => hostBound r' && (hostOk E r' q && lowerOk E r' q))))) := by
  show hostSat (ipL E PL) H L r q = _
  unfold hostSat
  simp only [hostBoundSat_eq E PL H hP hfind]
  cases hk : Host.keysOf H r with
  | none =>
    have hb : hostBound r = false := by rw [hostBound_iff H, hk]; rfl
    have ho := hostOk_of_not_bound E r q hb
    simp only [ip_sat E PL hP, hb, ho, Bool.true_and, Bool.false_or, halways]
  | some ks =>
    have hb : hostBound r = true := by rw [hostBound_iff H, hk]; rfl
    simp only [hb, Bool.true_and, Bool.true_or, Bool.and_true]

theorem any_congr_mem {α : Type} (l : List α) (f g : α → Bool) (h : ∀ x ∈ l, f x = g x) :
    l.any f = l.any g := by
  rw [Bool.eq_iff_iff]; simp only [List.any_eq_true]
  exact exists_congr fun x => and_congr_right fun hx => by rw [h x hx]

theorem isAnyR_scheme (r' : Route) : isAnyR Scheme.keysOf r' = (schemeKey r' == none) := by
  unfold isAnyR; rw [schemeKey_keysOf]; cases schemeKey r' <;> rfl

theorem inKey_scheme (s : String) (r' : Route) : inKey Scheme.keysOf s r' = (schemeKey r' == some s) := by
  unfold inKey keysL; rw [schemeKey_keysOf]
  cases hk' : schemeKey r' with
  | none => simp
  | some s' =>
    simp only [Option.map_some, Option.getD_some, List.mem_singleton]
    rw [Bool.eq_iff_iff]
    simp only [decide_eq_true_eq, beq_iff_eq, Option.some.injEq]
    exact eq_comm

/-- Inside the scheme bucket `key` (selected by `p`), where the scheme trigger holds of every route, the
host layer's "some host-bound route is satisfied" is the flat specification's. -/
theorem bucket_any (key : Option String) (R : List Route) (q : Req) (p : Route → Bool)
    (hp : ∀ r', p r' = (schemeKey r' == key)) (hok : ∀ r', schemeKey r' = key → schemeOk r' q = true) :
    (R.any fun x => p x && (hostBound x && (hostOk E x q && lowerOk E x q))) =
      R.any fun r' => hostBound r' && schemeKey r' == key &&
        (schemeOk r' q && (hostOk E r' q && lowerOk E r' q)) := by
  apply any_congr_mem
  intro r' _
  rw [hp r']
  cases hk : (schemeKey r' == key)
  · simp
  · rw [hok r' (by simpa using hk)]; simp

include hP hfind halways in
theorem towerL_sat (R : List Route) (r : Route) (q : Req) :
    (towerL E PL H).sat R r q = sat E R r q := by
  show lSat (hostL E PL H) Scheme.keysOf Scheme.accepts R r q = _
  unfold lSat sat
  rw [triggersOk_eq]
  simp only [host_sat E PL H hP hfind halways, List.any_filter, triggersOk_eq]
  rw [schemeKey_keysOf]
  cases hk : schemeKey r with
  | none =>
    have hso : schemeOk r q = true := by unfold schemeOk; rw [hk]
    simp only [Option.map_none, hso, Bool.true_and]
    rw [bucket_any E none R q _ isAnyR_scheme (fun r' h' => by unfold schemeOk; rw [h'])]
  | some s =>
    simp only [Option.map_some, List.any_cons, List.any_nil, Bool.or_false]
    have hso : schemeOk r q = Scheme.accepts s q := by unfold schemeOk; rw [hk]; rfl
    rw [hso]
    cases ha : Scheme.accepts s q
    · simp
    · simp only [Bool.true_and]
      rw [bucket_any E (some s) R q _ (inKey_scheme s) (fun r' h' => by unfold schemeOk; rw [h']; exact ha)]

end

section
variable (E : Env)

def towerLaws : MLaws (towerOps E) := towerL E (pathLaws E) (specHost E)

theorem tower_sat (R : List Route) (r : Route) (q : Req) : (towerLaws E).sat R r q = sat E R r q :=
  towerL_sat E (pathLaws E) (specHost E) (fun _ _ _ => rfl) (fun _ _ => rfl) rfl R r q

end
end Rio.Router
