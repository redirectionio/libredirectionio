/-
Helper definitions and lemmas for Props/C08gen2.lean: the TRANSLATED `Node::insert`, `Leaf::new`, `Leaf::insert`
(`Rio.Consts.genNodeInsert`, `genLeafNew`, `genLeafInsert`, generated from src/regex_radix_tree/{node,leaf}.rs by
tools/consts.d/w4_translate_w23_tree_insert.py) against the hand-written model `Rio.Tree.Item.insert` (Model/Tree.lean).

Representation: the Rust side is `GItem ρ ι V` – an item whose cells are the TRANSLATED `GenLazyRegex ρ` (four Rust fields, `regex`
a string) and whose `HashMap<String, V>` is the association list of the model (`HashMap::new` = `[]`, `HashMap::insert` = `upsert`);
`repI val` maps a model item to it field by field (`LazyRegexGen.toGen val` on every cell).
-/
import RioModel.Generated.Consts
import RioModel.Proofs.LazyRegexGen
import RioModel.Proofs.ScanGen
import RioModel.Proofs.TreeInsert
set_option linter.unusedSectionVars false

namespace Rio.TreeInsertGen
open Rio.Consts Rio.Tree Rio.Scan Rio.LazyRegexGen

/-- `item.rs::Item<V>` with the translated cell type: `Empty(ignore_case)`, `Node(Node { regex, children })`,
`Leaf(Leaf { values, regex })`. -/
inductive GItem (ρ ι V : Type) where
  | empty (ic : Bool)
  | node (regex : GenLazyRegex ρ) (children : List (GItem ρ ι V))
  | leaf (values : List (ι × V)) (regex : GenLazyRegex ρ)

variable {ρ ι V : Type} [DecidableEq ι]

/-- `Item::regex()` (item.rs): `""` for `Empty`, `regex.original` otherwise. -/
def GItem.regex : GItem ρ ι V → List Char
  | .empty _ => []
  | .node g _ => g.original
  | .leaf _ g => g.original

mutual
def repI (val : Compiled → ρ) : Item ι V → GItem ρ ι V
  | .empty ic => .empty ic
  | .node rx cs => .node (toGen val rx) (repL val cs)
  | .leaf rx vs => .leaf vs (toGen val rx)
def repL (val : Compiled → ρ) : List (Item ι V) → List (GItem ρ ι V)
  | [] => []
  | c :: cs => repI val c :: repL val cs
end

theorem repL_eq_map (val : Compiled → ρ) (cs : List (Item ι V)) : repL val cs = cs.map (repI val) := by
  induction cs with
  | nil => simp [repL]
  | cons c cs ih => simp [repL, ih]

theorem regex_repI (val : Compiled → ρ) (t : Item ι V) : (repI val t).regex = t.regex := by
  cases t <;> simp [repI, GItem.regex, Item.regex, toGen]

theorem toGen_newNode (val : Compiled → ρ) (q : List Char) (ic : Bool) :
    (genLazyRegexNewNode q ic : GenLazyRegex ρ) = toGen val (LazyRegex.newNode q ic) :=
  (rep_iff val _ _).1 (newNode_rep val q ic)

theorem toGen_newLeaf (val : Compiled → ρ) (p : List Char) (ic : Bool) :
    (genLazyRegexNewLeaf p ic : GenLazyRegex ρ) = toGen val (LazyRegex.newLeaf p ic) :=
  (rep_iff val _ _).1 (newLeaf_rep val p ic)

def gLeafInsert (vs : List (ι × V)) (g : GenLazyRegex ρ) (p : List Char) (id : ι) (v : V) : GItem ρ ι V :=
  genLeafInsert GItem.node GItem.leaf ([] : List (ι × V)) upsert commonPrefix vs g p id v

def gNodeInsert (F : GItem ρ ι V → List Char → ι → V → Option (GItem ρ ι V)) (g : GenLazyRegex ρ) (cs : List (GItem ρ ι V))
    (p : List Char) (id : ι) (v : V) : Option (GItem ρ ι V) :=
  genNodeInsert GItem.node GItem.leaf GItem.regex ([] : List (ι × V)) upsert getPrefixWithCharSize F g cs p id v

theorem leafNew_eq (val : Compiled → ρ) (p : List Char) (id : ι) (v : V) (ic : Bool) :
    (GItem.leaf (genLeafNew ([] : List (ι × V)) upsert p id v ic : List (ι × V) × GenLazyRegex ρ).1
        (genLeafNew ([] : List (ι × V)) upsert p id v ic : List (ι × V) × GenLazyRegex ρ).2 : GItem ρ ι V)
      = repI val (newLeafItem p id v ic) := by
  simp only [genLeafNew, newLeafItem, repI, upsert, toGen_newLeaf val]

set_option linter.unusedSimpArgs false in
theorem leafInsert_eq (val : Compiled → ρ) (rx : LazyRegex) (vs : List (ι × V)) (p : List Char) (id : ι) (v : V) :
    gLeafInsert vs (toGen val rx) p id v = repI val (leafInsert rx vs p id v) := by
  unfold gLeafInsert genLeafInsert leafInsert
  have ho : (toGen val rx).original = rx.original := rfl
  simp only [ho]
  by_cases h : p = rx.original
  · simp [h, toGen, repI]
  · have h1 : (p == rx.original) = false := by simpa using h
    -- `h2`: the source may write the test with its operands the other way round (`self.regex.original.as_str() == regex`)
    have h2 : (rx.original == p) = false := by simpa using (Ne.symm h)
    simp only [h1, h2, h, if_false, Bool.false_eq_true]
    simp only [repI, repL, upsert, toGen_newLeaf val, toGen_newNode val]
    simp [toGen]

/-- the translated selection loop from index `pre.length` on = the model's `selLoop` on the remaining children (`Prod.snd`: the
loop's state is (largest prefix size so far, selected index); `selLoop` returns the index) -/
theorem loop_eq (val : Compiled → ρ) (p : List Char) (suf pre : List (Item ι V)) (mx : Nat) (item : Option Nat) :
    (genNodeInsertLoop GItem.regex p (repL val (pre ++ suf)) (List.range' pre.length suf.length) (mx, item)).map Prod.snd
      = some (selLoop p (suf.map Item.regex) pre.length mx item) := by
  induction suf generalizing pre mx item with
  | nil => simp [genNodeInsertLoop, selLoop]
  | cons c suf ih =>
    have hidx : (repL val (pre ++ c :: suf))[pre.length]? = some (repI val c) := by
      rw [repL_eq_map]; simp
    have hre : pre ++ c :: suf = (pre ++ [c]) ++ suf := by simp
    have hlen : pre.length + 1 = (pre ++ [c]).length := by simp
    simp only [List.length_cons, List.range', genNodeInsertLoop, hidx, List.map_cons, selLoop, regex_repI,
      genCommonPrefixCharSize_eq]
    by_cases hc : (decide (commonPrefixCharSize p c.regex > mx) || (item.isNone && (c.regex == p))) = true
    · rw [if_pos hc, if_pos (by simpa using hc)]
      rw [hre, hlen]; exact ih _ _ _
    · rw [if_neg hc, if_neg (by simpa using hc)]
      rw [hre, hlen]; exact ih _ _ _

theorem loop_eq0 (val : Compiled → ρ) (p : List Char) (cs : List (Item ι V)) (mx : Nat) :
    (genNodeInsertLoop GItem.regex p (repL val cs) (List.range (repL val cs).length) (mx, none)).map Prod.snd
      = some (selLoop p (cs.map Item.regex) 0 mx none) := by
  have := loop_eq val p cs [] mx none
  simpa [List.range_eq_range', repL_eq_map] using this

/-- `remove(i)` + `push(child.insert(..))` is the model's `insertAt` -/
theorem insertAt_rep (val : Compiled → ρ) (cs : List (Item ι V)) (i : Nat) (p : List Char) (id : ι) (v : V) (c : Item ι V)
    (h : cs[i]? = some c) :
    repL val (insertAt cs i p id v) = (repL val cs).eraseIdx i ++ [repI val (c.insert p id v)] := by
  induction cs generalizing i with
  | nil => simp at h
  | cons d cs ih =>
    cases i with
    | zero =>
      simp at h; subst h
      simp [insertAt, repL_eq_map]
    | succ i =>
      simp at h
      have := ih i h
      simp only [insertAt, repL, List.eraseIdx_cons_succ, List.cons_append, this]

/-- One step: the recursive call `F` is answered correctly on the children.  `hlen`: the node's own prefix has fewer than 2^32
chars (`chars().count() as u32` truncates). -/
theorem nodeInsert_eq (val : Compiled → ρ) (F : GItem ρ ι V → List Char → ι → V → Option (GItem ρ ι V))
    (rx : LazyRegex) (cs : List (Item ι V)) (p : List Char) (id : ι) (v : V)
    (hlen : rx.original.length < 4294967296)
    (hF : ∀ c ∈ cs, F (repI val c) p id v = some (repI val (c.insert p id v))) :
    gNodeInsert F (toGen val rx) (repL val cs) p id v = some (repI val ((Item.node rx cs).insert p id v)) := by
  unfold gNodeInsert genNodeInsert
  have ho : (toGen val rx).original = rx.original := rfl
  have hi : (toGen val rx).ignoreCase = rx.ic := rfl
  simp only [ho, hi, Nat.mod_eq_of_lt hlen, genCommonPrefixCharSize_eq]
  by_cases h1 : commonPrefixCharSize p rx.original < rx.original.length
  · rw [insert_node_split h1]
    simp only [h1, decide_true, if_true, leafNew_eq val, toGen_newNode val, repI, repL]
  · simp only [h1, decide_false, if_false, Bool.false_eq_true]
    have hl := loop_eq0 val p cs rx.original.length
    cases hg : genNodeInsertLoop GItem.regex p (repL val cs) (List.range (repL val cs).length) (rx.original.length, none) with
    | none => simp [hg] at hl
    | some st =>
      obtain ⟨mx', it⟩ := st
      simp only [hg, Option.map_some, Option.some.injEq] at hl
      subst hl
      simp only
      cases hs : selLoop p (cs.map Item.regex) 0 rx.original.length none with
      | none =>
        rw [insert_node_none h1 hs]
        simp only [leafNew_eq val, repI]
        congr 2
        simp [repL_eq_map]
      | some k =>
        have hk : k < cs.length := by simpa using selLoop_lt hs
        have hget : cs[k]? = some cs[k] := List.getElem?_eq_getElem hk
        have hget' : (repL val cs)[k]? = some (repI val cs[k]) := by
          rw [repL_eq_map]; simp [hget]
        rw [insert_node_some h1 hs]
        simp only [hget', hF cs[k] (List.getElem_mem hk), repI]
        rw [insertAt_rep val cs k p id v cs[k] hget]

/-! ### the char-count hypothesis is needed: `chars().count() as u32` truncates -/

theorem cpcs_head_ne {a b : Char} (hab : a ≠ b) (l r : List Char) : commonPrefixCharSize (a :: l) (b :: r) = 0 := by
  have h := cpcs_common (a :: l) (b :: r)
  generalize commonPrefixCharSize (a :: l) (b :: r) = k at h
  cases k with
  | zero => rfl
  | succ k =>
    rw [common_cons_succ] at h
    exact absurd h.1 hab

/-- A node whose prefix has a multiple of 2^32 chars (`m + 1` of them): the source computes `max_prefix_size = 0`, does NOT split
and pushes a leaf under the node; the model (untruncated length) splits. -/
theorem nodeInsert_trunc (m : Nat) (hm : (m + 1) % 4294967296 = 0) :
    gNodeInsert (fun _ _ _ _ => none) (toGen (id : Compiled → Compiled) (LazyRegex.newNode (List.replicate (m + 1) 'a') false))
        (repL id ([] : List (Item Nat Nat))) ['b'] 0 0
      ≠ some (repI id ((Item.node (LazyRegex.newNode (List.replicate (m + 1) 'a') false) ([] : List (Item Nat Nat))).insert ['b'] 0 0)) := by
  unfold gNodeInsert genNodeInsert
  rw [Item.insert]
  have ho : (toGen (id : Compiled → Compiled) (LazyRegex.newNode (List.replicate (m + 1) 'a') false)).original
      = List.replicate (m + 1) 'a' := rfl
  have ho' : (LazyRegex.newNode (List.replicate (m + 1) 'a') false).original = List.replicate (m + 1) 'a' := rfl
  have h0 : commonPrefixCharSize ['b'] (List.replicate (m + 1) 'a') = 0 := cpcs_head_ne (by decide) [] (List.replicate m 'a')
  simp only [ho, ho', List.length_replicate, hm, genCommonPrefixCharSize_eq, h0, Nat.lt_irrefl, decide_false,
    Bool.false_eq_true, if_false, repL, List.length_nil, List.range_zero, genNodeInsertLoop, Nat.zero_lt_succ, if_true]
  intro h
  simp only [Option.some.injEq, repI, repL, GItem.node.injEq] at h
  have := congrArg List.length h.2
  simp at this

/-- the enum layer of a `GItem` (the generated one-layer view of `Item<V>`) -/
def GItem.view : GItem ρ ι V → GenItemView ρ (GItem ρ ι V) (List (ι × V))
  | .empty ic => .empty ic
  | .node g cs => .node g cs
  | .leaf vs g => .leaf vs g

/-- The whole insertion, all four functions translated: `Item::insert` (`genItemInsert`, the three-way `match`) dispatching to the
translated `Leaf::new`, `Leaf::insert`, `Node::insert`, whose recursive call is `gInsert` again; recursion depth bounded by `fuel`
(`none` = out of fuel or a panic). -/
def gInsert : Nat → GItem ρ ι V → List Char → ι → V → Option (GItem ρ ι V)
  | 0, _, _, _, _ => none
  | n + 1, t, p, id, v =>
    genItemInsert GItem.leaf ([] : List (ι × V)) upsert
      (fun g cs p id v => gNodeInsert (gInsert n) g cs p id v) (fun vs g p id v => gLeafInsert vs g p id v) t.view p id v

/-- every node prefix in the tree has fewer than 2^32 chars (so `chars().count() as u32` is exact): what `gInsert_eq` needs -/
inductive Small : Item ι V → Prop where
  | empty (ic : Bool) : Small (.empty ic)
  | leaf (rx : LazyRegex) (vs : List (ι × V)) : Small (.leaf rx vs)
  | node (rx : LazyRegex) (cs : List (Item ι V)) (h : rx.original.length < 4294967296) (hc : ∀ c ∈ cs, Small c) :
      Small (.node rx cs)

theorem gInsert_eq (val : Compiled → ρ) (n : Nat) (t : Item ι V) (p : List Char) (id : ι) (v : V)
    (hs : Small t) (hn : sizeOf t < n) :
    gInsert n (repI val t) p id v = some (repI val (t.insert p id v)) := by
  induction n generalizing t with
  | zero => omega
  | succ n ih =>
    cases t with
    | empty ic => simp only [repI, gInsert, GItem.view, genItemInsert, leafNew_eq val, insert_empty]
    | leaf rx vs => simp only [repI, gInsert, GItem.view, genItemInsert, leafInsert_eq val, insert_leaf]
    | node rx cs =>
      cases hs with
      | node _ _ hl hc =>
        simp only [repI, gInsert, GItem.view, genItemInsert]
        apply nodeInsert_eq val (gInsert n) rx cs p id v hl
        intro c hcm
        apply ih c (hc c hcm)
        have h1 := List.sizeOf_lt_of_mem hcm
        simp only [Item.node.sizeOf_spec] at hn
        omega

/-- every node prefix AND every leaf pattern has fewer than 2^32 chars: what insertion PRESERVES (`Small` alone is not: a split
makes a prefix of a leaf pattern a node prefix) -/
inductive Bounded : Item ι V → Prop where
  | empty (ic : Bool) : Bounded (.empty ic)
  | leaf (rx : LazyRegex) (vs : List (ι × V)) (h : rx.original.length < 4294967296) : Bounded (.leaf rx vs)
  | node (rx : LazyRegex) (cs : List (Item ι V)) (h : rx.original.length < 4294967296) (hc : ∀ c ∈ cs, Bounded c) :
      Bounded (.node rx cs)

theorem bounded_small (t : Item ι V) (h : Bounded t) : Small t := by
  induction t using Item.ind with
  | hE ic => exact Small.empty ic
  | hL rx vs => exact Small.leaf rx vs
  | hN rx cs ih =>
    cases h with
    | node _ _ hl hc => exact Small.node rx cs hl (fun c hm => ih c hm (hc c hm))

theorem getPrefix_length_le (s : List Char) (k : Nat) : (getPrefixWithCharSize s k).length ≤ s.length := by
  unfold getPrefixWithCharSize
  split
  · simp
  · simp [List.length_take]; omega

theorem mem_insertAt {cs : List (Item ι V)} {i : Nat} {p : List Char} {id : ι} {v : V} {d : Item ι V}
    (h : d ∈ insertAt cs i p id v) : d ∈ cs ∨ ∃ c ∈ cs, d = c.insert p id v := by
  induction cs generalizing i with
  | nil => simp [insertAt] at h
  | cons a cs ih =>
    cases i with
    | zero =>
      simp only [insertAt, List.mem_append, List.mem_singleton] at h
      rcases h with h | h
      · exact Or.inl (List.mem_cons_of_mem _ h)
      · exact Or.inr ⟨a, List.mem_cons_self, h⟩
    | succ i =>
      simp only [insertAt, List.mem_cons] at h
      rcases h with h | h
      · exact Or.inl (h ▸ List.mem_cons_self)
      · rcases ih h with h' | ⟨c, hc, e⟩
        · exact Or.inl (List.mem_cons_of_mem _ h')
        · exact Or.inr ⟨c, List.mem_cons_of_mem _ hc, e⟩

theorem bounded_newLeafItem (p : List Char) (id : ι) (v : V) (ic : Bool) (hp : p.length < 4294967296) :
    Bounded (newLeafItem p id v ic) := Bounded.leaf _ _ hp

theorem bounded_insert (t : Item ι V) (p : List Char) (id : ι) (v : V) (h : Bounded t) (hp : p.length < 4294967296) :
    Bounded (t.insert p id v) := by
  induction t using Item.ind with
  | hE ic => rw [insert_empty]; exact bounded_newLeafItem p id v ic hp
  | hL rx vs =>
    cases h with
    | leaf _ _ hl =>
      rw [insert_leaf]; unfold leafInsert
      split
      · exact Bounded.leaf _ _ hl
      · refine Bounded.node _ _ ?_ ?_
        · have := getPrefix_length_le rx.original (commonPrefixCharSize rx.original p)
          simp only [LazyRegex.newNode, commonPrefix]; omega
        · simpa using ⟨Bounded.leaf _ _ hl, Bounded.leaf _ _ hp⟩
  | hN rx cs ih =>
    cases h with
    | node _ _ hl hc =>
      by_cases hsplit : commonPrefixCharSize p rx.original < rx.original.length
      · rw [insert_node_split hsplit]
        refine Bounded.node _ _ ?_ ?_
        · have := getPrefix_length_le rx.original (commonPrefixCharSize p rx.original)
          simp only [LazyRegex.newNode]; omega
        · simpa using ⟨bounded_newLeafItem p id v rx.ic hp, Bounded.node rx cs hl hc⟩
      · cases hs : selLoop p (cs.map Item.regex) 0 rx.original.length none with
        | none =>
          rw [insert_node_none hsplit hs]
          exact Bounded.node _ _ hl
            (List.forall_mem_append.2 ⟨hc, List.forall_mem_singleton.2 (bounded_newLeafItem p id v rx.ic hp)⟩)
        | some i =>
          rw [insert_node_some hsplit hs]
          refine Bounded.node _ _ hl ?_
          intro d hd
          rcases mem_insertAt hd with hd | ⟨c, hcm, rfl⟩
          · exact hc d hd
          · exact ih c hcm (hc c hcm)

def insertAll (t : Item ι V) (ops : List (List Char × ι × V)) : Item ι V :=
  ops.foldl (fun t o => t.insert o.1 o.2.1 o.2.2) t

theorem bounded_insertAll (t : Item ι V) (ops : List (List Char × ι × V)) (h : Bounded t)
    (hops : ∀ o ∈ ops, o.1.length < 4294967296) : Bounded (insertAll t ops) := by
  induction ops generalizing t with
  | nil => exact h
  | cons o ops ih =>
    simp only [insertAll, List.foldl_cons]
    exact ih _ (bounded_insert t _ _ _ h (hops o List.mem_cons_self)) (fun o' ho' => hops o' (List.mem_cons_of_mem _ ho'))

end Rio.TreeInsertGen
