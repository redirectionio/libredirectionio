/-
Cutting at a delimiter as THE decomposition into a delimiter-free first piece and a rest, resp. into delimiter-free pieces
(`splitFirst_eq_iff`, `pieces_eq_iff`); the rest follows from these without induction.  Percent-encoding and -decoding:
decoding does not see an encoding pass, also through a byte map applied in between (`DecMap`: `id`, `+` ↦ space, ASCII
lower-casing); cutting commutes with encoding.
-/
import RioModel.Model.Url
import RioModel.Proofs.SepJoin

namespace Rio.Url

/-- `Bytes` is `List Nat` (Model/Url.lean); the bound is asked only where an escaped byte has to decode back to itself:
`encByte` keeps two hex digits, `b / 16 % 16` and `b % 16` (`pctDecodeGo_encByte_map`). -/
def IsBytes (s : Bytes) : Prop := ∀ b ∈ s, b < 256

instance (s : Bytes) : Decidable (IsBytes s) := by unfold IsBytes; infer_instance

theorem isBytes_nil : IsBytes [] := fun _ h => nomatch h

theorem IsBytes.tail {b : Nat} {s : Bytes} (h : IsBytes (b :: s)) : IsBytes s :=
  fun x hx => h x (List.mem_cons_of_mem _ hx)

theorem IsBytes.head {b : Nat} {s : Bytes} (h : IsBytes (b :: s)) : b < 256 :=
  h b (List.mem_cons_self ..)

theorem IsBytes.append_left {s t : Bytes} (h : IsBytes (s ++ t)) : IsBytes s :=
  fun x hx => h x (List.mem_append_left _ hx)

theorem IsBytes.append_right {s t : Bytes} (h : IsBytes (s ++ t)) : IsBytes t :=
  fun x hx => h x (List.mem_append_right _ hx)

/-- an optional part with its delimiter in front: `splitFirst c s = (p, r)` says `s = p ++ tailOf c r` (`splitFirst_eq_iff`). -/
def tailOf (c : Nat) : Option Bytes → Bytes
  | none => []
  | some q => c :: q

/-- `if s.is_empty() { None } else { Some(s) }`: with `tailOf`, how the model writes an optional part behind a delimiter
(`?` and the query, `=` and the value). -/
def nonEmpty? (s : Bytes) : Option Bytes := if s.isEmpty then none else some s

theorem append_tailOf_nonEmpty? (c : Nat) (p s : Bytes) :
    p ++ tailOf c (nonEmpty? s) = if !s.isEmpty then p ++ c :: s else p := by
  cases s <;> simp [nonEmpty?, tailOf]

theorem nonEmpty?_inj {x y : Bytes} (h : nonEmpty? x = nonEmpty? y) : x = y := by
  cases x <;> cases y <;> simp_all [nonEmpty?]

theorem nonEmpty?_map {f : Bytes → Bytes} (hf : ∀ s, (f s).isEmpty = s.isEmpty) (s : Bytes) :
    (nonEmpty? s).map f = nonEmpty? (f s) := by
  unfold nonEmpty?
  rw [hf]
  cases s.isEmpty <;> rfl

theorem flatMap_append_tailOf {f : Nat → Bytes} {c : Nat} (hc : f c = [c]) (p : Bytes) (r : Option Bytes) :
    (p ++ tailOf c r).flatMap f = p.flatMap f ++ tailOf c (r.map (·.flatMap f)) := by
  cases r <;> simp [tailOf, hc]

theorem map_append_tailOf {g : Nat → Nat} {c : Nat} (hc : g c = c) (p : Bytes) (r : Option Bytes) :
    (p ++ tailOf c r).map g = p.map g ++ tailOf c (r.map (·.map g)) := by
  cases r <;> simp [tailOf, hc]

theorem splitFirst_append_of_not_mem (c : Nat) (p rest : Bytes) (h : c ∉ p) :
    splitFirst c (p ++ rest) = (p ++ (splitFirst c rest).1, (splitFirst c rest).2) := by
  induction p with
  | nil => rfl
  | cons a p ih =>
    have ha : a ≠ c := fun e => h (by simp [e])
    have := ih (fun e => h (List.mem_cons_of_mem _ e))
    simp only [List.cons_append, splitFirst, beq_iff_eq, ha, if_false, this]

theorem splitFirst_spec (c : Nat) (s : Bytes) :
    c ∉ (splitFirst c s).1 ∧ s = (splitFirst c s).1 ++ tailOf c (splitFirst c s).2 := by
  induction s with
  | nil => exact ⟨List.not_mem_nil, rfl⟩
  | cons b r ih =>
    by_cases hb : b = c
    · subst hb; simp [splitFirst, tailOf]
    · have hcb : ¬ c = b := fun e => hb e.symm
      simp only [splitFirst, beq_iff_eq, hb, if_false, List.mem_cons, hcb, false_or, List.cons_append,
        List.cons.injEq, true_and]
      exact ih

theorem splitFirst_eq_iff {c : Nat} {s p : Bytes} {r : Option Bytes} :
    splitFirst c s = (p, r) ↔ c ∉ p ∧ s = p ++ tailOf c r := by
  constructor
  · intro h; have := splitFirst_spec c s; rwa [h] at this
  · rintro ⟨hp, rfl⟩
    rw [splitFirst_append_of_not_mem c p _ hp]
    cases r <;> simp [tailOf, splitFirst]

theorem pieces_ne_nil (c : Nat) (q : Bytes) : pieces c q ≠ [] := by simp [pieces]

theorem pieces_spec (c : Nat) (s : Bytes) : (∀ p ∈ pieces c s, c ∉ p) ∧ Sep.join c (pieces c s) = s := by
  unfold pieces
  induction s with
  | nil => simp [splitAll, Sep.join]
  | cons b r ih =>
    by_cases hb : b = c
    · subst hb
      simp only [splitAll, beq_self_eq_true, if_true]
      rw [Sep.join_cons_cons, ih.2]
      exact ⟨List.forall_mem_cons.mpr ⟨List.not_mem_nil, ih.1⟩, rfl⟩
    · have hcb : ¬ c = b := fun e => hb e.symm
      have ih1 := List.forall_mem_cons.mp ih.1
      have ih2 := ih.2
      simp only [splitAll, beq_iff_eq, hb, if_false, Sep.join, List.cons_append] at ih2 ⊢
      rw [ih2]
      exact ⟨List.forall_mem_cons.mpr ⟨by simp [hcb, ih1.1], ih1.2⟩, rfl⟩

theorem pieces_eq_iff {c : Nat} {s : Bytes} {ps : List Bytes} :
    pieces c s = ps ↔ ps ≠ [] ∧ (∀ p ∈ ps, c ∉ p) ∧ Sep.join c ps = s := by
  constructor
  · rintro rfl; exact ⟨pieces_ne_nil c s, pieces_spec c s⟩
  · rintro ⟨hne, h, rfl⟩
    exact Sep.join_inj (pieces_ne_nil c _) hne (pieces_spec c _).1 h (pieces_spec c _).2

theorem pieces_join {c : Nat} {ps : List Bytes} (hne : ps ≠ []) (h : ∀ p ∈ ps, c ∉ p) :
    pieces c (Sep.join c ps) = ps :=
  pieces_eq_iff.mpr ⟨hne, h, rfl⟩

theorem pieces_append_sep (c : Nat) (a b : Bytes) : pieces c (a ++ c :: b) = pieces c a ++ pieces c b := by
  refine pieces_eq_iff.mpr ⟨by simp [pieces_ne_nil],
    List.forall_mem_append.mpr ⟨(pieces_spec c a).1, (pieces_spec c b).1⟩, ?_⟩
  rw [Sep.join_append (pieces_ne_nil c a) (pieces_ne_nil c b), (pieces_spec c a).2, (pieces_spec c b).2]

theorem pieces_of_not_mem {c : Nat} {s : Bytes} (h : c ∉ s) : pieces c s = [s] :=
  pieces_eq_iff.mpr ⟨by simp, by simpa using h, by simp [Sep.join]⟩

theorem splitFirst_snd_none {c : Nat} {u : Bytes} : (splitFirst c u).2 = none ↔ c ∉ u := by
  obtain ⟨hfree, hu⟩ := splitFirst_spec c u
  constructor
  · intro h; rw [h] at hu; rw [hu]; simpa [tailOf] using hfree
  · intro h; exact congrArg Prod.snd (splitFirst_eq_iff.mpr ⟨h, by simp [tailOf]⟩)

theorem splitFirst_of_not_mem {c : Nat} {u : Bytes} (h : c ∉ u) : splitFirst c u = (u, none) :=
  splitFirst_eq_iff.mpr ⟨h, by simp [tailOf]⟩

theorem splitFirst_append_cons {c : Nat} (P Q : Bytes) (hP : c ∉ P) : splitFirst c (P ++ c :: Q) = (P, some Q) :=
  splitFirst_eq_iff.mpr ⟨hP, rfl⟩

theorem splitFirst_append_some {c : Nat} {u Q : Bytes} (h : (splitFirst c u).2 = some Q) (t : Bytes) :
    splitFirst c (u ++ t) = ((splitFirst c u).1, some (Q ++ t)) := by
  obtain ⟨hfree, hu⟩ := splitFirst_spec c u
  refine splitFirst_eq_iff.mpr ⟨hfree, ?_⟩
  conv => lhs; rw [hu, h]
  simp [tailOf]

theorem filter_pieces_join {c : Nat} {ps : List Bytes} (hne : ∀ p ∈ ps, p ≠ []) (hc : ∀ p ∈ ps, c ∉ p) :
    (pieces c (Sep.join c ps)).filter (fun s => !s.isEmpty) = ps := by
  cases ps with
  | nil => rfl
  | cons p rest =>
    rw [pieces_join (List.cons_ne_nil _ _) hc, List.filter_eq_self.mpr]
    intro q hq
    cases q with
    | nil => exact absurd rfl (hne [] hq)
    | cons _ _ => rfl

theorem perm_of_pieces_perm {c : Nat} {Q Q' : Bytes} (h : (pieces c Q).Perm (pieces c Q')) : Q.Perm Q' := by
  have e : ∀ q : Bytes, q ++ [c] = (pieces c q).flatMap (· ++ [c]) := fun q => by
    rw [← Sep.join_concat (pieces_ne_nil c q), (pieces_spec c q).2]
  have := h.flatMap_right (· ++ [c])
  rw [← e, ← e] at this
  exact (List.perm_append_right_iff [c]).mp this

theorem not_mem_flatMap {f : Nat → Bytes} {c : Nat} (hf : ∀ b, b ≠ c → c ∉ f b) {p : Bytes} (hp : c ∉ p) :
    c ∉ p.flatMap f := by
  intro h
  obtain ⟨b, hb, hcb⟩ := List.mem_flatMap.mp h
  exact hf b (fun e => hp (e ▸ hb)) hcb

theorem splitFirst_flatMap {f : Nat → Bytes} {c : Nat} (hc : f c = [c]) (hf : ∀ b, b ≠ c → c ∉ f b)
    (x : Bytes) :
    splitFirst c (x.flatMap f) = ((splitFirst c x).1.flatMap f, (splitFirst c x).2.map (·.flatMap f)) := by
  obtain ⟨hfree, hx⟩ := splitFirst_spec c x
  refine splitFirst_eq_iff.mpr ⟨not_mem_flatMap hf hfree, ?_⟩
  conv => lhs; rw [hx]
  exact flatMap_append_tailOf hc _ _

theorem pieces_flatMap {f : Nat → Bytes} {c : Nat} (hc : f c = [c]) (hf : ∀ b, b ≠ c → c ∉ f b)
    (x : Bytes) : pieces c (x.flatMap f) = (pieces c x).map (·.flatMap f) := by
  obtain ⟨hfree, hjoin⟩ := pieces_spec c x
  exact pieces_eq_iff.mpr ⟨by simp [pieces_ne_nil], List.forall_mem_map.mpr fun q hq => not_mem_flatMap hf (hfree q hq),
    by rw [← Sep.join_flatMap hc, hjoin]⟩

/-- `g` fixes `c` and sends no other byte to it, so cutting at `c` and joining with `c` commute with `g`
(`Fixes.splitFirst`, `.pieces`, `.join`). -/
def Fixes (g : Nat → Nat) (c : Nat) : Prop := ∀ b, g b = c ↔ b = c

theorem Fixes.mem_map {g : Nat → Nat} {c : Nat} (h : Fixes g c) {s : Bytes} : c ∈ s.map g ↔ c ∈ s := by
  simp only [List.mem_map]
  exact ⟨fun ⟨b, hb, e⟩ => (h b).mp e ▸ hb, fun hc => ⟨c, hc, (h c).mpr rfl⟩⟩

theorem Fixes.splitFirst {g : Nat → Nat} {c : Nat} (h : Fixes g c) (s : Bytes) :
    splitFirst c (s.map g) = ((splitFirst c s).1.map g, (splitFirst c s).2.map (·.map g)) := by
  have := splitFirst_flatMap (f := fun b => [g b]) (c := c) (congrArg ([·]) ((h c).mpr rfl))
    (fun b hb hm => hb ((h b).mp (List.mem_singleton.mp hm).symm)) s
  simpa only [← List.map_eq_flatMap] using this

theorem Fixes.pieces {g : Nat → Nat} {c : Nat} (h : Fixes g c) (s : Bytes) :
    pieces c (s.map g) = (pieces c s).map (·.map g) := by
  have := pieces_flatMap (f := fun b => [g b]) (c := c) (congrArg ([·]) ((h c).mpr rfl))
    (fun b hb hm => hb ((h b).mp (List.mem_singleton.mp hm).symm)) s
  simpa only [← List.map_eq_flatMap] using this

theorem Fixes.join {g : Nat → Nat} {c : Nat} (h : Fixes g c) (ps : List Bytes) :
    (Sep.join c ps).map g = Sep.join c (ps.map (·.map g)) := by
  have := Sep.join_flatMap (f := fun b => [g b]) (congrArg ([·]) ((h c).mpr rfl)) ps
  simpa only [← List.map_eq_flatMap] using this

theorem hexVal_hexDigitUpper {n : Nat} (h : n < 16) : hexVal (hexDigitUpper n) = some n := by
  unfold hexDigitUpper
  by_cases h10 : n < 10
  · rw [if_pos h10, hexVal, if_pos (by omega)]; congr 1; omega
  · rw [if_neg h10, hexVal, if_neg (by omega), if_pos (by omega)]; congr 1; omega

theorem hexDigitUpper_range {n : Nat} (h : n < 16) :
    (48 ≤ hexDigitUpper n ∧ hexDigitUpper n ≤ 57) ∨ (65 ≤ hexDigitUpper n ∧ hexDigitUpper n ≤ 70) := by
  unfold hexDigitUpper; split <;> omega

theorem hexVal_eq_some {b v : Nat} (h : hexVal b = some v) :
    (48 ≤ b ∧ b ≤ 57 ∧ v = b - 48) ∨ (65 ≤ b ∧ b ≤ 70 ∧ v = b - 55) ∨ (97 ≤ b ∧ b ≤ 102 ∧ v = b - 87) := by
  unfold hexVal at h
  by_cases h1 : 48 ≤ b ∧ b ≤ 57
  · rw [if_pos h1] at h; cases h; exact Or.inl ⟨h1.1, h1.2, rfl⟩
  rw [if_neg h1] at h
  by_cases h2 : 65 ≤ b ∧ b ≤ 70
  · rw [if_pos h2] at h; cases h; exact Or.inr (Or.inl ⟨h2.1, h2.2, rfl⟩)
  rw [if_neg h2] at h
  by_cases h3 : 97 ≤ b ∧ b ≤ 102
  · rw [if_pos h3] at h; cases h; exact Or.inr (Or.inr ⟨h3.1, h3.2, rfl⟩)
  rw [if_neg h3] at h; cases h

theorem hexVal_some_range {b v : Nat} (h : hexVal b = some v) :
    (48 ≤ b ∧ b ≤ 57) ∨ (65 ≤ b ∧ b ≤ 70) ∨ (97 ≤ b ∧ b ≤ 102) := by
  have := hexVal_eq_some h; omega

theorem hexVal_lt {b v : Nat} (h : hexVal b = some v) : v < 16 := by
  have := hexVal_eq_some h; omega

/-- What the proofs need of an encode set: the added bytes are no hex digit and not `%` (a pass leaves every `%XX` alone) and
none of `&`, `=`, `?` (the three cuts of `parseQuery` / `pqParse`). -/
def SafeSet (S : List Nat) : Bool :=
  S.all (fun b => (hexVal b).isNone && b != 37 && b != 38 && b != 61 && b != 63)

theorem shouldEncode_props {S : List Nat} (hS : SafeSet S = true) {b : Nat}
    (h : shouldEncode S b = true) :
    hexVal b = none ∧ b ≠ 37 ∧ b ≠ 38 ∧ b ≠ 61 ∧ b ≠ 63 := by
  unfold shouldEncode isControl at h
  simp only [Bool.or_eq_true, decide_eq_true_eq, beq_iff_eq, List.contains_iff_mem, or_assoc] at h
  by_cases hm : b ∈ S
  · unfold SafeSet at hS
    rw [List.all_eq_true] at hS
    have := hS b hm
    simp only [Bool.and_eq_true, Option.isNone_iff_eq_none, bne_iff_ne, ne_eq] at this
    obtain ⟨⟨⟨⟨hhex, h37⟩, h38⟩, h61⟩, h63⟩ := this
    exact ⟨hhex, h37, h38, h61, h63⟩
  · -- a high byte or a control: no hex digit, no delimiter
    have hc : b ≥ 0x80 ∨ b < 0x20 ∨ b = 0x7F := by
      rcases h with h | h | h | h
      · exact Or.inl h
      · exact Or.inr (Or.inl h)
      · exact Or.inr (Or.inr h)
      · exact absurd h hm
    refine ⟨?_, by omega, by omega, by omega, by omega⟩
    unfold hexVal; rw [if_neg (by omega), if_neg (by omega), if_neg (by omega)]

theorem safe_urlSet : SafeSet urlSet = true := by decide
theorem safe_querySet : SafeSet querySet = true := by decide
theorem safe_sortedQuerySet : SafeSet sortedQuerySet = true := by decide

/-- src/api/rule.rs declares its two sets with the same members as src/http/query.rs. -/
theorem ruleUrlSet_eq : ruleUrlSet = urlSet := by decide
theorem ruleQuerySet_eq : ruleQuerySet = querySet := by decide

theorem safe_ruleUrlSet : SafeSet ruleUrlSet = true := ruleUrlSet_eq ▸ safe_urlSet
theorem safe_ruleQuerySet : SafeSet ruleQuerySet = true := ruleQuerySet_eq ▸ safe_querySet

theorem not_shouldEncode {S : List Nat} (hS : SafeSet S = true) {b : Nat}
    (h : hexVal b ≠ none ∨ b = 37 ∨ b = 38 ∨ b = 61 ∨ b = 63) : shouldEncode S b = false :=
  Bool.eq_false_iff.mpr fun hc => by
    obtain ⟨hhex, h37, h38, h61, h63⟩ := shouldEncode_props hS hc
    exact h.elim (· hhex) (·.elim h37 (·.elim h38 (·.elim h61 h63)))

theorem not_shouldEncode_of_hex {S : List Nat} (hS : SafeSet S = true) {b v : Nat}
    (h : hexVal b = some v) : shouldEncode S b = false :=
  not_shouldEncode hS (.inl (by rw [h]; exact Option.some_ne_none v))

theorem not_shouldEncode_37 {S : List Nat} (hS : SafeSet S = true) : shouldEncode S 37 = false :=
  not_shouldEncode hS (.inr (.inl rfl))

theorem not_shouldEncode_hexDigitUpper {S : List Nat} (hS : SafeSet S = true) {n : Nat} (h : n < 16) :
    shouldEncode S (hexDigitUpper n) = false :=
  not_shouldEncode_of_hex hS (hexVal_hexDigitUpper h)

@[simp] theorem pctEncode_nil (S : List Nat) : pctEncode S [] = [] := rfl

theorem pctEncode_cons (S : List Nat) (b : Nat) (s : Bytes) :
    pctEncode S (b :: s) = encOne S b ++ pctEncode S s := by
  simp [pctEncode]

theorem pctEncode_append (S : List Nat) (s t : Bytes) :
    pctEncode S (s ++ t) = pctEncode S s ++ pctEncode S t := by
  simp [pctEncode]

theorem encOne_ne_nil (S : List Nat) (b : Nat) : encOne S b ≠ [] := by
  unfold encOne encByte; split <;> simp

theorem pctEncode_eq_nil {S : List Nat} {s : Bytes} : pctEncode S s = [] ↔ s = [] := by
  cases s with
  | nil => simp
  | cons b r =>
    simp only [pctEncode_cons, List.append_eq_nil_iff, reduceCtorEq, iff_false, not_and]
    intro h; exact absurd h (encOne_ne_nil S b)

theorem pctEncode_isEmpty (S : List Nat) (s : Bytes) : (pctEncode S s).isEmpty = s.isEmpty := by
  rw [Bool.eq_iff_iff, List.isEmpty_iff, List.isEmpty_iff, pctEncode_eq_nil]

theorem mem_encByte {b x : Nat} (h : x ∈ encByte b) :
    x = 37 ∨ (48 ≤ x ∧ x ≤ 57) ∨ (65 ≤ x ∧ x ≤ 70) := by
  unfold encByte at h
  simp only [List.mem_cons, List.not_mem_nil, or_false] at h
  rcases h with rfl | rfl | rfl
  · exact Or.inl rfl
  · exact Or.inr (hexDigitUpper_range (Nat.mod_lt _ (by decide)))
  · exact Or.inr (hexDigitUpper_range (Nat.mod_lt _ (by decide)))

theorem encOne_of_true {S : List Nat} {b : Nat} (h : shouldEncode S b = true) : encOne S b = encByte b := by
  simp [encOne, h]

theorem encOne_of_false {S : List Nat} {b : Nat} (h : shouldEncode S b = false) : encOne S b = [b] := by
  simp [encOne, h]

theorem mem_pctEncode_cases {S : List Nat} {x : Bytes} {b : Nat} (h : b ∈ pctEncode S x) :
    (b = 37 ∨ (48 ≤ b ∧ b ≤ 57) ∨ (65 ≤ b ∧ b ≤ 70)) ∨ (b ∈ x ∧ shouldEncode S b = false) := by
  obtain ⟨a, ha, hb⟩ := List.mem_flatMap.mp h
  cases hs : shouldEncode S a with
  | true => rw [encOne_of_true hs] at hb; exact Or.inl (mem_encByte hb)
  | false => rw [encOne_of_false hs, List.mem_singleton] at hb; subst hb; exact Or.inr ⟨ha, hs⟩

theorem mem_pctEncode_of_mem {S : List Nat} {s : Bytes} {c : Nat} (h : c ∈ s) (hc : shouldEncode S c = false) :
    c ∈ pctEncode S s :=
  List.mem_flatMap.mpr ⟨c, h, by rw [encOne_of_false hc]; exact List.mem_singleton.mpr rfl⟩

/-- a delimiter: not `%`, not an upper-case hex digit — what `encByte` emits — so it never occurs inside an escape. -/
def IsDelim (c : Nat) : Prop := c ≠ 37 ∧ ¬(48 ≤ c ∧ c ≤ 57) ∧ ¬(65 ≤ c ∧ c ≤ 70)

theorem mem_pctEncode {S : List Nat} {s : Bytes} {c : Nat} (hc : IsDelim c) :
    c ∈ pctEncode S s ↔ c ∈ s ∧ shouldEncode S c = false := by
  constructor
  · intro h
    rcases mem_pctEncode_cases h with h | h
    · unfold IsDelim at hc; omega
    · exact h
  · exact fun h => mem_pctEncode_of_mem h.1 h.2

theorem not_mem_pctEncode_of_not_mem {S : List Nat} {c : Nat} (hc : IsDelim c) {x : Bytes} (h : c ∉ x) :
    c ∉ pctEncode S x :=
  fun hm => h ((mem_pctEncode hc).mp hm).1

@[simp] theorem pctDecodeGo_nil (k : Nat) : pctDecodeGo k [] = [] := by
  cases k <;> rfl

@[simp] theorem pctDecodeGo_succ (k b : Nat) (r : Bytes) :
    pctDecodeGo (k + 1) (b :: r) = pctDecodeGo k r := rfl

theorem pctDecodeGo_zero_ne {b : Nat} (r : Bytes) (h : b ≠ 37) :
    pctDecodeGo 0 (b :: r) = b :: pctDecodeGo 0 r := by
  simp [pctDecodeGo, h]

theorem pctDecodeGo_zero_pct_some {r : Bytes} {v : Nat} (h : hexPair r = some v) :
    pctDecodeGo 0 (37 :: r) = v :: pctDecodeGo 2 r := by
  simp [pctDecodeGo, h]

theorem pctDecodeGo_zero_pct_none {r : Bytes} (h : hexPair r = none) :
    pctDecodeGo 0 (37 :: r) = 37 :: pctDecodeGo 0 r := by
  simp [pctDecodeGo, h]

theorem hexPair_cons2 {h l x y : Nat} (r : Bytes) (hx : hexVal h = some x) (hy : hexVal l = some y) :
    hexPair (h :: l :: r) = some (x * 16 + y) := by
  simp [hexPair, hx, hy]

theorem hexPair_eq_some {r : Bytes} {v : Nat} (h : hexPair r = some v) :
    ∃ a b r' x y, r = a :: b :: r' ∧ hexVal a = some x ∧ hexVal b = some y ∧ v = x * 16 + y := by
  match r, h with
  | a :: b :: r', h =>
    unfold hexPair at h
    cases hx : hexVal a with
    | none => simp [hx] at h
    | some x =>
      cases hy : hexVal b with
      | none => simp [hx, hy] at h
      | some y =>
        simp [hx, hy] at h
        exact ⟨a, b, r', x, y, rfl, hx, hy, h.symm⟩

theorem hexPair_none_of_head {a : Nat} (r : Bytes) (h : hexVal a = none) : hexPair (a :: r) = none := by
  cases r with
  | nil => rfl
  | cons b r' => simp [hexPair, h]

theorem hexPair_none_of_second {a b : Nat} (r : Bytes) (h : hexVal b = none) :
    hexPair (a :: b :: r) = none := by
  unfold hexPair; cases hexVal a <;> simp [h]

theorem hexVal_37 : hexVal 37 = none := by decide

/-- A byte map applied between encoding and decoding (`id`, `+` ↦ space, ASCII lower-casing) that does not
disturb `%`, the value of hex digits, or the bytes the set encodes. -/
structure DecMap (S : List Nat) (g : Nat → Nat) : Prop where
  g37 : Fixes g 37
  ghex : ∀ b, hexVal (g b) = hexVal b
  genc : ∀ b, shouldEncode S b = true → g b = b

theorem DecMap.map_encByte {S g} (hg : DecMap S g) (b : Nat) :
    (encByte b).map g = [37, g (hexDigitUpper (b / 16 % 16)), g (hexDigitUpper (b % 16))] := by
  unfold encByte
  simp only [List.map_cons, List.map_nil]
  rw [(hg.g37 37).mpr rfl]

theorem pctDecodeGo_encByte_map {S g} (hg : DecMap S g) {b : Nat} (hb : b < 256) (r : Bytes) :
    pctDecodeGo 0 ((encByte b).map g ++ r) = b :: pctDecodeGo 0 r := by
  rw [hg.map_encByte]
  simp only [List.cons_append, List.nil_append]
  rw [pctDecodeGo_zero_pct_some
    (hexPair_cons2 r (by rw [hg.ghex]; exact hexVal_hexDigitUpper (n := b / 16 % 16) (by omega))
      (by rw [hg.ghex]; exact hexVal_hexDigitUpper (n := b % 16) (by omega)))]
  simp only [pctDecodeGo_succ]
  congr 1; omega

theorem hexPair_congr (a b : Nat) (r r' : Bytes) : hexPair (a :: b :: r) = hexPair (a :: b :: r') := by
  simp [hexPair]

/-- `hexPair` reads two bytes.  If one of the first two source bytes is escaped, its `%` lands among the first two bytes on the
left, and the escaped byte — no hex digit, as the set is safe — stands among the first two on the right: both sides are `none`. -/
theorem hexPair_enc_map {S g} (hS : SafeSet S = true) (hg : DecMap S g) (r : Bytes) :
    hexPair ((pctEncode S r).map g) = hexPair (r.map g) := by
  match r with
  | [] => rfl
  | [a] =>
    cases ha : shouldEncode S a with
    | true =>
      rw [pctEncode_cons, encOne_of_true ha, pctEncode_nil, List.append_nil, hg.map_encByte]
      rw [hexPair_none_of_head _ hexVal_37]
      rfl
    | false =>
      rw [pctEncode_cons, encOne_of_false ha]; rfl
  | a :: c :: r' =>
    cases ha : shouldEncode S a with
    | true =>
      rw [pctEncode_cons, encOne_of_true ha, List.map_append, hg.map_encByte]
      simp only [List.cons_append, List.nil_append, List.map_cons]
      rw [hexPair_none_of_head _ hexVal_37, hexPair_none_of_head]
      rw [hg.ghex]; exact (shouldEncode_props hS ha).1
    | false =>
      rw [pctEncode_cons, encOne_of_false ha]
      cases hc : shouldEncode S c with
      | true =>
        rw [pctEncode_cons, encOne_of_true hc]
        simp only [List.cons_append, List.nil_append, List.map_cons, encByte]
        rw [(hg.g37 37).mpr rfl, hexPair_none_of_second _ hexVal_37, hexPair_none_of_second]
        rw [hg.ghex]; exact (shouldEncode_props hS hc).1
      | false =>
        rw [pctEncode_cons, encOne_of_false hc]
        simp only [List.cons_append, List.nil_append, List.map_cons]
        exact hexPair_congr _ _ _ _

/-- The decoder sees the same text before and after encoding, also while it is skipping the `k` bytes of an escape
it has just read — those are hex digits, which no set encodes. -/
theorem pctDecodeGo_enc_map {S g} (hS : SafeSet S = true) (hg : DecMap S g) (x : Bytes) :
    ∀ k, IsBytes x → (∀ b ∈ x.take k, shouldEncode S b = false) →
      pctDecodeGo k ((pctEncode S x).map g) = pctDecodeGo k (x.map g) := by
  induction x with
  | nil => intro k _ _; rfl
  | cons b r ih =>
    intro k hb hk
    cases k with
    | succ k =>
      -- skipping `b`, which stands unencoded
      have hbe : shouldEncode S b = false := hk b (List.mem_cons_self ..)
      rw [pctEncode_cons, encOne_of_false hbe]
      exact ih k hb.tail (fun y hy => hk y (List.mem_cons_of_mem _ hy))
    | zero =>
      have ih0 := ih 0 hb.tail (fun _ h => nomatch h)
      cases hbe : shouldEncode S b with
      | true =>
        rw [pctEncode_cons, encOne_of_true hbe, List.map_append, pctDecodeGo_encByte_map hg hb.head, ih0,
          List.map_cons, hg.genc b hbe, pctDecodeGo_zero_ne _ (shouldEncode_props hS hbe).2.1]
      | false =>
        rw [pctEncode_cons, encOne_of_false hbe]
        simp only [List.cons_append, List.nil_append, List.map_cons]
        by_cases h37 : b = 37
        · subst h37
          rw [(hg.g37 37).mpr rfl]
          have hp := hexPair_enc_map hS hg r
          cases hpr : hexPair (r.map g) with
          | none =>
            rw [pctDecodeGo_zero_pct_none (hp.trans hpr), pctDecodeGo_zero_pct_none hpr, ih0]
          | some v =>
            rw [pctDecodeGo_zero_pct_some (hp.trans hpr), pctDecodeGo_zero_pct_some hpr]
            congr 1
            -- the two bytes after the `%` are hex digits
            apply ih 2 hb.tail
            obtain ⟨a', c', r'', x', y', hr, hx', hy', _⟩ := hexPair_eq_some hpr
            match r, hr with
            | a :: c :: r', hr =>
              simp only [List.map_cons, List.cons.injEq] at hr
              intro y hy
              simp only [List.take_succ_cons, List.take_zero, List.mem_cons, List.not_mem_nil, or_false] at hy
              rcases hy with rfl | rfl
              · exact not_shouldEncode_of_hex hS (v := x') (by rw [← hg.ghex, hr.1]; exact hx')
              · exact not_shouldEncode_of_hex hS (v := y') (by rw [← hg.ghex, hr.2.1]; exact hy')
        · have : g b ≠ 37 := fun h => h37 ((hg.g37 b).mp h)
          rw [pctDecodeGo_zero_ne _ this, pctDecodeGo_zero_ne _ this, ih0]

theorem pctDecode_enc_map {S g} (hS : SafeSet S = true) (hg : DecMap S g) (x : Bytes) (hx : IsBytes x) :
    pctDecode ((pctEncode S x).map g) = pctDecode (x.map g) :=
  pctDecodeGo_enc_map hS hg x 0 hx (fun _ h => nomatch h)

theorem decMap_id (S : List Nat) : DecMap S id :=
  ⟨fun _ => Iff.rfl, fun _ => rfl, fun _ _ => rfl⟩

theorem pctDecode_pctEncode {S : List Nat} (hS : SafeSet S = true) (x : Bytes) (hx : IsBytes x) :
    pctDecode (pctEncode S x) = pctDecode x := by
  simpa using pctDecode_enc_map hS (decMap_id S) x hx

theorem pctDecode_of_no_pct (x : Bytes) (h : 37 ∉ x) : pctDecode x = x := by
  unfold pctDecode
  induction x with
  | nil => rfl
  | cons b r ih =>
    have hb : b ≠ 37 := fun e => h (by simp [e])
    rw [pctDecodeGo_zero_ne _ hb, ih (fun e => h (List.mem_cons_of_mem _ e))]

/-- the exact condition: `%` is the one byte the encoder passes through that the decoder interprets. -/
theorem pctDecode_pctEncode_id {S : List Nat} (hS : SafeSet S = true) (x : Bytes) (hx : IsBytes x)
    (h : 37 ∉ x) : pctDecode (pctEncode S x) = x := by
  rw [pctDecode_pctEncode hS x hx, pctDecode_of_no_pct x h]

theorem pctEncode_encByte {S : List Nat} (hS : SafeSet S = true) (b : Nat) :
    pctEncode S (encByte b) = encByte b := by
  unfold encByte
  simp only [pctEncode_cons, pctEncode_nil, List.append_nil]
  rw [encOne_of_false (not_shouldEncode_37 hS),
    encOne_of_false (not_shouldEncode_hexDigitUpper hS (n := b / 16 % 16) (by omega)),
    encOne_of_false (not_shouldEncode_hexDigitUpper hS (n := b % 16) (by omega))]
  rfl

/-- `%` and hex digits are in no set, so the escapes of the first pass survive the second. -/
theorem pctEncode_pctEncode {S0 S1 : List Nat} (hS1 : SafeSet S1 = true)
    (hsub : ∀ b, shouldEncode S0 b = true → shouldEncode S1 b = true) (x : Bytes) :
    pctEncode S1 (pctEncode S0 x) = pctEncode S1 x := by
  induction x with
  | nil => rfl
  | cons b r ih =>
    rw [pctEncode_cons, pctEncode_append, ih, pctEncode_cons]
    congr 1
    cases h0 : shouldEncode S0 b with
    | true => rw [encOne_of_true h0, pctEncode_encByte hS1, encOne_of_true (hsub b h0)]
    | false => rw [encOne_of_false h0, pctEncode_cons, pctEncode_nil, List.append_nil]

theorem not_mem_encByte {c : Nat} (hc : IsDelim c) (b : Nat) : c ∉ encByte b := by
  intro h; have := mem_encByte h; unfold IsDelim at hc; omega

theorem not_mem_encOne {S : List Nat} {c : Nat} (hc : IsDelim c) {b : Nat} (hbc : b ≠ c) :
    c ∉ encOne S b := by
  unfold encOne; split
  · exact not_mem_encByte hc b
  · simp; exact fun e => hbc e.symm

theorem splitFirst_pctEncode {S : List Nat} {c : Nat} (hc : IsDelim c) (hce : shouldEncode S c = false)
    (x : Bytes) :
    splitFirst c (pctEncode S x) =
      (pctEncode S (splitFirst c x).1, (splitFirst c x).2.map (pctEncode S)) :=
  splitFirst_flatMap (encOne_of_false hce) (fun _ hb => not_mem_encOne hc hb) x

theorem pieces_pctEncode {S : List Nat} {c : Nat} (hc : IsDelim c) (hce : shouldEncode S c = false)
    (x : Bytes) : pieces c (pctEncode S x) = (pieces c x).map (pctEncode S) :=
  pieces_flatMap (encOne_of_false hce) (fun _ hb => not_mem_encOne hc hb) x

theorem pctEncode_join {S : List Nat} {c : Nat} (hc : shouldEncode S c = false) (ps : List Bytes) :
    pctEncode S (Sep.join c ps) = Sep.join c (ps.map (pctEncode S)) :=
  Sep.join_flatMap (encOne_of_false hc) ps

-- `&`, `=`, `?`: the cuts of the query.  For Proofs/Url.lean: `#` (35; `urlSet` encodes it) and the back-quote (96; the one
-- byte `sanitize_url` leaves that `PathAndQuery` refuses in a path).  43 is `+`.
theorem isDelim_38 : IsDelim 38 := by unfold IsDelim; omega
theorem isDelim_61 : IsDelim 61 := by unfold IsDelim; omega
theorem isDelim_63 : IsDelim 63 := by unfold IsDelim; omega
theorem isDelim_35 : IsDelim 35 := by unfold IsDelim; omega
theorem isDelim_43 : IsDelim 43 := by unfold IsDelim; omega
theorem isDelim_96 : IsDelim 96 := by unfold IsDelim; omega

theorem not_shouldEncode_delim {S : List Nat} (hS : SafeSet S = true) {c : Nat}
    (hc : c = 38 ∨ c = 61 ∨ c = 63) : shouldEncode S c = false :=
  not_shouldEncode hS (.inr (.inr hc))

theorem decMap_plus {S : List Nat} (h43 : shouldEncode S 43 = false) : DecMap S plusToSpace := by
  refine ⟨?_, ?_, ?_⟩
  · intro b; unfold plusToSpace; split
    · rename_i h; simp at h; omega
    · exact Iff.rfl
  · intro b; unfold plusToSpace; split
    · rename_i h; simp at h; subst h; decide
    · rfl
  · intro b hb; unfold plusToSpace; split
    · rename_i h; simp at h; subst h; rw [h43] at hb; cases hb
    · rfl

theorem decodeForm_pctEncode {S : List Nat} (hS : SafeSet S = true) (h43 : shouldEncode S 43 = false)
    (x : Bytes) (hx : IsBytes x) : decodeForm (pctEncode S x) = decodeForm x := by
  unfold decodeForm
  rw [pctDecode_enc_map hS (decMap_plus h43) x hx]

theorem mem_of_splitFirst_snd {c : Nat} {s r : Bytes} (h : (splitFirst c s).2 = some r) :
    ∀ x ∈ r, x ∈ s := by
  intro x hx
  rw [(splitFirst_spec c s).2, h]
  exact List.mem_append_right _ (List.mem_cons_of_mem _ hx)

theorem IsBytes.splitFirst {c : Nat} {x : Bytes} (hx : IsBytes x) :
    IsBytes (splitFirst c x).1 ∧ ∀ r, (splitFirst c x).2 = some r → IsBytes r :=
  ⟨fun y hy => hx y ((splitFirst_spec c x).2 ▸ List.mem_append_left _ hy),
   fun _ hr y hy => hx y (mem_of_splitFirst_snd hr y hy)⟩

theorem parsePair_pctEncode {S : List Nat} (hS : SafeSet S = true) (h43 : shouldEncode S 43 = false)
    (seg : Bytes) (hx : IsBytes seg) : parsePair (pctEncode S seg) = parsePair seg := by
  unfold parsePair
  rw [splitFirst_pctEncode isDelim_61 (not_shouldEncode_delim hS (by omega))]
  have hb := IsBytes.splitFirst (c := 61) hx
  simp only
  rw [decodeForm_pctEncode hS h43 _ hb.1]
  cases h2 : (splitFirst 61 seg).2 with
  | none => rfl
  | some r =>
    simp only [Option.map_some, Option.getD_some]
    rw [decodeForm_pctEncode hS h43 _ (hb.2 r h2)]

theorem IsBytes.pieces {c : Nat} {x : Bytes} (hx : IsBytes x) : ∀ r ∈ pieces c x, IsBytes r :=
  fun _ hr y hy => hx y ((pieces_spec c x).2 ▸ Sep.mem_join hr hy)

theorem parseQuery_pctEncode {S : List Nat} (hS : SafeSet S = true) (h43 : shouldEncode S 43 = false)
    (q : Bytes) (hq : IsBytes q) : parseQuery (pctEncode S q) = parseQuery q := by
  unfold parseQuery
  rw [pieces_pctEncode isDelim_38 (not_shouldEncode_delim hS (by omega)), List.filter_map, List.map_map]
  have : ((fun s : Bytes => !s.isEmpty) ∘ pctEncode S) = (fun s : Bytes => !s.isEmpty) := by
    funext s; simp [pctEncode_isEmpty]
  rw [this]
  apply List.map_congr_left
  intro seg hseg
  exact parsePair_pctEncode hS h43 seg (IsBytes.pieces hq seg (List.mem_filter.mp hseg).1)

end Rio.Url
