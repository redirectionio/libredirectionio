/-
`match_request` AND `trace` of the two condition-group layers of the router (HeaderMatcher, DateTimeMatcher) with
their per-request memo `execute_conditions`, TRANSLATED from src/router/request_matcher/{header,datetime}.rs on every run
(`Rio.Consts.genHeaderMatchRequest`, `genHeaderTrace`, `genDateTimeMatchRequest`, `genDateTimeTrace` and their `Loop1` =
the `'group` loop / `Loop2` = the loop over one group's conditions; tools/consts.d/tr_w15_memo.py) are the router model's `matchGroups` /
`traceGroups` (Model/RouterLayers.lean).

In the translation the memo is ABSTRACT (`BTreeMap::new` / `get` / `insert` are parameters); the hand-written model keeps an
association list (`alookup`, consing).  `MemoImpl` = any implementation of the three operations that SIMULATES the
association list (`R`); the equalities below hold for every such implementation (`MemoImpl.assoc` = the model's own list
is one, so the hypothesis is not vacuous; a map that overwrites in place is another one).
The next layer's `match_request(request)` / `trace(request)` / `len()` are the parameters `next` / `nextTrace` / `lenOf`
(instantiated with `I.matchReq · q`, `I.trace · q`, `I.len`); `Trace::new` is instantiated with the model's constructor
(the model's `TInfo` forgets the per-condition payload of `TraceInfo::HeaderGroup` / `DateTimeGroup`; the payload the
translated code builds is characterised separately, `dtTraceLoop2_infos` / `hdTraceLoop2_infos`).
`m.len() as u64` is `genAsU64 (I.len m)`: the trace equalities assume `I.len m < 2^64` for the buckets (true of any `usize`).
`genDateTimeMatch`, `genDateTimeTr`, `genHeaderMatch`, `genHeaderTr` (and the `…OpsGen` layers) are defined HERE, on a layer state.
-/
import RioModel.Generated.Consts
import RioModel.Proofs.RouterTower
import RioModel.Proofs.RouterTop
import RioModel.Proofs.RouterGen
import RioModel.Model.RouterTreeLayers

namespace Rio.RouterMemoGen
open Rio.Consts Rio.Router

/-- An implementation of `BTreeMap::new` / `get` / `insert` that simulates the model's association list through `R`
(head comment). -/
structure MemoImpl (σ C : Type) [DecidableEq C] where
  new : σ
  get : σ → C → Option Bool
  insert : σ → C → Bool → σ
  R : σ → List (C × Bool) → Prop
  r_new : R new []
  r_get : ∀ s l c, R s l → get s c = alookup c l
  r_insert : ∀ s l c b, R s l → R (insert s c b) ((c, b) :: l)

def MemoImpl.assoc (C : Type) [DecidableEq C] : MemoImpl (List (C × Bool)) C where
  new := []
  get := fun l c => alookup c l
  insert := fun l c b => (c, b) :: l
  R := fun s l => s = l
  r_new := rfl
  r_get := by intro s l c h; subst h; rfl
  r_insert := by intro s l c b h; subst h; rfl

/-- a map that overwrites in place (what a `BTreeMap` does): also an implementation -/
def overwrite {C : Type} [DecidableEq C] (c : C) (b : Bool) : List (C × Bool) → List (C × Bool)
  | [] => [(c, b)]
  | (c', b') :: rest => if c' = c then (c', b) :: rest else (c', b') :: overwrite c b rest

theorem alookup_overwrite {C : Type} [DecidableEq C] (c : C) (b : Bool) (l : List (C × Bool)) (x : C) :
    alookup x (overwrite c b l) = if c = x then some b else alookup x l := by
  induction l with
  | nil => simp [overwrite, alookup]
  | cons e rest ih =>
    obtain ⟨c', b'⟩ := e
    by_cases h : c' = c
    · subst h
      by_cases hx : c' = x <;> simp [overwrite, alookup, hx]
    · by_cases hx : c' = x
      · subst hx
        have : ¬ c = c' := fun e => h e.symm
        simp [overwrite, alookup, h, this]
      · simp [overwrite, alookup, h, hx, ih]

def MemoImpl.inPlace (C : Type) [DecidableEq C] : MemoImpl (List (C × Bool)) C where
  new := []
  get := fun l c => alookup c l
  insert := fun l c b => overwrite c b l
  R := fun s l => ∀ x, alookup x s = alookup x l
  r_new := fun _ => rfl
  r_get := by intro s l c h; exact h c
  r_insert := by
    intro s l c b h x
    rw [alookup_overwrite, alookup_cons, h x]

/-! ## The header loops are the date-time loops at `matchValue c := mv (condOf c) (nameOf c)`

`execute_conditions` is written twice in the code (header.rs, datetime.rs); the two translations of `match_request` differ
only in how a condition is evaluated, those of `trace` also in the type of the payload entries they push (`hdInfo`). -/

section
variable {σ C μ ν χ τ ι : Type} (nextTrace : μ → List τ) (lenOf : μ → Nat) (new : σ) (get : σ → C → Option Bool)
  (ins : σ → C → Bool → σ) (condOf : C → χ) (nameOf : C → ν) (mv : χ → ν → Bool) (mk : Bool → Bool → Nat → List τ → ι → τ)
  (grp : List (GenTraceInfoHeaderCondition ν χ) → ι)

theorem hdMatchLoop2_dt {ρ : Type} (next : μ → List ρ) (cs : List C) : ∀ s : σ,
    genHeaderMatchRequestLoop2 next new get ins condOf nameOf mv cs s =
      genDateTimeMatchRequestLoop2 next new get ins (fun c => mv (condOf c) (nameOf c)) cs s := by
  induction cs with
  | nil => intro s; rfl
  | cons c cs ih =>
    intro s
    simp only [genHeaderMatchRequestLoop2, genDateTimeMatchRequestLoop2, ih]
    -- while header.rs and datetime.rs write the loop alike no goal is left here; if one of them tests a memoised result the
    -- other way round (`if *r { } else { continue }`), the two are still the same function of the memo lookup and the condition
    all_goals
      cases get s c with
      | none => cases mv (condOf c) (nameOf c) <;> rfl
      | some b => cases b <;> rfl

theorem hdMatchLoop1_dt {ρ : Type} (next : μ → List ρ) (gs : List (List C × μ)) : ∀ (xs : List ρ) (s : σ),
    genHeaderMatchRequestLoop1 next new get ins condOf nameOf mv gs xs s =
      genDateTimeMatchRequestLoop1 next new get ins (fun c => mv (condOf c) (nameOf c)) gs xs s := by
  induction gs with
  | nil => intro xs s; rfl
  | cons g gs ih =>
    intro xs s
    simp only [genHeaderMatchRequestLoop1, genDateTimeMatchRequestLoop1, hdMatchLoop2_dt, ih]

/-- the payload entry `HeaderMatcher::trace` pushes where `DateTimeMatcher::trace` pushes `i` -/
def hdInfo (i : GenTraceInfoDateTimeCondition C) : GenTraceInfoHeaderCondition ν χ :=
  { result := i.result, name := nameOf i.condition, condition := condOf i.condition, cached := i.cached }

theorem hdInfo_snoc (is : List (GenTraceInfoDateTimeCondition C)) (r : Option Bool) (c : C) (b : Bool) :
    is.map (hdInfo condOf nameOf) ++ [{ result := r, name := nameOf c, condition := condOf c, cached := b }] =
      List.map (hdInfo condOf nameOf) (is ++ [⟨r, c, b⟩]) := by
  rw [List.map_append]; rfl

/-- The header loop started with ANY payload `pre` is the date-time loop started with none, up to `hdInfo`: the payload only grows
at its end. -/
theorem hdTraceLoop2_dt (cs : List C) (s : σ) (m e : Bool) (pre : List (GenTraceInfoHeaderCondition ν χ)) :
    genHeaderTraceLoop2 nextTrace lenOf new get ins condOf nameOf mv mk grp cs s m e pre =
      (fun r => (r.1, r.2.1, r.2.2.1, pre ++ r.2.2.2.map (hdInfo condOf nameOf)))
        (genDateTimeTraceLoop2 nextTrace lenOf new get ins (fun c => mv (condOf c) (nameOf c)) mk
          (fun is => grp (is.map (hdInfo condOf nameOf))) cs s m e []) := by
  -- generalised over what the date-time loop has pushed so far
  suffices key : ∀ is : List (GenTraceInfoDateTimeCondition C),
      genHeaderTraceLoop2 nextTrace lenOf new get ins condOf nameOf mv mk grp cs s m e (pre ++ is.map (hdInfo condOf nameOf)) =
        (fun r => (r.1, r.2.1, r.2.2.1, pre ++ r.2.2.2.map (hdInfo condOf nameOf)))
          (genDateTimeTraceLoop2 nextTrace lenOf new get ins (fun c => mv (condOf c) (nameOf c)) mk
            (fun is => grp (is.map (hdInfo condOf nameOf))) cs s m e is) by
    simpa using key []
  induction cs generalizing s m e with
  | nil => intro is; rfl
  | cons c cs ih =>
    intro is
    simp only [genHeaderTraceLoop2, genDateTimeTraceLoop2, List.append_assoc, hdInfo_snoc]
    cases get s c <;> exact ih ..

theorem hdTraceLoop1_dt (gs : List (List C × μ)) : ∀ (ts : List τ) (s : σ),
    genHeaderTraceLoop1 nextTrace lenOf new get ins condOf nameOf mv mk grp gs ts s =
      genDateTimeTraceLoop1 nextTrace lenOf new get ins (fun c => mv (condOf c) (nameOf c)) mk
        (fun is => grp (is.map (hdInfo condOf nameOf))) gs ts s := by
  induction gs with
  | nil => intro ts s; rfl
  | cons g gs ih =>
    intro ts s
    simp only [genHeaderTraceLoop1, genDateTimeTraceLoop1, hdTraceLoop2_dt, ih, List.nil_append]

end

section
variable {σ C μ : Type} [DecidableEq C] (M : MemoImpl σ C)

set_option linter.unusedSimpArgs false in
theorem dtMatchLoop2_eq {ρ : Type} (next : μ → List ρ) (ev : C → Bool) (cs : List C) :
    ∀ (s : σ) (l : List (C × Bool)), M.R s l →
      (genDateTimeMatchRequestLoop2 next M.new M.get M.insert ev cs s).1 = (evalGroup ev cs l).1 ∧
      M.R (genDateTimeMatchRequestLoop2 next M.new M.get M.insert ev cs s).2 (evalGroup ev cs l).2 := by
  induction cs with
  | nil => intro s l h; exact ⟨rfl, h⟩
  | cons c cs ih =>
    intro s l h
    simp only [genDateTimeMatchRequestLoop2, evalGroup, M.r_get s l c h]
    cases hl : alookup c l with
    | none =>
      simp only
      cases hc : ev c
      · simp only [Bool.not_false, if_true]
        have := M.r_insert s l c false h
        exact ⟨trivial, this⟩
      · simp only [Bool.not_true, Bool.false_eq_true, if_false]
        exact ih _ _ (M.r_insert s l c true h)
    | some b =>
      simp only
      -- a memoised `false` rejects the group with the memo as it is, a memoised `true` goes on; `if_true` / `if_false` are
      -- there for `if !r { continue }` written as `if r {} else { continue }`
      cases b <;> simp only [Bool.not_false, Bool.not_true, Bool.false_eq_true, if_true, if_false, ↓reduceIte]
      · exact ⟨by trivial, h⟩
      · exact ih _ _ h

theorem hdMatchLoop2_eq {ρ ν χ : Type} (next : μ → List ρ) (condOf : C → χ) (nameOf : C → ν) (mv : χ → ν → Bool)
    (cs : List C) :
    ∀ (s : σ) (l : List (C × Bool)), M.R s l →
      (genHeaderMatchRequestLoop2 next M.new M.get M.insert condOf nameOf mv cs s).1 =
        (evalGroup (fun c => mv (condOf c) (nameOf c)) cs l).1 ∧
      M.R (genHeaderMatchRequestLoop2 next M.new M.get M.insert condOf nameOf mv cs s).2
        (evalGroup (fun c => mv (condOf c) (nameOf c)) cs l).2 := by
  intro s l h
  rw [hdMatchLoop2_dt]
  exact dtMatchLoop2_eq M next _ cs s l h

theorem dtMatchLoop1_eq (I : MOps) (q : Req) (ev : C → Bool) (gs : List (List C × I.M)) :
    ∀ (rules : List Route) (s : σ) (l : List (C × Bool)), M.R s l →
      (genDateTimeMatchRequestLoop1 (fun m => I.matchReq m q) M.new M.get M.insert ev gs rules s).1 =
        matchGroups I ev q gs l rules := by
  induction gs with
  | nil => intro rules s l h; rfl
  | cons g gs ih =>
    obtain ⟨cs, b⟩ := g
    intro rules s l h
    have sp := dtMatchLoop2_eq M (fun m => I.matchReq m q) ev cs s l h
    simp only [genDateTimeMatchRequestLoop1, matchGroups, sp.1]
    cases hg : (evalGroup ev cs l).1
    · simp only [Bool.false_eq_true, if_false]; exact ih _ _ _ sp.2
    · simp only [if_true]; exact ih _ _ _ sp.2

/-- the translated loop returns (memo, matched, executed, payload); its caller reads the first two -/
theorem dtTraceLoop2_eq {τ ι : Type} (nextTrace : μ → List τ) (lenOf : μ → Nat) (ev : C → Bool)
    (mk : Bool → Bool → Nat → List τ → ι → τ) (grp : List (GenTraceInfoDateTimeCondition C) → ι) (cs : List C) :
    ∀ (s : σ) (l : List (C × Bool)) (m e : Bool) (is : List (GenTraceInfoDateTimeCondition C)), M.R s l →
      (genDateTimeTraceLoop2 nextTrace lenOf M.new M.get M.insert ev mk grp cs s m e is).2.1 =
        (traceGroup ev cs m e l).1 ∧
      M.R (genDateTimeTraceLoop2 nextTrace lenOf M.new M.get M.insert ev mk grp cs s m e is).1
        (traceGroup ev cs m e l).2 := by
  induction cs with
  | nil => intro s l m e is h; exact ⟨rfl, h⟩
  | cons c cs ih =>
    intro s l m e is h
    simp only [genDateTimeTraceLoop2, traceGroup, M.r_get s l c h]
    cases hl : alookup c l with
    | none =>
      simp only
      cases e
      · simp only [Bool.false_eq_true, if_false]; exact ih _ _ _ _ _ h
      · simp only [if_true]; exact ih _ _ _ _ _ (M.r_insert s l c _ h)
    | some b =>
      simp only
      exact ih _ _ _ _ _ h

theorem hdTraceLoop2_eq {τ ι ν χ : Type} (nextTrace : μ → List τ) (lenOf : μ → Nat) (condOf : C → χ) (nameOf : C → ν)
    (mv : χ → ν → Bool) (mk : Bool → Bool → Nat → List τ → ι → τ) (grp : List (GenTraceInfoHeaderCondition ν χ) → ι)
    (cs : List C) :
    ∀ (s : σ) (l : List (C × Bool)) (m e : Bool) (is : List (GenTraceInfoHeaderCondition ν χ)), M.R s l →
      (genHeaderTraceLoop2 nextTrace lenOf M.new M.get M.insert condOf nameOf mv mk grp cs s m e is).2.1 =
        (traceGroup (fun c => mv (condOf c) (nameOf c)) cs m e l).1 ∧
      M.R (genHeaderTraceLoop2 nextTrace lenOf M.new M.get M.insert condOf nameOf mv mk grp cs s m e is).1
        (traceGroup (fun c => mv (condOf c) (nameOf c)) cs m e l).2 := by
  intro s l m e is h
  rw [hdTraceLoop2_dt]
  exact dtTraceLoop2_eq M nextTrace lenOf _ mk _ cs s l m e [] h

/-! ## `trace`: the per-condition payload (`TraceInfo::HeaderGroup / DateTimeGroup { conditions }`)

The hand-written model forgets this payload; it is characterised here directly on the translated loop.  From a state with
`executed = matched` (the loop invariant; both are `true` initially) and a sound memo: one entry per condition, in order;
`result` is `Some(value of the condition)` as long as every earlier condition of the group held, `None` afterwards
("not executed").  The `cached` flag (whether the memo already had the condition) is not characterised. -/

/-- the `result` column of the payload -/
def infoResults (ev : C → Bool) : List C → Bool → List (Option Bool)
  | [], _ => []
  | c :: cs, m => (if m then some (ev c) else none) :: infoResults ev cs (m && ev c)

theorem dtTraceLoop2_infos {τ ι : Type} (nextTrace : μ → List τ) (lenOf : μ → Nat) (ev : C → Bool)
    (mk : Bool → Bool → Nat → List τ → ι → τ) (grp : List (GenTraceInfoDateTimeCondition C) → ι) (cs : List C) :
    ∀ (s : σ) (l : List (C × Bool)) (m : Bool) (is : List (GenTraceInfoDateTimeCondition C)), M.R s l → MemoSound ev l →
      ((genDateTimeTraceLoop2 nextTrace lenOf M.new M.get M.insert ev mk grp cs s m m is).2.2.2.map (·.result) =
        is.map (·.result) ++ infoResults ev cs m) ∧
      ((genDateTimeTraceLoop2 nextTrace lenOf M.new M.get M.insert ev mk grp cs s m m is).2.2.2.map (·.condition) =
        is.map (·.condition) ++ cs) := by
  induction cs with
  | nil => intro s l m is h hs; simp [genDateTimeTraceLoop2, infoResults]
  | cons c cs ih =>
    intro s l m is h hs
    simp only [genDateTimeTraceLoop2, infoResults, M.r_get s l c h]
    cases hl : alookup c l with
    | none =>
      simp only
      cases m
      · simp only [Bool.false_eq_true, if_false, Bool.false_and]
        have := ih s l false (is ++ [{ result := none, condition := c, cached := false }]) h hs
        simpa only [List.map_append, List.map_cons, List.map_nil, List.append_assoc, List.cons_append, List.nil_append] using this
      · simp only [if_true, Bool.true_and]
        have := ih _ _ (ev c) (is ++ [{ result := some (ev c), condition := c, cached := false }])
          (M.r_insert s l c (ev c) h) (memoSound_cons ev l c hs)
        simpa only [List.map_append, List.map_cons, List.map_nil, List.append_assoc, List.cons_append, List.nil_append] using this
    | some b =>
      have hb := hs c b hl
      subst hb
      simp only
      have := ih s l (m && ev c) (is ++ [{ result := if m then some (ev c) else none, condition := c, cached := true }]) h hs
      simpa only [List.map_append, List.map_cons, List.map_nil, List.append_assoc, List.cons_append, List.nil_append] using this

theorem hdTraceLoop2_infos {τ ι ν χ : Type} (nextTrace : μ → List τ) (lenOf : μ → Nat) (condOf : C → χ) (nameOf : C → ν)
    (mv : χ → ν → Bool) (mk : Bool → Bool → Nat → List τ → ι → τ) (grp : List (GenTraceInfoHeaderCondition ν χ) → ι)
    (cs : List C) :
    ∀ (s : σ) (l : List (C × Bool)) (m : Bool) (is : List (GenTraceInfoHeaderCondition ν χ)), M.R s l →
      MemoSound (fun c => mv (condOf c) (nameOf c)) l →
      ((genHeaderTraceLoop2 nextTrace lenOf M.new M.get M.insert condOf nameOf mv mk grp cs s m m is).2.2.2.map (·.result) =
        is.map (·.result) ++ infoResults (fun c => mv (condOf c) (nameOf c)) cs m) ∧
      ((genHeaderTraceLoop2 nextTrace lenOf M.new M.get M.insert condOf nameOf mv mk grp cs s m m is).2.2.2.map
          (fun i => (i.name, i.condition)) =
        is.map (fun i => (i.name, i.condition)) ++ cs.map (fun c => (nameOf c, condOf c))) := by
  intro s l m is h hs
  have d := dtTraceLoop2_infos M nextTrace lenOf _ mk (fun is => grp (is.map (hdInfo condOf nameOf))) cs s l m [] h hs
  simp only [List.map_nil, List.nil_append] at d
  rw [hdTraceLoop2_dt]
  simp only [List.map_append, List.map_map]
  refine ⟨congrArg _ d.1, congrArg _ ?_⟩
  have := congrArg (List.map fun c => (nameOf c, condOf c)) d.2
  rwa [List.map_map] at this

/-- `Trace::new` with the model's `TInfo` (the per-condition payload is forgotten by the model) -/
def mkTraceM {ι : Type} (kind : String) : Bool → Bool → Nat → List Trace → ι → Trace :=
  fun m e n ch _ => Trace.mk m e n (.other kind) ch

theorem dtTraceLoop1_eq {ι : Type} (I : MOps) (q : Req) (kind : String) (ev : C → Bool)
    (grp : List (GenTraceInfoDateTimeCondition C) → ι) (gs : List (List C × I.M))
    (hlen : ∀ g ∈ gs, I.len g.2 < 2 ^ 64) :
    ∀ (traces : List Trace) (s : σ) (l : List (C × Bool)), M.R s l →
      (genDateTimeTraceLoop1 (fun m => I.trace m q) I.len M.new M.get M.insert ev (mkTraceM kind) grp gs traces s).1 =
        traceGroups I ev q kind gs l traces := by
  induction gs with
  | nil => intro traces s l h; rfl
  | cons g gs ih =>
    obtain ⟨cs, b⟩ := g
    intro traces s l h
    have sp := dtTraceLoop2_eq M (fun m => I.trace m q) I.len ev (mkTraceM kind) grp cs s l true true [] h
    have hb : genAsU64 (I.len b) = I.len b := GenLoop.genAsU64_of_lt _ (hlen (cs, b) (List.mem_cons_self ..))
    simp only [genDateTimeTraceLoop1, traceGroups, sp.1, hb, mkTraceM]
    exact ih (fun g hg => hlen g (List.mem_cons_of_mem _ hg)) _ _ _ sp.2

end

section
variable {σ : Type} (I : MOps)

/-- every bucket's `len()` is a `usize` (needed only where the code casts it: `matcher.len() as u64` in `trace`) -/
def LensFit {K : Type} (s : LState I K) : Prop := ∀ g ∈ s.map, I.len g.2 < 2 ^ 64

def genDateTimeMatch (M : MemoImpl σ DCond) (s : LState I (List DCond)) (q : Req) : List Route :=
  genDateTimeMatchRequest (fun m => I.matchReq m q) M.new M.get M.insert (fun c => DCond.eval c q) s.any s.map

def genDateTimeTr (M : MemoImpl σ DCond) (s : LState I (List DCond)) (q : Req) : List Trace :=
  genDateTimeTrace (ι := List (GenTraceInfoDateTimeCondition DCond)) (fun m => I.trace m q) I.len M.new M.get M.insert
    (fun c => DCond.eval c q) (mkTraceM "date_time_group") id s.any s.map

theorem genDateTimeMatch_eq (M : MemoImpl σ DCond) (s : LState I (List DCond)) (q : Req) :
    genDateTimeMatch I M s q = DateTime.matchReq I s q := by
  unfold genDateTimeMatch genDateTimeMatchRequest DateTime.matchReq
  exact dtMatchLoop1_eq M I q _ s.map _ _ _ M.r_new

theorem genDateTimeTr_eq (M : MemoImpl σ DCond) (s : LState I (List DCond)) (q : Req) (hlen : LensFit I s) :
    genDateTimeTr I M s q = DateTime.trace I s q := by
  unfold genDateTimeTr genDateTimeTrace DateTime.trace
  exact dtTraceLoop1_eq M I q _ _ _ s.map hlen _ _ _ M.r_new

variable (E : Env)

/-- `c.condition.match_value(request, c.header_name)` on the model's `HCond` -/
def hMatchValue (q : Req) : HKind → String → Bool := fun k n => HCond.eval E ⟨n, k⟩ q

theorem hMatchValue_eq (q : Req) (c : HCond) : hMatchValue E q c.kind c.name = HCond.eval E c q := rfl

def genHeaderMatch (M : MemoImpl σ HCond) (s : LState I (List HCond)) (q : Req) : List Route :=
  genHeaderMatchRequest (fun m => I.matchReq m q) M.new M.get M.insert HCond.kind HCond.name (hMatchValue E q)
    s.any s.map

def genHeaderTr (M : MemoImpl σ HCond) (s : LState I (List HCond)) (q : Req) : List Trace :=
  genHeaderTrace (ι := List (GenTraceInfoHeaderCondition String HKind)) (fun m => I.trace m q) I.len M.new M.get
    M.insert HCond.kind HCond.name (hMatchValue E q) (mkTraceM "header_group") id s.any s.map

theorem genHeaderMatch_eq (M : MemoImpl σ HCond) (s : LState I (List HCond)) (q : Req) :
    genHeaderMatch I E M s q = Header.matchReq E I s q := by
  unfold genHeaderMatch genHeaderMatchRequest Header.matchReq
  simp only [hdMatchLoop1_dt]
  exact dtMatchLoop1_eq M I q _ s.map _ _ _ M.r_new

theorem genHeaderTr_eq (M : MemoImpl σ HCond) (s : LState I (List HCond)) (q : Req) (hlen : LensFit I s) :
    genHeaderTr I E M s q = Header.trace E I s q := by
  unfold genHeaderTr genHeaderTrace Header.trace
  simp only [hdTraceLoop1_dt]
  exact dtTraceLoop1_eq M I q _ _ _ s.map hlen _ _ _ M.r_new

end

/-! ## The layers / the tower whose `match_request`s are the translated ones

Their `trace` is the hand-written one: the translated `trace` is tied to it directly (`gen…Tr_eq`, under `LensFit`). -/

section
variable {σd σh : Type}

def dateTimeOpsGen (M : MemoImpl σd DCond) (I : MOps) : MOps :=
  outerOps I DateTime.keysOf (genDateTimeMatch I M) (DateTime.trace I)

def headerOpsGen (E : Env) (M : MemoImpl σh HCond) (I : MOps) : MOps :=
  outerOps I (Header.keysOf E) (genHeaderMatch I E M) (Header.trace E I)

theorem dateTimeOpsGen_eq (M : MemoImpl σd DCond) (I : MOps) : dateTimeOpsGen M I = dateTimeOps I :=
  Rio.RouterGen.outerOps_congr _ _ _ (genDateTimeMatch_eq I M)

theorem headerOpsGen_eq (E : Env) (M : MemoImpl σh HCond) (I : MOps) : headerOpsGen E M I = headerOps E I :=
  Rio.RouterGen.outerOps_congr _ _ _ (genHeaderMatch_eq I E M)

open Rio.RouterGen in
/-- the tower of the code with the translated `match_request` at SIX layers: scheme, host, ip, method (Proofs/RouterGen.lean) and header,
date-time (here); the path layer is the hand-written model -/
def towerOpsGen2 (E : Env) (Md : MemoImpl σd DCond) (Mh : MemoImpl σh HCond) : MOps :=
  schemeOpsGen (hostOpsGen (specHost E) (ipOpsGen (methodOpsGen (headerOpsGen E Mh (dateTimeOpsGen Md (pathOps E))))))

open Rio.RouterGen in
theorem towerOpsGen2_eq (E : Env) (Md : MemoImpl σd DCond) (Mh : MemoImpl σh HCond) :
    towerOpsGen2 E Md Mh = towerOps E := by
  unfold towerOpsGen2 towerOps
  rw [dateTimeOpsGen_eq, headerOpsGen_eq, methodOpsGen_eq, ipOpsGen_eq, hostOpsGen_eq, schemeOpsGen_eq]

open Rio.RouterGen in
/-- the same over the radix-tree model of both regex trees (`towerTOps`): scheme, ip, method (Proofs/RouterGen.lean), header, date-time (here)
translated; the two tree layers are the tree models -/
def towerTOpsGen2 (T : TEnv) (Md : MemoImpl σd DCond) (Mh : MemoImpl σh HCond) : MOps :=
  schemeOpsGen (hostTOps T (ipOpsGen (methodOpsGen (headerOpsGen T.env Mh (dateTimeOpsGen Md (pathTOps T))))))

open Rio.RouterGen in
theorem towerTOpsGen2_eq (T : TEnv) (Md : MemoImpl σd DCond) (Mh : MemoImpl σh HCond) :
    towerTOpsGen2 T Md Mh = towerTOps T := by
  unfold towerTOpsGen2 towerTOps
  rw [dateTimeOpsGen_eq, headerOpsGen_eq, methodOpsGen_eq, ipOpsGen_eq, schemeOpsGen_eq]

end

/-! ## Trace lists what matching returns, layer by layer, for the translated pair -/

section
variable {σ : Type} {I : MOps} (IL : MLaws I)

theorem genDateTime_mem_routesOfList (M : MemoImpl σ DCond) (s : LState I (List DCond)) (L : List Route) (q : Req)
    (r : Route) (h : (dateTimeLaws IL).Repr s L) (hU : UIds L) (hlen : LensFit I s) :
    r ∈ routesOfList (genDateTimeTr I M s q) ↔ r ∈ genDateTimeMatch I M s q := by
  rw [genDateTimeTr_eq I M s q hlen, genDateTimeMatch_eq]
  exact (dateTimeLaws IL).mem_routesOfList s L h hU q r

theorem genHeader_mem_routesOfList (E : Env) (M : MemoImpl σ HCond) (s : LState I (List HCond)) (L : List Route)
    (q : Req) (r : Route) (h : (headerLaws IL E).Repr s L) (hU : UIds L) (hlen : LensFit I s) :
    r ∈ routesOfList (genHeaderTr I E M s q) ↔ r ∈ genHeaderMatch I E M s q := by
  rw [genHeaderTr_eq I E M s q hlen, genHeaderMatch_eq]
  exact (headerLaws IL E).mem_routesOfList s L h hU q r

end

end Rio.RouterMemoGen
