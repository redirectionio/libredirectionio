/-
C04, strong form for REPLACE stages: what a replace visitor substitutes is an ELEMENT SPAN of the token stream — a run of
whole consecutive tokens that starts with a start tag named by the LAST element of the filter's path and ends with the
first closer of that name (end tag / self-closing tag; or the single void / self-closing tag) — spans never overlap, every
other token is kept in place.  `RScript tgt c T out`: `out` is the left-to-right rendering of the token list `T` in which
some element spans are replaced by the value `c` (one pass, non-overlapping).

That the token loop of a fresh replace stage renders ANY token list this way is `fold_replace_strong` in
Proofs/FilterScript.lean; lifted to whole bodies in Props/C04strong.lean.
Also here, for every kind of visitor: `pathOf` (the path a zipper stands for) and the identity case `fold_untargeted`.
-/
import RioModel.Proofs.FilterHtml

namespace Rio.Filter

/-- a token that closes the element `tgt` for `HtmlFilterBodyAction` -/
def Closer (tgt : Bytes) (t : Tok) : Prop :=
  t.name = tgt ∧ (t.kind = .endTag ∨ t.kind = .selfClosing ∨ (t.kind = .startTag ∧ isVoid t.name = true))

def ElemSpan (tgt : Bytes) (ts : List Tok) : Prop :=
  (∃ t, ts = [t] ∧ t.name = tgt ∧ (t.kind = .selfClosing ∨ (t.kind = .startTag ∧ isVoid tgt = true))) ∨
  (∃ t1 mid t2, ts = t1 :: mid ++ [t2] ∧ t1.kind = .startTag ∧ t1.name = tgt ∧ isVoid tgt = false ∧
    (∀ t ∈ mid, ¬ Closer tgt t) ∧ Closer tgt t2)

def OpenSpan (tgt : Bytes) (ts : List Tok) : Prop :=
  ∃ t1 mid, ts = t1 :: mid ∧ t1.kind = .startTag ∧ t1.name = tgt ∧ isVoid tgt = false ∧ ∀ t ∈ mid, ¬ Closer tgt t

theorem OpenSpan.snoc {tgt : Bytes} {ts : List Tok} (h : OpenSpan tgt ts) (t : Tok) :
    (Closer tgt t → ElemSpan tgt (ts ++ [t])) ∧ (¬ Closer tgt t → OpenSpan tgt (ts ++ [t])) := by
  obtain ⟨t1, mid, rfl, h1, h2, h3, h4⟩ := h
  refine ⟨fun hc => Or.inr ⟨t1, mid, t, rfl, h1, h2, h3, h4, hc⟩, fun hc => ⟨t1, mid ++ [t], rfl, h1, h2, h3, ?_⟩⟩
  intro t' ht'
  rcases List.mem_append.mp ht' with ht' | ht'
  · exact h4 t' ht'
  · rw [List.mem_singleton.mp ht']; exact hc

inductive RScript (tgt c : Bytes) : List Tok → Bytes → Prop
  | nil : RScript tgt c [] []
  | keep (t : Tok) {T : List Tok} {o : Bytes} : RScript tgt c T o → RScript tgt c (T ++ [t]) (o ++ t.raw)
  | rep (ts : List Tok) {T : List Tok} {o : Bytes} : ElemSpan tgt ts → RScript tgt c T o → RScript tgt c (T ++ ts) (o ++ c)

theorem RScript.keeps {tgt c : Bytes} {T : List Tok} {o : Bytes} (h : RScript tgt c T o) :
    ∀ ts : List Tok, RScript tgt c (T ++ ts) (o ++ rawsOf ts) := by
  intro ts
  induction ts generalizing T o with
  | nil => simpa [rawsOf] using h
  | cons t ts ih =>
    have := ih (RScript.keep t h)
    simpa [rawsOf_cons, List.append_assoc] using this

theorem RScript.refl (tgt c : Bytes) (T : List Tok) : RScript tgt c T (rawsOf T) := by
  have := (RScript.nil (tgt := tgt) (c := c)).keeps T
  simpa using this

theorem rawsOf_snoc (ts : List Tok) (t : Tok) : rawsOf (ts ++ [t]) = rawsOf ts ++ t.raw := by
  rw [rawsOf_append, rawsOf_cons]
  exact congrArg (rawsOf ts ++ ·) (List.append_nil _)

def pathOf (v : Visitor) : List Bytes := v.before.reverse ++ v.cur :: v.after

theorem pathOf_advance (v : Visitor) (h : v.after ≠ []) : pathOf v.advance = pathOf v := by
  unfold Visitor.advance pathOf
  cases ha : v.after with
  | nil => exact absurd ha h
  | cons a rest => simp

theorem pathOf_retreat (v : Visitor) (h : v.before ≠ []) : pathOf v.retreat = pathOf v := by
  unfold Visitor.retreat pathOf
  cases hb : v.before with
  | nil => exact absurd hb h
  | cons b rest => simp

theorem pathOf_leaveMove (v : Visitor) (g : Bool) : pathOf (v.leaveMove g).2 = pathOf v := by
  unfold Visitor.leaveMove
  split
  · rename_i h; exact pathOf_retreat v h.1
  · rfl

theorem leaveMove_cur (v : Visitor) (g : Bool) :
    (v.leaveMove g).2.cur = v.cur ∨ (v.leaveMove g).2.after.head? = some v.cur := by
  unfold Visitor.leaveMove
  split
  · rename_i hc
    unfold Visitor.retreat
    cases hb : v.before with
    | nil => exact absurd hb hc.1
    | cons b rest => exact Or.inr rfl
  · exact Or.inl rfl

section
variable (tk : Tokenize) (ev : Bytes → Bytes → Bool)

theorem stepTok_untargeted (s : HtmlSt) (out : Bytes) (t : Tok) (hs : s.stack = []) (hlv : s.leave = none)
    (hno : (t.kind = .startTag ∨ t.kind = .selfClosing) → s.enter ≠ some t.name) :
    stepTok tk ev (s, out) t = (s, out ++ t.raw) := by
  have hend : onEnd tk ev s t.name t.raw = (s, t.raw) := by
    have htm : topMatches s.stack t.name = false := by rw [hs]; rfl
    rw [onEnd_skips tk ev _ (by rw [hlv]; nofun), htm, if_neg Bool.false_ne_true, if_neg Bool.false_ne_true]
  rw [stepTok_eq]
  extract_lets a e
  have ha : a = (s, t.raw) := by
    unfold a
    split
    · rename_i ho
      exact onStart_skips _ (hno (by simpa using ho))
    · rfl
  have he : e = (s, t.raw) := by
    unfold e
    rw [ha, hend, ite_self]
  rw [he]
  unfold push
  rw [hs]

theorem fold_untargeted (T : List Tok) (s : HtmlSt) (out : Bytes) (hs : s.stack = []) (hlv : s.leave = none)
    (hno : ∀ t ∈ T, (t.kind = .startTag ∨ t.kind = .selfClosing) → s.enter ≠ some t.name) :
    T.foldl (stepTok tk ev) (s, out) = (s, out ++ rawsOf T) := by
  induction T generalizing out with
  | nil => simp [rawsOf]
  | cons t T ih =>
    rw [List.foldl_cons, stepTok_untargeted tk ev s out t hs hlv (hno t (by simp)), ih _ fun t' h' => hno t' (by simp [h']),
      rawsOf_cons, List.append_assoc]

end

end Rio.Filter
