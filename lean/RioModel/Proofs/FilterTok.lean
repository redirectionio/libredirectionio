/-
Losslessness, the tokenizer law every C04 theorem assumes, discharged for the concrete tokenizer `htmlTokenize` (the
instantiation of the C16 model in `Model/FilterHtml.lean`) from the C16 lemmas about `next`: the raw bytes of the tokens
followed by the remainder are the input, for `Tokenizer::new_fragment(data, last_context)` (the filter loop) in any
context, and for `Tokenizer::new` (append_child / prepend_child), which is the stream tokenizer without a context
(`tokenizeGoX_erase`).
-/
import RioModel.Proofs.FilterHtml
import RioModel.Model.FilterHtml
import RioModel.Proofs.HtmlNext
import RioModel.Proofs.HtmlContext

namespace Rio.Filter
open Rio.Html Rio.Html.Tokenizer

/-- the stream loop does not read the data span of the state it starts from: it calls `next()` first -/
theorem tokenizeGoX_dataFrame {t t' : Tokenizer} (f : DataFrame t t') (n : Nat) (acc : List TokX) :
    tokenizeGoX n t' acc = tokenizeGoX n t acc := by
  obtain ⟨_, _, rfl⟩ := f
  cases n <;> rfl

/-- one round of the stream loop from a state satisfying `Inv`: no failure flag is set after `next()`, `raw()` /
`buffered()` are in range, and `tag_name()` fails exactly on a name that is not valid UTF-8; since it moves only the
data span, the loop goes on as from `next t` -/
theorem tokenizeGoX_round {n : Nat} {t : Tokenizer} {acc : List TokX} (hi : Tokenizer.Inv t) :
    tokenizeGoX (n + 1) t acc =
      if (Tokenizer.next t).token == .error then
        some (acc.reverse, rawL (Tokenizer.next t) ++ restL (Tokenizer.next t), t.rawTag)
      else if isTagLike (Tokenizer.next t).token && !validUtf8 (dataL (Tokenizer.next t)) then none
      else tokenizeGoX n (Tokenizer.next t)
        ({ tok := { kind := kindOf (Tokenizer.next t).token, raw := rawL (Tokenizer.next t),
                    name := if isTagLike (Tokenizer.next t).token then (dataL (Tokenizer.next t)).map lowerByte else [] },
           cut := (Tokenizer.next t).err, ctx := t.rawTag } :: acc) := by
  have i1 := next_inv' t hi
  rw [tokenizeGoX]
  simp only [i1.ok.panic, i1.ok.hang, i1.ok.utf8, Bool.or_self, Bool.false_eq_true, if_false, raw_eq _ i1,
    buffered_eq _ i1]
  by_cases hk : isTagLike (Tokenizer.next t).token = true
  · have ts := (tagName_spec _ i1 (next_post t hi).spans hk).1
    rw [if_pos hk, hk, Bool.true_and, if_pos rfl]
    by_cases hv : validUtf8 (dataL (Tokenizer.next t)) = true
    · rw [hv] at ts ⊢
      rw [show tagName (Tokenizer.next t) = (_, (tagName (Tokenizer.next t)).2) from Prod.ext ts rfl]
      simp only [Bool.not_true, Bool.false_eq_true, if_false]
      rw [tokenizeGoX_dataFrame (tagName_dataFrame _ (ok_ne_panic ts))]
    · rw [Bool.not_eq_true] at hv
      rw [hv] at ts ⊢
      rw [show tagName (Tokenizer.next t) = (_, (tagName (Tokenizer.next t)).2) from Prod.ext ts rfl]
      rfl
  · rw [if_neg hk, Bool.not_eq_true] at *
    rw [hk]
    rfl

theorem tokenizeGoX_step {n : Nat} {t : Tokenizer} {acc : List TokX} {res : List TokX × Bytes × Bytes}
    (hi : Tokenizer.Inv t) (h : tokenizeGoX (n + 1) t acc = some res) :
    ((Tokenizer.next t).token = .error ∧ res = (acc.reverse, rawL (Tokenizer.next t) ++ restL (Tokenizer.next t), t.rawTag)) ∨
    ((Tokenizer.next t).token ≠ .error ∧ ∃ nm : Bytes,
      tokenizeGoX n (Tokenizer.next t)
        ({ tok := { kind := kindOf (Tokenizer.next t).token, raw := rawL (Tokenizer.next t), name := nm },
           cut := (Tokenizer.next t).err, ctx := t.rawTag } :: acc) = some res) := by
  rw [tokenizeGoX_round hi] at h
  by_cases he : ((Tokenizer.next t).token == TokenType.error) = true
  · rw [if_pos he] at h
    exact Or.inl ⟨by simpa using he, (Option.some.inj h).symm⟩
  · rw [if_neg he] at h
    split at h
    · cases h
    · exact Or.inr ⟨by simpa using he, _, h⟩

/-- `P` of every record (whatever name `tag_name()` returned), from `Q` of every state; the second conjunct is the state of
the last round, whose `raw_tag` is the context reported (for `CtxClosed`) -/
theorem tokenizeGoX_ind (P : TokX → Prop) (Q : Tokenizer → Prop)
    (step : ∀ t, Tokenizer.Inv t → Q t → (Tokenizer.next t).token ≠ .error → ∀ nm,
      P { tok := { kind := kindOf (Tokenizer.next t).token, raw := rawL (Tokenizer.next t), name := nm },
          cut := (Tokenizer.next t).err, ctx := t.rawTag })
    (qnext : ∀ t, Tokenizer.Inv t → Q t → Q (Tokenizer.next t)) :
    ∀ (n : Nat) (t : Tokenizer) (acc : List TokX) (res : List TokX × Bytes × Bytes), Tokenizer.Inv t → Q t →
      tokenizeGoX n t acc = some res → (∀ x ∈ acc, P x) →
      (∀ x ∈ res.1, P x) ∧ ∃ t', Tokenizer.Inv t' ∧ Q t' ∧ res.2.2 = t'.rawTag
  | 0, _, _, _, _, _, h, _ => by simp [tokenizeGoX] at h
  | n + 1, t, acc, res, hi, hq, h, hacc => by
    rcases tokenizeGoX_step hi h with ⟨_, rfl⟩ | ⟨hne, nm, h2⟩
    · exact ⟨fun x hx => hacc x (by simpa using hx), t, hi, hq, rfl⟩
    · refine tokenizeGoX_ind P Q step qnext n _ _ res (next_inv' t hi) (qnext t hi hq) h2 ?_
      intro x hx
      rcases List.mem_cons.mp hx with rfl | hx
      · exact step t hi hq hne nm
      · exact hacc x hx

theorem tokenizeGoX_lossless : ∀ (n : Nat) (t : Tokenizer) (acc xs : List TokX) (r c : Bytes), Tokenizer.Inv t →
    tokenizeGoX n t acc = some (xs, r, c) → rawsOf (toksOf xs) ++ r = rawsOf (toksOf acc.reverse) ++ restL t
  | 0, _, _, _, _, _, _, h => by simp [tokenizeGoX] at h
  | n + 1, t, acc, xs, r, c, hi, h => by
    rw [← next_held t hi]
    rcases tokenizeGoX_step hi h with ⟨_, he⟩ | ⟨_, nm, h2⟩
    · injection he with h1 h2
      injection h2 with h2 h3
      rw [h1, h2]
    · rw [tokenizeGoX_lossless n _ _ xs r c (next_inv' t hi) h2]
      simp [rawsOf, toksOf, List.append_assoc]

theorem newFragment_inv (b : Array Nat) (c : List Nat) : Inv (Tokenizer.newFragment b c) :=
  Tokenizer.newFragment_inv b c

theorem restL_newFragment (d c : Bytes) : restL (Tokenizer.newFragment d.toArray c) = d := by
  obtain ⟨f1, f2, _⟩ := newFragment_fields d.toArray c
  unfold restL
  rw [f1, f2]
  simp

theorem htmlTokenize_losslessS : LosslessS htmlTokenize := by
  intro c d
  show rawsOf (toksOf (htmlStream c d).1) ++ (htmlStream c d).2.1 = d
  unfold htmlStream
  cases h : htmlStream? c d with
  | none => simp [rawsOf, toksOf]
  | some r =>
    obtain ⟨xs, rest, c'⟩ := r
    simp only [Option.getD_some]
    unfold htmlStream? at h
    rw [tokenizeGoX_lossless _ _ [] xs rest c' (newFragment_inv d.toArray c) h, restL_newFragment]
    rfl

theorem tokenizeGoX_erase : ∀ (n : Nat) (t : Tokenizer) (acc : List TokX),
    (tokenizeGoX n t acc).map (fun r => (toksOf r.1, r.2.1)) = tokenizeGo n t (toksOf acc)
  | 0, _, _ => rfl
  | n + 1, t, acc => by
    rw [tokenizeGoX, tokenizeGo]
    by_cases hf : ((next t).panic || (next t).hang || (next t).utf8Err) = true
    · rw [if_pos hf, if_pos hf]; rfl
    rw [if_neg hf, if_neg hf]
    by_cases he : ((next t).token == TokenType.error) = true
    · rw [if_pos he, if_pos he]
      cases (next t).raw <;> cases (next t).buffered <;> simp [toksOf]
    rw [if_neg he, if_neg he]
    cases (next t).raw with
    | none => rfl
    | some r =>
      simp only []
      by_cases hk : isTagLike (next t).token = true
      · rw [if_pos hk, if_pos hk]
        -- the same three outcomes of `tag_name()` on both sides
        cases tagName (next t) with
        | mk res t2 =>
          cases res with
          | ok x =>
            obtain ⟨_ | nm, b⟩ := x
            · exact tokenizeGoX_erase n t2 _
            · exact tokenizeGoX_erase n t2 _
          | _ => rfl
      · rw [if_neg hk, if_neg hk]
        exact tokenizeGoX_erase n (next t) _

theorem htmlStream?_nil_erase (d : Bytes) :
    (htmlStream? [] d).map (fun r => (toksOf r.1, r.2.1)) = htmlTokenize? d :=
  tokenizeGoX_erase (d.length + 2) (Tokenizer.new d.toArray) []

/-- `new_fragment(data, "")` = `new(data)`, on tokens and remainder -/
theorem htmlStream_nil_erase (d : Bytes) :
    toksOf (htmlTokenize.stream [] d).1 = (htmlTokenize d).1 ∧ (htmlTokenize.stream [] d).2.1 = (htmlTokenize d).2 := by
  show toksOf (htmlStream [] d).1 = (htmlPlain d).1 ∧ (htmlStream [] d).2.1 = (htmlPlain d).2
  unfold htmlStream htmlPlain
  rw [← htmlStream?_nil_erase]
  cases htmlStream? [] d <;> exact ⟨rfl, rfl⟩

/-- C16 `lossless` on the level of the filters (the stream tokenizer without a context) -/
theorem htmlTokenize_lossless : Lossless htmlTokenize := by
  intro d
  rw [← (htmlStream_nil_erase d).1, ← (htmlStream_nil_erase d).2]
  exact htmlTokenize_losslessS [] d

theorem htmlTokenize_losslessAll : LosslessAll htmlTokenize := ⟨htmlTokenize_lossless, htmlTokenize_losslessS⟩

theorem htmlStream_nil_nil : (htmlTokenize.stream [] []).1 = [] := by decide +kernel

theorem tagName_frame (t : Tokenizer) (x : Option (List Nat) × Bool) (h : (tagName t).1 = .ok x) (hi : Inv t) :
    Inv (tagName t).2 ∧ restL (tagName t).2 = restL t := by
  have f := tagName_dataFrame t (ok_ne_panic h)
  refine ⟨f.inv hi, ?_⟩
  obtain ⟨_, _, e⟩ := f
  rw [e]; rfl

theorem restL_sim {F : Prop} {p : Nat} {t u : Tokenizer} (c : Pre F p t u) (f : F) (hu : u.rawE ≤ u.buf.size) :
    restL t = restL u := by
  unfold restL
  have := c.extract u.rawE u.buf.size hu (Nat.le_refl _)
  rw [c.rawE, ← c.full f]
  exact this

end Rio.Filter
