/-
Stream laws, tags: the simulation `Core` for `read_tag` and `read_start_tag`.  `Core` does not talk about the attribute
fields (`pending_attribute`, `attribute`, `number_attribute_returned`), which `read_tag` rebuilds; the lemmas from
`readAttr_sim` up to `readStartTag_sim` therefore also say that they are rebuilt alike on related states, the same up to the
shift `p` (`Sav`), so that prefix stability and restart also cover a tag token's attribute list.
-/
import RioModel.Proofs.HtmlSim

namespace Rio.Html
namespace Tokenizer
open Rio.Consts

def AttrSpan.shift (p : Nat) (s : AttrSpan) : AttrSpan := ⟨p + s.ks, p + s.ke, p + s.vs, p + s.ve⟩

/-- the attribute lists of a tag token correspond: the saved spans (`attribute`) up to the shift `p`, the same
`number_attribute_returned` -/
structure Sav (p : Nat) (t u : Tokenizer) : Prop where
  attrs : t.attrs = u.attrs.map (AttrSpan.shift p)
  n : t.nAttrRet = u.nAttrRet

theorem Sav.congr {p : Nat} {t u t' u' : Tokenizer} (s : Sav p t u) (ht : t'.attrs = t.attrs) (hn : t'.nAttrRet = t.nAttrRet)
    (hu : u'.attrs = u.attrs) (hm : u'.nAttrRet = u.nAttrRet) : Sav p t' u' :=
  ⟨by rw [ht, hu]; exact s.attrs, by rw [hn, hm]; exact s.n⟩

/-- `Core` and the pending value span, shifted by `p`: what the attribute-value readers are simulated with, packed because
`wsThen_sim` hands it through the continuation `k`.  The key span has two readers only (`attrKeyGo_sim`,
`readTagAttrKey_sim`), which state it beside `Core`. -/
def CoreV (F : Prop) (p : Nat) (t u : Tokenizer) : Prop := Core F p t u ∧ t.pvS = p + u.pvS ∧ t.pvE = p + u.pvE

/-- the position of the byte just read -/
theorem Core.rawE_pred {F : Prop} {p : Nat} {t u : Tokenizer} (c : Core F p t u) (h : 0 < u.rawE) :
    t.rawE - 1 = p + (u.rawE - 1) := (congrArg (· - 1) c.rawE).trans (Nat.add_sub_assoc h p)

theorem tagNameGo_sim {F : Prop} {p : Nat} (t u : Tokenizer) (c : Core F p t u)
    (e : Clean F (tagNameGo u)) : Core F p (tagNameGo t) (tagNameGo u) := by
  fun_induction tagNameGo u generalizing t
  case case1 herr _ =>
    have rb := readByte_sim c e.congr
    rw [tagNameGo, dif_pos (rb.1.isErr herr)]
    exact rb.1.dataE_rawE
  case case2 herr hws =>
    have rb := readByte_sim c (e.back ((Reach.refl _).setDataEndBack 1))
    rw [tagNameGo, dif_neg (rb.1.noErr herr), if_pos (by rw [rb.2]; exact hws)]
    exact setDataEndBack_sim 1 rb.1 e
  case case3 herr hws hend _ =>
    have rb := readByte_sim c (e.congr.back ((Reach.refl _).unread 1 herr))
    rw [tagNameGo, dif_neg (rb.1.noErr herr), if_neg (by rw [rb.2]; exact hws), if_pos (by rw [rb.2]; exact hend)]
    exact (unread_sim 1 rb.1 e.congr).dataE_rawE
  case case4 herr hws hend ih =>
    have rb := readByte_sim c (e.back (Reach.refl _).tagNameGo)
    rw [tagNameGo, dif_neg (rb.1.noErr herr), if_neg (by rw [rb.2]; exact hws), if_neg (by rw [rb.2]; exact hend)]
    exact ih _ rb.1 e

theorem readTagName_sim {F : Prop} {p : Nat} (t u : Tokenizer) (c : Core F p t u)
    (e : Clean F (readTagName u)) : Core F p (readTagName t) (readTagName u) := by
  unfold readTagName at e ⊢
  by_cases hu : u.rawE = 0
  · rw [if_pos hu] at e; cases e.panic
  · rw [if_neg hu] at e ⊢
    rw [if_neg (by have := c.rawE; omega)]
    exact tagNameGo_sim { t with dataS := t.rawE - 1 } { u with dataS := u.rawE - 1 }
      { c with dataS := c.rawE_pred (Nat.pos_of_ne_zero hu) } e

theorem Core.pkE {F : Prop} {p : Nat} {t u : Tokenizer} (c : Core F p t u) (a b : Nat) :
    Core F p { t with pkE := a } { u with pkE := b } := c.congr rfl rfl

theorem Core.pvE {F : Prop} {p : Nat} {t u : Tokenizer} (c : Core F p t u) (a b : Nat) :
    Core F p { t with pvE := a } { u with pvE := b } := c.congr rfl rfl

theorem Core.pvS {F : Prop} {p : Nat} {t u : Tokenizer} (c : Core F p t u) (a b : Nat) :
    Core F p { t with pvS := a } { u with pvS := b } := c.congr rfl rfl

theorem attrKeyGo_sim {F : Prop} {p : Nat} (t u : Tokenizer) (c : Core F p t u) (e : Clean F (attrKeyGo u)) :
    Core F p (attrKeyGo t) (attrKeyGo u) ∧ (attrKeyGo t).pkE = p + (attrKeyGo u).pkE := by
  fun_induction attrKeyGo u generalizing t
  case case1 herr _ =>
    have rb := readByte_sim c e.congr
    rw [attrKeyGo, dif_pos (rb.1.isErr herr)]
    exact ⟨rb.1.pkE _ _, rb.1.rawE⟩
  case case2 => cases e.panic
  case case3 herr hws _ _ =>
    have rb := readByte_sim c e.congr
    have hp := readByte_pos herr
    have hr := rb.1.rawE
    rw [attrKeyGo, dif_neg (rb.1.noErr herr), if_pos (by rw [rb.2]; exact hws), if_neg (by omega)]
    exact ⟨rb.1.pkE _ _, rb.1.rawE_pred hp⟩
  case case4 herr hws heq _ =>
    have rb := readByte_sim c (e.congr.back ((Reach.refl _).unread 1 herr))
    have us := unread_sim 1 rb.1 e.congr
    rw [attrKeyGo, dif_neg (rb.1.noErr herr), if_neg (by rw [rb.2]; exact hws), if_pos (by rw [rb.2]; exact heq)]
    exact ⟨us.pkE _ _, us.rawE⟩
  case case5 herr hws heq ih =>
    have rb := readByte_sim c (e.back (Reach.refl _).attrKeyGo)
    rw [attrKeyGo, dif_neg (rb.1.noErr herr), if_neg (by rw [rb.2]; exact hws), if_neg (by rw [rb.2]; exact heq)]
    exact ih _ rb.1 e

theorem readTagAttrKey_sim {F : Prop} {p : Nat} (t u : Tokenizer) (c : Core F p t u)
    (e : Clean F (readTagAttrKey u)) :
    Core F p (readTagAttrKey t) (readTagAttrKey u) ∧
    (readTagAttrKey t).pkS = p + (readTagAttrKey u).pkS ∧ (readTagAttrKey t).pkE = p + (readTagAttrKey u).pkE := by
  have g := attrKeyGo_sim { t with pkS := t.rawE } { u with pkS := u.rawE } (c.congr rfl rfl) e
  have ft := attrKeyGo_pkS { t with pkS := t.rawE }
  have fu := attrKeyGo_pkS { u with pkS := u.rawE }
  exact ⟨g.1, (ft.trans c.rawE).trans (congrArg (p + ·) fu.symm), g.2⟩

theorem attrValQuotedGo_sim {F : Prop} {p : Nat} (t u : Tokenizer) (q : Nat) (c : Core F p t u)
    (e : Clean F (attrValQuotedGo u q)) :
    Core F p (attrValQuotedGo t q) (attrValQuotedGo u q) ∧ (attrValQuotedGo t q).pvE = p + (attrValQuotedGo u q).pvE := by
  fun_induction attrValQuotedGo u q generalizing t
  case case1 herr _ =>
    have rb := readByte_sim c e.congr
    rw [attrValQuotedGo, dif_pos (rb.1.isErr herr)]
    exact ⟨rb.1.pvE _ _, rb.1.rawE⟩
  case case2 => cases e.panic
  case case3 herr hq _ _ =>
    have rb := readByte_sim c e.congr
    have hp := readByte_pos herr
    have hr := rb.1.rawE
    rw [attrValQuotedGo, dif_neg (rb.1.noErr herr), if_pos (by rw [rb.2]; exact hq), if_neg (by omega)]
    exact ⟨rb.1.pvE _ _, rb.1.rawE_pred hp⟩
  case case4 herr hq ih =>
    have rb := readByte_sim c (e.back ((Reach.refl _).attrValQuotedGo _))
    rw [attrValQuotedGo, dif_neg (rb.1.noErr herr), if_neg (by rw [rb.2]; exact hq)]
    exact ih _ rb.1 e

theorem attrValUnquotedGo_sim {F : Prop} {p : Nat} (t u : Tokenizer) (c : Core F p t u)
    (e : Clean F (attrValUnquotedGo u)) :
    Core F p (attrValUnquotedGo t) (attrValUnquotedGo u) ∧ (attrValUnquotedGo t).pvE = p + (attrValUnquotedGo u).pvE := by
  fun_induction attrValUnquotedGo u generalizing t
  case case1 herr _ =>
    have rb := readByte_sim c e.congr
    rw [attrValUnquotedGo, dif_pos (rb.1.isErr herr)]
    exact ⟨rb.1.pvE _ _, rb.1.rawE⟩
  case case2 => cases e.panic
  case case3 herr hws _ _ =>
    have rb := readByte_sim c e.congr
    have hp := readByte_pos herr
    have hr := rb.1.rawE
    rw [attrValUnquotedGo, dif_neg (rb.1.noErr herr), if_pos (by rw [rb.2]; exact hws), if_neg (by omega)]
    exact ⟨rb.1.pvE _ _, rb.1.rawE_pred hp⟩
  case case4 herr hws hgt _ =>
    have rb := readByte_sim c (e.congr.back ((Reach.refl _).unread 1 herr))
    have us := unread_sim 1 rb.1 e.congr
    rw [attrValUnquotedGo, dif_neg (rb.1.noErr herr), if_neg (by rw [rb.2]; exact hws), if_pos (by rw [rb.2]; exact hgt)]
    exact ⟨us.pvE _ _, us.rawE⟩
  case case5 herr hws hgt ih =>
    have rb := readByte_sim c (e.back (Reach.refl _).attrValUnquotedGo)
    rw [attrValUnquotedGo, dif_neg (rb.1.noErr herr), if_neg (by rw [rb.2]; exact hws), if_neg (by rw [rb.2]; exact hgt)]
    exact ih _ rb.1 e

theorem skipWhiteSpace_pv {p : Nat} {t u : Tokenizer} (hs : t.pvS = p + u.pvS) (hE : t.pvE = p + u.pvE) :
    t.skipWhiteSpace.pvS = p + u.skipWhiteSpace.pvS ∧ t.skipWhiteSpace.pvE = p + u.skipWhiteSpace.pvE := by
  obtain ⟨-, -, -, -, -, -, ts, te⟩ := skipWhiteSpace_frame t
  obtain ⟨-, -, -, -, -, -, us, ue⟩ := skipWhiteSpace_frame u
  exact ⟨by rw [ts, us]; exact hs, by rw [te, ue]; exact hE⟩

/-- the common head of `attrValGo` and `attrValRest`: skip white space, read a byte `b`, go on with `k · b` -/
def wsThen (k : Tokenizer → Nat → Tokenizer) (t : Tokenizer) : Tokenizer :=
  if t.skipWhiteSpace.err then t.skipWhiteSpace
  else if t.skipWhiteSpace.readByte.1.err then t.skipWhiteSpace.readByte.1
  else k t.skipWhiteSpace.readByte.1 t.skipWhiteSpace.readByte.2

theorem attrValGo_eq (t : Tokenizer) :
    attrValGo t = wsThen (fun q b => if b != 61 then q.unread 1 else attrValRest q) t := rfl

theorem attrValRest_eq (t : Tokenizer) : attrValRest t = wsThen (fun q b =>
    if b == 62 then q.unread 1
    else if b == 39 || b == 34 then attrValQuotedGo { q with pvS := q.rawE } b
    else if q.rawE = 0 then { q with panic := true }
    else attrValUnquotedGo { q with pvS := q.rawE - 1 }) t := rfl

/-- `wsThen k` is simulated if `k` is, on states right after a successful read and for the same byte; `rk` says that
`k` only moves (so that `Clean` of its result goes back to the read). -/
theorem wsThen_sim {F : Prop} {p : Nat} {k : Tokenizer → Nat → Tokenizer} (t u : Tokenizer) (cv : CoreV F p t u)
    (rk : ∀ x b, ¬ x.err = true → Reach x (k x b))
    (hk : ∀ x y : Tokenizer, CoreV F p x.readByte.1 y.readByte.1 → ¬ y.readByte.1.err = true →
      Clean F (k y.readByte.1 y.readByte.2) →
      CoreV F p (k x.readByte.1 y.readByte.2) (k y.readByte.1 y.readByte.2))
    (e : Clean F (wsThen k u)) : CoreV F p (wsThen k t) (wsThen k u) := by
  obtain ⟨c, hs, hE⟩ := cv
  have sk := skipWhiteSpace_sim t u c
  obtain ⟨hs2, hE2⟩ := skipWhiteSpace_pv hs hE
  unfold wsThen at e ⊢
  generalize t.skipWhiteSpace = t1 at *
  generalize u.skipWhiteSpace = u1 at *
  have hs3 : t1.readByte.1.pvS = p + u1.readByte.1.pvS := by rw [readByte_pvS, readByte_pvS]; exact hs2
  have hE3 : t1.readByte.1.pvE = p + u1.readByte.1.pvE := by rw [readByte_pvE, readByte_pvE]; exact hE2
  by_cases h1 : u1.err = true
  · rw [if_pos h1] at e ⊢
    rw [if_pos ((sk e).isErr h1)]
    exact ⟨sk e, hs2, hE2⟩
  · rw [if_neg h1] at e ⊢
    by_cases h2 : u1.readByte.1.err = true
    · rw [if_pos h2] at e ⊢
      have s := sk (e.back (Reach.refl _).readByte)
      have rb := readByte_sim s e
      rw [if_neg (s.noErr h1), if_pos (rb.1.isErr h2)]
      exact ⟨rb.1, hs3, hE3⟩
    · rw [if_neg h2] at e ⊢
      have e2 := e.back (rk _ _ h2)
      have s := sk (e2.back (Reach.refl _).readByte)
      have rb := readByte_sim s e2
      rw [if_neg (s.noErr h1), if_neg (rb.1.noErr h2), rb.2]
      exact hk _ _ ⟨rb.1, hs3, hE3⟩ h2 e

theorem attrValRest_sim {F : Prop} {p : Nat} (t u : Tokenizer) (cv : CoreV F p t u)
    (e : Clean F (attrValRest u)) : CoreV F p (attrValRest t) (attrValRest u) := by
  rw [attrValRest_eq] at e ⊢
  rw [attrValRest_eq]
  refine wsThen_sim t u cv (fun x b hn => ?_) (fun x y cv hn e => ?_) e
  · split
    · exact (Reach.refl _).unread 1 hn
    · split
      · refine .attrValQuotedGo ?_ _
        exact (Reach.refl x).congr rfl
      · split
        · exact (Reach.refl _).panicked
        · refine .attrValUnquotedGo ?_
          exact (Reach.refl x).congr rfl
  · obtain ⟨c, hs, hE⟩ := cv
    have hp := readByte_pos hn
    have hr := c.rawE
    by_cases h3 : (y.readByte.2 == 62) = true
    · rw [if_pos h3] at e; rw [if_pos h3, if_pos h3]
      exact ⟨unread_sim 1 c e, by rw [unread_pvS, unread_pvS]; exact hs, by rw [unread_pvE, unread_pvE]; exact hE⟩
    · rw [if_neg h3] at e; rw [if_neg h3, if_neg h3]
      by_cases h4 : (y.readByte.2 == 39 || y.readByte.2 == 34) = true
      · rw [if_pos h4] at e; rw [if_pos h4, if_pos h4]
        have g := attrValQuotedGo_sim _ _ _ (c.pvS x.readByte.1.rawE y.readByte.1.rawE) e
        refine ⟨g.1, ?_, g.2⟩
        rw [attrValQuotedGo_pvS, attrValQuotedGo_pvS]
        exact hr
      · rw [if_neg h4, if_neg (Nat.pos_iff_ne_zero.mp hp)] at e
        rw [if_neg h4, if_neg h4, if_neg (Nat.pos_iff_ne_zero.mp hp), if_neg (by omega)]
        have g := attrValUnquotedGo_sim _ _ (c.pvS (x.readByte.1.rawE - 1) (y.readByte.1.rawE - 1)) e
        refine ⟨g.1, ?_, g.2⟩
        rw [attrValUnquotedGo_pvS, attrValUnquotedGo_pvS]
        exact c.rawE_pred hp

theorem attrValGo_sim {F : Prop} {p : Nat} (t u : Tokenizer) (cv : CoreV F p t u)
    (e : Clean F (attrValGo u)) : CoreV F p (attrValGo t) (attrValGo u) := by
  rw [attrValGo_eq] at e ⊢
  rw [attrValGo_eq]
  refine wsThen_sim t u cv (fun x b hn => ?_) (fun x y cv hn e => ?_) e
  · split
    · exact (Reach.refl _).unread 1 hn
    · exact (Reach.refl _).attrValRest
  · by_cases h3 : (y.readByte.2 != 61) = true
    · rw [if_pos h3] at e; rw [if_pos h3, if_pos h3]
      exact ⟨unread_sim 1 cv.1 e, by rw [unread_pvS, unread_pvS]; exact cv.2.1, by rw [unread_pvE, unread_pvE]; exact cv.2.2⟩
    · rw [if_neg h3] at e; rw [if_neg h3, if_neg h3]
      exact attrValRest_sim _ _ cv e

theorem readTagAttrVal_sim {F : Prop} {p : Nat} (t u : Tokenizer) (c : Core F p t u)
    (e : Clean F (readTagAttrVal u)) : CoreV F p (readTagAttrVal t) (readTagAttrVal u) :=
  attrValGo_sim { t with pvS := t.rawE, pvE := t.rawE } { u with pvS := u.rawE, pvE := u.rawE }
    ⟨c.congr rfl rfl, c.rawE, c.rawE⟩ e

theorem readAttr_sim {F : Prop} {p : Nat} (t u : Tokenizer) (save : Bool) (c : Core F p t u)
    (e : Clean F (readAttr u save)) (sv : Sav p t u) :
    Core F p (readAttr t save) (readAttr u save) ∧ Sav p (readAttr t save) (readAttr u save) := by
  have ev : Clean F u.readTagAttrKey.readTagAttrVal := e.back (Reach.refl _).readAttr_of_val
  have k := readTagAttrKey_sim _ _ c (ev.back (Reach.refl _).readTagAttrVal)
  have v := readTagAttrVal_sim _ _ k.1 ev
  have kt := readTagAttrKey_keep t
  have ku := readTagAttrKey_keep u
  have vt := readTagAttrVal_valF t.readTagAttrKey
  have vu := readTagAttrVal_valF u.readTagAttrKey
  simp only [valF, Prod.mk.injEq] at vt vu
  unfold readAttr at e ⊢
  simp only at e ⊢
  generalize t.readTagAttrKey.readTagAttrVal = t2 at *
  generalize u.readTagAttrKey.readTagAttrVal = u2 at *
  obtain ⟨-, -, ta, tn, tks, tke⟩ := vt
  obtain ⟨-, -, ua, un, uks, uke⟩ := vu
  have sv2 : Sav p t2 u2 := sv.congr (ta.trans kt.1) (tn.trans kt.2) (ua.trans ku.1) (un.trans ku.2)
  have hks : t2.pkS = p + u2.pkS := by rw [tks, uks]; exact k.2.1
  have hke : t2.pkE = p + u2.pkE := by rw [tke, uke]; exact k.2.2
  -- an empty key is empty on both sides
  have hcond : (save && t2.pkS != t2.pkE) = (save && u2.pkS != u2.pkE) := by
    rw [hks, hke]
    cases save
    · rfl
    · have : (p + u2.pkS != p + u2.pkE) = (u2.pkS != u2.pkE) := by
        rw [Bool.eq_iff_iff]
        simp only [bne_iff_ne, ne_eq]
        omega
      rw [this]
  rw [hcond]
  by_cases hc : (save && u2.pkS != u2.pkE) = true
  · rw [if_pos hc] at e ⊢
    rw [if_pos hc]
    obtain ⟨-, -, fa, fn, -⟩ := skipWhiteSpace_frame t2.pushPending
    obtain ⟨-, -, ga, gn, -⟩ := skipWhiteSpace_frame u2.pushPending
    refine ⟨skipWhiteSpace_sim _ _ (v.1.congr rfl rfl) e, ?_, by rw [fn, gn]; exact sv2.n⟩
    rw [fa, ga]
    show t2.attrs.push ⟨t2.pkS, t2.pkE, t2.pvS, t2.pvE⟩ = (u2.attrs.push ⟨u2.pkS, u2.pkE, u2.pvS, u2.pvE⟩).map (AttrSpan.shift p)
    rw [Array.map_push, sv2.attrs, hks, hke, v.2.1, v.2.2]
    rfl
  · rw [if_neg hc] at e ⊢
    rw [if_neg hc]
    obtain ⟨-, -, fa, fn, -⟩ := skipWhiteSpace_frame t2
    obtain ⟨-, -, ga, gn, -⟩ := skipWhiteSpace_frame u2
    exact ⟨skipWhiteSpace_sim _ _ v.1 e, sv2.congr fa fn ga gn⟩

/-- the progress check of the attribute loop carries over from the window to the whole buffer -/
theorem progress_sim {F : Prop} {p : Nat} {t u t1 u1 : Tokenizer} (c : Core F p t u) (c1 : Core F p t1 u1)
    (ht : t1.buf = t.buf) (hu : u1.buf = u.buf) (h : u1.buf.size - u1.rawE < u.buf.size - u.rawE) :
    t1.buf.size - t1.rawE < t.buf.size - t.rawE := by
  have := c.size; have := c.rawE; have := c1.rawE
  rw [ht]; rw [hu] at h
  omega

/-- Induction along the run on the window `u`.  At every guard the side of the whole buffer takes the same branch: the byte
read is the same (`rb.2`), the error flags agree (`Core.err`), the progress check carries over by `progress_sim`; the branch
that sets `hang` is excluded by `Clean`.  (`sif`: Proofs/HtmlSim.lean.) -/
theorem tagAttrsGo_sim {F : Prop} {p : Nat} (t u : Tokenizer) (save : Bool) (c : Core F p t u)
    (e : Clean F (tagAttrsGo u save)) (sv : Sav p t u) :
    Core F p (tagAttrsGo t save) (tagAttrsGo u save) ∧ Sav p (tagAttrsGo t save) (tagAttrsGo u save) := by
  fun_induction tagAttrsGo u save generalizing t
  all_goals (try simp +zetaDelta only at *)
  case case1 h =>
    have rb := readByte_sim c e
    rw [tagAttrsGo.eq_1 t]
    sif [rb.1.err, rb.2, h]
    exact ⟨rb.1, sv.congr (readByte_attrs _) (readByte_nAttrRet _) (readByte_attrs _) (readByte_nAttrRet _)⟩
  case case2 u _ hne _ herr1 =>
    have herr : ¬ u.readByte.1.err = true := by intro h; simp [h] at hne
    have rb := readByte_sim c (e.back (((Reach.refl _).unread 1 herr).readAttr _))
    have ra := readAttr_sim _ _ save (unread_sim 1 rb.1 (e.back ((Reach.refl _).readAttr _))) e
      (sv.congr (by simp) (by simp) (by simp) (by simp))
    rw [tagAttrsGo.eq_1 t]
    sif [rb.1.err, rb.2, hne, ra.1.err, herr1]
    exact ra
  case case3 u _ hne _ herr1 hprog ih =>
    have herr : ¬ u.readByte.1.err = true := by intro h; simp [h] at hne
    have e1 : Clean F ((u.readByte.1.unread 1).readAttr save) := e.back ((Reach.refl _).tagAttrsGo _)
    have rb := readByte_sim c (e1.back (((Reach.refl _).unread 1 herr).readAttr _))
    have ra := readAttr_sim _ _ save (unread_sim 1 rb.1 (e1.back ((Reach.refl _).readAttr _))) e1
      (sv.congr (by simp) (by simp) (by simp) (by simp))
    have hprogT := progress_sim c ra.1 (((Reach.refl t).readByte.unread 1 (rb.1.noErr herr)).readAttr save).buf
      (((Reach.refl u).readByte.unread 1 herr).readAttr save).buf hprog
    rw [tagAttrsGo.eq_1 t]
    sif [rb.1.err, rb.2, hne, ra.1.err, herr1, hprogT]
    exact ih _ ra.1 e ra.2
  case case4 => cases e.hang

theorem readTag_sim {F : Prop} {p : Nat} (t u : Tokenizer) (save : Bool) (c : Core F p t u)
    (e : Clean F (readTag u save)) :
    Core F p (readTag t save) (readTag u save) ∧ Sav p (readTag t save) (readTag u save) := by
  have es : Clean F ({ u with attrs := #[], nAttrRet := 0 } : Tokenizer).readTagName.skipWhiteSpace :=
    e.back (Reach.refl _).readTag_of_name
  have n := readTagName_sim { t with attrs := #[], nAttrRet := 0 } { u with attrs := #[], nAttrRet := 0 }
    (c.congr rfl rfl) (es.back (Reach.refl _).skipWhiteSpace)
  have sk := skipWhiteSpace_sim _ _ n es
  -- both sides start from an empty attribute list
  have keep : ∀ x : Tokenizer,
      (({ x with attrs := #[], nAttrRet := 0 } : Tokenizer).readTagName.skipWhiteSpace).attrs = #[] ∧
      (({ x with attrs := #[], nAttrRet := 0 } : Tokenizer).readTagName.skipWhiteSpace).nAttrRet = 0 := by
    intro x
    obtain ⟨-, -, fa, fn, -⟩ := skipWhiteSpace_frame ({ x with attrs := #[], nAttrRet := 0 } : Tokenizer).readTagName
    rw [fa, fn]
    unfold readTagName
    split
    · exact ⟨rfl, rfl⟩
    · exact (tagNameGo_frame _).2
  have kt := keep t
  have ku := keep u
  unfold readTag at e ⊢
  simp only at e ⊢
  generalize ({ t with attrs := #[], nAttrRet := 0 } : Tokenizer).readTagName.skipWhiteSpace = t2 at *
  generalize ({ u with attrs := #[], nAttrRet := 0 } : Tokenizer).readTagName.skipWhiteSpace = u2 at *
  have sv2 : Sav p t2 u2 := ⟨by rw [kt.1, ku.1]; simp, by rw [kt.2, ku.2]⟩
  by_cases h2 : u2.err = true
  · rw [if_pos h2, if_pos (sk.isErr h2)]
    exact ⟨sk, sv2⟩
  · rw [if_neg h2] at e ⊢
    rw [if_neg (sk.noErr h2)]
    exact tagAttrsGo_sim _ _ save sk e sv2

/-- The three look-ups of `read_start_tag`'s raw-text detection: an answer on the window (`some _`; `none` is the index
panic) is the answer on the whole buffer. -/
theorem matchLower_sim {F : Prop} {p : Nat} {t u : Tokenizer} (c : Core F p t u) (s : List Nat) (q : Nat) {b : Bool}
    (h : matchLower u q s = some b) : matchLower t (p + q) s = some b := by
  induction s generalizing q with
  | nil => exact h
  | cons x xs ih =>
    unfold matchLower at h ⊢
    by_cases hq : q < u.buf.size
    · obtain ⟨h1, h2⟩ := c.window.getElem rfl hq
      rw [dif_pos hq] at h
      rw [dif_pos h1, h2]
      split
      · rename_i hx; rw [if_pos hx] at h; exact h
      · rename_i hx; rw [if_neg hx] at h; exact ih (q + 1) h
    · rw [dif_neg hq] at h; cases h

theorem startTagIn_sim {F : Prop} {p : Nat} {t u : Tokenizer} (c : Core F p t u) (ss : List (List Nat)) {b : Bool}
    (h : startTagIn u ss = some b) : startTagIn t ss = some b := by
  induction ss with
  | nil => exact h
  | cons s ss ih =>
    unfold startTagIn at h ⊢
    by_cases hd : u.dataE < u.dataS
    · rw [if_pos hd] at h; cases h
    · rw [if_neg hd] at h
      rw [if_neg (by rw [c.dataE, c.dataS]; omega),
        show t.dataE - t.dataS = u.dataE - u.dataS by rw [c.dataE, c.dataS]; omega]
      by_cases hl : (u.dataE - u.dataS != s.length) = true
      · rw [if_pos hl] at h ⊢; exact ih h
      · rw [if_neg hl] at h ⊢
        rw [c.dataS]
        cases hm : matchLower u u.dataS s with
        | none => rw [hm] at h; cases h
        | some m =>
          rw [hm] at h
          rw [matchLower_sim c s u.dataS hm]
          cases m
          · exact ih h
          · exact h

theorem rawLookup_sim {F : Prop} {p : Nat} {t u : Tokenizer} (c : Core F p t u) (first : Nat)
    (tbl : List (Nat × List (List Nat))) {b : Bool} (h : rawLookup u first tbl = some b) :
    rawLookup t first tbl = some b := by
  induction tbl with
  | nil => exact h
  | cons x tbl ih =>
    unfold rawLookup at h ⊢
    split
    · rename_i hx; rw [if_pos hx] at h; exact startTagIn_sim c _ h
    · rename_i hx; rw [if_neg hx] at h; exact ih h

theorem slice_window {p : Nat} {t u : Tokenizer} (w : Window p t.buf u.buf) (a b : Nat) {bs : List Nat}
    (h : u.slice? a b = some bs) : t.slice? (p + a) (p + b) = some bs := by
  unfold slice? at h ⊢
  have hs := w.size
  by_cases hab : a ≤ b ∧ b ≤ u.buf.size
  · rw [if_pos hab] at h
    rw [if_pos ⟨by omega, by omega⟩, ← h, w.extract a b hab.1 hab.2]
  · rw [if_neg hab] at h; cases h

theorem startTagRaw_sim {F : Prop} {p : Nat} (t u : Tokenizer) (c : Core F p t u) (e : Clean F (startTagRaw u)) :
    Core F p (startTagRaw t) (startTagRaw u) := by
  unfold startTagRaw at e ⊢
  by_cases hu : u.dataS < u.buf.size
  · obtain ⟨ht', hb'⟩ := c.window.getElem c.dataS hu
    rw [dif_pos hu] at e ⊢
    rw [dif_pos ht']
    simp only [hb'] at e ⊢
    cases hr : u.rawLookup (lowerByte u.buf[u.dataS]) htmlRawDispatch with
    | none => rw [hr] at e; cases e.panic
    | some r =>
      rw [rawLookup_sim c _ _ hr]
      cases r
      · exact c
      · rw [hr] at e
        simp only at e ⊢
        cases hsl : u.slice? u.dataS u.dataE with
        | none => rw [hsl] at e; cases e.panic
        | some bs =>
          have hslt : t.slice? t.dataS t.dataE = some bs := by rw [c.dataS, c.dataE]; exact slice_window c.window _ _ hsl
          rw [hslt]
          simp only
          by_cases hv : validUtf8 bs = true
          · rw [if_pos hv, if_pos hv]
            exact { c with rawTag := rfl }
          · rw [if_neg hv, if_neg hv]
            exact { c with utf8 := rfl }
  · rw [dif_neg hu] at e; cases e.panic

theorem startTagKind_sim {F : Prop} {p : Nat} (t u : Tokenizer) (c : Core F p t u) (h2 : 2 ≤ u.rawE)
    (hu : u.rawE - 2 < u.buf.size) : startTagKind t = startTagKind u := by
  unfold startTagKind
  obtain ⟨ht', hb'⟩ := c.window.getElem (show t.rawE - 2 = p + (u.rawE - 2) by rw [c.rawE]; omega) hu
  simp only [hu, ht', dite_true, hb', c.err]

theorem readStartTag_keep (t : Tokenizer) :
    (readStartTag t).1.attrs = (readTag t true).attrs ∧ (readStartTag t).1.nAttrRet = (readTag t true).nAttrRet := by
  have k : (startTagRaw (readTag t true)).attrs = (readTag t true).attrs ∧
      (startTagRaw (readTag t true)).nAttrRet = (readTag t true).nAttrRet := by
    obtain ⟨_, _, _, e, _⟩ := startTagRaw_writes (readTag t true)
    rw [e]
    exact ⟨rfl, rfl⟩
  unfold readStartTag
  simp only
  split
  · exact ⟨rfl, rfl⟩
  · split
    · exact k
    · split <;> exact k

/-- The conclusion is bracketed like `CoreTA` of Proofs/HtmlSimNext.lean, which `dispatchTag_sim` makes of it (the kind
returned becomes the token type). -/
theorem readStartTag_sim {F : Prop} {p : Nat} (t u : Tokenizer) (c : Core F p t u) (e : Clean F (readStartTag u).1) :
    (Core F p (readStartTag t).1 (readStartTag u).1 ∧ (readStartTag t).2 = (readStartTag u).2) ∧
    Sav p (readStartTag t).1 (readStartTag u).1 := by
  obtain ⟨r, rs⟩ := readTag_sim t u true c (e.back (Reach.refl _).readStartTag_of_tag)
  have kt := readStartTag_keep t
  have ku := readStartTag_keep u
  refine ⟨?_, rs.congr kt.1 kt.2 ku.1 ku.2⟩
  unfold readStartTag at e ⊢
  simp only at e ⊢
  generalize readTag t true = t1 at *
  generalize readTag u true = u1 at *
  by_cases h1 : u1.err = true
  · rw [if_pos h1, if_pos (r.isErr h1)]
    exact ⟨r, rfl⟩
  · rw [if_neg h1] at e ⊢
    rw [if_neg (r.noErr h1)]
    by_cases h3 : (u1.startTagRaw.panic || u1.startTagRaw.utf8Err) = true
    · rw [if_pos h3] at e ⊢
      have sr := startTagRaw_sim _ _ r e
      rw [if_pos (by rw [sr.panic, sr.utf8]; exact h3)]
      exact ⟨sr, rfl⟩
    · rw [if_neg h3] at e ⊢
      by_cases h4 : (decide (u1.startTagRaw.rawE < 2) || decide (u1.startTagRaw.buf.size ≤ u1.startTagRaw.rawE - 2)) = true
      · rw [if_pos h4] at e; cases e.panic
      · rw [if_neg h4] at e ⊢
        have sr := startTagRaw_sim _ _ r e
        simp only [Bool.or_eq_true, decide_eq_true_eq, not_or, Nat.not_lt, Nat.not_le] at h4
        have hsz := sr.size
        have hr := sr.rawE
        rw [if_neg (by rw [sr.panic, sr.utf8]; exact h3),
          if_neg (by simp only [Bool.or_eq_true, decide_eq_true_eq, not_or, Nat.not_lt, Nat.not_le]; omega)]
        exact ⟨sr, startTagKind_sim _ _ sr h4.1 h4.2⟩

end Tokenizer
end Rio.Html
