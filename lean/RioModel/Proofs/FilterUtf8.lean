/-
The UTF-8 prologue of `HtmlFilterBodyAction::filter` under concatenation: the valid part of `d ++ y` is the valid part
of `d` followed by the valid part of `pending(d) ++ y` (an incomplete trailing sequence is carried to the next call): `utf8Split_append_right`.
-/
import RioModel.Model.Filter
import RioModel.Proofs.UtilList

namespace Rio.Filter

/-- the validator over a byte string, from state `st`; `none` = invalid -/
def u8Run : U8St → Bytes → Option U8St
  | st, [] => some st
  | st, b :: bs =>
    match u8Step st b with
    | none => none
    | some st' => u8Run st' bs

theorem u8Run_append (st : U8St) (a b : Bytes) :
    u8Run st (a ++ b) = match u8Run st a with | none => none | some st' => u8Run st' b := by
  induction a generalizing st with
  | nil => rfl
  | cons x xs ih =>
    simp only [List.cons_append, u8Run]
    cases u8Step st x with
    | none => rfl
    | some st' => exact ih st'

/-- invariant of the reachable validator states: inside a sequence only bytes `≥ 128` are accepted, and `need = 0` only
as the initial state `{}` -/
def GoodSt (s : U8St) : Prop := 128 ≤ s.lo ∧ (s.need = 0 → s = {})

theorem goodSt_init : GoodSt {} := ⟨by decide, fun _ => rfl⟩

theorem u8Step_good {s s' : U8St} {b : Nat} (h : u8Step s b = some s') : GoodSt s' := by
  unfold u8Step at h
  -- (`split at h` on the whole cascade is very slow to check)
  by_cases h0 : s.need = 0
  · -- ASCII or one of the seven kinds of lead byte: `s'` is a constant state
    rw [if_pos h0] at h
    iterate 8 (rcases Rio.Util.ite_some_eq_some h with rfl | h; · exact ⟨by decide, by decide⟩)
    cases h
  · rw [if_neg h0] at h
    rcases Rio.Util.ite_some_eq_some h with rfl | h
    · exact ⟨Nat.le_refl _, fun h1 => by rw [show s.need - 1 = 0 from h1]⟩
    · cases h

theorem u8Run_good : ∀ (a : Bytes) (s s' : U8St), GoodSt s → u8Run s a = some s' → GoodSt s'
  | [], s, s', g, h => by simp only [u8Run] at h; injection h with h; subst h; exact g
  | b :: bs, s, s', g, h => by
    simp only [u8Run] at h
    cases hs : u8Step s b with
    | none => simp [hs] at h
    | some s1 =>
      simp only [hs] at h
      exact u8Run_good bs s1 s' (u8Step_good hs) h

/-- complete valid UTF-8 -/
def V (a : Bytes) : Prop := u8Run {} a = some {}

/-- `n` is the boundary `bd` known before, or the end of a nonempty complete prefix of `a` (scanned from `st` at `pos`) -/
def BdOf (st : U8St) (pos bd : Nat) (a : Bytes) (n : Nat) : Prop :=
  n = bd ∨ ∃ a1 a2, a1 ≠ [] ∧ a = a1 ++ a2 ∧ u8Run st a1 = some {} ∧ n = pos + a1.length

theorem BdOf.cons {st st' : U8St} {pos bd x n : Nat} {xs : Bytes} (hs : u8Step st x = some st')
    (h : BdOf st' (pos + 1) (if st'.need = 0 then pos + 1 else bd) xs n) : BdOf st pos bd (x :: xs) n := by
  have run1 : ∀ l, u8Run st (x :: l) = u8Run st' l := fun l => by rw [u8Run, hs]
  rcases h with h2 | ⟨a1, a2, -, e, hr, hb⟩
  · by_cases h0 : st'.need = 0
    · rw [if_pos h0] at h2
      cases (u8Step_good hs).2 h0
      exact Or.inr ⟨[x], xs, List.cons_ne_nil _ _, rfl, run1 [], h2⟩
    · rw [if_neg h0] at h2; exact Or.inl h2
  · exact Or.inr ⟨x :: a1, a2, List.cons_ne_nil _ _, congrArg _ e, (run1 a1).trans hr,
      hb.trans (Nat.add_right_comm pos 1 _)⟩

/-- the scan is the carry automaton plus book-keeping of the last boundary; every fact about `utf8Scan` / `utf8Split`
under concatenation is read off this -/
theorem utf8Go_append : ∀ (a b : Bytes) (st : U8St) (pos bd : Nat),
    ∃ bd', (a ≠ [] → u8Run st a = some {} → bd' = pos + a.length) ∧ BdOf st pos bd a bd' ∧
      utf8Go (a ++ b) st pos bd =
        match u8Run st a with
        | none => .invalid
        | some s => utf8Go b s (pos + a.length) bd'
  | [], b, st, pos, bd => ⟨bd, fun h => absurd rfl h, Or.inl rfl, rfl⟩
  | x :: xs, b, st, pos, bd => by
    rw [List.cons_append, utf8Go, u8Run]
    cases hs : u8Step st x with
    | none => exact ⟨bd, fun _ h => (by cases h), Or.inl rfl, rfl⟩
    | some st' =>
      obtain ⟨bd', h1, h2, h3⟩ := utf8Go_append xs b st' (pos + 1) (if st'.need = 0 then pos + 1 else bd)
      refine ⟨bd', fun _ hr => ?_, h2.cons hs, h3.trans (by rw [List.length_cons, Nat.add_right_comm pos 1, Nat.add_assoc])⟩
      cases xs with
      | nil =>
        cases Option.some.inj hr
        rcases h2 with h2 | ⟨a1, a2, n1, e, -⟩
        · exact h2
        · cases a1 with
          | nil => exact absurd rfl n1
          | cons _ _ => cases e
      | cons y ys => exact (h1 (List.cons_ne_nil _ _) hr).trans (Nat.add_right_comm pos 1 _)

theorem utf8Go_prefix (a rest : Bytes) (st : U8St) (pos bd : Nat) (ha : a ≠ []) (h : u8Run st a = some {}) :
    utf8Go (a ++ rest) st pos bd = utf8Go rest {} (pos + a.length) (pos + a.length) := by
  obtain ⟨bd', h1, -, h3⟩ := utf8Go_append a rest st pos bd
  rw [h3, h, h1 ha h]

theorem utf8Scan_cases (d : Bytes) :
    (u8Run {} d = none ∧ utf8Scan d = .invalid) ∨ (V d ∧ utf8Scan d = .ok) ∨
    (∃ s n, u8Run {} d = some s ∧ s.need ≠ 0 ∧ utf8Scan d = .incomplete n ∧ V (d.take n) ∧ n ≤ d.length) := by
  obtain ⟨n, -, hn, e⟩ := utf8Go_append d [] {} 0 0
  unfold utf8Scan
  rw [List.append_nil] at e
  rw [e]
  cases hr : u8Run {} d with
  | none => exact Or.inl ⟨rfl, rfl⟩
  | some s =>
    refine Or.inr ?_
    by_cases h0 : s.need = 0
    · cases (u8Run_good d {} s goodSt_init hr).2 h0
      exact Or.inl ⟨hr, rfl⟩
    · refine Or.inr ⟨s, n, rfl, h0, if_neg h0, ?_⟩
      rcases hn with rfl | ⟨a1, a2, -, rfl, hv, rfl⟩
      · exact ⟨rfl, Nat.zero_le _⟩
      · rw [Nat.zero_add, List.take_left, List.length_append]; exact ⟨hv, Nat.le_add_right _ _⟩

theorem utf8Split_spec {d a p : Bytes} (h : utf8Split d = some (a, p)) : u8Run {} a = some {} ∧ a ++ p = d := by
  unfold utf8Split at h
  rcases utf8Scan_cases d with ⟨-, e⟩ | ⟨hv, e⟩ | ⟨s, n, -, -, e, hv, -⟩ <;> rw [e] at h <;> cases h
  · exact ⟨hv, List.append_nil _⟩
  · exact ⟨hv, List.take_append_drop _ _⟩

theorem utf8Split_none_append {d : Bytes} (h : utf8Split d = none) (y : Bytes) : utf8Split (d ++ y) = none := by
  unfold utf8Split at h ⊢
  rcases utf8Scan_cases d with ⟨hr, -⟩ | ⟨-, e⟩ | ⟨s, n, -, -, e, -, -⟩
  · rcases utf8Scan_cases (d ++ y) with ⟨-, e⟩ | ⟨hv, -⟩ | ⟨s, n, hs, -, -, -, -⟩
    · rw [e]
    · rw [V, u8Run_append, hr] at hv; cases hv
    · rw [u8Run_append, hr] at hs; cases hs
  · rw [e] at h; cases h
  · rw [e] at h; cases h

def U8Res.shift (k : Nat) : U8Res → U8Res
  | .incomplete n => .incomplete (n + k)
  | r => r

theorem utf8Go_shift (k : Nat) : ∀ (bs : Bytes) (st : U8St) (pos bd : Nat),
    utf8Go bs st (pos + k) (bd + k) = (utf8Go bs st pos bd).shift k
  | [], st, pos, bd => by unfold utf8Go; split <;> rfl
  | b :: bs, st, pos, bd => by
    unfold utf8Go
    cases u8Step st b with
    | none => rfl
    | some st' =>
      have := utf8Go_shift k bs st' (pos + 1) (if st'.need = 0 then pos + 1 else bd)
      rw [apply_ite (· + k), Nat.add_right_comm pos 1 k] at this
      exact this

theorem utf8Split_prefix (c z : Bytes) (hc : u8Run {} c = some {}) :
    utf8Split (c ++ z) = (utf8Split z).map fun r => (c ++ r.1, r.2) := by
  by_cases hne : c = []
  · subst hne
    show utf8Split z = (utf8Split z).map fun r => ([] ++ r.1, r.2)
    cases utf8Split z <;> rfl
  · unfold utf8Split utf8Scan
    have := utf8Go_shift c.length z {} 0 0
    rw [utf8Go_prefix c z {} 0 0 hne hc, this]
    cases utf8Go z {} 0 0 with
    | ok => rfl
    | incomplete n =>
      show some (List.take (n + c.length) (c ++ z), List.drop (n + c.length) (c ++ z)) = _
      rw [Nat.add_comm, List.take_length_add_append, List.drop_length_add_append]; rfl
    | invalid => rfl

theorem utf8Split_append_right {d a p : Bytes} (h : utf8Split d = some (a, p)) (y : Bytes) :
    utf8Split (d ++ y) = (utf8Split (p ++ y)).map fun r => (a ++ r.1, r.2) := by
  obtain ⟨h1, h2⟩ := utf8Split_spec h
  rw [← h2, List.append_assoc]
  exact utf8Split_prefix a (p ++ y) h1

theorem V_nil : V [] := rfl

theorem V_append {a b : Bytes} (ha : V a) (hb : V b) : V (a ++ b) := by
  unfold V at *
  rw [u8Run_append, ha]
  exact hb

theorem V_of_append_left {a b : Bytes} (hab : V (a ++ b)) (ha : V a) : V b := by
  unfold V at *
  rw [u8Run_append, ha] at hab
  exact hab

theorem V_utf8Split {d a p : Bytes} (h : utf8Split d = some (a, p)) : V a := (utf8Split_spec h).1

theorem utf8Split_of_V {d : Bytes} (h : V d) : utf8Split d = some (d, []) := by
  unfold utf8Split
  rcases utf8Scan_cases d with ⟨hr, -⟩ | ⟨-, e⟩ | ⟨s, n, hs, h0, -⟩
  · rw [show u8Run {} d = some {} from h] at hr; cases hr
  · rw [e]
  · rw [show u8Run {} d = some {} from h] at hs; cases hs; exact absurd rfl h0

end Rio.Filter
