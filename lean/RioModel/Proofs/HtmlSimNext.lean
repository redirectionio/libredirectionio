/-
Stream laws of the tokenizer model: the simulation for `next` (`next_simA`: from `Pre` before the call to `CoreTA`, that
is `Core`, the token type and a tag token's attribute list, after it), and its two instances: PREFIX STABILITY
(`nexts_prefix_stable`) and RESTART (`nexts_restart`, outside a raw-text context; in one: HtmlContext).  `F` ("full"): the
window reaches the end of `t`'s buffer (HtmlSim).  The two instances and their `…A` forms are stated for themselves; the
files that build on this one go through `next_sim` / `nexts_simA` with `pre_extend`, `pre_restart` or a `Pre` of their own.
-/
import RioModel.Proofs.HtmlSimTag

namespace Rio.Html
namespace Tokenizer
open Rio.Consts

/-- `Core` plus the token type (set by every path of `next`) -/
def CoreT (F : Prop) (p : Nat) (t u : Tokenizer) : Prop := Core F p t u ∧ t.token = u.token

/-- `CoreT` plus, for a tag token, the attribute list (rebuilt by `read_tag`) -/
def CoreTA (F : Prop) (p : Nat) (t u : Tokenizer) : Prop :=
  CoreT F p t u ∧ (isTagLike u.token = true → Sav p t u)

theorem CoreT.toA {F : Prop} {p : Nat} {t u : Tokenizer} (c : CoreT F p t u) (h : isTagLike u.token = false) :
    CoreTA F p t u := ⟨c, fun h' => by rw [h] at h'; cases h'⟩

theorem Core.token {F : Prop} {p : Nat} {t u : Tokenizer} (c : Core F p t u) (a b : TokenType) :
    Core F p { t with token := a } { u with token := b } := c.congr rfl rfl

theorem finishText_sim {F : Prop} {p : Nat} (t u : Tokenizer) (c : Core F p t u) :
    CoreTA F p (finishText t) (finishText u) := by
  unfold finishText
  have hc : (t.rawS < t.rawE) ↔ (u.rawS < u.rawE) := by rw [c.rawS, c.rawE]; omega
  by_cases h : u.rawS < u.rawE
  · sif [h, hc.mpr h]
    exact CoreT.toA ⟨c.dataE_rawE.token _ _, rfl⟩ rfl
  · have h' : ¬ t.rawS < t.rawE := fun x => h (hc.mp x)
    sif [h, h']
    exact CoreT.toA ⟨c.token _ _, rfl⟩ rfl

/-- The two guards in front (fewer than the two bytes `<x` read; pending text to flush) compare positions, which move
with the window. -/
theorem dispatchTag_sim {F : Prop} {p : Nat} (t u : Tokenizer) (b : Nat) (c : Core F p t u)
    (e : Clean F (dispatchTag u b)) : CoreTA F p (dispatchTag t b) (dispatchTag u b) := by
  have hrE := c.rawE
  have hrS := c.rawS
  -- `raw.end - 2` would underflow
  by_cases h2 : u.rawE < htmlTagOpenLen
  · rw [dispatchTag, if_pos h2] at e; cases e.panic
  have h2t : ¬ t.rawE < htmlTagOpenLen := by simp only [htmlTagOpenLen] at h2 ⊢; omega
  by_cases hx : u.rawS < u.rawE - htmlTagOpenLen
  · have hx2 : t.rawE - htmlTagOpenLen = p + (u.rawE - htmlTagOpenLen) := by simp only [htmlTagOpenLen] at h2 ⊢; omega
    rw [dispatchTag, if_neg h2t, if_pos (by rw [hx2, hrS]; omega), dispatchTag, if_neg h2, if_pos hx]
    exact CoreT.toA ⟨{ c with rawE := hx2, dataE := hx2 }, rfl⟩ rfl
  have hxt : ¬ t.rawS < t.rawE - htmlTagOpenLen := by simp only [htmlTagOpenLen] at h2 hx ⊢; omega
  revert e
  fun_cases dispatchTag u b <;> intro e
  case case1 | case2 => contradiction
  case case3 ha _ _ =>
    obtain ⟨s, sv⟩ := readStartTag_sim t u c e.congr
    rw [dispatchTag, if_neg h2t, if_neg hxt, if_pos ha]
    exact ⟨⟨s.1.token _ _, s.2⟩, fun _ => sv.congr rfl rfl rfl rfl⟩
  case case4 ha hs _ he =>
    have rb := readByte_sim c (e.back (Reach.refl _).finishText)
    rw [dispatchTag, if_neg h2t, if_neg hxt, if_neg ha, if_pos hs, if_pos (rb.1.isErr he)]
    exact finishText_sim _ _ rb.1
  case case5 ha hs _ he hg _ =>
    have rb := readByte_sim c e.congr
    rw [dispatchTag, if_neg h2t, if_neg hxt, if_neg ha, if_pos hs, if_neg (rb.1.noErr he), if_pos (by rw [rb.2]; exact hg)]
    exact CoreT.toA ⟨rb.1.token _ _, rfl⟩ rfl
  case case6 ha hs _ he hg hal _ h6 =>
    have et : Clean F (u.readByte.1.readTag false) := e.congr
    have rb := readByte_sim c (et.back ((Reach.refl _).readTag false))
    obtain ⟨r, _⟩ := readTag_sim _ _ false rb.1 et
    rw [dispatchTag, if_neg h2t, if_neg hxt, if_neg ha, if_pos hs, if_neg (rb.1.noErr he),
      if_neg (by rw [rb.2]; exact hg), if_pos (by rw [rb.2]; exact hal), if_pos (r.isErr h6)]
    exact CoreT.toA ⟨r.token _ _, rfl⟩ rfl
  case case7 ha hs _ he hg hal _ h6 =>
    have et : Clean F (u.readByte.1.readTag false) := e.congr
    have rb := readByte_sim c (et.back ((Reach.refl _).readTag false))
    obtain ⟨r, sv⟩ := readTag_sim _ _ false rb.1 et
    rw [dispatchTag, if_neg h2t, if_neg hxt, if_neg ha, if_pos hs, if_neg (rb.1.noErr he),
      if_neg (by rw [rb.2]; exact hg), if_pos (by rw [rb.2]; exact hal), if_neg (r.noErr h6)]
    exact ⟨⟨r.token _ _, rfl⟩, fun _ => sv.congr rfl rfl rfl rfl⟩
  case case8 ha hs _ he hg hal _ =>
    have ec : Clean F (u.readByte.1.unread 1).readUntilCloseAngle := e.congr
    have rb := readByte_sim c (ec.back ((Reach.refl _).unread 1 he).readUntilCloseAngle)
    have r := readUntilCloseAngle_sim _ _ (unread_sim 1 rb.1 (ec.back (Reach.refl _).readUntilCloseAngle)) ec
    rw [dispatchTag, if_neg h2t, if_neg hxt, if_neg ha, if_pos hs, if_neg (rb.1.noErr he),
      if_neg (by rw [rb.2]; exact hg), if_neg (by rw [rb.2]; exact hal)]
    exact CoreT.toA ⟨r.token _ _, rfl⟩ rfl
  case case9 ha hs hb _ _ =>
    have m := readMarkupDeclaration_sim t u c e.congr
    rw [dispatchTag, if_neg h2t, if_neg hxt, if_neg ha, if_neg hs, if_pos hb]
    exact CoreT.toA ⟨m.1.token _ _, m.2⟩ (markup_kind u).1
  case case10 ha hs hb _ =>
    have ec : Clean F (u.unread 1).readUntilCloseAngle := e.congr
    have r := readUntilCloseAngle_sim _ _ (unread_sim 1 c (ec.back (Reach.refl _).readUntilCloseAngle)) ec
    rw [dispatchTag, if_neg h2t, if_neg hxt, if_neg ha, if_neg hs, if_neg hb]
    exact CoreT.toA ⟨r.token _ _, rfl⟩ rfl

/-- What `next` needs of two states to behave alike: `Core` without the span fields other than `raw.end`, which `next`
overwrites. -/
structure Pre (F : Prop) (p : Nat) (t u : Tokenizer) : Prop where
  size : p + u.buf.size ≤ t.buf.size
  agree : ∀ i, i < u.buf.size → t.buf[p + i]? = u.buf[i]?
  full : F → p + u.buf.size = t.buf.size
  rawE : t.rawE = p + u.rawE
  err : t.err = u.err
  rawTag : t.rawTag = u.rawTag
  cdata : t.allowCdata = u.allowCdata
  panic : t.panic = u.panic
  hang : t.hang = u.hang
  utf8 : t.utf8Err = u.utf8Err

theorem Core.toPre {F : Prop} {p : Nat} {t u : Tokenizer} (c : Core F p t u) : Pre F p t u :=
  { c with }

/-- `MainStop` for the `'main` loops of two related states, `r` and `r'` being their results: both stop at the end of the
data, or behind the same `<` (followed by which bytes, `MainStop` says; `dispatchTag_sim` does not ask). -/
def PairStop (p : Nat) (t v r r' : Tokenizer) : Prop :=
  (r = finishText { t with rawE := t.buf.size, err := true } ∧
    r' = finishText { v with rawE := v.buf.size, err := true }) ∨
  ∃ q ch, v.rawE ≤ q ∧ q + 2 ≤ v.buf.size ∧ r = dispatchTag { t with rawE := p + q + 2 } ch ∧
    r' = dispatchTag { v with rawE := q + 2 } ch

theorem PairStop.pred {p : Nat} {t v r r' : Tokenizer}
    (h : PairStop p { t with rawE := t.rawE + 1 } { v with rawE := v.rawE + 1 } r r') : PairStop p t v r r' := by
  rcases h with h | ⟨q, ch, h1, h2⟩
  · exact Or.inl h
  · exact Or.inr ⟨q, ch, Nat.le_of_succ_le h1, h2⟩

theorem Pre.succ {F : Prop} {p : Nat} {t v : Tokenizer} (c : Pre F p t v) :
    Pre F p { t with rawE := t.rawE + 1 } { v with rawE := v.rawE + 1 } :=
  { c with rawE := by show t.rawE + 1 = p + (v.rawE + 1); rw [c.rawE, Nat.add_assoc] }

/-- one induction along the bytes for both loops; at EOF of the window, `e` says that the window is full.  Stated with
`Pre` and `EO` rather than `Core` and `Clean` (up to its stop the loop touches `raw.end` and `err` only):
HtmlTokRestart calls it on a `Pre` whose two sides have different `raw.start`. -/
theorem mainLoop_pairF {F : Prop} {p : Nat} (t v : Tokenizer) (c : Pre F p t v) (he : v.err = false)
    (hle : v.rawE ≤ v.buf.size) (e : EO F (mainLoop v)) : PairStop p t v (mainLoop t) (mainLoop v) := by
  generalize hn : v.buf.size - v.rawE = n
  induction n generalizing t v with
  | zero =>
    have ev : v.rawE = v.buf.size := by omega
    rw [mainLoop_at_eof (t := v) (by omega)] at e ⊢
    have hf := c.full (e.resolve_right (by simp))
    have et : t.rawE = t.buf.size := by have := c.rawE; omega
    exact Or.inl ⟨by rw [mainLoop_at_eof (by omega), ← et], by rw [← ev]⟩
  | succ n ih =>
    have hlt : v.rawE < v.buf.size := by omega
    have hbv := Array.getElem?_eq_getElem hlt
    have hbt : t.buf[t.rawE]? = some v.buf[v.rawE] := by rw [c.rawE, c.agree _ hlt]; exact hbv
    have het : t.err = false := c.err.trans he
    have hrE := c.rawE
    have next := fun e' => (ih { t with rawE := t.rawE + 1 } { v with rawE := v.rawE + 1 } (Pre.succ c) he hlt e'
      (by show v.buf.size - (v.rawE + 1) = n; omega)).pred
    by_cases h60 : v.buf[v.rawE] = 60
    · rw [h60] at hbv hbt
      by_cases h2 : v.rawE + 1 < v.buf.size
      · have hcv := Array.getElem?_eq_getElem h2
        have hct : t.buf[t.rawE + 1]? = some v.buf[v.rawE + 1] := by
          rw [hrE, Nat.add_assoc, c.agree _ h2]; exact hcv
        rw [mainLoop_at_lt he hbv hcv] at e ⊢
        rw [mainLoop_at_lt het hbt hct]
        by_cases ho : opens v.buf[v.rawE + 1] = true
        · rw [if_pos ho, if_pos ho]
          exact Or.inr ⟨v.rawE, _, Nat.le_refl _, h2, by rw [hrE], rfl⟩
        · rw [if_neg ho] at e ⊢
          rw [if_neg ho]
          exact next e
      · rw [mainLoop_at_lt_eof he hbv h2] at e ⊢
        have hf := c.full (e.resolve_right (by simp))
        rw [mainLoop_at_lt_eof het hbt (by omega)]
        exact Or.inl ⟨by rw [show t.rawE + 1 = t.buf.size by omega], by rw [show v.rawE + 1 = v.buf.size by omega]⟩
    · rw [mainLoop_at_text he hbv h60] at e ⊢
      rw [mainLoop_at_text het hbt h60]
      exact next e

theorem mainLoop_sim {F : Prop} {p : Nat} (t u : Tokenizer) (c : Core F p t u)
    (e : Clean F (mainLoop u)) : CoreTA F p (mainLoop t) (mainLoop u) := by
  by_cases he : u.err = true
  · rw [mainLoop_of_err he] at e ⊢
    rw [mainLoop_of_err (c.err.trans he)]
    exact finishText_sim _ _ (readByte_sim c (e.back (Reach.refl _).finishText)).1
  by_cases hlt : u.rawE < u.buf.size
  · rcases mainLoop_pairF t u c.toPre (Bool.eq_false_iff.mpr he) (Nat.le_of_lt hlt) e.eof with
      ⟨h1, h2⟩ | ⟨q, ch, _, _, h1, h2⟩
    · rw [h1, h2]
      rw [h2] at e
      have hf := c.full (e.eof.resolve_right (by simp))
      exact finishText_sim _ _ { c with rawE := hf.symm, err := rfl }
    · rw [h1, h2]
      rw [h2] at e
      exact dispatchTag_sim _ _ ch { c with rawE := Nat.add_assoc p q 2 } e
  · rw [mainLoop_at_eof hlt] at e ⊢
    have hf := c.full (e.eof.resolve_right (by simp))
    rw [mainLoop_at_eof (by have := c.rawE; omega)]
    exact finishText_sim _ _ { c with err := rfl }

theorem readRawOrCdata_err (t : Tokenizer) (h : t.err = true) : (readRawOrCdata t).err = true :=
  (Reach.refl t).readRawOrCdata.err h

theorem readRawOrCdata_sim {F : Prop} {p : Nat} (t u : Tokenizer) (c : Core F p t u)
    (e : Clean F (readRawOrCdata u)) : Core F p (readRawOrCdata t) (readRawOrCdata u) := by
  unfold readRawOrCdata at e ⊢
  rw [c.rawTag]
  by_cases hs : (u.rawTag == htmlScript) = true
  · sif [hs] at e ⊢
    unfold readScript at e ⊢
    have g := scriptGo_sim .data t u c e.congr
    exact { g with dataE := g.rawE, rawTag := rfl }
  · sif [hs] at e ⊢
    have g := rawTextGo_sim t u c e.congr
    exact { g with dataE := g.rawE, rawTag := rfl }

theorem rawText_sim {F : Prop} {p : Nat} (t u : Tokenizer) (c : Core F p t u)
    (e : Clean F (rawText u)) : Core F p (rawText t) (rawText u) := by
  unfold rawText at e ⊢
  rw [c.rawTag]
  split
  · rename_i h2
    rw [if_pos h2] at e
    exact (readToEnd_sim t u c e.congr).dataE_rawE.congr rfl rfl
  · rename_i h2
    rw [if_neg h2] at e
    exact readRawOrCdata_sim t u c e

theorem nextGo_sim {F : Prop} {p : Nat} (t u : Tokenizer) (c : Core F p t u)
    (e : Clean F (nextGo u)) : CoreTA F p (nextGo t) (nextGo u) := by
  revert e
  fun_cases nextGo u <;> intro e
  case case1 h0 =>
    rw [nextGo_eq, if_pos (c.isErr h0)]
    exact CoreT.toA ⟨c.token _ _, rfl⟩ rfl
  case case2 h0 h1 _ h =>
    have r := rawText_sim t u c e.congr
    rw [nextGo_eq, if_neg (c.noErr h0), if_pos (c.rawTag ▸ h1),
      if_pos (by rw [r.dataE, r.dataS]; exact Nat.add_lt_add_left h p)]
    exact CoreT.toA ⟨r.congr rfl rfl, rfl⟩ rfl
  case case3 h0 _ h1 _ h =>
    have r := rawText_sim t u c (e.back (Reach.refl _).mainLoop).congr
    rw [nextGo_eq, if_neg (c.noErr h0), if_pos (c.rawTag ▸ h1),
      if_neg (by rw [r.dataE, r.dataS]; exact fun g => h (Nat.lt_of_add_lt_add_left g))]
    exact mainLoop_sim _ _ (r.congr rfl rfl) e
  case case4 h0 _ h1 =>
    rw [nextGo_eq, if_neg (c.noErr h0), if_neg (c.rawTag ▸ h1)]
    exact mainLoop_sim _ _ (c.congr rfl rfl) e

theorem next_simA {F : Prop} {p : Nat} (t u : Tokenizer) (c : Pre F p t u) (inv : Inv u) (e : EO F (next u)) :
    CoreTA F p (next t) (next u) := by
  have ok := (next_inv' u inv).ok
  have cl : Clean F (next u) := ⟨e, ok.panic, ok.hang⟩
  unfold next at cl ⊢
  exact nextGo_sim _ _ { c with rawS := c.rawE, dataS := c.rawE, dataE := c.rawE } cl

theorem next_sim {F : Prop} {p : Nat} (t u : Tokenizer) (c : Pre F p t u) (inv : Inv u) (e : EO F (next u)) :
    CoreT F p (next t) (next u) := (next_simA t u c inv e).1

theorem next_err_sticky (t : Tokenizer) (h : t.err = true) : (next t).err = true := (Reach.refl t).next.err h

theorem nexts_pre {F : Prop} {p : Nat} (n : Nat) (t u : Tokenizer) (c : Pre F p t u) (inv : Inv u)
    (e : EO F (nexts n u)) : Pre F p (nexts n t) (nexts n u) := by
  induction n with
  | zero => exact c
  | succ n ih => exact (next_sim _ _ (ih (e.back (next_err_sticky _))) (nexts_inv n u inv) e).1.toPre

theorem nexts_simA {F : Prop} {p : Nat} (n : Nat) (t u : Tokenizer) (c : Pre F p t u) (inv : Inv u)
    (e : EO F (nexts n u)) (hn : 0 < n) : CoreTA F p (nexts n t) (nexts n u) := by
  cases n with
  | zero => exact absurd hn (Nat.lt_irrefl _)
  | succ n => exact next_simA _ _ (nexts_pre n t u c inv (e.back (next_err_sticky _))) (nexts_inv n u inv) e

theorem Pre.window {F : Prop} {p : Nat} {t u : Tokenizer} (c : Pre F p t u) : Window p t.buf u.buf :=
  ⟨c.size, c.agree⟩

theorem Pre.extract {F : Prop} {p : Nat} {t u : Tokenizer} (c : Pre F p t u) (a b : Nat) (h1 : a ≤ b)
    (h2 : b ≤ u.buf.size) : (t.buf.extract (p + a) (p + b)).toList = (u.buf.extract a b).toList :=
  c.window.extract a b h1 h2

theorem CoreT.rawL {F : Prop} {p : Nat} {t u : Tokenizer} (c : CoreT F p t u) (inv : Inv u) : rawL t = rawL u := by
  unfold Tokenizer.rawL
  rw [c.1.rawS, c.1.rawE]
  exact c.1.window.extract _ _ inv.raw inv.ok.le

theorem CoreT.dataL {F : Prop} {p : Nat} {t u : Tokenizer} (c : CoreT F p t u) (inv : Inv u) (sp : Spans u) :
    dataL t = dataL u := by
  unfold Tokenizer.dataL
  rw [c.1.dataS, c.1.dataE]
  exact c.1.window.extract _ _ sp.dataLo (Nat.le_trans sp.dataHi inv.ok.le)

/-- the state `u` looking at a longer buffer -/
def extend (u : Tokenizer) (x : Array Nat) : Tokenizer := { u with buf := u.buf ++ x }

theorem pre_extend (u : Tokenizer) (x : Array Nat) : Pre False 0 (extend u x) u :=
  ⟨by simp [extend], by
    intro i hi
    simp only [extend, Nat.zero_add]
    rw [Array.getElem?_append_left hi], fun f => f.elim, by simp [extend], rfl, rfl, rfl, rfl, rfl, rfl⟩

/-- **PREFIX STABILITY**: if the first `n` calls of `next()` on a buffer never hit EOF (`err` still unset after the
`n`-th), then on any extension of the buffer the same `n` calls produce the same tokens: same type, same raw span,
same data span, same `raw_tag` / flags.  The look-ahead is exactly zero bytes: the condition is `err = false`, nothing
about the appended bytes.  (`hn` is not needed in this form: the spans of `extend u x` are those of `u`.  It is in
`nexts_restart`, where before the first call the spans of `t` are not those of the fresh state.) -/
theorem nexts_prefix_stable (n : Nat) (u : Tokenizer) (inv : Inv u) (x : Array Nat)
    (hne : (nexts n u).err = false) (hn : 0 < n) : CoreT False 0 (nexts n (extend u x)) (nexts n u) :=
  (nexts_simA n (extend u x) u (pre_extend u x) inv (Or.inr hne) hn).1

/-- the fresh tokenizer on the unread remainder of `t` -/
def restartOf (t : Tokenizer) : Tokenizer := Tokenizer.new (t.buf.extract t.rawE t.buf.size)

/-- Any state `u` on the unread suffix of `t`'s buffer, with `raw.end = 0` and the same flags and context, is
`Pre`-related to `t` at `p = t.rawE`, window full.  Instances: `pre_restart`, `pre_restart_ctx` (HtmlContext),
`next_text_pending` (HtmlTokRestart: behind a plain text `c`). -/
theorem Pre.ofSuffix {t u : Tokenizer} (hle : t.rawE ≤ t.buf.size) (hb : u.buf = t.buf.extract t.rawE t.buf.size)
    (hr : u.rawE = 0) (he : t.err = u.err) (htag : t.rawTag = u.rawTag) (hc : t.allowCdata = u.allowCdata)
    (hp : t.panic = u.panic) (hh : t.hang = u.hang) (hu : t.utf8Err = u.utf8Err) : Pre True t.rawE t u := by
  have hsz : u.buf.size = t.buf.size - t.rawE := by rw [hb]; simp
  refine ⟨by omega, ?_, fun _ => by omega, by rw [hr]; rfl, he, htag, hc, hp, hh, hu⟩
  intro i hi
  rw [hsz] at hi
  rw [hb, Array.getElem?_extract]
  have : i < min t.buf.size t.buf.size - t.rawE := by simpa using hi
  simp
  omega

theorem pre_restart (t : Tokenizer) (inv : Inv t) (herr : t.err = false) (htag : t.rawTag = [])
    (hcd : t.allowCdata = true) : Pre True t.rawE t (restartOf t) :=
  .ofSuffix inv.ok.le rfl rfl herr htag hcd inv.ok.panic inv.ok.hang inv.ok.utf8

theorem restartOf_inv (t : Tokenizer) : Inv (restartOf t) :=
  ⟨Nat.le_refl _, ⟨Nat.zero_le _, rfl, rfl, rfl⟩, TagOk_nil⟩

/-- **RESTART**: at a token boundary outside a raw-text context (`raw_tag = ""`, EOF not reached, CDATA allowed as in a
fresh tokenizer) the tokenizer continues exactly like a fresh `Tokenizer::new` on the unread bytes, all positions
shifted by `raw.end`, for every number of further calls. -/
theorem nexts_restart (n : Nat) (t : Tokenizer) (inv : Inv t) (herr : t.err = false) (htag : t.rawTag = [])
    (hcd : t.allowCdata = true) (hn : 0 < n) : CoreT True t.rawE (nexts n t) (nexts n (restartOf t)) :=
  (nexts_simA n t (restartOf t) (pre_restart t inv herr htag hcd) (restartOf_inv t) (Or.inl trivial) hn).1

/-- **PREFIX STABILITY, attributes included**: a tag token produced without hitting EOF has, on every extension of the
buffer, the same attribute spans and the same `number_attribute_returned` (so `tag_attr()` returns the same) -/
theorem nexts_prefix_stableA (n : Nat) (u : Tokenizer) (inv : Inv u) (x : Array Nat)
    (hne : (nexts n u).err = false) (hn : 0 < n) : CoreTA False 0 (nexts n (extend u x)) (nexts n u) :=
  nexts_simA n (extend u x) u (pre_extend u x) inv (Or.inr hne) hn

/-- **RESTART, attributes included**: the attribute spans of a tag token after a restart are those of the continued
tokenizer, shifted by the restart position -/
theorem nexts_restartA (n : Nat) (t : Tokenizer) (inv : Inv t) (herr : t.err = false) (htag : t.rawTag = [])
    (hcd : t.allowCdata = true) (hn : 0 < n) : CoreTA True t.rawE (nexts n t) (nexts n (restartOf t)) :=
  nexts_simA n t (restartOf t) (pre_restart t inv herr htag hcd) (restartOf_inv t) (Or.inl trivial) hn

theorem Pre.slice {F : Prop} {p : Nat} {t u : Tokenizer} (c : Pre F p t u) (a b : Nat) (h1 : a ≤ b)
    (h2 : b ≤ u.buf.size) : t.slice? (p + a) (p + b) = u.slice? a b := by
  have h : u.slice? a b = some (u.buf.extract a b).toList := by unfold slice?; rw [if_pos ⟨h1, h2⟩]
  rw [h, slice_window c.window a b h]

/-- `tag_attr()` on related states returns the same and keeps the attribute lists related: it reads the buffer only
through `slice?` of the saved span at `number_attribute_returned`, which lies inside the window (`AttrsOk u`) and moves
with it (`Pre.slice`); every exit behind the slicing moves the counter by one on both sides (`sv'`). -/
theorem tagAttr_sim {F : Prop} {p : Nat} {t u : Tokenizer} (c : Pre F p t u) (sv : Sav p t u) (ha : AttrsOk u)
    (htok : t.token = u.token) : (tagAttr t).1 = (tagAttr u).1 ∧ Sav p (tagAttr t).2 (tagAttr u).2 := by
  have hsz : t.attrs.size = u.attrs.size := by rw [sv.attrs]; simp
  unfold tagAttr
  rw [htok, sv.n]
  by_cases h : u.nAttrRet < u.attrs.size
  · have h' : u.nAttrRet < t.attrs.size := by rw [hsz]; exact h
    rw [dif_pos h, dif_pos h']
    by_cases hk : (u.token == .startTag || u.token == .selfClosing) = true
    · rw [if_pos hk, if_pos hk]
      have hel : t.attrs[u.nAttrRet]'h' = AttrSpan.shift p (u.attrs[u.nAttrRet]'h) := by
        have := sv.attrs
        simp only [this, Array.getElem_map]
      have hin := ha (u.attrs[u.nAttrRet]'h) (by simp)
      simp only [hel, AttrSpan.shift]
      rw [c.slice _ _ hin.1 hin.2.1, c.slice _ _ hin.2.2.1 hin.2.2.2]
      have sv' : ∀ (x y : Tokenizer), x.attrs = t.attrs → y.attrs = u.attrs → x.nAttrRet = u.nAttrRet + 1 →
          y.nAttrRet = u.nAttrRet + 1 → Sav p x y := by
        intro x y h1 h2 h3 h4
        exact ⟨by rw [h1, h2]; exact sv.attrs, by rw [h3, h4]⟩
      cases hs1 : u.slice? (u.attrs[u.nAttrRet]'h).ks (u.attrs[u.nAttrRet]'h).ke with
      | none => exact ⟨rfl, sv' _ _ rfl rfl (by simp) rfl⟩
      | some k =>
        simp only
        by_cases hv : (!validUtf8 k) = true
        · rw [if_pos hv, if_pos hv]; exact ⟨rfl, sv' _ _ rfl rfl (by simp) rfl⟩
        · rw [if_neg hv, if_neg hv]
          cases hs2 : u.slice? (u.attrs[u.nAttrRet]'h).vs (u.attrs[u.nAttrRet]'h).ve with
          | none => exact ⟨rfl, sv' _ _ rfl rfl (by simp) rfl⟩
          | some v =>
            simp only
            by_cases hv2 : (!validUtf8 v) = true
            · rw [if_pos hv2, if_pos hv2]; exact ⟨rfl, sv' _ _ rfl rfl (by simp) rfl⟩
            · rw [if_neg hv2, if_neg hv2]
              refine ⟨?_, sv' _ _ rfl rfl (by simp) rfl⟩
              simp only [hsz]
    · rw [if_neg hk, if_neg hk]; exact ⟨rfl, sv⟩
  · have h' : ¬ u.nAttrRet < t.attrs.size := by rw [hsz]; exact h
    rw [dif_neg h, dif_neg h']; exact ⟨rfl, sv⟩

end Tokenizer
end Rio.Html
