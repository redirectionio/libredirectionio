/-
The C19 / C07 theorems about `RedirectionLoop::compute` are projections of one post-condition (`Post`,
`compute_post`), proved from the loop invariant `Inv` by the case analysis of one turn of the loop (`body_cases`).
-/
import RioModel.Model.Loop
set_option linter.unusedSectionVars false

namespace Rio.Loop

variable {U M : Type} [DecidableEq U] [DecidableEq M]

theorem any_sameKey_iff (u : U) (m : M) (hs : List (Hop U M)) :
    hs.any (sameKey u m) = true ↔ (u, m) ∈ keys hs := by
  simp only [List.any_eq_true, keys, List.mem_map, sameKey, Bool.and_eq_true, beq_iff_eq, Prod.mk.injEq]

theorem keys_append (a b : List (Hop U M)) : keys (a ++ b) = keys a ++ keys b :=
  List.map_append

theorem nodup_keys_snoc (pre : List (Hop U M)) (l : Hop U M) :
    (keys (pre ++ [l])).Nodup ↔ (keys pre).Nodup ∧ (l.url, l.method) ∉ keys pre := by
  rw [keys_append]
  exact (List.perm_append_singleton (l.url, l.method) (keys pre)).nodup_iff.trans (List.nodup_cons.trans And.comm)

/-- One link of the chain of hops: `b` is what the turn of the loop started at `a` pushed.  The status of `a` is not
read: a turn is stated at `⟨st.url, 0, st.method⟩`, whatever status the last hop has (same proposition, by unfolding). -/
def Link (step : U → M → StepOut U) (get : M) (a b : Hop U M) : Prop :=
  step a.url a.method = .resp b.status (some b.url) ∧ isRedirect b.status = true ∧
    b.method = (if rewritesToGet b.status then get else a.method)

def Chained (step : U → M → StepOut U) (get : M) : List (Hop U M) → Prop
  | [] => True
  | [_] => True
  | a :: b :: rest => Link step get a b ∧ Chained step get (b :: rest)

theorem chained_snoc (step : U → M → StepOut U) (get : M) :
    ∀ (pre : List (Hop U M)) (a b : Hop U M),
      Chained step get (pre ++ [a]) → Link step get a b → Chained step get (pre ++ [a] ++ [b])
  | [], _, _, _, hl => And.intro hl trivial
  | [_], _, _, hc, hl => And.intro hc.1 (And.intro hl trivial)
  | _ :: y :: rest, a, b, hc, hl => And.intro hc.1 (chained_snoc step get (y :: rest) a b hc.2 hl)

/-- The last hop is the first hop pushed twice: its `(url, method)` occurs among the earlier hops. -/
def LastRepeats (hs : List (Hop U M)) : Prop :=
  ∃ pre l, hs = pre ++ [l] ∧ (l.url, l.method) ∈ keys pre

/-- Why a walk that reports no `Loop` / `TooManyHops` stopped at its last hop. -/
def Stuck (step : U → M → StepOut U) (ext : U → Bool) (hs : List (Hop U M)) : Prop :=
  ∃ pre l, hs = pre ++ [l] ∧
    ((pre ≠ [] ∧ ext l.url = true) ∨ step l.url l.method = .reqErr ∨
      (∃ s loc, step l.url l.method = .resp s loc ∧ (isRedirect s = false ∨ loc = none)))

variable (step : U → M → StepOut U) (ext : U → Bool) (get : M) (maxHops : Nat)

/-- Loop invariant at the start of the turn with counter `i` = the number of hops so far (`err`: the code sets
`AtLeastOneHop` in the turns with `i > 1`, i.e. from the third hop on). -/
structure Inv (i : Nat) (st : State U M) : Prop where
  len : st.hops.length = i
  last : ∃ pre s, st.hops = pre ++ [⟨st.url, s, st.method⟩]
  nodup : (keys st.hops).Nodup
  err : st.error = if 3 ≤ i then some Err.atLeastOneHop else none
  chain : Chained step get st.hops

structure Post (r : State U M) : Prop where
  len_pos : 1 ≤ r.hops.length
  bound : r.hops.length ≤ maxHops + 1
  chain : Chained step get r.hops
  prefix_nodup : (keys r.hops.dropLast).Nodup
  loop_iff : r.error = some Err.loop ↔ LastRepeats r.hops
  too_many_iff : r.error = some Err.tooManyHops ↔
    (1 ≤ maxHops ∧ r.hops.length = maxHops + 1 ∧ (keys r.hops).Nodup ∧
      ∃ pre l, r.hops = pre ++ [l] ∧ ext l.url = false)
  other : r.error ≠ some Err.loop → r.error ≠ some Err.tooManyHops →
    r.error = (if 3 ≤ r.hops.length then some Err.atLeastOneHop else none) ∧
      (r.hops.length ≤ maxHops → Stuck step ext r.hops)

theorem not_lastRepeats_of_nodup {hs : List (Hop U M)} (h : (keys hs).Nodup) : ¬ LastRepeats hs := by
  rintro ⟨pre, l, rfl, hm⟩
  exact ((nodup_keys_snoc pre l).1 h).2 hm

theorem dflt_ne (n : Nat) :
    (if 3 ≤ n then some Err.atLeastOneHop else none) ≠ some Err.loop ∧
      (if 3 ≤ n then some Err.atLeastOneHop else none) ≠ some Err.tooManyHops := by
  split <;> exact ⟨nofun, nofun⟩

/-- Post-condition when the loop stops on a state satisfying the invariant without pushing: in a turn
(`i ≤ max_hops`), because the router's answer for the current `(url, method)` does not lead on; or before the
first turn, because `max_hops = 0`. -/
theorem post_of_inv {i : Nat} {st : State U M} (h1 : 1 ≤ i) (hi : i ≤ max 1 maxHops) (inv : Inv step get i st)
    (stop : i ≤ maxHops → step st.url st.method = .reqErr ∨
      ∃ s loc, step st.url st.method = .resp s loc ∧ (isRedirect s = false ∨ loc = none)) :
    Post step ext get maxHops st := by
  obtain ⟨pre, s, hp⟩ := inv.last
  have hnd := inv.nodup
  refine ⟨by rw [inv.len]; exact h1, by rw [inv.len]; omega, inv.chain, ?_, ?_, ?_, ?_⟩
  · exact hnd.sublist ((List.dropLast_sublist _).map _)
  · rw [inv.err]
    exact ⟨fun h => absurd h (dflt_ne i).1, fun h => absurd h (not_lastRepeats_of_nodup hnd)⟩
  · rw [inv.err]
    exact ⟨fun h => absurd h (dflt_ne i).2, fun ⟨_, hl, _⟩ => by rw [inv.len] at hl; omega⟩
  · intro _ _
    rw [inv.len]
    exact ⟨inv.err, fun h => ⟨pre, _, hp, .inr (stop h)⟩⟩

/-- The ways one turn of the loop can end: it stops where it stands, it pushes a hop and stops (for one of three
reasons, which fix `error`), or it pushes a hop and goes on. -/
theorem body_cases (i : Nat) (st : State U M) :
    (body step ext get maxHops i st = (st, false) ∧
      (step st.url st.method = .reqErr ∨
        ∃ s loc, step st.url st.method = .resp s loc ∧ (isRedirect s = false ∨ loc = none))) ∨
    (∃ hop : Hop U M, Link step get ⟨st.url, 0, st.method⟩ hop ∧
      ((∃ err, body step ext get maxHops i st = (st.push hop err, false) ∧
          (((hop.url, hop.method) ∈ keys st.hops ∧ err = some Err.loop) ∨
           ((hop.url, hop.method) ∉ keys st.hops ∧
             ((ext hop.url = true ∧ err = if i > 1 then some Err.atLeastOneHop else st.error) ∨
              (ext hop.url = false ∧ maxHops ≤ i ∧ err = some Err.tooManyHops))))) ∨
       ((hop.url, hop.method) ∉ keys st.hops ∧ ext hop.url = false ∧ i < maxHops ∧
          body step ext get maxHops i st =
            (st.push hop (if i > 1 then some Err.atLeastOneHop else st.error), true)))) := by
  cases hs : step st.url st.method with
  | reqErr => exact .inl ⟨by simp [body, hs], .inl rfl⟩
  | resp status loc =>
    cases hred : isRedirect status with
    | false => exact .inl ⟨by simp [body, hs, hred], .inr ⟨status, loc, rfl, .inl hred⟩⟩
    | true =>
      cases loc with
      | none => exact .inl ⟨by simp [body, hs, hred], .inr ⟨status, none, rfl, .inr rfl⟩⟩
      | some newUrl =>
        refine .inr ⟨⟨newUrl, status, if rewritesToGet status then get else st.method⟩, ⟨hs, hred, rfl⟩, ?_⟩
        cases hany : st.hops.any (sameKey newUrl (if rewritesToGet status then get else st.method)) with
        | true => exact .inl ⟨_, by simp [body, hs, hred, hany], .inl ⟨(any_sameKey_iff _ _ _).1 hany, rfl⟩⟩
        | false =>
          have hnm : (newUrl, if rewritesToGet status then get else st.method) ∉ keys st.hops :=
            fun h => Bool.false_ne_true (hany ▸ (any_sameKey_iff _ _ _).2 h)
          cases hext : ext newUrl with
          | true => exact .inl ⟨_, by simp [body, hs, hred, hany, hext], .inr ⟨hnm, .inl ⟨rfl, rfl⟩⟩⟩
          | false =>
            by_cases hge : i ≥ maxHops
            · exact .inl ⟨_, by simp [body, hs, hred, hany, hext, hge], .inr ⟨hnm, .inr ⟨rfl, hge, rfl⟩⟩⟩
            · exact .inr ⟨hnm, rfl, by omega, by simp [body, hs, hred, hany, hext, hge]⟩

theorem chained_push {i : Nat} {st : State U M} (inv : Inv step get i st) (hop : Hop U M)
    (hl : Link step get ⟨st.url, 0, st.method⟩ hop) : Chained step get (st.hops ++ [hop]) := by
  obtain ⟨pre, s0, hlast⟩ := inv.last
  rw [hlast]
  exact chained_snoc step get pre _ hop (hlast ▸ inv.chain) hl

theorem nodup_push {i : Nat} {st : State U M} (inv : Inv step get i st) (hop : Hop U M)
    (hnm : (hop.url, hop.method) ∉ keys st.hops) : (keys (st.hops ++ [hop])).Nodup :=
  (nodup_keys_snoc _ _).2 ⟨inv.nodup, hnm⟩

/-- What `error` is after a turn that pushed a fresh hop without reporting `Loop` or `TooManyHops`. -/
theorem Inv.err_push {i : Nat} {st : State U M} (inv : Inv step get i st) :
    (if i > 1 then some Err.atLeastOneHop else st.error) = if 3 ≤ i + 1 then some Err.atLeastOneHop else none := by
  rw [inv.err]
  by_cases h : i > 1
  · rw [if_pos h, if_pos (by omega)]
  · rw [if_neg h, if_neg (by omega), if_neg (by omega)]

theorem inv_push {i : Nat} {st : State U M} (inv : Inv step get i st) (hop : Hop U M)
    (hl : Link step get ⟨st.url, 0, st.method⟩ hop) (hnm : (hop.url, hop.method) ∉ keys st.hops) :
    Inv step get (i + 1) (st.push hop (if 3 ≤ i + 1 then some Err.atLeastOneHop else none)) :=
  ⟨by simp [State.push, inv.len], ⟨st.hops, hop.status, rfl⟩, nodup_push step get inv hop hnm, rfl,
    chained_push step get inv hop hl⟩

/-- A turn that pushes `hop` and stops.  The three ways (`Loop`; target outside the project; limit reached) share
length, chain and distinctness of the earlier hops; they differ in the one fact that tells them apart afterwards:
the new key repeats, or it is fresh and `ext` says which. -/
theorem post_push {i : Nat} {st : State U M} (h1 : 1 ≤ i) (hi : i ≤ maxHops) (inv : Inv step get i st)
    (hop : Hop U M) (hl : Link step get ⟨st.url, 0, st.method⟩ hop) (err : Option Err)
    (h : ((hop.url, hop.method) ∈ keys st.hops ∧ err = some Err.loop) ∨
      ((hop.url, hop.method) ∉ keys st.hops ∧
        ((ext hop.url = true ∧ err = if 3 ≤ i + 1 then some Err.atLeastOneHop else none) ∨
         (ext hop.url = false ∧ maxHops ≤ i ∧ err = some Err.tooManyHops)))) :
    Post step ext get maxHops (st.push hop err) := by
  have hlen : (st.hops ++ [hop]).length = i + 1 := by rw [List.length_append, inv.len]; rfl
  have hne : st.hops ≠ [] := fun h0 => by have := inv.len; rw [h0] at this; exact absurd this (by simp; omega)
  have hrep : (hop.url, hop.method) ∈ keys st.hops → LastRepeats (st.hops ++ [hop]) := fun hm => ⟨_, _, rfl, hm⟩
  have hlast : ∀ {pre l}, st.hops ++ [hop] = pre ++ [l] → l = hop := fun e => (List.append_singleton_inj.mp e).2.symm
  have hdflt := dflt_ne (i + 1)
  refine ⟨by show 1 ≤ (st.hops ++ [hop]).length; omega, by show (st.hops ++ [hop]).length ≤ _; omega,
    chained_push step get inv hop hl, by simpa [State.push] using inv.nodup, ?_, ?_, ?_⟩ <;>
  rcases h with ⟨hm, rfl⟩ | ⟨hnm, ⟨he, rfl⟩ | ⟨he, hge, rfl⟩⟩
  -- `error = Loop` iff the last hop repeats
  · exact ⟨fun _ => hrep hm, fun _ => rfl⟩
  · exact ⟨fun h => absurd h hdflt.1, fun h => absurd h (not_lastRepeats_of_nodup (nodup_push step get inv hop hnm))⟩
  · exact ⟨nofun, fun h => absurd h (not_lastRepeats_of_nodup (nodup_push step get inv hop hnm))⟩
  -- `error = TooManyHops` iff the limit was reached on a fresh hop inside the project
  · exact ⟨nofun, fun ⟨_, _, hnd, _⟩ => absurd (hrep hm) (not_lastRepeats_of_nodup hnd)⟩
  · exact ⟨fun h => absurd h hdflt.2, fun ⟨_, _, _, pre, l, hpl, hel⟩ => by rw [hlast hpl, he] at hel; cases hel⟩
  · obtain rfl := Nat.le_antisymm hi hge
    exact ⟨fun _ => ⟨h1, hlen, nodup_push step get inv hop hnm, _, _, rfl, he⟩, fun _ => rfl⟩
  -- neither: only the stop outside the project
  · exact fun h => absurd rfl h
  · exact fun _ _ => ⟨by rw [show (st.push hop _).hops.length = i + 1 from hlen]; rfl,
      fun _ => ⟨_, _, rfl, .inl ⟨hne, he⟩⟩⟩
  · exact fun _ h => absurd rfl h

theorem body_post {i : Nat} {st : State U M} (h1 : 1 ≤ i) (hi : i ≤ maxHops) (inv : Inv step get i st) :
    (∃ st', body step ext get maxHops i st = (st', false) ∧ Post step ext get maxHops st') ∨
    (∃ st', body step ext get maxHops i st = (st', true) ∧ i < maxHops ∧ Inv step get (i + 1) st') := by
  have hc := body_cases step ext get maxHops i st
  rw [inv.err_push] at hc
  rcases hc with ⟨hb, hstop⟩ | ⟨hop, hl, ⟨err, hb, h⟩ | ⟨hnm, he, hlt, hb⟩⟩
  · exact Or.inl ⟨_, hb, post_of_inv step ext get maxHops h1 (Nat.le_trans hi (Nat.le_max_right ..)) inv fun _ => hstop⟩
  · exact Or.inl ⟨_, hb, post_push step ext get maxHops h1 hi inv hop hl err h⟩
  · exact Or.inr ⟨_, hb, hlt, inv_push step get inv hop hl hnm⟩

theorem init_inv (url : U) (method : M) : Inv step get 1 (init url method) :=
  ⟨rfl, ⟨[], 0, rfl⟩, by simp [init, keys], rfl, trivial⟩

/-- Exactly the values `i, …, max_hops` are left to run: the turn at the limit always stops.  (`i = max_hops + 1`,
no value left, is met only by `max_hops = 0`.) -/
theorem run_post : ∀ (n i : Nat) (st : State U M), 1 ≤ i → i ≤ max 1 maxHops → i + n = maxHops + 1 →
    Inv step get i st → Post step ext get maxHops (run step ext get maxHops i n st) := by
  intro n
  induction n with
  | zero => intro i st h1 hi hn inv; exact post_of_inv step ext get maxHops h1 hi inv fun h => by omega
  | succ n ih =>
    intro i st h1 hi hn inv
    rw [run]
    rcases body_post step ext get maxHops h1 (by omega) inv with ⟨st', hb, hp⟩ | ⟨st', hb, hlt, inv'⟩
    · rw [hb]; exact hp
    · rw [hb]; exact ih (i + 1) st' (Nat.le_add_left 1 i) (Nat.le_trans hlt (Nat.le_max_right ..)) (by omega) inv'

theorem compute_post (url : U) (method : M) :
    Post step ext get maxHops (compute step ext get maxHops url method) :=
  run_post step ext get maxHops maxHops 1 (init url method) (Nat.le_refl 1) (by omega) (by omega)
    (init_inv step get url method)

theorem runCount_spec (n i : Nat) (st : State U M) (c : Nat) :
    (runCount step ext get maxHops i n st c).1 = run step ext get maxHops i n st ∧
    (runCount step ext get maxHops i n st c).2 ≤ c + n := by
  fun_induction runCount step ext get maxHops i n st c with
  | case1 => exact ⟨rfl, Nat.le_refl _⟩
  | case2 i n st c st' hb ih => rw [run, hb]; exact ⟨ih.1, by omega⟩
  | case3 i n st c st' hb => rw [run, hb]; exact ⟨rfl, by omega⟩

theorem computeCount_spec (url : U) (method : M) :
    (computeCount step ext get maxHops url method).1 = compute step ext get maxHops url method ∧
    (computeCount step ext get maxHops url method).2 ≤ maxHops := by
  have h := runCount_spec step ext get maxHops maxHops 1 (init url method) 0
  exact ⟨h.1, by simpa [computeCount] using h.2⟩

theorem body_prefix (i : Nat) (st : State U M) :
    ∃ l, (body step ext get maxHops i st).1.hops = st.hops ++ l := by
  rcases body_cases step ext get maxHops i st with
    ⟨hb, _⟩ | ⟨hop, _, ⟨_, hb, _⟩ | ⟨_, _, _, hb⟩⟩ <;> rw [hb]
  · exact ⟨[], (List.append_nil _).symm⟩
  all_goals exact ⟨[hop], rfl⟩

theorem run_prefix (n i : Nat) (st : State U M) :
    ∃ l, (run step ext get maxHops i n st).hops = st.hops ++ l := by
  fun_induction run step ext get maxHops i n st with
  | case1 => exact ⟨[], (List.append_nil _).symm⟩
  | case2 i n st st' hb ih =>
    obtain ⟨l, hl⟩ := body_prefix step ext get maxHops i st
    obtain ⟨l2, hl2⟩ := ih
    exact ⟨l ++ l2, by rw [hl2, ← List.append_assoc, ← hl, hb]⟩
  | case3 i n st st' hb =>
    have := body_prefix step ext get maxHops i st
    rwa [hb] at this

end Rio.Loop
