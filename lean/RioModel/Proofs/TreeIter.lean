/-
`iter.rs`: the stack machine `ItemIter::next` enumerates the stored values, each once, in tree order:
collecting it gives `contents.map val`.  Every self-call of `next` decreases `IterSt.measure`, so the
recursion of the Rust function terminates and `measure + 1` is enough fuel.
-/
import RioModel.Proofs.TreeSpec
set_option linter.unusedSectionVars false

namespace Rio.Tree

variable {ι V : Type} [DecidableEq ι]

def valsL (cs : List (Item ι V)) : List V := (contentsL cs).map (·.val)

/-- What the iterator has still to yield. -/
def IterSt.pending (st : IterSt ι V) : List V :=
  (match st.values with | none => [] | some vs => vs) ++ valsL st.children ++ st.parents.flatMap valsL

theorem szL_cons (c : Item ι V) (cs : List (Item ι V)) : szL (c :: cs) = c.sz + szL cs := by rw [szL]
theorem szL_nil : szL ([] : List (Item ι V)) = 0 := by rw [szL]
theorem sz_empty (ic : Bool) : (Item.empty ic : Item ι V).sz = 1 := by rw [Item.sz]
theorem sz_leaf (rx) (vs : List (ι × V)) : (Item.leaf rx vs).sz = vs.length + 2 := by rw [Item.sz]
theorem sz_node (rx) (cs : List (Item ι V)) : (Item.node rx cs).sz = szL cs + 2 := by rw [Item.sz]

theorem valsL_eq (cs : List (Item ι V)) : valsL cs = (contentsL cs).map (·.val) := rfl
theorem valsL_nil : valsL ([] : List (Item ι V)) = [] := by simp [valsL, contentsL]
theorem valsL_cons (c : Item ι V) (cs : List (Item ι V)) :
    valsL (c :: cs) = c.contents.map (·.val) ++ valsL cs := by simp [valsL, contentsL]

/-- What one call of `next` owes. -/
def NextOk (fuel : Nat) (st : IterSt ι V) : Prop :=
  (IterSt.next fuel st = some none ∧ st.pending = []) ∨
  (∃ v st', IterSt.next fuel st = some (some (v, st')) ∧ st.pending = v :: st'.pending ∧
    st'.measure < st.measure)

theorem NextOk.silent {fuel : Nat} {st st₁ : IterSt ι V} (hn : IterSt.next (fuel + 1) st = IterSt.next fuel st₁)
    (hp : st.pending = st₁.pending) (hm : st₁.measure < st.measure) (h : NextOk fuel st₁) :
    NextOk (fuel + 1) st := by
  rw [NextOk, hn, hp]
  rcases h with h | ⟨v, st', h1, h2, h3⟩
  · exact Or.inl h
  · exact Or.inr ⟨v, st', h1, h2, by omega⟩

theorem next_spec (fuel : Nat) : ∀ st : IterSt ι V, st.measure < fuel → NextOk fuel st := by
  induction fuel with
  | zero => intro st h; omega
  | succ fuel ih =>
    intro st hm
    have step : ∀ st₁ : IterSt ι V, IterSt.next (fuel + 1) st = IterSt.next fuel st₁ →
        st.pending = st₁.pending → st₁.measure < st.measure → NextOk (fuel + 1) st :=
      fun st₁ hn hp hlt => (ih st₁ (by omega)).silent hn hp hlt
    obtain ⟨children, parents, values⟩ := st
    cases values with
    | some vs =>
      cases vs with
      | nil =>
        exact step ⟨children, parents, none⟩ (by rw [IterSt.next]) (by simp [IterSt.pending])
          (by simp [IterSt.measure])
      | cons v vs =>
        exact Or.inr ⟨v, ⟨children, parents, some vs⟩, by rw [IterSt.next], by simp [IterSt.pending],
          by simp [IterSt.measure]⟩
    | none =>
      cases children with
      | nil =>
        cases parents with
        | nil => exact Or.inl ⟨by rw [IterSt.next], by simp [IterSt.pending, valsL_nil]⟩
        | cons p ps =>
          exact step ⟨p, ps, none⟩ (by rw [IterSt.next]) (by simp [IterSt.pending, valsL_nil])
            (by simp [IterSt.measure, szL_nil])
      | cons c rest =>
        cases c with
        | empty ic =>
          exact step ⟨rest, parents, none⟩ (by rw [IterSt.next]) (by simp [IterSt.pending, valsL_cons])
            (by simp [IterSt.measure, szL_cons, sz_empty])
        | leaf rx vs =>
          exact step ⟨rest, parents, some (vs.map (·.2))⟩ (by rw [IterSt.next])
            (by simp [IterSt.pending, valsL_cons, Function.comp_def])
            (by simp [IterSt.measure, szL_cons, sz_leaf]; omega)
        | node rx cs =>
          exact step ⟨cs, rest :: parents, none⟩ (by rw [IterSt.next])
            (by simp [IterSt.pending, valsL_cons, ← valsL_eq])
            (by simp [IterSt.measure, szL_cons, sz_node]; omega)

theorem drain_spec (fuel : Nat) : ∀ (n : Nat) (st : IterSt ι V), st.measure < fuel → st.pending.length < n →
    IterSt.drain fuel n st = some st.pending := by
  intro n
  induction n with
  | zero => intro st _ h; omega
  | succ n ih =>
    intro st hm hn
    rw [IterSt.drain]
    rcases next_spec fuel st hm with ⟨h1, h2⟩ | ⟨v, st', h1, h2, h3⟩
    · rw [h1, h2]
    · rw [h1]
      simp only
      rw [ih st' (by omega) (by rw [h2] at hn; simp at hn; omega), h2]
      rfl

theorem len_le_sz (t : Item ι V) : t.len ≤ t.sz := by
  induction t using Item.ind₂ (motiveL := fun cs => lenL cs ≤ szL cs) with
  | hE ic => simp [Item.len, sz_empty]
  | hL rx vs => simp [Item.len, sz_leaf]
  | hN rx cs ih => rw [sz_node]; simp only [Item.len]; omega
  | hnil => simp [lenL]
  | hcons c cs h1 h2 => rw [szL_cons]; simp only [lenL]; omega

theorem valsL_length_le (cs : List (Item ι V)) : (valsL cs).length ≤ szL cs := by
  induction cs with
  | nil => simp [valsL_nil]
  | cons c cs ih =>
    rw [valsL_cons, szL_cons, List.length_append, List.length_map, ← len_spec]
    have := len_le_sz c
    omega

theorem pending_length_le (st : IterSt ι V) : st.pending.length ≤ st.measure := by
  obtain ⟨children, parents, values⟩ := st
  simp only [IterSt.pending, IterSt.measure, List.length_append]
  have h1 := valsL_length_le children
  have h2 : (parents.flatMap valsL).length ≤ (parents.map fun p => szL p + 1).sum := by
    induction parents with
    | nil => simp
    | cons p ps ihp =>
      simp only [List.flatMap_cons, List.length_append, List.map_cons, List.sum_cons]
      have := valsL_length_le p
      omega
  cases values with
  | none => dsimp only; simp only [List.length_nil]; omega
  | some vs => dsimp only; omega

theorem iterCollect_eq (t : Item ι V) : t.iterCollect = some (t.contents.map (·.val)) := by
  unfold Item.iterCollect
  rw [drain_spec _ _ _ (Nat.lt_succ_self _) (Nat.lt_succ_of_le (pending_length_le _))]
  simp [Item.iter, IterSt.pending, valsL, contentsL]

end Rio.Tree
