/-
C03: on a valid UTF-8 stream no call of a plain chain fails (`runG_ok`), however the stream is cut (a cut inside a multi-byte
character leaves an incomplete tail that is carried to the next call).  Stream-level argument along the pipeline of
`Proofs/FilterPipe.lean`: the concatenated input of every stage is complete valid UTF-8, hence so is its output.
-/
import RioModel.Proofs.FilterPipe
import RioModel.Proofs.FilterValid

namespace Rio.Filter

/-- a prefix of a complete valid string is never *invalid* (at worst it ends inside a character) -/
theorem utf8Split_prefix_of_valid {u w : Bytes} (h : V (u ++ w)) : ∃ a p, utf8Split u = some (a, p) := by
  cases hs : utf8Split u with
  | some r => exact ⟨r.1, r.2, rfl⟩
  | none =>
    exfalso
    have := utf8Split_none_append hs w
    have h2 := utf8Split_of_V h
    rw [this] at h2
    cases h2

/-- `last_buffer = T ++ p`: a complete valid held tail `T` and an incomplete character `p` that the remaining stream
`R` completes -/
def LV (s : HtmlSt) (R : Bytes) : Prop := ∃ T p, s.last = T ++ p ∧ V T ∧ V (p ++ R)

section
variable {tk : Tokenize} (hl : LosslessAll tk) (hv : TokValidAll tk) (ev : Bytes → Bytes → Bool)
include hl hv

theorem filterHtml_ok_of_LV (s : HtmlSt) (x R : Bytes) (hc : Ctx s.ctx) (h : LV s (x ++ R)) :
    ∃ s1 o, filterHtml tk ev s x = some (s1, o) ∧ LV s1 R := by
  obtain ⟨T, p, hlast, hT, hpR⟩ := h
  have hpx : V ((p ++ x) ++ R) := by simpa [List.append_assoc] using hpR
  obtain ⟨a', p', hsp⟩ := utf8Split_prefix_of_valid hpx
  have hsp2 : utf8Split (s.last ++ x) = some (T ++ a', p') := by
    rw [hlast, List.append_assoc, utf8Split_prefix T (p ++ x) hT, hsp]
    rfl
  obtain ⟨ha', hap⟩ := utf8Split_spec hsp
  have hd : V (T ++ a') := V_append hT ha'
  rw [filterHtml_view, hsp2]
  simp only
  refine ⟨_, _, rfl, (view tk s.ctx (T ++ a')).tail, p', rfl, view_tail_V hl hv hc hd, ?_⟩
  -- a' ++ p' ++ R = p ++ x ++ R is valid and a' is valid
  have : V (a' ++ (p' ++ R)) := by
    rw [← List.append_assoc, hap]; exact hpx
  exact V_of_append_left this ha'

end

variable {D E : Type}

section
variable {tk : Tokenize} (hl : LosslessAll tk) (hv : TokValidAll tk) (ev : Bytes → Bytes → Bool) (codec : Codec D E)
include hl hv

theorem seqRunL_ok : ∀ (ps : List Bytes) (s : HtmlSt) (R : Bytes), (HV s ∧ Ctx s.ctx) → LV s (ps.flatten ++ R) →
    ∃ s1 os, seqRunL tk ev s ps = some (s1, os) ∧ (HV s1 ∧ Ctx s1.ctx) ∧ LV s1 R ∧ V os.flatten
  | [], s, R, hh, hlv => ⟨s, [], rfl, hh, by simpa using hlv, V_nil⟩
  | p :: ps, s, R, hh, hlv => by
    have hlv' : LV s (p ++ (ps.flatten ++ R)) := by simpa [List.append_assoc] using hlv
    obtain ⟨s1, o, hf, hlv1⟩ := filterHtml_ok_of_LV hl hv ev s p _ hh.2 hlv'
    obtain ⟨hh1a, hh1b, ho⟩ := filterHtml_V hl hv ev s s1 p o hh.1 hh.2 hf
    obtain ⟨s2, os, e2, h2, l2, v2⟩ := seqRunL_ok ps s1 R ⟨hh1a, hh1b⟩ hlv1
    refine ⟨s2, o :: os, by simp [seqRunL, hf, e2], h2, l2, ?_⟩
    simp only [List.flatten_cons]
    exact V_append ho v2

omit hl hv in
theorem V_flat_of_HV {s : HtmlSt} (h : HV s) : V (flat s.stack) :=
  V_flatMap _ fun l hl => h.2 l (List.mem_reverse.mp hl)

omit hl hv in
theorem V_endHtml_of_LV {s : HtmlSt} (h : HV s) (hlv : LV s []) : V (endHtml s) := by
  obtain ⟨T, p, hl1, hT, hp⟩ := hlv
  rw [endHtml_eq, hl1]
  exact V_append (V_flat_of_HV h) (V_append hT (by simpa using hp))

omit hl hv in
theorem stageTotal_V (s : TextSt) (b : Bytes) (hc : V s.content) (hb : V b) : V (stageTotal s b) := by
  obtain ⟨a, c, e⟩ := s
  have hc' : V c := hc
  cases a <;> cases e
  · exact V_append hb hc'
  · exact V_append hb V_nil
  · exact V_append hc' hb
  · exact hb
  · exact hc'
  · exact V_nil

theorem stTotal_ok (st : Stage D E) (ps : List Bytes) (fin : Option Bytes)
    (hready : DStage st)
    (hstream : V (ps.flatten ++ fin.getD [])) :
    ∃ st1 os st2 nd, stFeed tk ev codec st ps = some (st1, os) ∧ st1.endWith tk ev codec fin = (st2, some nd) ∧
      V (os.flatten ++ nd) := by
  cases st with
  | html s =>
    obtain ⟨hh, hlast⟩ := hready
    have hlv : LV s (ps.flatten ++ fin.getD []) := ⟨s.last, [], by simp, hlast, by simpa using hstream⟩
    obtain ⟨s1, os, e1, h1, l1, v1⟩ := seqRunL_ok hl hv ev ps s _ hh hlv
    have hfe : stFeed tk ev codec (.html s : Stage D E) ps = some (.html s1, os) := by
      rw [stFeed_html, e1]; rfl
    cases fin with
    | none =>
      exact ⟨_, os, .html s1, endHtml s1, hfe, rfl, V_append v1 (V_endHtml_of_LV h1.1 l1)⟩
    | some d =>
      have l1' : LV s1 (d ++ []) := by simpa using l1
      obtain ⟨s2, o2, hf2, l2⟩ := filterHtml_ok_of_LV hl hv ev s1 d [] h1.2 l1'
      obtain ⟨h2, _, ho2⟩ := filterHtml_V hl hv ev s1 s2 d o2 h1.1 h1.2 hf2
      exact ⟨_, os, .html s2, o2 ++ endHtml s2, hfe, by simp [Stage.endWith, Stage.filter, hf2, Stage.end],
        V_append v1 (V_append ho2 (V_endHtml_of_LV h2 l2))⟩
  | text s =>
    obtain ⟨s1, os, h1, _⟩ := stFeed_text tk ev codec ps s
    obtain ⟨st2, nd, hw⟩ := endWith_text tk ev codec s1 fin
    have htot : stageTotal s (ps.flatten ++ fin.getD []) = os.flatten ++ nd :=
      Option.some.inj (stFeed_total tk ev codec ps (.text s) _ st2 os fin nd trivial
        (fun _ => good_text tk ev codec s) h1 hw)
    refine ⟨_, os, st2, nd, h1, hw, ?_⟩
    rw [← htot]
    exact stageTotal_V s _ hready hstream
  | decode d => exact absurd hready (by simp [DStage])
  | encode e => exact absurd hready (by simp [DStage])

theorem runG_ok : ∀ (items : List (Stage D E)) (ps : List Bytes) (fin : Option Bytes),
    Down items → V (ps.flatten ++ fin.getD []) →
    ∃ out, runG tk ev codec items ps fin = some out ∧ V out
  | [], ps, fin, _, hs => ⟨_, runG_nil tk ev codec ps fin, hs⟩
  | st :: rest, ps, fin, hd, hs => by
    have hready : DStage st := hd st (by simp)
    obtain ⟨st1, os, st2, nd, e1, e2, v⟩ := stTotal_ok hl hv ev codec st ps fin hready hs
    rw [runG_cons, e1]
    simp only [e2]
    exact runG_ok rest (nonEmpty os) (optB nd) (fun s h => hd s (by simp [h]))
      (by rw [nonEmpty_flatten, optB_getD]; exact v)

end

end Rio.Filter
