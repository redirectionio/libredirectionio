/-
Router proofs: `get_route` / `get_trace` pick a route of maximal priority.
-/
import RioModel.Model.RouterLayers

namespace Rio.Router

def prioLe (a b : Route) : Bool := decide (b.priority ≤ a.priority)

theorem sortByPriority_eq (rs : List Route) : sortByPriority rs = rs.mergeSort prioLe := rfl

theorem head_sortByPriority (rs : List Route) (h : Route) (hh : (sortByPriority rs).head? = some h) :
    h ∈ rs ∧ ∀ x ∈ rs, x.priority ≤ h.priority := by
  have hp := List.mergeSort_perm rs prioLe
  have hs : List.Pairwise (fun a b => prioLe a b = true) (rs.mergeSort prioLe) :=
    List.pairwise_mergeSort
      (by intro a b c h1 h2; simp only [prioLe, decide_eq_true_eq] at *; omega)
      (by intro a b; simp only [prioLe, Bool.or_eq_true, decide_eq_true_eq]; omega) rs
  rw [sortByPriority_eq] at hh
  cases hl : rs.mergeSort prioLe with
  | nil => rw [hl] at hh; simp at hh
  | cons a l =>
    rw [hl] at hh hs hp
    simp only [List.head?_cons, Option.some.injEq] at hh
    subst hh
    refine ⟨hp.mem_iff.1 (List.mem_cons_self ..), ?_⟩
    intro x hx
    have hx' := hp.mem_iff.2 hx
    rcases List.mem_cons.mp hx' with hx' | hx'
    · rw [hx']; exact Int.le_refl _
    · have := (List.pairwise_cons.mp hs).1 x hx'
      simpa [prioLe] using this

theorem head_sortByPriority_none (rs : List Route) (hh : (sortByPriority rs).head? = none) : rs = [] := by
  have hp := List.mergeSort_perm rs prioLe
  rw [sortByPriority_eq] at hh
  cases hl : rs.mergeSort prioLe with
  | nil => rw [hl] at hp; exact hp.symm.eq_nil
  | cons a l => rw [hl] at hh; simp at hh

theorem head_priority_congr (l1 l2 : List Route) (hm : ∀ x, x ∈ l1 ↔ x ∈ l2) :
    (sortByPriority l1).head?.map (·.priority) = (sortByPriority l2).head?.map (·.priority) := by
  cases h1 : (sortByPriority l1).head? with
  | none =>
    have e1 := head_sortByPriority_none l1 h1
    cases h2 : (sortByPriority l2).head? with
    | none => rfl
    | some b =>
      have := (head_sortByPriority l2 b h2).1
      rw [← hm, e1] at this; simp at this
  | some a =>
    have ha := head_sortByPriority l1 a h1
    cases h2 : (sortByPriority l2).head? with
    | none =>
      have e2 := head_sortByPriority_none l2 h2
      have := ha.1
      rw [hm, e2] at this; simp at this
    | some b =>
      have hb := head_sortByPriority l2 b h2
      simp only [Option.map_some, Option.some.injEq]
      have h3 := hb.2 a ((hm a).1 ha.1)
      have h4 := ha.2 b ((hm b).2 hb.1)
      omega

end Rio.Router
