/-
C15, token level: a filter one of whose path names stands NOWHERE in the document is the identity — for every state
the path-following machine can reach, not only the initial one.

`absent_path_noop` (Props/C15.lean) needs ALL path names absent.  Here ONE absent name `a` suffices: the machine may
follow the path down to the element before `a`, waits there for a start tag named `a` that never comes, and climbs back
on the end tags; `leave` of prepend / replace without buffering returns the data unchanged; `leave` of append inserts
the content only at the LAST path position, which is never reached when `a` stands before the last position
(`zone .append path = path.dropLast`; with `a` = the last element, append_child DOES insert: observation O7).
-/
import RioModel.Proofs.FilterDom

namespace Rio.Filter

/-- the part of the (rest of the) path in which the absent name must stand: anywhere — for append_child: before the last
element -/
def zone (k : VKind) (l : List Bytes) : List Bytes :=
  match k with
  | .append => l.dropLast
  | _ => l

theorem zone_sub {k : VKind} {l : List Bytes} {a : Bytes} (h : a ∈ zone k l) : a ∈ l := by
  cases k
  · exact List.dropLast_subset _ h
  · exact h
  · exact h

theorem zone_cons_cons (k : VKind) (c x : Bytes) (rest : List Bytes) :
    zone k (c :: x :: rest) = c :: zone k (x :: rest) := by
  cases k <;> rfl

theorem zone_tail {k : VKind} {c x a : Bytes} {rest : List Bytes} (h : a ∈ zone k (c :: x :: rest)) (hc : c ≠ a) :
    a ∈ zone k (x :: rest) := by
  rw [zone_cons_cons] at h
  exact (List.mem_cons.mp h).resolve_left fun e => hc e.symm

theorem zone_cons {k : VKind} {b c a : Bytes} {l : List Bytes} (h : a ∈ zone k (c :: l)) : a ∈ zone k (b :: c :: l) := by
  rw [zone_cons_cons]
  exact List.mem_cons_of_mem _ h

theorem zone_after_ne {k : VKind} {c a : Bytes} {l : List Bytes} (h : a ∈ zone k (c :: l)) (hc : c ≠ a) : l ≠ [] := by
  intro e
  subst e
  have := zone_sub h
  simp at this
  exact hc this.symm

theorem zone_append_after {c a : Bytes} {l : List Bytes} (h : a ∈ zone .append (c :: l)) : l ≠ [] := by
  intro e
  subst e
  simp [zone] at h

section
variable (tk : Tokenize) (ev : Bytes → Bytes → Bool)

/-- the machine states reachable on a document in which no tag is named `a` -/
structure NoopInv (a : Bytes) (s : HtmlSt) : Prop where
  stack : s.stack = []
  buf : s.visitor.isBuffering = false
  before : a ∉ s.visitor.before
  zone : a ∈ zone s.visitor.kind (s.visitor.cur :: s.visitor.after)
  enter : s.enter = some s.visitor.cur ∨
    (s.visitor.cur ≠ a ∧ ∃ x rest, s.visitor.after = x :: rest ∧ s.enter = some x)
  last : s.last = []

theorem NoopInv.endHtml {a : Bytes} {s : HtmlSt} (h : NoopInv a s) : endHtml s = [] := by
  simp [Rio.Filter.endHtml, h.stack, h.last]

theorem noopInv_new {a : Bytes} {k : VKind} {p1 : Bytes} {ps : List Bytes} (sel : Option Bytes) (value : Bytes)
    (hz : a ∈ zone k (p1 :: ps)) :
    NoopInv a (HtmlSt.new { kind := k, cur := p1, after := ps, sel := sel, content := value }) :=
  ⟨rfl, rfl, by simp [HtmlSt.new], by simpa [HtmlSt.new] using hz, Or.inl (by simp [HtmlSt.new, Visitor.first]), rfl⟩

theorem enter_advance (v : Visitor) (data : Bytes) {x : Bytes} {rest : List Bytes} (h : v.after = x :: rest) :
    v.enter data = ((some x, some v.cur, false, data),
      { v with before := v.cur :: v.before, cur := x, after := rest }) := by
  simp [Visitor.enter, Visitor.advance, h]

theorem onStart_noop {a : Bytes} {s : HtmlSt} (hs : NoopInv a s) {name : Bytes} (hn : name ≠ a) (data : Bytes) :
    ∃ s', onStart s name data = (s', data) ∧ NoopInv a s' := by
  rw [onStart_eq]
  by_cases he : s.enter = some name
  · -- the current path element cannot be `a`, so a further path element exists: `enter` only advances
    have hcur : s.visitor.cur ≠ a := by
      rcases hs.enter with h | ⟨h, _⟩
      · rw [h] at he
        simp only [Option.some.injEq] at he
        rw [he]; exact hn
      · exact h
    obtain ⟨x, rest, hafter⟩ := List.exists_cons_of_ne_nil (zone_after_ne hs.zone hcur)
    rw [if_pos he]
    simp only [enter_advance s.visitor data hafter, Bool.false_eq_true, if_false]
    refine ⟨_, rfl, ⟨hs.stack, hs.buf, ?_, ?_, Or.inl rfl, hs.last⟩⟩
    · simp only [List.mem_cons, not_or]
      exact ⟨fun e => hcur e.symm, hs.before⟩
    · have := hs.zone
      rw [hafter] at this
      exact zone_tail this hcur
  · rw [if_neg he]
    exact ⟨s, rfl, hs⟩

theorem leave_noop {a : Bytes} (v : Visitor) (hbuf : v.isBuffering = false)
    (hz : a ∈ zone v.kind (v.cur :: v.after)) (data : Bytes) :
    v.leave tk ev data = ((some v.cur, (v.leaveMove true).1, data), (v.leaveMove true).2) := by
  unfold Visitor.leave
  cases hk : v.kind with
  | append =>
    rw [hk] at hz
    have : v.after ≠ [] := zone_append_after hz
    simp [this]
  | prepend => simp [hbuf]
  | replace => simp [hbuf]

theorem onEnd_noop {a : Bytes} {s : HtmlSt} (hs : NoopInv a s) (name data : Bytes) :
    ∃ s', onEnd tk ev s name data = (s', data) ∧ NoopInv a s' := by
  rw [onEnd_eq]
  have htm : topMatches s.stack name = false := by rw [hs.stack]; rfl
  simp only [htm, Bool.false_eq_true, if_false]
  by_cases hl : s.leave = some name
  · simp only [hl, if_true, leave_noop tk ev s.visitor hs.buf hs.zone data]
    cases hb : s.visitor.before with
    | nil =>
      have hm : s.visitor.leaveMove true = (none, s.visitor) := by simp [Visitor.leaveMove, hb]
      rw [hm]
      exact ⟨_, rfl, ⟨hs.stack, hs.buf, hs.before, hs.zone, Or.inl rfl, hs.last⟩⟩
    | cons b bs =>
      have hm : s.visitor.leaveMove true =
          (some b, { s.visitor with before := bs, cur := b, after := s.visitor.cur :: s.visitor.after }) := by
        simp [Visitor.leaveMove, Visitor.retreat, hb]
      rw [hm]
      have hbef := hs.before
      rw [hb] at hbef
      simp only [List.mem_cons, not_or] at hbef
      refine ⟨_, rfl, ⟨hs.stack, hs.buf, hbef.2, zone_cons hs.zone, Or.inr ⟨fun e => hbef.1 e.symm, _, _, rfl, rfl⟩, hs.last⟩⟩
  · simp only [hl, if_false]
    exact ⟨s, rfl, hs⟩

theorem stepTok_noop {a : Bytes} {s : HtmlSt} (hs : NoopInv a s) {t : Tok} (ht : NeutralTok [a] t) (out : Bytes) :
    ∃ s', stepTok tk ev (s, out) t = (s', out ++ t.raw) ∧ NoopInv a s' := by
  rw [stepTok_eq]
  -- `on_start_tag_token`, when it is called, is called on a tag not named `a`
  obtain ⟨s1, h1, i1⟩ : ∃ s1, (if t.kind == .startTag || t.kind == .selfClosing then onStart s t.name t.raw
      else (s, t.raw)) = (s1, t.raw) ∧ NoopInv a s1 := by
    split
    · rename_i hc
      have hn : t.name ≠ a := by
        have := ht (by simp only [Bool.or_eq_true] at hc; rcases hc with h | h <;> simp [isTagKind, h])
        simpa using this
      exact onStart_noop hs hn t.raw
    · exact ⟨s, rfl, hs⟩
  -- `on_end_tag_token` changes nothing whatever the name
  obtain ⟨s2, h2, i2⟩ : ∃ s2, (if t.kind == .endTag || t.kind == .selfClosing || (t.kind == .startTag && isVoid t.name)
      then onEnd tk ev s1 t.name t.raw else (s1, t.raw)) = (s2, t.raw) ∧ NoopInv a s2 := by
    split
    · exact onEnd_noop tk ev i1 t.name t.raw
    · exact ⟨s1, rfl, i1⟩
  simp only [h1, h2]
  exact ⟨s2, push_empty_stack i2.stack _ _, i2⟩

theorem fold_noop {a : Bytes} : ∀ (toks : List Tok), (∀ t ∈ toks, NeutralTok [a] t) →
    ∀ (s : HtmlSt) (out : Bytes), NoopInv a s →
      ∃ s', toks.foldl (stepTok tk ev) (s, out) = (s', out ++ rawsOf toks) ∧ NoopInv a s'
  | [], _, s, out, hs => ⟨s, by simp [rawsOf], hs⟩
  | t :: ts, hn, s, out, hs => by
    obtain ⟨s1, h1, i1⟩ := stepTok_noop tk ev hs (hn t (by simp)) out
    obtain ⟨s2, h2, i2⟩ := fold_noop ts (fun x hx => hn x (List.mem_cons_of_mem _ hx)) s1 (out ++ t.raw) i1
    refine ⟨s2, ?_, i2⟩
    rw [List.foldl_cons, h1, h2, rawsOf_cons, List.append_assoc]

end

/-- only verbatim pieces (what a raw-text, void or self-closing element of a well-formed document holds) -/
def allVerbB : List Node → Bool
  | [] => true
  | .verb _ _ :: ns => allVerbB ns
  | .el _ _ _ _ _ :: _ => false

mutual
  /-- elements that are not of the normal kind hold no element nodes (the tokenizer would not see them as elements) -/
  def leafOKB : Node → Bool
    | .verb _ _ => true
    | .el _ _ _ knd cs =>
      match knd with
      | .normal => leafOKLB cs
      | _ => allVerbB cs
  def leafOKLB : List Node → Bool
    | [] => true
    | n :: ns => leafOKB n && leafOKLB ns
end

theorem editListD_allVerb (dec : Node → Bytes → Bool) (op : EditOp) (s' : Option Bytes) (ins : Node)
    (p : Bytes) (ps : List Bytes) (aw : Bool) : ∀ ns : List Node, allVerbB ns = true →
      editListD dec op s' ins p ps aw ns = ns
  | [], _ => by simp [editListD]
  | .verb r m :: ns, h => by
    simp only [allVerbB] at h
    simp [editListD, editNodeD, editListD_allVerb dec op s' ins p ps aw ns h]
  | .el _ _ _ _ _ :: _, h => by simp [allVerbB] at h

section
variable (vt : Bytes → List Tok)

mutual
  theorem editNodeD_absent (dec : Node → Bytes → Bool) (op : EditOp) (s' : Option Bytes) (ins : Node) {a : Bytes} :
      ∀ (n : Node) (p : Bytes) (ps : List Bytes) (aw : Bool), a ∈ p :: ps →
        (∀ t ∈ tokensOf vt n, NeutralTok [a] t) → leafOKB n = true → editNodeD dec op s' ins p ps aw n = n
    | .verb r m, _, _, _, _, _, _ => by simp [editNodeD]
    | .el nm d at_ knd cs, p, ps, aw, ha, hfree, hleaf => by
      have hnm : nm ≠ a := by
        have := name_not_mem_of_free vt hfree
        simpa using this
      -- the children are left alone, whichever path is looked for below and with either semantics
      have hcs : ∀ q qs aw, a ∈ q :: qs → editListD dec op s' ins q qs aw cs = cs := by
        cases knd with
        | normal =>
          have hl : leafOKLB cs = true := by simpa [leafOKB] using hleaf
          exact fun q qs aw hq => editListD_absent dec op s' ins cs q qs aw hq (free_children vt hfree) hl
        | _ =>
          have hl : allVerbB cs = true := by simpa [leafOKB] using hleaf
          exact fun q qs aw _ => editListD_allVerb dec op s' ins q qs aw cs hl
      unfold editNodeD
      by_cases hb : (nm == p) = true
      · have hp : p ≠ a := by rw [← beq_iff_eq.mp hb]; exact hnm
        have hps : a ∈ ps := (List.mem_cons.mp ha).resolve_left fun e => hp e.symm
        cases ps with
        | nil => simp at hps
        | cons q qs => simp only [hb, if_true, hcs q qs false hps]
      · simp only [hb, Bool.false_eq_true, if_false]
        split
        · rw [hcs p ps true ha]
        · rfl
  theorem editListD_absent (dec : Node → Bytes → Bool) (op : EditOp) (s' : Option Bytes) (ins : Node) {a : Bytes} :
      ∀ (ns : List Node) (p : Bytes) (ps : List Bytes) (aw : Bool), a ∈ p :: ps →
        FreeL vt [a] ns → leafOKLB ns = true → editListD dec op s' ins p ps aw ns = ns
    | [], _, _, _, _, _, _ => by simp [editListD]
    | n :: ns, p, ps, aw, ha, hfree, hleaf => by
      simp only [leafOKLB, Bool.and_eq_true] at hleaf
      rw [editListD, editNodeD_absent dec op s' ins n p ps aw ha (FreeL.cons_head vt hfree) hleaf.1,
        editListD_absent dec op s' ins ns p ps aw ha (FreeL.cons_tail vt hfree) hleaf.2]
end

def actionKind (action : String) : Option VKind :=
  if action = Rio.Consts.filterActionAppend then some .append
  else if action = Rio.Consts.filterActionPrepend then some .prepend
  else if action = Rio.Consts.filterActionReplace then some .replace
  else none

theorem visitor_new_eq (action : String) (p1 : Bytes) (ps : List Bytes) (sel : Option Bytes) (value : Bytes) :
    Visitor.new action (p1 :: ps) sel value =
      (actionKind action).map fun k => { kind := k, cur := p1, after := ps, sel := sel, content := value } := by
  simp only [Visitor.new, actionKind, apply_ite (Option.map _), Option.map_some, Option.map_none]

/-- **the no-op domain**: one path name `a` — for append_child: one before the last — stands in no tag of the document
(tags as the tokenizer sees them: `vt` looks inside verbatim pieces) -/
inductive NoOp (doc : List Node) : BodyFilter → Prop where
  | mk (action : String) (p1 : Bytes) (ps : List Bytes) (sel : Option Bytes) (value : Bytes) (k : VKind) (a : Bytes)
      (hk : actionKind action = some k) (hz : a ∈ zone k (p1 :: ps)) (hfree : FreeL vt [a] doc)
      (hleaf : leafOKLB doc = true) : NoOp doc (.html action (p1 :: ps) sel value)

-- `vt` comes FIRST here (`StepsOK3 vt tk ev`, `fold_noOp vt tk ev`, `runsTo_of_steps3 vt tk ev`); FilterDom has `tk ev vt`
variable (tk : Tokenize) (ev : Bytes → Bytes → Bool)

theorem editD_noOp (dec : Node → Bytes → Bool) {doc : List Node} {f : BodyFilter} (h : NoOp vt doc f) :
    editD dec doc f = doc := by
  cases h with
  | mk action p1 ps sel value k a hk hz hfree hleaf =>
    have ha : a ∈ p1 :: ps := zone_sub hz
    unfold editD
    simp only
    split
    · rename_i op p ps' _ hpath
      simp only [List.cons.injEq] at hpath
      obtain ⟨rfl, rfl⟩ := hpath
      exact editListD_absent vt dec op _ _ doc p1 ps true ha hfree hleaf
    · rfl

theorem fold_noOp (hvt : VtLossless vt) {doc : List Node} {f : BodyFilter} (h : NoOp vt doc f) :
    ∃ v s, VisitorOf f v ∧
      (tokensOfList vt doc).foldl (stepTok tk ev) (HtmlSt.new v, []) =
        (s, serializeList (editD (decOf ev) doc f)) ∧ endHtml s = [] := by
  rw [editD_noOp vt (decOf ev) h]
  cases h with
  | mk action p1 ps sel value k a hk hz hfree hleaf =>
    have hv := visitor_new_eq action p1 ps sel value
    rw [hk] at hv
    obtain ⟨s, hs, is⟩ := fold_noop tk ev (tokensOfList vt doc) hfree _ [] (noopInv_new sel value hz)
    refine ⟨_, s, ⟨_, _, _, _, rfl, hv⟩, ?_, is.endHtml⟩
    rw [hs, rawsOf_tokensOfList vt hvt, List.nil_append]

theorem fold_inDomain_or_noOp (hvt : VtLossless vt) {doc : List Node} {f : BodyFilter}
    (h : InDomain tk vt doc f ∨ NoOp vt doc f) :
    ∃ v s, VisitorOf f v ∧
      (tokensOfList vt doc).foldl (stepTok tk ev) (HtmlSt.new v, []) =
        (s, serializeList (editD (decOf ev) doc f)) ∧ endHtml s = [] :=
  h.elim (fold_inDomain tk ev vt hvt) (fold_noOp vt tk ev hvt)

def StepsOK3 : List Node → List BodyFilter → Prop
  | _, [] => True
  | d, f :: fs =>
    (InDomain tk vt d f ∨ NoOp vt d f) ∧ TokAgree tk vt d ∧ (fs ≠ [] → serializeList (editD (decOf ev) d f) ≠ []) ∧
    StepsOK3 (editD (decOf ev) d f) fs

theorem runsTo_of_steps3 (hvt : VtLossless vt) :
    ∀ (fs : List BodyFilter) (d : List Node), StepsOK3 vt tk ev d fs →
      RunsTo tk ev fs (serializeList d) (serializeList (editAllD (decOf ev) d fs))
  | [], _, _ => .nil tk ev _
  | _ :: fs, _, ⟨hdom, hag, hne, hrest⟩ =>
    .cons tk ev vt hag (fold_inDomain_or_noOp vt tk ev hvt hdom) hne (runsTo_of_steps3 hvt fs _ hrest)

def noOpB (doc : List Node) (f : BodyFilter) : Bool :=
  match f with
  | .html action (p1 :: ps) _ _ =>
    (match actionKind action with
     | some k => leafOKLB doc && (zone k (p1 :: ps)).any (fun a => freeLB vt [a] doc)
     | none => false)
  | _ => false

theorem noOpB_sound {doc : List Node} {f : BodyFilter} (h : noOpB vt doc f = true) : NoOp vt doc f := by
  unfold noOpB at h
  split at h
  · rename_i action p1 ps sel value
    split at h
    · rename_i k hk
      simp only [Bool.and_eq_true, List.any_eq_true] at h
      obtain ⟨hleaf, a, ha, hfree⟩ := h
      exact NoOp.mk action p1 ps sel value k a hk ha (freeLB_sound vt hfree) hleaf
    · cases h
  · cases h

end

end Rio.Filter
