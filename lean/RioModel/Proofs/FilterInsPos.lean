/-
C04: WHERE an insert filter without selector puts its copies.  `IScript c pre P T out`: `out` renders the token
list `T` left to right, every token kept, and a copy of the value `c` placed IMMEDIATELY AFTER some opener tokens named on
the path (prepend_child, `pre = true`) resp. IMMEDIATELY BEFORE some closer tokens named on the path (append_child).
`fold_insert_nosel_strong`: the token loop of a fresh append_child / prepend_child stage WITHOUT selector renders any token
list this way (such a stage never buffers): a reading of the script of Proofs/FilterScript.lean.  With a selector the
stage buffers the element and re-tokenises it (`append_child` / `prepend_child` of body_append.rs / body_prepend.rs): the
script says the copy goes inside the element span, and the count bound `fold_len_le` holds.
-/
import RioModel.Proofs.FilterScript

namespace Rio.Filter

inductive IScript (c : Bytes) (pre : Bool) (P : List Bytes) : List Tok → Bytes → Prop
  | nil : IScript c pre P [] []
  | keep (t : Tok) {T : List Tok} {o : Bytes} : IScript c pre P T o → IScript c pre P (T ++ [t]) (o ++ t.raw)
  | after (t : Tok) {T : List Tok} {o : Bytes} : pre = true → isOpener t = true → t.name ∈ P →
      IScript c pre P T o → IScript c pre P (T ++ [t]) (o ++ (t.raw ++ c))
  | before (t : Tok) {T : List Tok} {o : Bytes} : pre = false → isCloser t = true → t.name ∈ P →
      IScript c pre P T o → IScript c pre P (T ++ [t]) (o ++ (c ++ t.raw))

/-- a stage with an insert visitor without selector: it never buffers -/
structure NS (c : Bytes) (pre : Bool) (P : List Bytes) (s : HtmlSt) : Prop where
  kind : s.visitor.kind = (if pre then .prepend else .append)
  nosel : s.visitor.hasSel = false
  nobuf : s.visitor.isBuffering = false
  stack : s.stack = []
  content : s.visitor.content = c
  pinv : PInv P s

theorem Script.toI {tk : Tokenize} {v : Visitor} {tgt : Bytes} {T : List Tok} {o : Bytes} (hk : v.kind ≠ .replace) (hs : v.hasSel = false)
    (h : Script tk v tgt T o) : IScript v.content (v.kind == .prepend) (pathOf v) T o := by
  induction h with
  | nil => exact .nil
  | keep t _ ih => exact .keep t ih
  | after t hi ho hn _ ih =>
    refine .after t ?_ ho hn ih
    simp only [insAtEnter, Bool.and_eq_true] at hi
    exact hi.1
  | lone t r hka hc hn hr _ ih =>
    rcases hr with rfl | hr
    · exact .keep t ih
    · rw [hka] at hr
      rcases hr with ⟨h, _⟩ | ⟨_, rfl⟩
      · rw [hs] at h; cases h
      · exact .before t (by rw [hka]; rfl) hc hn ih
  | span ts r hb =>
    rcases hb with hb | hb
    · exact absurd hb hk
    · rw [hs] at hb; cases hb

theorem fold_insert_nosel_strong (tk : Tokenize) (ev : Bytes → Bytes → Bool) (v : Visitor) (hk : v.kind ≠ .replace)
    (hb : v.before = []) (hnb : v.isBuffering = false) (hs : v.hasSel = false) (T : List Tok) :
    IScript v.content (v.kind == .prepend) (pathOf v) T (T.foldl (stepTok tk ev) (HtmlSt.new v, [])).2 ∧
      (T.foldl (stepTok tk ev) (HtmlSt.new v, [])).1.stack = [] := by
  have hne : pathOf v ≠ [] := List.append_ne_nil_of_right_ne_nil _ (List.cons_ne_nil _ _)
  rcases (fold_script tk ev v hb hnb (List.getLast?_eq_some_getLast hne) T).2 with ⟨hI, hr⟩ | ⟨_, _, _, _, _, h | h, _⟩
  · exact ⟨hr.toI hk hs, hI.stack⟩
  · -- a visitor that buffers is a replace visitor or has a selector
    exact absurd h hk
  · rw [hs] at h; cases h

end Rio.Filter
