/-
Chains of text stages (C03 `text_chunk_invariant`): the closed form `textTotal` of what such a chain makes of the
concatenated input, and what `do_filter` does on it — empty chunks and the `break` on an empty intermediate result
included.
-/
import RioModel.Proofs.Filter

namespace Rio.Filter

/-- what a text stage in state `s` makes of the whole remaining stream `b` (its `filter` outputs, then `end`) -/
def stageTotal (s : TextSt) (b : Bytes) : Bytes :=
  match s.action with
  | .append => b ++ (if s.executed then [] else s.content)
  | .prepend => if s.executed then b else s.content ++ b
  | .replace => if s.executed then [] else s.content

theorem stageTotal_filter (s : TextSt) (x b : Bytes) :
    stageTotal s (x ++ b) = (filterText s x).2 ++ stageTotal (filterText s x).1 b := by
  obtain ⟨a, c, e⟩ := s
  cases a <;> cases e <;> simp [stageTotal, filterText]

theorem stageTotal_end (s : TextSt) : stageTotal s [] = (endText s).2 := by
  obtain ⟨a, c, e⟩ := s
  cases a <;> cases e <;> simp [stageTotal, endText]

variable {D E : Type}

/-- (No user.  Trap: `textTotal` below reuses the `_sparseCasesOn_1` this definition generates, and the statement pins of
C03 / C14, `tools/pin_statements.py`, hash the elaborated `textTotal`: the definition stays in front of it.) -/
def textOf : Stage D E → Option TextSt
  | .text s => some s
  | _ => none

def AllText (items : List (Stage D E)) : Prop := ∀ st ∈ items, ∃ s, st = .text s

def textTotal : List (Stage D E) → Bytes → Bytes
  | [], b => b
  | .text s :: rest, b => textTotal rest (stageTotal s b)
  | _ :: rest, b => textTotal rest b

variable (tk : Tokenize) (ev : Bytes → Bytes → Bool) (codec : Codec D E)

theorem AllText.cons (s : TextSt) {items : List (Stage D E)} (h : AllText items) : AllText (.text s :: items) :=
  List.forall_mem_cons.mpr ⟨⟨s, rfl⟩, h⟩

theorem doFilter_text : ∀ (items : List (Stage D E)) (x : Bytes), AllText items →
    ∃ items' out, doFilter tk ev codec items x = (items', some out) ∧ AllText items' ∧
      ∀ b, textTotal items (x ++ b) = out ++ textTotal items' b
  | [], x, _ => ⟨[], x, rfl, fun _ h => by simp at h, fun b => rfl⟩
  | st :: rest, x, hall => by
    obtain ⟨s, rfl⟩ := hall st (by simp)
    have hrest : AllText rest := fun st h => hall st (by simp [h])
    have hf := Stage.filter_text tk ev codec (D := D) (E := E) (x := x) s
    by_cases ho : (filterText s x).2 = []
    · rw [ho] at hf
      refine ⟨_, _, doFilter_cons_empty tk ev codec rest hf, hrest.cons _, fun b => ?_⟩
      simp only [textTotal]
      rw [stageTotal_filter, ho]
      rfl
    · obtain ⟨rest', out, h1, h2, h3⟩ := doFilter_text rest (filterText s x).2 hrest
      refine ⟨.text (filterText s x).1 :: rest', out, ?_, h2.cons _, fun b => ?_⟩
      · rw [doFilter_cons_more tk ev codec rest hf ho, h1]
      · simp only [textTotal]
        rw [stageTotal_filter, h3]

theorem endWith_text_none (s : TextSt) :
    (Stage.text s : Stage D E).endWith tk ev codec none = (.text (endText s).1, some (endText s).2) := rfl

theorem endWith_text_some (s : TextSt) (str : Bytes) :
    (Stage.text s : Stage D E).endWith tk ev codec (some str) =
      (.text (endText (filterText s str).1).1, some ((filterText s str).2 ++ (endText (filterText s str).1).2)) := rfl

theorem endWith_text (s : TextSt) (fin : Option Bytes) :
    ∃ st2 nd, (Stage.text s : Stage D E).endWith tk ev codec fin = (st2, some nd) := by
  cases fin with
  | none => exact ⟨_, _, endWith_text_none tk ev codec s⟩
  | some d => exact ⟨_, _, endWith_text_some tk ev codec s d⟩

end Rio.Filter
