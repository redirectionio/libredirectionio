/-
The action trace (`TraceAction::from_trace_rules`), C17 clause 3.  Step `k` of `traceFold` carries `foldRoutes` of the
first `k + 1` rules, and the steps end with the first effective `stop` (`traceFold_eq`); the action of the last step is
`foldRoutes` of the whole list (`lastOr_traceFold`); with pairwise distinct ranks the trace's sort by `priority` is
`sortRules` (`traceSort_eq_sortRules`).
-/
import RioModel.Model.ActionTrace
import RioModel.Proofs.Action
import RioModel.Proofs.ActionSort

namespace Rio.Action
open Spec

theorem traceFold_cons (q : Req) (draw : Rule → Nat) (a : Action) (r : Rule) (rest : List Rule) :
    traceFold q draw a (r :: rest) =
      if effective q draw r then
        ⟨stepRule q a r, r⟩ :: (if isStop r then [] else traceFold q draw (stepRule q a r) rest)
      else ⟨a, r⟩ :: traceFold q draw a rest := by
  rw [traceFold, fromRouteRule_eq]
  cases he : effective q draw r
  · simp
  · simp only [if_true, stepRule]

/-- The action of the last step, `a` if there is none (`lastAction` unfolds to `lastOr Action.empty`). -/
def lastOr (a : Action) (l : List TraceAction) : Action :=
  match l.getLast? with
  | some t => t.action
  | none => a

theorem lastOr_nil (a : Action) : lastOr a [] = a := rfl

theorem lastOr_cons (a : Action) (x : TraceAction) (l : List TraceAction) :
    lastOr a (x :: l) = lastOr x.action l := by
  cases l with
  | nil => rfl
  | cons y ys =>
    simp only [lastOr, List.getLast?_cons_cons]
    cases h : (y :: ys).getLast? with
    | some t => rfl
    | none => simp at h

theorem lastOr_traceFold (q : Req) (draw : Rule → Nat) (a : Action) (S : List Rule) :
    lastOr a (traceFold q draw a S) = foldRoutes q draw a S := by
  induction S generalizing a with
  | nil => rfl
  | cons r rest ih =>
    rw [traceFold_cons, foldRoutes_cons]
    cases he : effective q draw r
    · simp only [Bool.false_eq_true, if_false, lastOr_cons]
      exact ih a
    · simp only [if_true, lastOr_cons]
      cases hs : isStop r
      · simp only [Bool.false_eq_true, if_false]
        exact ih _
      · simp [lastOr_nil]

theorem mapIdxFrom_succ {β : Type} (f : Nat → Rule → β) (n : Nat) (l : List Rule) :
    mapIdxFrom f (n + 1) l = mapIdxFrom (fun k => f (k + 1)) n l := by
  induction l generalizing n with
  | nil => rfl
  | cons x xs ih => rw [mapIdxFrom, mapIdxFrom, ih]

theorem mapIdxFrom_getElem? {β : Type} (f : Nat → Rule → β) (n k : Nat) (l : List Rule) :
    (mapIdxFrom f n l)[k]? = l[k]?.map (f (n + k)) := by
  induction l generalizing n k with
  | nil => rfl
  | cons x xs ih =>
    cases k with
    | zero => rfl
    | succ k =>
      rw [mapIdxFrom, List.getElem?_cons_succ, List.getElem?_cons_succ, ih, Nat.add_right_comm, Nat.add_assoc]

theorem traceFold_eq (q : Req) (draw : Rule → Nat) (a : Action) (S : List Rule) :
    traceFold q draw a S =
      mapIdxFrom (fun k r => ⟨foldRoutes q draw a (S.take (k + 1)), r⟩) 0 (throughFirstEffectiveStop q draw S) := by
  induction S generalizing a with
  | nil => rfl
  | cons r rest ih =>
    -- the head step is `foldRoutes` of `[r]`; behind it both sides go on from the same action (`ih`)
    rw [traceFold_cons, throughFirstEffectiveStop]
    cases he : effective q draw r
    · simp only [Bool.false_eq_true, if_false, Bool.false_and, mapIdxFrom, mapIdxFrom_succ, List.take_succ_cons,
        foldRoutes_cons, he, ih a, List.take_zero, foldRoutes]
    · cases hs : isStop r <;>
        simp only [Bool.false_eq_true, if_false, if_true, Bool.true_and, mapIdxFrom, mapIdxFrom_succ,
          List.take_succ_cons, foldRoutes_cons, he, hs, ih (stepRule q a r), List.take_zero, foldRoutes]

theorem throughFirstEffectiveStop_getElem? {q : Req} {draw : Rule → Nat} {S : List Rule} {k : Nat} {r : Rule}
    (h : (throughFirstEffectiveStop q draw S)[k]? = some r) :
    S[k]? = some r ∧ ∀ x ∈ S.take k, (effective q draw x && isStop x) = false := by
  induction S generalizing k with
  | nil => cases h
  | cons y ys ih =>
    rw [throughFirstEffectiveStop] at h
    cases k with
    | zero => exact ⟨by split at h <;> exact h, fun x hx => absurd hx List.not_mem_nil⟩
    | succ k =>
      cases hy : effective q draw y && isStop y
      · rw [hy, if_neg Bool.false_ne_true, List.getElem?_cons_succ] at h
        exact ⟨(ih h).1, fun x hx => (List.mem_cons.mp hx).elim (fun e => e ▸ hy) ((ih h).2 x)⟩
      · rw [hy, if_pos rfl] at h
        cases h

theorem traceFold_getElem? {q : Req} {draw : Rule → Nat} {a : Action} {S : List Rule} {k : Nat} {t : TraceAction}
    (h : (traceFold q draw a S)[k]? = some t) :
    t.action = foldRoutes q draw a (S.take (k + 1)) ∧ S[k]? = some t.rule ∧
      ∀ x ∈ S.take k, (effective q draw x && isStop x) = false := by
  rw [traceFold_eq, mapIdxFrom_getElem?, Option.map_eq_some_iff] at h
  obtain ⟨r, hr, rfl⟩ := h
  exact ⟨by rw [Nat.zero_add], throughFirstEffectiveStop_getElem? hr⟩

theorem traceFold_eq_traceSteps (q : Req) (draw : Rule → Nat) (S : List Rule) :
    traceFold q draw Action.empty S = Spec.traceSteps q draw S := by
  simp only [traceFold_eq, Spec.traceSteps, foldRoutes_eq_spec]

theorem mapIdxFrom_map_rule (f : Nat → Rule → Action) (n : Nat) (l : List Rule) :
    (mapIdxFrom (fun k r => (⟨f k r, r⟩ : TraceAction)) n l).map (·.rule) = l := by
  induction l generalizing n with
  | nil => rfl
  | cons x xs ih => simp [mapIdxFrom, ih]

/-- The comparison of `sort_by_key(priority)`. -/
def rankGe (a b : Rule) : Bool := decide (priorityOf a ≤ priorityOf b)

theorem rankGe_iff (a b : Rule) : rankGe a b = true ↔ b.rank ≤ a.rank := by
  unfold rankGe priorityOf
  simp only [decide_eq_true_eq]
  omega

theorem traceSort_perm (R : List Rule) : (traceSort R).Perm R := List.mergeSort_perm R _

theorem traceSort_sorted (R : List Rule) : (traceSort R).Pairwise (fun a b => rankGe a b = true) := by
  unfold traceSort
  apply List.pairwise_mergeSort (le := rankGe)
  · intro a b c h1 h2
    rw [rankGe_iff] at *
    omega
  · intro a b
    simp only [Bool.or_eq_true, rankGe_iff]
    omega

/-- With pairwise distinct ranks the rank-only order is the order of `Rule::cmp`, whose rank key is compared
descending: read from the regenerated `Rio.Consts.ruleCmpRankDescending`, so unlike Proofs/ActionSort this proof breaks
if the source changes direction (as it must: the trace's sort by `priority` stays). -/
theorem traceSort_ruleLe (R : List Rule) (h : DistinctRanks R) :
    (traceSort R).Pairwise (fun a b => ruleLe a b = true) := by
  have hd : DistinctRanks (traceSort R) := h.perm (traceSort_perm R).symm
  unfold DistinctRanks at hd
  rw [List.Nodup, List.pairwise_map] at hd
  have := (traceSort_sorted R).and hd
  refine this.imp ?_
  intro a b ⟨h1, h2⟩
  rw [rankGe_iff] at h1
  rw [ruleLe_iff, keyCmp_nat_lt]
  left
  simp only [Rio.Consts.ruleCmpRankDescending, if_true]
  omega

theorem traceSort_eq_sortRules (R : List Rule) (h : DistinctRanks R) : traceSort R = sortRules R :=
  (sortRules_eq_of_sorted (traceSort_perm R) (traceSort_ruleLe R h) h.keyInj).symm

end Rio.Action
