/-
Model/TimeWindow.lean counts in nanoseconds, the router model (Model/RouterBase.lean) in whole seconds.  For the
adapters of Props/C01prim.lean: a window with whole-second bounds, the time of day and the week day can be computed from
the instant floored to seconds (`matches_floor`, `timeOfDay_div`, `weekdayNum_div`).  `cmpNums_spec`: `cmpNums` is the
comparison of core's lexicographic order on lists.
-/
import RioModel.Model.TimeWindow

namespace Rio.TimeWindow

theorem nsPerSec_pos : 0 < nsPerSec := by decide
theorem nsPerDay_pos : 0 < nsPerDay := by decide
theorem nsPerDay_eq : nsPerDay = 86400 * nsPerSec := rfl

theorem matches_iff (w : Window) (t : Nat) :
    w.matches t = true ↔ (∀ s, w.start = some s → s ≤ t) ∧ (∀ e, w.stop = some e → t < e) := by
  fun_cases Window.matches w t <;> simp [*]

theorem matches_open (t : Nat) : (⟨none, none⟩ : Window).matches t = true := rfl

theorem matches_empty_of_le {w : Window} {s e : Nat} (hs : w.start = some s) (he : w.stop = some e)
    (h : e ≤ s) (t : Nat) : w.matches t = false := by
  cases hm : w.matches t with
  | false => rfl
  | true =>
    rw [matches_iff] at hm
    have := hm.1 s hs
    have := hm.2 e he
    omega

theorem timeOfDay_lt (t : Nat) : timeOfDay t < nsPerDay := Nat.mod_lt _ nsPerDay_pos

theorem weekdayNum_lt (t : Nat) : weekdayNum t < 7 := Nat.mod_lt _ (by decide)

theorem instant_decomp (t : Nat) : t = t / nsPerDay * nsPerDay + timeOfDay t :=
  (Nat.div_add_mod' t nsPerDay).symm

theorem timeOfDay_add_day (t : Nat) : timeOfDay (t + nsPerDay) = timeOfDay t := by
  unfold timeOfDay; exact Nat.add_mod_right _ _

theorem weekdayNum_add_day (t : Nat) : weekdayNum (t + nsPerDay) = (weekdayNum t + 1) % 7 := by
  unfold weekdayNum
  rw [Nat.add_div_right _ nsPerDay_pos]
  omega

theorem weekdayNum_add_week (t : Nat) : weekdayNum (t + 7 * nsPerDay) = weekdayNum t := by
  unfold weekdayNum
  rw [Nat.mul_comm, Nat.add_mul_div_left _ _ nsPerDay_pos]
  omega

theorem matchTime_add_day (w : Window) (t : Nat) : matchTime w (t + nsPerDay) = matchTime w t := by
  unfold matchTime; rw [timeOfDay_add_day]

def Window.toSec (w : Window) : Window := ⟨w.start.map (· / nsPerSec), w.stop.map (· / nsPerSec)⟩

def Window.WholeSec (w : Window) : Prop :=
  (∀ s, w.start = some s → s % nsPerSec = 0) ∧ (∀ e, w.stop = some e → e % nsPerSec = 0)

theorem le_iff_div_of_dvd {b t k : Nat} (hk : 0 < k) (hb : b % k = 0) : b ≤ t ↔ b / k ≤ t / k := by
  rw [Nat.le_div_iff_mul_le hk, Nat.div_mul_cancel (Nat.dvd_of_mod_eq_zero hb)]

theorem lt_iff_div_of_dvd {b t k : Nat} (hk : 0 < k) (hb : b % k = 0) : t < b ↔ t / k < b / k := by
  rw [← Nat.not_le, ← Nat.not_le, le_iff_div_of_dvd hk hb]

theorem matches_floor {w : Window} (h : w.WholeSec) (t : Nat) :
    w.matches t = w.toSec.matches (t / nsPerSec) := by
  obtain ⟨start, stop⟩ := w
  obtain ⟨h1, h2⟩ := h
  rw [Bool.eq_iff_iff, matches_iff, matches_iff]
  simp only [Window.toSec, Option.map_eq_some_iff, forall_exists_index, and_imp, forall_apply_eq_imp_iff₂] at *
  exact and_congr (forall_congr' fun s => imp_congr_right fun hs => le_iff_div_of_dvd nsPerSec_pos (h1 s hs))
    (forall_congr' fun e => imp_congr_right fun he => lt_iff_div_of_dvd nsPerSec_pos (h2 e he))

theorem timeOfDay_div (t : Nat) : timeOfDay t / nsPerSec = (t / nsPerSec) % 86400 := by
  unfold timeOfDay
  rw [nsPerDay_eq, Nat.mul_comm 86400 nsPerSec, Nat.mod_mul_right_div_self]

theorem weekdayNum_div (t : Nat) : weekdayNum t = ((t / nsPerSec) / 86400 + 3) % 7 := by
  unfold weekdayNum
  rw [nsPerDay_eq, Nat.div_div_eq_div_mul, Nat.mul_comm nsPerSec 86400]

theorem num_lt (d : Weekday) : d.num < 7 := by cases d <;> decide

theorem ofNum_num (d : Weekday) : Weekday.ofNum d.num = d := by cases d <;> rfl

theorem num_injective {a b : Weekday} (h : a.num = b.num) : a = b := by
  rw [← ofNum_num a, ← ofNum_num b, h]

theorem cmpNums_spec (a b : List Nat) :
    (cmpNums a b = .lt ↔ a < b) ∧ (cmpNums a b = .eq ↔ a = b) ∧ (cmpNums a b = .gt ↔ b < a) := by
  fun_induction cmpNums a b with
  | case1 => simp
  | case2 => simp
  | case3 => simp
  | case4 a as b bs h => simp [List.cons_lt_cons_iff, h]; omega
  | case5 a as b bs h1 h2 => simp [List.cons_lt_cons_iff, h1, h2]; omega
  | case6 a as b bs h1 h2 ih =>
    have : a = b := by omega
    subst this
    simpa [List.cons_lt_cons_iff] using ih

theorem cmpNums_eq_iff (a b : List Nat) : cmpNums a b = .eq ↔ a = b := (cmpNums_spec a b).2.1

theorem cmpNums_swap (a b : List Nat) : cmpNums a b = .lt ↔ cmpNums b a = .gt :=
  (cmpNums_spec a b).1.trans (cmpNums_spec b a).2.2.symm

theorem cmpNums_lt_trans {a b c : List Nat} (h1 : cmpNums a b = .lt) (h2 : cmpNums b c = .lt) :
    cmpNums a c = .lt :=
  (cmpNums_spec a c).1.2 (List.lt_trans ((cmpNums_spec a b).1.1 h1) ((cmpNums_spec b c).1.1 h2))

end Rio.TimeWindow
