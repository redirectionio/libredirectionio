/-
Keyed view of the stored entries, for clients that think of the tree as a map (pattern, id) ↦ value
(the router's host layer over the real tree, `HostT.look` in Proofs/RouterTreeHost): `lookupE` on `contents` after
insert / remove / retain / modifyAt.
-/
import RioModel.Proofs.TreeHistory

namespace Rio.Tree

variable {ι V : Type} [DecidableEq ι]

def lookupE (L : List (Entry ι V)) (p : List Char) (id : ι) : Option V :=
  (L.find? fun e => decide (e.pat = p ∧ e.id = id)).map (·.val)

theorem lookupE_nil (p : List Char) (id : ι) : lookupE ([] : List (Entry ι V)) p id = none := rfl

theorem lookupE_cons (a : Entry ι V) (L : List (Entry ι V)) (p : List Char) (id : ι) :
    lookupE (a :: L) p id = if a.pat = p ∧ a.id = id then some a.val else lookupE L p id := by
  unfold lookupE
  rw [List.find?_cons]
  by_cases h : a.pat = p ∧ a.id = id <;> simp [h]

theorem lookupE_none_iff {L : List (Entry ι V)} {p : List Char} {id : ι} :
    lookupE L p id = none ↔ ∀ e ∈ L, ¬(e.pat = p ∧ e.id = id) := by
  simp only [lookupE, Option.map_eq_none_iff, List.find?_eq_none, decide_eq_true_eq]

theorem lookupE_some_iff {L : List (Entry ι V)} (h : KeyNodup L) {p : List Char} {id : ι} {v : V} :
    lookupE L p id = some v ↔ (⟨p, id, v⟩ : Entry ι V) ∈ L := by
  induction L with
  | nil => simp [lookupE_nil]
  | cons a L ih =>
    rw [KeyNodup, List.pairwise_cons] at h
    rw [lookupE_cons]
    by_cases hk : a.pat = p ∧ a.id = id
    · simp only [hk, and_self, if_true, Option.some.injEq, List.mem_cons]
      constructor
      · intro hv; left; obtain ⟨h1, h2⟩ := hk; cases a; simp_all
      · rintro (he | he)
        · rw [← he]
        · exact absurd hk (h.1 _ he)
    · simp only [hk, if_false, List.mem_cons]
      rw [ih h.2]
      constructor
      · exact Or.inr
      · rintro (he | he)
        · exfalso; apply hk; rw [← he]; exact ⟨rfl, rfl⟩
        · exact he

theorem lookupE_perm {L L' : List (Entry ι V)} (h : KeyNodup L) (hp : L.Perm L') (p : List Char) (id : ι) :
    lookupE L p id = lookupE L' p id := by
  have h' : KeyNodup L' := h.perm hp
  cases hl : lookupE L' p id with
  | none =>
    rw [lookupE_none_iff] at hl ⊢
    exact fun e he => hl e (hp.subset he)
  | some v =>
    rw [lookupE_some_iff h'] at hl
    rw [lookupE_some_iff h]
    exact hp.symm.subset hl

theorem lookupE_refInsert (L : List (Entry ι V)) (p : List Char) (id : ι) (v : V) (p' : List Char) (id' : ι) :
    lookupE (refInsert L p id v) p' id' = if p' = p ∧ id' = id then some v else lookupE L p' id' := by
  induction L with
  | nil =>
    simp only [refInsert, lookupE_cons, lookupE_nil]
    by_cases h : p' = p ∧ id' = id
    · obtain ⟨rfl, rfl⟩ := h; simp
    · have : ¬(p = p' ∧ id = id') := fun hh => h ⟨hh.1.symm, hh.2.symm⟩
      simp only [h, this, if_false]
  | cons a L ih =>
    simp only [refInsert]
    by_cases hk : a.pat = p ∧ a.id = id
    · simp only [hk, and_self, if_true, lookupE_cons]
      by_cases h : p' = p ∧ id' = id
      · simp [h]
      · have h1 : ¬(p = p' ∧ id = id') := fun hh => h ⟨hh.1.symm, hh.2.symm⟩
        simp [h, h1]
    · simp only [hk, if_false, lookupE_cons, ih]
      by_cases h : a.pat = p' ∧ a.id = id'
      · have : ¬(p' = p ∧ id' = id) := fun hh => hk ⟨h.1.trans hh.1, h.2.trans hh.2⟩
        simp [h, this]
      · simp [h]

theorem lookupE_refRetain {L : List (Entry ι V)} (h : KeyNodup L) (f : ι → V → Option V) (p : List Char) (id : ι) :
    lookupE (refRetain L f) p id = (lookupE L p id).bind (f id) := by
  induction L with
  | nil => simp [refRetain, lookupE_nil]
  | cons a L ih =>
    rw [KeyNodup, List.pairwise_cons] at h
    have ih' := ih h.2
    rw [lookupE_cons]
    cases hf : f a.id a.val with
    | none =>
      have hcons : refRetain (a :: L) f = refRetain L f := by
        simp [refRetain, hf]
      rw [hcons]
      by_cases hk : a.pat = p ∧ a.id = id
      · rw [if_pos hk, Option.bind_some, ← hk.2, hf, lookupE_none_iff]
        intro e he hke
        obtain ⟨e0, he0, hp, hi, _⟩ := mem_refRetain he
        exact h.1 e0 he0 ⟨hk.1.trans (hke.1.symm.trans hp), hke.2.symm.trans hi⟩
      · rw [if_neg hk]; exact ih'
    | some v' =>
      have hcons : refRetain (a :: L) f = ⟨a.pat, a.id, v'⟩ :: refRetain L f := by
        simp [refRetain, hf]
      rw [hcons, lookupE_cons]
      by_cases hk : a.pat = p ∧ a.id = id
      · rw [if_pos hk, if_pos hk, Option.bind_some, ← hk.2, hf]
      · rw [if_neg hk, if_neg hk]; exact ih'

theorem lookupE_refModify (L : List (Entry ι V)) (p0 : List Char) (g : ι → V → V) (p : List Char) (id : ι) :
    lookupE (refModify L p0 g) p id = (lookupE L p id).map fun v => if p = p0 then g id v else v := by
  induction L with
  | nil => simp [refModify, lookupE_nil]
  | cons a L ih =>
    have hcons : refModify (a :: L) p0 g =
        (if a.pat = p0 then ⟨a.pat, a.id, g a.id a.val⟩ else a) :: refModify L p0 g := by simp [refModify]
    rw [hcons, lookupE_cons, lookupE_cons, (refModify_id p0 g a).1, (refModify_id p0 g a).2]
    by_cases hk : a.pat = p ∧ a.id = id
    · simp only [hk, and_self, if_true, Option.map_some]
      by_cases hp : p = p0
      · simp [hp]
      · simp [hp]
    · simp only [hk, if_false]; exact ih

theorem lookupE_refRemove {L : List (Entry ι V)} (h : IdNodup L) (id0 : ι) (p : List Char) (id : ι) :
    lookupE (refRemove L id0) p id = if id = id0 then none else lookupE L p id := by
  rw [refRemove_eq_filter h]
  induction L with
  | nil => simp [lookupE_nil]
  | cons a L ih =>
    rw [IdNodup, List.pairwise_cons] at h
    have ih' := ih h.2
    rw [List.filter_cons, lookupE_cons]
    by_cases ha : a.id = id0
    · simp only [ha, decide_true, Bool.not_true, Bool.false_eq_true, if_false]
      rw [ih']
      by_cases hi : id = id0
      · simp [hi]
      · have : ¬(a.pat = p ∧ id0 = id) := fun hh => hi hh.2.symm
        simp [hi, this]
    · simp only [ha, decide_false, Bool.not_false, if_true, lookupE_cons]
      by_cases hk : a.pat = p ∧ a.id = id
      · have : ¬ id = id0 := fun e => ha (hk.2.trans e)
        simp [hk, this]
      · simp only [hk, if_false]; exact ih'

theorem lookup_insert {ic : Bool} (t : Item ι V) (p : List Char) (id : ι) (v : V) (h : t.inv ic = true)
    (p' : List Char) (id' : ι) :
    lookupE (t.insert p id v).contents p' id' =
      if p' = p ∧ id' = id then some v else lookupE t.contents p' id' := by
  rw [lookupE_perm (keyNodup_contents _ (inv_insert t p id v h)) (contents_insert t p id v h), lookupE_refInsert]

theorem lookup_retain {ic : Bool} (t : Item ι V) (f : ι → V → Option V) (h : t.inv ic = true)
    (p : List Char) (id : ι) :
    lookupE (t.retain f).contents p id = (lookupE t.contents p id).bind (f id) := by
  rw [contents_retain, lookupE_refRetain (keyNodup_contents t h)]

theorem lookup_modifyAt {ic : Bool} (t : Item ι V) (p0 : List Char) (g : ι → V → V) (h : t.inv ic = true)
    (p : List Char) (id : ι) :
    lookupE (t.modifyAt p0 g).contents p id =
      (lookupE t.contents p id).map fun v => if p = p0 then g id v else v := by
  rw [contents_modifyAt t p0 g h, lookupE_refModify]

theorem lookup_remove (t : Item ι V) (id0 : ι) (hnd : IdNodup t.contents) (p : List Char) (id : ι) :
    lookupE (t.remove id0).1.contents p id = if id = id0 then none else lookupE t.contents p id := by
  rw [(contents_remove t id0).1, lookupE_refRemove hnd]

end Rio.Tree
