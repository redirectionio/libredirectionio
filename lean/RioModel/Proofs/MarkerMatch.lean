/-
C10 helpers: the regex engine as a parameter.  A pattern produced by `MarkerString::new` is a token list
(`Proofs/MarkerRegex`); the engine is assumed to implement the concatenation of the languages of the tokens
(`EngineLaws`, DESIGN §3).  From that: instantiations match, a match is a decomposition, delimiter-separated
instantiations decompose uniquely (so a rejected value does not match and the captures are the instantiation).
Last, the capture map: `extendMap` (`HashMap::extend`) read through `lookup` (`lookup_extendMap`, for `C10.sod_inst`), and
`dedupKeys`, the map the witness engine of `C10.engineLaws_satisfiable` returns.
-/
import RioModel.Model.MarkerSpec

namespace Rio.Marker

/-- `s` splits along the tokens: a literal token consumes one char equal to it up to `ceq` (equality, or
equality up to case when the regex is built case-insensitively), a group token consumes a string accepted by
its expression (`L re v`).  `vs` = the consumed group values in order. -/
inductive Decomp (L : Str → Str → Prop) (ceq : Char → Char → Bool) : List Tok → Str → List (Str × Str) → Prop
  | nil : Decomp L ceq [] [] []
  | lit {c d ts s vs} : ceq c d = true → Decomp L ceq ts s vs → Decomp L ceq (.lit c :: ts) (d :: s) vs
  | grp {n re ts v s vs} : L re v → Decomp L ceq ts s vs → Decomp L ceq (.grp n re :: ts) (v ++ s) ((n, v) :: vs)

/-- What is assumed of the `regex` crate about the pattern built from ONE token list `ts`, for one
case-sensitivity setting: `full p s` = `^p$` matches `s`, `search p s` = `p` matches somewhere in `s`, `caps p s` =
the named groups of the match of `^p$`.  `L` is the language of the marker expressions under that setting.
In the capturing pattern only the FIRST group of a name is a named group (`renderCapture`), so the captured value
of a repeated marker is the value consumed by its first group: `vs.lookup n`. -/
structure EngineLaws (L : Str → Str → Prop) (ceq : Char → Char → Bool)
    (full search : Str → Str → Bool) (caps : Str → Str → Option (List (Str × Str))) (ts : List Tok) : Prop where
  full_iff : ∀ s, full (renderRegex ts) s = true ↔ ∃ vs, Decomp L ceq ts s vs
  search_iff : ∀ s, search (renderRegex ts) s = true ↔ ∃ a mid b vs, s = a ++ mid ++ b ∧ Decomp L ceq ts mid vs
  /-- the engine returns the groups of SOME decomposition (which one is its business) -/
  caps_sound : ∀ s m, caps (renderCapture ts) s = some m →
    ∃ vs, Decomp L ceq ts s vs ∧ ∀ n, m.lookup n = vs.lookup n
  caps_complete : ∀ s, (∃ vs, Decomp L ceq ts s vs) → (caps (renderCapture ts) s).isSome = true
  /-- the result is a map: every group name once -/
  caps_nodup : ∀ s m, caps (renderCapture ts) s = some m → (names m).Nodup

/-- The same laws at ONE haystack `s`: what the theorems about a given request actually use (so that they can be
discharged for a concrete engine and request by evaluation). -/
structure EngineLawsAt (L : Str → Str → Prop) (ceq : Char → Char → Bool)
    (full search : Str → Str → Bool) (caps : Str → Str → Option (List (Str × Str))) (ts : List Tok) (s : Str) :
    Prop where
  full_iff : full (renderRegex ts) s = true ↔ ∃ vs, Decomp L ceq ts s vs
  search_iff : search (renderRegex ts) s = true ↔ ∃ a mid b vs, s = a ++ mid ++ b ∧ Decomp L ceq ts mid vs
  caps_sound : ∀ m, caps (renderCapture ts) s = some m → ∃ vs, Decomp L ceq ts s vs ∧ ∀ n, m.lookup n = vs.lookup n
  caps_complete : (∃ vs, Decomp L ceq ts s vs) → (caps (renderCapture ts) s).isSome = true
  caps_nodup : ∀ m, caps (renderCapture ts) s = some m → (names m).Nodup

/-- The laws for all haystacks give the laws at one; with `C10.engineLaws_satisfiable`, the laws the theorems assume
(`EngineLawsAt`) are consistent at every haystack. -/
theorem EngineLaws.at_ {L : Str → Str → Prop} {ceq : Char → Char → Bool} {full search : Str → Str → Bool}
    {caps : Str → Str → Option (List (Str × Str))} {ts : List Tok}
    (laws : EngineLaws L ceq full search caps ts) (s : Str) : EngineLawsAt L ceq full search caps ts s :=
  ⟨laws.full_iff s, laws.search_iff s, laws.caps_sound s, laws.caps_complete s, laws.caps_nodup s⟩

def infixes (s : Str) : List Str :=
  (List.range (s.length + 1)).flatMap fun a => (List.range (s.length - a + 1)).map fun k => (s.drop a).take k

/-- `p` matches somewhere in `s` = `^p$` matches some infix of `s` (what `Regex::is_match` means for a pattern
without anchors or look-around). -/
def searchOf (full : Str → Str → Bool) (p s : Str) : Bool := (infixes s).any (full p)

theorem mem_infixes (s mid : Str) : mid ∈ infixes s ↔ ∃ a b, s = a ++ mid ++ b := by
  simp only [infixes, List.mem_flatMap, List.mem_range, List.mem_map]
  constructor
  · rintro ⟨a, _, k, _, rfl⟩
    refine ⟨s.take a, (s.drop a).drop k, ?_⟩
    rw [List.append_assoc, List.take_append_drop, List.take_append_drop]
  · rintro ⟨a, b, rfl⟩
    refine ⟨a.length, by simp; omega, mid.length, by simp; omega, ?_⟩
    simp

theorem searchOf_iff (L : Str → Str → Prop) (ceq : Char → Char → Bool) (full : Str → Str → Bool) (ts : List Tok)
    (hfull : ∀ s, full (renderRegex ts) s = true ↔ ∃ vs, Decomp L ceq ts s vs) (s : Str) :
    searchOf full (renderRegex ts) s = true ↔ ∃ a mid b vs, s = a ++ mid ++ b ∧ Decomp L ceq ts mid vs := by
  simp only [searchOf, List.any_eq_true]
  constructor
  · rintro ⟨mid, hmem, hf⟩
    obtain ⟨a, b, rfl⟩ := (mem_infixes s mid).mp hmem
    obtain ⟨vs, hvs⟩ := (hfull mid).mp hf
    exact ⟨a, mid, b, vs, rfl, hvs⟩
  · rintro ⟨a, mid, b, vs, rfl, hvs⟩
    exact ⟨mid, (mem_infixes _ mid).mpr ⟨a, b, rfl⟩, (hfull mid).mpr ⟨vs, hvs⟩⟩

/-- For every template, delimiter-separated or not: an instantiation with accepted values decomposes into those values. -/
theorem decomp_inst (L : Str → Str → Prop) (ceq : Char → Char → Bool) (hrefl : ∀ c, ceq c c = true)
    (ts : List Tok) (v : Str → Str) (hacc : ∀ n re, Tok.grp n re ∈ ts → L re (v n)) :
    Decomp L ceq ts (instOf ts v) (groupValues ts v) := by
  induction ts with
  | nil => exact .nil
  | cons tk ts ih =>
    have ih' := ih fun n re h => hacc n re (List.mem_cons_of_mem _ h)
    cases tk with
    | lit c => exact .lit (hrefl c) ih'
    | grp n re => exact .grp (hacc n re List.mem_cons_self) ih'

/-- Delimiter-separated for the instantiation `v`: every group is the last token, or is followed by a literal
`d` that is matched by no char of the group's instantiated value nor of any string its expression accepts. -/
def Delimited (L : Str → Str → Prop) (ceq : Char → Char → Bool) (v : Str → Str) : List Tok → Prop
  | [] => True
  | .lit _ :: ts => Delimited L ceq v ts
  | .grp _ _ :: [] => True
  | .grp n re :: .lit d :: ts =>
    (∀ x ∈ v n, ceq d x = false) ∧ (∀ w, L re w → ∀ x ∈ w, ceq d x = false) ∧ Delimited L ceq v (.lit d :: ts)
  | .grp _ _ :: .grp _ _ :: _ => False

/-- One string cut behind `a` (no `P`-char) and behind `b`, at a `P`-char `d`: the cuts coincide, or `b` is longer (it holds `c`,
and `d` stands in `x`).  Used with `P := ceq d`. -/
theorem split_at_first (P : Char → Bool) (a b x y : Str) (c d : Char) (ha : ∀ z ∈ a, P z = false)
    (hd : P d = true) (h : a ++ c :: x = b ++ d :: y) : (a = b ∧ x = y) ∨ (c ∈ b ∧ d ∈ x) := by
  -- one of the two cut points comes first
  rcases List.append_eq_append_iff.mp h with ⟨a', rfl, h'⟩ | ⟨b', rfl, h'⟩
  · cases a' with
    | nil => exact .inl ⟨(List.append_nil a).symm, (List.cons.inj h').2⟩
    | cons e a'' =>
      obtain ⟨rfl, rfl⟩ := List.cons.inj h'
      exact .inr ⟨by simp, by simp⟩
  · cases b' with
    | nil => exact .inl ⟨List.append_nil b, ((List.cons.inj h').2).symm⟩
    | cons e b'' =>
      obtain ⟨rfl, -⟩ := List.cons.inj h'
      have := ha d (by simp)
      rw [hd] at this; cases this

theorem decomp_nil_inv {L : Str → Str → Prop} {ceq : Char → Char → Bool} {s : Str} {vs : List (Str × Str)}
    (h : Decomp L ceq [] s vs) : s = [] ∧ vs = [] := by
  cases h; exact ⟨rfl, rfl⟩

theorem decomp_lit_inv {L : Str → Str → Prop} {ceq : Char → Char → Bool} {c : Char} {ts : List Tok} {s : Str}
    {vs : List (Str × Str)} (h : Decomp L ceq (.lit c :: ts) s vs) :
    ∃ d s', s = d :: s' ∧ ceq c d = true ∧ Decomp L ceq ts s' vs := by
  cases h with
  | lit hc hrest => exact ⟨_, _, rfl, hc, hrest⟩

theorem decomp_grp_inv {L : Str → Str → Prop} {ceq : Char → Char → Bool} {n re : Str} {ts : List Tok} {s : Str}
    {vs : List (Str × Str)} (h : Decomp L ceq (.grp n re :: ts) s vs) :
    ∃ w s' vs', s = w ++ s' ∧ vs = (n, w) :: vs' ∧ L re w ∧ Decomp L ceq ts s' vs' := by
  cases h with
  | grp hw hrest => exact ⟨_, _, _, rfl, rfl, hw, hrest⟩

theorem instOf_cons_lit (c : Char) (ts : List Tok) (v : Str → Str) : instOf (.lit c :: ts) v = c :: instOf ts v := by
  simp [instOf]

theorem instOf_cons_grp (n re : Str) (ts : List Tok) (v : Str → Str) :
    instOf (.grp n re :: ts) v = v n ++ instOf ts v := by
  simp [instOf]

theorem instOf_nil (v : Str → Str) : instOf [] v = [] := rfl

theorem instOf_map_lit (l : Str) (v : Str → Str) : instOf (l.map Tok.lit) v = l := by
  induction l with
  | nil => rfl
  | cons c cs ih => rw [List.map_cons, instOf_cons_lit, ih]

/-- Like `Delimited`, but a group followed by the literal `d` may have ANY language (an "anything" marker `.+?`,
`.*`) provided `d` does not occur in the rest of the instantiated string after that literal (the common shapes
`/@a/rest`, `/@a/@id`, `@sub.example`): the value side is always required (`d` not in the group's own value). -/
def DelimitedOr (L : Str → Str → Prop) (ceq : Char → Char → Bool) (v : Str → Str) : List Tok → Prop
  | [] => True
  | .lit _ :: ts => DelimitedOr L ceq v ts
  | .grp _ _ :: [] => True
  | .grp n re :: .lit d :: ts =>
    (∀ x ∈ v n, ceq d x = false) ∧
    ((∀ w, L re w → ∀ x ∈ w, ceq d x = false) ∨ (∀ x ∈ instOf ts v, ceq d x = false)) ∧
    DelimitedOr L ceq v (.lit d :: ts)
  | .grp _ _ :: .grp _ _ :: _ => False

theorem delimitedOr_lits_append (L : Str → Str → Prop) (ceq : Char → Char → Bool) (v : Str → Str) (l : Str)
    (ts : List Tok) : DelimitedOr L ceq v (l.map Tok.lit ++ ts) ↔ DelimitedOr L ceq v ts := by
  induction l with
  | nil => exact Iff.rfl
  | cons c cs ih => exact ih

theorem delimitedOr_of_delimited (L : Str → Str → Prop) (ceq : Char → Char → Bool) (v : Str → Str) (ts : List Tok)
    (h : Delimited L ceq v ts) : DelimitedOr L ceq v ts := by
  fun_induction Delimited L ceq v ts with
  | case1 | case3 => trivial
  | case2 c ts ih => exact ih h
  | case4 n re d ts ih => exact ⟨h.1, Or.inl h.2.1, ih h.2.2⟩
  | case5 => exact h.elim

theorem decomp_unique_or (L : Str → Str → Prop) (ceq : Char → Char → Bool) (hrefl : ∀ c, ceq c c = true)
    (v : Str → Str) (ts : List Tok)
    (hd : DelimitedOr L ceq v ts) (vs : List (Str × Str)) (h : Decomp L ceq ts (instOf ts v) vs) :
    vs = groupValues ts v := by
  fun_induction DelimitedOr L ceq v ts generalizing vs with
  | case1 => exact (decomp_nil_inv h).2
  | case2 c ts ih =>
    obtain ⟨d, s', heq, -, hrest⟩ := decomp_lit_inv h
    obtain ⟨-, rfl⟩ := List.cons.inj heq
    exact ih hd vs hrest
  | case3 n re =>
    obtain ⟨w, s', vs', heq, rfl, -, hrest⟩ := decomp_grp_inv h
    obtain ⟨rfl, rfl⟩ := decomp_nil_inv hrest
    rw [instOf_cons_grp, instOf_nil, List.append_nil, List.append_nil] at heq
    rw [← heq]; rfl
  | case4 n re d ts ih =>
    obtain ⟨hdv, hdL, hdrest⟩ := hd
    obtain ⟨w, s', vs', heq, rfl, hw, hrest⟩ := decomp_grp_inv h
    obtain ⟨d', s'', rfl, hcd, -⟩ := decomp_lit_inv hrest
    rw [instOf_cons_grp, instOf_cons_lit] at heq
    -- both sides are cut at a `d`-like char and `v n` has none: the cuts coincide, unless `w` is longer and has one
    -- (excluded if no accepted string has one) and then the rest of the instantiation has one too (excluded otherwise)
    have hvw : v n = w := by
      rcases split_at_first (ceq d) _ _ _ _ d d' hdv hcd heq with h | ⟨hdw, hd'⟩
      · exact h.1
      · rcases hdL with hL | hR
        · have := hL w hw d hdw; rw [hrefl d] at this; cases this
        · rw [hR d' hd'] at hcd; cases hcd
    subst hvw
    rw [← List.append_cancel_left heq] at hrest
    rw [ih hdrest vs' hrest]; rfl
  | case5 => exact hd.elim

theorem decomp_accepts {L : Str → Str → Prop} {ceq : Char → Char → Bool} {ts : List Tok} {s : Str}
    {vs : List (Str × Str)} (h : Decomp L ceq ts s vs) (v : Str → Str) (hvs : vs = groupValues ts v) :
    ∀ n re, Tok.grp n re ∈ ts → L re (v n) := by
  induction h with
  | nil => intro n re hm; cases hm
  | lit _ _ ih => exact fun n re hm => ih hvs n re ((List.mem_cons.mp hm).resolve_left Tok.noConfusion)
  | grp hw _ ih =>
    obtain ⟨hw', hvs'⟩ := List.cons.inj hvs
    intro n re hm
    rcases List.mem_cons.mp hm with e | hm
    · cases e; exact (Prod.mk.inj hw').2 ▸ hw
    · exact ih hvs' n re hm

/-- A delimiter-separated instantiation decomposes iff every value is accepted: its one decomposition
(`decomp_unique_or`) consumes the values themselves, so they are accepted (`decomp_accepts`); back by `decomp_inst`. -/
theorem decomp_inst_iff (L : Str → Str → Prop) (ceq : Char → Char → Bool) (hrefl : ∀ c, ceq c c = true)
    (v : Str → Str) (ts : List Tok) (hd : DelimitedOr L ceq v ts) :
    (∃ vs, Decomp L ceq ts (instOf ts v) vs) ↔ ∀ n re, Tok.grp n re ∈ ts → L re (v n) :=
  ⟨fun ⟨vs, h⟩ => decomp_accepts h v (decomp_unique_or L ceq hrefl v ts hd vs h),
    fun h => ⟨_, decomp_inst L ceq hrefl ts v h⟩⟩

section
variable {L : Str → Str → Prop} {ceq : Char → Char → Bool} {full search : Str → Str → Bool}
  {caps : Str → Str → Option (List (Str × Str))} {ts : List Tok} {v : Str → Str}

theorem EngineLawsAt.full_inst (laws : EngineLawsAt L ceq full search caps ts (instOf ts v))
    (hrefl : ∀ c, ceq c c = true) (hacc : ∀ n re, Tok.grp n re ∈ ts → L re (v n)) :
    full (renderRegex ts) (instOf ts v) = true :=
  laws.full_iff.mpr ⟨_, decomp_inst L ceq hrefl ts v hacc⟩

/-- The engine returns the groups of SOME decomposition; for a delimiter-separated template there is only one. -/
theorem EngineLawsAt.caps_inst (laws : EngineLawsAt L ceq full search caps ts (instOf ts v))
    (hrefl : ∀ c, ceq c c = true) (hdelim : DelimitedOr L ceq v ts)
    (hacc : ∀ n re, Tok.grp n re ∈ ts → L re (v n)) :
    ∃ m, caps (renderCapture ts) (instOf ts v) = some m ∧ (names m).Nodup ∧
      ∀ n, m.lookup n = (groupValues ts v).lookup n := by
  have hsome := laws.caps_complete ⟨_, decomp_inst L ceq hrefl ts v hacc⟩
  cases hc : caps (renderCapture ts) (instOf ts v) with
  | none => rw [hc] at hsome; cases hsome
  | some m =>
    obtain ⟨vs, hvs, hlk⟩ := laws.caps_sound m hc
    rw [decomp_unique_or L ceq hrefl v _ hdelim vs hvs] at hlk
    exact ⟨m, rfl, laws.caps_nodup m hc, hlk⟩

end

theorem decomp_names {L : Str → Str → Prop} {ceq : Char → Char → Bool} {ts : List Tok} {s : Str}
    {vs : List (Str × Str)} (h : Decomp L ceq ts s vs) : names vs = groupNames ts := by
  induction h with
  | nil => rfl
  | lit _ _ ih => simpa [groupNames] using ih
  | grp _ _ ih => simp only [names, List.map_cons, groupNames] at ih ⊢; rw [ih]

theorem lookup_append' {β : Type} (a b : List (Str × β)) (n : Str) :
    (a ++ b).lookup n = (a.lookup n).or (b.lookup n) :=
  List.lookup_append

theorem lookup_map_key {β : Type} (f : Str → β) {l : List Str} {k : Str} (h : k ∈ l) :
    (l.map fun n => (n, f n)).lookup k = some (f k) := by
  induction l with
  | nil => cases h
  | cons a as ih =>
    simp only [List.map_cons, List.lookup_cons]
    cases hk : k == a with
    | true => rw [eq_of_beq hk]
    | false => exact ih ((List.mem_cons.mp h).resolve_left (ne_of_beq_false hk))

theorem lookup_filter_ne {β : Type} (acc : List (Str × β)) (k n : Str) :
    (acc.filter fun e => e.1 != k).lookup n = if n = k then none else acc.lookup n := by
  induction acc with
  | nil => simp
  | cons p ps ih =>
    rw [List.filter_cons]
    by_cases hpk : p.1 = k
    · rw [if_neg (by simp [hpk]), ih, List.lookup_cons]
      by_cases hn : n = k
      · rw [if_pos hn, if_pos hn]
      · rw [if_neg hn, if_neg hn, beq_false_of_ne (hpk ▸ hn)]
    · rw [if_pos (by simp [hpk]), List.lookup_cons, List.lookup_cons, ih]
      cases h : n == p.1 with
      | false => rfl
      | true => exact (if_neg fun e => hpk (eq_of_beq h ▸ e)).symm

theorem extendMap_cons (m : List (Str × Str)) (x : Str × Str) (l : List (Str × Str)) :
    extendMap m (x :: l) = extendMap ((m.filter fun e => e.1 != x.1) ++ [x]) l := rfl

theorem lookup_extendMap (acc kv : List (Str × Str)) (hnd : (names kv).Nodup) (n : Str) :
    (extendMap acc kv).lookup n = (kv.lookup n).or (acc.lookup n) := by
  induction kv generalizing acc with
  | nil => simp [extendMap]
  | cons p ps ih =>
    obtain ⟨k, v⟩ := p
    simp only [names, List.map_cons, List.nodup_cons] at hnd
    rw [extendMap_cons, ih _ hnd.2, lookup_append', lookup_filter_ne]
    simp only [List.lookup_cons]
    by_cases hn : n = k
    · subst hn
      have hnot : ps.lookup n = none := List.lookup_eq_none_iff.mpr fun p hp =>
        bne_iff_ne.mpr fun e => hnd.1 (List.mem_map.mpr ⟨p, hp, e.symm⟩)
      simp [hnot]
    · have : (n == k) = false := by simpa using hn
      simp [hn, this]

theorem lookup_extendMap_nil (kv : List (Str × Str)) (hnd : (names kv).Nodup) (n : Str) :
    (extendMap [] kv).lookup n = kv.lookup n := by
  rw [lookup_extendMap [] kv hnd]; cases kv.lookup n <;> simp

/-- Keep the first entry of every name: the capture map of the witness engine of `C10.engineLaws_satisfiable`, with the
lookups of `vs` as `caps_sound` asks (`lookup_dedupKeys`) and every name once as `caps_nodup` asks (`nodup_names_dedupKeys`). -/
def dedupKeys : List (Str × Str) → List (Str × Str)
  | [] => []
  | p :: ps => p :: (dedupKeys ps).filter (fun e => e.1 != p.1)

theorem lookup_dedupKeys (vs : List (Str × Str)) (n : Str) : (dedupKeys vs).lookup n = vs.lookup n := by
  induction vs with
  | nil => rfl
  | cons p ps ih =>
    obtain ⟨k, v⟩ := p
    simp only [dedupKeys, List.lookup_cons, lookup_filter_ne, ih]
    by_cases hn : n = k
    · simp [hn]
    · have : (n == k) = false := by simpa using hn
      simp [this, hn]

theorem nodup_names_dedupKeys (vs : List (Str × Str)) : (names (dedupKeys vs)).Nodup := by
  induction vs with
  | nil => simp [dedupKeys, names]
  | cons p ps ih =>
    obtain ⟨k, v⟩ := p
    simp only [dedupKeys, names, List.map_cons, List.nodup_cons]
    constructor
    · intro h
      obtain ⟨q, hq, hqk⟩ := List.mem_map.mp h
      have := (List.mem_filter.mp hq).2
      simp at this
      exact this hqk
    · have hsub : List.Sublist (((dedupKeys ps).filter (fun e => e.1 != k)).map (·.1)) ((dedupKeys ps).map (·.1)) :=
        List.Sublist.map _ List.filter_sublist
      exact List.Nodup.sublist hsub ih

end Rio.Marker
