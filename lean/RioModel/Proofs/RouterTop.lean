/-
Router proofs: the `Router` (outermost matcher + id map): representation relation, its
preservation by every operation, exactness of a router built from a rule list (`g_match_exact`); and the loop of
`Router::cache` ends before its fuel does (`cacheLoop_terminates`, `asI64_lt`: Props/C12router, Proofs/CacheLoopGen).

Everything is proved once for an arbitrary outermost matcher `O` with laws `OL : MLaws O` (lemmas `g_*`); what inserts a
route or speaks of the flat `sat` needs `TowerSpec` besides.  `RRepr`, `rrepr_*`: the instance at the specification-level
tower; RouterTreeTop.lean has that at the tower over the real regex-tree model.
-/
import RioModel.Proofs.RouterSat
import RioModel.Model.RouterOps

namespace Rio.Router

def NodupIds (L : List Route) : Prop := (L.map (·.id)).Nodup

/-- every route built by `IntoRoute` (`intoRoute_wf`, Props/C01b.lean) can be found again by `remove`: `Ip.keysOf` is the
one `keysOf` that can return `some []` (a route in no bucket: counted, never found; `towerL_wf` for the other five) -/
def WFRoute (r : Route) : Prop := r.ips ≠ some []

/-- What the generic router proofs need of the outermost matcher: its layered `sat` is the flat
specification and parsed routes are well-formed for it. -/
structure TowerSpec (E : Env) {O : MOps} (OL : MLaws O) (GoodR : Route → Prop) : Prop where
  sat_eq : ∀ L r q, OL.sat L r q = sat E L r q
  wf : ∀ r, WFRoute r → OL.wf r
  /-- `GoodR`: the routes that may be inserted (all of them for the specification-level tower; the
  routes whose marker patterns are in the domain of C08 for the tower over the real tree model) -/
  ins : ∀ r, GoodR r → OL.okIns r

theorem sat_congr (E : Env) (L L' : List Route) (r : Route) (q : Req) (h : ∀ x, x ∈ L ↔ x ∈ L') :
    sat E L r q = sat E L' r q := by
  unfold sat
  congr 3
  rw [Bool.eq_iff_iff]
  simp only [List.any_eq_true, h]

section
variable (E : Env) {O : MOps} (OL : MLaws O) {GoodR : Route → Prop} (hT : TowerSpec E OL GoodR)

/-- Router state `S` represents the list `L` of live routes (each once, ids distinct). -/
structure RReprG (S : RouterG O) (L : List Route) : Prop where
  matcher : OL.Repr S.matcher L
  ids : NodupIds L
  keyed : ∀ e ∈ S.routes, e.1 = e.2.id
  perm : (S.routes.map Prod.snd).Perm L

theorem RReprG.uids {S : RouterG O} {L : List Route} (h : RReprG OL S L) : UIds L :=
  (nodupIds_uids h.ids).1

theorem g_empty : RReprG OL (RouterG.empty O) [] :=
  ⟨OL.repr_empty, by simp [NodupIds], by intro e he; simp [RouterG.empty] at he,
   by simp [RouterG.empty]⟩

/-- `rawRoutesOfList`: every route STORED in the traces, with repetitions (what `MLaws.mem_trace` speaks of);
`routesOfList` (`g_mem_trace`): `Trace::get_routes_from_traces`, deduplicated by id. -/
theorem g_mem_rawTrace (S : RouterG O) (L : List Route) (h : RReprG OL S L) (q : Req) (r : Route) :
    r ∈ rawRoutesOfList (RouterG.trace O S q) ↔ r ∈ RouterG.matchReq O S q :=
  OL.mem_trace _ _ q r h.matcher h.uids

theorem MLaws.mem_routesOfList (m : O.M) (L : List Route) (h : OL.Repr m L) (hU : UIds L) (q : Req) (r : Route) :
    r ∈ routesOfList (O.trace m q) ↔ r ∈ O.matchReq m q := by
  rw [mem_routesOfList_iff L hU _ (fun y hy =>
    ((OL.mem_match m L q y h hU).1 ((OL.mem_trace m L q y h hU).1 hy)).1) r]
  exact OL.mem_trace m L q r h hU

theorem g_mem_trace (S : RouterG O) (L : List Route) (h : RReprG OL S L) (q : Req) (r : Route) :
    r ∈ routesOfList (RouterG.trace O S q) ↔ r ∈ RouterG.matchReq O S q :=
  OL.mem_routesOfList S.matcher L h.matcher h.uids q r

theorem g_nodup_match (S : RouterG O) (L : List Route) (h : RReprG OL S L) (q : Req) :
    (RouterG.matchReq O S q).Nodup ∧ ((RouterG.matchReq O S q).map (·.id)).Nodup := by
  have hn := OL.nodup_match _ _ q h.matcher h.uids
  exact ⟨hn, (h.uids.mono fun x hx => ((OL.mem_match _ _ q x h.matcher h.uids).1 hx).1).nodup_ids hn⟩

theorem g_match_perm (S S' : RouterG O) (L L' : List Route) (h : RReprG OL S L) (h' : RReprG OL S' L')
    (hm : ∀ x, x ∈ L ↔ x ∈ L') (q : Req) : (RouterG.matchReq O S q).Perm (RouterG.matchReq O S' q) := by
  rw [List.perm_ext_iff_of_nodup (g_nodup_match OL S L h q).1 (g_nodup_match OL S' L' h' q).1]
  intro r
  unfold RouterG.matchReq
  rw [OL.mem_match _ _ q r h.matcher h.uids, OL.mem_match _ _ q r h'.matcher h'.uids, hm r, OL.sat_congr L L' r q hm]

theorem g_trace_perm (S : RouterG O) (L : List Route) (h : RReprG OL S L) (q : Req) :
    (routesOfList (RouterG.trace O S q)).Perm (RouterG.matchReq O S q) := by
  rw [List.perm_ext_iff_of_nodup (Rio.Util.nodup_of_map_nodup _ (routesOfList_nodupIds _))
    (g_nodup_match OL S L h q).1]
  intro r; exact g_mem_trace OL S L h q r

theorem g_len (S : RouterG O) (L : List Route) (h : RReprG OL S L) : RouterG.len O S = L.length := by
  unfold RouterG.len
  rw [← h.perm.length_eq, List.length_map]

theorem RReprG.keys_perm {S : RouterG O} {L : List Route} (h : RReprG OL S L) :
    (akeys S.routes).Perm (L.map (·.id)) := by
  have : akeys S.routes = (S.routes.map Prod.snd).map (·.id) := by
    unfold akeys
    rw [List.map_map]
    exact List.map_congr_left h.keyed
  rw [this]; exact h.perm.map _

theorem g_lookup (S : RouterG O) (L : List Route) (h : RReprG OL S L) (id : String) (r : Route) :
    RouterG.getRouteById O S id = some r ↔ (r ∈ L ∧ r.id = id) := by
  unfold RouterG.getRouteById
  rw [← mem_iff_alookup (h.keys_perm.nodup_iff.2 h.ids)]
  constructor
  · intro hm
    exact ⟨h.perm.mem_iff.1 (List.mem_map.mpr ⟨_, hm, rfl⟩), (h.keyed _ hm).symm⟩
  · rintro ⟨hr, rfl⟩
    obtain ⟨⟨k, v⟩, he, rfl⟩ := List.mem_map.mp (h.perm.mem_iff.2 hr)
    rw [← h.keyed _ he]; exact he

theorem map_snd_filter_key (S : RouterG O) (L : List Route) (h : RReprG OL S L) (p : String → Bool) :
    ((S.routes.filter (fun e => p e.1)).map Prod.snd).Perm (L.filter (fun r => p r.id)) := by
  have : (S.routes.filter (fun e => p e.1)).map Prod.snd =
      (S.routes.map Prod.snd).filter (fun r => p r.id) := by
    rw [List.filter_map]
    congr 1
    apply List.filter_congr
    intro e he
    simp only [Function.comp]
    rw [h.keyed e he]
  rw [this]
  exact h.perm.filter _

theorem nodupIds_filter (L : List Route) (p : Route → Bool) (h : NodupIds L) : NodupIds (L.filter p) := by
  unfold NodupIds at h ⊢
  exact ((List.filter_sublist (l := L)).map _).nodup h

theorem g_remove (S : RouterG O) (L : List Route) (id : String) (h : RReprG OL S L) :
    RReprG OL (RouterG.remove O id S).1 (L.filter (fun r => r.id != id)) := by
  unfold RouterG.remove
  cases hl : alookup id S.routes with
  | none =>
    simp only [Option.isSome_none, Bool.false_eq_true, if_false]
    -- no live route has this id: nothing changes
    have hno : ∀ r ∈ L, r.id ≠ id := fun r hr e =>
      (alookup_eq_none_iff _ _).1 hl (h.keys_perm.mem_iff.2 (List.mem_map.mpr ⟨r, hr, e⟩))
    have : L.filter (fun r => r.id != id) = L := by
      rw [List.filter_eq_self]; intro r hr; simpa using hno r hr
    rw [this]; exact h
  | some r0 =>
    simp only [Option.isSome_some, if_true]
    refine ⟨OL.repr_remove _ _ id h.matcher h.uids, nodupIds_filter _ _ h.ids, ?_, ?_⟩
    · intro e he; exact h.keyed e (List.mem_filter.mp he).1
    · exact map_snd_filter_key OL S L h (fun k => k != id)

theorem g_remove_none (S : RouterG O) (L : List Route) (id : String) (h : RReprG OL S L)
    (hno : ∀ r ∈ L, r.id ≠ id) : (RouterG.remove O id S).2 = none := by
  unfold RouterG.remove
  cases hl : alookup id S.routes with
  | none => simp
  | some r0 =>
    simp only [Option.isSome_some, if_true]
    exact OL.remove_none _ _ id h.matcher hno

theorem g_batch (S : RouterG O) (L : List Route) (ids : List String) (h : RReprG OL S L) :
    RReprG OL (RouterG.batchRemove O ids S) (L.filter (fun r => !ids.contains r.id)) := by
  unfold RouterG.batchRemove
  refine ⟨OL.repr_batch _ _ ids h.matcher, nodupIds_filter _ _ h.ids, ?_, ?_⟩
  · intro e he; exact h.keyed e (List.mem_filter.mp he).1
  · exact map_snd_filter_key OL S L h (fun k => !ids.contains k)

/-- The loop of `Router::cache` does nothing to the matcher but call its `cache`: the state stays
represented, and so does whatever `cache` preserves of a represented state. -/
theorem cacheLoop_inv (L : List Route) (P : O.M → Prop)
    (hstep : ∀ m limit level, OL.Repr m L → P m → P (O.cache limit level m).1) (fuel : Nat) :
    ∀ (prev : Int) (level retry : Nat) (m : O.M), OL.Repr m L → P m →
      OL.Repr (RouterG.cacheLoop O fuel prev level retry m).1 L ∧
        P (RouterG.cacheLoop O fuel prev level retry m).1 := by
  induction fuel with
  | zero => intro prev level retry m h hp; exact ⟨h, hp⟩
  | succ fuel ih =>
    intro prev level retry m h hP
    unfold RouterG.cacheLoop
    by_cases hp : prev > 0
    · have hr := OL.repr_cache m L prev.toNat level h
      have hP' := hstep m prev.toNat level h hP
      simp only [hp, if_true]
      split
      · split
        · exact ⟨hr, hP'⟩
        · exact ih _ _ _ _ hr hP'
      · exact ih _ _ _ _ hr hP'
    · simp only [hp, if_false]; exact ⟨h, hP⟩

theorem g_cache (S : RouterG O) (L : List Route) (limit : Option Nat) (h : RReprG OL S L) :
    RReprG OL (RouterG.cache O limit S) L :=
  ⟨(cacheLoop_inv OL L (fun _ => True) (fun _ _ _ _ _ => trivial) _ _ _ _ _ h.matcher trivial).1, h.ids, h.keyed,
    h.perm⟩

/-- `prev_cache_limit` is `limit as i64` (`RouterG.asI64`), hence below `2 ^ 63` whatever the `u64` limit. -/
theorem asI64_lt (n : Nat) : RouterG.asI64 n < 2 ^ 63 := by
  unfold RouterG.asI64
  have : n % 2 ^ 64 < 2 ^ 64 := Nat.mod_lt _ (by decide)
  split <;> omega

theorem asI64_of_lt (n : Nat) (h : n < 2 ^ 63) : RouterG.asI64 n = n := by
  unfold RouterG.asI64
  have : n % 2 ^ 64 = n := Nat.mod_eq_of_lt (by omega)
  rw [this]; simp [h]

include OL in
/-- **The `while prev_cache_limit > 0` loop terminates**: every iteration either lowers the budget
(a matcher's `cache` never returns more than it got) or uses up one of the six retries, so
`prev + 6` iterations suffice (`RouterG.cache` gives `prev + 7`).  The third component of `cacheLoop` is "the fuel ran
out". -/
theorem cacheLoop_terminates (fuel : Nat) : ∀ (prev : Int) (level retry : Nat) (m : O.M),
    prev < 2 ^ 63 → retry ≤ 5 → prev.toNat + (5 - retry) < fuel →
    (RouterG.cacheLoop O fuel prev level retry m).2.2 = false := by
  induction fuel with
  | zero => intro prev level retry m _ _ hf; omega
  | succ fuel ih =>
    intro prev level retry m hlt hr hf
    unfold RouterG.cacheLoop
    by_cases hp : prev > 0
    · simp only [hp, if_true]
      have hle := OL.cache_le m prev.toNat level
      generalize O.cache prev.toNat level m = c at hle ⊢
      have hn : c.2 < 2 ^ 63 := by omega
      rw [asI64_of_lt _ hn]
      split
      · rename_i heq
        split
        · rfl
        · rename_i hretry
          have : (c.2 : Int) = prev := by simpa using heq
          exact ih _ _ _ _ (by omega) (by omega) (by omega)
      · rename_i hne
        have : (c.2 : Int) ≠ prev := by simpa using hne
        exact ih _ _ _ _ (by omega) hr (by omega)
    · simp only [hp, if_false]

theorem insertAll_eq (rs L : List Route) : insertAll rs L = rs.reverse ++ L := by
  induction rs generalizing L with
  | nil => rfl
  | cons r rs ih => simp [insertAll, List.foldl_cons] at ih ⊢

theorem freshAll_of_nodupIds (rs : List Route) (h : NodupIds rs) : FreshAll rs [] := by
  have key : ∀ (rs L : List Route), NodupIds (L.reverse ++ rs) → FreshAll rs L := by
    intro rs
    induction rs with
    | nil => intro L _; trivial
    | cons r rs ih =>
      intro L hn
      refine ⟨?_, ih (r :: L) (by simpa [List.reverse_cons, List.append_assoc] using hn)⟩
      unfold NodupIds at hn
      simp only [List.map_append, List.map_reverse, List.map_cons] at hn
      rw [List.nodup_append] at hn
      intro hin
      exact hn.2.2 r.id (by simpa using hin) r.id (List.mem_cons_self ..) rfl
  exact key rs [] (by simpa using h)

include hT

theorem g_mem_match (S : RouterG O) (L : List Route) (h : RReprG OL S L) (q : Req) (r : Route) :
    r ∈ RouterG.matchReq O S q ↔ r ∈ L ∧ sat E L r q = true := by
  unfold RouterG.matchReq
  rw [OL.mem_match _ _ q r h.matcher h.uids, hT.sat_eq]

theorem g_insert (S : RouterG O) (L : List Route) (r : Route) (h : RReprG OL S L)
    (hfresh : r.id ∉ L.map (·.id)) (hg : GoodR r) : RReprG OL (RouterG.insert O r S) (r :: L) := by
  have hids : NodupIds (r :: L) := by
    unfold NodupIds; simp only [List.map_cons, List.nodup_cons]; exact ⟨hfresh, h.ids⟩
  have hk : r.id ∉ akeys S.routes := fun hin => hfresh (h.keys_perm.mem_iff.1 hin)
  refine ⟨OL.repr_insert _ _ r h.matcher (nodupIds_uids hids).1 (hT.ins r hg), hids, ?_, ?_⟩
  · intro e he
    simp only [RouterG.insert, aupsert_fresh _ _ _ _ hk, List.mem_append, List.mem_singleton] at he
    rcases he with he | he
    · exact h.keyed e he
    · rw [he]
  · simp only [RouterG.insert, aupsert_fresh _ _ _ _ hk, List.map_append, List.map_cons, List.map_nil]
    exact (List.perm_append_comm.trans (List.Perm.cons _ h.perm))

theorem g_remove_some (S : RouterG O) (L : List Route) (r : Route) (h : RReprG OL S L)
    (hr : r ∈ L) (hwf : WFRoute r) : (RouterG.remove O r.id S).2 = some r := by
  unfold RouterG.remove
  have := (g_lookup OL S L h r.id r).2 ⟨hr, rfl⟩
  unfold RouterG.getRouteById at this
  simp only [this, Option.isSome_some, if_true]
  exact OL.remove_some _ _ r.id r h.matcher h.uids hr (hT.wf r hwf) rfl

theorem g_insertAll (rs : List Route) (hg : ∀ r ∈ rs, GoodR r) :
    ∀ (S : RouterG O) (L : List Route), RReprG OL S L →
    FreshAll rs L → RReprG OL (rs.foldl (fun S r => RouterG.insert O r S) S) (insertAll rs L) := by
  induction rs with
  | nil => intro S L h _; exact h
  | cons r rs ih =>
    intro S L h hf
    simp only [List.foldl_cons, insertAll]
    exact ih (fun x hx => hg x (List.mem_cons_of_mem _ hx)) _ _
      (g_insert E OL hT S L r h hf.1 (hg r (List.mem_cons_self ..))) hf.2

theorem g_changeSet (S : RouterG O) (L : List Route) (added updated : List Route)
    (removed : List String) (h : RReprG OL S L)
    (hf : FreshAll (updated ++ added)
      (L.filter (fun r => !(removed ++ updated.map (·.id)).contains r.id)))
    (hg : ∀ r ∈ updated ++ added, GoodR r) :
    RReprG OL (RouterG.applyChangeSet O added updated removed S) (liveChangeSet added updated removed L) := by
  -- the two insertion loops are one loop over `updated ++ added`, in the router and in the live list
  unfold RouterG.applyChangeSet liveChangeSet insertAll
  simp only [← List.foldl_append]
  exact g_insertAll E OL hT _ hg _ _ (g_batch OL S L _ h) hf

theorem g_build (R : List Route) (h : NodupIds R) (hg : ∀ r ∈ R, GoodR r) :
    RReprG OL (RouterG.build O R) R.reverse := by
  have := g_insertAll E OL hT R hg (RouterG.empty O) [] (g_empty OL) (freshAll_of_nodupIds R h)
  rw [insertAll_eq, List.append_nil] at this
  exact this

theorem g_match_exact (R : List Route) (hR : NodupIds R) (hW : ∀ r ∈ R, GoodR r) (q : Req) :
    ((RouterG.matchReq O (RouterG.build O R) q).map (·.id)).Nodup ∧
    ∀ r, r ∈ RouterG.matchReq O (RouterG.build O R) q ↔ r ∈ R ∧ sat E R r q = true := by
  have h := g_build E OL hT R hR hW
  refine ⟨(g_nodup_match OL _ _ h q).2, fun r => ?_⟩
  rw [g_mem_match E OL hT _ _ h q r, List.mem_reverse,
    sat_congr E R.reverse R r q (fun x => List.mem_reverse)]

/-- The form in which the rule sources of the code reach the router: `Router::insert(rule)` is insert of
`rule.into_route(config)`. -/
theorem g_match_exact_map {α : Type} (f : α → Route) (srcs : List α) (hid : NodupIds (srcs.map f))
    (hW : ∀ a ∈ srcs, GoodR (f a)) (q : Req) :
    ((RouterG.matchReq O (RouterG.build O (srcs.map f)) q).map (·.id)).Nodup ∧
    ∀ r, r ∈ RouterG.matchReq O (RouterG.build O (srcs.map f)) q ↔
      ∃ a ∈ srcs, r = f a ∧ sat E (srcs.map f) r q = true := by
  obtain ⟨h1, h2⟩ := g_match_exact E OL hT (srcs.map f) hid
    (fun r hr => by obtain ⟨a, ha, rfl⟩ := List.mem_map.mp hr; exact hW a ha) q
  refine ⟨h1, fun r => (h2 r).trans ?_⟩
  rw [List.mem_map]
  exact ⟨fun ⟨⟨a, ha, e⟩, hp⟩ => ⟨a, ha, e.symm, hp⟩, fun ⟨a, ha, e, hp⟩ => ⟨⟨a, ha, e.symm⟩, hp⟩⟩

end

section
variable (E : Env)

theorem towerL_wf {P0 : MOps} (PL : MLaws P0) {P : Type} [DecidableEq P] (H : HostCfg P)
    (hPw : ∀ r, PL.wf r) (r : Route) (h : WFRoute r) : (towerL E PL H).wf r := by
  have hscheme : Scheme.keysOf r ≠ some [] := by
    rw [schemeKey_keysOf]; cases schemeKey r <;> simp
  have hhost : Host.keysOf H r ≠ some [] := by
    unfold Host.keysOf
    cases r.host with
    | none => simp
    | some sd =>
      cases sd with
      | static x => by_cases e : x = "" <;> simp [e]
      | dyn p => simp
  have hmethod : Method.keysOf r ≠ some [] := by
    unfold Method.keysOf
    cases r.methods with
    | none => simp
    | some ms =>
      cases ms with
      | nil => simp
      | cons m ms => by_cases e : r.excludeMethods.isSome = true <;> simp [e]
  have hheader : Header.keysOf E r ≠ some [] := by
    unfold Header.keysOf; split <;> simp
  have hdt : DateTime.keysOf r ≠ some [] := by
    unfold DateTime.keysOf; simp only; split <;> simp
  exact ⟨⟨⟨⟨⟨⟨hPw r, hdt⟩, hheader⟩, hmethod⟩, h⟩, hhost⟩, hscheme⟩

theorem towerSpec : TowerSpec E (towerLaws E) (fun _ => True) :=
  ⟨tower_sat E, towerL_wf E (pathLaws E) (specHost E) (fun _ => trivial), fun _ _ => trivial⟩

abbrev RRepr (S : Router E) (L : List Route) : Prop := RReprG (towerLaws E) S L

theorem rrepr_mem_match (S : Router E) (L : List Route) (h : RRepr E S L) (q : Req) (r : Route) :
    r ∈ S.matchReq E q ↔ r ∈ L ∧ sat E L r q = true := g_mem_match E _ (towerSpec E) S L h q r

theorem rrepr_nodup_match (S : Router E) (L : List Route) (h : RRepr E S L) (q : Req) :
    (S.matchReq E q).Nodup ∧ ((S.matchReq E q).map (·.id)).Nodup :=
  g_nodup_match _ S L h q

theorem rrepr_match_perm (S S' : Router E) (L L' : List Route) (h : RRepr E S L) (h' : RRepr E S' L')
    (hm : ∀ x, x ∈ L ↔ x ∈ L') (q : Req) : (S.matchReq E q).Perm (S'.matchReq E q) :=
  g_match_perm _ S S' L L' h h' hm q

theorem rrepr_mem_rawTrace (S : Router E) (L : List Route) (h : RRepr E S L) (q : Req) (r : Route) :
    r ∈ rawRoutesOfList (S.trace E q) ↔ r ∈ S.matchReq E q := g_mem_rawTrace _ S L h q r

theorem rrepr_mem_trace (S : Router E) (L : List Route) (h : RRepr E S L) (q : Req) (r : Route) :
    r ∈ routesOfList (S.trace E q) ↔ r ∈ S.matchReq E q := g_mem_trace _ S L h q r

theorem rrepr_trace_perm (S : Router E) (L : List Route) (h : RRepr E S L) (q : Req) :
    (routesOfList (S.trace E q)).Perm (S.matchReq E q) := g_trace_perm _ S L h q

theorem rrepr_build (R : List Route) (h : NodupIds R) : RRepr E (Router.build E R) R.reverse :=
  g_build E _ (towerSpec E) R h (fun _ _ => trivial)

end

end Rio.Router
