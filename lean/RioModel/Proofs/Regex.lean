/-
The derivative matcher of Model/Regex.lean decides the denotation `Lang`:
  `fmatch ic r s = true ↔ Lang ic r s`            (the model of `^r$`)
  `pmatch ic r s = true ↔ some prefix of s ∈ Lang`  (the model of `^r`)
-/
import RioModel.Model.Regex

namespace Rio.Regex

variable {ic : Bool}

theorem lang_none {w : List Char} : ¬ Lang ic .none w := by
  intro h; cases h

theorem lang_eps {w : List Char} : Lang ic .eps w ↔ w = [] := by
  constructor
  · intro h; cases h; rfl
  · rintro rfl; exact .eps

theorem lang_cls {k : Cls} {w : List Char} : Lang ic (.cls k) w ↔ ∃ c, w = [c] ∧ k.mem ic c = true := by
  constructor
  · intro h; cases h with | cls hm => exact ⟨_, rfl, hm⟩
  · rintro ⟨c, rfl, hm⟩; exact .cls hm

theorem lang_cat {a b : Re} {w : List Char} :
    Lang ic (.cat a b) w ↔ ∃ u v, w = u ++ v ∧ Lang ic a u ∧ Lang ic b v := by
  constructor
  · intro h; cases h with | cat h1 h2 => exact ⟨_, _, rfl, h1, h2⟩
  · rintro ⟨u, v, rfl, h1, h2⟩; exact .cat h1 h2

theorem lang_alt {a b : Re} {w : List Char} : Lang ic (.alt a b) w ↔ Lang ic a w ∨ Lang ic b w := by
  constructor
  · intro h; cases h with
    | altL h => exact Or.inl h
    | altR h => exact Or.inr h
  · rintro (h | h)
    · exact .altL h
    · exact .altR h

theorem lang_cat_cons {a b : Re} {c : Char} {w : List Char} :
    Lang ic (.cat a b) (c :: w) ↔
      (Lang ic a [] ∧ Lang ic b (c :: w)) ∨ ∃ u v, w = u ++ v ∧ Lang ic a (c :: u) ∧ Lang ic b v := by
  simp only [lang_cat, List.cons_eq_append_iff]
  constructor
  · rintro ⟨u, v, ⟨rfl, rfl⟩ | ⟨u', rfl, rfl⟩, h1, h2⟩
    · exact .inl ⟨h1, h2⟩
    · exact .inr ⟨u', v, rfl, h1, h2⟩
  · rintro (⟨h1, h2⟩ | ⟨u, v, rfl, h1, h2⟩)
    · exact ⟨[], _, .inl ⟨rfl, rfl⟩, h1, h2⟩
    · exact ⟨_, v, .inr ⟨u, rfl, rfl⟩, h1, h2⟩

theorem nullable_iff (r : Re) : nullable r = true ↔ Lang ic r [] := by
  induction r with
  | none => simp [nullable, lang_none]
  | eps => simp [nullable, lang_eps]
  | cls k => simp [nullable, lang_cls]
  | cat a b iha ihb => simp [nullable, iha, ihb, lang_cat, and_assoc]
  | alt a b iha ihb => simp [nullable, iha, ihb, lang_alt]
  | star a _ => simp [nullable]; exact .starNil

theorem lang_mkCat {a b : Re} {w : List Char} : Lang ic (mkCat a b) w ↔ Lang ic (.cat a b) w := by
  fun_cases mkCat a b <;> simp [lang_cat, lang_none]

theorem lang_mkAlt {a b : Re} {w : List Char} : Lang ic (mkAlt a b) w ↔ Lang ic (.alt a b) w := by
  fun_cases mkAlt a b <;> simp [lang_alt, lang_none]

theorem lang_star_cons {a : Re} {c : Char} {w : List Char} :
    Lang ic (.star a) (c :: w) ↔ ∃ u v, w = u ++ v ∧ Lang ic a (c :: u) ∧ Lang ic (.star a) v := by
  refine ⟨fun h => ?_, fun ⟨u, v, e, h1, h2⟩ => e ▸ .starCons h1 h2⟩
  generalize hr : Re.star a = r at h
  generalize hx : c :: w = x at h
  induction h generalizing w with
  | eps | cls _ | cat _ _ | altL _ | altR _ => cases hr
  | starNil => cases hx
  | @starCons a' u v h1 h2 _ ih2 =>
    cases hr
    -- an empty first round is skipped
    rcases List.cons_eq_append_iff.1 hx with ⟨rfl, rfl⟩ | ⟨u', rfl, rfl⟩
    · exact ih2 rfl rfl
    · exact ⟨u', v, rfl, h1, h2⟩

theorem lang_der (r : Re) (c : Char) (w : List Char) : Lang ic (der ic c r) w ↔ Lang ic r (c :: w) := by
  induction r generalizing w with
  | none => simp [der, lang_none]
  | eps => simp [der, lang_none, lang_eps]
  | cls k => by_cases hm : k.mem ic c = true <;> simp [der, hm, lang_eps, lang_none, lang_cls, and_assoc]
  | cat a b iha ihb =>
    rw [lang_cat_cons, ← nullable_iff, der]
    by_cases hn : nullable a = true
    · rw [if_pos hn, lang_mkAlt, lang_alt, lang_mkCat, lang_cat, ihb]
      simp only [iha, hn, true_and]; exact or_comm
    · rw [if_neg hn, lang_mkCat, lang_cat]
      simp only [iha, hn, Bool.false_eq_true, false_and, false_or]
  | alt a b iha ihb => simp [der, lang_mkAlt, lang_alt, iha, ihb]
  | star a iha => simp only [der, lang_mkCat, lang_cat, iha, lang_star_cons]

theorem fmatch_iff (r : Re) (s : List Char) : fmatch ic r s = true ↔ Lang ic r s := by
  induction s generalizing r with
  | nil => simp only [fmatch]; exact nullable_iff r
  | cons c cs ih => simp [fmatch, ih, lang_der]

theorem pmatch_iff (r : Re) (s : List Char) :
    pmatch ic r s = true ↔ ∃ u v, s = u ++ v ∧ Lang ic r u := by
  induction s generalizing r with
  | nil => simp [pmatch, nullable_iff (ic := ic)]
  | cons c cs ih =>
    -- the matched prefix is empty, or it is `c` followed by a prefix of the rest that the derivative matches
    simp only [pmatch, Bool.or_eq_true, ih, lang_der, nullable_iff (ic := ic), List.cons_eq_append_iff]
    constructor
    · rintro (h | ⟨u, v, rfl, h⟩)
      · exact ⟨[], _, .inl ⟨rfl, rfl⟩, h⟩
      · exact ⟨_, v, .inr ⟨u, rfl, rfl⟩, h⟩
    · rintro ⟨u, v, ⟨rfl, rfl⟩ | ⟨u', rfl, rfl⟩, h⟩
      · exact .inl h
      · exact .inr ⟨u', v, rfl, h⟩

theorem lang_catAll_append (ra rb : List Re) (w : List Char) :
    Lang ic (catAll (ra ++ rb)) w ↔ ∃ u v, w = u ++ v ∧ Lang ic (catAll ra) u ∧ Lang ic (catAll rb) v := by
  induction ra generalizing w with
  | nil =>
    simp only [List.nil_append, catAll, lang_eps]
    constructor
    · intro h; exact ⟨[], w, rfl, rfl, h⟩
    · rintro ⟨u, v, rfl, rfl, h⟩; simpa using h
  | cons r ra ih =>
    simp only [List.cons_append, catAll, lang_cat, ih]
    constructor
    · rintro ⟨u, v, rfl, h1, u', v', rfl, h2, h3⟩
      exact ⟨u ++ u', v', by simp, ⟨u, u', rfl, h1, h2⟩, h3⟩
    · rintro ⟨u, v, rfl, ⟨u1, u2, rfl, h1, h2⟩, h3⟩
      exact ⟨u1, u2 ++ v, by simp, h1, u2, v, rfl, h2, h3⟩

end Rio.Regex
