/-
The laws of the filter theorems about single tokens, for the concrete stream tokenizer `htmlTokenize.stream c d` =
`Tokenizer::new_fragment(d, c)` run to the `ErrorToken`: each is an instance of the induction principle of the loop
(`htmlStream_ind`, from `tokenizeGoX_ind`: `P` of every record, `Q` of every state), with no hypothesis on the bytes
beyond validity, and none on the context: `new_fragment` drops one that is no raw-text element name (`Ctx c` is used once,
for the context a failed run reports).
At the end the laws of the plain tokenizer (`Tokenizer::new`: append_child / prepend_child): it is the stream tokenizer
without a context (`htmlStream_nil_erase`), so each is the stream law at `c = []`.
-/
import RioModel.Proofs.HtmlTokBoundary
import RioModel.Proofs.FilterValid

namespace Rio.Filter
open Rio.Html Rio.Html.Tokenizer

/-- first disjunct: a run that took a failure exit reports the context it was given -/
theorem htmlStream_ind (P : TokX → Prop) (Q : Tokenizer → Prop)
    (step : ∀ t, Tokenizer.Inv t → Q t → (Tokenizer.next t).token ≠ .error → ∀ nm,
      P { tok := { kind := kindOf (Tokenizer.next t).token, raw := rawL (Tokenizer.next t), name := nm },
          cut := (Tokenizer.next t).err, ctx := t.rawTag })
    (qnext : ∀ t, Tokenizer.Inv t → Q t → Q (Tokenizer.next t))
    (c d : Bytes) (q0 : Q (Tokenizer.newFragment d.toArray c)) :
    (∀ x ∈ (htmlTokenize.stream c d).1, P x) ∧
    ((htmlTokenize.stream c d).2.2 = c ∨ ∃ t', Q t' ∧ (htmlTokenize.stream c d).2.2 = t'.rawTag) := by
  show (∀ x ∈ (htmlStream c d).1, P x) ∧ ((htmlStream c d).2.2 = c ∨ ∃ t', Q t' ∧ (htmlStream c d).2.2 = t'.rawTag)
  unfold htmlStream
  cases h : htmlStream? c d with
  | none => exact ⟨fun x hx => (by cases hx), Or.inl rfl⟩
  | some res =>
    obtain ⟨hP, t', _, hq, e⟩ := tokenizeGoX_ind P Q step qnext _ _ [] res (newFragment_inv d.toArray c) q0 h
      (fun x hx => (by cases hx))
    exact ⟨hP, Or.inr ⟨t', hq, e⟩⟩

theorem htmlTokenize_tokValidS : TokValidS htmlTokenize := fun c d _ hv =>
  (htmlStream_ind (fun x => V x.tok.raw) LoopInv (fun _ _ hq _ _ => hq.raw_valid) (fun _ _ hq => hq.next)
    c d (loopInv_newFragment d c hv)).1

theorem isTagKind_kindOf (k : TokenType) (h : isTagKind (kindOf k) = true) : isTagLike k = true := by
  revert h; cases k <;> decide

theorem next_isSpan (t : Tokenizer) (inv : Tokenizer.Inv t) (hk : isTagKind (kindOf (Tokenizer.next t).token) = true) :
    IsSpan (rawL (Tokenizer.next t)) := by
  have hl := isTagKind_kindOf _ hk
  have hne : (Tokenizer.next t).token ≠ .error := by
    intro he; rw [he] at hl; simp [isTagLike] at hl
  exact rawL_isSpan _ (next_inv' t inv) (next_tag t inv hl) ((next_post t inv).progress hne)

theorem htmlTokenize_tagSpanS : TagSpanS htmlTokenize := fun c d x hx =>
  (htmlStream_ind (fun x => isTagKind x.tok.kind = true → IsSpan x.tok.raw) (fun _ => True)
    (fun t hi _ _ _ hk => next_isSpan t hi hk) (fun _ _ _ => trivial) c d trivial).1 x hx

theorem ctx_iff (c : Bytes) : Ctx c ↔ RawCtx c := Iff.rfl

theorem htmlTokenize_ctxClosed : CtxClosed htmlTokenize := by
  intro c d hc
  obtain ⟨hP, he | ⟨t', hq, he⟩⟩ := htmlStream_ind (fun x => Ctx x.ctx) (fun t => RawCtx t.rawTag)
    (fun t _ hq _ _ => hq) (fun t hi hq => next_rawCtx t hi hq) c d (newFragment_rawCtx d.toArray c)
  · exact ⟨hP, by rw [he]; exact hc⟩
  · exact ⟨hP, by rw [he]; exact hq⟩

/-- token boundaries are UTF-8 character boundaries: every token ends at EOF, right after a `>` or right before a `<` -/
theorem htmlTokenize_tokValid : TokValid htmlTokenize := by
  intro d hv t ht
  rw [← (htmlStream_nil_erase d).1] at ht
  obtain ⟨x, hx, rfl⟩ := List.mem_map.mp ht
  exact htmlTokenize_tokValidS [] d (Or.inl rfl) hv x hx

theorem htmlTokenize_tagSpan : TagSpan htmlTokenize := by
  intro d t ht hk
  rw [← (htmlStream_nil_erase d).1] at ht
  obtain ⟨x, hx, rfl⟩ := List.mem_map.mp ht
  exact htmlTokenize_tagSpanS [] d x hx hk

end Rio.Filter
