/-
C16: the invariant of `Tokenizer.next`, what it gives for iterating `next` and for the accessors.
-/
import RioModel.Proofs.Html

namespace Rio.Html
namespace Tokenizer
open Rio.Consts

/-- What `next` needs and re-establishes; also preserved by the accessors. -/
structure Inv (t : Tokenizer) : Prop where
  raw : t.rawS ≤ t.rawE
  ok : Ok t
  tag : TagOk t.rawTag

theorem Inv.congr {t t' : Tokenizer} (h : Inv t) (e : advF t' = advF t := by unfold advF; rfl) : Inv t' :=
  have a := (Adv.refl h.ok).congr e
  ⟨a.rawS ▸ Nat.le_trans h.raw a.mono, a.ok, a.rawTag ▸ h.tag⟩

/-- The span fields the accessors slice with, right after `next`. -/
structure Spans (t : Tokenizer) : Prop where
  dataLo : t.dataS ≤ t.dataE
  dataHi : t.dataE ≤ t.rawE
  tagData : isTagLike t.token = true → t.dataS < t.dataE
  attrs : (t.token = .startTag ∨ t.token = .selfClosing) → AttrsOk t ∧ t.nAttrRet = 0

/-- What a token-producing step establishes relative to the state `b` it started from. -/
structure Post (b t' : Tokenizer) : Prop where
  buf : t'.buf = b.buf
  rawS : t'.rawS = b.rawS
  inv : Inv t'
  spans : Spans t'
  progress : t'.token ≠ .error → t'.rawS < t'.rawE

/-- `Adv` without the clauses about `raw_tag` / `allow_cdata`: what holds across `read_raw_or_cdata`, which resets `raw_tag` -/
structure Adv0 (t t' : Tokenizer) : Prop where
  buf : t'.buf = t.buf
  rawS : t'.rawS = t.rawS
  mono : t.rawE ≤ t'.rawE
  ok : Ok t'

theorem Adv.to0 {t t' : Tokenizer} (h : Adv t t') : Adv0 t t' := ⟨h.buf, h.rawS, h.mono, h.ok⟩

/-- Where every `Post` comes from: each leaf of `next` returns a state `x` reached from `t` (`Adv0`) with the token set to
`k`; the spans of `Post` need only the data span inside the raw span and, for a tag, the name and the attribute list. -/
theorem post_leaf (t x : Tokenizer) (k : TokenType) (a : Adv0 t x) (hr : t.rawS ≤ t.rawE) (ht : TagOk x.rawTag)
    (dlo : x.dataS ≤ x.dataE) (dhi : x.dataE ≤ x.rawE) (htd : isTagLike k = true → x.dataS < x.dataE)
    (hat : (k = .startTag ∨ k = .selfClosing) → AttrsOk x ∧ x.nAttrRet = 0)
    (hp : k ≠ .error → t.rawS < x.rawE) : Post t { x with token := k } := by
  refine ⟨a.buf, a.rawS, ⟨?_, a.ok.congr, ht⟩, ⟨dlo, dhi, htd, hat⟩, ?_⟩
  · have := a.rawS; have := a.mono; simp only; omega
  · intro hk; have := a.rawS; have := hp hk; simp only; omega

theorem isTagLike_start {k : TokenType} (h : k = .startTag ∨ k = .selfClosing) : isTagLike k = true := by
  rcases h with rfl | rfl <;> rfl

/-- neither tag-like nor the error; in use for text (the pending text before a `<` too), comment (the bogus ones too) and
doctype; `read_markup_declaration` returns only such (`markup_kind`) -/
def Markup (k : TokenType) : Prop := isTagLike k = false ∧ k ≠ .error

theorem Markup.text : Markup .text := ⟨rfl, nofun⟩
theorem Markup.comment : Markup .comment := ⟨rfl, nofun⟩
theorem Markup.doctype : Markup .doctype := ⟨rfl, nofun⟩

theorem post_markup {b x : Tokenizer} {k : TokenType} (hk : Markup k) (a : Adv b x) (hr : b.rawS ≤ b.rawE)
    (ht : TagOk b.rawTag) (dlo : x.dataS ≤ x.dataE) (dhi : x.dataE ≤ x.rawE) (hp : b.rawS < x.rawE) :
    Post b { x with token := k } :=
  post_leaf b x k a.to0 hr (a.rawTag ▸ ht) dlo dhi (fun h => nomatch hk.1.symm.trans h)
    (fun h => nomatch hk.1.symm.trans (isTagLike_start h)) fun _ => hp

theorem post_error {b x : Tokenizer} (a : Adv b x) (hr : b.rawS ≤ b.rawE) (ht : TagOk b.rawTag)
    (dlo : x.dataS ≤ x.dataE) (dhi : x.dataE ≤ x.rawE) : Post b { x with token := .error } :=
  post_leaf b x .error a.to0 hr (a.rawTag ▸ ht) dlo dhi nofun (fun h => nomatch h) fun h => absurd rfl h

theorem finishText_post (t x : Tokenizer) (a : Adv t x) (hr : t.rawS ≤ t.rawE) (ht : TagOk t.rawTag)
    (hd : x.dataS = t.rawS ∧ x.dataE = t.rawS) : Post t (finishText x) := by
  unfold finishText
  have hrs := a.rawS
  have hm := a.mono
  split
  · rename_i hlt
    have a' : Adv t { x with dataE := x.rawE } := a.congr
    exact post_markup .text a' hr ht (by simp only; omega) (Nat.le_refl _) (by simp only; omega)
  · exact post_error a hr ht (by omega) (by omega)

theorem Post.rebase {t u t' : Tokenizer} (hb : u.buf = t.buf) (hs : u.rawS = t.rawS) (p : Post u t') : Post t t' :=
  ⟨p.buf.trans hb, p.rawS.trans hs, p.inv, p.spans, p.progress⟩

theorem Markup.ite {c : Prop} [Decidable c] {x y : TokenType} (hx : Markup x) (hy : Markup y) :
    Markup (if c then x else y) := by
  by_cases h : c
  · rw [if_pos h]; exact hx
  · rw [if_neg h]; exact hy

theorem markupRest_kind (t : Tokenizer) : Markup (markupRest t).2 := by
  simp only [markupRest, apply_ite Prod.snd]
  exact .ite .doctype (.ite (.ite .text .comment) .comment)

theorem markup_kind (t : Tokenizer) : Markup (readMarkupDeclaration t).2 := by
  simp only [readMarkupDeclaration, markupGo, apply_ite Prod.snd]
  exact .ite .comment (.ite .comment (.ite .comment (markupRest_kind _)))

theorem post_decl {b y x : Tokenizer} {k : TokenType} (hk : Markup k) (a : Adv b y) (h1 : b.rawE < y.rawE)
    (d : Decl y x) (hr : b.rawS ≤ b.rawE) (ht : TagOk b.rawTag) : Post b { x with token := k } :=
  post_markup hk (a.trans d.adv) hr ht d.lo d.hi (by have := d.adv.mono; omega)

theorem post_tag {b y : Tokenizer} {save : Bool} (k : TokenType) (a : Adv b y) (hs : b.rawS < y.rawE)
    (hr : b.rawS ≤ b.rawE) (ht : TagOk b.rawTag) : Post b { readTag y save with token := k } := by
  have a4 := a.trans (readTag_adv y save a.ok (by omega))
  obtain ⟨sS, sLo, sHi, sA, sN⟩ := readTag_spec y save a.ok (by omega)
  have hm := a4.mono
  exact post_leaf b _ k a4.to0 hr (a4.rawTag ▸ ht) (by omega) sHi (fun _ => by omega) (fun _ => ⟨sA, sN⟩) fun _ => by omega

theorem Post.setRawTag {b x : Tokenizer} {bs : List Nat} (p : Post b x) (hbs : TagOk bs) :
    Post b { x with rawTag := bs } :=
  ⟨p.buf, p.rawS, ⟨p.inv.raw, p.inv.ok.congr, hbs⟩,
    ⟨p.spans.dataLo, p.spans.dataHi, p.spans.tagData, p.spans.attrs⟩, p.progress⟩

theorem dispatchTag_post (b t2 : Tokenizer) (c : Nat) (a : Adv b t2) (h2 : b.rawE + 2 ≤ t2.rawE)
    (hr : b.rawS ≤ b.rawE) (ht : TagOk b.rawTag) (hd : t2.dataS = b.rawS ∧ t2.dataE = b.rawS) :
    Post b (dispatchTag t2 c) := by
  have hrs := a.rawS
  have a3 := a.trans (readByte_adv a.ok)
  fun_cases dispatchTag t2 c
  all_goals (try dsimp +zetaDelta only [htmlTagOpenLen] at *)
  case case1 hlt => omega
  -- pending text before the `<`
  case case2 =>
    exact post_markup .text
      ((a.setRawE (by omega) (Nat.sub_le _ 2)).congr : Adv b { t2 with rawE := t2.rawE - 2, dataE := t2.rawE - 2 })
      hr ht (by simp only; omega) (Nat.le_refl _) (by simp only; omega)
  -- start tag
  case case3 =>
    obtain ⟨bs, e, hbs⟩ := readStartTag_shape t2 a.ok (by omega) (a.rawTag ▸ ht)
    rw [e]
    exact (post_tag _ a (by omega) hr ht).setRawTag hbs
  -- `</` at the end of the input, `</>`
  case case4 => exact finishText_post b _ a3 hr ht (by simpa using hd)
  case case5 =>
    have e3 := readByte_succ ‹¬ t2.readByte.1.err = true›
    exact post_markup .comment a3 hr ht (by simp [hd]) (by simp [hd]; omega) (by omega)
  -- end tag
  case case6 | case7 =>
    have e3 := readByte_succ ‹¬ t2.readByte.1.err = true›
    exact post_tag _ a3 (by omega) hr ht
  -- bogus comments `</x … >`, `<? … >`: the byte behind `</` or `<` is put back; `<!`
  case case8 =>
    rw [unread_readByte (readByte_ok ‹_›).2]
    exact post_decl .comment a (by omega) (readUntilCloseAngle_decl (Adv.refl a.ok)) hr ht
  case case9 => exact post_decl (markup_kind t2) a (by omega) (readMarkupDeclaration_decl t2 a.ok (by omega)) hr ht
  case case10 =>
    have a4 := unread_adv 1 a (by omega)
    have hu := unread_rawE_eq (t := t2) 1 (by omega)
    exact post_decl .comment a4 (by omega) (readUntilCloseAngle_decl (Adv.refl a4.ok)) hr ht

theorem mainLoop_post (t : Tokenizer) (h : Ok t) (hr : t.rawS ≤ t.rawE) (ht : TagOk t.rawTag)
    (hd : t.dataS = t.rawS ∧ t.dataE = t.rawS) : Post t (mainLoop t) := by
  rcases mainLoop_stop t h.le with ⟨p, hp1, hp2, e⟩ | ⟨q, c, h1, _, hc, _, e⟩
  · rw [e]; exact finishText_post _ _ (eof_adv h hp1 hp2) hr ht hd
  · rw [e]; exact dispatchTag_post t _ _ (opened_adv h h1 hc) (by show t.rawE + 2 ≤ q + 2; omega) hr ht hd

theorem readRawOrCdata_spec (t : Tokenizer) (h : Ok t) (ht : TagOk t.rawTag) :
    Adv0 t (readRawOrCdata t) ∧ (readRawOrCdata t).rawTag = [] ∧
    (readRawOrCdata t).dataS = t.dataS ∧ (readRawOrCdata t).dataE = (readRawOrCdata t).rawE := by
  unfold readRawOrCdata readScript
  split
  · rename_i hs
    have a : Adv t (scriptGo .data t) := At.scriptGo_adv (.of_adv (Adv.refl h)) (by simpa using hs)
    exact ⟨⟨a.buf, a.rawS, a.mono, a.ok.congr⟩, rfl, (scriptGo_data .data t).1, rfl⟩
  · have a := rawTextGo_adv t h ht
    exact ⟨⟨a.buf, a.rawS, a.mono, a.ok.congr⟩, rfl, (rawTextGo_data t).1, rfl⟩

theorem TagOk_nil : TagOk [] := by intro c hc; cases hc

/-- what `next` reads first in a raw-text context: the text up to the end tag, or up to EOF for `plaintext` -/
def rawText (t : Tokenizer) : Tokenizer :=
  if t.rawTag == htmlPlaintext then { t.readToEnd with dataE := t.readToEnd.rawE, textIsRaw := true }
  else t.readRawOrCdata

theorem nextGo_eq (t : Tokenizer) : nextGo t =
    if t.err then { t with token := .error }
    else if t.rawTag != [] then
      if (rawText t).dataE > (rawText t).dataS then { rawText t with token := .text, convertNull := true }
      else mainLoop { rawText t with textIsRaw := false, convertNull := false }
    else mainLoop { t with textIsRaw := false, convertNull := false } := rfl

theorem rawText_spec (t : Tokenizer) (ok : Ok t) (htag : TagOk t.rawTag) :
    Adv0 t (rawText t) ∧ ((rawText t).rawTag = [] ∨ ((rawText t).rawTag = t.rawTag ∧ t.rawTag = htmlPlaintext)) := by
  unfold rawText
  split
  · rename_i hp
    have a := readToEnd_adv t ok
    exact ⟨⟨a.buf, a.rawS, a.mono, a.ok.congr⟩, Or.inr ⟨a.rawTag, by simpa using hp⟩⟩
  · have s := readRawOrCdata_spec t ok htag
    exact ⟨s.1, Or.inl s.2.1⟩

theorem rawText_tagOk (t : Tokenizer) (ok : Ok t) (htag : TagOk t.rawTag) : TagOk (rawText t).rawTag := by
  rcases (rawText_spec t ok htag).2 with h | ⟨h, _⟩
  · rw [h]; exact TagOk_nil
  · rw [h]; exact htag

theorem rawText_data (t : Tokenizer) (ok : Ok t) (htag : TagOk t.rawTag) :
    (rawText t).dataS = t.dataS ∧ (rawText t).dataE = (rawText t).rawE := by
  unfold rawText
  split
  · exact ⟨(readToEnd_data t).1, rfl⟩
  · exact (readRawOrCdata_spec t ok htag).2.2

theorem nextGo_post (t0 : Tokenizer) (hok : Ok t0) (hrs : t0.rawS = t0.rawE) (hds : t0.dataS = t0.rawS)
    (hde : t0.dataE = t0.rawS) (htg : TagOk t0.rawTag) : Post t0 (nextGo t0) := by
  obtain ⟨a, _⟩ := rawText_spec t0 hok htg
  obtain ⟨d1, d2⟩ := rawText_data t0 hok htg
  have htg1 := rawText_tagOk t0 hok htg
  have hm := a.mono
  have hs := a.rawS
  fun_cases nextGo t0
  -- `self.err.is_some()`
  case case1 => exact post_error (Adv.refl hok) (Nat.le_of_eq hrs) htg (by omega) (by omega)
  -- raw text: a non-empty one is the token ...
  case case2 hgt =>
    -- `hgt` speaks of the `let t1` of `nextGo`, which is `rawText t0`
    have hgt' : (rawText t0).dataS < (rawText t0).dataE := hgt
    exact post_leaf t0 { rawText t0 with convertNull := true } .text ⟨a.buf, a.rawS, a.mono, a.ok.congr⟩
      (Nat.le_of_eq hrs) htg1 (Nat.le_of_lt hgt) (Nat.le_of_eq d2) nofun (by simp) fun _ => by
        show t0.rawS < (rawText t0).rawE
        omega
  -- ... after an empty one the main loop goes on
  case case3 hgt =>
    have hgt' : ¬ (rawText t0).dataS < (rawText t0).dataE := hgt
    exact Post.rebase (u := { rawText t0 with textIsRaw := false, convertNull := false }) a.buf a.rawS
      (mainLoop_post _ a.ok.congr (by show (rawText t0).rawS ≤ (rawText t0).rawE; omega) htg1
        ⟨d1.trans (hds.trans a.rawS.symm), by show (rawText t0).dataE = (rawText t0).rawS; omega⟩)
  case case4 =>
    exact Post.rebase (u := { t0 with textIsRaw := false, convertNull := false }) rfl rfl
      (mainLoop_post _ hok.congr (Nat.le_of_eq hrs) htg ⟨hds, hde⟩)

theorem next_post (t : Tokenizer) (h : Inv t) :
    Post { t with rawS := t.rawE, dataS := t.rawE, dataE := t.rawE } (next t) :=
  nextGo_post _ h.ok.congr rfl rfl rfl h.tag

/-- the state after `n` calls of `next()` (accessors are not called in between: by `Rio.C16.next_after_text` and
`Rio.C16.next_after_tag_name` calling them does not change what the following `next()` does) -/
def nexts : Nat → Tokenizer → Tokenizer
  | 0, t => t
  | n + 1, t => next (nexts n t)

/-- the bytes of the raw span as a total function (what `raw()` returns under `Inv`: `raw_eq`) -/
def rawL (t : Tokenizer) : List Nat := (t.buf.extract t.rawS t.rawE).toList
/-- … of the unread remainder (`buffered()`: `buffered_eq`) -/
def restL (t : Tokenizer) : List Nat := (t.buf.extract t.rawE t.buf.size).toList
/-- … of the data span (what `text()` and `tag_name()` decode) -/
def dataL (t : Tokenizer) : List Nat := (t.buf.extract t.dataS t.dataE).toList

-- primed: `Rio.C16.next_inv`, `.next_buf`, `.next_starts_where_previous_ended` (Props/C16.lean) are these, stated for C16
theorem next_inv' (t : Tokenizer) (h : Inv t) : Inv (next t) := (next_post t h).inv
theorem next_buf' (t : Tokenizer) (h : Inv t) : (next t).buf = t.buf := (next_post t h).buf
theorem next_rawS' (t : Tokenizer) (h : Inv t) : (next t).rawS = t.rawE := (next_post t h).rawS

theorem nexts_inv (n : Nat) (t : Tokenizer) (h : Inv t) : Inv (nexts n t) := by
  induction n with
  | zero => exact h
  | succ n ih => exact next_inv' _ ih

theorem nexts_buf (n : Nat) (t : Tokenizer) (h : Inv t) : (nexts n t).buf = t.buf := by
  induction n with
  | zero => rfl
  | succ n ih => exact (next_buf' _ (nexts_inv n t h)).trans ih

theorem extract_split (a : Array Nat) (i j k : Nat) (h1 : i ≤ j) (h2 : j ≤ k) :
    (a.extract i k).toList = (a.extract i j).toList ++ (a.extract j k).toList := by
  have := Array.extract_append_extract (as := a) (i := i) (j := j) (k := k)
  rw [Nat.min_eq_left h1, Nat.max_eq_right h2] at this
  rw [← this, Array.toList_append]

theorem consumed_eq (n : Nat) (t : Tokenizer) (h : Inv t) :
    (t.buf.extract t.rawE (nexts n t).rawE).toList =
      ((List.range n).map fun i => rawL (nexts (i + 1) t)).flatten ∧ t.rawE ≤ (nexts n t).rawE := by
  induction n with
  | zero => simp [nexts]
  | succ n ih =>
    have hi := nexts_inv n t h
    have hs : (nexts (n + 1) t).rawS = (nexts n t).rawE := next_rawS' _ hi
    have hr := (nexts_inv (n + 1) t h).raw
    have hb := nexts_buf (n + 1) t h
    rw [List.range_succ, List.map_append, List.flatten_append, ← ih.1]
    refine ⟨?_, by omega⟩
    rw [extract_split t.buf t.rawE (nexts n t).rawE (nexts (n + 1) t).rawE ih.2 (by omega)]
    simp [rawL, hs, hb]

theorem nexts_progress (n : Nat) (t : Tokenizer) (h : Inv t)
    (hne : ∀ i, i < n → (nexts (i + 1) t).token ≠ .error) : t.rawE + n ≤ (nexts n t).rawE := by
  induction n with
  | zero => simp [nexts]
  | succ n ih =>
    have hi := nexts_inv n t h
    have hs : (nexts (n + 1) t).rawS = (nexts n t).rawE := next_rawS' _ hi
    have hp := (next_post _ hi).progress (hne n (Nat.lt_succ_self n))
    have := ih (fun i hi' => hne i (Nat.lt_succ_of_lt hi'))
    have hs' : (nexts n t).next.rawS = (nexts n t).rawE := hs
    simp only [nexts]
    omega

theorem raw_eq (t : Tokenizer) (h : Inv t) : t.raw = some (rawL t) :=
  slice?_eq t _ _ h.raw h.ok.le

theorem buffered_eq (t : Tokenizer) (h : Inv t) : t.buffered = some (restL t) :=
  slice?_eq t _ _ h.ok.le (Nat.le_refl _)

theorem text_spec (t : Tokenizer) (h : Inv t) (s : Spans t) (hk : isTextLike t.token = true) :
    (text t).1 = (if validUtf8 (dataL t) then
        .ok (some (if t.convertNull || (t.token == .text && (dataL t).contains 0) then replaceNul (dataL t) else dataL t))
      else .utf8Err) ∧ Inv (text t).2 := by
  unfold text
  have hs := slice?_eq t t.dataS t.dataE s.dataLo (Nat.le_trans s.dataHi h.ok.le)
  simp only [hk, if_true, hs, dataL]
  by_cases hv : validUtf8 (t.buf.extract t.dataS t.dataE).toList = true
  · simp only [hv, Bool.not_true, Bool.false_eq_true, if_false, if_true]
    exact ⟨rfl, h.congr⟩
  · simp only [Bool.not_eq_true] at hv
    simp only [hv, Bool.not_false, if_true, Bool.false_eq_true, if_false]
    exact ⟨trivial, h⟩

theorem tagName_spec (t : Tokenizer) (h : Inv t) (s : Spans t) (hk : isTagLike t.token = true) :
    (tagName t).1 = (if validUtf8 (dataL t) then
        .ok (some ((dataL t).map lowerByte), decide (t.nAttrRet < t.attrs.size)) else .utf8Err) ∧
    Inv (tagName t).2 ∧ (tagName t).2.attrs = t.attrs ∧ (tagName t).2.nAttrRet = t.nAttrRet ∧
    (tagName t).2.token = t.token ∧ (tagName t).2.buf = t.buf := by
  unfold tagName
  have hs := slice?_eq t t.dataS t.dataE s.dataLo (Nat.le_trans s.dataHi h.ok.le)
  have hlt := s.tagData hk
  simp only [hk, hlt, decide_true, Bool.and_self, if_true, hs, dataL]
  by_cases hv : validUtf8 (t.buf.extract t.dataS t.dataE).toList = true
  · simp only [hv, Bool.not_true, Bool.false_eq_true, if_false, if_true]
    exact ⟨trivial, h.congr, trivial, trivial, trivial, trivial⟩
  · simp only [Bool.not_eq_true] at hv
    simp only [hv, Bool.not_false, if_true, Bool.false_eq_true, if_false]
    exact ⟨trivial, h, trivial, trivial, trivial, trivial⟩

theorem tagAttr_spec (t : Tokenizer) (h : Inv t) (ha : AttrsOk t) :
    (tagAttr t).1 ≠ .panic ∧ Inv (tagAttr t).2 ∧ AttrsOk (tagAttr t).2 ∧
    (tagAttr t).2.token = t.token ∧
    (∀ (hi : t.nAttrRet < t.attrs.size), let a := t.attrs[t.nAttrRet]
      (t.token = .startTag ∨ t.token = .selfClosing) →
      validUtf8 (t.buf.extract a.ks a.ke).toList = true → validUtf8 (t.buf.extract a.vs a.ve).toList = true →
      (tagAttr t).1 = .ok (some ((t.buf.extract a.ks a.ke).toList.map lowerByte), some (t.buf.extract a.vs a.ve).toList,
        decide (t.nAttrRet + 1 < t.attrs.size))) := by
  unfold tagAttr
  by_cases hi : t.nAttrRet < t.attrs.size
  · rw [dif_pos hi]
    have hmem := ha t.attrs[t.nAttrRet] (by simp)
    have hk := slice?_eq t _ _ hmem.1 hmem.2.1
    have hv := slice?_eq t _ _ hmem.2.2.1 hmem.2.2.2
    have inv' : Inv { t with nAttrRet := t.nAttrRet + 1 } := h.congr
    have ha' : AttrsOk { t with nAttrRet := t.nAttrRet + 1 } := ha
    by_cases hk' : (t.token == .startTag || t.token == .selfClosing) = true
    · rw [if_pos hk']
      simp only [hk, hv]
      cases hvk : validUtf8 (t.buf.extract t.attrs[t.nAttrRet].ks t.attrs[t.nAttrRet].ke).toList
      · exact ⟨nofun, inv', ha', rfl, fun _ _ hu => absurd (hvk.symm.trans hu) Bool.false_ne_true⟩
      cases hvv : validUtf8 (t.buf.extract t.attrs[t.nAttrRet].vs t.attrs[t.nAttrRet].ve).toList
      · exact ⟨nofun, inv', ha', rfl, fun _ _ _ hu => absurd (hvv.symm.trans hu) Bool.false_ne_true⟩
      · exact ⟨nofun, inv', ha', rfl, fun _ _ _ _ => rfl⟩
    · rw [if_neg hk']
      refine ⟨nofun, h, ha, rfl, fun _ hk'' => absurd ?_ hk'⟩
      rcases hk'' with e | e <;> simp [e]
  · rw [dif_neg hi]
    exact ⟨nofun, h, ha, rfl, fun hi' => absurd hi' hi⟩

/-- the state after a successful `text()` / `tag_name()` -/
def dropData (t : Tokenizer) : Tokenizer := { t with dataS := t.rawE, dataE := t.rawE }

theorem tagName_snd (t : Tokenizer) : (tagName t).2 =
    match (tagName t).1 with
    | .panic => { t with panic := true }
    | .ok (some _, _) => dropData t
    | _ => t := by
  unfold tagName
  cases (decide (t.dataS < t.dataE) && isTagLike t.token) with
  | false => rfl
  | true =>
    cases t.slice? t.dataS t.dataE with
    | none => rfl
    | some bs => simp only []; cases validUtf8 bs <;> rfl

theorem text_snd (t : Tokenizer) : (text t).2 =
    match (text t).1 with
    | .panic => { t with panic := true }
    | .ok (some _) => dropData t
    | _ => t := by
  unfold text
  cases isTextLike t.token with
  | false => rfl
  | true =>
    cases t.slice? t.dataS t.dataE with
    | none => rfl
    | some bs => simp only []; cases validUtf8 bs <;> rfl

theorem tagAttr_snd (t : Tokenizer) : (tagAttr t).1 = .panic ∨
    (tagAttr t).2 = if t.nAttrRet < t.attrs.size ∧ (t.token == .startTag || t.token == .selfClosing) = true
      then { t with nAttrRet := t.nAttrRet + 1 } else t := by
  unfold tagAttr
  by_cases h : t.nAttrRet < t.attrs.size
  · rw [dif_pos h]
    by_cases hk : (t.token == .startTag || t.token == .selfClosing) = true
    · rw [if_pos hk, if_pos ⟨h, hk⟩]
      simp only []
      cases t.slice? t.attrs[t.nAttrRet].ks t.attrs[t.nAttrRet].ke with
      | none => exact Or.inl rfl
      | some k =>
        simp only []
        cases validUtf8 k with
        | false => exact Or.inr rfl
        | true =>
          cases t.slice? t.attrs[t.nAttrRet].vs t.attrs[t.nAttrRet].ve with
          | none => exact Or.inl rfl
          | some v =>
            simp only []
            cases validUtf8 v <;> exact Or.inr rfl
    · rw [if_neg hk, if_neg fun c => hk c.2]
      exact Or.inr rfl
  · rw [dif_neg h, if_neg fun c => h c.1]
    exact Or.inr rfl

theorem tagName_of_empty (t : Tokenizer) (h : t.dataS = t.dataE) : tagName t = (.ok (none, false), t) := by
  unfold tagName
  rw [if_neg (by simp [h])]

/-- `t'` differs from `t` in the data span only.  Whatever does not read the data span (`next`, `Inv`, the raw span,
the remainder, the context, the attribute list) is the same for both, by `rfl` once the equation is substituted. -/
def DataFrame (t t' : Tokenizer) : Prop := ∃ s e, t' = { t with dataS := s, dataE := e }

theorem ok_ne_panic {α : Type} {r : Res α} {x : α} (h : r = .ok x) : r ≠ .panic := by rw [h]; nofun

theorem tagName_dataFrame (t : Tokenizer) (h : (tagName t).1 ≠ .panic) : DataFrame t (tagName t).2 := by
  rw [tagName_snd]
  split
  · exact absurd ‹_› h
  · exact ⟨_, _, rfl⟩
  · exact ⟨_, _, rfl⟩

theorem text_dataFrame (t : Tokenizer) (h : (text t).1 ≠ .panic) : DataFrame t (text t).2 := by
  rw [text_snd]
  split
  · exact absurd ‹_› h
  · exact ⟨_, _, rfl⟩
  · exact ⟨_, _, rfl⟩

theorem DataFrame.next {t t' : Tokenizer} (f : DataFrame t t') : next t' = next t := by
  obtain ⟨_, _, rfl⟩ := f; rfl

theorem DataFrame.inv {t t' : Tokenizer} (f : DataFrame t t') (h : Inv t) : Inv t' := by
  obtain ⟨_, _, rfl⟩ := f; exact h.congr

end Tokenizer
end Rio.Html
