/-
C15 helper lemmas, in order: (a) the token list of a document (`tokensOf`), neutral tokens, states that copy (`Passive`);
(b) `editD dec`: the model's reference edit, the selector decision a parameter; (c) the path-following machine on a
well-formed document: named states, one equation per step, the `append_child` walk over a balanced token list (`Bal`,
`appendChild_elem`), then target, element, document (`target_*`, `elem_*`, `any_gen`, `onehit_gen`); (d) the glue to the
chain model (`RunsTo`, `TokAgree`) and the domain (`InDomain`, `StepsOK`); (e) Bool checks of the domain (`inDomainB`,
`stepsOKB`), proved sound; last `vtOf`, the `vt` made from a tokenizer.

The tokens of a verbatim piece (text, comment, declaration, an inserted value) are a PARAMETER
`vt : Bytes → List Tok` ("how the tokenizer sees it"); the token-level theorems hold for every `vt` that is lossless
(`VtLossless`) and whose tokens carry no path name, the byte-level theorems instantiate it with the tokenizer (`vtOf`).
-/
import RioModel.Model.FilterDom
import RioModel.Proofs.FilterHtml
set_option linter.unusedSectionVars false -- for the `mutual` pairs: a half that uses a variable only through the other

namespace Rio.Filter

/-- `startTok`, `endTok`, `selfTok`: the tag tokens of an element as `serialize` writes them, `<`(60) disp attrs `>`(62),
`</`(60, 47) disp `>`, `<` disp attrs `/>`(47, 62).  `disp` is the name as written (any case); `name` becomes `Tok.name`
(`tag_name()` lower-cased), which is what the machine compares. -/
def startTok (name disp attrs : Bytes) : Tok := ⟨.startTag, [60] ++ disp ++ attrs ++ [62], name⟩
def endTok (name disp : Bytes) : Tok := ⟨.endTag, [60, 47] ++ disp ++ [62], name⟩
def selfTok (name disp attrs : Bytes) : Tok := ⟨.selfClosing, [60] ++ disp ++ attrs ++ [47, 62], name⟩
/-- raw-text content is one text token (none when empty) -/
def textToks (bs : Bytes) : List Tok := if bs.isEmpty then [] else [⟨.text, bs, []⟩]

section
variable (vt : Bytes → List Tok)

mutual
  /-- the token list a tokenizer is expected to produce for `serialize n` -/
  def tokensOf : Node → List Tok
    | .verb raw _ => vt raw
    | .el name disp attrs kind children =>
      match kind with
      | .selfClosing => [selfTok name disp attrs]
      | .void => [startTok name disp attrs]
      | .raw => startTok name disp attrs :: (textToks (serializeList children) ++ [endTok name disp])
      | .normal => startTok name disp attrs :: (tokensOfList children ++ [endTok name disp])
  def tokensOfList : List Node → List Tok
    | [] => []
    | n :: ns => tokensOf n ++ tokensOfList ns
end

/-- what lies between the start and the end tag of a normal or raw-text element (`tokensOf_el_inner`): the children's
tokens, or for raw text ONE text token (`textToks`) holding the serialised children, since raw text is not tokenised -/
def innerToks (kind : ElKind) (children : List Node) : List Tok :=
  match kind with
  | .raw => textToks (serializeList children)
  | _ => tokensOfList vt children

theorem tokensOf_el_normal (name disp attrs : Bytes) (cs : List Node) :
    tokensOf vt (.el name disp attrs .normal cs) =
      startTok name disp attrs :: (tokensOfList vt cs ++ [endTok name disp]) := by
  simp [tokensOf]

theorem tokensOf_el_raw (name disp attrs : Bytes) (cs : List Node) :
    tokensOf vt (.el name disp attrs .raw cs) =
      startTok name disp attrs :: (textToks (serializeList cs) ++ [endTok name disp]) := by
  simp [tokensOf]

theorem tokensOfList_append (a b : List Node) :
    tokensOfList vt (a ++ b) = tokensOfList vt a ++ tokensOfList vt b := by
  induction a with
  | nil => simp [tokensOfList]
  | cons n ns ih => simp [tokensOfList, ih]

theorem tokensOfList_cons (n : Node) (ns : List Node) :
    tokensOfList vt (n :: ns) = tokensOf vt n ++ tokensOfList vt ns := by
  simp [tokensOfList]

theorem serializeList_append (a b : List Node) :
    serializeList (a ++ b) = serializeList a ++ serializeList b := by
  induction a with
  | nil => simp [serializeList]
  | cons n ns ih => simp [serializeList, ih]

theorem rawsOf_textToks (bs : Bytes) : rawsOf (textToks bs) = bs := by
  unfold textToks
  cases bs with
  | nil => rfl
  | cons b r => simp [rawsOf]

/-- what the token-level theorems assume of `vt`: with it `rawsOf (tokensOf vt n) = serialize n` (`rawsOf_tokensOf`), so
that a document copied token by token comes out serialised; `vtOf_lossless` supplies it -/
def VtLossless : Prop := ∀ raw, rawsOf (vt raw) = raw

mutual
  theorem rawsOf_tokensOf (hv : VtLossless vt) : ∀ n : Node, rawsOf (tokensOf vt n) = serialize n
    | .verb raw _ => by simp [tokensOf, serialize, hv raw]
    | .el name disp attrs kind cs => by
      cases kind with
      | selfClosing => simp [tokensOf, serialize, rawsOf, selfTok]
      | void => simp [tokensOf, serialize, rawsOf, startTok]
      | raw =>
        simp only [tokensOf, serialize, rawsOf_cons, rawsOf_append, rawsOf_textToks]
        simp [rawsOf, startTok, endTok]
      | normal =>
        simp only [tokensOf, serialize, rawsOf_cons, rawsOf_append, rawsOf_tokensOfList hv cs]
        simp [rawsOf, startTok, endTok]
  theorem rawsOf_tokensOfList (hv : VtLossless vt) : ∀ ns : List Node,
      rawsOf (tokensOfList vt ns) = serializeList ns
    | [] => by simp [tokensOfList, serializeList, rawsOf]
    | n :: ns => by
      simp only [tokensOfList, serializeList, rawsOf_append, rawsOf_tokensOf hv n,
        rawsOf_tokensOfList hv ns]
end

end

section
variable (tk : Tokenize) (ev : Bytes → Bytes → Bool)

/-- a token the machine ignores while it waits for the names `P` -/
def NeutralTok (P : List Bytes) (t : Tok) : Prop := isTagKind t.kind = true → t.name ∉ P

theorem NeutralTok.mono {P Q : List Bytes} {t : Tok} (h : NeutralTok P t) (hq : ∀ x ∈ Q, x ∈ P) :
    NeutralTok Q t := fun hk hm => h hk (hq _ hm)

/-- every name the state can react to (`enter`, `leave`, the tag names of the links on the buffer stack) is in `P`: a token
neutral for `P` is then only pushed, to the output or onto the top buffer (`stepTok_neutral`).  `Passive` is this with an
empty stack. -/
structure StNames (P : List Bytes) (s : HtmlSt) : Prop where
  enter : ∀ n, s.enter = some n → n ∈ P
  leave : ∀ n, s.leave = some n → n ∈ P
  stack : ∀ l ∈ s.stack, l.tagName ∈ P

theorem push_nil (s : HtmlSt) (out : Bytes) : push s out [] = (s, out) := by
  unfold push
  cases h : s.stack <;> simp [← h]

theorem push_empty_stack {s : HtmlSt} (h : s.stack = []) (out d : Bytes) : push s out d = (s, out ++ d) := by
  unfold push; simp [h]

theorem StNames.push {P : List Bytes} {s : HtmlSt} (h : StNames P s) (out d : Bytes) :
    StNames P (push s out d).1 := by
  unfold Rio.Filter.push -- a bare `push` would be this theorem
  cases hs : s.stack with
  | nil => simpa [hs] using h
  | cons l rest =>
    simp only
    refine ⟨h.enter, h.leave, ?_⟩
    intro l' hl'
    simp only [List.mem_cons] at hl'
    rcases hl' with e | e
    · subst e; exact h.stack l (by simp [hs])
    · exact h.stack l' (by simp [hs, e])

theorem onStart_neutral {P : List Bytes} {s : HtmlSt} (hs : StNames P s) {name : Bytes} (hn : name ∉ P)
    (data : Bytes) : onStart s name data = (s, data) :=
  onStart_skips data fun e => hn (hs.enter name e)

theorem topMatches_neutral {P : List Bytes} {s : HtmlSt} (hs : StNames P s) {name : Bytes} (hn : name ∉ P) :
    topMatches s.stack name = false := by
  unfold topMatches
  cases h : s.stack with
  | nil => rfl
  | cons l rest =>
    simp only
    have : l.tagName ∈ P := hs.stack l (by simp [h])
    cases hb : (l.tagName == name) with
    | false => rfl
    | true => exact absurd ((beq_iff_eq.mp hb) ▸ this) hn

theorem onEnd_neutral {P : List Bytes} {s : HtmlSt} (hs : StNames P s) {name : Bytes} (hn : name ∉ P)
    (data : Bytes) : onEnd tk ev s name data = (s, data) := by
  rw [onEnd_skips tk ev data fun e => hn (hs.leave name e), topMatches_neutral hs hn]
  rfl

theorem stepTok_neutral {P : List Bytes} {s : HtmlSt} (hs : StNames P s) {t : Tok} (ht : NeutralTok P t)
    (out : Bytes) : stepTok tk ev (s, out) t = push s out t.raw := by
  cases hk : isTagKind t.kind with
  | false => exact stepTok_other tk ev s out t hk
  | true =>
    have hn := ht hk
    cases hkind : t.kind with
    | text => simp [isTagKind, hkind] at hk
    | other => simp [isTagKind, hkind] at hk
    | startTag =>
      rw [stepTok_start tk ev s out t hkind, onStart_neutral hs hn, onEnd_neutral tk ev hs hn]
      simp
    | endTag => rw [stepTok_end tk ev s out t hkind, onEnd_neutral tk ev hs hn]
    | selfClosing =>
      rw [stepTok_self tk ev s out t hkind, onStart_neutral hs hn, onEnd_neutral tk ev hs hn]

theorem fold_neutral {P : List Bytes} (toks : List Tok) (hn : ∀ t ∈ toks, NeutralTok P t) :
    ∀ (s : HtmlSt) (out : Bytes), StNames P s →
      toks.foldl (stepTok tk ev) (s, out) = push s out (rawsOf toks) := by
  induction toks with
  | nil => intro s out _; simp [rawsOf, push_nil]
  | cons t ts ih =>
    intro s out hs
    rw [List.foldl_cons, stepTok_neutral tk ev hs (hn t (by simp)),
      ih (fun x hx => hn x (List.mem_cons_of_mem _ hx)) _ _ (hs.push out t.raw), push_push, rawsOf_cons]

/-- a state that copies: it waits for names of `P` only and buffers nothing, so what it is handed goes to the output -/
structure Passive (P : List Bytes) (s : HtmlSt) : Prop where
  enter : ∀ n, s.enter = some n → n ∈ P
  leave : ∀ n, s.leave = some n → n ∈ P
  stack : s.stack = []

theorem Passive.names {P : List Bytes} {s : HtmlSt} (h : Passive P s) : StNames P s :=
  ⟨h.enter, h.leave, fun l hl => by rw [h.stack] at hl; cases hl⟩

theorem Passive.step {P : List Bytes} {s : HtmlSt} (h : Passive P s) {t : Tok} (ht : NeutralTok P t) (out : Bytes) :
    stepTok tk ev (s, out) t = (s, out ++ t.raw) := by
  rw [stepTok_neutral tk ev h.names ht, push_empty_stack h.stack]

theorem Passive.fold {P : List Bytes} {s : HtmlSt} (h : Passive P s) {toks : List Tok}
    (hn : ∀ t ∈ toks, NeutralTok P t) (out : Bytes) :
    toks.foldl (stepTok tk ev) (s, out) = (s, out ++ rawsOf toks) := by
  rw [fold_neutral tk ev toks hn s out h.names, push_empty_stack h.stack]

end

/-- `applyOp` with the decision `dec target selector` a parameter: the machine asks its oracle about BYTES
(`ev (buffer ++ end tag) sel`), the model's `selMatches` reads the tree, so the theorems speak of this copy at
`dec := decOf ev`.  At `dec := selMatches` it is the model's (`editD_selMatches`); no lemma relates `decOf ev` to `selMatches`. -/
def applyOpD (dec : Node → Bytes → Bool) (op : EditOp) (sel : Option Bytes) (ins : Node) (n : Node) : Node :=
  match op with
  | .replace => if (sel.map (dec n)).getD true then ins else n
  | .append =>
    if (sel.map fun s => !dec n s).getD true then
      match n with
      | .el nm d a k cs => .el nm d a k (cs ++ [ins])
      | v => v
    else n
  | .prepend =>
    if (sel.map fun s => !dec n s).getD true then
      match n with
      | .el nm d a k cs => .el nm d a k (ins :: cs)
      | v => v
    else n

mutual
  def editListD (dec : Node → Bytes → Bool) (op : EditOp) (sel : Option Bytes) (ins : Node) (p : Bytes)
      (ps : List Bytes) (anywhere : Bool) : List Node → List Node
    | [] => []
    | n :: ns => editNodeD dec op sel ins p ps anywhere n :: editListD dec op sel ins p ps anywhere ns
  def editNodeD (dec : Node → Bytes → Bool) (op : EditOp) (sel : Option Bytes) (ins : Node) (p : Bytes)
      (ps : List Bytes) (anywhere : Bool) : Node → Node
    | .verb r m => .verb r m
    | .el nm d a k cs =>
      if nm == p then
        match ps with
        | [] => applyOpD dec op sel ins (.el nm d a k cs)
        | q :: qs => .el nm d a k (editListD dec op sel ins q qs false cs)
      else if anywhere && k != .raw then .el nm d a k (editListD dec op sel ins p ps true cs)
      else .el nm d a k cs
end

theorem applyOpD_selMatches : applyOpD selMatches = applyOp := by
  funext op sel ins n
  cases op <;> rfl

mutual
  theorem editListD_selMatches (op : EditOp) (sel : Option Bytes) (ins : Node) :
      ∀ (p : Bytes) (ps : List Bytes) (anywhere : Bool) (ns : List Node),
        editListD selMatches op sel ins p ps anywhere ns = editList op sel ins p ps anywhere ns
    | p, ps, anywhere, [] => by simp [editListD, editList]
    | p, ps, anywhere, n :: ns => by
      simp only [editListD, editList, editNodeD_selMatches op sel ins p ps anywhere n,
        editListD_selMatches op sel ins p ps anywhere ns]
  theorem editNodeD_selMatches (op : EditOp) (sel : Option Bytes) (ins : Node) :
      ∀ (p : Bytes) (ps : List Bytes) (anywhere : Bool) (n : Node),
        editNodeD selMatches op sel ins p ps anywhere n = editNode op sel ins p ps anywhere n
    | p, ps, anywhere, .verb r m => by simp [editNodeD, editNode]
    | p, ps, anywhere, .el nm d a k cs => by
      unfold editNodeD editNode
      cases ps with
      | nil => simp only [applyOpD_selMatches, editListD_selMatches op sel ins p [] true cs]
      | cons q qs =>
        simp only [editListD_selMatches op sel ins q qs false cs,
          editListD_selMatches op sel ins p (q :: qs) true cs]
end

/-- `edit` with the decision abstract -/
def editD (dec : Node → Bytes → Bool) (doc : List Node) (f : BodyFilter) : List Node :=
  match f with
  | .html action path sel value =>
    let op : Option EditOp :=
      if action = Rio.Consts.filterActionAppend then some .append
      else if action = Rio.Consts.filterActionPrepend then some .prepend
      else if action = Rio.Consts.filterActionReplace then some .replace
      else none
    let sel := match sel with
      | some s => if s.isEmpty then none else some s
      | none => none
    match op, path with
    | some op, p :: ps => editListD dec op sel (.verb value (valueMarks value)) p ps true doc
    | _, _ => doc
  | .text _ _ => doc

def editAllD (dec : Node → Bytes → Bool) (doc : List Node) (fs : List BodyFilter) : List Node :=
  fs.foldl (editD dec) doc

theorem editD_selMatches (doc : List Node) (f : BodyFilter) : editD selMatches doc f = edit doc f := by
  cases f with
  | text _ _ => rfl
  | html action path sel value =>
    unfold editD edit
    simp only
    generalize (if action = Rio.Consts.filterActionAppend then some EditOp.append
      else if action = Rio.Consts.filterActionPrepend then some EditOp.prepend
      else if action = Rio.Consts.filterActionReplace then some EditOp.replace else none) = op
    cases op with
    | none => rfl
    | some op =>
      cases path with
      | nil => rfl
      | cons p ps => exact editListD_selMatches op _ _ p ps true doc

theorem editAllD_selMatches (doc : List Node) (fs : List BodyFilter) :
    editAllD selMatches doc fs = editAll doc fs := by
  unfold editAllD editAll
  induction fs generalizing doc with
  | nil => rfl
  | cons f fs ih => simp only [List.foldl_cons, editD_selMatches, ih]

section
variable (tk : Tokenize) (ev : Bytes → Bytes → Bool)
variable (k : VKind) (sel : Option Bytes) (content : Bytes)

/-- the visitor as the zipper of Model/Filter.lean (head: `element_tree` + `position`): `before` = the path names before
`cur`, innermost first (`step_start_down` pushes `cur` onto it), `after` = those after it -/
def vis (before : List Bytes) (cur : Bytes) (after : List Bytes) (buf : Bool) : Visitor :=
  { kind := k, before := before, cur := cur, after := after, sel := sel, content := content, isBuffering := buf }

/-- general waiting state: `enter = some cur`, nothing buffered -/
def stG (lv : Option Bytes) (before : List Bytes) (cur : Bytes) (after : List Bytes) : HtmlSt :=
  { enter := some cur, leave := lv, visitor := vis k sel content before cur after false }

/-- back inside `cur` after its child `a` has been left -/
def stR (before : List Bytes) (cur a : Bytes) (after : List Bytes) : HtmlSt :=
  { enter := some a, leave := some cur, visitor := vis k sel content before cur (a :: after) false }

/-- after the end tag of `cur` (append / prepend) -/
def stRet (before : List Bytes) (cur : Bytes) (after : List Bytes) : HtmlSt :=
  match before with
  | [] => stG k sel content none [] cur after
  | b :: bs => stR k sel content bs b cur after

/-- inside the target, nothing buffered (append / prepend without selector) -/
def stT (before : List Bytes) (cur : Bytes) : HtmlSt :=
  { enter := none, leave := some cur, visitor := vis k sel content before cur [] false }

/-- inside the target, the element is being buffered -/
def stB (bufFlag : Bool) (before : List Bytes) (cur : Bytes) (buffer : Bytes) : HtmlSt :=
  { enter := none, leave := some cur, visitor := vis k sel content before cur [] bufFlag,
    stack := [⟨buffer, cur⟩] }

/-- `stRet` is where `leave` puts the machine; stated with `leaveMove` so that no case split on `before` is needed -/
theorem stRet_eq (before : List Bytes) (cur : Bytes) (after : List Bytes) :
    stRet k sel content before cur after =
      { enter := some cur, leave := ((vis k sel content before cur after false).leaveMove true).1,
        visitor := ((vis k sel content before cur after false).leaveMove true).2 } := by
  cases before <;> rfl

/-- the same when the visitor was buffering (prepend with a selector) -/
theorem stRet_eq_buf (before : List Bytes) (cur : Bytes) (after : List Bytes) :
    stRet k sel content before cur after =
      { enter := some cur, leave := ((vis k sel content before cur after true).leaveMove true).1,
        visitor := { ((vis k sel content before cur after true).leaveMove true).2 with isBuffering := false } } := by
  cases before <;> rfl

theorem hasSel_vis (before : List Bytes) (cur : Bytes) (after : List Bytes) (b : Bool) :
    (vis k sel content before cur after b).hasSel = (match sel with | some s => !s.isEmpty | none => false) := rfl

theorem step_start_down (lv : Option Bytes) (before : List Bytes) (cur a : Bytes) (rest : List Bytes)
    (disp attrs out : Bytes) (hv : isVoid cur = false) :
    stepTok tk ev (stG k sel content lv before cur (a :: rest), out) (startTok cur disp attrs) =
      (stG k sel content (some cur) (cur :: before) a rest, out ++ (startTok cur disp attrs).raw) := by
  rw [stepTok_start tk ev _ _ _ rfl]
  simp only [startTok, hv, Bool.false_eq_true, if_false]
  rw [onStart_eq]
  simp [stG, vis, Visitor.enter, Visitor.advance, push]

theorem step_end_up (before : List Bytes) (cur a : Bytes) (rest : List Bytes) (disp out : Bytes) :
    stepTok tk ev (stR k sel content before cur a rest, out) (endTok cur disp) =
      (stRet k sel content before cur (a :: rest), out ++ (endTok cur disp).raw) := by
  rw [stepTok_end tk ev _ _ _ rfl, onEnd_eq, stRet_eq]
  cases k <;> simp [endTok, stR, vis, topMatches, Visitor.leave, push]

/-- `hasSel` of every visitor built with `sel` -/
def selOn : Bool :=
  match sel with
  | some s => !s.isEmpty
  | none => false

theorem hasSel_eq (before : List Bytes) (cur : Bytes) (after : List Bytes) (b : Bool) :
    (vis k sel content before cur after b).hasSel = selOn sel := rfl

/-- `hasSel_eq` in the form `simp` meets once `vis` is unfolded -/
theorem hasSel_mk (before : List Bytes) (cur : Bytes) (after : List Bytes) (b : Bool) :
    Visitor.hasSel ⟨k, before, cur, after, sel, content, b⟩ = selOn sel := rfl

/-- waiting for (further) targets after a replacement -/
abbrev stX (before : List Bytes) (cur : Bytes) : HtmlSt := stG k sel content none before cur []

/-- what a visitor without selector emits right after the start tag of the target (`BodyPrepend::enter`) -/
def insStart : VKind → Bytes → Bytes
  | .prepend, c => c
  | _, _ => []

/-- … and right before its end tag (`BodyAppend::leave`) -/
def insEnd : VKind → Bytes → Bytes
  | .append, c => c
  | _, _ => []

/-- `append_child` / `prepend_child` on the buffered target -/
def insChild (k : VKind) (data child : Bytes) : Bytes :=
  match k with
  | .append => appendChild tk data child
  | _ => prependChild tk data child

/-- `is_buffering` while the target is buffered: set by prepend, not used by append -/
def bufFlag : VKind → Bool
  | .append => false
  | _ => true

theorem ap_start_nosel (hk : k = .append ∨ k = .prepend) (lv : Option Bytes) (before : List Bytes) (cur disp attrs out : Bytes)
    (hv : isVoid cur = false) (hs : selOn sel = false) :
    stepTok tk ev (stG k sel content lv before cur [], out) (startTok cur disp attrs) =
      (stT k sel content before cur, out ++ (startTok cur disp attrs).raw ++ insStart k content) := by
  rw [stepTok_start tk ev _ _ _ rfl]
  simp only [startTok, hv, Bool.false_eq_true, if_false]
  rw [onStart_eq]
  rcases hk with rfl | rfl <;> simp [stG, stT, vis, Visitor.enter, push, hasSel_mk, hs, insStart]

theorem ap_end_nosel (hk : k = .append ∨ k = .prepend) (before : List Bytes) (cur disp out : Bytes) (hs : selOn sel = false) :
    stepTok tk ev (stT k sel content before cur, out) (endTok cur disp) =
      (stRet k sel content before cur [], out ++ insEnd k content ++ (endTok cur disp).raw) := by
  rw [stepTok_end tk ev _ _ _ rfl, onEnd_eq, stRet_eq]
  rcases hk with rfl | rfl <;> simp [endTok, stT, vis, topMatches, Visitor.leave, push, hasSel_mk, hs, insEnd]

theorem ap_start_sel (hk : k = .append ∨ k = .prepend) (lv : Option Bytes) (before : List Bytes) (cur disp attrs out : Bytes)
    (hv : isVoid cur = false) (hs : selOn sel = true) :
    stepTok tk ev (stG k sel content lv before cur [], out) (startTok cur disp attrs) =
      (stB k sel content (bufFlag k) before cur (startTok cur disp attrs).raw, out) := by
  rw [stepTok_start tk ev _ _ _ rfl]
  simp only [startTok, hv, Bool.false_eq_true, if_false]
  rw [onStart_eq]
  rcases hk with rfl | rfl <;> simp [stG, stB, vis, Visitor.enter, push, hasSel_mk, hs, bufFlag]

theorem ap_end_sel (hk : k = .append ∨ k = .prepend) (before : List Bytes) (cur disp out buffer : Bytes) (hs : selOn sel = true) :
    stepTok tk ev (stB k sel content (bufFlag k) before cur buffer, out) (endTok cur disp) =
      (stRet k sel content before cur [],
        out ++ (if !ev (buffer ++ (endTok cur disp).raw) (sel.getD []) then
                  insChild tk k (buffer ++ (endTok cur disp).raw) content
                else buffer ++ (endTok cur disp).raw)) := by
  rw [stepTok_end tk ev _ _ _ rfl, onEnd_eq]
  -- the one link on the stack is the target's: `leave` is handed `buffer ++ end tag`
  rcases hk with rfl | rfl
  · rw [stRet_eq]
    simp [endTok, stB, vis, topMatches, topBuffer, Visitor.leave_append, push, hasSel_mk, hs, Visitor.selector, bufFlag,
      insChild]
  · rw [stRet_eq_buf]
    simp [endTok, stB, vis, topMatches, topBuffer, Visitor.leave_prepend, push, hasSel_mk, hs, Visitor.selector, bufFlag,
      insChild]

/-- the decision of `BodyReplace::leave` on the buffered element -/
def repOut (data : Bytes) : Bytes :=
  if !selOn sel || ev data (sel.getD []) then content else data

theorem rep_start (lv : Option Bytes) (before : List Bytes) (cur disp attrs out : Bytes)
    (hv : isVoid cur = false) :
    stepTok tk ev (stG .replace sel content lv before cur [], out) (startTok cur disp attrs) =
      (stB .replace sel content true before cur (startTok cur disp attrs).raw, out) := by
  rw [stepTok_start tk ev _ _ _ rfl]
  simp only [startTok, hv, Bool.false_eq_true, if_false]
  rw [onStart_eq]
  simp [stG, stB, vis, Visitor.enter, push]

theorem rep_end (before : List Bytes) (cur disp out buffer : Bytes) :
    stepTok tk ev (stB .replace sel content true before cur buffer, out) (endTok cur disp) =
      (stX .replace sel content before cur,
        out ++ repOut ev sel content (buffer ++ (endTok cur disp).raw)) := by
  rw [stepTok_end tk ev _ _ _ rfl, onEnd_eq]
  simp [endTok, stB, stX, stG, vis, topMatches, topBuffer, Visitor.leave_replace, Visitor.leaveMove, push, hasSel_mk,
    Visitor.selector, repOut]

/-- a target without content (void or self-closing): `enter` and `leave` on the same tag -/
theorem rep_start_end (lv : Option Bytes) (before : List Bytes) (cur raw out : Bytes) :
    let a := onStart (stG .replace sel content lv before cur []) cur raw
    let e := onEnd tk ev a.1 cur a.2
    push e.1 out e.2 = (stX .replace sel content before cur, out ++ repOut ev sel content raw) := by
  rw [onStart_eq]
  simp only [stG, vis, Visitor.enter]
  simp only [ne_eq, not_true_eq_false, if_false, if_true]
  rw [onEnd_eq]
  simp [topMatches, topBuffer, Visitor.leave_replace, Visitor.leaveMove, push, hasSel_mk, Visitor.selector, repOut]

theorem rep_void (lv : Option Bytes) (before : List Bytes) (cur disp attrs out : Bytes)
    (hv : isVoid cur = true) :
    stepTok tk ev (stG .replace sel content lv before cur [], out) (startTok cur disp attrs) =
      (stX .replace sel content before cur, out ++ repOut ev sel content (startTok cur disp attrs).raw) := by
  rw [stepTok_start tk ev _ _ _ rfl]
  simp only [startTok, hv, if_true]
  exact rep_start_end tk ev sel content lv before cur _ out

theorem rep_self (lv : Option Bytes) (before : List Bytes) (cur disp attrs out : Bytes) :
    stepTok tk ev (stG .replace sel content lv before cur [], out) (selfTok cur disp attrs) =
      (stX .replace sel content before cur, out ++ repOut ev sel content (selfTok cur disp attrs).raw) := by
  rw [stepTok_self tk ev _ _ _ rfl]
  exact rep_start_end tk ev sel content lv before cur _ out

theorem passive_stG {P : List Bytes} (lv : Option Bytes) (before : List Bytes) (cur : Bytes) (after : List Bytes)
    (hc : cur ∈ P) (hl : ∀ n, lv = some n → n ∈ P) : Passive P (stG k sel content lv before cur after) :=
  ⟨fun n h => by simp [stG] at h; exact h ▸ hc, fun n h => hl n (by simpa [stG] using h), rfl⟩

theorem passive_stR {P : List Bytes} (before : List Bytes) (cur a : Bytes) (after : List Bytes)
    (hc : cur ∈ P) (ha : a ∈ P) : Passive P (stR k sel content before cur a after) :=
  ⟨fun n h => by simp [stR] at h; exact h ▸ ha, fun n h => by simp [stR] at h; exact h ▸ hc, rfl⟩

theorem passive_stT {P : List Bytes} (before : List Bytes) (cur : Bytes) (hc : cur ∈ P) :
    Passive P (stT k sel content before cur) :=
  ⟨fun n h => by simp [stT] at h, fun n h => by simp [stT] at h; exact h ▸ hc, rfl⟩

theorem fold_stB {P : List Bytes} {toks : List Tok} (hn : ∀ t ∈ toks, NeutralTok P t) (b : Bool) (before : List Bytes)
    (cur : Bytes) (hc : cur ∈ P) (buffer out : Bytes) :
    toks.foldl (stepTok tk ev) (stB k sel content b before cur buffer, out) =
      (stB k sel content b before cur (buffer ++ rawsOf toks), out) := by
  rw [fold_neutral tk ev toks hn _ _ ⟨fun n h => by simp [stB] at h, fun n h => by simp [stB] at h; exact h ▸ hc,
    fun l h => by simp [stB] at h; rw [h]; exact hc⟩]
  simp [push, stB]

section
variable {child : Bytes} {t : Tok} {ts : List Tok} {rest : Bytes} {l : Int} {out : Bytes}

theorem appendChildGo_skip (he : t.kind ≠ .endTag) (hs : t.kind = .startTag → isVoid t.name = true) :
    appendChildGo child (t :: ts) rest l out = appendChildGo child ts rest l (out ++ t.raw) := by
  rw [appendChildGo]
  by_cases h : t.kind = .startTag
  · simp [h, hs h]
  · simp [h, he]

theorem appendChildGo_open (hs : t.kind = .startTag) (hv : isVoid t.name = false) :
    appendChildGo child (t :: ts) rest l out = appendChildGo child ts rest (l + 1) (out ++ t.raw) := by
  rw [appendChildGo]
  simp [hs, hv]

theorem appendChildGo_close (he : t.kind = .endTag) :
    appendChildGo child (t :: ts) rest l out =
      if l - 1 = 0 then some (out ++ child ++ t.raw ++ rawsOf ts ++ rest)
      else appendChildGo child ts rest (l - 1) (out ++ t.raw) := by
  rw [appendChildGo]
  simp [he]

end

/-- a token list that leaves the nesting level of `append_child` unchanged and never closes it -/
def Bal (toks : List Tok) : Prop :=
  ∀ (child : Bytes) (more : List Tok) (rest : Bytes) (l : Int) (out : Bytes), 1 ≤ l →
    appendChildGo child (toks ++ more) rest l out = appendChildGo child more rest l (out ++ rawsOf toks)

theorem bal_nil : Bal [] := by
  intro child more rest l out _; simp [rawsOf]

theorem bal_append {a b : List Tok} (ha : Bal a) (hb : Bal b) : Bal (a ++ b) := by
  intro child more rest l out hl
  rw [List.append_assoc, ha child _ rest l out hl, hb child more rest l _ hl, rawsOf_append, List.append_assoc]

theorem bal_single {t : Tok} (h1 : t.kind ≠ .startTag) (h2 : t.kind ≠ .endTag) : Bal [t] := by
  intro child more rest l out _
  simp [appendChildGo_skip h2 (fun h => absurd h h1), rawsOf]

theorem bal_void {t : Tok} (h1 : t.kind = .startTag) (hv : isVoid t.name = true) : Bal [t] := by
  intro child more rest l out _
  simp [appendChildGo_skip (by simp [h1]) (fun _ => hv), rawsOf]

theorem bal_textToks (bs : Bytes) : Bal (textToks bs) := by
  unfold textToks
  split
  · exact bal_nil
  · exact bal_single (by simp) (by simp)

theorem bal_element {name disp attrs : Bytes} {inner : List Tok} (hv : isVoid name = false) (hi : Bal inner) :
    Bal (startTok name disp attrs :: (inner ++ [endTok name disp])) := by
  intro child more rest l out hl
  have : ¬ l + 1 - 1 = 0 := by omega
  rw [List.cons_append, List.append_assoc, appendChildGo_open rfl hv, hi child _ rest (l + 1) _ (by omega),
    List.singleton_append, appendChildGo_close rfl, if_neg this]
  simp [rawsOf]

theorem appendChild_elem {data name disp attrs child : Bytes} {inner : List Tok}
    (hv : isVoid name = false) (hb : Bal inner)
    (htk : tk data = (startTok name disp attrs :: (inner ++ [endTok name disp]), [])) :
    appendChild tk data child =
      (startTok name disp attrs).raw ++ rawsOf inner ++ child ++ (endTok name disp).raw := by
  unfold appendChild
  rw [htk]
  simp only
  rw [appendChildGo_open rfl hv, hb child _ [] (0 + 1) _ (by omega), appendChildGo_close rfl]
  simp [rawsOf]

theorem prependChild_elem {data name disp attrs child : Bytes} {inner : List Tok}
    (htk : tk data = (startTok name disp attrs :: (inner ++ [endTok name disp]), [])) :
    prependChild tk data child =
      (startTok name disp attrs).raw ++ child ++ rawsOf inner ++ (endTok name disp).raw := by
  unfold prependChild
  rw [htk]
  simp only
  rw [prependChildGo]
  simp [startTok, rawsOf, endTok]

def opOf : VKind → EditOp
  | .append => .append
  | .prepend => .prepend
  | .replace => .replace

/-- the selector as the reference edit sees it (`Some("")` = no selector) -/
def selN (sel : Option Bytes) : Option Bytes :=
  match sel with
  | some s => if s.isEmpty then none else some s
  | none => none

theorem selN_of_off {sel : Option Bytes} (h : selOn sel = false) : selN sel = none := by
  rcases sel with _ | (_ | ⟨b, r⟩) <;> simp [selOn] at h <;> rfl

theorem selN_of_on {sel : Option Bytes} (h : selOn sel = true) : selN sel = some (sel.getD []) := by
  rcases sel with _ | (_ | ⟨b, r⟩) <;> simp [selOn] at h <;> rfl

variable (vt : Bytes → List Tok)

theorem tokensOf_el_inner (nm d at_ : Bytes) (knd : ElKind) (cs : List Node) (h : knd = .normal ∨ knd = .raw) :
    tokensOf vt (.el nm d at_ knd cs) = startTok nm d at_ :: (innerToks vt knd cs ++ [endTok nm d]) := by
  rcases h with h | h <;> subst h <;> simp [tokensOf, innerToks]

theorem serialize_el_inner (nm d at_ : Bytes) (knd : ElKind) (cs : List Node) (h : knd = .normal ∨ knd = .raw) :
    serialize (.el nm d at_ knd cs) = (startTok nm d at_).raw ++ serializeList cs ++ (endTok nm d).raw := by
  rcases h with h | h <;> subst h <;> simp [serialize, startTok, endTok]

theorem rawsOf_innerToks (hv : VtLossless vt) (knd : ElKind) (cs : List Node) :
    rawsOf (innerToks vt knd cs) = serializeList cs := by
  cases knd <;> simp [innerToks, rawsOf_textToks, rawsOf_tokensOfList vt hv]

/-- the decision the reference edit uses: the selector oracle applied to the serialised target (so the `marks` of a node
are never read: they are an arbitrary `m` below) -/
def decOf (ev : Bytes → Bytes → Bool) : Node → Bytes → Bool := fun n s => ev (serialize n) s

/-- what the theorems ask of an append / prepend target -/
structure TargetAP (P : List Bytes) (cur d at_ : Bytes) (knd : ElKind) (cs : List Node) : Prop where
  kind : knd = .normal ∨ knd = .raw
  nvoid : isVoid cur = false
  inner : ∀ t ∈ innerToks vt knd cs, NeutralTok P t
  /-- with a selector the buffered element is re-tokenised by `append_child` / `prepend_child` -/
  tkOK : selOn sel = true →
    tk (serialize (.el cur d at_ knd cs)) = (tokensOf vt (.el cur d at_ knd cs), [])
  bal : selOn sel = true → k = .append → Bal (innerToks vt knd cs)

theorem foldl_cons_append_single {α β : Type} (f : β → α → β) (b : β) (x : α) (mid : List α) (y : α) :
    (x :: (mid ++ [y])).foldl f b = f (mid.foldl f (f b x)) y := by
  simp [List.foldl_append]

theorem target_AP (hk : k = .append ∨ k = .prepend) (hvt : VtLossless vt) {P : List Bytes}
    {cur d at_ : Bytes} {knd : ElKind} {cs : List Node} (hcP : cur ∈ P)
    (h : TargetAP tk k sel vt P cur d at_ knd cs) (lv : Option Bytes) (before : List Bytes) (out : Bytes)
    (m : List Bytes) :
    (tokensOf vt (.el cur d at_ knd cs)).foldl (stepTok tk ev) (stG k sel content lv before cur [], out) =
      (stRet k sel content before cur [],
        out ++ serialize (applyOpD (decOf ev) (opOf k) (selN sel) (.verb content m) (.el cur d at_ knd cs))) := by
  have hin := rawsOf_innerToks vt hvt knd cs
  have hser := serialize_el_inner cur d at_ knd cs h.kind
  rw [tokensOf_el_inner vt cur d at_ knd cs h.kind, foldl_cons_append_single]
  cases hs : selOn sel with
  | false =>
    rw [selN_of_off hs, ap_start_nosel tk ev k sel content hk lv before cur d at_ out h.nvoid hs,
      (passive_stT k sel content before cur hcP).fold tk ev h.inner,
      ap_end_nosel tk ev k sel content hk before cur d _ hs, hin]
    -- without selector the reference edit always inserts
    rcases hk with rfl | rfl
    · simp [applyOpD, opOf, insStart, insEnd, serialize_el_inner cur d at_ knd _ h.kind, serializeList_append,
        serializeList, serialize]
    · simp [applyOpD, opOf, insStart, insEnd, serialize_el_inner cur d at_ knd _ h.kind, serializeList, serialize]
  | true =>
    have htk := h.tkOK hs
    rw [tokensOf_el_inner vt cur d at_ knd cs h.kind] at htk
    rw [selN_of_on hs, ap_start_sel tk ev k sel content hk lv before cur d at_ out h.nvoid hs,
      fold_stB tk ev k sel content h.inner _ before cur hcP,
      ap_end_sel tk ev k sel content hk before cur d _ _ hs, hin, ← hser]
    -- both sides ask the oracle about the serialised element
    rcases Bool.eq_false_or_eq_true (ev (serialize (.el cur d at_ knd cs)) (sel.getD [])) with hev | hev
    · rcases hk with rfl | rfl <;> simp [applyOpD, opOf, decOf, hev]
    · rcases hk with rfl | rfl
      · simp only [applyOpD, opOf, decOf, insChild, hev, Option.map_some, Option.getD_some, Bool.not_false, if_true]
        rw [appendChild_elem tk h.nvoid (h.bal hs rfl) htk, hin, serialize_el_inner cur d at_ knd _ h.kind,
          serializeList_append]
        simp [serializeList, serialize]
      · simp only [applyOpD, opOf, decOf, insChild, hev, Option.map_some, Option.getD_some, Bool.not_false, if_true]
        rw [prependChild_elem tk htk, hin, serialize_el_inner cur d at_ knd _ h.kind]
        simp [serializeList, serialize]

/-- no tag token of the forest carries a path name -/
def FreeL (P : List Bytes) (ns : List Node) : Prop := ∀ t ∈ tokensOfList vt ns, NeutralTok P t

theorem FreeL.cons_head {P : List Bytes} {n : Node} {ns : List Node} (h : FreeL vt P (n :: ns)) :
    ∀ t ∈ tokensOf vt n, NeutralTok P t :=
  fun t ht => h t (by rw [tokensOfList_cons]; exact List.mem_append_left _ ht)

theorem FreeL.cons_tail {P : List Bytes} {n : Node} {ns : List Node} (h : FreeL vt P (n :: ns)) : FreeL vt P ns :=
  fun t ht => h t (by rw [tokensOfList_cons]; exact List.mem_append_right _ ht)

theorem name_not_mem_of_free {P : List Bytes} {nm d a : Bytes} {knd : ElKind} {cs : List Node}
    (h : ∀ t ∈ tokensOf vt (.el nm d a knd cs), NeutralTok P t) : nm ∉ P := by
  cases knd with
  | selfClosing => exact h (selfTok nm d a) (by simp [tokensOf]) (by simp [selfTok, isTagKind])
  | _ => exact h (startTok nm d a) (by simp [tokensOf]) (by simp [startTok, isTagKind])

theorem free_children {P : List Bytes} {nm d a : Bytes} {cs : List Node}
    (h : ∀ t ∈ tokensOf vt (.el nm d a .normal cs), NeutralTok P t) : FreeL vt P cs := fun t ht =>
  h t (by rw [tokensOf_el_normal]; exact List.mem_cons_of_mem _ (List.mem_append_left _ ht))

theorem editListD_free_child (dec : Node → Bytes → Bool) (op : EditOp) (s' : Option Bytes) (ins : Node)
    {P : List Bytes} {p : Bytes} (hp : p ∈ P) (ps : List Bytes) :
    ∀ ns : List Node, FreeL vt P ns → editListD dec op s' ins p ps false ns = ns
  | [], _ => by simp [editListD]
  | n :: ns, h => by
    rw [editListD, editListD_free_child dec op s' ins hp ps ns (FreeL.cons_tail vt h)]
    congr 1
    cases n with
    | verb r m => simp [editNodeD]
    | el nm d a knd cs =>
      have hnm : nm ∉ P := name_not_mem_of_free vt (FreeL.cons_head vt h)
      have hne : nm ≠ p := fun e => hnm (e ▸ hp)
      simp [editNodeD, hne]

theorem editListD_append (dec : Node → Bytes → Bool) (op : EditOp) (s' : Option Bytes) (ins : Node)
    (p : Bytes) (ps : List Bytes) (aw : Bool) (a b : List Node) :
    editListD dec op s' ins p ps aw (a ++ b) =
      editListD dec op s' ins p ps aw a ++ editListD dec op s' ins p ps aw b := by
  induction a with
  | nil => simp [editListD]
  | cons n ns ih => simp [editListD, ih]

theorem editNodeD_hit (dec : Node → Bytes → Bool) (op : EditOp) (s' : Option Bytes) (ins : Node)
    (p q : Bytes) (qs : List Bytes) (aw : Bool) (d a : Bytes) (knd : ElKind) (cs : List Node) :
    editNodeD dec op s' ins p (q :: qs) aw (.el p d a knd cs) =
      .el p d a knd (editListD dec op s' ins q qs false cs) := by
  simp [editNodeD]

theorem editNodeD_target (dec : Node → Bytes → Bool) (op : EditOp) (s' : Option Bytes) (ins : Node)
    (p : Bytes) (aw : Bool) (d a : Bytes) (knd : ElKind) (cs : List Node) :
    editNodeD dec op s' ins p [] aw (.el p d a knd cs) = applyOpD dec op s' ins (.el p d a knd cs) := by
  simp [editNodeD]

theorem editNodeD_aw (dec : Node → Bytes → Bool) (op : EditOp) (s' : Option Bytes) (ins : Node)
    (p : Bytes) (ps : List Bytes) (aw : Bool) (d a : Bytes) (knd : ElKind) (cs : List Node) :
    editNodeD dec op s' ins p ps aw (.el p d a knd cs) = editNodeD dec op s' ins p ps false (.el p d a knd cs) := by
  cases ps <;> simp [editNodeD]

/-- one level down the path, shared by `elem_AP` and `elem_R`: `cur` (normal, not void) has the children `pre ++ n :: post`,
`pre` and `post` free of path names.  The start tag leads to `stG (some cur) (cur :: before) a rest`, which copies `pre`;
`hchild` is what the child `n` does, ending in `B`; `B` copies `post` (passive for `Q ⊆ P`); `hend` is the step of `</cur>`
from `B` to `B'`.  `B`, `B'` are parameters: append / prepend come back up (`stR`, `stRet`), replace stays in `stX`. -/
theorem elem_down (hvt : VtLossless vt) {P Q : List Bytes} (dec : Node → Bytes → Bool) (op : EditOp)
    (s' : Option Bytes) (ins : Node) {cur a d at_ : Bytes} {rest before : List Bytes} {lv : Option Bytes}
    {pre post : List Node} {n : Node} {B B' : HtmlSt} (hvoid : isVoid cur = false) (hc : cur ∈ P) (haP : a ∈ P)
    (hpre : FreeL vt P pre) (hpost : FreeL vt P post)
    (hchild : ∀ out, (tokensOf vt n).foldl (stepTok tk ev)
        (stG k sel content (some cur) (cur :: before) a rest, out) =
      (B, out ++ serialize (editNodeD dec op s' ins a rest false n)))
    (hB : Passive Q B) (hQ : ∀ x ∈ Q, x ∈ P)
    (hend : ∀ out, stepTok tk ev (B, out) (endTok cur d) = (B', out ++ (endTok cur d).raw))
    (out : Bytes) :
    (tokensOf vt (.el cur d at_ .normal (pre ++ n :: post))).foldl (stepTok tk ev)
        (stG k sel content lv before cur (a :: rest), out) =
      (B', out ++ serialize (editNodeD dec op s' ins cur (a :: rest) false
        (.el cur d at_ .normal (pre ++ n :: post)))) := by
  rw [tokensOf_el_normal, foldl_cons_append_single,
    step_start_down tk ev k sel content lv before cur a rest d at_ out hvoid,
    tokensOfList_append, tokensOfList_cons, List.foldl_append, List.foldl_append,
    (passive_stG k sel content _ _ _ _ haP (fun x hx => by simp at hx; exact hx ▸ hc)).fold tk ev hpre,
    hchild, hB.fold tk ev (fun t ht => NeutralTok.mono (hpost t ht) hQ), hend]
  congr 1
  rw [editNodeD_hit, editListD_append, editListD, editListD_free_child vt _ _ _ _ haP rest pre hpre,
    editListD_free_child vt _ _ _ _ haP rest post hpost, rawsOf_tokensOfList vt hvt pre,
    rawsOf_tokensOfList vt hvt post]
  simp only [serialize, serializeList_append, serializeList, startTok, endTok]
  simp [List.append_assoc]

/-- domain of an element named `cur` whose remaining path is `after` -/
def ChildDomAP (P : List Bytes) : List Bytes → Bytes → Bytes → Bytes → ElKind → List Node → Prop
  | [], cur, d, at_, knd, cs => TargetAP tk k sel vt P cur d at_ knd cs
  | a :: rest, cur, _, _, knd, cs =>
    knd = .normal ∧ isVoid cur = false ∧
    ∃ pre d' at' knd' cs' post, cs = pre ++ Node.el a d' at' knd' cs' :: post ∧
      FreeL vt P pre ∧ FreeL vt P post ∧ ChildDomAP P rest a d' at' knd' cs'

theorem elem_AP (hk : k = .append ∨ k = .prepend) (hvt : VtLossless vt) {P : List Bytes} (m : List Bytes) :
    ∀ (after before : List Bytes) (cur d at_ : Bytes) (knd : ElKind) (cs : List Node) (lv : Option Bytes)
      (out : Bytes), ChildDomAP tk k sel vt P after cur d at_ knd cs → cur ∈ P → (∀ a ∈ after, a ∈ P) →
      (tokensOf vt (.el cur d at_ knd cs)).foldl (stepTok tk ev) (stG k sel content lv before cur after, out) =
        (stRet k sel content before cur after,
          out ++ serialize (editNodeD (decOf ev) (opOf k) (selN sel) (.verb content m) cur after false
            (.el cur d at_ knd cs)))
  | [], before, cur, d, at_, knd, cs, lv, out, h, hc, _ => by
    rw [target_AP tk ev k sel content vt hk hvt hc h lv before out m, editNodeD_target]
  | a :: rest, before, cur, d, at_, knd, cs, lv, out, h, hc, ha => by
    obtain ⟨hknd, hvoid, pre, d', at', knd', cs', post, hcs, hpre, hpost, hch⟩ := h
    subst hknd hcs
    have haP : a ∈ P := ha a (by simp)
    exact elem_down tk ev k sel content vt hvt _ _ _ _ hvoid hc haP hpre hpost
      (fun out => elem_AP hk hvt m rest (cur :: before) a d' at' knd' cs' (some cur) out hch haP
        (fun x hx => ha x (List.mem_cons_of_mem _ hx)))
      (passive_stR k sel content before cur a rest hc haP) (fun _ h => h)
      (step_end_up tk ev k sel content before cur a rest d) out

mutual
  /-- domain of a document for an append / prepend filter with path `p1 :: ps` (`P` = the path names):
  verbatim pieces and foreign elements carry no path name, every `p1` element satisfies `ChildDomAP` -/
  def AnyDomAP (P : List Bytes) (p1 : Bytes) (ps : List Bytes) : Node → Prop
    | .verb raw _ => ∀ t ∈ vt raw, NeutralTok P t
    | .el nm d at_ knd cs =>
      if nm = p1 then ChildDomAP tk k sel vt P ps p1 d at_ knd cs
      else nm ∉ P ∧
        (match knd with
         | .normal => AnyDomAPList P p1 ps cs
         | _ => True)
  def AnyDomAPList (P : List Bytes) (p1 : Bytes) (ps : List Bytes) : List Node → Prop
    | [] => True
    | n :: ns => AnyDomAP P p1 ps n ∧ AnyDomAPList P p1 ps ns
end

theorem neutral_of_name {P : List Bytes} {t : Tok} (h : t.name ∉ P) : NeutralTok P t := fun _ => h

theorem neutral_of_kind {P : List Bytes} {t : Tok} (h : isTagKind t.kind = false) : NeutralTok P t :=
  fun hk => by rw [h] at hk; cases hk

theorem neutral_textToks (P : List Bytes) (bs : Bytes) : ∀ t ∈ textToks bs, NeutralTok P t := by
  intro t ht
  unfold textToks at ht
  split at ht
  · cases ht
  · simp at ht; subst ht; exact neutral_of_kind (by simp [isTagKind])

/-- what the theorems ask of a replace target -/
def TargetR (P : List Bytes) (cur : Bytes) (knd : ElKind) (cs : List Node) : Prop :=
  match knd with
  | .normal => isVoid cur = false ∧ ∀ t ∈ innerToks vt .normal cs, NeutralTok P t
  | .raw => isVoid cur = false
  | .void => isVoid cur = true
  | .selfClosing => True

theorem repOut_eq (n : Node) (m : List Bytes) :
    repOut ev sel content (serialize n) =
      serialize (applyOpD (decOf ev) .replace (selN sel) (.verb content m) n) := by
  unfold repOut applyOpD
  cases hs : selOn sel with
  | false => rw [selN_of_off hs]; simp [serialize]
  | true =>
    rw [selN_of_on hs]
    simp only [Bool.not_true, Bool.false_or, Option.map_some, Option.getD_some, decOf]
    rcases Bool.eq_false_or_eq_true (ev (serialize n) (sel.getD [])) with h | h <;> simp [h, serialize]

theorem target_R (hvt : VtLossless vt) {P : List Bytes} {cur d at_ : Bytes} {knd : ElKind} {cs : List Node}
    (hcP : cur ∈ P) (h : TargetR vt P cur knd cs) (lv : Option Bytes) (before : List Bytes) (out : Bytes)
    (m : List Bytes) :
    (tokensOf vt (.el cur d at_ knd cs)).foldl (stepTok tk ev) (stG .replace sel content lv before cur [], out) =
      (stX .replace sel content before cur,
        out ++ serialize (applyOpD (decOf ev) .replace (selN sel) (.verb content m) (.el cur d at_ knd cs))) := by
  rw [← repOut_eq]
  -- an element with an end tag is buffered from its start tag to its end tag
  have buffered : (knd = .normal ∨ knd = .raw) → isVoid cur = false → (∀ t ∈ innerToks vt knd cs, NeutralTok P t) →
      (tokensOf vt (.el cur d at_ knd cs)).foldl (stepTok tk ev) (stG .replace sel content lv before cur [], out) =
        (stX .replace sel content before cur, out ++ repOut ev sel content (serialize (.el cur d at_ knd cs))) := by
    intro hk hv hn
    rw [tokensOf_el_inner vt cur d at_ knd cs hk, foldl_cons_append_single,
      rep_start tk ev sel content lv before cur d at_ out hv,
      fold_stB tk ev .replace sel content hn true before cur hcP, rep_end,
      rawsOf_innerToks vt hvt, serialize_el_inner cur d at_ knd cs hk]
  cases knd with
  | selfClosing =>
    simp only [tokensOf, List.foldl_cons, List.foldl_nil]
    rw [rep_self]; simp [serialize, selfTok]
  | void =>
    simp only [tokensOf, List.foldl_cons, List.foldl_nil]
    rw [rep_void tk ev sel content lv before cur d at_ out h]; simp [serialize, startTok]
  | raw => exact buffered (Or.inr rfl) h (neutral_textToks P _)
  | normal => exact buffered (Or.inl rfl) h.1 h.2

def hitB (cur : Bytes) : Node → Bool
  | .el nm _ _ _ _ => nm == cur
  | _ => false

theorem hitB_el (cur nm d a : Bytes) (knd : ElKind) (cs : List Node) :
    hitB cur (.el nm d a knd cs) = (nm == cur) := rfl

theorem hitB_verb (cur r : Bytes) (m : List Bytes) : hitB cur (.verb r m) = false := rfl

/-- a list of siblings each of which is a replace target or free -/
def TargetsDom (P : List Bytes) (cur : Bytes) : List Node → Prop
  | [] => True
  | n :: ns =>
    (match n with
     | .el nm _ _ knd cs => if nm = cur then TargetR vt P cur knd cs else ∀ t ∈ tokensOf vt n, NeutralTok P t
     | .verb raw _ => ∀ t ∈ vt raw, NeutralTok P t) ∧ TargetsDom P cur ns

/-- **repeated sibling targets are all replaced** (child semantics: Model/FilterDom.lean, head) -/
theorem targets_R (hvt : VtLossless vt) {P : List Bytes} {cur : Bytes} (hcP : cur ∈ P) (before : List Bytes)
    (m : List Bytes) :
    ∀ (ns : List Node) (lv : Option Bytes) (out : Bytes), (∀ n, lv = some n → n ∈ P) → TargetsDom vt P cur ns →
      (tokensOfList vt ns).foldl (stepTok tk ev) (stG .replace sel content lv before cur [], out) =
        ((if ns.any (hitB cur) then stX .replace sel content before cur
          else stG .replace sel content lv before cur []),
         out ++ serializeList (editListD (decOf ev) .replace (selN sel) (.verb content m) cur [] false ns))
  | [], lv, out, _, _ => by simp [tokensOfList, editListD, serializeList]
  | n :: ns, lv, out, hl, h => by
    obtain ⟨hn, hns⟩ := h
    rw [tokensOfList_cons, List.foldl_append]
    have hS := passive_stG VKind.replace sel content (P := P) lv before cur [] hcP hl
    cases n with
    | verb raw mk =>
      simp only at hn
      rw [tokensOf, hS.fold tk ev hn, targets_R hvt hcP before m ns lv _ hl hns, hvt raw]
      simp [hitB_verb, editListD, editNodeD, serializeList, serialize, List.append_assoc]
    | el nm d at_ knd cs =>
      simp only at hn
      by_cases hnm : nm = cur
      · subst hnm
        rw [if_pos rfl] at hn
        rw [target_R tk ev sel content vt hvt hcP hn lv before out m,
          targets_R hvt hcP before m ns none _ (fun _ h => by cases h) hns]
        simp [hitB_el, editListD, editNodeD_target, serializeList, List.append_assoc]
      · rw [if_neg hnm] at hn
        rw [hS.fold tk ev hn, targets_R hvt hcP before m ns lv _ hl hns,
          rawsOf_tokensOf vt hvt]
        simp [hitB_el, hnm, editListD, editNodeD, serializeList, List.append_assoc]

/-- where the zipper ends up when it has been advanced to the last path element -/
def zEndBefore : List Bytes → Bytes → List Bytes → List Bytes
  | before, _, [] => before
  | before, cur, a :: rest => zEndBefore (cur :: before) a rest

def zEndCur : Bytes → List Bytes → Bytes
  | cur, [] => cur
  | _, a :: rest => zEndCur a rest

theorem zEndCur_mem : ∀ (cur : Bytes) (after : List Bytes), zEndCur cur after ∈ cur :: after
  | cur, [] => by simp [zEndCur]
  | cur, a :: rest => by
    have := zEndCur_mem a rest
    simp only [zEndCur]
    exact List.mem_cons_of_mem _ this

/-- domain of the element `cur` for replace, `after` = the rest of the path.  `BodyReplace::leave` on a buffered target
returns no `next_leave` and does not move `position`: after the first replacement the machine waits for the LAST path name
only, anywhere (`stX`).  Hence one chain down to the last but one, the targets among ITS children, and at least one, so that
the machine ends in `stX` in every case. -/
def ChildDomR (P : List Bytes) : List Bytes → Bytes → ElKind → List Node → Prop
  | [], cur, knd, cs => TargetR vt P cur knd cs
  | [a], cur, knd, cs =>
    knd = .normal ∧ isVoid cur = false ∧ TargetsDom vt P a cs ∧ cs.any (hitB a) = true
  | a :: r :: rs, cur, knd, cs =>
    knd = .normal ∧ isVoid cur = false ∧
    ∃ pre d' at' knd' cs' post, cs = pre ++ Node.el a d' at' knd' cs' :: post ∧
      FreeL vt P pre ∧ FreeL vt P post ∧ ChildDomR P (r :: rs) a knd' cs'

theorem passive_stX (before : List Bytes) (cur : Bytes) : Passive [cur] (stX k sel content before cur) :=
  passive_stG k sel content none before cur [] (by simp) (fun _ h => by cases h)

theorem elem_R (hvt : VtLossless vt) {P : List Bytes} (m : List Bytes) :
    ∀ (after before : List Bytes) (cur d at_ : Bytes) (knd : ElKind) (cs : List Node) (lv : Option Bytes)
      (out : Bytes), ChildDomR vt P after cur knd cs → cur ∈ P → (∀ a ∈ after, a ∈ P) →
      (cur :: after).Nodup →
      (tokensOf vt (.el cur d at_ knd cs)).foldl (stepTok tk ev) (stG .replace sel content lv before cur after, out) =
        (stX .replace sel content (zEndBefore before cur after) (zEndCur cur after),
          out ++ serialize (editNodeD (decOf ev) .replace (selN sel) (.verb content m) cur after false
            (.el cur d at_ knd cs)))
  | [], before, cur, d, at_, knd, cs, lv, out, h, hc, _, _ => by
    rw [target_R tk ev sel content vt hvt hc h lv before out m, editNodeD_target]
    rfl
  | [a], before, cur, d, at_, knd, cs, lv, out, h, hc, ha, hnd => by
    obtain ⟨hknd, hvoid, htd, hany⟩ := h
    subst hknd
    have haP : a ∈ P := ha a (by simp)
    have hne : cur ≠ a := by
      intro e; subst e; simp at hnd
    rw [tokensOf_el_normal, foldl_cons_append_single,
      step_start_down tk ev .replace sel content lv before cur a [] d at_ out hvoid]
    rw [targets_R tk ev sel content vt hvt haP (cur :: before) m cs (some cur) _
      (fun n hn => by simp at hn; exact hn ▸ hc) htd, hany]
    simp only [if_true]
    have hen : NeutralTok [a] (endTok cur d) := neutral_of_name (by simp [endTok, hne])
    rw [(passive_stX _ _ _ _ _).step tk ev hen, editNodeD_hit]
    simp [zEndBefore, zEndCur, serialize, startTok, endTok, List.append_assoc]
  | a :: r :: rs, before, cur, d, at_, knd, cs, lv, out, h, hc, ha, hnd => by
    obtain ⟨hknd, hvoid, pre, d', at', knd', cs', post, hcs, hpre, hpost, hch⟩ := h
    subst hknd hcs
    have haP : a ∈ P := ha a (by simp)
    have htm := zEndCur_mem a (r :: rs)
    have hne : cur ≠ zEndCur a (r :: rs) := fun e => (List.nodup_cons.mp hnd).1 (e ▸ htm)
    -- after the replacement the machine waits for the last path element only: the rest is copied
    exact elem_down tk ev .replace sel content vt hvt _ _ _ _ hvoid hc haP hpre hpost
      (fun out => elem_R hvt m (r :: rs) (cur :: before) a d' at' knd' cs' (some cur) out hch haP
        (fun x hx => ha x (List.mem_cons_of_mem _ hx)) (List.nodup_cons.mp hnd).2)
      (passive_stX _ _ _ _ _) (fun x hx => by simp at hx; exact hx ▸ ha _ htm)
      ((passive_stX _ _ _ _ _).step tk ev (neutral_of_name (by simp [endTok, hne]))) out

/-- an element that is not normal consists of its own tags and at most one text token -/
theorem neutral_el_of_name {P : List Bytes} {nm : Bytes} (d at_ : Bytes) {knd : ElKind} (cs : List Node)
    (hn : nm ∉ P) (hk : knd ≠ .normal) : ∀ t ∈ tokensOf vt (.el nm d at_ knd cs), NeutralTok P t := by
  intro t ht
  cases knd with
  | normal => exact absurd rfl hk
  | selfClosing => simp [tokensOf] at ht; subst ht; exact neutral_of_name hn
  | void => simp [tokensOf] at ht; subst ht; exact neutral_of_name hn
  | raw =>
    simp only [tokensOf, List.mem_cons, List.mem_append, List.not_mem_nil, or_false] at ht
    rcases ht with e | e | e
    · subst e; exact neutral_of_name hn
    · exact neutral_textToks P _ t e
    · subst e; exact neutral_of_name hn

mutual
  theorem ser_edit_free (dec : Node → Bytes → Bool) (op : EditOp) (s' : Option Bytes) (ins : Node)
      {P : List Bytes} {p : Bytes} (hp : p ∈ P) (ps : List Bytes) :
      ∀ n : Node, (∀ t ∈ tokensOf vt n, NeutralTok P t) →
        serialize (editNodeD dec op s' ins p ps true n) = serialize n
    | .verb r m, _ => by simp [editNodeD]
    | .el nm d a knd cs, h => by
      have hnm : nm ∉ P := name_not_mem_of_free vt h
      have hb : nm ≠ p := fun e => hnm (e ▸ hp)
      cases knd with
      | normal =>
        simp [editNodeD, hb, serialize, ser_edit_free_list dec op s' ins hp ps cs (free_children vt h)]
      | _ => simp [editNodeD, hb, serialize]
  theorem ser_edit_free_list (dec : Node → Bytes → Bool) (op : EditOp) (s' : Option Bytes) (ins : Node)
      {P : List Bytes} {p : Bytes} (hp : p ∈ P) (ps : List Bytes) :
      ∀ ns : List Node, FreeL vt P ns →
        serializeList (editListD dec op s' ins p ps true ns) = serializeList ns
    | [], _ => by simp [editListD]
    | n :: ns, h => by
      simp only [editListD, serializeList, ser_edit_free dec op s' ins hp ps n (FreeL.cons_head vt h),
        ser_edit_free_list dec op s' ins hp ps ns (FreeL.cons_tail vt h)]
end

section generic
variable (dec : Node → Bytes → Bool) (op : EditOp) (s' : Option Bytes) (ins : Node)
variable (P : List Bytes) (p1 : Bytes) (ps : List Bytes)
variable (Hit : Bytes → Bytes → ElKind → List Node → Prop)

mutual
  /-- every `p1` element (outside other `p1` elements and raw text) satisfies `Hit`, nothing else carries a path name -/
  def AnyDomG : Node → Prop
    | .verb raw _ => ∀ t ∈ vt raw, NeutralTok P t
    | .el nm d at_ knd cs =>
      if nm = p1 then Hit d at_ knd cs
      else nm ∉ P ∧
        (match knd with
         | .normal => AnyDomGList cs
         | _ => True)
  def AnyDomGList : List Node → Prop
    | [] => True
    | n :: ns => AnyDomG n ∧ AnyDomGList ns
end

mutual
  /-- exactly one `p1` element, satisfying `Hit`; everything else is free -/
  def OneHit : Node → Prop
    | .verb _ _ => False
    | .el nm d at_ knd cs =>
      if nm = p1 then Hit d at_ knd cs
      else nm ∉ P ∧ knd = .normal ∧ OneHitL cs
  def OneHitL : List Node → Prop
    | [] => False
    | n :: ns => (OneHit n ∧ FreeL vt P ns) ∨ ((∀ t ∈ tokensOf vt n, NeutralTok P t) ∧ OneHitL ns)
end

variable {A B : HtmlSt} {Q : List Bytes}
variable (hvt : VtLossless vt) (hp1 : p1 ∈ P)
-- `hA` with `pushA` is `Passive P A` (`pushA` forces an empty stack) in the two pieces the proofs use: `fold_neutral` and
-- `stepTok_neutral` take `StNames`, `pushA` then rewrites the `push` they leave; likewise `hB` with `pushB`
variable (hA : StNames P A) (pushA : ∀ out d, push A out d = (A, out ++ d))
variable (hB : StNames Q B) (pushB : ∀ out d, push B out d = (B, out ++ d)) (hQ : ∀ x ∈ Q, x ∈ P)
variable (hhit : ∀ (d at_ : Bytes) (knd : ElKind) (cs : List Node) (out : Bytes), Hit d at_ knd cs →
  (tokensOf vt (.el p1 d at_ knd cs)).foldl (stepTok tk ev) (A, out) =
    (B, out ++ serialize (editNodeD dec op s' ins p1 ps true (.el p1 d at_ knd cs))))

include hvt hp1 hA pushA hB pushB hQ hhit in
mutual
  /-- induction over the document, the behaviour on a `p1` element a hypothesis (`hhit`): the hit takes the machine from `A`
  to ANOTHER state `B` that copies (replace with a longer path ends in `stX` at the last path name), hence exactly one hit,
  `OneHit` -/
  theorem onehit_gen : ∀ (n : Node) (out : Bytes), OneHit vt P p1 Hit n →
      (tokensOf vt n).foldl (stepTok tk ev) (A, out) =
        (B, out ++ serialize (editNodeD dec op s' ins p1 ps true n))
    | .verb _ _, _, h => by simp [OneHit] at h
    | .el nm d at_ knd cs, out, h => by
      unfold OneHit at h
      by_cases hnm : nm = p1
      · subst hnm
        rw [if_pos rfl] at h
        exact hhit d at_ knd cs out h
      · rw [if_neg hnm] at h
        obtain ⟨hnP, hknd, hrec⟩ := h
        subst hknd
        rw [tokensOf_el_normal, foldl_cons_append_single]
        have hst : NeutralTok P (startTok nm d at_) := neutral_of_name hnP
        have hen : NeutralTok Q (endTok nm d) := neutral_of_name (fun hm => hnP (hQ _ hm))
        rw [stepTok_neutral tk ev hA hst, pushA, onehitL_gen cs _ hrec,
          stepTok_neutral tk ev hB hen, pushB]
        congr 1
        simp [editNodeD, hnm, serialize, startTok, endTok, List.append_assoc]
  theorem onehitL_gen : ∀ (ns : List Node) (out : Bytes), OneHitL vt P p1 Hit ns →
      (tokensOfList vt ns).foldl (stepTok tk ev) (A, out) =
        (B, out ++ serializeList (editListD dec op s' ins p1 ps true ns))
    | [], _, h => by simp [OneHitL] at h
    | n :: ns, out, h => by
      unfold OneHitL at h
      rw [tokensOfList_cons, List.foldl_append]
      rcases h with ⟨h1, h2⟩ | ⟨h1, h2⟩
      · have h2' : ∀ t ∈ tokensOfList vt ns, NeutralTok Q t := fun t ht => (h2 t ht).mono hQ
        rw [onehit_gen n out h1, fold_neutral tk ev _ h2' _ _ hB, pushB]
        simp only [editListD, serializeList, ser_edit_free_list vt dec op s' ins hp1 ps ns h2,
          rawsOf_tokensOfList vt hvt, List.append_assoc]
      · rw [fold_neutral tk ev _ h1 _ _ hA, pushA, onehitL_gen ns _ h2]
        simp only [editListD, serializeList, ser_edit_free vt dec op s' ins hp1 ps n h1,
          rawsOf_tokensOf vt hvt, List.append_assoc]
end

variable (hhitA : ∀ (d at_ : Bytes) (knd : ElKind) (cs : List Node) (out : Bytes), Hit d at_ knd cs →
  (tokensOf vt (.el p1 d at_ knd cs)).foldl (stepTok tk ev) (A, out) =
    (A, out ++ serialize (editNodeD dec op s' ins p1 ps true (.el p1 d at_ knd cs))))

include hvt hp1 hA pushA hhitA in
mutual
  /-- the same induction when the hit brings the machine back to the state `A` it started from (`hhitA`): append / prepend,
  where `stRet [] p1 ps` is `stG none [] p1 ps`, and replace with a one-element path; any number of hits, `AnyDomG` -/
  theorem any_gen : ∀ (n : Node) (out : Bytes), AnyDomG vt P p1 Hit n →
      (tokensOf vt n).foldl (stepTok tk ev) (A, out) =
        (A, out ++ serialize (editNodeD dec op s' ins p1 ps true n))
    | .verb raw mk, out, h => by
      simp only [AnyDomG] at h
      rw [tokensOf, fold_neutral tk ev _ h _ _ hA, pushA, hvt raw]
      simp [editNodeD, serialize]
    | .el nm d at_ knd cs, out, h => by
      unfold AnyDomG at h
      by_cases hnm : nm = p1
      · subst hnm
        rw [if_pos rfl] at h
        exact hhitA d at_ knd cs out h
      · rw [if_neg hnm] at h
        obtain ⟨hnP, hrec⟩ := h
        by_cases hk : knd = .normal
        · subst hk
          simp only at hrec
          rw [tokensOf_el_normal, foldl_cons_append_single,
            stepTok_neutral tk ev hA (neutral_of_name hnP), pushA, anyList_gen cs _ hrec,
            stepTok_neutral tk ev hA (neutral_of_name hnP), pushA]
          congr 1
          simp [editNodeD, hnm, serialize, startTok, endTok, List.append_assoc]
        · have hn := neutral_el_of_name vt d at_ cs hnP hk
          rw [fold_neutral tk ev _ hn _ _ hA, pushA, rawsOf_tokensOf vt hvt,
            ser_edit_free vt dec op s' ins hp1 ps _ hn]
  theorem anyList_gen : ∀ (ns : List Node) (out : Bytes), AnyDomGList vt P p1 Hit ns →
      (tokensOfList vt ns).foldl (stepTok tk ev) (A, out) =
        (A, out ++ serializeList (editListD dec op s' ins p1 ps true ns))
    | [], out, _ => by simp [tokensOfList, editListD, serializeList]
    | n :: ns, out, h => by
      unfold AnyDomGList at h
      rw [tokensOfList_cons, List.foldl_append, any_gen n out h.1, anyList_gen ns _ h.2]
      simp [editListD, serializeList, List.append_assoc]
end

end generic

/-- `AnyDomAP` is `AnyDomG` with `ChildDomAP` for the hit: the two pairs of definitions are the same recursion.
(`delta` first: `rfl` alone does not unfold a recursive definition that is not applied to a node.) -/
theorem anyDomAP_eq (P : List Bytes) (p1 : Bytes) (ps : List Bytes) :
    AnyDomAP tk k sel vt P p1 ps = AnyDomG vt P p1 (ChildDomAP tk k sel vt P ps p1) := by
  delta AnyDomAP AnyDomG; rfl

theorem anyDomAPList_eq (P : List Bytes) (p1 : Bytes) (ps : List Bytes) :
    AnyDomAPList tk k sel vt P p1 ps = AnyDomGList vt P p1 (ChildDomAP tk k sel vt P ps p1) := by
  delta AnyDomAPList AnyDomGList; rfl

/-- append / prepend on a whole document: `anyList_gen` at `A := stG none [] p1 ps`, to which `elem_AP` returns
(`stRet [] p1 ps`) -/
theorem anyList_AP (hk : k = .append ∨ k = .prepend) (hvt : VtLossless vt) {P : List Bytes} (m : List Bytes)
    (p1 : Bytes) (ps : List Bytes) (hp1 : p1 ∈ P) (hps : ∀ a ∈ ps, a ∈ P) (ns : List Node) (out : Bytes)
    (h : AnyDomAPList tk k sel vt P p1 ps ns) :
    (tokensOfList vt ns).foldl (stepTok tk ev) (stG k sel content none [] p1 ps, out) =
      (stG k sel content none [] p1 ps,
        out ++ serializeList (editListD (decOf ev) (opOf k) (selN sel) (.verb content m) p1 ps true ns)) :=
  anyList_gen tk ev vt (decOf ev) (opOf k) (selN sel) (.verb content m) P p1 ps (ChildDomAP tk k sel vt P ps p1)
    hvt hp1 (passive_stG k sel content none [] p1 ps hp1 (fun _ h => by cases h)).names (push_empty_stack rfl)
    (fun d at_ knd cs out hh => by
      rw [elem_AP tk ev k sel content vt hk hvt m ps [] p1 d at_ knd cs none out hh hp1 hps,
        editNodeD_aw _ _ _ _ _ _ true]
      rfl)
    ns out (anyDomAPList_eq tk k sel vt P p1 ps ▸ h)

/-- replace with the one-element path `[p1]`: `anyList_gen` again, since `target_R` ends in `stX [] p1`, the start state -/
theorem anyList_R1 (hvt : VtLossless vt) (m : List Bytes) (p1 : Bytes) (doc : List Node) (out : Bytes)
    (h : AnyDomGList vt [p1] p1 (fun _ _ knd cs => TargetR vt [p1] p1 knd cs) doc) :
    (tokensOfList vt doc).foldl (stepTok tk ev) (stG .replace sel content none [] p1 [], out) =
      (stG .replace sel content none [] p1 [],
        out ++ serializeList (editListD (decOf ev) .replace (selN sel) (.verb content m) p1 [] true doc)) :=
  anyList_gen tk ev vt (decOf ev) .replace (selN sel) (.verb content m) [p1] p1 []
    (fun _ _ knd cs => TargetR vt [p1] p1 knd cs) hvt (by simp)
    (passive_stG .replace sel content none [] p1 [] (by simp) (fun _ h => by cases h)).names (push_empty_stack rfl)
    (fun d at_ knd cs out hh => by
      rw [target_R tk ev sel content vt hvt (by simp) hh none [] out m, editNodeD_target])
    doc out h

/-- replace with a path of two or more: `onehitL_gen` from the start state to `stX` at the last path name (`elem_R`) -/
theorem oneHitL_Rn (hvt : VtLossless vt) (m : List Bytes) (p1 a : Bytes) (rest : List Bytes)
    (hnd : (p1 :: a :: rest).Nodup) (doc : List Node) (out : Bytes)
    (h : OneHitL vt (p1 :: a :: rest) p1
      (fun _ _ knd cs => ChildDomR vt (p1 :: a :: rest) (a :: rest) p1 knd cs) doc) :
    (tokensOfList vt doc).foldl (stepTok tk ev) (stG .replace sel content none [] p1 (a :: rest), out) =
      (stX .replace sel content (zEndBefore [] p1 (a :: rest)) (zEndCur p1 (a :: rest)),
        out ++ serializeList (editListD (decOf ev) .replace (selN sel) (.verb content m) p1 (a :: rest) true doc)) :=
  have htm : zEndCur p1 (a :: rest) ∈ p1 :: a :: rest := zEndCur_mem p1 (a :: rest)
  onehitL_gen tk ev vt (decOf ev) .replace (selN sel) (.verb content m) (p1 :: a :: rest) p1 (a :: rest)
    (fun _ _ knd cs => ChildDomR vt (p1 :: a :: rest) (a :: rest) p1 knd cs)
    (Q := [zEndCur p1 (a :: rest)]) hvt (by simp)
    (passive_stG .replace sel content none [] p1 (a :: rest) (by simp) (fun _ h => by cases h)).names
    (push_empty_stack rfl) (passive_stX _ _ _ _ _).names (push_empty_stack rfl)
    (fun x hx => by simp at hx; exact hx ▸ htm)
    (fun d at_ knd cs out hh => by
      rw [elem_R tk ev sel content vt hvt m (a :: rest) [] p1 d at_ knd cs none out hh (by simp)
        (fun x hx => List.mem_cons_of_mem _ hx) hnd, editNodeD_aw _ _ _ _ _ _ true])
    doc out h

/-- the token loop of `filter` over all tokens, then `end()` -/
def runToks (v : Visitor) (toks : List Tok) : Bytes :=
  (toks.foldl (stepTok tk ev) (HtmlSt.new v, [])).2 ++ endHtml (toks.foldl (stepTok tk ev) (HtmlSt.new v, [])).1

theorem new_eq_stG (p1 : Bytes) (ps : List Bytes) :
    HtmlSt.new (vis k sel content [] p1 ps false) = stG k sel content none [] p1 ps := rfl

theorem runToks_of_fold {v : Visitor} {toks : List Tok} {s : HtmlSt} {y : Bytes}
    (h : toks.foldl (stepTok tk ev) (HtmlSt.new v, []) = (s, y)) (he : endHtml s = []) : runToks tk ev v toks = y := by
  unfold runToks
  rw [h, he, List.append_nil]

theorem cutSplit_of_noCut : ∀ (xs : List TokX), (∀ t ∈ xs, isCut t = false) → cutSplit xs = (xs, [])
  | [], _ => rfl
  | x :: xs, h => by
    rw [cutSplit_cons_ok x xs (h x (by simp)), cutSplit_of_noCut xs fun t ht => h t (List.mem_cons_of_mem _ ht)]

/-- a stage that holds nothing: `end()` returns nothing -/
def CleanStage (st : Stage Unit Unit) : Prop :=
  match st with
  | .html s => endHtml s = []
  | _ => False

theorem cleanStage_new (v : Visitor) : CleanStage (.html (HtmlSt.new v)) := by
  simp [CleanStage, endHtml, HtmlSt.new]

theorem doFilter_cons_some {D E : Type} (codec : Codec D E) {st st' : Stage D E} {rest : List (Stage D E)} {x z : Bytes}
    (h : st.filter tk ev codec x = some (st', z)) (hne : rest ≠ [] → z ≠ []) :
    doFilter tk ev codec (st :: rest) x = (st' :: (doFilter tk ev codec rest z).1, (doFilter tk ev codec rest z).2) := by
  by_cases hz : z = []
  · subst hz
    obtain rfl : rest = [] := Decidable.by_contra fun hr => hne hr rfl
    exact doFilter_cons_empty tk ev codec [] h
  · exact doFilter_cons_more tk ev codec rest h hz

theorem doEnd_clean : ∀ (items : List (Stage Unit Unit)), (∀ st ∈ items, CleanStage st) →
    doEnd tk ev noCodec items none = (items, .ok none)
  | [], _ => by simp [doEnd]
  | st :: rest, h => by
    have hst := h st (by simp)
    cases st with
    | html s =>
      simp only [CleanStage] at hst
      have : Stage.endWith tk ev noCodec (Stage.html s : Stage Unit Unit) none = (.html s, some []) := by
        simp [Stage.endWith, Stage.end, hst]
      simp only [doEnd, this, List.isEmpty_nil, if_true,
        doEnd_clean rest (fun x hx => h x (List.mem_cons_of_mem _ hx))]
    | _ => simp [CleanStage] at hst

/-- the stages `FilterBodyAction::new` builds from the filters `fs` (no headers), fed `x` in one `filter` call, emit `y`
and hold nothing afterwards -/
def RunsTo (fs : List BodyFilter) (x y : Bytes) : Prop :=
  ∃ items', doFilter tk ev noCodec (fs.filterMap fun f => (Stage.new f none : Option (Stage Unit Unit))) x =
    (items', some y) ∧ ∀ st ∈ items', CleanStage st

theorem chain_run_of_runsTo (lower : String → String) {fs : List BodyFilter} {x y : Bytes} (h : RunsTo tk ev fs x y) :
    (Chain.new noCodec lower fs [] : Chain Unit Unit).run tk ev noCodec [x] = y := by
  obtain ⟨items', hd, hcl⟩ := h
  have hn : (Chain.new noCodec lower fs [] : Chain Unit Unit) =
      { items := fs.filterMap fun f => Stage.new f none } := by simp [Chain.new, headerValue]
  simp only [hn, Chain.run, Chain.runOuts, Chain.feed, Chain.filter, Bool.false_eq_true, if_false, hd,
    Chain.end, doEnd_clean tk ev items' hcl]
  simp

/-- `v` is the visitor `HtmlBodyVisitor::new` builds for the filter `f` -/
def VisitorOf (f : BodyFilter) (v : Visitor) : Prop :=
  ∃ a p s c, f = BodyFilter.html a p s c ∧ Visitor.new a p s c = some v

/-- the stream tokenizer (fresh stage: empty context) sees the serialised document as its token list, leaves nothing,
no token is cut short by the end of the data (a final plain text does not count: `isCut`), the bytes are valid UTF-8
and the last token is not a text holding `<` (which `filter` would keep back until `end`) -/
structure TokAgree (doc : List Node) : Prop where
  toks : toksOf (tk.stream [] (serializeList doc)).1 = tokensOfList vt doc
  rest : (tk.stream [] (serializeList doc)).2.1 = []
  noCut : ∀ x ∈ (tk.stream [] (serializeList doc)).1, isCut x = false
  utf8 : utf8Split (serializeList doc) = some (serializeList doc, [])
  noHeld : splitHeld (tokensOfList vt doc) = (tokensOfList vt doc, [])

theorem TokAgree.of_tokens_eq {tk : Tokenize} {vt vt' : Bytes → List Tok} {doc : List Node}
    (e : tokensOfList vt doc = tokensOfList vt' doc) (h : TokAgree tk vt' doc) : TokAgree tk vt doc :=
  ⟨e ▸ h.toks, h.rest, h.noCut, h.utf8, e ▸ h.noHeld⟩

theorem filterHtml_of_fold {v : Visitor} {doc : List Node} {s : HtmlSt} {y : Bytes} (ha : TokAgree tk vt doc)
    (hf : (tokensOfList vt doc).foldl (stepTok tk ev) (HtmlSt.new v, []) = (s, y)) (hs : endHtml s = []) :
    ∃ s', filterHtml tk ev (HtmlSt.new v) (serializeList doc) = some (s', y) ∧ endHtml s' = [] := by
  have hcs := cutSplit_of_noCut _ ha.noCut
  have hv1 : (view tk [] (serializeList doc)).todo = tokensOfList vt doc := by
    unfold view
    simp only [hcs, List.isEmpty_nil, if_true, ha.toks, ha.noHeld]
  have hv2 : (view tk [] (serializeList doc)).tail = [] := by
    unfold view
    simp only [hcs, List.isEmpty_nil, if_true, ha.toks, ha.noHeld, ha.rest]
    simp [toksOf, rawsOf]
  refine ⟨{ s with last := [], ctx := (view tk [] (serializeList doc)).ctx' }, ?_, ?_⟩
  · rw [filterHtml_view]
    have hl : (HtmlSt.new v).last = [] := rfl
    have hc : (HtmlSt.new v).ctx = [] := rfl
    rw [hl, hc, List.nil_append, ha.utf8]
    simp only [hv1, hv2, hf, List.append_nil]
  · simpa [endHtml] using (List.append_eq_nil_iff.mp hs).1

theorem RunsTo.nil (x : Bytes) : RunsTo tk ev [] x x := ⟨[], rfl, fun _ h => by cases h⟩

theorem RunsTo.cons {doc : List Node} {f : BodyFilter} {fs : List BodyFilter} {z y : Bytes} (ha : TokAgree tk vt doc)
    (hf : ∃ v s, VisitorOf f v ∧
      (tokensOfList vt doc).foldl (stepTok tk ev) (HtmlSt.new v, []) = (s, z) ∧ endHtml s = [])
    (hne : fs ≠ [] → z ≠ []) (h : RunsTo tk ev fs z y) : RunsTo tk ev (f :: fs) (serializeList doc) y := by
  obtain ⟨v, s, ⟨a, p, sl, c, rfl, hv⟩, hfold, hs⟩ := hf
  obtain ⟨s', hfh, hs'⟩ := filterHtml_of_fold tk ev vt ha hfold hs
  obtain ⟨items', hd, hcl⟩ := h
  have hst : (Stage.new (.html a p sl c) none : Option (Stage Unit Unit)) = some (.html (HtmlSt.new v)) := by
    simp [Stage.new, htmlAllowed, hv]
  refine ⟨.html s' :: items', ?_, ?_⟩
  · simp only [List.filterMap_cons, hst]
    rw [doFilter_cons_some tk ev noCodec (Stage.filter_html_some tk ev noCodec hfh)
      (fun hr => hne fun e => hr (by rw [e]; rfl)), hd]
  · intro st hst
    rcases List.mem_cons.mp hst with rfl | e
    · exact hs'
    · exact hcl st e

/-- the domain of one filter on one document, by action.  append / prepend: `AnyDomAP`; replace with a one-element path:
every `p1` element outside another one is a `TargetR`; with a longer path: ONE `p1` element, below it `ChildDomR` -/
inductive InDomain (doc : List Node) : BodyFilter → Prop where
  | append (p1 : Bytes) (ps : List Bytes) (sel : Option Bytes) (value : Bytes)
      (h : AnyDomAPList tk .append sel vt (p1 :: ps) p1 ps doc) :
      InDomain doc (.html Rio.Consts.filterActionAppend (p1 :: ps) sel value)
  | prepend (p1 : Bytes) (ps : List Bytes) (sel : Option Bytes) (value : Bytes)
      (h : AnyDomAPList tk .prepend sel vt (p1 :: ps) p1 ps doc) :
      InDomain doc (.html Rio.Consts.filterActionPrepend (p1 :: ps) sel value)
  | replace1 (p1 : Bytes) (sel : Option Bytes) (value : Bytes)
      (h : AnyDomGList vt [p1] p1 (fun _ _ knd cs => TargetR vt [p1] p1 knd cs) doc) :
      InDomain doc (.html Rio.Consts.filterActionReplace [p1] sel value)
  | replaceN (p1 a : Bytes) (rest : List Bytes) (sel : Option Bytes) (value : Bytes)
      (hnd : (p1 :: a :: rest).Nodup)
      (h : OneHitL vt (p1 :: a :: rest) p1
        (fun _ _ knd cs => ChildDomR vt (p1 :: a :: rest) (a :: rest) p1 knd cs) doc) :
      InDomain doc (.html Rio.Consts.filterActionReplace (p1 :: a :: rest) sel value)

theorem actions_distinct :
    Rio.Consts.filterActionPrepend ≠ Rio.Consts.filterActionAppend ∧
    Rio.Consts.filterActionReplace ≠ Rio.Consts.filterActionAppend ∧
    Rio.Consts.filterActionReplace ≠ Rio.Consts.filterActionPrepend := by
  simp [Rio.Consts.filterActionPrepend, Rio.Consts.filterActionAppend, Rio.Consts.filterActionReplace]

/-- **one filter in its domain**: the fold over the document's tokens has emitted the serialisation of the reference edit
and leaves `end` nothing to emit.  Its four cases are the `…_tokens_spec…` of Props/C15; `RunsTo.cons` takes it as `hf` -/
theorem fold_inDomain (hvt : VtLossless vt) {doc : List Node} {f : BodyFilter} (h : InDomain tk vt doc f) :
    ∃ v s, VisitorOf f v ∧
      (tokensOfList vt doc).foldl (stepTok tk ev) (HtmlSt.new v, []) =
        (s, serializeList (editD (decOf ev) doc f)) ∧ endHtml s = [] := by
  obtain ⟨h1, h2, h3⟩ := actions_distinct
  cases h with
  | append p1 ps sel value h =>
    refine ⟨vis .append sel value [] p1 ps false, stG .append sel value none [] p1 ps,
      ⟨_, _, _, _, rfl, by simp [Visitor.new, vis]⟩, ?_, rfl⟩
    rw [new_eq_stG, anyList_AP tk ev .append sel value vt (Or.inl rfl) hvt (valueMarks value) p1 ps
      (P := p1 :: ps) (by simp) (fun a ha => by simp [ha]) doc [] h]
    simp [editD, opOf, selN]
  | prepend p1 ps sel value h =>
    refine ⟨vis .prepend sel value [] p1 ps false, stG .prepend sel value none [] p1 ps,
      ⟨_, _, _, _, rfl, by simp [Visitor.new, vis, h1]⟩, ?_, rfl⟩
    rw [new_eq_stG, anyList_AP tk ev .prepend sel value vt (Or.inr rfl) hvt (valueMarks value) p1 ps
      (P := p1 :: ps) (by simp) (fun a ha => by simp [ha]) doc [] h]
    simp [editD, opOf, selN, h1]
  | replace1 p1 sel value h =>
    refine ⟨vis .replace sel value [] p1 [] false, stG .replace sel value none [] p1 [],
      ⟨_, _, _, _, rfl, by simp [Visitor.new, vis, h2, h3]⟩, ?_, rfl⟩
    rw [new_eq_stG, anyList_R1 tk ev sel value vt hvt (valueMarks value) p1 doc [] h]
    simp [editD, selN, h2, h3]
  | replaceN p1 a rest sel value hnd h =>
    refine ⟨vis .replace sel value [] p1 (a :: rest) false,
      stX .replace sel value (zEndBefore [] p1 (a :: rest)) (zEndCur p1 (a :: rest)),
      ⟨_, _, _, _, rfl, by simp [Visitor.new, vis, h2, h3]⟩, ?_, rfl⟩
    rw [new_eq_stG, oneHitL_Rn tk ev sel value vt hvt (valueMarks value) p1 a rest hnd doc [] h]
    simp [editD, selN, h2, h3]

theorem runToks_inDomain (hvt : VtLossless vt) {doc : List Node} {a : String} {p : List Bytes} {s : Option Bytes}
    {c : Bytes} (h : InDomain tk vt doc (.html a p s c)) :
    ∃ v, Visitor.new a p s c = some v ∧
      runToks tk ev v (tokensOfList vt doc) = serializeList (editD (decOf ev) doc (.html a p s c)) := by
  obtain ⟨v, st, ⟨_, _, _, _, e, hv⟩, hf, he⟩ := fold_inDomain tk ev vt hvt h
  cases e
  exact ⟨v, hv, runToks_of_fold tk ev hf he⟩

/-- a list of filters applied one after the other, each in its domain on the document it sees; no intermediate result is
empty: `do_filter` hands nothing on after an empty one.  The later `Steps…` are this recursion with another condition per
step: `StepsOK3` (FilterDomNoop) `InDomain ∨ NoOp`; `StepsSimple`, `…2` (FilterDomUniv, Univ2), for `TokAgree`, what implies it
on a grammar; `StepsSimple3` (Univ3) both; `StepsSimple4` (FilterDomMerge) both, of the merged document.  Each leads to
`RunsTo` (`runsTo_of_steps…`), at once or through `StepsOK` / `StepsOK3`. -/
def StepsOK : List Node → List BodyFilter → Prop
  | _, [] => True
  | d, f :: fs =>
    InDomain tk vt d f ∧ TokAgree tk vt d ∧ (fs ≠ [] → serializeList (editD (decOf ev) d f) ≠ []) ∧
    StepsOK (editD (decOf ev) d f) fs

theorem runsTo_of_steps (hvt : VtLossless vt) :
    ∀ (fs : List BodyFilter) (d : List Node), StepsOK tk ev vt d fs →
      RunsTo tk ev fs (serializeList d) (serializeList (editAllD (decOf ev) d fs))
  | [], _, _ => .nil tk ev _
  | _ :: fs, _, ⟨hdom, hag, hne, hrest⟩ =>
    .cons tk ev vt hag (fold_inDomain tk ev vt hvt hdom) hne (runsTo_of_steps hvt fs _ hrest)

/-! `inDomainB` decides a sufficient condition for `InDomain`: the decomposition `pre ++ hit :: post` is found by
cutting at the first child of the awaited name. -/

def neutralB (P : List Bytes) (t : Tok) : Bool := !isTagKind t.kind || !P.contains t.name

theorem neutralB_sound {P : List Bytes} {t : Tok} (h : neutralB P t = true) : NeutralTok P t := by
  intro hk hm
  unfold neutralB at h
  rw [hk] at h
  simp at h
  exact h hm

theorem all_neutralB_sound {P : List Bytes} {toks : List Tok} (h : toks.all (neutralB P) = true) :
    ∀ t ∈ toks, NeutralTok P t :=
  fun t ht => neutralB_sound (List.all_eq_true.mp h t ht)

/-- nesting depth walk of `append_child`: `none` = the level would be closed -/
def balWalk : List Tok → Nat → Option Nat
  | [], d => some d
  | t :: ts, d =>
    if t.kind = .startTag then (if isVoid t.name then balWalk ts d else balWalk ts (d + 1))
    else if t.kind = .endTag then (match d with | 0 => none | d' + 1 => balWalk ts d')
    else balWalk ts d

theorem balWalk_sound (toks : List Tok) (d d' : Nat) (h : balWalk toks d = some d')
    (child : Bytes) (more : List Tok) (rest : Bytes) (l : Int) (hl : 1 ≤ l) : ∀ out : Bytes,
      appendChildGo child (toks ++ more) rest (l + d) out =
        appendChildGo child more rest (l + d') (out ++ rawsOf toks) := by
  fun_induction balWalk toks d with
  | case1 d => cases h; simp [rawsOf]
  | case2 t ts d hs hv ih =>
    intro out
    rw [List.cons_append, rawsOf_cons, ← List.append_assoc,
      appendChildGo_skip (by simp [hs]) (fun _ => hv), ih h]
  | case3 t ts d hs hv ih =>
    intro out
    rw [List.cons_append, rawsOf_cons, ← List.append_assoc,
      appendChildGo_open hs (by simpa using hv), Int.add_assoc]
    exact ih h _
  | case4 t ts hs he => cases h
  | case5 t ts hs he d0 ih =>
    intro out
    have hz : ¬ l + ((d0 + 1 : Nat) : Int) - 1 = 0 := by omega
    have e : l + ((d0 + 1 : Nat) : Int) - 1 = l + (d0 : Int) := by omega
    rw [List.cons_append, rawsOf_cons, ← List.append_assoc, appendChildGo_close he, if_neg hz, e, ih h]
  | case6 t ts d hs he ih =>
    intro out
    rw [List.cons_append, rawsOf_cons, ← List.append_assoc,
      appendChildGo_skip he (fun h => absurd h hs), ih h]

theorem bal_of_walk {toks : List Tok} (h : balWalk toks 0 = some 0) : Bal toks := by
  intro child more rest l out hl
  simpa using balWalk_sound toks 0 0 h child more rest l hl out

def cutAt (a : Bytes) : List Node → Option (List Node × (Bytes × Bytes × ElKind × List Node) × List Node)
  | [] => none
  | n :: ns =>
    match n with
    | .el nm d at_ knd cs =>
      if nm = a then some ([], (d, at_, knd, cs), ns)
      else (cutAt a ns).map fun r => (n :: r.1, r.2.1, r.2.2)
    | .verb _ _ => (cutAt a ns).map fun r => (n :: r.1, r.2.1, r.2.2)

theorem cutAt_sound {a : Bytes} {ns pre post : List Node} {d at_ : Bytes} {knd : ElKind} {cs : List Node}
    (h : cutAt a ns = some (pre, (d, at_, knd, cs), post)) : ns = pre ++ Node.el a d at_ knd cs :: post := by
  fun_induction cutAt a ns generalizing pre with
  | case1 => cases h
  | case2 ns d0 at0 knd0 cs0 => cases h; rfl
  | case3 ns nm d0 at0 knd0 cs0 hnm ih =>
    obtain ⟨⟨p, x, q⟩, hr, he⟩ := Option.map_eq_some_iff.mp h
    cases he
    rw [ih hr]; rfl
  | case4 ns r m ih =>
    obtain ⟨⟨p, x, q⟩, hr, he⟩ := Option.map_eq_some_iff.mp h
    cases he
    rw [ih hr]; rfl

def freeLB (P : List Bytes) (ns : List Node) : Bool := (tokensOfList vt ns).all (neutralB P)

theorem freeLB_sound {P : List Bytes} {ns : List Node} (h : freeLB vt P ns = true) : FreeL vt P ns :=
  all_neutralB_sound h

def targetAPB (P : List Bytes) (cur d at_ : Bytes) (knd : ElKind) (cs : List Node) : Bool :=
  (knd == .normal || knd == .raw) && !isVoid cur && (innerToks vt knd cs).all (neutralB P) &&
  (!selOn sel || decide (tk (serialize (.el cur d at_ knd cs)) = (tokensOf vt (.el cur d at_ knd cs), []))) &&
  (!selOn sel || k != .append || decide (balWalk (innerToks vt knd cs) 0 = some 0))

theorem targetAPB_sound {P : List Bytes} {cur d at_ : Bytes} {knd : ElKind} {cs : List Node}
    (h : targetAPB tk k sel vt P cur d at_ knd cs = true) : TargetAP tk k sel vt P cur d at_ knd cs := by
  unfold targetAPB at h
  simp only [Bool.and_eq_true, Bool.or_eq_true, beq_iff_eq, Bool.not_eq_true', bne_iff_ne, ne_eq,
    decide_eq_true_eq] at h
  obtain ⟨⟨⟨⟨h1, h2⟩, h3⟩, h4⟩, h5⟩ := h
  refine ⟨h1, h2, all_neutralB_sound h3, ?_, ?_⟩
  · intro hs
    rcases h4 with h4 | h4
    · rw [hs] at h4; cases h4
    · exact h4
  · intro hs hk
    rcases h5 with (h5 | h5) | h5
    · rw [hs] at h5; cases h5
    · exact absurd hk h5
    · exact bal_of_walk h5

def childDomAPB (P : List Bytes) : List Bytes → Bytes → Bytes → Bytes → ElKind → List Node → Bool
  | [], cur, d, at_, knd, cs => targetAPB tk k sel vt P cur d at_ knd cs
  | a :: rest, cur, _, _, knd, cs =>
    knd == .normal && !isVoid cur &&
    (match cutAt a cs with
     | none => false
     | some (pre, (d', at', knd', cs'), post) =>
       freeLB vt P pre && freeLB vt P post && childDomAPB P rest a d' at' knd' cs')

/-- what both `childDom…B` check of an element that is not the last of the path: cut at the child awaited next, free
siblings on either side, and the check `X` of that child.  (Below `childDomAPB` on purpose: whichever of the two is
elaborated first creates the auxiliary `match` function and gives it its name, and tools/pin_statements.py hashes the
definition with the names it mentions.) -/
theorem descendB_sound {P : List Bytes} {a : Bytes} {cs : List Node} {X : Bytes → Bytes → ElKind → List Node → Bool}
    {Y : Bytes → Bytes → ElKind → List Node → Prop} (hXY : ∀ d at_ knd cs, X d at_ knd cs = true → Y d at_ knd cs)
    (h : (match cutAt a cs with
      | none => false
      | some (pre, (d', at', knd', cs'), post) => freeLB vt P pre && freeLB vt P post && X d' at' knd' cs') = true) :
    ∃ pre d' at' knd' cs' post, cs = pre ++ Node.el a d' at' knd' cs' :: post ∧
      FreeL vt P pre ∧ FreeL vt P post ∧ Y d' at' knd' cs' := by
  cases hc : cutAt a cs with
  | none => rw [hc] at h; cases h
  | some r =>
    obtain ⟨pre, ⟨d', at', knd', cs'⟩, post⟩ := r
    rw [hc] at h
    simp only [Bool.and_eq_true] at h
    exact ⟨pre, d', at', knd', cs', post, cutAt_sound hc, freeLB_sound vt h.1.1, freeLB_sound vt h.1.2, hXY _ _ _ _ h.2⟩

theorem childDomAPB_sound {P : List Bytes} : ∀ (after : List Bytes) (cur d at_ : Bytes) (knd : ElKind)
    (cs : List Node), childDomAPB tk k sel vt P after cur d at_ knd cs = true →
      ChildDomAP tk k sel vt P after cur d at_ knd cs
  | [], cur, d, at_, knd, cs, h => targetAPB_sound tk k sel vt h
  | a :: rest, cur, d, at_, knd, cs, h => by
    unfold childDomAPB at h
    simp only [Bool.and_eq_true, beq_iff_eq, Bool.not_eq_true'] at h
    exact ⟨h.1.1, h.1.2, descendB_sound vt (childDomAPB_sound rest a) h.2⟩

mutual
  def anyDomAPB (P : List Bytes) (p1 : Bytes) (ps : List Bytes) : Node → Bool
    | .verb raw _ => (vt raw).all (neutralB P)
    | .el nm d at_ knd cs =>
      if nm = p1 then childDomAPB tk k sel vt P ps p1 d at_ knd cs
      else !P.contains nm &&
        (match knd with
         | .normal => anyDomAPListB P p1 ps cs
         | _ => true)
  def anyDomAPListB (P : List Bytes) (p1 : Bytes) (ps : List Bytes) : List Node → Bool
    | [] => true
    | n :: ns => anyDomAPB P p1 ps n && anyDomAPListB P p1 ps ns
end

def targetRB (P : List Bytes) (cur : Bytes) (knd : ElKind) (cs : List Node) : Bool :=
  match knd with
  | .normal => !isVoid cur && (innerToks vt .normal cs).all (neutralB P)
  | .raw => !isVoid cur
  | .void => isVoid cur
  | .selfClosing => true

theorem targetRB_sound {P : List Bytes} {cur : Bytes} {knd : ElKind} {cs : List Node}
    (h : targetRB vt P cur knd cs = true) : TargetR vt P cur knd cs := by
  unfold targetRB at h
  unfold TargetR
  cases knd with
  | normal =>
    simp only [Bool.and_eq_true, Bool.not_eq_true'] at h
    exact ⟨h.1, all_neutralB_sound h.2⟩
  | raw => simpa using h
  | void => simpa using h
  | selfClosing => trivial

def targetsDomB (P : List Bytes) (cur : Bytes) : List Node → Bool
  | [] => true
  | n :: ns =>
    (match n with
     | .el nm _ _ knd cs => if nm = cur then targetRB vt P cur knd cs else (tokensOf vt n).all (neutralB P)
     | .verb raw _ => (vt raw).all (neutralB P)) && targetsDomB P cur ns

theorem targetsDomB_sound {P : List Bytes} {cur : Bytes} :
    ∀ ns : List Node, targetsDomB vt P cur ns = true → TargetsDom vt P cur ns
  | [], _ => trivial
  | n :: ns, h => by
    unfold targetsDomB at h
    simp only [Bool.and_eq_true] at h
    refine ⟨?_, targetsDomB_sound ns h.2⟩
    cases n with
    | verb raw m => exact all_neutralB_sound h.1
    | el nm d at_ knd cs =>
      simp only at h ⊢
      by_cases hnm : nm = cur
      · rw [if_pos hnm] at h ⊢; exact targetRB_sound vt h.1
      · rw [if_neg hnm] at h ⊢; exact all_neutralB_sound h.1

def childDomRB (P : List Bytes) : List Bytes → Bytes → ElKind → List Node → Bool
  | [], cur, knd, cs => targetRB vt P cur knd cs
  | [a], cur, knd, cs => knd == .normal && !isVoid cur && targetsDomB vt P a cs && cs.any (hitB a)
  | a :: r :: rs, cur, knd, cs =>
    knd == .normal && !isVoid cur &&
    (match cutAt a cs with
     | none => false
     | some (pre, (_, _, knd', cs'), post) =>
       freeLB vt P pre && freeLB vt P post && childDomRB P (r :: rs) a knd' cs')

theorem childDomRB_sound {P : List Bytes} : ∀ (after : List Bytes) (cur : Bytes) (knd : ElKind) (cs : List Node),
    childDomRB vt P after cur knd cs = true → ChildDomR vt P after cur knd cs
  | [], cur, knd, cs, h => targetRB_sound vt h
  | [a], cur, knd, cs, h => by
    unfold childDomRB at h
    simp only [Bool.and_eq_true, beq_iff_eq, Bool.not_eq_true'] at h
    exact ⟨h.1.1.1, h.1.1.2, targetsDomB_sound vt cs h.1.2, h.2⟩
  | a :: r :: rs, cur, knd, cs, h => by
    unfold childDomRB at h
    simp only [Bool.and_eq_true, beq_iff_eq, Bool.not_eq_true'] at h
    exact ⟨h.1.1, h.1.2, descendB_sound vt (fun _ _ => childDomRB_sound (r :: rs) a) h.2⟩

section checkgen
variable (P : List Bytes) (p1 : Bytes) (HitB : Bytes → Bytes → ElKind → List Node → Bool)

mutual
  def anyDomGB : Node → Bool
    | .verb raw _ => (vt raw).all (neutralB P)
    | .el nm d at_ knd cs =>
      if nm = p1 then HitB d at_ knd cs
      else !P.contains nm &&
        (match knd with
         | .normal => anyDomGListB cs
         | _ => true)
  def anyDomGListB : List Node → Bool
    | [] => true
    | n :: ns => anyDomGB n && anyDomGListB ns
end

mutual
  def oneHitB : Node → Bool
    | .verb _ _ => false
    | .el nm d at_ knd cs =>
      if nm = p1 then HitB d at_ knd cs
      else !P.contains nm && knd == .normal && oneHitLB cs
  def oneHitLB : List Node → Bool
    | [] => false
    | n :: ns => (oneHitB n && freeLB vt P ns) || ((tokensOf vt n).all (neutralB P) && oneHitLB ns)
end

variable {Hit : Bytes → Bytes → ElKind → List Node → Prop}
variable (hHit : ∀ d at_ knd cs, HitB d at_ knd cs = true → Hit d at_ knd cs)

include hHit in
mutual
  theorem anyDomGB_sound : ∀ n : Node, anyDomGB vt P p1 HitB n = true → AnyDomG vt P p1 Hit n
    | .verb raw _, h => by
      unfold AnyDomG
      exact all_neutralB_sound (by simpa [anyDomGB] using h)
    | .el nm d at_ knd cs, h => by
      unfold anyDomGB at h
      unfold AnyDomG
      by_cases hnm : nm = p1
      · rw [if_pos hnm] at h ⊢; exact hHit d at_ knd cs h
      · rw [if_neg hnm] at h ⊢
        simp only [Bool.and_eq_true, Bool.not_eq_true'] at h
        refine ⟨by simpa using h.1, ?_⟩
        cases knd with
        | normal => exact anyDomGListB_sound cs h.2
        | _ => trivial
  theorem anyDomGListB_sound : ∀ ns : List Node, anyDomGListB vt P p1 HitB ns = true →
      AnyDomGList vt P p1 Hit ns
    | [], _ => by unfold AnyDomGList; trivial
    | n :: ns, h => by
      unfold anyDomGListB at h
      unfold AnyDomGList
      simp only [Bool.and_eq_true] at h
      exact ⟨anyDomGB_sound n h.1, anyDomGListB_sound ns h.2⟩
end

include hHit in
mutual
  theorem oneHitB_sound : ∀ n : Node, oneHitB vt P p1 HitB n = true → OneHit vt P p1 Hit n
    | .verb _ _, h => by simp [oneHitB] at h
    | .el nm d at_ knd cs, h => by
      unfold oneHitB at h
      unfold OneHit
      by_cases hnm : nm = p1
      · rw [if_pos hnm] at h ⊢; exact hHit d at_ knd cs h
      · rw [if_neg hnm] at h ⊢
        simp only [Bool.and_eq_true, Bool.not_eq_true', beq_iff_eq] at h
        exact ⟨by simpa using h.1.1, h.1.2, oneHitLB_sound cs h.2⟩
  theorem oneHitLB_sound : ∀ ns : List Node, oneHitLB vt P p1 HitB ns = true → OneHitL vt P p1 Hit ns
    | [], h => by simp [oneHitLB] at h
    | n :: ns, h => by
      unfold oneHitLB at h
      unfold OneHitL
      simp only [Bool.or_eq_true, Bool.and_eq_true] at h
      rcases h with h | h
      · exact Or.inl ⟨oneHitB_sound n h.1, freeLB_sound vt h.2⟩
      · exact Or.inr ⟨all_neutralB_sound h.1, oneHitLB_sound ns h.2⟩
end

end checkgen

theorem anyDomAPB_eq (P : List Bytes) (p1 : Bytes) (ps : List Bytes) :
    anyDomAPB tk k sel vt P p1 ps = anyDomGB vt P p1 (childDomAPB tk k sel vt P ps p1) := by
  delta anyDomAPB anyDomGB; rfl

theorem anyDomAPListB_eq (P : List Bytes) (p1 : Bytes) (ps : List Bytes) :
    anyDomAPListB tk k sel vt P p1 ps = anyDomGListB vt P p1 (childDomAPB tk k sel vt P ps p1) := by
  delta anyDomAPListB anyDomGListB; rfl

theorem anyDomAPB_sound {P : List Bytes} {p1 : Bytes} {ps : List Bytes} :
    ∀ n : Node, anyDomAPB tk k sel vt P p1 ps n = true → AnyDomAP tk k sel vt P p1 ps n := by
  rw [anyDomAPB_eq, anyDomAP_eq]
  exact anyDomGB_sound vt P p1 _ (childDomAPB_sound tk k sel vt ps p1)

theorem anyDomAPListB_sound {P : List Bytes} {p1 : Bytes} {ps : List Bytes} :
    ∀ ns : List Node, anyDomAPListB tk k sel vt P p1 ps ns = true → AnyDomAPList tk k sel vt P p1 ps ns := by
  rw [anyDomAPListB_eq, anyDomAPList_eq]
  exact anyDomGListB_sound vt P p1 _ (childDomAPB_sound tk k sel vt ps p1)

set_option linter.unusedVariables false in -- `value`
def inDomainB (doc : List Node) (f : BodyFilter) : Bool :=
  match f with
  | .text _ _ => false
  | .html action path sel value =>
    match path with
    | [] => false
    | p1 :: ps =>
      if action = Rio.Consts.filterActionAppend then anyDomAPListB tk .append sel vt (p1 :: ps) p1 ps doc
      else if action = Rio.Consts.filterActionPrepend then anyDomAPListB tk .prepend sel vt (p1 :: ps) p1 ps doc
      else if action = Rio.Consts.filterActionReplace then
        match ps with
        | [] => anyDomGListB vt [p1] p1 (fun _ _ knd cs => targetRB vt [p1] p1 knd cs) doc
        | a :: rest =>
          decide ((p1 :: a :: rest).Nodup) &&
          oneHitLB vt (p1 :: a :: rest) p1 (fun _ _ knd cs => childDomRB vt (p1 :: a :: rest) (a :: rest) p1 knd cs) doc
      else false

theorem inDomainB_sound {doc : List Node} {f : BodyFilter} (h : inDomainB tk vt doc f = true) :
    InDomain tk vt doc f := by
  revert h
  -- cases 3 to 6 are the accepting branches, in the order of the definition; every other branch is `false`
  fun_cases inDomainB tk vt doc f <;> intro h
  case case3 sel value p1 ps => exact .append p1 ps sel value (anyDomAPListB_sound tk .append sel vt doc h)
  case case4 sel value p1 ps _ => exact .prepend p1 ps sel value (anyDomAPListB_sound tk .prepend sel vt doc h)
  case case5 sel value p1 _ _ =>
    exact .replace1 p1 sel value (anyDomGListB_sound vt [p1] p1 _ (fun _ _ knd cs hh => targetRB_sound vt hh) doc h)
  case case6 sel value p1 a rest _ _ =>
    simp only [Bool.and_eq_true, decide_eq_true_eq] at h
    exact .replaceN p1 a rest sel value h.1 (oneHitLB_sound vt _ p1 _
      (fun _ _ knd cs hh => childDomRB_sound vt (a :: rest) p1 knd cs hh) doc h.2)
  all_goals cases h

def tokAgreeB (doc : List Node) : Bool :=
  decide (toksOf (tk.stream [] (serializeList doc)).1 = tokensOfList vt doc) &&
  decide ((tk.stream [] (serializeList doc)).2.1 = []) &&
  (tk.stream [] (serializeList doc)).1.all (fun x => !isCut x) &&
  decide (utf8Split (serializeList doc) = some (serializeList doc, [])) &&
  decide (splitHeld (tokensOfList vt doc) = (tokensOfList vt doc, []))

theorem tokAgreeB_iff {tk : Tokenize} {vt : Bytes → List Tok} {doc : List Node} :
    tokAgreeB tk vt doc = true ↔ TokAgree tk vt doc := by
  unfold tokAgreeB
  simp only [Bool.and_eq_true, decide_eq_true_eq, List.all_eq_true, Bool.not_eq_true']
  exact ⟨fun h => ⟨h.1.1.1.1, h.1.1.1.2, h.1.1.2, h.1.2, h.2⟩,
    fun h => ⟨⟨⟨⟨h.toks, h.rest⟩, h.noCut⟩, h.utf8⟩, h.noHeld⟩⟩

def stepsOKB : List Node → List BodyFilter → Bool
  | _, [] => true
  | d, f :: fs =>
    inDomainB tk vt d f && tokAgreeB tk vt d &&
    (fs.isEmpty || !(serializeList (editD (decOf ev) d f)).isEmpty) &&
    stepsOKB (editD (decOf ev) d f) fs

theorem stepsOKB_sound : ∀ (fs : List BodyFilter) (d : List Node), stepsOKB tk ev vt d fs = true →
    StepsOK tk ev vt d fs
  | [], _, _ => trivial
  | f :: fs, d, h => by
    unfold stepsOKB at h
    simp only [Bool.and_eq_true, Bool.or_eq_true, Bool.not_eq_true', List.isEmpty_eq_false_iff,
      List.isEmpty_iff] at h
    obtain ⟨⟨⟨h1, h2⟩, h3⟩, h4⟩ := h
    exact ⟨inDomainB_sound tk vt h1, tokAgreeB_iff.mp h2, h3.resolve_left, stepsOKB_sound fs _ h4⟩

/-- a lossless view of verbatim pieces built from any tokenizer: its tokens when they cover the piece, one text token otherwise -/
def vtOf (tk : Tokenize) : Bytes → List Tok := fun raw =>
  if rawsOf (tk raw).1 = raw then (tk raw).1 else textToks raw

theorem vtOf_lossless (tk : Tokenize) : VtLossless (vtOf tk) := by
  intro raw
  unfold vtOf
  split
  · assumption
  · exact rawsOf_textToks raw

end

end Rio.Filter
