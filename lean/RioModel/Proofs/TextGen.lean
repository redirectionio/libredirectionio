/-
The text body filter TRANSLATED FROM THE SOURCE on every run (`Rio.Consts.genTextFilterReplace / Append /
Prepend`, `genTextEnd`; tools/consts.d/w4_translate_text.py) against the model (Model/Filter.lean):
`genFilterText = filterText`, `genEndText = endText`, and the whole chain run with the generated stage
functions (`Chain.runG`, a copy of the model's chain with only the text stage replaced) equals `Chain.run`.
`genFilterText`, `genEndText` (the translated arms on the model's `TextSt`) and the `…G` copies are defined HERE.
-/
import RioModel.Model.Filter

namespace Rio.Filter
open Rio.Consts

/-- `TextFilterBodyAction::filter` assembled from the three translated arms of `match self.action` -/
def genFilterText (s : TextSt) (data : Bytes) : TextSt × Bytes :=
  let r :=
    match s.action with
    | .replace => genTextFilterReplace s.content s.executed data
    | .append => genTextFilterAppend s.content s.executed data
    | .prepend => genTextFilterPrepend s.content s.executed data
  ({ s with executed := r.1 }, r.2)

/-- `TextFilterBodyAction::end` from the translated body -/
def genEndText (s : TextSt) : TextSt × Bytes :=
  let r := genTextEnd s.content s.executed
  ({ s with executed := r.1 }, r.2)

theorem genFilterText_eq (s : TextSt) (data : Bytes) : genFilterText s data = filterText s data := by
  obtain ⟨a, c, e⟩ := s
  cases a <;> cases e <;>
    simp [genFilterText, filterText, genTextFilterReplace, genTextFilterAppend, genTextFilterPrepend]

theorem genEndText_eq (s : TextSt) : genEndText s = endText s := by
  obtain ⟨a, c, e⟩ := s
  cases e <;> simp [genEndText, endText, genTextEnd]

section
variable (tk : Tokenize) (evaluate : Bytes → Bytes → Bool)
variable {D E : Type} (codec : Codec D E)

/-- `FilterBodyActionItem::filter`, text stage from the generated code -/
def Stage.filterG (st : Stage D E) (data : Bytes) : Option (Stage D E × Bytes) :=
  match st with
  | .text s => let (s', o) := genFilterText s data; some (.text s', o)
  | st => st.filter tk evaluate codec data

/-- `FilterBodyActionItem::end`, text stage from the generated code -/
def Stage.endG (st : Stage D E) : Option (Stage D E × Bytes) :=
  match st with
  | .text s => let (s', o) := genEndText s; some (.text s', o)
  | st => st.end codec

theorem Stage.filterG_eq (st : Stage D E) (data : Bytes) :
    st.filterG tk evaluate codec data = st.filter tk evaluate codec data := by
  cases st <;> simp [Stage.filterG, Stage.filter, genFilterText_eq]

theorem Stage.endG_eq (st : Stage D E) : st.endG codec = st.end codec := by
  cases st <;> simp [Stage.endG, Stage.end, genEndText_eq]

def doFilterG : List (Stage D E) → Bytes → List (Stage D E) × Option Bytes
  | [], data => ([], some data)
  | st :: rest, data =>
    match st.filterG tk evaluate codec data with
    | none => (st :: rest, none)
    | some (st', out) =>
      if out.isEmpty then (st' :: rest, some out)
      else
        let (rest', r) := doFilterG rest out
        (st' :: rest', r)

theorem doFilterG_eq (items : List (Stage D E)) (data : Bytes) :
    doFilterG tk evaluate codec items data = doFilter tk evaluate codec items data := by
  induction items generalizing data with
  | nil => rfl
  -- after the callee is rewritten the two sides are the same text; they still name different compiled `match`es, hence `rfl`
  | cons st rest ih => simp only [doFilterG, doFilter, Stage.filterG_eq, ih]; rfl

def Stage.endWithG (st : Stage D E) (data : Option Bytes) : Stage D E × Option Bytes :=
  match data with
  | none =>
    match st.endG codec with
    | none => (st, none)
    | some (st', o) => (st', some o)
  | some str =>
    match st.filterG tk evaluate codec str with
    | none => (st, none)
    | some (st1, o1) =>
      match st1.endG codec with
      | none => (st1, none)
      | some (st2, o2) => (st2, some (o1 ++ o2))

theorem Stage.endWithG_eq (st : Stage D E) (data : Option Bytes) :
    st.endWithG tk evaluate codec data = st.endWith tk evaluate codec data := by
  simp only [Stage.endWithG, Stage.endWith, Stage.endG_eq, Stage.filterG_eq]; rfl

def doEndG : List (Stage D E) → Option Bytes → List (Stage D E) × Except Bytes (Option Bytes)
  | [], data => ([], .ok data)
  | st :: rest, data =>
    match st.endWithG tk evaluate codec data with
    | (st', none) => (st' :: rest, .error (flushHtml (st' :: rest) ++ data.getD []))
    | (st', some newData) =>
      let (rest', r) := doEndG rest (if newData.isEmpty then none else some newData)
      (st' :: rest', r)

theorem doEndG_eq (items : List (Stage D E)) (data : Option Bytes) :
    doEndG tk evaluate codec items data = doEnd tk evaluate codec items data := by
  induction items generalizing data with
  | nil => rfl
  | cons st rest ih => simp only [doEndG, doEnd, Stage.endWithG_eq, ih]; rfl

def Chain.filterG (c : Chain D E) (data : Bytes) : Chain D E × Bytes :=
  if c.inError then (c, data)
  else
    match doFilterG tk evaluate codec c.items data with
    | (items', some out) => ({ c with items := items' }, out)
    | (items', none) => ({ items := items', inError := true }, flushHtml items' ++ data)

def Chain.endG (c : Chain D E) : Chain D E × Bytes :=
  if c.inError then (c, [])
  else
    match doEndG tk evaluate codec c.items none with
    | (items', .ok out) => ({ c with items := items' }, out.getD [])
    | (items', .error passthrough) => ({ items := items', inError := true }, passthrough)

theorem Chain.filterG_eq (c : Chain D E) (data : Bytes) :
    c.filterG tk evaluate codec data = c.filter tk evaluate codec data := by
  simp only [Chain.filterG, Chain.filter, doFilterG_eq]; rfl

theorem Chain.endG_eq (c : Chain D E) : c.endG tk evaluate codec = c.end tk evaluate codec := by
  simp only [Chain.endG, Chain.end, doEndG_eq]; rfl

def Chain.feedG (c : Chain D E) : List Bytes → Chain D E × List Bytes
  | [] => (c, [])
  | x :: xs =>
    let (c1, o) := c.filterG tk evaluate codec x
    let (c2, os) := c1.feedG xs
    (c2, o :: os)

theorem Chain.feedG_eq (c : Chain D E) (chunks : List Bytes) :
    c.feedG tk evaluate codec chunks = c.feed tk evaluate codec chunks := by
  induction chunks generalizing c with
  | nil => rfl
  | cons x xs ih => simp only [Chain.feedG, Chain.feed, Chain.filterG_eq, ih]

/-- what a client observes when every text stage runs the code translated from the source -/
def Chain.runG (c : Chain D E) (chunks : List Bytes) : Bytes :=
  let (c1, os) := c.feedG tk evaluate codec chunks
  os.flatten ++ (c1.endG tk evaluate codec).2

theorem Chain.runG_eq (c : Chain D E) (chunks : List Bytes) :
    c.runG tk evaluate codec chunks = c.run tk evaluate codec chunks := by
  simp only [Chain.runG, Chain.run, Chain.runOuts, Chain.feedG_eq, Chain.endG_eq]

end
end Rio.Filter
