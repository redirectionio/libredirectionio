/-
The header actions TRANSLATED FROM THE SOURCE on every run (`Rio.Consts.genHeader*`,
tools/consts.d/w4_translate.py) compute the same as the hand-written model (Model/Header.lean).
A `Header` travels as the pair `(name, value)` in the generated code (Generated/Consts.lean cannot
import the model).
-/
import RioModel.Model.Header
import RioModel.Proofs.Header  -- `defaultFound_eq_any`: used only by the `.iter().any(..)` alternative of `genHeaderDefault_eq`, not on today's text
import RioModel.Proofs.GenLoop

namespace Rio.Header
open Rio.Consts

def toPair (h : Header) : String × String := (h.name, h.value)
def ofPair (p : String × String) : Header := ⟨p.1, p.2⟩

@[simp] theorem ofPair_toPair (h : Header) : ofPair (toPair h) = h := rfl
@[simp] theorem toPair_ofPair (p : String × String) : toPair (ofPair p) = p := rfl

theorem map_toPair_ofPair (ps : List (String × String)) : (ps.map ofPair).map toPair = ps := by
  simp [List.map_map, Function.comp_def]

theorem map_ofPair_toPair (hs : List Header) : (hs.map toPair).map ofPair = hs := by
  simp [List.map_map, Function.comp_def]

variable (lower : String → String)

/-- `header.name.to_lowercase() != self.name.to_lowercase()` is the negated `sameName` -/
theorem bne_sameName (n : String) (h : Header) :
    (lower (toPair h).1 != lower n) = !sameName lower n h := rfl

theorem beq_sameName (n : String) (h : Header) :
    (lower (toPair h).1 == lower n) = sameName lower n h := rfl

theorem genHeaderAdd_eq (n v : String) (hs : List Header) :
    genHeaderAdd lower n v (hs.map toPair) = (addAction n v hs).map toPair := by
  simp [genHeaderAdd, addAction, toPair]

theorem genHeaderRemoveLoop1_eq (n v : String) (hs acc : List Header) :
    genHeaderRemoveLoop1 lower n v (hs.map toPair) (acc.map toPair) =
      (hs.foldl (fun acc h => if !sameName lower n h then acc ++ [h] else acc) acc).map toPair :=
  GenLoop.map_eq_foldl (List.map toPair) toPair _ (fun _ => rfl) (fun h t acc => by
    rw [genHeaderRemoveLoop1, bne_sameName]
    cases sameName lower n h <;> simp) hs acc

theorem genHeaderRemove_eq (n v : String) (hs : List Header) :
    genHeaderRemove lower n v (hs.map toPair) = (removeAction lower n hs).map toPair := by
  have := genHeaderRemoveLoop1_eq lower n v hs []
  simpa [genHeaderRemove, removeAction] using this

theorem genHeaderReplaceLoop1_eq (n v : String) (hs acc : List Header) :
    genHeaderReplaceLoop1 lower n v (hs.map toPair) (acc.map toPair) =
      (hs.foldl (fun acc h => if sameName lower n h then acc ++ [⟨n, v⟩] else acc ++ [h]) acc).map toPair :=
  GenLoop.map_eq_foldl (List.map toPair) toPair _ (fun _ => rfl) (fun h t acc => by
    rw [genHeaderReplaceLoop1, beq_sameName]
    cases sameName lower n h <;> simp [toPair]) hs acc

theorem genHeaderReplace_eq (n v : String) (hs : List Header) :
    genHeaderReplace lower n v (hs.map toPair) = (replaceAction lower n v hs).map toPair := by
  have := genHeaderReplaceLoop1_eq lower n v hs []
  simpa [genHeaderReplace, replaceAction] using this

theorem genHeaderOverrideLoop1_eq (n v : String) (hs acc : List Header) (found : Bool) :
    genHeaderOverrideLoop1 lower n v (hs.map toPair) (acc.map toPair) found =
      (let r := hs.foldl
          (fun (st : List Header × Bool) h =>
            if !sameName lower n h then (st.1 ++ [h], st.2) else (st.1 ++ [⟨n, v⟩], true))
          (acc, found)
       (r.1.map toPair, r.2)) :=
  GenLoop.map_eq_foldl (L := fun l t => genHeaderOverrideLoop1 lower n v l t.1 t.2)
    (fun st : List Header × Bool => (st.1.map toPair, st.2)) toPair _ (fun _ => rfl) (fun h t st => by
      simp only [genHeaderOverrideLoop1, bne_sameName]
      by_cases hc : sameName lower n h = true <;> simp [hc, toPair]) hs (acc, found)

theorem genHeaderOverride_eq (n v : String) (hs : List Header) :
    genHeaderOverride lower n v (hs.map toPair) = (overrideAction lower n v hs).map toPair := by
  have := genHeaderOverrideLoop1_eq lower n v hs [] false
  simp only [List.map_nil] at this
  simp only [genHeaderOverride, overrideAction, this]
  generalize List.foldl _ _ hs = r
  cases r.2
  · simp [toPair]
  · rfl

/-! `HeaderDefaultAction::filter`: two shapes of the source are accepted by the same statement: the `found` flag loop with `break`
(`genHeaderDefaultLoop1`) and the iterator form `headers.iter().any(|h| ..)`; the proof tries the first and
falls back to the second, so this behaviour-preserving refactoring does not raise an alarm. -/

theorem any_toPair (n : String) (hs : List Header) :
    (hs.map toPair).any (fun p => lower p.1 == lower n) = hs.any (sameName lower n) := by
  rw [List.any_map]; rfl

theorem genHeaderDefault_eq (n v : String) (hs : List Header) :
    genHeaderDefault lower n v (hs.map toPair) = (defaultAction lower n v hs).map toPair := by
  first
  | -- the flag loop
    have hloop : ∀ (hs : List Header) (found : Bool),
        genHeaderDefaultLoop1 lower n v (hs.map toPair) found =
          (if defaultFound lower n hs then true else found) := by
      intro hs found
      induction hs with
      | nil => rfl
      | cons h t ih =>
        simp only [List.map_cons, genHeaderDefaultLoop1, defaultFound, beq_sameName]
        rcases Bool.eq_false_or_eq_true (sameName lower n h) with hc | hc
        · simp [hc]
        · simp only [hc, Bool.false_eq_true, if_false]
          exact ih
    simp only [genHeaderDefault, defaultAction, hloop]
    cases defaultFound lower n hs <;> simp [toPair]
  | -- `.iter().any(..)`
    simp only [genHeaderDefault, defaultAction, any_toPair, defaultFound_eq_any]
    cases hs.any (sameName lower n) <;> simp [toPair]

end Rio.Header
