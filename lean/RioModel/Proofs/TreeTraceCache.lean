/-
`trace.rs` vs `cache`: the whole trace tree is a function of the tree stripped of its cached values as soon as the tree
satisfies the invariant and stores no empty pattern (`trace_strip`, Proofs/TreeCache.lean); `cache` changes nothing but
cached values (`cache_some`), so it changes no trace.

Read off `regex_radix_tree/trace.rs`: the only field of `Trace` that reads the compiled state is `matched`
(`self.regex.is_match(haystack)`), and through it `children` of a node (`if matched { … }`); `regex` is
`self.regex.original`, `count` is `len()`, `values` are the leaf's values – none of them reads `compiled`.

Also: `Item.mapVals g` (every stored value `v` under id `id` replaced by `g id v`, regexes and structure kept), what `retain`
with a closure that never drops computes on a tree satisfying the invariant (`HostT.cache`, the model of `HostMatcher::cache`,
stores the warmed buckets back this way; the source updates them in place through `iter_mut()`).  Used for `HostMatcher`,
whose tree stores inner matchers: "equal up to cached values" for such a tree means its own regexes stripped AND every
stored bucket stripped.
-/
import RioModel.Proofs.TreeCache
set_option linter.unusedSectionVars false

namespace Rio.Tree
open Rio.Regex

variable {ι V : Type} [DecidableEq ι]

/-- `Item::cache(left, cache_level, current_level)` at any position, any budget, any level: the trace is unchanged. -/
theorem trace_item_cache (E : Engine) {ic : Bool} (t : Item ι V) (h : t.inv ic = true)
    (hne : ∀ e ∈ t.contents, e.pat ≠ []) (left lvl cur : Nat) {t' : Item ι V} {n : Nat}
    (hc : t.cache E left lvl cur = some (t', n)) (s : List Char) : t'.trace E s = t.trace E s := by
  obtain ⟨hs, _, hi⟩ := cache_some hc
  exact trace_eq_of_strip_eq E hs h (by rw [hi]; exact h) hne s

/-- `RegexTreeMap::cache(limit, level)` (one level, or the `while left > 0` loop over the levels): the trace is unchanged. -/
theorem trace_treeCache (E : Engine) {ic : Bool} (t : Item ι V) (h : t.inv ic = true)
    (hne : ∀ e ∈ t.contents, e.pat ≠ []) (limit : Nat) (level : Option Nat) {t' : Item ι V} {n : Nat}
    (hc : treeCache E t limit level = some (t', n)) (s : List Char) : t'.trace E s = t.trace E s := by
  obtain ⟨hs, _, hi⟩ := treeCache_some hc
  exact trace_eq_of_strip_eq E hs h (by rw [hi]; exact h) hne s

mutual
def Item.mapVals (g : ι → V → V) : Item ι V → Item ι V
  | .empty ic => .empty ic
  | .leaf rx vs => .leaf rx (vs.map fun kv => (kv.1, g kv.1 kv.2))
  | .node rx cs => .node rx (mapValsL g cs)
def mapValsL (g : ι → V → V) : List (Item ι V) → List (Item ι V)
  | [] => []
  | c :: cs => Item.mapVals g c :: mapValsL g cs
end

theorem mapValsL_eq (g : ι → V → V) (cs : List (Item ι V)) : mapValsL g cs = cs.map (Item.mapVals g) := by
  induction cs with
  | nil => simp [mapValsL]
  | cons c cs ih => simp [mapValsL, ih]

theorem mapVals_empty (g : ι → V → V) (ic : Bool) : (Item.empty ic : Item ι V).mapVals g = .empty ic := by
  rw [Item.mapVals]
theorem mapVals_leaf (g : ι → V → V) (rx) (vs : List (ι × V)) :
    (Item.leaf rx vs).mapVals g = .leaf rx (vs.map fun kv => (kv.1, g kv.1 kv.2)) := by rw [Item.mapVals]
theorem mapVals_node (g : ι → V → V) (rx) (cs : List (Item ι V)) :
    (Item.node rx cs).mapVals g = .node rx (cs.map (Item.mapVals g)) := by rw [Item.mapVals, mapValsL_eq]

theorem retainVals_some (g : ι → V → V) (vs : List (ι × V)) :
    retainVals (fun id v => some (g id v)) vs = vs.map fun kv => (kv.1, g kv.1 kv.2) := by
  unfold retainVals
  simp only [Option.map_some]
  rw [List.filterMap_eq_map']

theorem shapeMap_mapVals (g : ι → V → V) : ShapeMap (Item.mapVals g) id g :=
  ⟨mapVals_empty g, mapVals_leaf g, mapVals_node g, fun _ => rfl, fun _ => rfl, fun _ _ => rfl, fun _ _ => rfl⟩

theorem len_mapVals (g : ι → V → V) (t : Item ι V) : (t.mapVals g).len = t.len := (shapeMap_mapVals g).len t

theorem lenL_map_mapVals (g : ι → V → V) (cs : List (Item ι V)) : lenL (cs.map (Item.mapVals g)) = lenL cs :=
  (shapeMap_mapVals g).lenL_map cs

theorem regex_mapVals (g : ι → V → V) (t : Item ι V) : (t.mapVals g).regex = t.regex := (shapeMap_mapVals g).regex t

theorem strip_mapVals (g : ι → V → V) (t : Item ι V) : (t.mapVals g).strip = t.strip.mapVals g := by
  induction t using Item.ind with
  | hE ic => simp [mapVals_empty]
  | hL rx vs => simp [mapVals_leaf]
  | hN rx cs ih =>
    rw [mapVals_node, strip_node, strip_node, mapVals_node, List.map_map, List.map_map]
    congr 1
    exact List.map_congr_left fun c hc => ih c hc

theorem contents_mapVals (g : ι → V → V) (t : Item ι V) :
    (t.mapVals g).contents = t.contents.map fun e => ⟨e.pat, e.id, g e.id e.val⟩ := (shapeMap_mapVals g).contents t

theorem isEmpty_mapVals (g : ι → V → V) (t : Item ι V) : (t.mapVals g).isEmpty = t.isEmpty :=
  (shapeMap_mapVals g).isEmpty t

/-- `retain` with a closure that never drops (`|id, v| { *v = g(id, v); true }`): under the invariant no leaf empties and no
node collapses. -/
theorem retain_some_eq_mapVals {ic : Bool} (g : ι → V → V) (t : Item ι V) (h : t.inv ic = true) :
    t.retain (fun id v => some (g id v)) = t.mapVals g := by
  induction t using Item.ind with
  | hE ic' => rw [retain_empty, mapVals_empty]
  | hL rx vs =>
    obtain ⟨_, _, h3, _⟩ := inv_leaf_iff.1 h
    rw [retain_leaf, mapVals_leaf, retainVals_some]
    have : (vs.map fun kv => (kv.1, g kv.1 kv.2)).isEmpty = false := by cases vs <;> simp_all
    simp [this]
  | hN rx cs ih =>
    obtain ⟨_, _, _, h4, h5, _, h7⟩ := inv_node_iff.1 h
    -- no child empties: each is replaced by its image
    have hkeep : ∀ c ∈ cs, keepNonEmpty (c.retain fun id v => some (g id v)) = [c.mapVals g] := by
      intro c hc
      rw [ih c hc (h7 c hc), keepNonEmpty_of_not_isEmpty]
      rw [isEmpty_mapVals]
      exact inv_not_isEmpty c (h7 c hc) (childOk_notEmpty (h5 c hc))
    have hL : retainL cs (fun id v => some (g id v)) = cs.map (Item.mapVals g) := by
      rw [retainL_eq, Rio.Util.flatMap_congr hkeep]
      exact List.map_eq_flatMap.symm
    -- … so at least two children remain and the node does not collapse
    rw [retain_node, mapVals_node, hL, if_neg, collapse1_of_two_le rx (by simpa using h4)]
    cases cs with
    | nil => simp at h4
    | cons _ _ => simp

theorem get_mapVals (g : V → V) (t : Item ι V) (p : List Char) :
    (t.mapVals fun _ => g).get p = (t.get p).map g := (shapeMap_mapVals fun _ => g).get t p

theorem insert_mapVals (g : ι → V → V) (t : Item ι V) (p : List Char) (id : ι) (v : V) :
    (t.insert p id v).mapVals g = (t.mapVals g).insert p id (g id v) := (shapeMap_mapVals g).insert t p id v

theorem modifyAt_mapVals (g f f' : ι → V → V) (hgf : ∀ id v, g id (f id v) = f' id (g id v))
    (t : Item ι V) (p : List Char) : (t.modifyAt p f).mapVals g = (t.mapVals g).modifyAt p f' :=
  (shapeMap_mapVals g).modifyAt f f' hgf t p

theorem retain_mapVals (g : ι → V → V) (f f' : ι → V → Option V)
    (hgf : ∀ id v, (f id v).map (g id) = f' id (g id v)) (t : Item ι V) :
    (t.retain f).mapVals g = (t.mapVals g).retain f' := (shapeMap_mapVals g).retain f f' hgf t

theorem mapVals_mapVals (g g' f : ι → V → V) (t : Item ι V)
    (h : ∀ e ∈ t.contents, f e.id (g e.id e.val) = g' e.id e.val) : (t.mapVals g).mapVals f = t.mapVals g' := by
  induction t using Item.ind with
  | hE ic => simp [mapVals_empty]
  | hL rx vs =>
    rw [mapVals_leaf, mapVals_leaf, mapVals_leaf, List.map_map]
    congr 1
    exact List.map_congr_left fun kv hkv => by
      simp only [Function.comp]; rw [h ⟨rx.original, kv.1, kv.2⟩ (by simp; exact hkv)]
  | hN rx cs ih =>
    rw [mapVals_node, mapVals_node, mapVals_node, List.map_map]
    congr 1
    exact List.map_congr_left fun c hc =>
      ih c hc fun e he => h e (by simp [mem_contentsL]; exact ⟨c, hc, he⟩)

end Rio.Tree
