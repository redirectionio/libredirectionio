/-
What the closed forms of the header actions (Props/C13.lean) rest on: the `found` loop of `default` is `any`, and the
reference operations leave the headers of another name alone — replacing and removing commute with filtering by a
class of headers that the filter does not name.
-/
import RioModel.Model.Header

namespace Rio.Header
variable (lower : String → String)

theorem defaultFound_eq_any (n : String) (hs : List Header) :
    defaultFound lower n hs = hs.any (sameName lower n) := by
  induction hs with
  | nil => simp [defaultFound]
  | cons h t ih =>
    simp only [defaultFound, List.any_cons]
    cases sameName lower n h
    · simp only [Bool.false_eq_true, if_false, Bool.false_or]
      exact ih
    · rfl

theorem map_replace_of_not_any (n v : String) (hs : List Header)
    (h : hs.any (sameName lower n) = false) :
    hs.map (fun h => if sameName lower n h then (⟨n, v⟩ : Header) else h) = hs := by
  induction hs with
  | nil => rfl
  | cons a t ih =>
    simp only [List.any_cons, Bool.or_eq_false_iff] at h
    simp [h.1, ih h.2]

theorem filter_map_replace (n v : String) (p : Header → Bool) (hs : List Header)
    (hp : ∀ h, p h = true → sameName lower n h = false) (hp2 : p ⟨n, v⟩ = false) :
    (hs.map (fun h => if sameName lower n h then (⟨n, v⟩ : Header) else h)).filter p = hs.filter p := by
  induction hs with
  | nil => rfl
  | cons a t ih =>
    rw [List.map_cons, List.filter_cons, List.filter_cons, ih]
    cases hpa : p a
    · cases sameName lower n a <;> simp [hp2, hpa]
    · rw [hp a hpa, if_neg Bool.false_ne_true, hpa]

theorem filter_filter_not_same (n : String) (p : Header → Bool) (hs : List Header)
    (hp : ∀ h, p h = true → sameName lower n h = false) :
    (hs.filter (fun h => !sameName lower n h)).filter p = hs.filter p := by
  rw [List.filter_filter]
  refine List.filter_congr fun a _ => ?_
  cases hpa : p a
  · rfl
  · rw [hp a hpa]; rfl

end Rio.Header
