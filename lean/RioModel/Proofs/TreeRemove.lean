/-
`Item.remove` and `Item.retain` preserve the structural invariant (dropping emptied children and
collapsing single-child nodes keeps every node prefix a boundary prefix of what is below it, keeps
siblings apart, and never leaves an empty child inside a node).
-/
import RioModel.Proofs.TreeBasic
set_option linter.unusedSectionVars false

namespace Rio.Tree
open Rio.Scan

variable {ι V : Type} [DecidableEq ι]

theorem isEmpty_empty (ic : Bool) : (Item.empty ic : Item ι V).isEmpty = true := by simp [Item.isEmpty]
theorem isEmpty_leaf (rx) (vs : List (ι × V)) : (Item.leaf rx vs).isEmpty = vs.isEmpty := by simp [Item.isEmpty]
theorem isEmpty_node (rx) (cs : List (Item ι V)) : (Item.node rx cs).isEmpty = cs.all Item.isEmpty := by
  simp [Item.isEmpty, isEmptyL_eq]

theorem not_isEmpty_notEmptyCtor {t : Item ι V} (h : t.isEmpty = false) : t.isEmptyCtor = false := by
  cases t with
  | empty ic => simp [isEmpty_empty] at h
  | _ => rfl

theorem inv_not_isEmpty {ic : Bool} (t : Item ι V) (h : t.inv ic = true) (hne : t.isEmptyCtor = false) :
    t.isEmpty = false := by
  induction t using Item.ind with
  | hE ic' => simp [Item.isEmptyCtor] at hne
  | hL rx vs =>
    obtain ⟨_, _, h3, _⟩ := inv_leaf_iff.1 h
    rw [isEmpty_leaf]; cases vs <;> simp_all
  | hN rx cs ih =>
    obtain ⟨_, _, _, h4, h5, _, h7⟩ := inv_node_iff.1 h
    rw [isEmpty_node]
    cases cs with
    | nil => simp at h4
    | cons c cs =>
      have := ih c (by simp) (h7 c (by simp)) (childOk_notEmpty (h5 c (by simp)))
      simp [this]

theorem keepNonEmpty_of_not_isEmpty {c : Item ι V} (h : c.isEmpty = false) : keepNonEmpty c = [c] := by
  simp [keepNonEmpty, h]

theorem keepNonEmpty_of_isEmpty {c : Item ι V} (h : c.isEmpty = true) : keepNonEmpty c = [] := by
  simp [keepNonEmpty, h]

theorem collapse1_single (rx : LazyRegex) (c : Item ι V) : collapse1 rx [c] = c := rfl

theorem collapse1_of_two_le (rx : LazyRegex) {cs : List (Item ι V)} (h : 2 ≤ cs.length) :
    collapse1 rx cs = .node rx cs := by
  match cs, h with
  | _ :: _ :: _, _ => rfl

theorem collapse1_nil (rx : LazyRegex) : collapse1 rx ([] : List (Item ι V)) = .node rx [] := rfl

theorem keepNonEmpty_map (F : Item ι V → Item ι V) {c : Item ι V} (h : (F c).isEmpty = c.isEmpty) :
    keepNonEmpty (F c) = (keepNonEmpty c).map F := by
  unfold keepNonEmpty
  rw [h]
  split <;> rfl

theorem collapse1_map (F : Item ι V → Item ι V) {rx rx' : LazyRegex}
    (h : ∀ cs, F (.node rx cs) = .node rx' (cs.map F)) (l : List (Item ι V)) :
    F (collapse1 rx l) = collapse1 rx' (l.map F) := by
  match l with
  | [] => exact h []
  | [c] => rfl
  | a :: b :: l => exact h _

/-- `c'` takes the place of `c` among the children of a node: it keeps `regex()`, or `c` was a node and
`c'` lies below it (its `regex()` extends the node prefix at a scanner boundary). -/
def Ext (c c' : Item ι V) : Prop :=
  (c'.isNode = true → c.isNode = true) ∧
  (c'.regex = c.regex ∨ (c.isNode = true ∧ BPre c.regex c'.regex))

theorem Ext.refl (c : Item ι V) : Ext c c := ⟨id, Or.inl rfl⟩

theorem sib_ext {n : Nat} {r : List Char} {c c' : Item ι V} (h : Sib n r c.regex) (he : Ext c c')
    (hlt : c.isNode = true → n < c.regex.length) : Sib n r c'.regex := by
  rcases he.2 with e | ⟨hn, hb⟩
  · rw [e]; exact h
  · exact h.below hb (hlt hn)

theorem Ext.childOk {q : List Char} {c c' : Item ι V} (he : Ext c c') (hok : childOk q c = true)
    (hne : c'.isEmptyCtor = false) : childOk q c' = true := by
  have hb := childOk_bpre hok
  have hlt : c'.isNode = true → q.length < c.regex.length := fun hn' => childOk_lt hok (he.1 hn')
  rcases he.2 with e | ⟨_, hb'⟩
  · rw [← e] at hb hlt; exact childOk_of hne hb hlt
  · exact childOk_of hne (hb.trans hb') fun hn' => Nat.lt_of_lt_of_le (hlt hn') hb'.length_le

/-- Order-preserving "some children dropped, the others replaced by related items". -/
inductive Img (P : Item ι V → Item ι V → Prop) : List (Item ι V) → List (Item ι V) → Prop where
  | nil : Img P [] []
  | keep {c c' cs cs'} : P c c' → Img P cs cs' → Img P (c :: cs) (c' :: cs')
  | drop {c cs cs'} : Img P cs cs' → Img P (c :: cs) cs'

theorem Img.mem {P : Item ι V → Item ι V → Prop} {cs cs' : List (Item ι V)} (h : Img P cs cs') :
    ∀ c' ∈ cs', ∃ c ∈ cs, P c c' := by
  induction h with
  | nil => simp
  | keep hp _ ih =>
    intro d hd
    rcases List.mem_cons.1 hd with rfl | hd
    · exact ⟨_, List.mem_cons_self, hp⟩
    · obtain ⟨c, hc, hpc⟩ := ih d hd
      exact ⟨c, List.mem_cons_of_mem _ hc, hpc⟩
  | drop _ ih =>
    intro d hd
    obtain ⟨c, hc, hpc⟩ := ih d hd
    exact ⟨c, List.mem_cons_of_mem _ hc, hpc⟩

theorem Img.of_refl {P : Item ι V → Item ι V → Prop} {cs : List (Item ι V)} (h : ∀ c ∈ cs, P c c) :
    Img P cs cs := by
  induction cs with
  | nil => exact .nil
  | cons c cs ih => exact .keep (h c (by simp)) (ih fun d hd => h d (by simp [hd]))

theorem Img.append {P : Item ι V → Item ι V → Prop} {a a' b b' : List (Item ι V)}
    (h1 : Img P a a') (h2 : Img P b b') : Img P (a ++ b) (a' ++ b') := by
  induction h1 with
  | nil => simpa using h2
  | keep hp _ ih => exact .keep hp ih
  | drop _ ih => exact .drop ih

theorem Img.flatMap {P : Item ι V → Item ι V → Prop} {cs : List (Item ι V)} {g : Item ι V → List (Item ι V)}
    (h : ∀ c ∈ cs, Img P [c] (g c)) : Img P cs (cs.flatMap g) := by
  induction cs with
  | nil => exact .nil
  | cons c cs ih => exact Img.append (h c (by simp)) (ih fun d hd => h d (by simp [hd]))

theorem Img.pairwise {P : Item ι V → Item ι V → Prop} {R R' : Item ι V → Item ι V → Prop}
    {cs cs' : List (Item ι V)} (h : Img P cs cs')
    (hR : ∀ a ∈ cs, ∀ b ∈ cs, ∀ a' b', R a b → P a a' → P b b' → R' a' b')
    (hpw : cs.Pairwise R) : cs'.Pairwise R' := by
  induction h with
  | nil => exact .nil
  | @keep c c' cs cs' hp himg ih =>
    rw [List.pairwise_cons] at hpw ⊢
    refine ⟨?_, ih (fun a ha b hb => hR a (by simp [ha]) b (by simp [hb])) hpw.2⟩
    intro d' hd'
    obtain ⟨d, hd, hpd⟩ := himg.mem d' hd'
    exact hR c (by simp) d (by simp [hd]) c' d' (hpw.1 d hd) hp hpd
  | drop _ ih =>
    rw [List.pairwise_cons] at hpw
    exact ih (fun a ha b hb => hR a (by simp [ha]) b (by simp [hb])) hpw.2

/-- What the loops of `remove` / `retain` guarantee about a kept child. -/
def Kept (ic : Bool) (c c' : Item ι V) : Prop :=
  Ext c c' ∧ c'.inv ic = true ∧ c'.isEmptyCtor = false

/-- `t'` is what `remove` / `retain` made of `t`: it satisfies the invariant and, unless it is `Empty`, it can take the
place of `t` among the children of a node. -/
def Shrunk (ic : Bool) (t t' : Item ι V) : Prop := t'.inv ic = true ∧ (t'.isEmptyCtor = false → Ext t t')

theorem Shrunk.refl {ic : Bool} {t : Item ι V} (h : t.inv ic = true) : Shrunk ic t t := ⟨h, fun _ => Ext.refl t⟩

theorem Shrunk.empty {ic : Bool} (t : Item ι V) : Shrunk ic t (.empty ic) :=
  ⟨inv_empty_iff.2 rfl, fun hh => by simp [Item.isEmptyCtor] at hh⟩

theorem Shrunk.leaf {ic : Bool} {rx : LazyRegex} {vs vs' : List (ι × V)} (h : (Item.leaf rx vs).inv ic = true)
    (hnd : nodupKeys vs' = true) :
    Shrunk ic (.leaf rx vs) (if vs'.isEmpty then .empty rx.ic else .leaf rx vs') := by
  obtain ⟨h1, h2, _, _⟩ := inv_leaf_iff.1 h
  split
  · rw [h2]; exact .empty _
  · next hne =>
    refine ⟨inv_leaf_iff.2 ⟨h1, h2, ?_, hnd⟩, fun _ => ⟨by simp [Item.isNode], Or.inl rfl⟩⟩
    intro e; rw [e] at hne; simp at hne

theorem img_keepNonEmpty {ic : Bool} {c c' : Item ι V} (h : Shrunk ic c c') : Img (Kept ic) [c] (keepNonEmpty c') := by
  cases he : c'.isEmpty with
  | true => rw [keepNonEmpty_of_isEmpty he]; exact .drop .nil
  | false =>
    rw [keepNonEmpty_of_not_isEmpty he]
    have hne := not_isEmpty_notEmptyCtor he
    exact .keep ⟨h.2 hne, h.1, hne⟩ .nil

theorem node_rebuild {ic : Bool} {rx : LazyRegex} {cs cs' : List (Item ι V)}
    (h : (Item.node rx cs).inv ic = true) (himg : Img (Kept ic) cs cs') (hne : cs' ≠ []) :
    Shrunk ic (.node rx cs) (collapse1 rx cs') := by
  obtain ⟨h1, h2, h3, h4, h5, h6, h7⟩ := inv_node_iff.1 h
  have hchild : ∀ c' ∈ cs', childOk rx.original c' = true ∧ c'.inv ic = true := by
    intro c' hc'
    obtain ⟨c, hc, hext, hinv, hnec⟩ := himg.mem c' hc'
    exact ⟨hext.childOk (h5 c hc) hnec, hinv⟩
  have hpw : (cs'.map Item.regex).Pairwise (Sib rx.original.length) := by
    rw [List.pairwise_map] at h6 ⊢
    refine himg.pairwise ?_ h6
    intro a ha b hb a' b' hab hpa hpb
    have s1 : Sib rx.original.length a.regex b'.regex :=
      sib_ext hab hpb.1 (fun hn => childOk_lt (h5 b hb) hn)
    exact (sib_ext s1.symm hpa.1 (fun hn => childOk_lt (h5 a ha) hn)).symm
  match cs', hne, hchild, hpw with
  | [d], _, hchild, _ =>
    rw [collapse1_single]
    exact ⟨(hchild d (by simp)).2, fun _ => ⟨fun _ => rfl, Or.inr ⟨rfl, childOk_bpre (hchild d (by simp)).1⟩⟩⟩
  | d :: e :: rest, _, hchild, hpw =>
    rw [collapse1_of_two_le rx (by simp)]
    exact ⟨inv_node_iff.2 ⟨h1, h2, h3, by simp, fun c hc => (hchild c hc).1, hpw,
      fun c hc => (hchild c hc).2⟩, fun _ => Ext.refl _⟩

theorem remove_empty (ic : Bool) (id : ι) : (Item.empty ic : Item ι V).remove id = (.empty ic, none) := by
  rw [Item.remove]
theorem remove_leaf (rx) (vs : List (ι × V)) (id : ι) : (Item.leaf rx vs).remove id = leafRemove rx vs id := by
  rw [Item.remove]
theorem remove_node (rx) (cs : List (Item ι V)) (id : ι) :
    (Item.node rx cs).remove id = (collapse1 rx (removeL cs id).1, (removeL cs id).2) := by
  rw [Item.remove]

theorem removeL_nil (id : ι) : removeL ([] : List (Item ι V)) id = ([], none) := by rw [removeL]

theorem removeL_cons_some {c : Item ι V} {cs : List (Item ι V)} {id : ι} {v : V}
    (h : (c.remove id).2 = some v) :
    removeL (c :: cs) id = (keepNonEmpty (c.remove id).1 ++ cs, some v) := by
  rw [removeL]; simp [h]

theorem removeL_cons_none {c : Item ι V} {cs : List (Item ι V)} {id : ι}
    (h : (c.remove id).2 = none) :
    removeL (c :: cs) id = (keepNonEmpty (c.remove id).1 ++ (removeL cs id).1, (removeL cs id).2) := by
  rw [removeL]; simp [h]

theorem eraseKey_sublist (vs : List (ι × V)) (id : ι) : (eraseKey vs id).Sublist vs := by
  induction vs with
  | nil => exact .slnil
  | cons a rest ih =>
    obtain ⟨k, w⟩ := a
    simp only [eraseKey]
    split
    · exact List.sublist_cons_self _ _
    · exact ih.cons_cons _

theorem nodupKeys_eraseKey {vs : List (ι × V)} (h : nodupKeys vs = true) (id : ι) :
    nodupKeys (eraseKey vs id) = true := by
  rw [nodupKeys_iff] at *
  exact h.sublist (eraseKey_sublist vs id)

theorem nodupKeys_retainVals {vs : List (ι × V)} (h : nodupKeys vs = true) (f : ι → V → Option V) :
    nodupKeys (retainVals f vs) = true := by
  rw [nodupKeys_iff] at *
  unfold retainVals
  rw [List.pairwise_filterMap]
  refine h.imp ?_
  -- the kept entries keep their keys
  intro a b hab a' ha' b' hb'
  simp only [Option.map_eq_some_iff] at ha' hb'
  obtain ⟨_, _, rfl⟩ := ha'
  obtain ⟨_, _, rfl⟩ := hb'
  exact hab

theorem leafRemove_none {rx : LazyRegex} {vs : List (ι × V)} {id : ι} (h : lookupKey vs id = none) :
    leafRemove rx vs id = (.leaf rx vs, none) := by
  simp [leafRemove, h]

theorem leafRemove_some {rx : LazyRegex} {vs : List (ι × V)} {id : ι} {v : V} (h : lookupKey vs id = some v) :
    leafRemove rx vs id =
      (if (eraseKey vs id).isEmpty then .empty rx.ic else .leaf rx (eraseKey vs id), some v) := by
  simp only [leafRemove, h]
  split <;> rfl

theorem remove_none {ic : Bool} (t : Item ι V) (id : ι) (h : t.inv ic = true)
    (hr : (t.remove id).2 = none) : (t.remove id).1 = t := by
  induction t using Item.ind₂ (motiveL := fun l => (∀ c ∈ l, c.inv ic = true ∧ c.isEmptyCtor = false) →
      (removeL l id).2 = none → (removeL l id).1 = l) with
  | hE ic' => rw [remove_empty]
  | hL rx vs =>
    rw [remove_leaf] at hr ⊢
    cases hl : lookupKey vs id with
    | none => rw [leafRemove_none hl]
    | some v => rw [leafRemove_some hl] at hr; simp at hr
  | hN rx cs ih =>
    obtain ⟨_, _, _, h4, h5, _, h7⟩ := inv_node_iff.1 h
    rw [remove_node] at hr ⊢
    simp only at hr ⊢
    rw [ih (fun c hc => ⟨h7 c hc, childOk_notEmpty (h5 c hc)⟩) hr, collapse1_of_two_le rx h4]
  | hnil => rw [removeL_nil]
  | hcons c l ihc ihl hinv hnone =>
    have hc := hinv c (by simp)
    cases hrc : (c.remove id).2 with
    | some v => rw [removeL_cons_some hrc] at hnone; simp at hnone
    | none =>
      rw [removeL_cons_none hrc] at hnone ⊢
      simp only at hnone ⊢
      rw [ihc hc.1 hrc, ihl (fun d hd => hinv d (by simp [hd])) hnone,
        keepNonEmpty_of_not_isEmpty (inv_not_isEmpty c hc.1 hc.2)]
      rfl

/-- The list motive is the loop of `Node::remove` on a list of good children: every child is kept (replaced by what `remove`
made of it) or dropped, and at most one is dropped. -/
theorem inv_remove_aux {ic : Bool} (t : Item ι V) (id : ι) (h : t.inv ic = true) : Shrunk ic t (t.remove id).1 := by
  induction t using Item.ind₂ (motiveL := fun l => (∀ c ∈ l, c.inv ic = true ∧ c.isEmptyCtor = false) →
      Img (Kept ic) l (removeL l id).1 ∧ l.length ≤ (removeL l id).1.length + 1) with
  | hE ic' => rw [remove_empty]; exact .refl h
  | hL rx vs =>
    rw [remove_leaf]
    cases hl : lookupKey vs id with
    | none => rw [leafRemove_none hl]; exact .refl h
    | some v => rw [leafRemove_some hl]; exact .leaf h (nodupKeys_eraseKey (inv_leaf_iff.1 h).2.2.2 id)
  | hN rx cs ih =>
    obtain ⟨_, _, _, h4, h5, _, h7⟩ := inv_node_iff.1 h
    rw [remove_node]
    obtain ⟨himg, hlen⟩ := ih fun c hc => ⟨h7 c hc, childOk_notEmpty (h5 c hc)⟩
    have hne : (removeL cs id).1 ≠ [] := by
      intro e; rw [e] at hlen; simp at hlen; omega
    exact node_rebuild h himg hne
  | hnil => rw [removeL_nil]; exact ⟨.nil, by simp⟩
  | hcons c cs ihc ihl hinv =>
    have hc := hinv c (by simp)
    have hrest : ∀ d ∈ cs, d.inv ic = true ∧ d.isEmptyCtor = false := fun d hd => hinv d (by simp [hd])
    have hhead : Img (Kept ic) [c] (keepNonEmpty (c.remove id).1) := img_keepNonEmpty (ihc hc.1)
    cases hrc : (c.remove id).2 with
    | some v =>
      rw [removeL_cons_some hrc]
      exact ⟨hhead.append (Img.of_refl fun d hd => ⟨Ext.refl d, (hrest d hd).1, (hrest d hd).2⟩), by simp⟩
    | none =>
      rw [removeL_cons_none hrc]
      obtain ⟨himg, hlen⟩ := ihl hrest
      refine ⟨hhead.append himg, ?_⟩
      -- nothing removed below `c`: it is unchanged, hence kept
      rw [remove_none c id hc.1 hrc, keepNonEmpty_of_not_isEmpty (inv_not_isEmpty c hc.1 hc.2)]
      simp at hlen ⊢; omega

theorem inv_remove {ic : Bool} (t : Item ι V) (id : ι) (h : t.inv ic = true) :
    (t.remove id).1.inv ic = true := (inv_remove_aux t id h).1

theorem retain_empty (ic : Bool) (f : ι → V → Option V) : (Item.empty ic : Item ι V).retain f = .empty ic := by
  rw [Item.retain]
theorem retain_leaf (rx) (vs : List (ι × V)) (f : ι → V → Option V) :
    (Item.leaf rx vs).retain f =
      if (retainVals f vs).isEmpty then .empty rx.ic
      else .leaf rx (retainVals f vs) := by
  rw [Item.retain]
theorem retain_node (rx) (cs : List (Item ι V)) (f : ι → V → Option V) :
    (Item.node rx cs).retain f =
      if (retainL cs f).isEmpty then .empty rx.ic else collapse1 rx (retainL cs f) := by
  rw [Item.retain]

theorem inv_retain_aux {ic : Bool} (t : Item ι V) (f : ι → V → Option V) (h : t.inv ic = true) :
    Shrunk ic t (t.retain f) := by
  induction t using Item.ind with
  | hE ic' => rw [retain_empty]; exact .refl h
  | hL rx vs =>
    rw [retain_leaf]
    exact .leaf h (nodupKeys_retainVals (inv_leaf_iff.1 h).2.2.2 f)
  | hN rx cs ih =>
    obtain ⟨_, h2, _, _, _, _, h7⟩ := inv_node_iff.1 h
    rw [retain_node]
    have himg : Img (Kept ic) cs (retainL cs f) := by
      rw [retainL_eq]
      exact Img.flatMap fun c hc => img_keepNonEmpty (ih c hc (h7 c hc))
    split
    · rw [h2]; exact .empty _
    · next hne =>
      exact node_rebuild h himg (by intro e; rw [e] at hne; simp at hne)

theorem inv_retain {ic : Bool} (t : Item ι V) (f : ι → V → Option V) (h : t.inv ic = true) :
    (t.retain f).inv ic = true := (inv_retain_aux t f h).1

end Rio.Tree
