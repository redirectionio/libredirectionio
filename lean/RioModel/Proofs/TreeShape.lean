/-
Maps on trees that keep the shape: `insert`, `retain` and the `get_mut`-update commute with them, and the observations that
run no regex (`contents`, `get`, `len`, `is_empty`, `regex()`) see through them; `find` and `trace` run the cached values
(`trace_strip` in TreeCache).  (`remove`, which also returns a value, is followed for `strip` alone: `remove_strip` in
TreeCacheSim.)
-/
import RioModel.Proofs.TreeSpec
set_option linter.unusedSectionVars false

namespace Rio.Tree
open Rio.Scan

variable {ι V : Type} [DecidableEq ι]

def mapKV (g : ι → V → V) (vs : List (ι × V)) : List (ι × V) := vs.map fun kv => (kv.1, g kv.1 kv.2)

theorem upsert_mapKV (g : ι → V → V) (vs : List (ι × V)) (id : ι) (v : V) :
    mapKV g (upsert vs id v) = upsert (mapKV g vs) id (g id v) := by
  induction vs with
  | nil => rfl
  | cons kv vs ih =>
    obtain ⟨k, w⟩ := kv
    simp only [mapKV, upsert, List.map_cons] at ih ⊢
    by_cases h : k = id
    · subst h; simp
    · simp [h, ih]

theorem retainVals_mapKV (g : ι → V → V) (f f' : ι → V → Option V)
    (hgf : ∀ id v, (f id v).map (g id) = f' id (g id v)) (vs : List (ι × V)) :
    mapKV g (retainVals f vs) = retainVals f' (mapKV g vs) := by
  unfold retainVals mapKV
  -- both sides are one `filterMap` over `vs`
  rw [List.map_filterMap, List.filterMap_map]
  refine congrArg (List.filterMap · vs) (funext fun kv => ?_)
  simp [← hgf, Function.comp_def]

/-- `F` is a shape-preserving relabelling: it replaces every regex cell `rx` by `r rx`, which keeps pattern and flag and fixes
freshly built cells (so it differs from `rx` in the cached value at most), and every value `v` stored under `id` by `g id v`.
`Item.strip` and `Item.mapVals g` are the two instances in use; no update of the tree reads what they change. -/
structure ShapeMap (F : Item ι V → Item ι V) (r : LazyRegex → LazyRegex) (g : ι → V → V) : Prop where
  empty : ∀ ic, F (.empty ic) = .empty ic
  leaf : ∀ rx vs, F (.leaf rx vs) = .leaf (r rx) (mapKV g vs)
  node : ∀ rx cs, F (.node rx cs) = .node (r rx) (cs.map F)
  original : ∀ rx, (r rx).original = rx.original
  ic : ∀ rx, (r rx).ic = rx.ic
  newLeaf : ∀ p ic, r (.newLeaf p ic) = .newLeaf p ic
  newNode : ∀ q ic, r (.newNode q ic) = .newNode q ic

namespace ShapeMap
variable {F : Item ι V → Item ι V} {r : LazyRegex → LazyRegex} {g : ι → V → V} (hF : ShapeMap F r g)
include hF

theorem regex (t : Item ι V) : (F t).regex = t.regex := by
  cases t with
  | empty ic => rw [hF.empty]
  | leaf rx vs => rw [hF.leaf]; exact hF.original rx
  | node rx cs => rw [hF.node]; exact hF.original rx

theorem childOk (q : List Char) (t : Item ι V) : Tree.childOk q (F t) = Tree.childOk q t := by
  cases t with
  | empty ic => rw [hF.empty]
  | leaf rx vs => rw [hF.leaf]; simp only [Tree.childOk, hF.original]
  | node rx cs => rw [hF.node]; simp only [Tree.childOk, hF.original]

theorem contents (t : Item ι V) : (F t).contents = t.contents.map fun e => ⟨e.pat, e.id, g e.id e.val⟩ := by
  induction t using Item.ind with
  | hE ic => simp [hF.empty]
  | hL rx vs => simp [hF.leaf, mapKV, hF.original]
  | hN rx cs ih =>
    rw [hF.node, contents_node, contents_node, contentsL_eq, contentsL_eq, List.flatMap_map, List.map_flatMap]
    exact Rio.Util.flatMap_congr ih

theorem isEmpty (t : Item ι V) : (F t).isEmpty = t.isEmpty := by
  rw [Bool.eq_iff_iff, isEmpty_iff, isEmpty_iff, hF.contents, List.map_eq_nil_iff]

theorem len (t : Item ι V) : (F t).len = t.len := by
  rw [len_spec, len_spec, hF.contents, List.length_map]

theorem lenL_map (cs : List (Item ι V)) : lenL (cs.map F) = lenL cs := by
  rw [lenL_eq, lenL_eq, List.map_map]
  exact congrArg List.sum (List.map_congr_left fun c _ => hF.len c)

theorem inv (hl : ∀ rx, rx.leafWf = true → (r rx).leafWf = true) (hn : ∀ rx, rx.nodeWf = true → (r rx).nodeWf = true)
    {ic : Bool} (t : Item ι V) (h : t.inv ic = true) : (F t).inv ic = true := by
  induction t using Item.ind with
  | hE ic' => rw [hF.empty]; exact h
  | hL rx vs =>
    obtain ⟨h1, h2, h3, h4⟩ := inv_leaf_iff.1 h
    rw [hF.leaf]
    refine inv_leaf_iff.2 ⟨hl rx h1, by rw [hF.ic]; exact h2, by simpa [mapKV] using h3, ?_⟩
    rw [nodupKeys_iff'] at *
    simpa [mapKV, List.map_map, Function.comp_def] using h4
  | hN rx cs ih =>
    obtain ⟨h1, _, _, _, _, _, h7⟩ := inv_node_iff.1 h
    rw [hF.node]
    exact inv_node_map F h (hn rx h1) (hF.original rx) (hF.ic rx) hF.regex hF.childOk fun c hc => ih c hc (h7 c hc)

theorem newLeafItem (p : List Char) (id : ι) (v : V) (ic : Bool) :
    F (newLeafItem p id v ic) = Tree.newLeafItem p id (g id v) ic := by
  simp [Tree.newLeafItem, hF.leaf, hF.newLeaf, mapKV]

theorem insert (t : Item ι V) (p : List Char) (id : ι) (v : V) :
    F (t.insert p id v) = (F t).insert p id (g id v) := by
  induction t using Item.ind with
  | hE ic => rw [hF.empty, insert_empty, insert_empty, hF.newLeafItem]
  | hL rx vs =>
    rw [hF.leaf, insert_leaf, insert_leaf]
    unfold leafInsert
    rw [hF.original, hF.ic]
    by_cases hp : p = rx.original
    · rw [if_pos hp, if_pos hp, hF.leaf, upsert_mapKV]
    · rw [if_neg hp, if_neg hp]
      simp [hF.node, hF.leaf, hF.newLeaf, hF.newNode, mapKV]
  | hN rx cs ih =>
    rw [hF.node]
    -- `selLoop` sees the same `regex()` list and the same node prefix on both sides
    have hreg := map_regex_map hF.regex cs
    by_cases hsplit : commonPrefixCharSize p rx.original < rx.original.length
    · rw [insert_node_split hsplit, insert_node_split (by rw [hF.original]; exact hsplit)]
      simp [hF.node, hF.newLeafItem, hF.newNode, hF.original, hF.ic]
    · cases hs : selLoop p (cs.map Item.regex) 0 rx.original.length none with
      | none =>
        rw [insert_node_none hsplit hs,
          insert_node_none (by rw [hF.original]; exact hsplit) (by rw [hreg, hF.original]; exact hs)]
        simp [hF.node, hF.newLeafItem, hF.ic]
      | some i =>
        rw [insert_node_some hsplit hs,
          insert_node_some (by rw [hF.original]; exact hsplit) (by rw [hreg, hF.original]; exact hs),
          hF.node, insertAt_map F cs i p id v (g id v) ih]

theorem retain (f f' : ι → V → Option V) (hgf : ∀ id v, (f id v).map (g id) = f' id (g id v)) (t : Item ι V) :
    F (t.retain f) = (F t).retain f' := by
  induction t using Item.ind with
  | hE ic => rw [hF.empty, retain_empty, retain_empty, hF.empty]
  | hL rx vs =>
    rw [hF.leaf, retain_leaf, retain_leaf, ← retainVals_mapKV g f f' hgf, hF.ic]
    have : (mapKV g (retainVals f vs)).isEmpty = (retainVals f vs).isEmpty := by simp [mapKV]
    rw [this]
    split
    · rw [hF.empty]
    · rw [hF.leaf]
  | hN rx cs ih =>
    rw [hF.node, retain_node, retain_node, ← retainL_map F hF.isEmpty cs ih, List.isEmpty_map, hF.ic]
    split
    · rw [hF.empty]
    · rw [collapse1_map F (hF.node rx)]

theorem modifyAt (f f' : ι → V → V) (hgf : ∀ id v, g id (f id v) = f' id (g id v)) (t : Item ι V) (p : List Char) :
    F (t.modifyAt p f) = (F t).modifyAt p f' := by
  induction t using Item.ind with
  | hE ic => rw [hF.empty, modifyAt_empty, modifyAt_empty, hF.empty]
  | hL rx vs =>
    rw [hF.leaf, modifyAt_leaf, modifyAt_leaf, hF.original]
    by_cases hp : rx.original = p
    · rw [if_pos hp, if_pos hp, hF.leaf]; simp [mapKV, hgf]
    · rw [if_neg hp, if_neg hp, hF.leaf]
  | hN rx cs ih =>
    rw [hF.node, modifyAt_node, modifyAt_node, hF.original]
    by_cases hp : rx.original.isPrefixOf p = true
    · rw [if_pos hp, if_pos hp, hF.node, List.map_map, List.map_map]
      exact congrArg _ (List.map_congr_left ih)
    · rw [if_neg hp, if_neg hp, hF.node]

end ShapeMap

/-- `get` returns values without their ids, so the statement is for a value map that does not read the id. -/
theorem ShapeMap.get {F : Item ι V → Item ι V} {r : LazyRegex → LazyRegex} {g : V → V} (hF : ShapeMap F r fun _ => g)
    (t : Item ι V) (p : List Char) : (F t).get p = (t.get p).map g := by
  induction t using Item.ind with
  | hE ic => rw [hF.empty, get_empty]; rfl
  | hL rx vs => rw [hF.leaf, get_leaf, get_leaf, hF.original]; split <;> simp [mapKV]
  | hN rx cs ih =>
    rw [hF.node, get_node, get_node, getL_eq, getL_eq, hF.original]
    split
    · rw [List.flatMap_map, List.map_flatMap]; exact Rio.Util.flatMap_congr ih
    · rfl

end Rio.Tree
