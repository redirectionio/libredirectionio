/-
Router proofs: the tower and the router over the real regex-tree model.

`towerTLaws` instantiates the layer tower with `pathTLaws` (innermost) and `hostTLaws`; its layered
`sat` is the flat specification `sat T.env` – the same predicate as for the specification-level
tower – so all generic router lemmas `g_*` of RouterTop.lean apply (`towerTSpec`).  The only extra
hypothesis is on inserted routes: their marker patterns (path and host) render to regex strings in
the domain `Good` of property C08, for which the engine satisfies `PrefixSound`.
-/
import RioModel.Proofs.RouterTreeHost
import RioModel.Proofs.RouterTop

namespace Rio.Router
open Rio.Tree

section
variable (T : TEnv) (Good : List Char → Prop) (hPS : PrefixSound T.engine Good)

/-- the layers between the host layer and the path layer, over the real path tree -/
def innerTLaws := ipL T.env (pathTLaws T Good hPS)

def towerTLaws : MLaws (towerTOps T) := schemeLaws (hostTLaws T Good (innerTLaws T Good hPS) hPS)

/-- the marker patterns of the route (path and host) render into the domain of C08 -/
def TreeGood (r : Route) : Prop := PathGood T Good r ∧ HostGood T Good r

/-- `towerL_sat` is stated for a tower whose host layer has the `sat` of `hostLaws`; it applies here because the `sat`
field of `hostTLaws` is the same term `hostSat …` (the tree only changes how a host is looked up, not what a route
asks of the request). -/
theorem towerT_sat (R : List Route) (r : Route) (q : Req) :
    (towerTLaws T Good hPS).sat R r q = sat T.env R r q :=
  towerL_sat T.env (pathTLaws T Good hPS) T.host (fun _ _ _ => rfl) (fun _ _ => rfl) rfl R r q

theorem towerT_wf (r : Route) (h : WFRoute r) : (towerTLaws T Good hPS).wf r :=
  towerL_wf T.env (pathTLaws T Good hPS) T.host (fun _ => trivial) r h

theorem towerTSpec : TowerSpec T.env (towerTLaws T Good hPS) (TreeGood T Good) :=
  ⟨towerT_sat T Good hPS, towerT_wf T Good hPS, fun _ h => ⟨h.1, h.2⟩⟩

abbrev RReprT (S : RouterT T) (L : List Route) : Prop := RReprG (towerTLaws T Good hPS) S L

end
end Rio.Router
