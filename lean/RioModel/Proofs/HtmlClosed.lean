/-
Closed forms of the tokenizer's readers (for C15 and C16): what `next` returns when the unread part of the buffer starts with the
serialisation of a piece (tag with attributes, text, raw-text content, comment, doctype), followed by anything.
Here: `Has` (the buffer holds given bytes at a position), under which `read_byte` and the skipping of white space are
equations of states; the attribute grammar of `Simple` (`SimpleL` of `Proofs/FilterDomUniv.lean`, downstream); for the readers
of `read_tag`, where they stop on a known text and the pending key / value spans they leave.  Buffer, `raw.start`, `raw_tag`
and flags come from the frame lemmas of `Proofs/Html.lean`.
Bytes by number, in the whole group: 60 `<`, 62 `>`, 47 `/`, 61 `=`, 33 `!`, 45 `-`, 63 `?`, 34 `"`, 39 `'`.
-/
import RioModel.Proofs.HtmlReach

namespace Rio.Html
namespace Tokenizer

abbrev Bytes := List Nat

def Has (t : Tokenizer) (p : Nat) (l : Bytes) : Prop := ∀ i (h : i < l.length), t.buf[p + i]? = some l[i]

theorem Has.nil (t : Tokenizer) (p : Nat) : Has t p [] := fun _ h => absurd h (Nat.not_lt_zero _)

theorem Has.head {t : Tokenizer} {p a : Nat} {l : Bytes} (h : Has t p (a :: l)) : t.buf[p]? = some a := by
  have := h 0 (by simp); simpa using this

theorem Has.tail {t : Tokenizer} {p a : Nat} {l : Bytes} (h : Has t p (a :: l)) : Has t (p + 1) l := by
  intro i hi
  have := h (i + 1) (by simp; omega)
  simp only [List.getElem_cons_succ] at this
  rw [← this]; congr 1; omega

theorem Has.left {t : Tokenizer} {p : Nat} {a b : Bytes} (h : Has t p (a ++ b)) : Has t p a := by
  intro i hi
  have := h i (by simp; omega)
  rw [this, List.getElem_append_left hi]

theorem Has.right {t : Tokenizer} {p : Nat} {a b : Bytes} (h : Has t p (a ++ b)) : Has t (p + a.length) b := by
  intro i hi
  have := h (a.length + i) (by simp; omega)
  rw [show p + a.length + i = p + (a.length + i) by omega, this, List.getElem_append_right (by omega)]
  simp

theorem Has.congr {t t' : Tokenizer} {p : Nat} {l : Bytes} (h : Has t p l) (e : t'.buf = t.buf) : Has t' p l := by
  intro i hi; rw [e]; exact h i hi

theorem Has.at {t : Tokenizer} {p q : Nat} {l : Bytes} (h : Has t p l) (e : q = p) : Has t q l := e ▸ h

theorem Has.lt {t : Tokenizer} {p a : Nat} {l : Bytes} (h : Has t p (a :: l)) : p < t.buf.size :=
  lt_size_of_getElem? h.head

theorem Has.le_size {t : Tokenizer} {p a : Nat} {l : Bytes} (h : Has t p (a :: l)) : p + (a :: l).length ≤ t.buf.size := by
  have := lt_size_of_getElem? (h l.length (by simp))
  simp only [List.length_cons]
  omega

theorem extract_of_has {t : Tokenizer} {p : Nat} {l : Bytes} (h : Has t p l) : (t.buf.extract p (p + l.length)).toList = l := by
  apply List.ext_getElem?
  intro i
  rw [Array.toList_extract, List.extract_eq_take_drop, Nat.add_sub_cancel_left, List.getElem?_take, List.getElem?_drop]
  by_cases hi : i < l.length
  · rw [if_pos hi, Array.getElem?_toList, h i hi, List.getElem?_eq_getElem hi]
  · rw [if_neg hi, List.getElem?_eq_none (by omega)]

theorem has_new (l : Bytes) : Has (Tokenizer.new l.toArray) 0 l := by
  intro i hi
  show l.toArray[0 + i]? = some l[i]
  simp [hi]

theorem new_facts (l : Bytes) : (Tokenizer.new l.toArray).rawE = 0 ∧ (Tokenizer.new l.toArray).err = false ∧
    (Tokenizer.new l.toArray).rawTag = [] ∧ (Tokenizer.new l.toArray).buf = l.toArray :=
  ⟨rfl, rfl, rfl, rfl⟩

theorem readByte_has {t : Tokenizer} {a : Nat} {l : Bytes} (h : Has t t.rawE (a :: l)) :
    t.readByte = ({ t with rawE := t.rawE + 1 }, a) :=
  readByte_some h.head

theorem Has.read {t : Tokenizer} {a : Nat} {l : Bytes} (h : Has t t.rawE (a :: l)) (he : t.err = false) :
    t.readByte.2 = a ∧ t.readByte.1.rawE = t.rawE + 1 ∧ t.readByte.1.err = false ∧ t.readByte.1.buf = t.buf ∧
    Has t.readByte.1 t.readByte.1.rawE l := by
  rw [readByte_has h]
  exact ⟨rfl, rfl, he, rfl, h.tail⟩

theorem read2_unread {t : Tokenizer} {a b : Nat} {l : Bytes} (h : Has t t.rawE (a :: b :: l)) :
    t.readByte.1.readByte.1.unread 2 = t := by
  rw [readByte_has h, readByte_has (t := { t with rawE := t.rawE + 1 }) h.tail]
  unfold unread
  rw [if_pos (by show 2 ≤ t.rawE + 1 + 1; omega)]
  show { t with rawE := t.rawE + 1 + 1 - 2 } = t
  rw [show t.rawE + 1 + 1 - 2 = t.rawE by omega]

theorem read_unread {t : Tokenizer} {a : Nat} {l : Bytes} (h : Has t t.rawE (a :: l)) : t.readByte.1.unread 1 = t :=
  unread_readByte h.lt

/-- what a "run" lemma says: where the reader stops, and that it did not hit EOF -/
def Stops (t t' : Tokenizer) (n : Nat) : Prop := t'.rawE = t.rawE + n ∧ t'.err = false

theorem isWs_false_of {b : Nat} (h : isWs b = false) : ¬ isWs b = true := by rw [h]; exact Bool.false_ne_true

theorem skipWsGo_eq {l : Bytes} : ∀ (ws : Bytes) (d : Nat) (t : Tokenizer), Has t t.rawE (ws ++ d :: l) →
    (∀ b ∈ ws, isWs b = true) → isWs d = false → t.err = false →
    skipWsGo t = { t with rawE := t.rawE + ws.length }
  | [], d, t, h, _, hd, he => by
    have := skipWhiteSpace_nonWs he h.head hd
    rwa [skipWhiteSpace, if_neg (by rw [he]; exact Bool.false_ne_true)] at this
  | b :: ws, d, t, h, hw, hd, he => by
    obtain ⟨e1, _, e3, _, _⟩ := h.read he
    rw [skipWsGo]
    simp only [e3, e1, hw b (by simp), Bool.false_eq_true, dite_false, if_true]
    rw [readByte_has h]
    show skipWsGo { t with rawE := t.rawE + 1 } = _
    rw [skipWsGo_eq ws d { t with rawE := t.rawE + 1 } h.tail (fun x hx => hw x (by simp [hx])) hd he]
    show ({ t with rawE := t.rawE + 1 + ws.length } : Tokenizer) = _
    rw [Nat.add_assoc, Nat.add_comm 1]
    rfl

theorem skipWhiteSpace_eq {l : Bytes} (ws : Bytes) (d : Nat) (t : Tokenizer) (h : Has t t.rawE (ws ++ d :: l))
    (hw : ∀ b ∈ ws, isWs b = true) (hd : isWs d = false) (he : t.err = false) :
    skipWhiteSpace t = { t with rawE := t.rawE + ws.length } := by
  unfold skipWhiteSpace
  rw [if_neg (by rw [he]; exact Bool.false_ne_true)]
  exact skipWsGo_eq ws d t h hw hd he

theorem skipWhiteSpace_fix {t : Tokenizer} {d : Nat} {l : Bytes} (h : Has t t.rawE (d :: l)) (hd : isWs d = false)
    (he : t.err = false) : skipWhiteSpace t = t :=
  skipWhiteSpace_nonWs he h.head hd

/-- The byte at which a reader of a name, a key or an unquoted value stops on `W ++ d :: l`, `W` white space: the first byte of
`W`, which it consumes (`k = 1`), or — `W` being empty — the delimiter `d`, which it puts back (`k = 0`).  `W'` is what is left of
`W` for the `skip_white_space` that follows each of these readers. -/
theorem stopByte {W : Bytes} {d : Nat} (P : Nat → Prop) (l : Bytes) (hW : ∀ b ∈ W, isWs b = true) (hd : W = [] → P d) :
    ∃ (c k : Nat) (r W' : Bytes), W ++ d :: l = c :: r ∧ ((isWs c = true ∧ k = 1) ∨ (P c ∧ k = 0)) ∧
      (∀ b ∈ W', isWs b = true) ∧ k + W'.length = W.length ∧
      ∀ {t : Tokenizer} {p : Nat}, Has t p (c :: r) → Has t (p + k) (W' ++ d :: l) := by
  cases W with
  | nil => exact ⟨d, 0, l, [], rfl, Or.inr ⟨hd rfl, rfl⟩, by simp, rfl, fun h => h⟩
  | cons w W' =>
    exact ⟨w, 1, W' ++ d :: l, W', rfl, Or.inl ⟨hW w (by simp), rfl⟩, fun b hb => hW b (by simp [hb]), by simp; omega,
      fun h => h.tail⟩

/-- a byte at which `read_tag_name` continues -/
def nameByte (b : Nat) : Bool := !isWs b && b != 47 && b != 62

theorem nameByte_spec {b : Nat} (h : nameByte b = true) : isWs b = false ∧ (b == 47 || b == 62) = false := by
  simp only [nameByte, Bool.and_eq_true, Bool.not_eq_true', bne_iff_ne, ne_eq] at h
  simp [h.1.1, h.1.2, h.2]

theorem tagNameGo_run {l : Bytes} : ∀ (nm : Bytes) (d k : Nat) (t : Tokenizer), Has t t.rawE (nm ++ d :: l) →
    (∀ b ∈ nm, nameByte b = true) → (isWs d = true ∧ k = 1) ∨ ((d = 47 ∨ d = 62) ∧ k = 0) → t.err = false →
    Stops t (tagNameGo t) (nm.length + k) ∧ (tagNameGo t).dataE = t.rawE + nm.length
  | [], d, k, t, h, _, hd, he => by
    obtain ⟨e1, e2, e3, _, _⟩ := h.read he
    rw [tagNameGo]
    rcases hd with ⟨hd, rfl⟩ | ⟨hd, rfl⟩
    · simp only [e3, e1, hd, Bool.false_eq_true, dite_false, if_true]
      have s := setDataEndBack_spec t.readByte.1 1 (by omega)
      exact ⟨⟨by rw [s.2, e2]; simp, by rw [setDataEndBack_err, e3]⟩, by rw [s.1, e2]; simp⟩
    · have h1 : isWs d = false := by rcases hd with rfl | rfl <;> decide
      have h2 : (d == 47 || d == 62) = true := by rcases hd with rfl | rfl <;> decide
      simp only [e3, e1, h1, h2, Bool.false_eq_true, dite_false, if_false, if_true]
      rw [read_unread h]
      exact ⟨⟨rfl, he⟩, rfl⟩
  | b :: nm, d, k, t, h, hn, hd, he => by
    obtain ⟨e1, e2, e3, _, hh⟩ := h.read he
    obtain ⟨h1, h2⟩ := nameByte_spec (hn b (by simp))
    rw [tagNameGo]
    simp only [e3, e1, h1, h2, Bool.false_eq_true, dite_false, if_false]
    have ih := tagNameGo_run nm d k t.readByte.1 hh (fun x hx => hn x (by simp [hx])) hd e3
    exact ⟨⟨by rw [ih.1.1, e2]; simp; omega, ih.1.2⟩, by rw [ih.2, e2]; simp; omega⟩

/-- attribute value of the `Simple` grammar: none (bare key), unquoted, double-quoted, single-quoted -/
inductive SVal where
  | none
  | unq (v : Bytes)
  | dq (v : Bytes)
  | sq (v : Bytes)
  deriving Repr, DecidableEq, Inhabited

/-- one attribute: leading white space, key, value; `ws1` / `ws2` = white space before / after the `=` (only with a value) -/
structure SAttr where
  ws : Bytes
  key : Bytes
  val : SVal
  ws1 : Bytes := []
  ws2 : Bytes := []
  deriving Repr, DecidableEq, Inhabited

/-- a byte at which `read_tag_name_attr_key` continues -/
def keyByte (b : Nat) : Bool := !isWs b && b != 47 && b != 61 && b != 62
/-- a byte at which the unquoted-value loop continues -/
def unqByte (b : Nat) : Bool := !isWs b && b != 62

/-- the value behind its key with no white space around the `=`: the case `ws1 = ws2 = []` (`SAttr.vtext_plain`) of
`SAttr.vtext`, which is what the text of an attribute is made of -/
def SVal.text : SVal → Bytes
  | .none => []
  | .unq v => 61 :: v
  | .dq v => [61, 34] ++ v ++ [34]
  | .sq v => [61, 39] ++ v ++ [39]

/-- unquoted: not empty (behind `=` the reader takes whatever comes as the value), no quote in front (the quoted reader
would run), no `/` at the end (`a=b/>` is self-closing: `read_start_tag` goes by the byte before `>`) -/
def SVal.ok : SVal → Bool
  | .none => true
  | .unq v =>
    match v with
    | [] => false
    | c :: _ => v.all unqByte && c != 34 && c != 39 && v.getLast? != some 47
  | .dq v => !v.contains 34
  | .sq v => !v.contains 39

/-- the value as it stands after the `=` (with its quotes) -/
def SVal.body : SVal → Bytes
  | .none => []
  | .unq v => v
  | .dq v => [34] ++ v ++ [34]
  | .sq v => [39] ++ v ++ [39]

/-- the value as `tag_attr()` returns it -/
def SVal.value : SVal → Bytes
  | .none => []
  | .unq v => v
  | .dq v => v
  | .sq v => v

/-- offset of the value inside its body: the opening quote -/
def SVal.qoff : SVal → Nat
  | .dq _ | .sq _ => 1
  | _ => 0

theorem SVal.text_eq (v : SVal) (h : v ≠ .none) : v.text = 61 :: v.body := by
  cases v <;> first | exact absurd rfl h | rfl

def SAttr.wsOK (a : SAttr) : Bool :=
  a.ws1.all isWs && a.ws2.all isWs && (a.val != .none || (a.ws1.isEmpty && a.ws2.isEmpty))

/-- `ws` not empty: a name, a bare key or an unquoted value would swallow a key that follows at once; key not empty: an
attribute without key is not saved (`readAttr_slash`); `ws1` / `ws2` only with a value (`wsOK`) -/
def SAttr.ok (a : SAttr) : Bool :=
  !a.ws.isEmpty && a.ws.all isWs && !a.key.isEmpty && a.key.all keyByte && a.val.ok && a.wsOK

/-- the attribute's text behind the key -/
def SAttr.vtext (a : SAttr) : Bytes :=
  match a.val with
  | .none => []
  | v => a.ws1 ++ [61] ++ a.ws2 ++ v.body

def SAttr.text (a : SAttr) : Bytes := a.ws ++ a.key ++ a.vtext

theorem SAttr.vtext_none {a : SAttr} (h : a.val = .none) : a.vtext = [] := by
  unfold SAttr.vtext; rw [h]

theorem SAttr.vtext_some {a : SAttr} (h : a.val ≠ .none) : a.vtext = a.ws1 ++ [61] ++ a.ws2 ++ a.val.body := by
  unfold SAttr.vtext
  cases hv : a.val with
  | none => exact absurd hv h
  | unq v => rfl
  | dq v => rfl
  | sq v => rfl

theorem SAttr.vtext_plain {a : SAttr} (h1 : a.ws1 = []) (h2 : a.ws2 = []) : a.vtext = a.val.text := by
  unfold SAttr.vtext
  cases hv : a.val <;> simp [h1, h2, SVal.text, SVal.body]

def attrsOf : List SAttr → Bytes
  | [] => []
  | a :: as => a.text ++ attrsOf as

/-- the value needs white space (or `>`) after it: bare key or unquoted value -/
def SVal.open : SVal → Bool
  | .none | .unq _ => true
  | _ => false

theorem keyByte_spec {b : Nat} (h : keyByte b = true) :
    (isWs b || b == 47) = false ∧ (b == 61 || b == 62) = false := by
  simp only [keyByte, Bool.and_eq_true, Bool.not_eq_true', bne_iff_ne, ne_eq] at h
  simp [h.1.1.1, h.1.1.2, h.1.2, h.2]

/-- how an attribute key ends: `=` or `>` is not consumed (`k = 0`), white space or `/` is (`k = 1`) -/
def KeyEnd (d k : Nat) : Prop := ((d = 61 ∨ d = 62) ∧ k = 0) ∨ ((isWs d = true ∨ d = 47) ∧ k = 1)

theorem attrKeyGo_run {l : Bytes} : ∀ (key : Bytes) (d k : Nat) (t : Tokenizer), Has t t.rawE (key ++ d :: l) →
    (∀ b ∈ key, keyByte b = true) → KeyEnd d k → t.err = false →
    Stops t (attrKeyGo t) (key.length + k) ∧ (attrKeyGo t).pkE = t.rawE + key.length
  | [], d, k, t, h, _, hd, he => by
    obtain ⟨e1, e2, e3, _, _⟩ := h.read he
    rw [attrKeyGo]
    rcases hd with ⟨hd, rfl⟩ | ⟨hd, rfl⟩
    · have h1 : (isWs d || d == 47) = false := by rcases hd with rfl | rfl <;> decide
      have h2 : (d == 61 || d == 62) = true := by rcases hd with rfl | rfl <;> decide
      simp only [e3, e1, h1, h2, Bool.false_eq_true, dite_false, if_false, if_true]
      rw [read_unread h]
      exact ⟨⟨rfl, he⟩, rfl⟩
    · have h1 : (isWs d || d == 47) = true := by rcases hd with h | rfl <;> simp [*]
      have h0 : ¬ t.readByte.1.rawE = 0 := by omega
      simp only [e3, e1, h1, h0, Bool.false_eq_true, dite_false, if_false, if_true]
      exact ⟨⟨by show t.readByte.1.rawE = _; rw [e2]; simp, rfl⟩, by show t.readByte.1.rawE - 1 = _; rw [e2]; simp⟩
  | b :: key, d, k, t, h, hk, hd, he => by
    obtain ⟨e1, e2, e3, _, hh⟩ := h.read he
    obtain ⟨h1, h2⟩ := keyByte_spec (hk b (by simp))
    rw [attrKeyGo]
    simp only [e3, e1, h1, h2, Bool.false_eq_true, dite_false, if_false]
    obtain ⟨ih, ihk⟩ := attrKeyGo_run key d k t.readByte.1 hh (fun x hx => hk x (by simp [hx])) hd e3
    exact ⟨⟨by rw [ih.1, e2]; simp; omega, ih.2⟩, by rw [ihk, e2]; simp; omega⟩

theorem attrValQuotedGo_run {l : Bytes} : ∀ (v : Bytes) (q : Nat) (t : Tokenizer), Has t t.rawE (v ++ q :: l) →
    (∀ b ∈ v, b ≠ q) → t.err = false →
    Stops t (attrValQuotedGo t q) (v.length + 1) ∧ (attrValQuotedGo t q).pvE = t.rawE + v.length
  | [], q, t, h, _, he => by
    obtain ⟨e1, e2, e3, _, _⟩ := h.read he
    have h0 : ¬ t.readByte.1.rawE = 0 := by omega
    rw [attrValQuotedGo]
    simp only [e3, e1, beq_self_eq_true, h0, Bool.false_eq_true, dite_false, if_false, if_true]
    exact ⟨⟨by show t.readByte.1.rawE = _; rw [e2]; simp, rfl⟩, by show t.readByte.1.rawE - 1 = _; rw [e2]; simp⟩
  | b :: v, q, t, h, hv, he => by
    obtain ⟨e1, e2, e3, _, hh⟩ := h.read he
    have hb : (b == q) = false := by simpa using hv b (by simp)
    rw [attrValQuotedGo]
    simp only [e3, e1, hb, Bool.false_eq_true, dite_false, if_false]
    obtain ⟨ih, ihv⟩ := attrValQuotedGo_run v q t.readByte.1 hh (fun x hx => hv x (by simp [hx])) e3
    exact ⟨⟨by rw [ih.1, e2]; simp; omega, ih.2⟩, by rw [ihv, e2]; simp; omega⟩

theorem unqByte_spec {b : Nat} (h : unqByte b = true) : isWs b = false ∧ (b == 62) = false := by
  simp only [unqByte, Bool.and_eq_true, Bool.not_eq_true', bne_iff_ne, ne_eq] at h
  simp [h.1, h.2]

/-- the two styles of a value, as `read_tag_name_attr_value` tells them apart: between quotes `q`, or from a first byte `c` on -/
theorem SVal.style {val : SVal} (hne : val ≠ .none) (hok : val.ok = true) :
    (∃ q v, (q = 34 ∨ q = 39) ∧ val.body = q :: (v ++ [q]) ∧ val.qoff = 1 ∧ val.value = v ∧ val.open = false ∧
      ∀ b ∈ v, b ≠ q) ∨
    (∃ c v, val.body = c :: v ∧ val.qoff = 0 ∧ val.value = c :: v ∧ val.open = true ∧ (∀ b ∈ c :: v, unqByte b = true) ∧
      c ≠ 34 ∧ c ≠ 39 ∧ (c :: v).getLast? ≠ some 47) := by
  have notIn : ∀ (q : Nat) (v : Bytes), (!v.contains q) = true → ∀ b ∈ v, b ≠ q := by
    intro q v hc b hb e
    subst e
    exact (by simpa using hc : ¬ b ∈ v) hb
  cases val with
  | none => exact absurd rfl hne
  | dq v => exact Or.inl ⟨34, v, Or.inl rfl, rfl, rfl, rfl, rfl, notIn 34 v hok⟩
  | sq v => exact Or.inl ⟨39, v, Or.inr rfl, rfl, rfl, rfl, rfl, notIn 39 v hok⟩
  | unq v =>
    cases v with
    | nil => simp [SVal.ok] at hok
    | cons c v =>
      simp only [SVal.ok, Bool.and_eq_true, bne_iff_ne, ne_eq, List.all_eq_true] at hok
      exact Or.inr ⟨c, v, rfl, rfl, rfl, rfl, hok.1.1.1, hok.1.1.2, hok.1.2, hok.2⟩

theorem attrValUnquotedGo_run {l : Bytes} : ∀ (v : Bytes) (d k : Nat) (t : Tokenizer), Has t t.rawE (v ++ d :: l) →
    (∀ b ∈ v, unqByte b = true) → (isWs d = true ∧ k = 1) ∨ (d = 62 ∧ k = 0) → t.err = false →
    Stops t (attrValUnquotedGo t) (v.length + k) ∧ (attrValUnquotedGo t).pvE = t.rawE + v.length
  | [], d, k, t, h, _, hd, he => by
    obtain ⟨e1, e2, e3, _, _⟩ := h.read he
    rw [attrValUnquotedGo]
    rcases hd with ⟨hd, rfl⟩ | ⟨rfl, rfl⟩
    · have h0 : ¬ t.readByte.1.rawE = 0 := by omega
      simp only [e3, e1, hd, h0, Bool.false_eq_true, dite_false, if_false, if_true]
      exact ⟨⟨by show t.readByte.1.rawE = _; rw [e2]; simp, rfl⟩, by show t.readByte.1.rawE - 1 = _; rw [e2]; simp⟩
    · have hw : isWs 62 = false := by decide
      simp only [e3, e1, hw, beq_self_eq_true, Bool.false_eq_true, dite_false, if_false, if_true]
      rw [read_unread h]
      exact ⟨⟨rfl, he⟩, rfl⟩
  | b :: v, d, k, t, h, hv, hd, he => by
    obtain ⟨e1, e2, e3, _, hh⟩ := h.read he
    obtain ⟨h1, h2⟩ := unqByte_spec (hv b (by simp))
    rw [attrValUnquotedGo]
    simp only [e3, e1, h1, h2, Bool.false_eq_true, dite_false, if_false]
    obtain ⟨ih, ihv⟩ := attrValUnquotedGo_run v d k t.readByte.1 hh (fun x hx => hv x (by simp [hx])) hd e3
    exact ⟨⟨by rw [ih.1, e2]; simp; omega, ih.2⟩, by rw [ihv, e2]; simp; omega⟩

theorem Stops.trans {a b c : Tokenizer} {m n : Nat} (h1 : Stops a b m) (h2 : Stops b c n) : Stops a c (m + n) :=
  ⟨by rw [h2.1, h1.1]; omega, h2.2⟩

theorem Stops.step {t u v : Tokenizer} {n : Nat} (e : u.rawE = t.rawE + 1) (h : Stops u v n) : Stops t v (n + 1) :=
  ⟨by rw [h.1, e]; omega, h.2⟩

theorem attrValRest_at {t : Tokenizer} {c : Nat} {l : Bytes} (h : Has t t.rawE (c :: l)) (hc : isWs c = false)
    (hc62 : (c == 62) = false) (he : t.err = false) :
    attrValRest t =
      if c == 39 || c == 34 then attrValQuotedGo { t with rawE := t.rawE + 1, pvS := t.rawE + 1 } c
      else attrValUnquotedGo { t with rawE := t.rawE + 1, pvS := t.rawE } := by
  have he' : ¬ t.err = true := by rw [he]; exact Bool.false_ne_true
  unfold attrValRest
  simp only
  rw [skipWhiteSpace_fix h hc he, if_neg he', readByte_has h]
  simp only
  rw [if_neg he', if_neg (by rw [hc62]; exact Bool.false_ne_true), if_neg (Nat.succ_ne_zero _)]
  rfl

theorem attrValRest_run_quoted {l : Bytes} (v : Bytes) (q : Nat) (t : Tokenizer) (hq : q = 34 ∨ q = 39)
    (h : Has t t.rawE (q :: (v ++ q :: l))) (hv : ∀ b ∈ v, b ≠ q) (he : t.err = false) :
    Stops t (attrValRest t) (v.length + 2) ∧
    (attrValRest t).pvS = t.rawE + 1 ∧ (attrValRest t).pvE = t.rawE + 1 + v.length := by
  rw [attrValRest_at h (by rcases hq with rfl | rfl <;> decide) (by rcases hq with rfl | rfl <;> decide) he,
    if_pos (by rcases hq with rfl | rfl <;> decide)]
  obtain ⟨run, sp⟩ := attrValQuotedGo_run v q { t with rawE := t.rawE + 1, pvS := t.rawE + 1 } h.tail hv he
  obtain ⟨-, -, -, -, -, -, pvS⟩ := attrValQuotedGo_frame { t with rawE := t.rawE + 1, pvS := t.rawE + 1 } q
  exact ⟨⟨run.1.trans (by show t.rawE + 1 + _ = _; omega), run.2⟩, pvS, sp⟩

theorem attrValRest_run_unq {l : Bytes} (c : Nat) (v : Bytes) (d k : Nat) (t : Tokenizer)
    (h : Has t t.rawE (c :: (v ++ d :: l))) (hc : unqByte c = true) (hc1 : c ≠ 34) (hc2 : c ≠ 39)
    (hv : ∀ b ∈ v, unqByte b = true) (hd : (isWs d = true ∧ k = 1) ∨ (d = 62 ∧ k = 0)) (he : t.err = false) :
    Stops t (attrValRest t) (v.length + 1 + k) ∧
    (attrValRest t).pvS = t.rawE ∧ (attrValRest t).pvE = t.rawE + 1 + v.length := by
  obtain ⟨hcw, hc62⟩ := unqByte_spec hc
  rw [attrValRest_at h hcw hc62 he, if_neg (by simp [hc1, hc2])]
  obtain ⟨run, sp⟩ := attrValUnquotedGo_run v d k { t with rawE := t.rawE + 1, pvS := t.rawE } h.tail hv hd he
  obtain ⟨-, -, -, -, -, -, pvS⟩ := attrValUnquotedGo_frame { t with rawE := t.rawE + 1, pvS := t.rawE }
  exact ⟨⟨run.1.trans (by show t.rawE + 1 + _ = _; omega), run.2⟩, pvS, sp⟩

theorem attrValGo_none {l : Bytes} (W : Bytes) (d : Nat) (t : Tokenizer) (h : Has t t.rawE (W ++ d :: l))
    (hW : ∀ b ∈ W, isWs b = true) (hd : isWs d = false) (hd61 : d ≠ 61) (he : t.err = false) :
    attrValGo t = { t with rawE := t.rawE + W.length } := by
  have h' : Has { t with rawE := t.rawE + W.length } (t.rawE + W.length) (d :: l) := h.right
  obtain ⟨e1, _, e3, _, _⟩ := h'.read he
  unfold attrValGo
  simp only
  rw [skipWhiteSpace_eq W d t h hW hd he, if_neg (by show ¬ t.err = true; rw [he]; exact Bool.false_ne_true),
    if_neg (by rw [e3]; exact Bool.false_ne_true), if_pos (by rw [e1]; simpa using hd61), read_unread h']

theorem attrValRest_skip {l : Bytes} (w2 : Bytes) (c : Nat) (t : Tokenizer) (h : Has t t.rawE (w2 ++ c :: l))
    (hw2 : ∀ b ∈ w2, isWs b = true) (hc : isWs c = false) (he : t.err = false) :
    attrValRest t = attrValRest { t with rawE := t.rawE + w2.length } := by
  have h' : Has { t with rawE := t.rawE + w2.length } (t.rawE + w2.length) (c :: l) := h.right
  unfold attrValRest
  simp only
  rw [skipWhiteSpace_eq w2 c t h hw2 hc he, skipWhiteSpace_fix h' hc he]

theorem attrValGo_eq_rest {l : Bytes} (w1 w2 : Bytes) (c : Nat) (t : Tokenizer) (he : t.err = false)
    (h : Has t t.rawE (w1 ++ 61 :: (w2 ++ c :: l))) (hw1 : ∀ b ∈ w1, isWs b = true) (hw2 : ∀ b ∈ w2, isWs b = true)
    (hc : isWs c = false) :
    attrValGo t = attrValRest { t with rawE := t.rawE + (w1.length + 1 + w2.length) } := by
  have h1 : Has { t with rawE := t.rawE + w1.length } (t.rawE + w1.length) (61 :: (w2 ++ c :: l)) := h.right
  obtain ⟨e1, _, e3, _, _⟩ := h1.read he
  unfold attrValGo
  simp only
  rw [skipWhiteSpace_eq w1 61 t h hw1 (by decide) he, if_neg (by show ¬ t.err = true; rw [he]; exact Bool.false_ne_true),
    if_neg (by rw [e3]; exact Bool.false_ne_true), if_neg (by rw [e1]; decide), readByte_has h1]
  show attrValRest { t with rawE := t.rawE + w1.length + 1 } = _
  rw [attrValRest_skip w2 c { t with rawE := t.rawE + w1.length + 1 } h1.tail hw2 hc he]
  show attrValRest { t with rawE := t.rawE + w1.length + 1 + w2.length } = _
  rw [show t.rawE + w1.length + 1 + w2.length = t.rawE + (w1.length + 1 + w2.length) by omega]

/-- what follows an attribute: white space `W`, then a non-white-space byte `d` that is not `=` -/
structure Follow (W : Bytes) (d : Nat) : Prop where
  ws : ∀ b ∈ W, isWs b = true
  nws : isWs d = false
  n61 : d ≠ 61

theorem readTagAttrKey_run {l : Bytes} (key : Bytes) (d k : Nat) (t : Tokenizer) (h : Has t t.rawE (key ++ d :: l))
    (hk : ∀ b ∈ key, keyByte b = true) (hd : KeyEnd d k) (he : t.err = false) :
    Stops t (readTagAttrKey t) (key.length + k) ∧ (readTagAttrKey t).pkS = t.rawE ∧
    (readTagAttrKey t).pkE = t.rawE + key.length ∧ (readTagAttrKey t).attrs = t.attrs := by
  obtain ⟨-, -, attrs, -, pkS, -, -⟩ := attrKeyGo_frame { t with pkS := t.rawE }
  obtain ⟨st, sp⟩ := attrKeyGo_run key d k { t with pkS := t.rawE } h hk hd he
  exact ⟨st, pkS, sp, attrs⟩

theorem readTagAttrVal_none {l : Bytes} (W : Bytes) (d : Nat) (t : Tokenizer) (h : Has t t.rawE (W ++ d :: l))
    (f : Follow W d) (he : t.err = false) :
    readTagAttrVal t = { t with pvS := t.rawE, pvE := t.rawE, rawE := t.rawE + W.length } := by
  unfold readTagAttrVal
  exact attrValGo_none W d { t with pvS := t.rawE, pvE := t.rawE } h f.ws f.nws f.n61 he

theorem readTagAttrVal_run_val (t : Tokenizer) (ok : Ok t) (he : t.err = false) (h : t.buf[t.rawE]? = some 61) (n : Nat)
    (hr : ∀ u : Tokenizer, u.buf = t.buf → u.rawE = t.rawE + 1 → u.err = false → Ok u → Stops u (attrValRest u) n) :
    Stops t (readTagAttrVal t) (n + 1) := by
  rw [readTagAttrVal, attrValGo_at_eq (t := { t with pvS := t.rawE, pvE := t.rawE }) he h]
  have := hr { t with pvS := t.rawE, pvE := t.rawE, rawE := t.rawE + 1 } rfl rfl he
    ⟨lt_size_of_getElem? h, ok.panic, ok.hang, ok.utf8⟩
  exact ⟨by rw [this.1]; show t.rawE + 1 + n = _; omega, this.2⟩

theorem readTagAttrVal_eq_rest {l : Bytes} (w1 w2 : Bytes) (c : Nat) (t : Tokenizer) (he : t.err = false)
    (h : Has t t.rawE (w1 ++ 61 :: (w2 ++ c :: l))) (hw1 : ∀ b ∈ w1, isWs b = true) (hw2 : ∀ b ∈ w2, isWs b = true)
    (hc : isWs c = false) :
    readTagAttrVal t =
      attrValRest { t with pvS := t.rawE, pvE := t.rawE, rawE := t.rawE + (w1.length + 1 + w2.length) } := by
  unfold readTagAttrVal
  exact attrValGo_eq_rest w1 w2 c { t with pvS := t.rawE, pvE := t.rawE } he h hw1 hw2 hc

theorem readTagAttrVal_run {l : Bytes} (val : SVal) (w1 w2 W : Bytes) (d : Nat) (t : Tokenizer) (he : t.err = false)
    (hval : val.ok = true) (hne : val ≠ .none) (f : Follow W d) (hopen : val.open = true → W = [] → d = 62)
    (hw1 : ∀ b ∈ w1, isWs b = true) (hw2 : ∀ b ∈ w2, isWs b = true)
    (h : Has t t.rawE (w1 ++ 61 :: (w2 ++ (val.body ++ (W ++ d :: l))))) :
    ∃ (k : Nat) (W' : Bytes), Stops t (readTagAttrVal t) (w1.length + 1 + w2.length + val.body.length + k) ∧
      (∀ b ∈ W', isWs b = true) ∧ k + W'.length = W.length ∧
      Has t (t.rawE + (w1.length + 1 + w2.length + val.body.length + k)) (W' ++ d :: l) ∧
      (readTagAttrVal t).pvS = t.rawE + (w1.length + 1 + w2.length) + val.qoff ∧
      (readTagAttrVal t).pvE = t.rawE + (w1.length + 1 + w2.length) + val.qoff + val.value.length := by
  let T : Tokenizer := { t with pvS := t.rawE, pvE := t.rawE, rawE := t.rawE + (w1.length + 1 + w2.length) }
  rcases SVal.style hne hval with ⟨q, v, hq, hb, ho, hvl, _, hv⟩ | ⟨c, v, hb, ho, hvl, hop, hall, hc1, hc2, _⟩
  · -- between quotes: the closing quote is consumed, nothing of `W`
    rw [hb] at h ⊢
    simp only [List.append_assoc, List.cons_append, List.nil_append] at h
    have hu := h.right.tail.right
    rw [ho, hvl, readTagAttrVal_eq_rest w1 w2 q t he h hw1 hw2 (by rcases hq with rfl | rfl <;> decide)]
    obtain ⟨st, sp1, sp2⟩ := attrValRest_run_quoted v q T hq (hu.at (by show t.rawE + _ = _; omega)) hv he
    refine ⟨0, W, ⟨st.1.trans ?_, st.2⟩, f.ws, Nat.zero_add _, (hu.tail.right.tail).at ?_, sp1, sp2⟩
    · show t.rawE + _ + _ = _; simp only [List.length_cons, List.length_append, List.length_nil]; omega
    · simp only [List.length_cons, List.length_append, List.length_nil]; omega
  · -- unquoted: stopped by `>` or by the first byte of `W`, which is consumed
    obtain ⟨c', k, r, W', e, hk, hW', hlen, hrest⟩ := stopByte (· = 62) l f.ws (hopen hop)
    rw [hb, e] at h
    rw [hb]
    simp only [List.cons_append] at h
    have hu := h.right.tail.right
    rw [ho, hvl, readTagAttrVal_eq_rest w1 w2 c t he h hw1 hw2 (unqByte_spec (hall c (by simp))).1]
    obtain ⟨st, sp1, sp2⟩ := attrValRest_run_unq c v c' k T (hu.at (by show t.rawE + _ = _; omega)) (hall c (by simp)) hc1 hc2
      (fun b hb => hall b (by simp [hb])) hk he
    refine ⟨k, W', ⟨st.1.trans ?_, st.2⟩, hW', hlen, (hrest hu.tail.right).at ?_, sp1, sp2.trans ?_⟩
    · show t.rawE + _ + _ = _; simp only [List.length_cons]; omega
    · simp only [List.length_cons]; omega
    · show t.rawE + _ + _ + _ = _; simp only [List.length_cons]; omega

theorem SVal.text_head {val : SVal} (h : val ≠ .none) : ∃ r, val.text = 61 :: r :=
  ⟨_, val.text_eq h⟩

theorem SAttr.ok_spec {a : SAttr} (h : a.ok = true) :
    a.ws ≠ [] ∧ (∀ b ∈ a.ws, isWs b = true) ∧ a.key ≠ [] ∧ (∀ b ∈ a.key, keyByte b = true) ∧ a.val.ok = true ∧
    (∀ b ∈ a.ws1, isWs b = true) ∧ (∀ b ∈ a.ws2, isWs b = true) ∧ (a.val = .none → a.ws1 = [] ∧ a.ws2 = []) := by
  simp only [SAttr.ok, SAttr.wsOK, Bool.and_eq_true, Bool.not_eq_true', List.all_eq_true, Bool.or_eq_true, bne_iff_ne,
    ne_eq, List.isEmpty_iff] at h
  obtain ⟨⟨⟨⟨⟨h1, h2⟩, h3⟩, h4⟩, h5⟩, ⟨h6, h7⟩, h8⟩ := h
  refine ⟨by intro e; rw [e] at h1; simp at h1, h2, by intro e; rw [e] at h3; simp at h3, h4, h5, h6, h7, ?_⟩
  intro hn
  rcases h8 with h8 | h8
  · exact absurd hn h8
  · exact h8

theorem readTagAttrKey_ws {l : Bytes} (key W : Bytes) (d : Nat) (t : Tokenizer) (h : Has t t.rawE (key ++ (W ++ d :: l)))
    (hk : ∀ b ∈ key, keyByte b = true) (hW : ∀ b ∈ W, isWs b = true) (hd : W = [] → d = 61 ∨ d = 62) (he : t.err = false) :
    ∃ (k : Nat) (W' : Bytes), Stops t (readTagAttrKey t) (key.length + k) ∧ (∀ b ∈ W', isWs b = true) ∧
      k + W'.length = W.length ∧ Has t (t.rawE + (key.length + k)) (W' ++ d :: l) ∧
      (readTagAttrKey t).pkS = t.rawE ∧ (readTagAttrKey t).pkE = t.rawE + key.length ∧ (readTagAttrKey t).attrs = t.attrs := by
  obtain ⟨c, k, r, W', e, hc, hW', hlen, hrest⟩ := stopByte (fun x => x = 61 ∨ x = 62) l hW hd
  rw [e] at h
  obtain ⟨st, ks⟩ := readTagAttrKey_run key c k t h hk (hc.elim (fun h => Or.inr ⟨Or.inl h.1, h.2⟩) Or.inl) he
  exact ⟨k, W', st, hW', hlen, (hrest h.right).at (by omega), ks⟩

/-- Key reader, then value reader, on `key ++ vtext ++ W ++ d :: l`: `m` bytes consumed, `W'` is what is left of `W` (nothing
behind a bare key: the value reader skips it).  Where the pending value span starts (`vs`) is said only with a value: behind a
bare key it is empty, wherever it lies. -/
theorem readAttr_parts {l : Bytes} (a : SAttr) (W : Bytes) (d : Nat) (t : Tokenizer)
    (he : t.err = false) (hok : a.ok = true) (f : Follow W d)
    (hopen : a.val.open = true → W = [] → d = 62)
    (h : Has t t.rawE (a.key ++ (a.vtext ++ (W ++ d :: l)))) :
    ∃ (m : Nat) (W' : Bytes) (vs : Nat),
      Stops t (readTagAttrVal (readTagAttrKey t)) m ∧ (∀ b ∈ W', isWs b = true) ∧ Has t (t.rawE + m) (W' ++ d :: l) ∧
      m + W'.length = a.key.length + a.vtext.length + W.length ∧
      (readTagAttrKey t).pkS = t.rawE ∧ (readTagAttrKey t).pkE = t.rawE + a.key.length ∧
      (readTagAttrKey t).attrs = t.attrs ∧
      (readTagAttrVal (readTagAttrKey t)).pvS = vs ∧
      (readTagAttrVal (readTagAttrKey t)).pvE = vs + a.val.value.length ∧
      (a.val ≠ .none → vs = t.rawE + a.key.length + (a.ws1.length + 1 + a.ws2.length) + a.val.qoff) := by
  obtain ⟨_, _, _, hk, hval, hw1, hw2, _⟩ := SAttr.ok_spec hok
  have kb := (Reach.refl t).readTagAttrKey.buf
  by_cases hn : a.val = .none
  · -- a bare key: the value reader skips what the key reader has left of `W`
    rw [SAttr.vtext_none hn] at h ⊢
    obtain ⟨k, W', st, hW', hlen, hh, ks⟩ := readTagAttrKey_ws a.key W d t h hk f.ws
      (fun hW => Or.inr (hopen (by rw [hn]; rfl) hW)) he
    rw [readTagAttrVal_none W' d (readTagAttrKey t) ((hh.congr kb).at st.1) ⟨hW', f.nws, f.n61⟩ st.2]
    exact ⟨a.key.length + k + W'.length, [], _, ⟨by show (readTagAttrKey t).rawE + _ = _; rw [st.1]; omega, st.2⟩,
      by simp, (hh.right).at (by omega), by simp; omega, ks.1, ks.2.1, ks.2.2, rfl, by rw [hn]; rfl, fun h' => absurd hn h'⟩
  · rw [SAttr.vtext_some hn] at h ⊢
    simp only [List.append_assoc, List.cons_append, List.nil_append] at h
    obtain ⟨k, w1', st, hw1', hlen, hh, ks⟩ := readTagAttrKey_ws a.key a.ws1 61 t h hk hw1 (fun _ => Or.inl rfl) he
    obtain ⟨k2, W', v, hW', hlen2, hh2, pv1, pv2⟩ := readTagAttrVal_run a.val w1' a.ws2 W d (readTagAttrKey t) st.2 hval hn f
      hopen hw1' hw2 ((hh.congr kb).at st.1)
    refine ⟨_, W', _, st.trans v, hW', (hh2.congr kb.symm).at ?_, ?_, ks.1, ks.2.1, ks.2.2, pv1, pv2, ?_⟩
    · rw [st.1]; omega
    · simp only [List.length_append, List.length_cons, List.length_nil]; omega
    · intro _; rw [st.1]; omega

inductive TagEnd where
  | gt
  | slashGt
  deriving DecidableEq, Repr

def TagEnd.text : TagEnd → Bytes
  | .gt => [62]
  | .slashGt => [47, 62]

/-- the text the attribute loop sees at its entry (the white space before the first key already skipped) -/
def loopText : List SAttr → Bytes → TagEnd → Bytes
  | [], _, e => e.text
  | a :: rest, trail, e =>
    a.key ++ a.vtext ++
      (match rest with
       | [] => trail ++ e.text
       | b :: _ => b.ws ++ loopText rest trail e)

/-- a bare key or an unquoted value directly before `/>` would swallow the `/` -/
def endOK : List SAttr → Bytes → TagEnd → Bool
  | _, _, .gt => true
  | as, trail, .slashGt =>
    match as.getLast? with
    | some a => !a.val.open || !trail.isEmpty
    | none => true

theorem endOK_tail {a b : SAttr} {rest : List SAttr} {trail : Bytes} {e : TagEnd} (h : endOK (a :: b :: rest) trail e = true) :
    endOK (b :: rest) trail e = true := by
  cases e with
  | gt => rfl
  | slashGt => simpa [endOK, List.getLast?_cons_cons] using h

theorem loopText_head_nws (as : List SAttr) (trail : Bytes) (e : TagEnd) (hok : ∀ a ∈ as, a.ok = true) :
    ∃ c r, loopText as trail e = c :: r ∧ isWs c = false ∧ c ≠ 61 := by
  cases as with
  | nil => cases e <;> exact ⟨_, _, rfl, by decide, by decide⟩
  | cons a rest =>
    obtain ⟨_, _, hne, hk, _⟩ := SAttr.ok_spec (hok a (by simp))
    cases hkey : a.key with
    | nil => exact absurd hkey hne
    | cons c r =>
      have hc := hk c (by rw [hkey]; simp)
      simp only [keyByte, Bool.and_eq_true, Bool.not_eq_true', bne_iff_ne, ne_eq] at hc
      refine ⟨c, r ++ (a.vtext ++ (match rest with | [] => trail ++ e.text | b :: _ => b.ws ++ loopText rest trail e)), ?_,
        hc.1.1.1, hc.1.2⟩
      cases rest <;> simp [loopText, hkey, List.append_assoc]

/-- One turn of the attribute loop, on the text: behind `a`'s key and value stands a separator `W` (the white space before the
next attribute, or `trail` before the end of the tag), then `loopText rest`.  `Follow W d` and the implication are what
`readAttr_parts` asks of what follows `a`; `endOK rest` is for the next turn. -/
theorem loopText_step (a : SAttr) (rest : List SAttr) (trail : Bytes) (e : TagEnd)
    (hok : ∀ x ∈ a :: rest, x.ok = true) (htr : ∀ b ∈ trail, isWs b = true) (hend : endOK (a :: rest) trail e = true) :
    ∃ (W : Bytes) (d : Nat) (L' : Bytes),
      loopText (a :: rest) trail e = a.key ++ a.vtext ++ W ++ loopText rest trail e ∧
      loopText rest trail e = d :: L' ∧ Follow W d ∧ (a.val.open = true → W = [] → d = 62) ∧
      endOK rest trail e = true := by
  cases rest with
  | nil =>
    -- the separator is the trailing white space, then the tag ends
    cases e with
    | gt =>
      exact ⟨trail, 62, [], by simp [loopText, List.append_assoc], rfl, ⟨htr, by decide, by decide⟩, fun _ _ => rfl, rfl⟩
    | slashGt =>
      refine ⟨trail, 47, [62], by simp [loopText, List.append_assoc], rfl, ⟨htr, by decide, by decide⟩, ?_, rfl⟩
      intro ho hw
      exfalso
      simp only [endOK, List.getLast?_singleton, Bool.or_eq_true, Bool.not_eq_true'] at hend
      rcases hend with h1 | h1
      · rw [ho] at h1; cases h1
      · rw [hw] at h1; simp at h1
  | cons b rest' =>
    -- the separator is the white space before the next attribute, which is not empty
    obtain ⟨hbne, hbws, _⟩ := SAttr.ok_spec (hok b (by simp))
    obtain ⟨d, L', hL, hdws, hd61⟩ := loopText_head_nws (b :: rest') trail e (fun x hx => hok x (by simp [hx]))
    exact ⟨b.ws, d, L', by simp [loopText, List.append_assoc], hL, ⟨hbws, hdws, hd61⟩, fun _ hw => absurd hw hbne,
      endOK_tail hend⟩

theorem attrsOf_loopText (a : SAttr) (rest : List SAttr) (trail : Bytes) (e : TagEnd) :
    attrsOf (a :: rest) ++ trail ++ e.text = a.ws ++ loopText (a :: rest) trail e := by
  induction rest generalizing a with
  | nil => simp [attrsOf, SAttr.text, loopText, List.append_assoc]
  | cons b rest ih =>
    have := ih b
    simp only [attrsOf, SAttr.text, loopText, List.append_assoc] at this ⊢
    rw [this]

/-- a byte of a tag name of the `Simple` grammar: a letter or a digit (48–57) -/
def isAlnum (b : Nat) : Bool := isAlpha b || (48 ≤ b && b ≤ 57)

theorem nameByte_of_alnum {b : Nat} (h : isAlnum b = true) : nameByte b = true := by
  simp only [isAlnum, isAlpha, Bool.or_eq_true, Bool.and_eq_true, decide_eq_true_eq] at h
  simp only [nameByte, isWs, Bool.and_eq_true, Bool.not_eq_true', Bool.or_eq_false_iff, beq_eq_false_iff_ne, bne_iff_ne, ne_eq]
  omega

theorem attrs_sep (as : List SAttr) (trail : Bytes) (e : TagEnd) (hok : ∀ a ∈ as, a.ok = true)
    (htr : ∀ b ∈ trail, isWs b = true) :
    ∃ sep, attrsOf as ++ trail ++ e.text = sep ++ loopText as trail e ∧ (∀ b ∈ sep, isWs b = true) ∧
      (sep = [] → as = []) := by
  cases as with
  | nil => exact ⟨trail, by simp [attrsOf, loopText], htr, fun _ => rfl⟩
  | cons a rest =>
    obtain ⟨hne, hws, _⟩ := SAttr.ok_spec (hok a (by simp))
    exact ⟨a.ws, attrsOf_loopText a rest trail e, hws, fun h => absurd h hne⟩

/-- The loop of `read_tag_name` on `nm`, the attributes, `trail` and the end of the tag: it stops behind the name, having consumed
the first byte of the white space that follows (`k = 1`) or put back the `/` or `>` it met (`k = 0`; only with neither
attributes nor `trail`: `hend`).  `W` is the rest of that white space, in front of `loopText`. -/
theorem tagNameGo_tag (nm : Bytes) (as : List SAttr) (trail : Bytes) (e : TagEnd) (t : Tokenizer) (he : t.err = false)
    (hnm : ∀ b ∈ nm, nameByte b = true) (hok : ∀ a ∈ as, a.ok = true) (htr : ∀ b ∈ trail, isWs b = true)
    (h : Has t t.rawE (nm ++ (attrsOf as ++ trail ++ e.text))) :
    ∃ (k : Nat) (W : Bytes) (c : Nat) (r : Bytes),
      Stops t (tagNameGo t) (nm.length + k) ∧ (tagNameGo t).dataE = t.rawE + nm.length ∧
      (∀ b ∈ W, isWs b = true) ∧ isWs c = false ∧ loopText as trail e = c :: r ∧
      (attrsOf as ++ trail ++ e.text).length = k + W.length + (loopText as trail e).length ∧
      Has t (t.rawE + nm.length + k) (W ++ loopText as trail e) := by
  obtain ⟨sep, hs, hsep, hnil⟩ := attrs_sep as trail e hok htr
  obtain ⟨c, rr, hc, hcws, _⟩ := loopText_head_nws as trail e hok
  -- with no attributes and no white space the tag ends right after the name
  have hend : sep = [] → c = 47 ∨ c = 62 := by
    intro h0
    rw [hnil h0] at hc
    cases e
    · exact Or.inr (List.cons.inj hc).1.symm
    · exact Or.inl (List.cons.inj hc).1.symm
  obtain ⟨c', k, r', W, e', hk, hW, hlen, hrest⟩ := stopByte (fun x => x = 47 ∨ x = 62) rr hsep hend
  rw [hs, hc, e'] at h
  have r := tagNameGo_run nm c' k t h hnm hk he
  exact ⟨k, W, c, rr, r.1, r.2, hW, hcws, hc, by rw [hs]; simp only [List.length_append]; omega,
    hc ▸ (hrest h.right).at (by omega)⟩

/-- `read_tag` up to the entry of its attribute loop (`t2`): `n` bytes — the name and the white space behind it — consumed, no
error, the attribute list emptied, the name span ends at `t.rawE + nm.length`, the unread text is `loopText as trail e`.
`read_tag` is called behind the first letter of the name: `nm` is the rest of it. -/
theorem readTag_to_loop (nm : Bytes) (as : List SAttr) (trail : Bytes) (e : TagEnd) (t : Tokenizer) (save : Bool)
    (ok : Ok t) (h1 : 1 ≤ t.rawE) (he : t.err = false) (hnm : ∀ b ∈ nm, nameByte b = true)
    (hok : ∀ a ∈ as, a.ok = true) (htr : ∀ b ∈ trail, isWs b = true)
    (h : Has t t.rawE (nm ++ (attrsOf as ++ trail ++ e.text))) :
    ∃ (t2 : Tokenizer) (n : Nat), readTag t save = tagAttrsGo t2 save ∧ Adv t t2 ∧ t2.err = false ∧
      t2.rawE = t.rawE + n ∧ nm.length + (attrsOf as ++ trail ++ e.text).length = n + (loopText as trail e).length ∧
      Has t2 t2.rawE (loopText as trail e) ∧ t2.attrs = #[] ∧ t2.nAttrRet = 0 ∧ t2.dataE = t.rawE + nm.length := by
  have ok0 : Ok { t with attrs := #[], nAttrRet := 0, dataS := t.rawE - 1 } := ok.congr
  have a1 : Adv t ({ t with attrs := #[], nAttrRet := 0, dataS := t.rawE - 1 } : Tokenizer).tagNameGo :=
    (Adv.refl ok).congr.trans (tagNameGo_ends _ ok0).adv
  obtain ⟨-, nmAttrs, nmRet⟩ := tagNameGo_frame { t with attrs := #[], nAttrRet := 0, dataS := t.rawE - 1 }
  rw [readTag, readTagName, if_neg (Nat.ne_of_gt h1)]
  dsimp only
  obtain ⟨k, W, c, rr, k1, k2, kW, kc, kl, klen, khas⟩ :=
    tagNameGo_tag nm as trail e { t with attrs := #[], nAttrRet := 0, dataS := t.rawE - 1 } he hnm hok htr (h.congr rfl)
  generalize ({ t with attrs := #[], nAttrRet := 0, dataS := t.rawE - 1 } : Tokenizer).tagNameGo = t1 at *
  have k1' : t1.rawE = t.rawE + (nm.length + k) := k1.1
  have k2' : t1.dataE = t.rawE + nm.length := k2
  have khas' : Has t (t.rawE + nm.length + k) (W ++ c :: rr) := kl ▸ khas
  have hsw : Has t1 t1.rawE (W ++ c :: rr) := (khas'.congr a1.buf).at (by rw [k1']; omega)
  have a2 := skipWhiteSpace_adv _ a1.ok
  have a12 := a1.trans a2
  have f2 := skipWhiteSpace_frame t1
  rw [skipWhiteSpace_eq W c t1 hsw kW kc k1.2] at a12 f2 ⊢
  rw [if_neg (by show ¬ t1.err = true; rw [k1.2]; exact Bool.false_ne_true)]
  obtain ⟨-, wsE, wsAttrs, wsRet, -⟩ := f2
  exact ⟨_, nm.length + k + W.length, rfl, a12, k1.2,
    by show t1.rawE + W.length = _; rw [k1']; omega, by rw [klen]; omega,
    kl ▸ hsw.right, wsAttrs.trans nmAttrs, wsRet.trans nmRet, wsE.trans k2'⟩

end Tokenizer
end Rio.Html
