/-
`prefixMatch` of Model/Cidr.lean read three ways, for any address width `w` (32 or 128 in Props/C01prim.lean): by
division (`prefixMatch_iff`), bit by bit (`prefixMatch_iff_bits`) and, for a base with zero host part, as a range
(`prefixMatch_iff_range`).
-/
import RioModel.Model.Cidr

namespace Rio.Cidr

/-- The arithmetic reading of the crate's mask computation: `a & host_mask` with
`host_mask = 2^(w-len) - 1`. -/
theorem hostPart_eq_land (w a len : Nat) : hostPart w a len = a &&& (2 ^ (w - len) - 1) := by
  rw [hostPart, Nat.and_two_pow_sub_one_eq_mod]

theorem prefixMatch_iff (w base a len : Nat) :
    prefixMatch w base a len = true ↔ a / 2 ^ (w - len) = base / 2 ^ (w - len) := by
  unfold prefixMatch netPart
  rw [beq_iff_eq]
  exact eq_comm

theorem prefixMatch_zero {w a : Nat} (h : a < 2 ^ w) : prefixMatch w 0 a 0 = true := by
  rw [prefixMatch_iff, Nat.sub_zero, Nat.div_eq_of_lt h, Nat.zero_div]

theorem netPart_eq_iff_bits (w a b len : Nat) :
    netPart w a len = netPart w b len ↔ ∀ i, w - len ≤ i → a.testBit i = b.testBit i := by
  unfold netPart
  constructor
  · intro h i hi
    have := congrArg (fun x => x.testBit (i - (w - len))) h
    simp only [Nat.testBit_div_two_pow] at this
    rwa [Nat.sub_add_cancel hi] at this
  · intro h
    apply Nat.eq_of_testBit_eq
    intro i
    rw [Nat.testBit_div_two_pow, Nat.testBit_div_two_pow]
    exact h _ (Nat.le_add_left _ _)

theorem prefixMatch_iff_bits (w base a len : Nat) :
    prefixMatch w base a len = true ↔ ∀ i, w - len ≤ i → base.testBit i = a.testBit i := by
  rw [prefixMatch, beq_iff_eq, netPart_eq_iff_bits]

theorem prefixMatch_mono {w base a len len' : Nat} (hl : len' ≤ len)
    (h : prefixMatch w base a len = true) : prefixMatch w base a len' = true :=
  (prefixMatch_iff_bits ..).2 fun i hi => (prefixMatch_iff_bits ..).1 h i (by omega)

/-- The base address of the `/len'` network around `base` (host bits cleared). -/
def netBase (w base len' : Nat) : Nat := base / 2 ^ (w - len') * 2 ^ (w - len')

theorem netPart_netBase (w base len : Nat) : netPart w (netBase w base len) len = netPart w base len := by
  unfold netPart netBase
  rw [Nat.mul_div_cancel _ (Nat.two_pow_pos _)]

theorem hostPart_netBase (w base len : Nat) : hostPart w (netBase w base len) len = 0 :=
  Nat.mul_mod_left _ _

/-- The base moves to the first address of the wider network: `AnyIpCidr` wants a zero host part. -/
theorem prefixMatch_netBase_mono {w base a len len' : Nat} (hl : len' ≤ len)
    (h : prefixMatch w base a len = true) : prefixMatch w (netBase w base len') a len' = true := by
  have := prefixMatch_mono hl h
  unfold prefixMatch at *
  rwa [netPart_netBase]

theorem prefixMatch_iff_range {w base a len : Nat} (h0 : hostPart w base len = 0) :
    prefixMatch w base a len = true ↔ base ≤ a ∧ a < base + 2 ^ (w - len) := by
  have hp := Nat.two_pow_pos (w - len)
  rw [prefixMatch_iff, Nat.div_eq_iff hp, Nat.div_mul_cancel (Nat.dvd_of_mod_eq_zero h0)]
  omega

end Rio.Cidr
