/-
Closed forms of `next` in a raw-text context: one run lemma for both scanners (`read_raw_or_cdata`'s loop, the script automaton
from its data state) on a content that may hold `<`, from which the closed forms of a content without `<`, of a content
accepted by `rawOK2`, and of an empty element body follow.  Also the bogus comment `<?…>`.
-/
import RioModel.Proofs.HtmlClosedPieces

namespace Rio.Html
namespace Tokenizer
open Rio.Consts

/-- raw-text contents covered by `rawtext_closed_form2` (`first` = first byte of the lower-cased element name): a `<` must be
followed, inside the content, by a byte other than `<` and `!`; after `</` the content ends or goes on with a byte that is
not the first letter of the element name (case-insensitively).  So tag-like text such as `<p>`, `<b x=1>`, `</p>` is fine;
not covered: `<<`, `<!`, a final `<`, `</t…` in `<title>` / `<textarea>`, `</s…` in `<script>` / `<style>`.
(The loop of `read_raw_or_cdata` consumes the byte after a `<` that is not `/` — `<</title>` does not end a title — and
`<!` would take the script automaton into its escape states.) -/
def rawOK2 (first : Nat) : Bytes → Bool
  | [] => true
  | b :: rest =>
    if b != 60 then rawOK2 first rest
    else match rest with
      | [] => false
      | b2 :: rest2 =>
        if b2 == 60 || b2 == 33 then false
        else if b2 != 47 then rawOK2 first rest2
        else match rest2 with
          | [] => true
          | b3 :: _ => lowerByte b3 != first && rawOK2 first rest2

theorem rawOK2_of_rawContentOK (first : Nat) : ∀ (c : Bytes), rawContentOK c = true → rawOK2 first c = true
  | [], _ => by rw [rawOK2.eq_def]
  | b :: rest, h => by
    simp only [rawContentOK, List.all_cons, Bool.and_eq_true] at h
    rw [rawOK2.eq_def]
    simp only
    rw [if_pos h.1]
    exact rawOK2_of_rawContentOK first rest (by simpa [rawContentOK] using h.2)

theorem rawEndTagLoop_run : ∀ (nm : Bytes) (t : Tokenizer), Has t t.rawE nm → t.err = false →
    (rawEndTagLoop t (nm.map lowerByte)).2 = true ∧ Stops t (rawEndTagLoop t (nm.map lowerByte)).1 nm.length
  | [], t, _, he => by simp [rawEndTagLoop, Stops, he]
  | b :: nm, t, h, he => by
    obtain ⟨e1, e2, e3, _, hh⟩ := h.read he
    have ih := rawEndTagLoop_run nm t.readByte.1 hh e3
    have hres : rawEndTagLoop t (List.map lowerByte (b :: nm)) = rawEndTagLoop t.readByte.1 (nm.map lowerByte) := by
      rw [List.map_cons, rawEndTagLoop]
      simp only
      rw [if_neg (by rw [e3]; exact Bool.false_ne_true), e1]
      by_cases hu : isUpper b = true
      · have hl : lowerByte b = b + 32 := by simp [lowerByte, hu]
        rw [hl, if_pos (by simp), if_neg (by omega), if_neg (by simp)]
      · have hl : lowerByte b = b := by simp [lowerByte, hu]
        rw [hl, if_neg (by simp)]
    rw [hres]
    exact ⟨ih.1, by rw [ih.2.1, e2]; simp; omega, ih.2.2⟩

/-- `t` stands behind `</` (`h2`); on success the function puts back the name, the delimiter and the `</`: hence
`t.rawE - 2` -/
theorem readRawEndTag_run (nm : Bytes) (d : Nat) (t : Tokenizer) (htag : t.rawTag = nm.map lowerByte)
    (h : Has t t.rawE (nm ++ [d])) (hd : isTagEnd d = true) (he : t.err = false) (h2 : 2 ≤ t.rawE) :
    (readRawEndTag t).2 = true ∧ (readRawEndTag t).1.rawE = t.rawE - 2 ∧ (readRawEndTag t).1.err = false := by
  obtain ⟨l2, l1, l1e⟩ := rawEndTagLoop_run nm t h.left he
  have hb : Has (rawEndTagLoop t (nm.map lowerByte)).1 (rawEndTagLoop t (nm.map lowerByte)).1.rawE [d] :=
    (h.right.congr (rawEndTagLoop_buf _ _)).at l1
  obtain ⟨e1, e2, e3, _, _⟩ := hb.read l1e
  unfold readRawEndTag
  simp only
  rw [htag, l2]
  simp only [Bool.not_true, Bool.false_eq_true, if_false]
  rw [if_neg (by rw [e3]; exact Bool.false_ne_true), e1, if_pos hd]
  refine ⟨rfl, ?_, by show (unread _ _).err = false; rw [unread_err, e3]⟩
  show (unread _ _).rawE = _
  rw [unread_rawE_eq _ (by rw [e2, l1]; simp; omega), e2, l1]; simp; omega

theorem readRawEndTag_mismatch {l : Bytes} (t : Tokenizer) (b3 first : Nat) (tl : List Nat) (htag : t.rawTag = first :: tl)
    (h : Has t t.rawE (b3 :: l)) (h1 : b3 ≠ first) (h2 : b3 ≠ first - 32) (h32 : 32 ≤ first) (he : t.err = false) :
    readRawEndTag t = (t, false) := by
  obtain ⟨e1, _, e3, _, _⟩ := h.read he
  have hl : rawEndTagLoop t (first :: tl) = (t, false) := by
    rw [rawEndTagLoop]
    simp only
    rw [if_neg (by rw [e3]; exact Bool.false_ne_true), e1, if_pos (by simpa using h1), if_neg (by omega),
      if_pos (by simpa using h2), read_unread h]
  unfold readRawEndTag
  simp only
  rw [htag, hl]
  simp only [Bool.not_false, if_true]

theorem lower_mismatch {b3 first : Nat} (hf : 97 ≤ first ∧ first ≤ 122) (h : (lowerByte b3 != first) = true) :
    b3 ≠ first ∧ b3 ≠ first - 32 := by
  have h' : lowerByte b3 ≠ first := by simpa using h
  unfold lowerByte isUpper at h'
  constructor
  · intro e; subst e
    rw [if_neg (by simp; omega)] at h'; exact h' rfl
  · intro e
    rw [if_pos (by simp; omega)] at h'; omega

section
variable (nm tl : Bytes) (d first : Nat)

/-- what `rawScan_run` carries along the content: the raw-text context is the lower-cased element name, and no EOF so far -/
structure RawHyp (t : Tokenizer) : Prop where
  tag : t.rawTag = nm.map lowerByte
  err : t.err = false

theorem RawHyp.read {t : Tokenizer} {b : Nat} {l : Bytes} (hy : RawHyp nm t) (h : Has t t.rawE (b :: l)) :
    RawHyp nm t.readByte.1 := by
  rw [readByte_has h]
  exact ⟨hy.tag, hy.err⟩

/-- after `</` comes the rest `rest2` of a content accepted by `rawOK2`, hence a byte that does not start the element
name: `read_raw_end_tag` puts it back -/
theorem readRawEndTag_mismatch_step {t : Tokenizer} {rest2 tail : Bytes} (hnm : nm.map lowerByte = first :: tl)
    (hf : 97 ≤ first ∧ first ≤ 122) (hy : RawHyp nm t)
    (hc : (match rest2 with
      | [] => true
      | b3 :: _ => lowerByte b3 != first && rawOK2 first rest2) = true)
    (h : Has t t.rawE (rest2 ++ ([60, 47] ++ tail))) :
    readRawEndTag t = (t, false) ∧ rawOK2 first rest2 = true := by
  cases rest2 with
  | nil =>
    exact ⟨readRawEndTag_mismatch t 60 first tl (hy.tag.trans hnm) h (by omega) (by omega) (by omega) hy.err,
      by rw [rawOK2.eq_def]⟩
  | cons b3 r3 =>
    simp only [Bool.and_eq_true] at hc
    have m := lower_mismatch hf hc.1
    exact ⟨readRawEndTag_mismatch t b3 first tl (hy.tag.trans hnm) h m.1 m.2 (by omega) hy.err, hc.2⟩

theorem rawScan_end {t : Tokenizer} (hy : RawHyp nm t) (h : Has t t.rawE ([60, 47] ++ (nm ++ [d]))) (hd : isTagEnd d = true) :
    Stops t (rawTextGo t) 0 ∧ Stops t (scriptGo .data t) 0 := by
  obtain ⟨e1, e2, e3, _, h1⟩ := h.read hy.err
  obtain ⟨f1, f2, f3, _, h2⟩ := h1.read e3
  have r := readRawEndTag_run nm d t.readByte.1.readByte.1 ((hy.read nm h).read nm h1).tag h2 hd f3 (by rw [f2, e2]; omega)
  have st : Stops t t.readByte.1.readByte.1.readRawEndTag.1 0 := ⟨by rw [r.2.1, f2, e2]; simp, r.2.2⟩
  constructor
  · rw [rawTextGo]
    simp only [e3, e1, f3, f1, Bool.false_eq_true, dite_false, bne_self_eq_false, if_false]
    rw [dif_pos (by rw [r.1]; rfl)]
    exact st
  · rw [scriptGo]
    simp only [e3, e1, Bool.false_eq_true, dite_false, beq_self_eq_true, if_true]
    rw [scriptGo]
    simp only [f3, f1, Bool.false_eq_true, dite_false, beq_self_eq_true, if_true]
    rw [scriptGo]
    rw [dif_pos (by rw [r.1]; rfl)]
    exact st

/-- Both scanners, started in front of `c ++ "</" ++ nm ++ [d]`, stop behind `c`.  By the recursion of `rawOK2` (one byte
per step, two at a `<`); in each case both scanners are unfolded as far as that step reads.  The first byte of the element
name has to be a lower-case letter only where the content holds a `<` (it is used after `</`): hence the disjunction. -/
theorem rawScan_run (hnm : nm.map lowerByte = first :: tl) (hd : isTagEnd d = true) :
    ∀ (c : Bytes) (t : Tokenizer), RawHyp nm t → rawOK2 first c = true →
    (rawContentOK c = true ∨ (97 ≤ first ∧ first ≤ 122)) → Has t t.rawE (c ++ ([60, 47] ++ (nm ++ [d]))) →
    Stops t (rawTextGo t) c.length ∧ Stops t (scriptGo .data t) c.length
  | [], t, hy, _, _, h => rawScan_end nm d hy h hd
  | b :: rest, t, hy, hc, hf, h => by
    obtain ⟨e1, e2, e3, _, hh⟩ := h.read hy.err
    have hy1 := hy.read nm h
    rw [rawOK2.eq_def] at hc
    simp only at hc
    by_cases h60 : (b != 60) = true
    · rw [if_pos h60] at hc
      have hf1 : rawContentOK rest = true ∨ (97 ≤ first ∧ first ≤ 122) :=
        hf.imp_left (fun h => by simp only [rawContentOK, List.all_cons, Bool.and_eq_true] at h; exact h.2)
      obtain ⟨i1, i2⟩ := rawScan_run hnm hd rest _ hy1 hc hf1 hh
      constructor
      · rw [rawTextGo]
        simp only [e3, e1, Bool.false_eq_true, dite_false]
        rw [if_pos h60]
        exact i1.step e2
      · rw [scriptGo]
        simp only [e3, e1, Bool.false_eq_true, dite_false]
        rw [if_neg (by simpa using h60)]
        exact i2.step e2
    · rw [if_neg h60] at hc
      -- a `<` in the content: the name starts with a letter
      have hf' : 97 ≤ first ∧ first ≤ 122 := by
        rcases hf with hf | hf
        · simp only [rawContentOK, List.all_cons, Bool.and_eq_true] at hf; exact absurd hf.1 h60
        · exact hf
      cases rest with
      | nil => cases hc
      | cons b2 rest2 =>
        simp only at hc
        obtain ⟨f1, f2, f3, _, hh2⟩ := hh.read e3
        have hy2 := hy1.read nm hh
        by_cases hx : (b2 == 60 || b2 == 33) = true
        · rw [if_pos hx] at hc; cases hc
        · rw [if_neg hx] at hc
          have hx' : (b2 == 60) = false ∧ (b2 == 33) = false := by
            simp only [Bool.or_eq_true, not_or, Bool.not_eq_true] at hx; exact hx
          by_cases h47 : (b2 != 47) = true
          · rw [if_pos h47] at hc
            obtain ⟨i1, i2⟩ := rawScan_run hnm hd rest2 _ hy2 hc (Or.inr hf') hh2
            constructor
            · rw [rawTextGo]
              simp only [e3, e1, f3, f1, Bool.false_eq_true, dite_false]
              rw [if_neg h60, if_pos h47]
              exact (i1.step f2).step e2
            · -- the script automaton puts the byte after `<` back and reads it again in its data state
              rw [scriptGo]
              simp only [e3, e1, Bool.false_eq_true, dite_false]
              rw [if_pos (by simpa using h60), scriptGo]
              simp only [f3, f1, Bool.false_eq_true, dite_false]
              rw [if_neg (by simpa using h47), if_neg (by rw [hx'.2]; exact Bool.false_ne_true), read_unread hh, scriptGo]
              simp only [f3, f1, Bool.false_eq_true, dite_false]
              rw [if_neg (by rw [hx'.1]; exact Bool.false_ne_true)]
              exact (i2.step f2).step e2
          · rw [if_neg h47] at hc
            -- `</`: the byte after it does not start the element name
            obtain ⟨hq, hc2⟩ := readRawEndTag_mismatch_step nm tl first hnm hf' hy2 hc hh2
            obtain ⟨i3, i4⟩ := rawScan_run hnm hd rest2 _ hy2 hc2 (Or.inr hf') hh2
            have hnot : ¬ (false || t.readByte.1.readByte.1.err) = true := by rw [f3]; decide
            constructor
            · rw [rawTextGo]
              simp only [e3, e1, f3, f1, Bool.false_eq_true, dite_false]
              rw [if_neg h60, if_neg h47, hq, dif_neg hnot]
              exact (i3.step f2).step e2
            · rw [scriptGo]
              simp only [e3, e1, Bool.false_eq_true, dite_false]
              rw [if_pos (by simpa using h60), scriptGo]
              simp only [f3, f1, Bool.false_eq_true, dite_false]
              rw [if_pos (by simpa using h47), scriptGo]
              rw [hq, dif_neg hnot]
              exact (i4.step f2).step e2

theorem readRawOrCdata_run (c : Bytes) (t : Tokenizer) (hnm : nm.map lowerByte = first :: tl)
    (hd : isTagEnd d = true) (hy : RawHyp nm t) (hc : rawOK2 first c = true)
    (hf : rawContentOK c = true ∨ (97 ≤ first ∧ first ≤ 122))
    (h : Has t t.rawE (c ++ ([60, 47] ++ (nm ++ [d])))) :
    Stops t (readRawOrCdata t) c.length ∧ (readRawOrCdata t).allowCdata = t.allowCdata := by
  obtain ⟨r1, r2⟩ := rawScan_run nm tl d first hnm hd c t hy hc hf h
  unfold readRawOrCdata
  split
  · exact ⟨r2, ((Reach.refl t).scriptGo .data).cdata⟩
  · exact ⟨r1, (Reach.refl t).rawTextGo.cdata⟩

end

theorem next_raw_unfold (t : Tokenizer) (he : t.err = false) (hne : t.rawTag ≠ []) (hpl : t.rawTag ≠ htmlPlaintext) :
    next t =
      (let t1 := readRawOrCdata { t with rawS := t.rawE, dataS := t.rawE, dataE := t.rawE }
       if t1.dataE > t1.dataS then { t1 with token := .text, convertNull := true }
       else mainLoop { t1 with textIsRaw := false, convertNull := false }) := by
  have hne' : (t.rawTag != []) = true := by simpa using hne
  have hpl' : (t.rawTag == htmlPlaintext) = false := by simpa using hpl
  unfold next nextGo
  simp only [he, hne', hpl', Bool.false_eq_true, if_false, if_true]

theorem rawName_first {n : Bytes} (h : isRawName n = true) : ∃ first tl, n = first :: tl ∧ 97 ≤ first ∧ first ≤ 122 := by
  have hmem : n ∈ htmlRawDispatch.flatMap (·.2) := by unfold isRawName at h; exact List.contains_iff_mem.mp h
  cases n with
  | nil => exact absurd hmem (by decide)
  | cons first tl => exact ⟨first, tl, rfl, rawNames_letters _ hmem first (by simp)⟩

theorem rawName_tagOk {n : Bytes} (h : isRawName n = true) : TagOk n := by
  have hmem : n ∈ htmlRawDispatch.flatMap (·.2) := by unfold isRawName at h; exact List.contains_iff_mem.mp h
  intro c hc
  have := rawNames_letters _ hmem c hc
  omega

/-- the common statement of `rawtext_closed_form` (a content without `<`: left disjunct of `hf`) and
`rawtext_closed_form2` (a name of the dispatch table: right disjunct) -/
theorem rawtext_piece (t : Tokenizer) (nm c tl : Bytes) (d first : Nat) (ok : Ok t) (he : t.err = false)
    (htag : t.rawTag = nm.map lowerByte) (hnm : nm.map lowerByte = first :: tl) (hpl : t.rawTag ≠ htmlPlaintext)
    (hto : TagOk t.rawTag) (hc : rawOK2 first c = true) (hf : rawContentOK c = true ∨ (97 ≤ first ∧ first ≤ 122))
    (hcne : c ≠ []) (hd : isTagEnd d = true) (h : Has t t.rawE (c ++ [60, 47] ++ nm ++ [d])) :
    Piece t (next t) .text c.length [] ∧ (next t).dataS = t.rawE ∧ (next t).dataE = t.rawE + c.length := by
  rw [next_raw_unfold t he (by rw [htag, hnm]; exact List.cons_ne_nil _ _) hpl]
  have h' : Has t t.rawE (c ++ ([60, 47] ++ (nm ++ [d]))) := by simpa [List.append_assoc] using h
  let T0 : Tokenizer := { t with rawS := t.rawE, dataS := t.rawE, dataE := t.rawE }
  have ok0 : Ok T0 := ok.congr
  obtain ⟨a0, s1, s2, s3⟩ := readRawOrCdata_spec T0 ok0 hto
  obtain ⟨⟨r1, r2⟩, r3⟩ := readRawOrCdata_run nm tl d first c T0 hnm hd ⟨htag, he⟩ hc hf (h'.congr rfl)
  have hlen : 0 < c.length := List.length_pos_iff.mpr hcne
  show Piece t (if (readRawOrCdata T0).dataE > (readRawOrCdata T0).dataS then _ else _) _ _ _ ∧ _
  rw [if_pos (by rw [s3, s2, r1]; show t.rawE + c.length > t.rawE; omega)]
  exact ⟨⟨rfl, a0.rawS, r1, r2, s1, r3, a0.buf⟩, s2, by show (readRawOrCdata T0).dataE = _; rw [s3, r1]⟩

/-- in the raw-text context `t.rawTag` (set by the start tag of `<title>`, `<textarea>`, `<style>`, `<script>`, … — not
`<plaintext>`), a non-empty content without `<` followed by the matching end tag `</name` + delimiter is ONE text token, and
the context is left -/
theorem rawtext_closed_form (t : Tokenizer) (nm c : Bytes) (d : Nat) (ok : Ok t) (he : t.err = false)
    (htag : t.rawTag = nm.map lowerByte) (hne : t.rawTag ≠ []) (hpl : t.rawTag ≠ htmlPlaintext) (hto : TagOk t.rawTag)
    (hc : rawContentOK c = true) (hcne : c ≠ []) (hd : isTagEnd d = true)
    (h : Has t t.rawE (c ++ [60, 47] ++ nm ++ [d])) :
    Piece t (next t) .text c.length [] ∧ (next t).dataS = t.rawE ∧ (next t).dataE = t.rawE + c.length := by
  obtain ⟨first, tl, hnm⟩ := List.exists_cons_of_ne_nil (htag ▸ hne)
  exact rawtext_piece t nm c tl d first ok he htag hnm hpl hto (rawOK2_of_rawContentOK first c hc) (Or.inl hc) hcne hd h

/-- `rawtext_closed_form` for a content that may hold `<`, as far as `rawOK2` accepts it for the first letter of the
element name -/
theorem rawtext_closed_form2 (t : Tokenizer) (nm c : Bytes) (d : Nat) (ok : Ok t) (he : t.err = false)
    (htag : t.rawTag = nm.map lowerByte) (hraw : isRawName t.rawTag = true) (hpl : t.rawTag ≠ htmlPlaintext)
    (hc : rawOK2 (t.rawTag.headD 0) c = true) (hcne : c ≠ []) (hd : isTagEnd d = true)
    (h : Has t t.rawE (c ++ [60, 47] ++ nm ++ [d])) :
    Piece t (next t) .text c.length [] ∧ (next t).dataS = t.rawE ∧ (next t).dataE = t.rawE + c.length := by
  obtain ⟨first, tl, hft, hf⟩ := rawName_first hraw
  rw [hft] at hc
  exact rawtext_piece t nm c tl d first ok he htag (htag.symm.trans hft) hpl (rawName_tagOk hraw) hc (Or.inr hf) hcne hd h

/-- in the raw-text context, the matching end tag `</name>` right away is returned as the end tag (no empty text token) -/
theorem rawtext_empty_closed_form (t : Tokenizer) (nm : Bytes) (ok : Ok t) (he : t.err = false)
    (htag : t.rawTag = nm.map lowerByte) (hraw : isRawName t.rawTag = true) (hpl : t.rawTag ≠ htmlPlaintext)
    (hn : nameOK2 nm = true) (h : Has t t.rawE ([60, 47] ++ nm ++ [62])) :
    Piece t (next t) .endTag ([60, 47] ++ nm ++ [62]).length [] ∧
    (next t).dataS = t.rawE + 2 ∧ (next t).dataE = t.rawE + 2 + nm.length := by
  obtain ⟨first, tl, hft, _⟩ := rawName_first hraw
  rw [next_raw_unfold t he (by rw [hft]; exact List.cons_ne_nil _ _) hpl]
  have h' : Has t t.rawE ([] ++ ([60, 47] ++ (nm ++ [62]))) := by simpa [List.append_assoc] using h
  let T0 : Tokenizer := { t with rawS := t.rawE, dataS := t.rawE, dataE := t.rawE }
  have ok0 : Ok T0 := ok.congr
  obtain ⟨a0, s1, s2, s3⟩ := readRawOrCdata_spec T0 ok0 (rawName_tagOk hraw)
  obtain ⟨⟨r1, r2⟩, r3⟩ := readRawOrCdata_run nm tl 62 first [] T0 (htag.symm.trans hft) (by decide) ⟨htag, he⟩ rfl
    (Or.inl rfl) (h'.congr rfl)
  show Piece t (if (readRawOrCdata T0).dataE > (readRawOrCdata T0).dataS then _ else _) _ _ _ ∧ _
  rw [if_neg (by rw [s3, s2, r1]; show ¬ t.rawE + 0 > t.rawE; omega)]
  generalize readRawOrCdata T0 = t1 at *
  have hre : t1.rawE = t.rawE := by rw [r1]; rfl
  have := mainLoop_end_tag2 { t1 with textIsRaw := false, convertNull := false } nm
    a0.ok.congr r2 (by show t1.rawS = t1.rawE; rw [a0.rawS, hre])
    hn ((h.congr (show t1.buf = t.buf from a0.buf)).at (show t1.rawE = t.rawE from hre))
  obtain ⟨p, d1, d2⟩ := this
  refine ⟨⟨p.token, p.rawS.trans a0.rawS, by rw [p.rawE]; show t1.rawE + _ = _; rw [hre], p.err, p.rawTag.trans s1,
    p.cdata.trans r3, p.buf.trans a0.buf⟩, ?_, ?_⟩
  · rw [d1]; show t1.rawE + 2 = _; rw [hre]
  · rw [d2]; show t1.rawE + 2 + _ = _; rw [hre]

/-- `<?…>`: `dispatchTag` on `?` un-reads one byte and runs `read_until_close_angle`, so the data span starts at the `?` -/
theorem mainLoop_bogus (T : Tokenizer) (tx : Bytes) (ok : Ok T) (he : T.err = false) (hrs : T.rawS = T.rawE)
    (htx : ∀ b ∈ tx, b ≠ 62) (h : Has T T.rawE ([60, 63] ++ tx ++ [62])) :
    PieceM T (mainLoop T) .comment ([60, 63] ++ tx ++ [62]).length ∧
    (mainLoop T).dataS = T.rawE + 1 ∧ (mainLoop T).dataE = T.rawE + 2 + tx.length := by
  have hx : [60, 63] ++ tx ++ [62] = 60 :: 63 :: (tx ++ [62]) := by simp
  rw [hx] at h ⊢
  obtain ⟨S, hml, o⟩ := mainLoop_dispatch T 63 _ ok he h (by decide)
  -- the frame of `raw.end -= 1`, from `unread_adv` started one byte earlier
  have hb : Adv { S with rawE := S.rawE - 1 } S := ⟨rfl, rfl, by simp, o.ok, rfl, rfl⟩
  have a4 := unread_adv 1 hb (by simp only; have := o.rawE; omega)
  have hur : (S.unread 1).rawE = T.rawE + 1 := by rw [unread_rawE_eq 1 (by have := o.rawE; omega), o.rawE]; omega
  have hU : Has (S.unread 1) (S.unread 1).rawE ((63 :: tx) ++ [62]) :=
    (h.tail.congr ((unread_buf _ _).trans o.buf)).at hur
  obtain ⟨⟨r1, r2⟩, r3, r4⟩ := readUntilCloseAngle_run (63 :: tx) (S.unread 1)
    (fun b hb => by
      rcases List.mem_cons.1 hb with rfl | hb
      · decide
      · exact htx b hb) hU (by rw [unread_err, o.err])
  have a5 := readUntilCloseAngle_adv _ a4.ok
  rw [hml]
  unfold dispatchTag
  rw [if_neg (o.noflush hrs).1, if_neg (o.noflush hrs).2, if_neg (by decide : ¬ isAlpha 63 = true), if_neg (by decide : ¬ (63 == 47) = true),
    if_neg (by decide : ¬ (63 == 33) = true)]
  have st : Stops S (S.unread 1).readUntilCloseAngle (tx.length + 1) :=
    ⟨by rw [r1, hur, o.rawE]; simp; omega, r2⟩
  have a45 := a4.trans a5
  refine ⟨PieceM.of_frame o a45.rawS a45.rawTag a45.cdata a45.buf st (by simp), ?_, ?_⟩
  · exact r3.trans hur
  · exact r4.trans (by rw [hur]; simp; omega)

theorem bogus_closed_form (t : Tokenizer) (tx : Bytes) (ok : Ok t) (he : t.err = false) (htag : t.rawTag = [])
    (htx : ∀ b ∈ tx, b ≠ 62) (h : Has t t.rawE ([60, 63] ++ tx ++ [62])) :
    Piece t (next t) .comment ([60, 63] ++ tx ++ [62]).length [] ∧
    (next t).dataS = t.rawE + 1 ∧ (next t).dataE = t.rawE + 2 + tx.length := by
  rw [next_mainLoop t he htag]
  obtain ⟨p, d⟩ := mainLoop_bogus (mainStart t) tx ok.mainStart he rfl htx (h.congr rfl)
  exact ⟨p.toPiece htag, d⟩

end Tokenizer
end Rio.Html
