/-
Helper lemmas for `translated chain driver = hand-written model` (Props/C04gen3.lean, Props/C14gen.lean).

The translated definitions (`Rio.Consts.genChain*`, generated from src/filter/filter_body.rs by tools/consts.d/tr_w18_chain.py) take
the stage calls as parameters; here they are instantiated with the model's stages (`Stage.filter`, `Stage.end`, the html held
bytes `endHtml`, `Stage.new`, the codec constructors) and each loop / function is shown equal to its model counterpart.
Those instantiations — `genItemFilter`, `genItemEnd`, `genHeldHtml`, `genEncFilters` — are defined HERE, by hand.
-/
import RioModel.Model.Filter

namespace Rio.Filter
open Rio.Consts

section
variable (tk : Tokenize) (ev : Bytes → Bytes → Bool) {D E : Type} (codec : Codec D E)

/-- `item.filter(data, unit_trace)` of the model's stages as the translated code sees it: the stage afterwards and `Ok` / `Err`
(a failing stage keeps its state, as in `Stage.filter`) -/
def genItemFilter (st : Stage D E) (data : Bytes) : Stage D E × Except Unit Bytes :=
  match st.filter tk ev codec data with
  | none => (st, .error ())
  | some (st', o) => (st', .ok o)

/-- `item.end()` of the model's stages -/
def genItemEnd (st : Stage D E) : Stage D E × Except Unit Bytes :=
  match st.end codec with
  | none => (st, .error ())
  | some (st', o) => (st', .ok o)

/-- `if let FilterBodyActionItem::Html(h) = item { .. h.end() .. }` on the model's stages (`endHtml` only reads) -/
def genHeldHtml : Stage D E → Option (Stage D E × Bytes)
  | .html s => some (.html s, endHtml s)
  | _ => none

/-- what one stage gives back on the failure path -/
def heldOf : Stage D E → Bytes
  | .html s => endHtml s
  | _ => []

/-- `Option` result of the model ↦ `Result` of the translated code -/
def optRes : Option Bytes → Except Unit Bytes
  | none => .error ()
  | some o => .ok o

theorem flushHtml_eq (items : List (Stage D E)) : flushHtml items = items.reverse.flatMap heldOf := by
  unfold flushHtml
  congr 1

theorem doFilterLoop_eq : ∀ (items : List (Stage D E)) (data : Bytes),
    genChainDoFilterLoop1 (genItemFilter tk ev codec) items data =
      ((doFilter tk ev codec items data).1,
        match (doFilter tk ev codec items data).2 with
        | none => .error (.error ())
        | some o => .ok o)
  | [], data => by simp [genChainDoFilterLoop1, doFilter]
  | st :: rest, data => by
    rw [genChainDoFilterLoop1, doFilter]
    simp only [genItemFilter]
    cases hf : st.filter tk ev codec data with
    | none => simp
    | some p =>
      obtain ⟨st', out⟩ := p
      simp only
      by_cases he : out.isEmpty = true
      · simp [he]
      · simp only [he, Bool.false_eq_true, if_false]
        rw [doFilterLoop_eq rest out]

theorem doFilter_gen_eq (items : List (Stage D E)) (data : Bytes) :
    genChainDoFilter (genItemFilter tk ev codec) items data =
      ((doFilter tk ev codec items data).1, optRes (doFilter tk ev codec items data).2) := by
  unfold genChainDoFilter
  rw [doFilterLoop_eq]
  cases h : (doFilter tk ev codec items data).2 <;> simp [optRes]

theorem filterGiveBack_eq : ∀ (xs : List (Stage D E)) (p : Bytes),
    genChainFilterLoop1 genHeldHtml xs p = (xs, p ++ xs.flatMap heldOf)
  | [], p => by simp [genChainFilterLoop1]
  | st :: rest, p => by
    rw [genChainFilterLoop1]
    cases st <;> simp [genHeldHtml, heldOf, filterGiveBack_eq rest]

theorem doEndGiveBack_eq : ∀ (xs : List (Stage D E)) (p : Bytes),
    genChainDoEndLoop2 genHeldHtml xs p = (xs, p ++ xs.flatMap heldOf)
  | [], p => by simp [genChainDoEndLoop2]
  | st :: rest, p => by
    rw [genChainDoEndLoop2]
    cases st <;> simp [genHeldHtml, heldOf, doEndGiveBack_eq rest]

theorem filter_gen_eq (c : Chain D E) (data : Bytes) :
    genChainFilter (genItemFilter tk ev codec) genHeldHtml c.items c.inError data =
      (((c.filter tk ev codec data).1.items, (c.filter tk ev codec data).1.inError), (c.filter tk ev codec data).2) := by
  unfold genChainFilter Chain.filter
  cases hi : c.inError with
  | true => simp [hi]
  | false =>
    simp only [Bool.false_eq_true, if_false]
    rw [doFilter_gen_eq]
    cases hd : doFilter tk ev codec c.items data with
    | mk items' r =>
      cases r with
      | some out => simp [optRes]
      | none => simp [optRes, filterGiveBack_eq, flushHtml_eq]

theorem getElem?_mid {α : Type} (pre : List α) (a : α) (rest : List α) : (pre ++ a :: rest)[pre.length]? = some a := by
  simp

theorem set_mid {α : Type} (pre : List α) (a x : α) (rest : List α) : (pre ++ a :: rest).set pre.length x = pre ++ x :: rest := by
  induction pre with
  | nil => rfl
  | cons b pre ih => simp [ih]

theorem drop_mid {α : Type} (pre l : List α) : (pre ++ l).drop pre.length = l := List.drop_left
theorem take_mid {α : Type} (pre l : List α) : (pre ++ l).take pre.length = pre := List.take_left

/-- the result of the model's `doEnd` on the stages from `index` on, as the translated loop returns it (`pre` = the stages before) -/
def doEndRes (pre : List (Stage D E)) (r : List (Stage D E) × Except Bytes (Option Bytes)) :
    Except (List (Stage D E) × Except (Unit × Bytes) Bytes) (Option Bytes × List (Stage D E)) :=
  match r with
  | (suf', .ok d) => .ok (d, pre ++ suf')
  | (suf', .error p) => .error (pre ++ suf', .error ((), p))

/-- one turn of the translated index loop of `do_end` is one `Stage.endWith`; no panic: `index` is in range -/
theorem doEndLoop_cons (i : Nat) (is : List Nat) (data : Option Bytes) (chain : List (Stage D E)) (st : Stage D E)
    (h : chain[i]? = some st) :
    genChainDoEndLoop1 (genItemFilter tk ev codec) (genItemEnd codec) genHeldHtml (i :: is) data chain =
      match st.endWith tk ev codec data with
      | (st', some nd) =>
        genChainDoEndLoop1 (genItemFilter tk ev codec) (genItemEnd codec) genHeldHtml is
          (if nd.isEmpty then none else some nd) (chain.set i st')
      | (st', none) =>
        some (.error (chain.set i st',
          .error ((), ((chain.set i st').drop i).reverse.flatMap heldOf ++ data.getD []))) := by
  have hi : i ≤ chain.length := Nat.le_of_lt (List.getElem?_eq_some_iff.1 h).1
  rw [genChainDoEndLoop1]
  cases data with
  | none =>
    cases he : st.end codec with
    | none => simp [h, Stage.endWith, genItemEnd, he, hi, doEndGiveBack_eq]
    | some p => simp [h, Stage.endWith, genItemEnd, he]
  | some str =>
    cases hf : st.filter tk ev codec str with
    | none => simp [h, Stage.endWith, genItemFilter, hf, hi, doEndGiveBack_eq]
    | some p =>
      cases he : p.1.end codec with
      | none => simp [h, Stage.endWith, genItemFilter, genItemEnd, hf, he, hi, doEndGiveBack_eq]
      | some q => simp [h, Stage.endWith, genItemFilter, genItemEnd, hf, he]

theorem doEndLoop_eq : ∀ (suf pre : List (Stage D E)) (data : Option Bytes),
    genChainDoEndLoop1 (genItemFilter tk ev codec) (genItemEnd codec) genHeldHtml
        (List.range' pre.length suf.length) data (pre ++ suf) =
      some (doEndRes pre (doEnd tk ev codec suf data))
  | [], pre, data => by simp [genChainDoEndLoop1, doEnd, doEndRes]
  | st :: rest, pre, data => by
    rw [List.length_cons, List.range'_succ, doEndLoop_cons tk ev codec _ _ _ _ st (getElem?_mid pre st rest), doEnd]
    rcases st.endWith tk ev codec data with ⟨st', _ | nd⟩
    · simp [flushHtml_eq, doEndRes]
    · have ih := doEndLoop_eq rest (pre ++ [st']) (if nd.isEmpty then none else some nd)
      simp only [List.length_append, List.length_cons, List.length_nil, List.append_assoc, List.cons_append,
        List.nil_append, Nat.zero_add] at ih
      simp only [set_mid, ih]
      cases doEnd tk ev codec rest (if nd.isEmpty = true then none else some nd) with
      | mk rest' r => cases r <;> simp [doEndRes]

theorem doEnd_gen_eq (items : List (Stage D E)) :
    genChainDoEnd (genItemFilter tk ev codec) (genItemEnd codec) genHeldHtml items =
      some ((doEnd tk ev codec items none).1,
        match (doEnd tk ev codec items none).2 with
        | .ok d => .ok (d.getD [])
        | .error p => .error ((), p)) := by
  unfold genChainDoEnd
  have h := doEndLoop_eq tk ev codec items [] none
  simp only [List.length_nil, List.nil_append] at h
  simp only [List.range_eq_range', h]
  cases hr : doEnd tk ev codec items none with
  | mk items' r => cases r <;> simp [doEndRes]

theorem end_gen_eq (c : Chain D E) :
    genChainEnd (genItemFilter tk ev codec) (genItemEnd codec) genHeldHtml c.items c.inError =
      some (((c.end tk ev codec).1.items, (c.end tk ev codec).1.inError), (c.end tk ev codec).2) := by
  unfold genChainEnd Chain.end
  cases hi : c.inError with
  | true => simp [hi]
  | false =>
    simp only [Bool.false_eq_true, if_false]
    rw [doEnd_gen_eq]
    cases hd : doEnd tk ev codec c.items none with
    | mk items' r => cases r <;> simp

end

/-- `get_encoding_filters` as the model has it: the supported list (regenerated from the source) and the codec's constructor -/
def genEncFilters {D E : Type} (codec : Codec D E) (enc : String) : Option (D × E) :=
  if filterSupportedEncodings.contains enc then some (codec.create enc) else none

theorem newLoop1_eq (lower : String → String) : ∀ (headers : List (String × String)) (ct ce : Option String),
    genChainNewLoop1 lower headers ct ce =
      (headers.foldl (fun acc h => if lower h.1 = filterHeaderContentType then some (lower h.2) else acc) ct,
       headers.foldl (fun acc h => if lower h.1 = filterHeaderContentEncoding then some (lower h.2) else acc) ce)
  | [], ct, ce => by simp [genChainNewLoop1]
  | h :: hs, ct, ce => by
    rw [genChainNewLoop1]
    rw [newLoop1_eq lower hs]
    -- the translated loop compares with the source's string literals, the model with the regenerated constants: tied here
    by_cases h1 : lower h.1 = "content-type" <;> by_cases h2 : lower h.1 = "content-encoding" <;>
      simp [h1, h2, List.foldl_cons, filterHeaderContentType, filterHeaderContentEncoding]

theorem newLoop2_eq {σ φ : Type} (itemNew : φ → Option String → Option σ) (ct : Option String) :
    ∀ (fs : List φ) (acc : List σ), genChainNewLoop2 itemNew fs acc ct = acc ++ fs.filterMap fun f => itemNew f ct
  | [], acc => by simp [genChainNewLoop2]
  | f :: fs, acc => by
    rw [genChainNewLoop2]
    cases h : itemNew f ct <;> simp [h, newLoop2_eq itemNew ct fs]

theorem genChainNew_eq {σ φ δ κ : Type} (lower : String → String) (itemNew : φ → Option String → Option σ)
    (getEncodingFilters : String → Option (δ × κ)) (mkDecode : δ → σ) (mkEncode : κ → σ) (fs : List φ)
    (headers : List (String × String)) :
    genChainNew lower itemNew getEncodingFilters mkDecode mkEncode fs headers =
      if (fs.filterMap fun f => itemNew f (headerValue lower filterHeaderContentType headers)).isEmpty then
        (fs.filterMap fun f => itemNew f (headerValue lower filterHeaderContentType headers), false)
      else
        match headerValue lower filterHeaderContentEncoding headers with
        | none => (fs.filterMap fun f => itemNew f (headerValue lower filterHeaderContentType headers), false)
        | some enc =>
          match getEncodingFilters enc with
          | none => ([], false)
          | some (d, e) =>
            (mkDecode d :: (fs.filterMap fun f => itemNew f (headerValue lower filterHeaderContentType headers)) ++
              [mkEncode e], false) := by
  have h1 : genChainNewLoop1 lower headers none none =
      (headerValue lower filterHeaderContentType headers, headerValue lower filterHeaderContentEncoding headers) :=
    newLoop1_eq lower headers none none
  unfold genChainNew
  simp only [h1, newLoop2_eq, List.nil_append]
  split
  · rfl
  · cases headerValue lower filterHeaderContentEncoding headers with
    | none => rfl
    | some enc => dsimp only; cases getEncodingFilters enc <;> rfl

theorem new_gen_eq {D E : Type} (codec : Codec D E) (lower : String → String) (fs : List BodyFilter)
    (headers : List (String × String)) :
    genChainNew lower (fun f c => (Stage.new f c : Option (Stage D E))) (genEncFilters codec) Stage.decode Stage.encode fs headers =
      ((Chain.new codec lower fs headers).items, (Chain.new codec lower fs headers).inError) := by
  rw [genChainNew_eq]
  unfold Chain.new genEncFilters
  dsimp only
  split
  · rfl
  · cases headerValue lower filterHeaderContentEncoding headers with
    | none => rfl
    | some enc =>
      dsimp only
      by_cases hs : filterSupportedEncodings.contains enc = true
      · rw [if_pos hs, if_pos hs]
      · rw [if_neg hs, if_neg hs]

end Rio.Filter
