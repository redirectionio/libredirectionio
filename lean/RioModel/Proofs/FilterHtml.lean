/-
The html stage is conservative (`filterHtml_spec`): one call of `HtmlFilterBodyAction::filter` relates `held ++ input` to
`output ++ held'` by `Edit` (insertions of the visitor's value / substitutions of `<`…`>` spans by it).
Used by C04: by `replace_spans` directly, by `conservative` and `insert_only_conservative` through `Chain.run_comp`
(Proofs/FilterChain.lean).

The equations of the stage's parts (`Visitor.enter` / `leave`, `append_child` / `prepend_child`, the two tag handlers,
one iteration of the token loop, one call) are stated here once; the other `Filter*` files reason from them.

One call is described through `view` (Proofs/FilterStreamLaws.lean, with the laws of the filter loop's tokenizer): read that first.
Tokenizer laws used (hypotheses, discharged for the tokenizer model in Proofs/FilterTok.lean and Proofs/HtmlTokLaws.lean):
  `LosslessAll tk`  the raw bytes of the tokens followed by the remainder are the input (C16 `lossless`)
  `TagSpanS tk`     the raw bytes of a tag token start with `<` and end with `>` (only needed for replace)
-/
import RioModel.Proofs.Filter
import RioModel.Proofs.FilterStreamLaws

namespace Rio.Filter

/-- `tk d` is `tk.plain d` (coercion, Model/Filter.lean): `Tokenizer::new`, the tokenizer of append_child / prepend_child, not
of the filter loop (`LosslessS`); likewise `TokValid`, and `TagSpan` — which holds of the model (`htmlTokenize_tagSpan`) but
which no theorem assumes: replace stages need `TagSpanS` only -/
def Lossless (tk : Tokenize) : Prop := ∀ d, rawsOf (tk d).1 ++ (tk d).2 = d

/-- both entry points: `Tokenizer::new` and `Tokenizer::new_fragment` (the filter loop) -/
structure LosslessAll (tk : Tokenize) : Prop where
  plain : Lossless tk
  stream : LosslessS tk

def isTagKind (k : TokKind) : Bool := k == .startTag || k == .endTag || k == .selfClosing

def TagSpan (tk : Tokenize) : Prop := ∀ d t, t ∈ (tk d).1 → isTagKind t.kind = true → IsSpan t.raw

/-- `visIns v`, `visRep v`: the two value lists of `Edit` for one visitor — a replace visitor may substitute its content for a
span, the other kinds may insert theirs. -/
def visIns (v : Visitor) : List Bytes :=
  match v.kind with
  | .replace => []
  | _ => [v.content]

def visRep (v : Visitor) : List Bytes :=
  match v.kind with
  | .replace => [v.content]
  | _ => []

/-- the configuration of a visitor that never changes -/
def Visitor.static (v : Visitor) : VKind × Option Bytes × Bytes := (v.kind, v.sel, v.content)

theorem Visitor.advance_static (v : Visitor) : v.advance.static = v.static := by
  unfold Visitor.advance Visitor.static; split <;> rfl

theorem Visitor.retreat_static (v : Visitor) : v.retreat.static = v.static := by
  unfold Visitor.retreat Visitor.static; split <;> rfl

theorem Visitor.advance_isBuffering (v : Visitor) : v.advance.isBuffering = v.isBuffering := by
  unfold Visitor.advance; split <;> rfl

theorem Visitor.leaveMove_isBuffering (v : Visitor) (g : Bool) : (v.leaveMove g).2.isBuffering = v.isBuffering := by
  unfold Visitor.leaveMove Visitor.retreat
  split
  · split <;> rfl
  · rfl

/-! Away from the last element of the path `enter` only advances the zipper.  At the last element what it does depends on
the kind and on whether there is a selector; the three answers are named (`startBuf`, `enterBuf`, `enterIns`), and so
are those of `leave` below (`leaveOut`, `leaveClears`, `leaveGuard`), so that the other files can reason about all kinds
at once.

`enter` returns `((next_enter, next_leave, start_buffer, data), self)`, `leave` `((next_enter, next_leave, data), self)`
(Model/Filter.lean): hence the `.1.2.2.1` below.  For each, `_eq` is the equation and `_shape` (what is awaited next, where
the zipper stands), `_data` (the bytes), `_static` (the configuration) are its readings. -/

/-- what `enter` appends to the data at the last element of the path (prepend_child without selector) -/
def Visitor.enterIns (v : Visitor) : Bytes := if v.kind = .prepend ∧ v.hasSel = false then v.content else []

/-- `start_buffer` at the last element of the path -/
def Visitor.startBuf (v : Visitor) : Bool :=
  match v.kind with
  | .append => v.hasSel
  | .prepend => v.hasSel || v.isBuffering
  | .replace => true

/-- `is_buffering` after `enter` at the last element of the path -/
def Visitor.enterBuf (v : Visitor) : Bool :=
  match v.kind with
  | .append => v.isBuffering
  | .prepend => v.hasSel || v.isBuffering
  | .replace => true

theorem Visitor.enter_eq (v : Visitor) (d : Bytes) :
    v.enter d =
      if v.after ≠ [] then ((some v.advance.cur, some v.cur, false, d), v.advance)
      else ((none, some v.cur, v.startBuf, d ++ v.enterIns), { v with isBuffering := v.enterBuf }) := by
  unfold Visitor.enter Visitor.startBuf Visitor.enterBuf Visitor.enterIns
  by_cases ha : v.after ≠ []
  · rw [if_pos ha, if_pos ha]
  · rw [if_neg ha, if_neg ha]
    rcases v with ⟨k, b, c, a, s, ct, ib⟩
    cases k <;> cases hs : Visitor.hasSel ⟨_, b, c, a, s, ct, ib⟩ <;> cases ib <;> simp

theorem Visitor.enter_shape (v : Visitor) (d : Bytes) :
    (v.enter d).1.2.1 = some v.cur ∧
    ((v.after ≠ [] ∧ (v.enter d).1.1 = some v.advance.cur ∧ (v.enter d).1.2.2.1 = false ∧ (v.enter d).2 = v.advance) ∨
     (v.after = [] ∧ (v.enter d).1.1 = none ∧ (v.enter d).2 = { v with isBuffering := v.enterBuf })) := by
  rw [v.enter_eq d]
  by_cases ha : v.after ≠ []
  · rw [if_pos ha]; exact ⟨rfl, Or.inl ⟨ha, rfl, rfl, rfl⟩⟩
  · rw [if_neg ha]; exact ⟨rfl, Or.inr ⟨Decidable.not_not.mp ha, rfl, rfl⟩⟩

theorem Visitor.enter_static (v : Visitor) (d : Bytes) : (v.enter d).2.static = v.static := by
  obtain ⟨_, ⟨_, _, _, h⟩ | ⟨_, _, h⟩⟩ := v.enter_shape d
  · rw [h]; exact v.advance_static
  · rw [h]; rfl

theorem Visitor.leaveMove_static (v : Visitor) (g : Bool) : (v.leaveMove g).2.static = v.static := by
  unfold Visitor.leaveMove
  split
  · exact v.retreat_static
  · rfl

theorem kind_of_static {v w : Visitor} (h : v.static = w.static) : v.kind = w.kind :=
  congrArg (·.1) h

theorem content_of_static {v w : Visitor} (h : v.static = w.static) : v.content = w.content :=
  congrArg (·.2.2) h

theorem visIns_of_static {v w : Visitor} (h : v.static = w.static) : visIns v = visIns w := by
  unfold visIns; rw [kind_of_static h, content_of_static h]

theorem visRep_of_static {v w : Visitor} (h : v.static = w.static) : visRep v = visRep w := by
  unfold visRep; rw [kind_of_static h, content_of_static h]

theorem HtmlSt.new_enter {v : Visitor} (hb : v.before = []) : (HtmlSt.new v).enter = some v.cur := by
  simp only [HtmlSt.new, Visitor.first, hb, List.reverse_nil]

theorem hasSel_of_static {v w : Visitor} (h : v.static = w.static) : v.hasSel = w.hasSel := by
  unfold Visitor.hasSel; rw [show v.sel = w.sel from congrArg (·.2.1) h]

theorem appendChildGo_split (child : Bytes) : ∀ (ts : List Tok) (rest : Bytes) (level : Int) (out r : Bytes),
    appendChildGo child ts rest level out = some r →
      ∃ ts1 ts2, ts = ts1 ++ ts2 ∧ r = out ++ rawsOf ts1 ++ child ++ rawsOf ts2 ++ rest
  | [], _, _, _, _, h => by simp [appendChildGo] at h
  | t :: ts, rest, level, out, r, h => by
    rw [appendChildGo] at h
    simp only at h
    generalize (if t.kind = TokKind.startTag then (if isVoid t.name = true then level else level + 1) else level) = l1 at h
    by_cases he : t.kind = TokKind.endTag ∧ l1 - 1 = 0
    · rw [if_pos he.1, if_pos he.2] at h
      injection h with h
      exact ⟨[], t :: ts, rfl, by rw [← h]; simp [rawsOf]⟩
    · have h' : ∃ l, appendChildGo child ts rest l (out ++ t.raw) = some r := by
        by_cases hk : t.kind = TokKind.endTag
        · rw [if_pos hk, if_neg (fun hz => he ⟨hk, hz⟩)] at h; exact ⟨_, h⟩
        · rw [if_neg hk] at h; exact ⟨_, h⟩
      obtain ⟨l, h'⟩ := h'
      obtain ⟨ts1, ts2, e1, e2⟩ := appendChildGo_split child ts rest l _ r h'
      exact ⟨t :: ts1, ts2, by rw [e1]; rfl, by rw [e2]; simp [rawsOf_cons]⟩

theorem prependChildGo_split (child : Bytes) : ∀ (ts : List Tok) (rest out r : Bytes),
    prependChildGo child ts rest out = some r →
      ∃ ts1 ts2, ts = ts1 ++ ts2 ∧ r = out ++ rawsOf ts1 ++ child ++ rawsOf ts2 ++ rest
  | [], _, _, _, h => by simp [prependChildGo] at h
  | t :: ts, rest, out, r, h => by
    rw [prependChildGo] at h
    split at h
    · injection h with h
      exact ⟨[t], ts, rfl, by rw [← h]; simp [rawsOf]⟩
    · obtain ⟨ts1, ts2, e1, e2⟩ := prependChildGo_split child ts rest _ r h
      exact ⟨t :: ts1, ts2, by rw [e1]; rfl, by rw [e2]; simp [rawsOf_cons]⟩

theorem appendChild_split (tk : Tokenize) (content child : Bytes) :
    appendChild tk content child = content ∨
      ∃ ts1 ts2, (tk content).1 = ts1 ++ ts2 ∧
        appendChild tk content child = rawsOf ts1 ++ child ++ rawsOf ts2 ++ (tk content).2 := by
  have e : appendChild tk content child = (appendChildGo child (tk content).1 (tk content).2 0 []).getD content := rfl
  rw [e]
  cases hg : appendChildGo child (tk content).1 (tk content).2 0 [] with
  | none => exact Or.inl rfl
  | some r =>
    obtain ⟨ts1, ts2, h1, h2⟩ := appendChildGo_split child _ _ _ _ _ hg
    exact Or.inr ⟨ts1, ts2, h1, h2⟩

theorem prependChild_split (tk : Tokenize) (content child : Bytes) :
    prependChild tk content child = content ∨
      ∃ ts1 ts2, (tk content).1 = ts1 ++ ts2 ∧
        prependChild tk content child = rawsOf ts1 ++ child ++ rawsOf ts2 ++ (tk content).2 := by
  have e : prependChild tk content child = (prependChildGo child (tk content).1 (tk content).2 []).getD content := rfl
  rw [e]
  cases hg : prependChildGo child (tk content).1 (tk content).2 [] with
  | none => exact Or.inl rfl
  | some r =>
    obtain ⟨ts1, ts2, h1, h2⟩ := prependChildGo_split child _ _ _ _ hg
    exact Or.inr ⟨ts1, ts2, h1, h2⟩

theorem ins_of_split {tk : Tokenize} (hl : Lossless tk) {content child r : Bytes}
    (h : r = content ∨ ∃ ts1 ts2, (tk content).1 = ts1 ++ ts2 ∧ r = rawsOf ts1 ++ child ++ rawsOf ts2 ++ (tk content).2) :
    r = content ∨ ∃ p q, content = p ++ q ∧ r = p ++ child ++ q := by
  rcases h with h | ⟨ts1, ts2, h1, h2⟩
  · exact Or.inl h
  · refine Or.inr ⟨rawsOf ts1, rawsOf ts2 ++ (tk content).2, ?_, by rw [h2, List.append_assoc]⟩
    rw [← List.append_assoc, ← rawsOf_append, ← h1]
    exact (hl content).symm

theorem appendChild_ins {tk : Tokenize} (hl : Lossless tk) (content child : Bytes) :
    appendChild tk content child = content ∨
      ∃ p q, content = p ++ q ∧ appendChild tk content child = p ++ child ++ q :=
  ins_of_split hl (appendChild_split tk content child)

theorem prependChild_ins {tk : Tokenize} (hl : Lossless tk) (content child : Bytes) :
    prependChild tk content child = content ∨
      ∃ p q, content = p ++ q ∧ prependChild tk content child = p ++ child ++ q :=
  ins_of_split hl (prependChild_split tk content child)

theorem edit_of_ins {c a b : Bytes} (R : List Bytes) (h : b = a ∨ ∃ p q, a = p ++ q ∧ b = p ++ c ++ q) :
    Edit [c] R a b := by
  rcases h with rfl | ⟨p, q, rfl, rfl⟩
  · exact Edit.refl _
  · exact Edit.ins1 (List.mem_singleton.mpr rfl) p q

theorem length_of_ins {c a b : Bytes} (h : b = a ∨ ∃ p q, a = p ++ q ∧ b = p ++ c ++ q) :
    b.length ≤ a.length + c.length := by
  rcases h with rfl | ⟨p, q, rfl, rfl⟩
  · exact Nat.le_add_right _ _
  · simp only [List.length_append]; omega

theorem edit_rep_whole (c d : Bytes) (I : List Bytes) (hs : IsSpan d) : Edit I [c] d c := by
  have := Edit.rep1 (I := I) (R := [c]) (v := c) (s := d) (by simp) hs [] []
  simpa using this

section
variable (tk : Tokenize) (ev : Bytes → Bytes → Bool) (v : Visitor) (d : Bytes)

theorem Visitor.leave_append (hk : v.kind = .append) :
    v.leave tk ev d =
      ((some v.cur, (v.leaveMove true).1,
        if v.after = [] then
          if v.hasSel then (if !ev d v.selector then appendChild tk d v.content else d) else v.content ++ d
        else d), (v.leaveMove true).2) := by
  unfold Visitor.leave
  simp only [hk]
  by_cases h1 : v.after = []
  · cases h2 : v.hasSel
    · simp only [if_pos h1, Bool.false_eq_true, if_false]
    · cases h3 : ev d v.selector <;>
        simp only [if_pos h1, if_true, Bool.not_false, Bool.not_true, Bool.false_eq_true, if_false]
  · simp only [if_neg h1]

theorem Visitor.leave_prepend (hk : v.kind = .prepend) :
    v.leave tk ev d =
      if v.isBuffering && v.hasSel then
        ((some v.cur, (v.leaveMove true).1, if !ev d v.selector then prependChild tk d v.content else d),
          { (v.leaveMove true).2 with isBuffering := false })
      else ((some v.cur, (v.leaveMove true).1, d), (v.leaveMove true).2) := by
  unfold Visitor.leave
  simp only [hk]
  repeat' split
  all_goals rfl

theorem Visitor.leave_replace (hk : v.kind = .replace) :
    v.leave tk ev d =
      if v.isBuffering then
        ((some v.cur, (v.leaveMove (!v.isBuffering)).1, if !v.hasSel || ev d v.selector then v.content else d),
          { (v.leaveMove (!v.isBuffering)).2 with isBuffering := false })
      else ((some v.cur, (v.leaveMove (!v.isBuffering)).1, d), (v.leaveMove (!v.isBuffering)).2) := by
  unfold Visitor.leave
  simp only [hk]
  split
  · cases v.hasSel <;> cases ev d v.selector <;> rfl
  · rfl

/-- the data `leave` hands back -/
def Visitor.leaveOut (v : Visitor) (d : Bytes) : Bytes :=
  match v.kind with
  | .append =>
    if v.after = [] then
      if v.hasSel then (if !ev d v.selector then appendChild tk d v.content else d) else v.content ++ d
    else d
  | .prepend => if v.isBuffering && v.hasSel && !ev d v.selector then prependChild tk d v.content else d
  | .replace => if v.isBuffering && (!v.hasSel || ev d v.selector) then v.content else d

/-- `leave` resets `is_buffering` -/
def Visitor.leaveClears (v : Visitor) : Bool :=
  match v.kind with
  | .append => false
  | .prepend => v.isBuffering && v.hasSel
  | .replace => v.isBuffering

/-- the `guard` with which `leave` calls `leaveMove`: a buffering replace visitor stays where it is -/
def Visitor.leaveGuard (v : Visitor) : Bool := v.kind != .replace || !v.isBuffering

theorem Visitor.leave_eq :
    v.leave tk ev d =
      ((some v.cur, (v.leaveMove v.leaveGuard).1, v.leaveOut tk ev d),
        if v.leaveClears then { (v.leaveMove v.leaveGuard).2 with isBuffering := false }
        else (v.leaveMove v.leaveGuard).2) := by
  unfold Visitor.leaveOut Visitor.leaveClears Visitor.leaveGuard
  cases hk : v.kind with
  | append => rw [v.leave_append tk ev d hk]; rfl
  | prepend =>
    rw [v.leave_prepend tk ev d hk]
    cases v.isBuffering <;> cases v.hasSel <;> rfl
  | replace =>
    rw [v.leave_replace tk ev d hk]
    cases v.isBuffering <;> rfl

theorem Visitor.leave_shape :
    (v.leave tk ev d).1.1 = some v.cur ∧ (v.leave tk ev d).1.2.1 = (v.leaveMove v.leaveGuard).1 ∧
    ((v.leave tk ev d).2 = (v.leaveMove v.leaveGuard).2 ∨
      (v.leave tk ev d).2 = { (v.leaveMove v.leaveGuard).2 with isBuffering := false }) := by
  rw [v.leave_eq tk ev d]
  refine ⟨rfl, rfl, ?_⟩
  cases v.leaveClears
  · exact Or.inl rfl
  · exact Or.inr rfl

theorem Visitor.leave_data :
    (v.leave tk ev d).1.2.2 = d ∨
      match v.kind with
      | .append => (v.hasSel = true ∧ (v.leave tk ev d).1.2.2 = appendChild tk d v.content) ∨
          (v.hasSel = false ∧ (v.leave tk ev d).1.2.2 = v.content ++ d)
      | .prepend => v.hasSel = true ∧ (v.leave tk ev d).1.2.2 = prependChild tk d v.content
      | .replace => (v.leave tk ev d).1.2.2 = v.content := by
  rw [v.leave_eq tk ev d]
  show v.leaveOut tk ev d = d ∨ _
  unfold Visitor.leaveOut
  cases hk : v.kind with
  | append =>
    dsimp only
    by_cases ha : v.after = []
    · rw [if_pos ha]
      cases hs : v.hasSel
      · exact Or.inr (Or.inr ⟨rfl, if_neg Bool.false_ne_true⟩)
      · by_cases he : (!ev d v.selector) = true
        · exact Or.inr (Or.inl ⟨rfl, by rw [if_pos rfl, if_pos he]⟩)
        · exact Or.inl (by rw [if_pos rfl, if_neg he])
    · exact Or.inl (if_neg ha)
  | prepend =>
    dsimp only
    by_cases c : (v.isBuffering && v.hasSel && !ev d v.selector) = true
    · exact Or.inr ⟨by simp at c; exact c.1.2, if_pos c⟩
    · exact Or.inl (if_neg c)
  | replace =>
    dsimp only
    by_cases c : (v.isBuffering && (!v.hasSel || ev d v.selector)) = true
    · exact Or.inr (if_pos c)
    · exact Or.inl (if_neg c)

theorem Visitor.leave_static : (v.leave tk ev d).2.static = v.static := by
  obtain ⟨_, _, h | h⟩ := v.leave_shape tk ev d <;> rw [h] <;> exact v.leaveMove_static _

end

theorem Visitor.leave_edit {tk : Tokenize} (hl : Lossless tk) (ev : Bytes → Bytes → Bool) (v : Visitor) (d : Bytes)
    (hs : v.kind = .replace → IsSpan d) :
    Edit (visIns v) (visRep v) d (v.leave tk ev d).1.2.2 := by
  rcases v.leave_data tk ev d with h | h
  · rw [h]; exact Edit.refl _
  · unfold visIns visRep
    cases hk : v.kind <;> simp only [hk] at h ⊢
    · rcases h with ⟨_, h⟩ | ⟨_, h⟩ <;> rw [h]
      · exact edit_of_ins _ (appendChild_ins hl _ _)
      · exact edit_ins_front _ _ _
    · rw [h.2]; exact edit_of_ins _ (prependChild_ins hl _ _)
    · rw [h]; exact edit_rep_whole _ _ _ (hs hk)

theorem Visitor.enter_data (v : Visitor) (d : Bytes) :
    (v.enter d).1.2.2.2 = d ∨ (v.kind = .prepend ∧ v.hasSel = false ∧ (v.enter d).1.2.2.2 = d ++ v.content) := by
  rw [v.enter_eq d]
  by_cases ha : v.after ≠ []
  · rw [if_pos ha]; exact Or.inl rfl
  · rw [if_neg ha]
    unfold Visitor.enterIns
    by_cases h : v.kind = .prepend ∧ v.hasSel = false
    · rw [if_pos h]; exact Or.inr ⟨h.1, h.2, rfl⟩
    · rw [if_neg h]; exact Or.inl (List.append_nil d)

theorem Visitor.enter_edit (v : Visitor) (d : Bytes) :
    Edit (visIns v) (visRep v) d (v.enter d).1.2.2.2 := by
  rcases v.enter_data d with h | ⟨hk, _, h⟩ <;> rw [h]
  · exact Edit.refl _
  · unfold visIns visRep; rw [hk]; exact edit_ins_back _ _ _

/-- the buffered bytes of a stack, outermost link first (the stack has the innermost link first, hence `reverse`) -/
def flat (stack : List Link) : Bytes := stack.reverse.flatMap (·.buffer)

@[simp] theorem flat_nil : flat [] = [] := rfl
theorem flat_cons (l : Link) (rest : List Link) : flat (l :: rest) = flat rest ++ l.buffer := by
  simp [flat]

/-- bytes emitted so far followed by the buffered elements, outermost first -/
def ledger (s : HtmlSt) (out : Bytes) : Bytes := out ++ flat s.stack

/-- every buffered element starts with `<` (its start tag) -/
def HInv (st : List Link) : Prop := ∀ l ∈ st, l.buffer.head? = some 60

theorem endHtml_eq (s : HtmlSt) : endHtml s = flat s.stack ++ s.last := rfl

theorem onStart_eq (s : HtmlSt) (name data : Bytes) :
    onStart s name data =
      if s.enter = some name then
        let r := s.visitor.enter data
        let s1 : HtmlSt := { s with enter := r.1.1, leave := r.1.2.1, visitor := r.2 }
        if r.1.2.2.1 then ({ s1 with stack := ⟨[], name⟩ :: s1.stack }, r.1.2.2.2) else (s1, r.1.2.2.2)
      else (s, data) := by
  unfold onStart
  split <;> rfl

theorem onEnd_eq (tk : Tokenize) (ev : Bytes → Bytes → Bool) (s : HtmlSt) (name data : Bytes) :
    onEnd tk ev s name data =
      let tm := topMatches s.stack name
      let buffer := if tm then topBuffer s.stack ++ data else data
      let r := s.visitor.leave tk ev buffer
      let s1 : HtmlSt := if s.leave = some name then { s with enter := r.1.1, leave := r.1.2.1, visitor := r.2 } else s
      let b1 := if s.leave = some name then r.1.2.2 else buffer
      if tm then ({ s1 with stack := s1.stack.tail }, b1) else (s1, b1) := by
  unfold onEnd
  by_cases h : s.leave = some name
  · simp only [if_pos h]
  · simp only [if_neg h]

theorem onStart_fires {s : HtmlSt} {n : Bytes} (d : Bytes) (h : s.enter = some n) :
    onStart s n d =
      ({ s with enter := (s.visitor.enter d).1.1, leave := (s.visitor.enter d).1.2.1, visitor := (s.visitor.enter d).2,
                stack := if (s.visitor.enter d).1.2.2.1 then ⟨[], n⟩ :: s.stack else s.stack },
        (s.visitor.enter d).1.2.2.2) := by
  rw [onStart_eq, if_pos h]
  simp only
  split <;> rfl

theorem onStart_skips {s : HtmlSt} {n : Bytes} (d : Bytes) (h : ¬ s.enter = some n) : onStart s n d = (s, d) := by
  rw [onStart_eq, if_neg h]

theorem onEnd_fires (tk : Tokenize) (ev : Bytes → Bytes → Bool) {s : HtmlSt} {n : Bytes} (d : Bytes) (h : s.leave = some n) :
    onEnd tk ev s n d =
      let r := s.visitor.leave tk ev (if topMatches s.stack n then topBuffer s.stack ++ d else d)
      ({ s with enter := r.1.1, leave := r.1.2.1, visitor := r.2,
                stack := if topMatches s.stack n then s.stack.tail else s.stack }, r.1.2.2) := by
  rw [onEnd_eq]
  simp only [if_pos h]
  split <;> rfl

theorem onEnd_skips (tk : Tokenize) (ev : Bytes → Bytes → Bool) {s : HtmlSt} {n : Bytes} (d : Bytes) (h : ¬ s.leave = some n) :
    onEnd tk ev s n d =
      ({ s with stack := if topMatches s.stack n then s.stack.tail else s.stack },
        if topMatches s.stack n then topBuffer s.stack ++ d else d) := by
  rw [onEnd_eq]
  simp only [if_neg h]
  split <;> rfl

/-- closing the matching link moves its buffer in front of the data: the ledger does not change -/
theorem flat_close (st : List Link) (n d : Bytes) :
    flat (if topMatches st n then st.tail else st) ++ (if topMatches st n then topBuffer st ++ d else d) =
      flat st ++ d := by
  cases st with
  | nil => rfl
  | cons l rest =>
    by_cases h : topMatches (l :: rest) n = true
    · rw [if_pos h, if_pos h, List.tail_cons, flat_cons, List.append_assoc]; rfl
    · rw [if_neg h, if_neg h]

theorem flat_open (b : Bool) (st : List Link) (n : Bytes) : flat (if b then ⟨[], n⟩ :: st else st) = flat st := by
  cases b
  · rfl
  · rw [if_pos rfl, flat_cons]; exact List.append_nil _

theorem head?_append_of_head? {a : Bytes} {x : Nat} (h : a.head? = some x) (b : Bytes) : (a ++ b).head? = some x := by
  rw [List.head?_append, h]; rfl

theorem isSpan_append {b d : Bytes} (hb : b.head? = some 60) (hd : IsSpan d) : IsSpan (b ++ d) :=
  ⟨head?_append_of_head? hb d, by rw [List.getLast?_append, hd.2]; rfl⟩

theorem onStart_spec (s : HtmlSt) (name data : Bytes) :
    (onStart s name data).1.visitor.static = s.visitor.static ∧
    (onStart s name data).1.last = s.last ∧
    flat (onStart s name data).1.stack = flat s.stack ∧
    Edit (visIns s.visitor) (visRep s.visitor) data (onStart s name data).2 := by
  by_cases he : s.enter = some name
  · rw [onStart_fires data he]
    exact ⟨s.visitor.enter_static data, rfl, flat_open _ _ _, s.visitor.enter_edit data⟩
  · rw [onStart_skips data he]
    exact ⟨rfl, rfl, rfl, Edit.refl _⟩

theorem onEnd_spec {tk : Tokenize} (hl : Lossless tk) (ev : Bytes → Bytes → Bool) (s : HtmlSt) (name data : Bytes)
    (hs : s.visitor.kind = .replace →
      IsSpan (if topMatches s.stack name then topBuffer s.stack ++ data else data)) :
    (onEnd tk ev s name data).1.visitor.static = s.visitor.static ∧
    (onEnd tk ev s name data).1.last = s.last ∧
    (onEnd tk ev s name data).1.stack = (if topMatches s.stack name then s.stack.tail else s.stack) ∧
    Edit (visIns s.visitor) (visRep s.visitor)
      (if topMatches s.stack name then topBuffer s.stack ++ data else data) (onEnd tk ev s name data).2 := by
  by_cases hlv : s.leave = some name
  · rw [onEnd_fires tk ev data hlv]
    exact ⟨s.visitor.leave_static tk ev _, rfl, rfl, s.visitor.leave_edit hl ev _ hs⟩
  · rw [onEnd_skips tk ev data hlv]
    exact ⟨rfl, rfl, rfl, Edit.refl _⟩

theorem push_push (s : HtmlSt) (out a b : Bytes) :
    push (push s out a).1 (push s out a).2 b = push s out (a ++ b) := by
  unfold push
  cases h : s.stack <;> simp [h]

theorem push_fields (s : HtmlSt) (out d : Bytes) :
    (push s out d).1.visitor = s.visitor ∧ (push s out d).1.last = s.last ∧
    (push s out d).1.enter = s.enter ∧ (push s out d).1.leave = s.leave := by
  unfold push; split <;> simp

theorem ledger_push (s : HtmlSt) (out d : Bytes) :
    ledger (push s out d).1 (push s out d).2 = ledger s out ++ d := by
  unfold push ledger
  split
  · rename_i l rest h; simp [h, flat_cons]
  · rename_i h; simp [h]

/-- The stack of a replace stage while the token named `n` is being processed and its data `d` is still to be pushed:
every buffered element starts with `<` (`HInv`), except that the link the token itself has just opened is still empty,
and then `d` is its start tag. -/
def HMid (st : List Link) (n d : Bytes) : Prop :=
  HInv st ∨ ∃ rest, st = ⟨[], n⟩ :: rest ∧ HInv rest ∧ d.head? = some 60

theorem push_HMid (s : HtmlSt) (out : Bytes) {n d : Bytes} (h : HMid s.stack n d) : HInv (push s out d).1.stack := by
  unfold push
  split
  · rename_i l rest hst
    rw [hst] at h
    show HInv ({ l with buffer := l.buffer ++ d } :: rest)
    rcases h with h | ⟨_, he, hr, hd⟩
    · intro l' hl'
      rcases List.mem_cons.mp hl' with rfl | hl'
      · exact head?_append_of_head? (h l (List.mem_cons_self ..)) d
      · exact h l' (List.mem_cons_of_mem _ hl')
    · cases he
      intro l' hl'
      rcases List.mem_cons.mp hl' with rfl | hl'
      · exact hd
      · exact hr l' hl'
  · rename_i hst
    rw [hst]
    exact fun _ h => nomatch h

/-- `on_end_tag_token` for the token itself: the link it has just opened matches and is closed again; otherwise the
matching link, if any, holds an element from its start tag on -/
theorem HMid.close {st : List Link} {n d : Bytes} (h : HMid st n d) :
    HInv (if topMatches st n then st.tail else st) ∧
      (IsSpan d → IsSpan (if topMatches st n then topBuffer st ++ d else d)) := by
  rcases h with h | ⟨rest, rfl, hr, _⟩
  · refine ⟨by split; exact fun l hl => h l (List.mem_of_mem_tail hl); exact h, fun hd => ?_⟩
    split
    · cases st with
      | nil => exact hd
      | cons l rest => exact isSpan_append (h l (List.mem_cons_self ..)) hd
    · exact hd
  · have hm : topMatches (⟨[], n⟩ :: rest) n = true := by simp [topMatches]
    rw [if_pos hm, if_pos hm]
    exact ⟨hr, fun hd => hd⟩

theorem onStart_HMid (s : HtmlSt) (n d : Bytes) (hk : s.visitor.kind = .replace) (hi : HInv s.stack)
    (hd : d.head? = some 60) : (onStart s n d).2 = d ∧ HMid (onStart s n d).1.stack n d := by
  by_cases he : s.enter = some n
  · rw [onStart_fires d he]
    have hrep : (s.visitor.enter d).1.2.2.2 = d := by
      rcases s.visitor.enter_data d with h | ⟨hk', _⟩
      · exact h
      · rw [hk] at hk'; cases hk'
    refine ⟨hrep, ?_⟩
    dsimp only
    split
    · exact Or.inr ⟨_, rfl, hi, hd⟩
    · exact Or.inl hi
  · rw [onStart_skips d he]
    exact ⟨rfl, Or.inl hi⟩

theorem isTagKind_of_opens {t : Tok} (h : (t.kind == .startTag || t.kind == .selfClosing) = true) :
    isTagKind t.kind = true := by
  cases hk : t.kind <;> simp [hk, isTagKind] at h ⊢

theorem isTagKind_of_closes {t : Tok}
    (h : (t.kind == .endTag || t.kind == .selfClosing || (t.kind == .startTag && isVoid t.name)) = true) :
    isTagKind t.kind = true := by
  cases hk : t.kind <;> simp [hk, isTagKind] at h ⊢

theorem stepTok_eq (tk : Tokenize) (ev : Bytes → Bytes → Bool) (s : HtmlSt) (out : Bytes) (t : Tok) :
    stepTok tk ev (s, out) t =
      let a := if t.kind == .startTag || t.kind == .selfClosing then onStart s t.name t.raw else (s, t.raw)
      let e :=
        if t.kind == .endTag || t.kind == .selfClosing || (t.kind == .startTag && isVoid t.name) then
          onEnd tk ev a.1 t.name a.2
        else a
      push e.1 out e.2 := by
  unfold stepTok
  cases t.kind
  case startTag => cases isVoid t.name <;> rfl
  all_goals rfl

theorem stepTok_start (tk : Tokenize) (ev : Bytes → Bytes → Bool) (s : HtmlSt) (out : Bytes) (t : Tok)
    (h : t.kind = .startTag) :
    stepTok tk ev (s, out) t =
      if isVoid t.name then
        push (onEnd tk ev (onStart s t.name t.raw).1 t.name (onStart s t.name t.raw).2).1 out
             (onEnd tk ev (onStart s t.name t.raw).1 t.name (onStart s t.name t.raw).2).2
      else push (onStart s t.name t.raw).1 out (onStart s t.name t.raw).2 := by
  unfold stepTok
  simp only [h]
  split <;> rfl

theorem stepTok_end (tk : Tokenize) (ev : Bytes → Bytes → Bool) (s : HtmlSt) (out : Bytes) (t : Tok)
    (h : t.kind = .endTag) :
    stepTok tk ev (s, out) t = push (onEnd tk ev s t.name t.raw).1 out (onEnd tk ev s t.name t.raw).2 := by
  unfold stepTok
  simp only [h]

theorem stepTok_self (tk : Tokenize) (ev : Bytes → Bytes → Bool) (s : HtmlSt) (out : Bytes) (t : Tok)
    (h : t.kind = .selfClosing) :
    stepTok tk ev (s, out) t =
      push (onEnd tk ev (onStart s t.name t.raw).1 t.name (onStart s t.name t.raw).2).1 out
           (onEnd tk ev (onStart s t.name t.raw).1 t.name (onStart s t.name t.raw).2).2 := by
  unfold stepTok
  simp only [h]

theorem stepTok_other (tk : Tokenize) (ev : Bytes → Bytes → Bool) (s : HtmlSt) (out : Bytes) (t : Tok)
    (h : isTagKind t.kind = false) :
    stepTok tk ev (s, out) t = push s out t.raw := by
  unfold stepTok
  cases hk : t.kind <;> simp [hk, isTagKind] at h ⊢

section
variable {tk : Tokenize} (hl : Lossless tk) (ev : Bytes → Bytes → Bool)
include hl

/-- One token: `ledger ++ t.raw` is edited into the new ledger.  The three phases of `stepTok_eq`: `a` (`onStart`) edits the
data and may open an EMPTY link (`HMid`); `e` (`onEnd`) closes the matching link, which puts its buffer in front of the data
without changing the ledger (`flat_close`), and edits that; `push` appends (`ledger_push`). -/
theorem stepTok_spec (s : HtmlSt) (out : Bytes) (t : Tok)
    (hspan : s.visitor.kind = .replace → isTagKind t.kind = true → IsSpan t.raw)
    (hinv : s.visitor.kind = .replace → HInv s.stack) :
    (stepTok tk ev (s, out) t).1.visitor.static = s.visitor.static ∧
    (stepTok tk ev (s, out) t).1.last = s.last ∧
    (s.visitor.kind = .replace → HInv (stepTok tk ev (s, out) t).1.stack) ∧
    Edit (visIns s.visitor) (visRep s.visitor) (ledger s out ++ t.raw)
      (ledger (stepTok tk ev (s, out) t).1 (stepTok tk ev (s, out) t).2) := by
  rw [stepTok_eq]
  extract_lets a e
  have ha : a.1.visitor.static = s.visitor.static ∧ a.1.last = s.last ∧ flat a.1.stack = flat s.stack ∧
      Edit (visIns s.visitor) (visRep s.visitor) t.raw a.2 ∧
      (s.visitor.kind = .replace → a.2 = t.raw ∧ HMid a.1.stack t.name t.raw) := by
    unfold a
    split
    · rename_i ho
      obtain ⟨a1, a2, a3, a4⟩ := onStart_spec s t.name t.raw
      exact ⟨a1, a2, a3, a4, fun hk =>
        onStart_HMid s _ _ hk (hinv hk) (hspan hk (isTagKind_of_opens ho)).1⟩
    · exact ⟨rfl, rfl, rfl, Edit.refl _, fun hk => ⟨rfl, Or.inl (hinv hk)⟩⟩
  obtain ⟨a_static, a_last, a_flat, a_edit, a_mid⟩ := ha
  have hk : a.1.visitor.kind = s.visitor.kind := kind_of_static a_static
  have he : e.1.visitor.static = s.visitor.static ∧ e.1.last = s.last ∧
      (s.visitor.kind = .replace → HMid e.1.stack t.name e.2) ∧
      Edit (visIns s.visitor) (visRep s.visitor) (flat s.stack ++ t.raw) (flat e.1.stack ++ e.2) := by
    unfold e
    split
    · rename_i hc
      have hcl := fun h => (a_mid h).2.close
      obtain ⟨r1, r2, r3, r4⟩ := onEnd_spec hl ev a.1 t.name a.2 fun h => by
        rw [hk] at h
        rw [(a_mid h).1]
        exact (hcl h).2 (hspan h (isTagKind_of_closes hc))
      refine ⟨r1.trans a_static, r2.trans a_last, fun h => Or.inl (r3 ▸ (hcl h).1), ?_⟩
      rw [visIns_of_static a_static, visRep_of_static a_static] at r4
      rw [r3, ← a_flat]
      exact (Edit.appL _ a_edit).trans (by rw [← flat_close a.1.stack t.name a.2]; exact Edit.appL _ r4)
    · exact ⟨a_static, a_last, fun h => (a_mid h).1 ▸ (a_mid h).2, by rw [a_flat]; exact Edit.appL _ a_edit⟩
  obtain ⟨e_static, e_last, e_mid, e_edit⟩ := he
  obtain ⟨pv, pl, _, _⟩ := push_fields e.1 out e.2
  refine ⟨by rw [pv]; exact e_static, by rw [pl]; exact e_last, fun h => push_HMid _ _ (e_mid h), ?_⟩
  rw [ledger_push]
  unfold ledger
  rw [List.append_assoc, List.append_assoc]
  exact Edit.appL out e_edit

end

theorem splitHeld_spec (ts : List Tok) :
    rawsOf (splitHeld ts).1 ++ (splitHeld ts).2 = rawsOf ts ∧ ∀ t ∈ (splitHeld ts).1, t ∈ ts := by
  rcases splitHeld_cases ts with h | ⟨t, _, h1, h2⟩
  · rw [h]; exact ⟨List.append_nil _, fun _ h => h⟩
  · refine ⟨?_, fun t' h' => by rw [h1]; exact List.mem_append_left _ h'⟩
    conv => rhs; rw [h1]
    rw [rawsOf_append, h2, rawsOf_cons]; simp [rawsOf]

theorem filterHtml_some (tk : Tokenize) (ev : Bytes → Bytes → Bool) {s s' : HtmlSt} {x o : Bytes}
    (h : filterHtml tk ev s x = some (s', o)) :
    ∃ data pending sf, utf8Split (s.last ++ x) = some (data, pending) ∧
      (view tk s.ctx data).todo.foldl (stepTok tk ev) (s, []) = (sf, o) ∧
      s' = { sf with last := (view tk s.ctx data).tail ++ pending, ctx := (view tk s.ctx data).ctx' } := by
  rw [filterHtml_view] at h
  cases hsp : utf8Split (s.last ++ x) with
  | none => rw [hsp] at h; cases h
  | some ap =>
    obtain ⟨data, pending⟩ := ap
    rw [hsp] at h
    injection h with h
    injection h with h1 h2
    exact ⟨data, pending, _, rfl, Prod.ext rfl h2, h1.symm⟩

section
variable {tk : Tokenize} (hl : LosslessAll tk) (ev : Bytes → Bytes → Bool)
include hl

/-- `stepTok_spec` along a token list: the configuration (`static`), hence `visIns` / `visRep`, is the same at every step,
so the edits compose (`Edit.trans`). -/
theorem fold_spec (ts : List Tok) : ∀ (s : HtmlSt) (out : Bytes),
    (s.visitor.kind = .replace → ∀ t ∈ ts, isTagKind t.kind = true → IsSpan t.raw) →
    (s.visitor.kind = .replace → HInv s.stack) →
    (ts.foldl (stepTok tk ev) (s, out)).1.visitor.static = s.visitor.static ∧
    (ts.foldl (stepTok tk ev) (s, out)).1.last = s.last ∧
    (s.visitor.kind = .replace → HInv (ts.foldl (stepTok tk ev) (s, out)).1.stack) ∧
    Edit (visIns s.visitor) (visRep s.visitor) (ledger s out ++ rawsOf ts)
      (ledger (ts.foldl (stepTok tk ev) (s, out)).1 (ts.foldl (stepTok tk ev) (s, out)).2) := by
  induction ts with
  | nil =>
    intro s out _ hinv
    simp [rawsOf]
    exact ⟨hinv, Edit.refl _⟩
  | cons t ts ih =>
    intro s out hspan hinv
    obtain ⟨h1, h2, h3, h4⟩ := stepTok_spec hl.plain ev s out t (fun hk => hspan hk t (by simp)) hinv
    rw [List.foldl_cons]
    generalize hp : stepTok tk ev (s, out) t = p at h1 h2 h3 h4 ⊢
    obtain ⟨s1, out1⟩ := p
    simp only at h1 h2 h3 h4
    have hk : s1.visitor.kind = s.visitor.kind := kind_of_static h1
    obtain ⟨i1, i2, i3, i4⟩ := ih s1 out1
      (fun hk' t' ht' => hspan (hk ▸ hk') t' (by simp [ht'])) (fun hk' => h3 (hk ▸ hk'))
    refine ⟨i1.trans h1, i2.trans h2, fun hk' => i3 (hk ▸ hk'), ?_⟩
    rw [visIns_of_static h1, visRep_of_static h1] at i4
    rw [rawsOf_cons, ← List.append_assoc]
    exact Edit.trans (Edit.appR _ h4) i4

theorem filterHtml_spec (s s' : HtmlSt) (x o : Bytes)
    (hts : s.visitor.kind = .replace → TagSpanS tk)
    (hinv : s.visitor.kind = .replace → HInv s.stack)
    (h : filterHtml tk ev s x = some (s', o)) :
    s'.visitor.static = s.visitor.static ∧
    (s.visitor.kind = .replace → HInv s'.stack) ∧
    Edit (visIns s.visitor) (visRep s.visitor) (endHtml s ++ x) (o ++ endHtml s') := by
  obtain ⟨data, pending, sf, hsplit, hf, rfl⟩ := filterHtml_some tk ev h
  have hdp := (utf8Split_spec hsplit).2
  have hvt := view_todo_tail tk hl.stream s.ctx data
  obtain ⟨f1, f2, f3, f4⟩ := fold_spec hl ev (view tk s.ctx data).todo s []
    (fun hk t ht hkind => by
      obtain ⟨x', hx', rfl⟩ := view_all_mem tk s.ctx data t (view_todo_sub tk s.ctx data t ht)
      exact hts hk s.ctx data x' hx' hkind) hinv
  rw [hf] at f1 f2 f3 f4
  refine ⟨f1, f3, ?_⟩
  simp only [endHtml_eq]
  have hsplit2 : s.last ++ x = rawsOf (view tk s.ctx data).todo ++ ((view tk s.ctx data).tail ++ pending) := by
    rw [← List.append_assoc, hvt, hdp]
  have := Edit.appR ((view tk s.ctx data).tail ++ pending) f4
  simp only [ledger, List.nil_append] at this
  rw [List.append_assoc, hsplit2]
  simpa [List.append_assoc] using this

end

end Rio.Filter
