/-
Lemmas about the TRANSLATED header-list functions of the C interface (section `tr_w17_ffi_headers`, generated from
src/http/ffi.rs + src/ffi_helpers.rs) and their relation to the hand-written content model of Model/Ffi.lean
(`cstrOf`, `toHeaderMap`, `fromHeaderMap`).

Representation relation: `Chain store p nodes` — following the `next` POINTERS from `p` through the node memory `store`
visits exactly the nodes whose (name, value) are `nodes`, and ends in NULL.  The hand model works on `nodes` directly.
`hm` (`header_map`) and `all` (`headers`; `hs` in `forBody_eq`) in the statements are the two functions' own arguments: the translator hands them to
every loop it emits; these loops do not read them.
-/
import RioModel.Generated.Consts
import RioModel.Model.Ffi

namespace Rio.FfiGen
open Rio.Consts Rio.Ffi

inductive Chain (store : List GenHeaderMap) : Option Nat → List CNode → Prop
  | nil : Chain store none []
  | cons {i : Nat} {n : GenHeaderMap} {rest : List CNode} :
      store[i]? = some n → Chain store n.next rest → Chain store (some i) ((n.name, n.value) :: rest)

/-- what `c_char_to_str` returns: NULL and invalid UTF-8 give `None` -/
def strOf (utf8 : List Nat → Bool) : Option (List Nat) → Option (List Nat)
  | none => none
  | some b => if utf8 b then some b else none

/-- the header a node contributes to the walk (none: skipped by one of the two `continue`s) -/
def nodeHeader (utf8 : List Nat → Bool) (c : CNode) : Option HeaderBytes :=
  match strOf utf8 c.1, strOf utf8 c.2 with
  | some n, some v => some (n, v)
  | _, _ => none

/-- `c_char_to_str` never dereferences NULL (the guard in front of `CStr::from_ptr`) and computes `strOf` -/
theorem cCharToStr_eq (utf8 : List Nat → Bool) (p : Option (List Nat)) :
    genCCharToStr utf8 p = .ok (strOf utf8 p) := by
  cases p with
  | none => simp [genCCharToStr, strOf]
  | some b =>
    cases h : utf8 b <;> simp [genCCharToStr, genCStrFromPtr, genCStrToStr, strOf, h]

theorem stringToCChar_eq (s : List Nat) : genStringToCChar s = .ok (cstrOf s) := by
  by_cases h : 0 ∈ s <;> simp [genStringToCChar, genCStringNew, cstrOf, h]

theorem whileBody_eq (utf8 : List Nat → Bool) (store : List GenHeaderMap) (hm : Option Nat)
    (acc : List HeaderBytes) (i : Nat) (n : GenHeaderMap) (h : store[i]? = some n) :
    genHeaderMapToHttpHeadersWhile1Body utf8 store hm acc (some i)
      = .ok (acc ++ (nodeHeader utf8 (n.name, n.value)).toList, n.next) := by
  simp only [genHeaderMapToHttpHeadersWhile1Body, genDerefHeaderMap, h, cCharToStr_eq, nodeHeader]
  cases strOf utf8 n.name <;> cases strOf utf8 n.value <;> simp

theorem while_chain (utf8 : List Nat → Bool) (store : List GenHeaderMap) (hm : Option Nat)
    {p : Option Nat} {nodes : List CNode} (hc : Chain store p nodes) (extra : Nat) (acc : List HeaderBytes) :
    genHeaderMapToHttpHeadersWhile1 utf8 store hm (nodes.length + extra) acc p
      = .ok (acc ++ nodes.filterMap (nodeHeader utf8), none) := by
  induction hc generalizing acc with
  | nil => unfold genHeaderMapToHttpHeadersWhile1; simp
  | @cons i n rest hi _ ih =>
    unfold genHeaderMapToHttpHeadersWhile1
    simp only [List.length_cons]
    rw [show rest.length + 1 + extra = (rest.length + extra) + 1 by omega]
    simp only [Option.isNone_some, Bool.not_false, if_true, whileBody_eq utf8 store hm acc i n hi, ih]
    cases hn : nodeHeader utf8 (n.name, n.value) <;> simp [hn]

theorem while_short (utf8 : List Nat → Bool) (store : List GenHeaderMap) (hm : Option Nat)
    {p : Option Nat} {nodes : List CNode} (hc : Chain store p nodes) (fuel : Nat) (hf : fuel < nodes.length)
    (acc : List HeaderBytes) :
    genHeaderMapToHttpHeadersWhile1 utf8 store hm fuel acc p = .error .outOfFuel := by
  induction hc generalizing acc fuel with
  | nil => simp at hf
  | @cons i n rest hi _ ih =>
    unfold genHeaderMapToHttpHeadersWhile1
    cases fuel with
    | zero => simp
    | succ f =>
      simp only [Option.isNone_some, Bool.not_false, if_true, whileBody_eq utf8 store hm acc i n hi]
      exact ih f (by simpa using hf) _

theorem while_ok_chain (utf8 : List Nat → Bool) (store : List GenHeaderMap) (hm : Option Nat) :
    ∀ (fuel : Nat) (acc : List HeaderBytes) (p : Option Nat) (out : List HeaderBytes × Option Nat),
      genHeaderMapToHttpHeadersWhile1 utf8 store hm fuel acc p = .ok out →
      ∃ nodes, Chain store p nodes ∧ nodes.length ≤ fuel := by
  intro fuel
  induction fuel with
  | zero =>
    intro acc p out h
    unfold genHeaderMapToHttpHeadersWhile1 at h
    cases p with
    | none => exact ⟨[], .nil, Nat.le_refl _⟩
    | some i => simp at h
  | succ f ih =>
    intro acc p out h
    unfold genHeaderMapToHttpHeadersWhile1 at h
    cases p with
    | none => exact ⟨[], .nil, Nat.zero_le _⟩
    | some i =>
      cases hs : store[i]? with
      | none =>
        simp [genHeaderMapToHttpHeadersWhile1Body, genDerefHeaderMap, hs] at h
      | some n =>
        simp only [Option.isNone_some, Bool.not_false, if_true, whileBody_eq utf8 store hm acc i n hs] at h
        obtain ⟨nodes, hc, hl⟩ := ih _ _ _ h
        exact ⟨(n.name, n.value) :: nodes, .cons hs hc, by simp; omega⟩

/-- enlarging the store keeps every chain (addresses are never reused: `Box::new` gives a fresh one) -/
theorem Chain.mono {store : List GenHeaderMap} {p : Option Nat} {nodes : List CNode} (hc : Chain store p nodes)
    (more : List GenHeaderMap) : Chain (store ++ more) p nodes := by
  induction hc with
  | nil => exact .nil
  | @cons i n rest hi _ ih =>
    refine .cons ?_ ih
    rw [List.getElem?_append_left (List.getElem?_eq_some_iff.1 hi).1]; exact hi

theorem forBody_eq (hs : List HeaderBytes) (store : List GenHeaderMap) (cur : Option Nat) (h : HeaderBytes) :
    genHttpHeadersToHeaderMapFor1Body hs store cur h
      = .ok (store ++ [{ name := cstrOf h.1, value := cstrOf h.2, next := cur }], some store.length) := by
  simp [genHttpHeadersToHeaderMapFor1Body, stringToCChar_eq, genBoxIntoRawHeaderMap]

/-- the loop of `http_headers_to_header_map`: every header becomes a node in FRONT of the list built so far (which so comes out
reversed) and at the END of the store, whose old part stays as it was -/
theorem for_chain (all hs : List HeaderBytes) (store : List GenHeaderMap) (cur : Option Nat) (nodes : List CNode)
    (hc : Chain store cur nodes) :
    ∃ store' p, genHttpHeadersToHeaderMapFor1 all hs store cur = .ok (store', p)
      ∧ Chain store' p (hs.foldl (fun cur h => (cstrOf h.1, cstrOf h.2) :: cur) nodes)
      ∧ store'.length = store.length + hs.length ∧ store'.take store.length = store := by
  induction hs generalizing store cur nodes with
  | nil => exact ⟨store, cur, by simp [genHttpHeadersToHeaderMapFor1], hc, by simp, by simp⟩
  | cons h rest ih =>
    have hc' : Chain (store ++ [{ name := cstrOf h.1, value := cstrOf h.2, next := cur }]) (some store.length)
        ((cstrOf h.1, cstrOf h.2) :: nodes) :=
      Chain.cons (n := { name := cstrOf h.1, value := cstrOf h.2, next := cur }) (by simp) (hc.mono _)
    obtain ⟨s', p, he, hch, hl, ht⟩ := ih _ _ _ hc'
    refine ⟨s', p, ?_, hch, ?_, ?_⟩
    · unfold genHttpHeadersToHeaderMapFor1
      simp only [forBody_eq, he]
    · simp at hl ⊢; omega
    · have := congrArg (List.take store.length) ht
      simpa [List.take_take, Nat.min_eq_left] using this

end Rio.FfiGen
