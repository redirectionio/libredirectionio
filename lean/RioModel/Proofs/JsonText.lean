/-
The text level: reading back what the printer wrote.

`parseText (render j) = some j` for every printable value `j` (no float, no junk, integers within
`i64 ∪ u64`): string escaping is inverted by the reader's escape decoding, the decimal digits of
an integer are read back to the same integer, separators and brackets are unambiguous.  Hence the
printer is injective and the C06 round trip holds on the level of the JSON *text* that travels
from the agent to the proxy.  The end of the file (`printable_ser*`, hence the import of Model/JsonAction) shows that every
value the serde model emits for an action or a request is printable, which is how Props/C06 applies `parseText_render`.
-/
import RioModel.Model.JsonText
import RioModel.Model.JsonAction

namespace Rio.Json

theorem hex_ctrl : ∀ n, n < 32 → hex4 '0' '0' (hexDigit (n / 16)) (hexDigit (n % 16)) = some n := by
  decide

theorem not_surrogate_of_lt (n : Nat) (h : n < 32) :
    isLowSurrogate n = false ∧ isHighSurrogate n = false := by
  simp [isLowSurrogate, isHighSurrogate]; omega

theorem char_eq_of_toNat (c : Char) (n : Nat) (h : c.toNat = n) : Char.ofNat n = c := by
  rw [← h, Char.ofNat_toNat]

theorem parseStrBody_escapeChar (c : Char) (rest acc : List Char) :
    parseStrBody (escapeChar c ++ rest) acc true none = parseStrBody rest (c :: acc) true none := by
  fun_cases escapeChar c
  case case1 h => subst h; rw [parseStrBody.eq_def]; simp
  case case2 _ h => subst h; rw [parseStrBody.eq_def]; simp
  case case3 _ _ h => rw [parseStrBody.eq_def]; simp [← char_eq_of_toNat c 8 h]
  case case4 _ _ _ h => rw [parseStrBody.eq_def]; simp [← char_eq_of_toNat c 12 h]
  case case5 _ _ _ _ h => rw [parseStrBody.eq_def]; simp [← char_eq_of_toNat c 10 h]
  case case6 _ _ _ _ _ h => rw [parseStrBody.eq_def]; simp [← char_eq_of_toNat c 13 h]
  case case7 _ _ _ _ _ _ h => rw [parseStrBody.eq_def]; simp [← char_eq_of_toNat c 9 h]
  case case8 _ _ _ _ _ _ _ h =>
    have hs := not_surrogate_of_lt c.toNat h
    rw [parseStrBody.eq_def]; simp [hex_ctrl c.toNat h, hs.1, hs.2, Char.ofNat_toNat]
  case case9 h1 h2 _ _ _ _ _ h8 => rw [parseStrBody.eq_def]; simp [h1, h2, h8]

theorem parseStrBody_escapeChars (cs rest acc : List Char) :
    parseStrBody (escapeChars cs ++ '"' :: rest) acc true none
      = some (some (String.ofList (acc.reverse ++ cs)), rest) := by
  induction cs generalizing acc with
  | nil => rw [parseStrBody.eq_def]; simp [escapeChars]
  | cons c t ih =>
    simp only [escapeChars, List.append_assoc]
    rw [parseStrBody_escapeChar, ih]
    simp

theorem parseStrBody_renderStr (s : String) (rest : List Char) :
    parseStrBody (escapeChars s.toList ++ '"' :: rest) [] true none = some (some s, rest) := by
  rw [parseStrBody_escapeChars]; simp

theorem ne_of_isDigit {c d : Char} (hc : isDigit c = true) (hd : isDigit d = false) : c ≠ d :=
  fun e => by rw [e, hd] at hc; cases hc

theorem isDigit_digitChar : ∀ d, d < 10 → isDigit (digitChar d) = true := by decide

theorem digitVal_digitChar : ∀ d, d < 10 → digitVal (digitChar d) = d := by decide

theorem digitChar_ne_zero : ∀ d, d < 10 → d ≠ 0 → digitChar d ≠ '0' := by decide

/-- `f` writes a number in base `b`, most significant digit first, without leading zero. -/
def WritesBase (b : Nat) (digit : Nat → Char) (f : Nat → List Char) : Prop :=
  ∀ n, f n = if n < b then [digit n] else f (n / b) ++ [digit (n % b)]

theorem natDigits_writes : WritesBase 10 digitChar natDigits := fun n => natDigits.eq_def n

section
variable {b : Nat} {digit : Nat → Char} {f : Nat → List Char}

theorem WritesBase.all (hf : WritesBase b digit f) (hb : 1 < b) (P : Char → Prop)
    (hP : ∀ d, d < b → P (digit d)) (n : Nat) : ∀ c ∈ f n, P c := by
  induction n using Nat.strongRecOn with
  | _ n ih =>
    rw [hf n]
    split
    · next h =>
      intro c hc
      rw [List.mem_singleton.mp hc]
      exact hP n h
    · next h =>
      intro c hc
      rcases List.mem_append.mp hc with hc | hc
      · exact ih (n / b) (Nat.div_lt_self (by omega) hb) c hc
      · rw [List.mem_singleton.mp hc]
        exact hP _ (Nat.mod_lt _ (by omega))

theorem WritesBase.length_le (hf : WritesBase b digit f) (w : Nat) :
    ∀ n, n < b ^ w → 1 ≤ w → (f n).length ≤ w := by
  induction w with
  | zero => intro n _ h; omega
  | succ w ih =>
    intro n hn _
    rw [hf n]
    split
    · exact Nat.succ_le_succ (Nat.zero_le w)
    · next hnb =>
      have hw : 1 ≤ w := by
        rcases w with _ | w
        · rw [Nat.pow_one] at hn; exact absurd hn hnb
        · omega
      have hdiv : n / b < b ^ w := Nat.div_lt_of_lt_mul (by rw [← Nat.pow_succ']; exact hn)
      have := ih (n / b) hdiv hw
      rw [List.length_append, List.length_singleton]
      omega

theorem WritesBase.ne_nil (hf : WritesBase b digit f) (n : Nat) : f n ≠ [] := by
  rw [hf n]; split <;> simp

/-- `emb` embeds the numbers into the state of the reading fold: `id` for a plain value, `some` for a reader that
can fail. -/
theorem WritesBase.foldl {σ : Type} (hf : WritesBase b digit f) (hb : 1 < b) (step : σ → Char → σ)
    (emb : Nat → σ) (h : ∀ a d, d < b → step (emb a) (digit d) = emb (a * b + d)) (n : Nat) :
    (f n).foldl step (emb 0) = emb n := by
  induction n using Nat.strongRecOn with
  | _ n ih =>
    rw [hf n]
    split
    · next hn => rw [List.foldl_cons, List.foldl_nil, h 0 n hn, Nat.zero_mul, Nat.zero_add]
    · next hn =>
      rw [List.foldl_append, ih (n / b) (Nat.div_lt_self (by omega) hb), List.foldl_cons, List.foldl_nil,
        h _ _ (Nat.mod_lt _ (by omega)), Nat.div_add_mod']

end

theorem natDigits_all_digits (n : Nat) : ∀ c ∈ natDigits n, isDigit c = true :=
  natDigits_writes.all (by decide) _ isDigit_digitChar n

theorem digitsToNat_natDigits (n : Nat) : digitsToNat (natDigits n) = n :=
  natDigits_writes.foldl (by decide) _ id (fun a d hd => by rw [digitVal_digitChar d hd]; rfl) n

theorem natDigits_head (n : Nat) :
    ∃ c ds, natDigits n = c :: ds ∧ isDigit c = true ∧ (n = 0 → c = '0' ∧ ds = []) ∧ (n ≠ 0 → c ≠ '0') := by
  fun_induction natDigits n with
  | case1 n h =>
    exact ⟨digitChar n, [], rfl, isDigit_digitChar n h, fun h0 => by subst h0; exact ⟨rfl, rfl⟩, digitChar_ne_zero n h⟩
  | case2 n h ih =>
    obtain ⟨c, ds, heq, hd, _, hnz⟩ := ih
    exact ⟨c, ds ++ [digitChar (n % 10)], by rw [heq]; rfl, hd, fun h0 => by omega, fun _ => hnz (by omega)⟩

/-- the next character cannot continue a number -/
def numEnd (rest : List Char) : Prop :=
  ∀ c r, rest = c :: r → isDigit c = false ∧ c ≠ '.' ∧ c ≠ 'e' ∧ c ≠ 'E'

theorem takeDigits_append (ds rest : List Char) (hd : ∀ c ∈ ds, isDigit c = true)
    (hr : ∀ c r, rest = c :: r → isDigit c = false) : takeDigits (ds ++ rest) = (ds, rest) := by
  induction ds with
  | nil =>
    cases rest with
    | nil => rfl
    | cons c r => simp [takeDigits, hr c r rfl]
  | cons d t ih =>
    have h1 := hd d (by simp)
    simp [takeDigits, h1, ih (fun c hc => hd c (by simp [hc]))]

theorem parseExp_end (neg : Bool) (ids pre rest : List Char) (hr : numEnd rest) :
    parseExp neg ids pre false rest = some (classifyInt neg ids, rest) := by
  unfold parseExp
  cases rest with
  | nil => simp
  | cons c r =>
    obtain ⟨_, _, h2, h3⟩ := hr c r rfl
    simp [h2, h3]

theorem parseFrac_end (neg : Bool) (ids pre rest : List Char) (hr : numEnd rest) :
    parseFrac neg ids pre rest = some (classifyInt neg ids, rest) := by
  unfold parseFrac
  cases rest with
  | nil => simp [parseExp_end neg ids pre [] hr]
  | cons c r =>
    obtain ⟨_, h1, _, _⟩ := hr c r rfl
    simp [h1, parseExp_end neg ids pre (c :: r) hr]

theorem parseUnsigned_natDigits (neg : Bool) (sign : List Char) (n : Nat) (rest : List Char)
    (hr : numEnd rest) :
    parseUnsigned neg sign (natDigits n ++ rest) = some (classifyInt neg (natDigits n), rest) := by
  obtain ⟨c, ds, heq, hd, hz, hnz⟩ := natDigits_head n
  have hall := natDigits_all_digits n
  rw [heq] at hall ⊢
  unfold parseUnsigned
  by_cases h0 : n = 0
  · obtain ⟨hc, hds⟩ := hz h0
    subst hc; subst hds
    cases rest with
    | nil => simp [parseFrac_end neg ['0'] _ [] hr]
    | cons d r =>
      have := (hr d r rfl).1
      simp [this, parseFrac_end neg ['0'] _ (d :: r) hr]
  · have hc0 := hnz h0
    have htd : takeDigits (ds ++ rest) = (ds, rest) :=
      takeDigits_append ds rest (fun x hx => hall x (by simp [hx])) (fun x r hx => (hr x r hx).1)
    simp [hc0, hd, htd, parseFrac_end neg (c :: ds) _ rest hr]

/-- integers in the range serde_json classifies as integers -/
def intInRange (i : Int) : Prop := -9223372036854775808 ≤ i ∧ i < 18446744073709551616

theorem parseNumber_renderInt (i : Int) (rest : List Char) (hi : intInRange i) (hr : numEnd rest) :
    parseNumber (renderInt i ++ rest) = some (.num i, rest) := by
  cases i with
  | ofNat n =>
    obtain ⟨c, ds, hds, hd, _, _⟩ := natDigits_head n
    have heq : natDigits n ++ rest = c :: (ds ++ rest) := by rw [hds]; rfl
    have hc : c ≠ '-' := ne_of_isDigit hd rfl
    simp only [renderInt]
    unfold parseNumber
    rw [heq]
    simp only [hc, if_false]
    rw [← heq, parseUnsigned_natDigits false [] n rest hr]
    have hn : n < 18446744073709551616 := by
      have := hi.2
      simp at this
      omega
    simp [classifyInt, digitsToNat_natDigits, hn]
  | negSucc m =>
    simp only [renderInt, List.cons_append]
    unfold parseNumber
    simp only [if_true]
    rw [parseUnsigned_natDigits true ['-'] (m + 1) rest hr]
    have hm : m + 1 ≤ 9223372036854775808 := by
      have := hi.1
      omega
    simp [classifyInt, digitsToNat_natDigits, hm, Int.negSucc_eq]

mutual
/-- What the printer writes so that the reader gives it back: no `.flt`, no `.junk`, every `.num` in `i64 ∪ u64`
(`intInRange`); the hypothesis of `render_all` and `need_all`. -/
def Printable : Json → Prop
  | .null => True
  | .bool _ => True
  | .str _ => True
  | .num i => intInRange i
  | .flt _ => False
  | .junk => False
  | .arr xs => PrintableList xs
  | .obj kvs => PrintableFields kvs
def PrintableList : List Json → Prop
  | [] => True
  | x :: xs => Printable x ∧ PrintableList xs
def PrintableFields : List (String × Json) → Prop
  | [] => True
  | (_, v) :: r => Printable v ∧ PrintableFields r
end

mutual
/-- Fuel that suffices for `parseValue` to read `render j` back (`render_all`): at most twice the length of the text
(`need_all`), and `parseText` supplies `2 * length + 2`. -/
def need : Json → Nat
  | .arr xs => 1 + needList xs
  | .obj kvs => 1 + needFields kvs
  | _ => 1
def needList : List Json → Nat
  | [] => 1
  | x :: xs => 1 + need x + needList xs
def needFields : List (String × Json) → Nat
  | [] => 1
  | (_, v) :: r => 2 + need v + needFields r
end

/-- a character a value can start with -/
def startOk (c : Char) : Prop :=
  isWs c = false ∧ c ≠ ']' ∧ c ≠ '}'

instance (c : Char) : Decidable (startOk c) := by unfold startOk; exact inferInstance

theorem skipWs_cons (c : Char) (cs : List Char) (h : isWs c = false) : skipWs (c :: cs) = c :: cs := by
  simp [skipWs, h]

theorem digit_facts (c : Char) (h : isDigit c = true) :
    isWs c = false ∧ c ≠ ']' ∧ c ≠ '}' ∧ c ≠ 'n' ∧ c ≠ 't' ∧ c ≠ 'f' ∧ c ≠ '"' ∧ c ≠ '[' ∧ c ≠ '{' := by
  simp only [isWs, Bool.or_eq_false_iff, beq_eq_false_iff_ne]
  refine ⟨⟨⟨⟨?_, ?_⟩, ?_⟩, ?_⟩, ?_, ?_, ?_, ?_, ?_, ?_, ?_, ?_⟩ <;> exact ne_of_isDigit h rfl

theorem renderInt_head (i : Int) :
    ∃ c r, renderInt i = c :: r ∧ (c = '-' ∨ isDigit c = true) := by
  cases i with
  | ofNat n =>
    obtain ⟨c, ds, heq, hd, _, _⟩ := natDigits_head n
    exact ⟨c, ds, by simp [renderInt, heq], Or.inr hd⟩
  | negSucc m => exact ⟨'-', natDigits (m + 1), rfl, Or.inl rfl⟩

theorem render_head (j : Json) (h : Printable j) : ∃ c r, render j = c :: r ∧ startOk c := by
  -- here and below, case `k` is the `k`-th equation of `render` as written: 4 `.num`, 5 `.flt`, 6 `.str`, 8 / 10 a non-empty
  -- `.arr` / `.obj`, 11 `.junk`; in `render.mutual_induct` 13 and 15 are the `cons` equations of `renderElems`, `renderMembers`
  fun_cases render j
  case case4 i =>
    obtain ⟨c, r, heq, hc⟩ := renderInt_head i
    refine ⟨c, r, heq, ?_⟩
    rcases hc with rfl | hc
    · decide
    · have := digit_facts c hc
      exact ⟨this.1, this.2.1, this.2.2.1⟩
  case case5 | case11 => exact h.elim
  all_goals exact ⟨_, _, rfl, by decide⟩

theorem numEnd_nil : numEnd [] := by intro c r h; cases h
theorem numEnd_cons (c : Char) (r : List Char) (h : isDigit c = false ∧ c ≠ '.' ∧ c ≠ 'e' ∧ c ≠ 'E') :
    numEnd (c :: r) := by
  intro c' r' heq; cases heq; exact h

theorem renderElems_head (xs : List Json) (rest : List Char) : numEnd (renderElems xs ++ rest) := by
  fun_cases renderElems xs <;> exact numEnd_cons _ _ (by decide)

theorem renderMembers_head (kvs : List (String × Json)) (rest : List Char) :
    numEnd (renderMembers kvs ++ rest) := by
  fun_cases renderMembers kvs <;> exact numEnd_cons _ _ (by decide)

theorem parseValue_num (fuel : Nat) (i : Int) (rest : List Char) (hi : intInRange i) (hr : numEnd rest) :
    parseValue (fuel + 1) (renderInt i ++ rest) = some (.num i, rest) := by
  obtain ⟨c, r, heq, hc⟩ := renderInt_head i
  have hnum := parseNumber_renderInt i rest hi hr
  rw [heq] at hnum ⊢
  simp only [List.cons_append] at hnum ⊢
  rcases hc with hc | hc
  · subst hc
    simp [parseValue, skipWs, isWs, hnum]
  · obtain ⟨h1, _, _, h4, h5, h6, h7, h8, h9⟩ := digit_facts c hc
    simp [parseValue, skipWs, h1, h4, h5, h6, h7, h8, h9, hc, hnum]

theorem collectKeys_some (kvs : List (String × Json)) :
    collectKeys (kvs.map (fun kv => (some kv.1, kv.2))) = some kvs := by
  induction kvs with
  | nil => rfl
  | cons kv t ih => obtain ⟨k, v⟩ := kv; simp [collectKeys, ih]

theorem need_pos (j : Json) : 0 < need j := by fun_cases need j <;> omega

theorem needList_pos (xs : List Json) : 0 < needList xs := by fun_cases needList xs <;> omega

theorem needFields_pos (kvs : List (String × Json)) : 0 < needFields kvs := by fun_cases needFields kvs <;> omega

theorem parseMember_of_value (k : String) (v : Json) (f : Nat) (rest : List Char)
    (hv : parseValue f (render v ++ rest) = some (v, rest)) :
    parseMember (f + 1) (renderStr k ++ ':' :: render v ++ rest) = some ((some k, v), rest) := by
  have hs := parseStrBody_renderStr k (':' :: (render v ++ rest))
  rw [parseMember]
  simp [renderStr, skipWs, isWs, hs, hv]

/-- By the printer's own recursion (`render.mutual_induct`: a non-empty array is its first element and the rest as a
list; objects alike).  The fuel is written `f + 1`: `need` is positive. -/
theorem render_all :
    (∀ j f rest, Printable j → need j ≤ f + 1 → numEnd rest →
      parseValue (f + 1) (render j ++ rest) = some (j, rest)) ∧
    (∀ kvs f rest, PrintableFields kvs → needFields kvs ≤ f + 1 →
      parseMembers (f + 1) (renderMembers kvs ++ rest) = some (kvs.map (fun kv => (some kv.1, kv.2)), rest)) ∧
    (∀ xs f rest, PrintableList xs → needList xs ≤ f + 1 →
      parseElems (f + 1) (renderElems xs ++ rest) = some (xs, rest)) := by
  apply render.mutual_induct
  case case4 => exact fun i f rest hp _ hr => by simpa [render] using parseValue_num f i rest hp hr
  case case5 => exact fun _ _ _ h => h.elim
  case case11 => exact fun _ _ h => h.elim
  case case6 =>
    intro s f rest _ _ _
    have := parseStrBody_renderStr s rest
    simp [render, renderStr, parseValue, skipWs, isWs, this]
  case case8 =>
    intro x xs h1 h2 f rest hp hf _
    obtain ⟨g, rfl, hx, hxs⟩ : ∃ g, f = g + 1 ∧ need x ≤ g + 1 ∧ needList xs ≤ g + 1 :=
      ⟨f - 1, by simp only [need, needList] at hf; omega⟩
    obtain ⟨c, r, hc, hs⟩ := render_head x hp.1
    have hv := h1 g (renderElems xs ++ rest) hp.1 hx (renderElems_head xs rest)
    have he := h2 g rest hp.2 hxs
    have hsk : skipWs (render x ++ (renderElems xs ++ rest)) = c :: (r ++ (renderElems xs ++ rest)) := by
      rw [hc]; exact skipWs_cons c _ hs.1
    simp only [render, List.cons_append, List.append_assoc]
    rw [parseValue]
    simp only [skipWs, isWs]
    simp [hsk, hs.2.1, hv, he]
  case case10 =>
    intro k v kvs h1 h2 f rest hp hf _
    obtain ⟨g, rfl, hv, hkvs⟩ : ∃ g, f = g + 2 ∧ need v ≤ g + 1 ∧ needFields kvs ≤ g + 2 :=
      ⟨f - 2, by simp only [need, needFields] at hf; omega⟩
    have hm := parseMember_of_value k v (g + 1) (renderMembers kvs ++ rest)
      (h1 g _ hp.1 hv (renderMembers_head kvs rest))
    have hms := h2 (g + 1) rest hp.2 hkvs
    simp only [render, renderStr, List.cons_append, List.append_assoc, List.nil_append] at hm ⊢
    rw [parseValue]
    simp [skipWs, isWs, hm, hms, objOfMembers, collectKeys, collectKeys_some]
  case case13 =>
    intro x t h1 h2 f rest hp hf
    have := need_pos x
    obtain ⟨g, rfl, hx, ht⟩ : ∃ g, f = g + 1 ∧ need x ≤ g + 1 ∧ needList t ≤ g + 1 :=
      ⟨f - 1, by simp only [needList] at hf; omega⟩
    have hv := h1 g (renderElems t ++ rest) hp.1 hx (renderElems_head t rest)
    have he := h2 g rest hp.2 ht
    simp only [renderElems, List.cons_append, List.append_assoc]
    rw [parseElems]
    simp [skipWs, isWs, hv, he]
  case case15 =>
    intro k v t h1 h2 f rest hp hf
    have := need_pos v
    obtain ⟨g, rfl, hv, ht⟩ : ∃ g, f = g + 2 ∧ need v ≤ g + 1 ∧ needFields t ≤ g + 2 :=
      ⟨f - 2, by simp only [needFields] at hf; omega⟩
    have hm := parseMember_of_value k v (g + 1) (renderMembers t ++ rest)
      (h1 g _ hp.1 hv (renderMembers_head t rest))
    have hms := h2 (g + 1) rest hp.2 ht
    simp only [renderMembers, List.cons_append, List.append_assoc]
    rw [parseMembers]
    simp only [List.append_assoc, List.cons_append] at hm
    simp [skipWs, isWs, hm, hms]
  -- literals, empty array and object, ends of the element and member lists: read off the text
  all_goals
    intros
    simp [render, renderElems, renderMembers, parseValue, parseElems, parseMembers, skipWs, isWs, stripPrefix]

theorem parseValue_render (j : Json) (fuel : Nat) (rest : List Char) (hp : Printable j)
    (hf : need j ≤ fuel) (hr : numEnd rest) :
    parseValue fuel (render j ++ rest) = some (j, rest) :=
  match fuel, hf with
  | 0, hf => absurd hf (Nat.not_le.mpr (need_pos j))
  | f + 1, hf => render_all.1 j f rest hp hf hr

theorem parseElems_render (xs : List Json) (fuel : Nat) (rest : List Char) (hp : PrintableList xs)
    (hf : needList xs ≤ fuel) :
    parseElems fuel (renderElems xs ++ rest) = some (xs, rest) :=
  match fuel, hf with
  | 0, hf => absurd hf (Nat.not_le.mpr (needList_pos xs))
  | f + 1, hf => render_all.2.2 xs f rest hp hf

theorem parseMember_render (k : String) (v : Json) (fuel : Nat) (rest : List Char) (hp : Printable v)
    (hf : 1 + need v ≤ fuel) (hr : numEnd rest) :
    parseMember fuel (renderStr k ++ ':' :: render v ++ rest) = some ((some k, v), rest) :=
  match fuel, hf with
  | 0, hf => absurd hf (by omega)
  | f + 1, hf => parseMember_of_value k v f rest (parseValue_render v f rest hp (by omega) hr)

theorem parseMembers_render (kvs : List (String × Json)) (fuel : Nat) (rest : List Char)
    (hp : PrintableFields kvs) (hf : needFields kvs ≤ fuel) :
    parseMembers fuel (renderMembers kvs ++ rest)
      = some (kvs.map (fun kv => (some kv.1, kv.2)), rest) :=
  match fuel, hf with
  | 0, hf => absurd hf (Nat.not_le.mpr (needFields_pos kvs))
  | f + 1, hf => render_all.2.1 kvs f rest hp hf

/-- The induction of `render_all` once more: each equation of the printer adds at most twice as many units of fuel to
`need` as it prints characters of its own. -/
theorem need_all :
    (∀ j, Printable j → need j ≤ 2 * (render j).length) ∧
    (∀ kvs, PrintableFields kvs → needFields kvs ≤ 2 * (renderMembers kvs).length) ∧
    (∀ xs, PrintableList xs → needList xs ≤ 2 * (renderElems xs).length) := by
  apply render.mutual_induct
  case case4 =>
    intro i _
    obtain ⟨c, r, h, _⟩ := renderInt_head i
    simp only [need, render, h, List.length_cons]
    omega
  case case6 => intro s _; simp [need, render, renderStr]; omega
  case case5 => exact fun _ h => h.elim
  case case11 => exact fun h => h.elim
  case case8 | case13 =>
    intro x xs h1 h2 hp
    have := h1 hp.1
    have := h2 hp.2
    simp only [need, needList, render, renderElems, List.length_cons, List.length_append]
    omega
  case case10 | case15 =>
    intro k v kvs h1 h2 hp
    have := h1 hp.1
    have := h2 hp.2
    simp only [need, needFields, render, renderMembers, List.length_cons, List.length_append]
    omega
  all_goals exact fun _ => by simp [need, needList, needFields, render, renderElems, renderMembers]

theorem need_le (j : Json) (hp : Printable j) : need j ≤ 2 * (render j).length := need_all.1 j hp

theorem needList_le (xs : List Json) (hp : PrintableList xs) :
    needList xs ≤ 2 * (renderElems xs).length := need_all.2.2 xs hp

theorem needFields_le (kvs : List (String × Json)) (hp : PrintableFields kvs) :
    needFields kvs ≤ 2 * (renderMembers kvs).length := need_all.2.1 kvs hp

theorem parseText_render (j : Json) (hp : Printable j) : parseText (render j) = some j := by
  have hn := need_le j hp
  have h := parseValue_render j (2 * (render j).length + 2) [] hp (by omega) numEnd_nil
  simp only [List.append_nil] at h
  simp [parseText, h, skipWs]

theorem render_injective (j j' : Json) (hp : Printable j) (hp' : Printable j')
    (h : render j = render j') : j = j' := by
  have h1 := parseText_render j hp
  rw [h, parseText_render j' hp'] at h1
  exact (Option.some.inj h1).symm

theorem printable_serOption {α} (s : α → Json) (o : Option α) (h : ∀ a, Printable (s a)) :
    Printable (serOption s o) := by
  cases o with
  | none => simp [serOption, Printable]
  | some a => exact h a

theorem printable_str (s : String) : Printable (.str s) := by simp [Printable]
theorem printable_bool (b : Bool) : Printable (.bool b) := by simp [Printable]

theorem printable_serU16 (c : UInt16) : Printable (serU16 c) := by
  have h : c.toNat < 65536 := UInt16.toNat_lt c
  simp only [serU16, Printable, intInRange, Int.ofNat_eq_natCast]
  constructor <;> omega

theorem printableList_map {α} (s : α → Json) (l : List α) (h : ∀ a, Printable (s a)) :
    PrintableList (l.map s) := by
  induction l with
  | nil => simp [PrintableList]
  | cons a t ih => simp [PrintableList, h a, ih]

theorem printable_serVec {α} (s : α → Json) (l : List α) (h : ∀ a, Printable (s a)) :
    Printable (serVec s l) := by
  simp only [serVec, Printable]; exact printableList_map s l h

theorem printable_serSet (l : List String) : Printable (serSet l) := by
  simp only [serSet, Printable]; exact printableList_map _ l printable_str

theorem printable_optStr (o : Option String) : Printable (serOption .str o) :=
  printable_serOption _ o printable_str

theorem printable_optBool (o : Option Bool) : Printable (serOption .bool o) :=
  printable_serOption _ o printable_bool

theorem printable_vecStr (l : List String) : Printable (serVec .str l) :=
  printable_serVec _ l printable_str

attribute [local simp] Printable PrintableFields printable_serOption printable_serVec printable_serSet
  printable_serU16 printable_optStr printable_optBool printable_vecStr

theorem printable_serHeaderFilter (f : HeaderFilter) : Printable (serHeaderFilter f) := by
  simp [serHeaderFilter]

theorem printable_serBodyFilter (f : BodyFilter) : Printable (serBodyFilter f) := by
  cases f <;> simp [serBodyFilter, serTextBodyFilter, serHtmlBodyFilter]

theorem printable_serStatusCodeUpdate (s : StatusCodeUpdate) : Printable (serStatusCodeUpdate s) := by
  simp [serStatusCodeUpdate]

theorem printable_serLogOverride (l : LogOverride) : Printable (serLogOverride l) := by
  simp [serLogOverride]

theorem printable_serRuleTrace (t : RuleTrace) : Printable (serRuleTrace t) := by
  simp [serRuleTrace]

theorem printable_serHeaderFilterAction (f : HeaderFilterAction) :
    Printable (serHeaderFilterAction f) := by
  simp [serHeaderFilterAction, printable_serHeaderFilter]

theorem printable_serBodyFilterAction (f : BodyFilterAction) :
    Printable (serBodyFilterAction f) := by
  simp [serBodyFilterAction, printable_serBodyFilter]

theorem printable_serAction (a : Action) : Printable (serAction a) := by
  simp [serAction, printable_serStatusCodeUpdate, printable_serHeaderFilterAction, printable_serBodyFilterAction,
    printable_serRuleTrace, printable_serLogOverride]

theorem printable_serHeader (h : Header) : Printable (serHeader h) := by
  simp [serHeader]

theorem printable_serPathAndQuery (p : PathAndQuery) : Printable (serPathAndQuery p) := by
  simp [serPathAndQuery]

theorem printable_serRequest (q : Request) : Printable (serRequest q) := by
  have h2 := printable_serOption (fun x : Ip => Json.str (String.ofList (showIp x))) q.remote_addr
    (fun _ => printable_str _)
  have h3 := printable_serOption (fun d : DateTime => Json.str (String.ofList (showDt d))) q.created_at
    (fun _ => printable_str _)
  simp [serRequest, printable_serPathAndQuery, printable_serHeader, h2, h3]

end Rio.Json
