/-
Model of `src/regex.rs` (`LazyRegex`) and `src/regex_radix_tree/{item,leaf,node,tree,iter,trace}.rs`.

* The regex engine is the parameter `E : Engine` (Model/Regex.lean): `^p$` / `^q` compile? match?
* `HashMap<String, V>` of a leaf is an association list with unique keys (`upsert`, `eraseKey`,
  `retainVals`); the real iteration order is arbitrary, so observations are compared after sorting.
* `&mut self` / consuming methods return the new item.  `Vec::remove(i)` + `push` of `Node::insert`
  is `insertAt` (the child moves to the end, exactly as in the code).
* `LazyRegex.compiled` is the compiled VALUE (`Option Compiled`, identified by the string and flag it was built from), not a
  flag: `is_match` runs the stored value, `compile` stores `create_regex()` of the current fields, and "the stored value is what
  `create_regex` builds now" is part of the invariant (`LazyRegex.consistent`), preserved by every operation.
* `u64` arithmetic of `cache`: the only subtraction sites are `left - 1` in `Leaf::cache` and
  `left -= 1` in `Node::cache`; an underflow there would be a panic (overflow checks) and is an explicit
  `none` here – `Props/C12.lean` proves it never happens (`cache_total`).
-/
import RioModel.Model.Regex

namespace Rio.Tree
open Rio.Scan Rio.Regex

/-- The `regex` string of a `LazyRegex`, structurally: `new_leaf` builds `"^" + p + "$"`, `new_node` builds
`"^" + q`, or `".*"` when the prefix is empty. -/
inductive RxSrc where
  | leaf (p : List Char)
  | node (q : List Char)
  | any
deriving DecidableEq, Repr

/-- The string itself (what `verif_snapshot()` shows as `regex`). -/
def RxSrc.toStr : RxSrc → List Char
  | .leaf p => '^' :: (p ++ ['$'])
  | .node q => '^' :: q
  | .any => ['.', '*']

/-- An `Arc<Regex>`: a compiled regex VALUE.  It is identified by the inputs `RegexBuilder::new(src)
.case_insensitive(ic).build()` was called with when it was built – which need not be the current fields of the
`LazyRegex` that holds it (that they are is an invariant: `LazyRegex.consistent`). -/
structure Compiled where
  src : RxSrc
  ic : Bool
deriving DecidableEq, Repr

/-- `regex.rs::LazyRegex`: `original`, `regex`, `ignore_case`, and the cached value `compiled: Option<Arc<Regex>>`. -/
structure LazyRegex where
  original : List Char
  regex : RxSrc
  ic : Bool
  compiled : Option Compiled
deriving DecidableEq, Repr

/-- `LazyRegex::new_node(regex, ignore_case)`. -/
def LazyRegex.newNode (q : List Char) (ic : Bool) : LazyRegex :=
  ⟨q, if q.isEmpty then .any else .node q, ic, none⟩

/-- `LazyRegex::new_leaf(regex, ignore_case)`. -/
def LazyRegex.newLeaf (p : List Char) (ic : Bool) : LazyRegex := ⟨p, .leaf p, ic, none⟩

/-- `self.compiled.is_some()`. -/
def LazyRegex.isCompiled (rx : LazyRegex) : Bool := rx.compiled.isSome

section
variable (E : Engine)

/-- `RegexBuilder::new(src).case_insensitive(ic).build().is_ok()` for the inputs of the value. -/
def Compiled.ok (c : Compiled) : Bool :=
  match c.src with
  | .leaf p => E.leafOk c.ic p
  | .node q => E.nodeOk c.ic q
  | .any => true

/-- `Regex::is_match` of the value built from these inputs (`false` if they do not build: the engine's `full` /
`pre` mean "compiles and matches"). -/
def Compiled.run (c : Compiled) (s : List Char) : Bool :=
  match c.src with
  | .leaf p => E.full c.ic p s
  | .node q => E.pre c.ic q s
  | .any => true

/-- `LazyRegex::create_regex`: built from the CURRENT fields `self.regex`, `self.ignore_case`; `none` = `Err`. -/
def LazyRegex.createRegex (rx : LazyRegex) : Option Compiled :=
  let c : Compiled := ⟨rx.regex, rx.ic⟩
  if c.ok E then some c else none

/-- `create_regex().is_some()`. -/
def LazyRegex.createOk (rx : LazyRegex) : Bool := (rx.createRegex E).isSome

/-- `LazyRegex::is_match`: the STORED value when there is one; otherwise the `original.is_empty()` shortcut, else
`match self.create_regex() { None => false, Some(r) => r.is_match(value) }`. -/
def LazyRegex.isMatch (rx : LazyRegex) (s : List Char) : Bool :=
  match rx.compiled with
  | some c => c.run E s
  | none =>
    if rx.original.isEmpty then true
    else (⟨rx.regex, rx.ic⟩ : Compiled).run E s

/-- `LazyRegex::compile`: same fields, `compiled = self.create_regex()`. -/
def LazyRegex.compile (rx : LazyRegex) : LazyRegex := { rx with compiled := rx.createRegex E }

end

/-- The cached value, if any, is what `create_regex` builds from the current fields. -/
def LazyRegex.consistent (rx : LazyRegex) : Bool :=
  match rx.compiled with
  | none => true
  | some c => c == ⟨rx.regex, rx.ic⟩

/-- A leaf's regex: `regex` is `^original$`, and the cache is consistent. -/
def LazyRegex.leafWf (rx : LazyRegex) : Bool := rx.regex == .leaf rx.original && rx.consistent

/-- A node's regex: `regex` is `^original` (`.*` for the empty prefix), and the cache is consistent. -/
def LazyRegex.nodeWf (rx : LazyRegex) : Bool :=
  rx.regex == (if rx.original.isEmpty then .any else .node rx.original) && rx.consistent

/-- `item.rs::Item`. -/
inductive Item (ι V : Type) where
  | empty (ic : Bool)
  | node (rx : LazyRegex) (children : List (Item ι V))
  | leaf (rx : LazyRegex) (values : List (ι × V))
deriving Repr

/-- One stored value with its pattern and id. -/
structure Entry (ι V : Type) where
  pat : List Char
  id : ι
  val : V
deriving DecidableEq, Repr

section
variable {ι V : Type} [DecidableEq ι]

/-! ### `HashMap<String, V>` -/

/-- `HashMap::insert`. -/
def upsert : List (ι × V) → ι → V → List (ι × V)
  | [], id, v => [(id, v)]
  | (k, w) :: rest, id, v => if k = id then (k, v) :: rest else (k, w) :: upsert rest id v

/-- `HashMap::remove` – the value. -/
def lookupKey : List (ι × V) → ι → Option V
  | [], _ => none
  | (k, w) :: rest, id => if k = id then some w else lookupKey rest id

/-- `HashMap::remove` – the map afterwards. -/
def eraseKey : List (ι × V) → ι → List (ι × V)
  | [], _ => []
  | (k, w) :: rest, id => if k = id then rest else (k, w) :: eraseKey rest id

/-! ### Item -/

/-- `Item::regex`. -/
def Item.regex : Item ι V → List Char
  | .empty _ => []
  | .node rx _ => rx.original
  | .leaf rx _ => rx.original

/-- `Leaf::new`. -/
def newLeafItem (p : List Char) (id : ι) (v : V) (ic : Bool) : Item ι V :=
  .leaf (LazyRegex.newLeaf p ic) [(id, v)]

/-- `Leaf::insert`. -/
def leafInsert (rx : LazyRegex) (vs : List (ι × V)) (p : List Char) (id : ι) (v : V) : Item ι V :=
  if p = rx.original then .leaf rx (upsert vs id v)
  else
    .node (LazyRegex.newNode (commonPrefix rx.original p) rx.ic)
      [.leaf rx vs, .leaf (LazyRegex.newLeaf p rx.ic) [(id, v)]]

/-- The child-selection loop of `Node::insert` over the children's `regex()`:
`i` current index, `mx` = `max_prefix_size`, `item` = `max_prefix_item`. -/
def selLoop (p : List Char) : List (List Char) → Nat → Nat → Option Nat → Option Nat
  | [], _, _, item => item
  | r :: rs, i, mx, item =>
    let ps := commonPrefixCharSize p r
    if ps > mx || (item.isNone && r == p) then selLoop p rs (i + 1) ps (some i)
    else selLoop p rs (i + 1) mx item

mutual
/-- `Item::insert` / `Node::insert`. -/
def Item.insert : Item ι V → List Char → ι → V → Item ι V
  | .empty ic, p, id, v => newLeafItem p id v ic
  | .leaf rx vs, p, id, v => leafInsert rx vs p id v
  | .node rx cs, p, id, v =>
    let mx := rx.original.length                       -- `chars().count()` (repaired, D11)
    let ps := commonPrefixCharSize p rx.original
    if ps < mx then
      .node (LazyRegex.newNode (getPrefixWithCharSize rx.original ps) rx.ic)
        [newLeafItem p id v rx.ic, .node rx cs]
    else
      match selLoop p (cs.map Item.regex) 0 mx none with
      | some i => .node rx (insertAt cs i p id v)
      | none => .node rx (cs ++ [newLeafItem p id v rx.ic])
/-- `let c = children.remove(i); children.push(c.insert(..))`.  The index comes from `selLoop` and is
in range (`Proofs/TreeInsert.lean: selLoop_lt`); the `[]` case is unreachable. -/
def insertAt : List (Item ι V) → Nat → List Char → ι → V → List (Item ι V)
  | [], _, _, _, _ => []
  | c :: cs, 0, p, id, v => cs ++ [Item.insert c p id v]
  | c :: cs, i + 1, p, id, v => c :: insertAt cs i p id v
end

variable (E : Engine)

mutual
/-- `Item::find` / `Node::find` / `Leaf::find`. -/
def Item.find : Item ι V → List Char → List V
  | .empty _, _ => []
  | .leaf rx vs, s => if rx.isMatch E s then vs.map (·.2) else []
  | .node rx cs, s => if rx.isMatch E s then findL cs s else []
def findL : List (Item ι V) → List Char → List V
  | [], _ => []
  | c :: cs, s => Item.find c s ++ findL cs s
end

variable {E}

mutual
/-- `Item::get` / `Node::get` (`regex.starts_with(prefix)`) / `Leaf::get`. -/
def Item.get : Item ι V → List Char → List V
  | .empty _, _ => []
  | .leaf rx vs, p => if rx.original = p then vs.map (·.2) else []
  | .node rx cs, p => if rx.original.isPrefixOf p then getL cs p else []
def getL : List (Item ι V) → List Char → List V
  | [], _ => []
  | c :: cs, p => Item.get c p ++ getL cs p
end

mutual
/-- `Item::get_mut(regex)` followed by an in-place update `*v = g(id, *v)` of every value it returned (same traversal
as `get`: a node is entered iff `regex.starts_with(prefix)`, a leaf is taken iff its pattern is `regex`). -/
def Item.modifyAt : Item ι V → List Char → (ι → V → V) → Item ι V
  | .empty ic, _, _ => .empty ic
  | .leaf rx vs, p, g => if rx.original = p then .leaf rx (vs.map fun kv => (kv.1, g kv.1 kv.2)) else .leaf rx vs
  | .node rx cs, p, g => if rx.original.isPrefixOf p then .node rx (modifyAtL cs p g) else .node rx cs
def modifyAtL : List (Item ι V) → List Char → (ι → V → V) → List (Item ι V)
  | [], _, _ => []
  | c :: cs, p, g => Item.modifyAt c p g :: modifyAtL cs p g
end

mutual
/-- `Item::len`. -/
def Item.len : Item ι V → Nat
  | .empty _ => 0
  | .leaf _ vs => vs.length
  | .node _ cs => lenL cs
def lenL : List (Item ι V) → Nat
  | [] => 0
  | c :: cs => Item.len c + lenL cs
end

mutual
/-- `Item::is_empty` (`Node::is_empty`: every child is empty). -/
def Item.isEmpty : Item ι V → Bool
  | .empty _ => true
  | .leaf _ vs => vs.isEmpty
  | .node _ cs => isEmptyL cs
def isEmptyL : List (Item ι V) → Bool
  | [] => true
  | c :: cs => Item.isEmpty c && isEmptyL cs
end

mutual
/-- `Item::cached_len`. -/
def Item.cachedLen : Item ι V → Nat
  | .empty _ => 0
  | .leaf rx _ => if rx.isCompiled then 1 else 0
  | .node rx cs => (if rx.isCompiled then 1 else 0) + cachedLenL cs
def cachedLenL : List (Item ι V) → Nat
  | [] => 0
  | c :: cs => Item.cachedLen c + cachedLenL cs
end

mutual
/-- All stored entries in tree order (what `iter()` walks; the specification of the tree's state). -/
def Item.contents : Item ι V → List (Entry ι V)
  | .empty _ => []
  | .leaf rx vs => vs.map fun kv => ⟨rx.original, kv.1, kv.2⟩
  | .node _ cs => contentsL cs
def contentsL : List (Item ι V) → List (Entry ι V)
  | [] => []
  | c :: cs => Item.contents c ++ contentsL cs
end

/-- `Item::iter()` collected. -/
def Item.iterVals (t : Item ι V) : List V := t.contents.map (·.val)

/-- What `Node::remove` / `Node::retain` push: the child unless it is empty. -/
def keepNonEmpty (c : Item ι V) : List (Item ι V) := if c.isEmpty then [] else [c]

/-- `Leaf::remove`. -/
def leafRemove (rx : LazyRegex) (vs : List (ι × V)) (id : ι) : Item ι V × Option V :=
  match lookupKey vs id with
  | none => (.leaf rx vs, none)
  | some v =>
    let vs' := eraseKey vs id
    if vs'.isEmpty then (.empty rx.ic, some v) else (.leaf rx vs', some v)

/-- Tail of `Node::remove` / `Node::retain`: collapse a single child. -/
def collapse1 (rx : LazyRegex) (children : List (Item ι V)) : Item ι V :=
  match children with
  | [c] => c
  | _ => .node rx children

mutual
/-- `Item::remove` / `Node::remove`. -/
def Item.remove : Item ι V → ι → Item ι V × Option V
  | .empty ic, _ => (.empty ic, none)
  | .leaf rx vs, id => leafRemove rx vs id
  | .node rx cs, id =>
    let r := removeL cs id
    (collapse1 rx r.1, r.2)
/-- The `for child in self.children` loop of `Node::remove` (`removed` is the second component). -/
def removeL : List (Item ι V) → ι → List (Item ι V) × Option V
  | [], _ => ([], none)
  | c :: cs, id =>
    let r := Item.remove c id
    match r.2 with
    | some v => (keepNonEmpty r.1 ++ cs, some v)     -- the rest is pushed unchanged
    | none =>
      let r' := removeL cs id
      (keepNonEmpty r.1 ++ r'.1, r'.2)
end

/-- `HashMap::retain(|k, v| f(k, v))` where the closure gets `&mut V`: `f id v = none` drops the entry,
`some v'` keeps it with the (possibly updated) value `v'`. -/
def retainVals (f : ι → V → Option V) (vs : List (ι × V)) : List (ι × V) :=
  vs.filterMap fun kv => (f kv.1 kv.2).map fun v' => (kv.1, v')

mutual
/-- `Item::retain` / `Node::retain` / `Leaf::retain`.  The closure `F: Fn(&str, &mut V) -> bool` both decides
and may update the value in place (`HostMatcher` removes rules from the inner matcher this way), hence
`f : id → V → Option V`. -/
def Item.retain : Item ι V → (ι → V → Option V) → Item ι V
  | .empty ic, _ => .empty ic
  | .leaf rx vs, f =>
    let vs' := retainVals f vs
    if vs'.isEmpty then .empty rx.ic else .leaf rx vs'
  | .node rx cs, f =>
    let children := retainL cs f
    if children.isEmpty then .empty rx.ic else collapse1 rx children
def retainL : List (Item ι V) → (ι → V → Option V) → List (Item ι V)
  | [], _ => []
  | c :: cs, f => keepNonEmpty (Item.retain c f) ++ retainL cs f
end

variable (E)

/-- `Leaf::cache` and the first block of `Node::cache`: compile unless already compiled; one unit of
budget is spent iff the compilation succeeded.  `none` = `u64` underflow. -/
def rxCache (rx : LazyRegex) (left : Nat) : Option (LazyRegex × Nat) :=
  if rx.isCompiled then some (rx, left)
  else
    let rx' := rx.compile E
    if rx'.isCompiled then (if left = 0 then none else some (rx', left - 1))
    else some (rx', left)

mutual
/-- `Item::cache(left, cache_level, current_level)` (+ `Node::cache`, `Leaf::cache`). -/
def Item.cache : Item ι V → Nat → Nat → Nat → Option (Item ι V × Nat)
  | .empty ic, left, _, _ => some (.empty ic, left)
  | .leaf rx vs, left, lvl, cur =>
    if left = 0 then some (.leaf rx vs, left)
    else if cur > lvl then some (.leaf rx vs, left)
    else if lvl = cur then
      match rxCache E rx left with
      | none => none
      | some r => some (.leaf r.1 vs, r.2)
    else some (.leaf rx vs, left)
  | .node rx cs, left, lvl, cur =>
    if left = 0 then some (.node rx cs, left)
    else if cur > lvl then some (.node rx cs, left)
    else
      match (if lvl = cur then rxCache E rx left else some (rx, left)) with
      | none => none
      | some r =>
        match cacheL cs r.2 lvl (cur + 1) with
        | none => none
        | some r' => some (.node r.1 r'.1, r'.2)
def cacheL : List (Item ι V) → Nat → Nat → Nat → Option (List (Item ι V) × Nat)
  | [], left, _, _ => some ([], left)
  | c :: cs, left, lvl, cur =>
    match Item.cache c left lvl cur with
    | none => none
    | some r =>
      match cacheL cs r.2 lvl cur with
      | none => none
      | some r' => some (r.1 :: r'.1, r'.2)
end

/-- The `while left > 0` loop of `RegexTreeMap::cache(limit, None)`.  `fuel` bounds the iterations
(each one that continues strictly decreases `left`); running out of fuel is `none` and never
happens with `fuel = limit + 1` (`Props/C12.lean: cache_total`). -/
def cacheLoop : Nat → Item ι V → Nat → Nat → Option (Item ι V × Nat)
  | 0, _, _, _ => none
  | fuel + 1, root, left, lvl =>
    if left = 0 then some (root, left)
    else
      match Item.cache E root left lvl 0 with
      | none => none
      | some r => if r.2 = left then some (r.1, left) else cacheLoop fuel r.1 r.2 (lvl + 1)

/-- `RegexTreeMap::cache(limit, level)`: new root and the returned budget. -/
def treeCache (root : Item ι V) (limit : Nat) : Option Nat → Option (Item ι V × Nat)
  | some lvl => Item.cache E root limit lvl 0
  | none => cacheLoop E (limit + 1) root limit 0

end

/-! ### Depth (every operation of the real tree recurses once per level) -/

section
variable {ι V : Type}
mutual
/-- Number of levels of the tree: `Empty` 0, a leaf 1, a node 1 + its deepest child.  `Item::{insert, find, get, remove,
retain, len, cache, trace}` and their `Node::` / `Leaf::` counterparts call themselves once per level on the way down, so this
is the recursion depth of every operation (DESIGN §6-D26: a tree built from thousands of chained prefixes overflows the stack). -/
def Item.depth : Item ι V → Nat
  | .empty _ => 0
  | .leaf _ _ => 1
  | .node _ cs => 1 + depthL cs
def depthL : List (Item ι V) → Nat
  | [] => 0
  | c :: cs => max (Item.depth c) (depthL cs)
end
end

/-! ### `trace.rs`: `trace(haystack)` -/

/-- `trace.rs::Trace`. -/
inductive Trace (V : Type) where
  | mk (regex : List Char) (count : Nat) (matched : Bool) (children : List (Trace V)) (values : List V)
deriving Repr

namespace Trace
variable {V : Type}
def regex : Trace V → List Char | mk r _ _ _ _ => r
def count : Trace V → Nat | mk _ c _ _ _ => c
def matched : Trace V → Bool | mk _ _ m _ _ => m
def children : Trace V → List (Trace V) | mk _ _ _ cs _ => cs
def values : Trace V → List V | mk _ _ _ _ vs => vs

mutual
/-- The values listed under the *matched* leaves of a trace (what the router turns into matched routes:
`tree_trace_to_trace` keeps `values` only when `matched`, and children exist only below matched nodes). -/
def found : Trace V → List V
  | mk _ _ m cs vs => if m then vs ++ foundL cs else []
def foundL : List (Trace V) → List V
  | [] => []
  | t :: ts => found t ++ foundL ts
end
end Trace

section
variable {ι V : Type} [DecidableEq ι] (E : Engine)

mutual
/-- `Item::trace` / `Node::trace` / `Leaf::trace`.  A leaf lists all its values whether or not it matched; a node
traces its children only when its own prefix regex matched; `count` is `len()` of the sub-tree. -/
def Item.trace : Item ι V → List Char → Trace V
  | .empty _, _ => .mk [] 0 true [] []
  | .leaf rx vs, s => .mk rx.original vs.length (rx.isMatch E s) [] (vs.map (·.2))
  | .node rx cs, s =>
    .mk rx.original (lenL cs) (rx.isMatch E s) (if rx.isMatch E s then traceL cs s else []) []
def traceL : List (Item ι V) → List Char → List (Trace V)
  | [], _ => []
  | c :: cs, s => Item.trace c s :: traceL cs s
end

end

/-! ### `iter.rs`: the iterator as the stack machine it is -/

section
variable {ι V : Type}

/-- `ItemIter`: `children` = the slice still to visit, `parents` = the chain of boxed parent iterators (each is
suspended with `values = None`, so only its remaining slice is kept), `values` = the `hash_map::Values` of the
leaf being drained. -/
structure IterSt (ι V : Type) where
  children : List (Item ι V)
  parents : List (List (Item ι V))
  values : Option (List V)

/-- `Item::iter()`: `children: slice::from_ref(self), parent: None, values: None`. -/
def Item.iter (t : Item ι V) : IterSt ι V := ⟨[t], [], none⟩

/-- `ItemIter::next`, one call; the Rust function calls itself after every state change, `fuel` bounds those
self-calls.  Outer `none` = out of fuel (never with `fuel > IterSt.measure`, see `Proofs/TreeIter.lean`);
`some none` = the iterator is exhausted; `some (some (v, st'))` = yields `v`, continues from `st'`. -/
def IterSt.next : Nat → IterSt ι V → Option (Option (V × IterSt ι V))
  | 0, _ => none
  | fuel + 1, st =>
    match st.values with
    | none =>
      match st.children with
      | [] =>
        match st.parents with
        | [] => some none
        | p :: ps => IterSt.next fuel ⟨p, ps, none⟩             -- `*self = *parent`
      | .empty _ :: rest => IterSt.next fuel ⟨rest, st.parents, none⟩
      | .leaf _ vs :: rest => IterSt.next fuel ⟨rest, st.parents, some (vs.map (·.2))⟩
      | .node _ cs :: rest => IterSt.next fuel ⟨cs, rest :: st.parents, none⟩
    | some [] => IterSt.next fuel ⟨st.children, st.parents, none⟩
    | some (v :: vs) => some (some (v, ⟨st.children, st.parents, some vs⟩))

mutual
/-- Size measure: every self-call of `next` decreases `IterSt.measure` by one. -/
def Item.sz : Item ι V → Nat
  | .empty _ => 1
  | .leaf _ vs => vs.length + 2
  | .node _ cs => szL cs + 2
def szL : List (Item ι V) → Nat
  | [] => 0
  | c :: cs => Item.sz c + szL cs
end

def IterSt.measure (st : IterSt ι V) : Nat :=
  szL st.children + (st.parents.map fun p => szL p + 1).sum +
    (match st.values with | none => 0 | some vs => vs.length + 1)

/-- Collect by calling `next` until it returns `None` (`n` bounds the number of calls). -/
def IterSt.drain (fuel : Nat) : Nat → IterSt ι V → Option (List V)
  | 0, _ => none
  | n + 1, st =>
    match IterSt.next fuel st with
    | none => none
    | some none => some []
    | some (some (v, st')) => (IterSt.drain fuel n st').map (v :: ·)

/-- `tree.iter().collect()`. -/
def Item.iterCollect (t : Item ι V) : Option (List V) :=
  IterSt.drain (t.iter.measure + 1) (t.iter.measure + 1) t.iter

end

/-! ### The structural invariant (decidable; evaluated by the driver on every tree it builds and
compared, through the snapshot hook, with the real tree) -/

section
variable {ι V : Type} [DecidableEq ι]

/-- Siblings under a node whose prefix has `n` chars: pairwise, the scanner finds no common boundary
prefix longer than `n`, and their `regex()` differ. -/
def sibOk (n : Nat) : List (List Char) → Bool
  | [] => true
  | r :: rs => rs.all (fun r' => decide (commonPrefixCharSize r r' ≤ n) && decide (r ≠ r')) && sibOk n rs

/-- Keys of a leaf map are unique. -/
def nodupKeys : List (ι × V) → Bool
  | [] => true
  | kv :: rest => rest.all (fun kv' => decide (kv'.1 ≠ kv.1)) && nodupKeys rest

/-- A child of a node with prefix `q`: not `Empty`; `q` is a boundary prefix of its `regex()`;
a child node has a strictly longer prefix. -/
def childOk (q : List Char) : Item ι V → Bool
  | .empty _ => false
  | .leaf rx _ => bpre q rx.original
  | .node rx _ => bpre q rx.original && decide (q.length < rx.original.length)

mutual
/-- `Inv ic t`. -/
def Item.inv (ic : Bool) : Item ι V → Bool
  | .empty ic' => ic' == ic
  | .leaf rx vs => rx.leafWf && rx.ic == ic && !vs.isEmpty && nodupKeys vs
  | .node rx cs =>
    rx.nodeWf && rx.ic == ic && (scan b0 rx.original).atBoundary && decide (2 ≤ cs.length) &&
      cs.all (childOk rx.original) && sibOk rx.original.length (cs.map Item.regex) && invL ic cs
def invL (ic : Bool) : List (Item ι V) → Bool
  | [] => true
  | c :: cs => Item.inv ic c && invL ic cs
end

/-! ### Reference semantics: the flat list of live entries -/

/-- insert: replace the value stored under the same (pattern, id), else append. -/
def refInsert : List (Entry ι V) → List Char → ι → V → List (Entry ι V)
  | [], p, id, v => [⟨p, id, v⟩]
  | e :: rest, p, id, v =>
    if e.pat = p ∧ e.id = id then ⟨p, id, v⟩ :: rest else e :: refInsert rest p id v

/-- remove(id): drop the first entry with that id (unique when an id determines its pattern). -/
def refRemove : List (Entry ι V) → ι → List (Entry ι V)
  | [], _ => []
  | e :: rest, id => if e.id = id then rest else e :: refRemove rest id

def refRemoved : List (Entry ι V) → ι → Option V
  | [], _ => none
  | e :: rest, id => if e.id = id then some e.val else refRemoved rest id

def refRetain (L : List (Entry ι V)) (f : ι → V → Option V) : List (Entry ι V) :=
  L.filterMap fun e => (f e.id e.val).map fun v' => ⟨e.pat, e.id, v'⟩

/-- A pure predicate as a `retain` closure. -/
def keepIf (g : ι → V → Bool) : ι → V → Option V := fun id v => if g id v then some v else none

/-- `get_mut(p)` + update on the flat list: the values stored under pattern `p` are updated. -/
def refModify (L : List (Entry ι V)) (p : List Char) (g : ι → V → V) : List (Entry ι V) :=
  L.map fun e => if e.pat = p then ⟨e.pat, e.id, g e.id e.val⟩ else e

/-- The operations of the property's histories. -/
inductive Op (ι V : Type) where
  | insert (p : List Char) (id : ι) (v : V)
  | remove (id : ι)
  | retain (f : ι → V → Option V)
  | modify (p : List Char) (g : ι → V → V)
  | cache (limit : Nat) (level : Option Nat)

def refStep (L : List (Entry ι V)) : Op ι V → List (Entry ι V)
  | .insert p id v => refInsert L p id v
  | .remove id => refRemove L id
  | .retain f => refRetain L f
  | .modify p g => refModify L p g
  | .cache _ _ => L

/-- One operation on the tree (`RegexTreeMap::{insert,remove,retain,cache}`, and `get_mut` with an in-place
update); `none` only if `cache` underflowed or did not terminate – never, by `Props/C12.lean`. -/
def treeStep (E : Engine) (t : Item ι V) : Op ι V → Option (Item ι V)
  | .insert p id v => some (t.insert p id v)
  | .remove id => some (t.remove id).1
  | .retain f => some (t.retain f)
  | .modify p g => some (t.modifyAt p g)
  | .cache limit level => (treeCache E t limit level).map (·.1)

def treeRun (E : Engine) : Item ι V → List (Op ι V) → Option (Item ι V)
  | t, [] => some t
  | t, op :: ops =>
    match treeStep E t op with
    | none => none
    | some t' => treeRun E t' ops

def refRun : List (Entry ι V) → List (Op ι V) → List (Entry ι V)
  | L, [] => L
  | L, op :: ops => refRun (refStep L op) ops

/-- Domain of the histories (hypotheses of `history_spec`), relative to the live entries `L`:
every inserted pattern satisfies `good`, and an id in use determines its pattern. -/
def histOk (good : List Char → Bool) : List (Entry ι V) → List (Op ι V) → Bool
  | _, [] => true
  | L, op :: ops =>
    (match op with
     | .insert p id _ => good p && L.all (fun e => decide (e.id = id → e.pat = p))
     | _ => true) && histOk good (refStep L op) ops

end

/-! ### `UniqueRegexTreeMap` (`tree.rs`): the id of a value is its pattern -/

section
variable {V : Type}

def uInsert (t : Item (List Char) V) (p : List Char) (v : V) : Item (List Char) V := t.insert p p v
def uRemove (t : Item (List Char) V) (p : List Char) : Item (List Char) V × Option V := t.remove p
/-- `self.tree.get(regex).pop()`. -/
def uGet (t : Item (List Char) V) (p : List Char) : Option V := (t.get p).getLast?

end

end Rio.Tree
