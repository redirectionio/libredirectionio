/-
Router model, part 2: the seven matcher layers and the router.

Nesting order (checked against the `use`/field types of the code):
  Router -> SchemeMatcher -> HostMatcher -> IpMatcher -> MethodMatcher -> HeaderMatcher
         -> DateTimeMatcher -> PathAndQueryMatcher

Every matcher of the code except the innermost one has the same shape: one always-present bucket
(`any_scheme`, `any_host`, `no_matcher`, `any_method`, `any_header`, `any_datetime`), one or two
hash maps from a key to a bucket (`HostMatcher`: a map and a regex tree), and a `count`; `insert`,
`remove` and `batch_remove` are the same code in all six, except that `MethodMatcher` and
`HostMatcher` run the `retain` pass once per map (and `HostMatcher::remove` returns the tree's hit
only if `static_hosts` had none).  They are transcribed once (`lInsert`, `lRemove`, `lBatchRemove`
over `LState`), parametrised by the layer's `keysOf : Route → Option (List K)` (`none` = the
always-present bucket).  `match_request` and `trace` differ per layer and are transcribed per layer.

Representation choices, invisible to the results in represented states (outside them one list loses
the order of the `retain` passes, hence which hit `remove` returns: `htremove_isSome`):
* `MethodMatcher` has two maps (`methods`, `exclude_methods`); they are one association list keyed
  by `MKey = only m | exclude ms` (the two `retain` passes visit disjoint key sets).
* `HostMatcher` has a map (`static_hosts`) and a regex tree (`regex_tree_rule`); they are one
  association list keyed by `HKeyG P = static h | dyn pattern`.  The tree is represented by its
  specification: `find h` returns the buckets of the patterns that match `h` (`Env.hostFind`).
  RouterTreeLayers.lean has this layer and `PathAndQueryMatcher` over the tree model of property C08.
* `PathAndQueryMatcher.regex_tree_rule` likewise is the list of its `(pattern, id) ↦ route` entries.
* `BTreeSet` keys of the two condition-group layers are canonical lists (`canonH`; for date-time
  groups the three possible conditions in the order of the derived `Ord`).
* `cache` only compiles regexes: the specification-level trees have no compiled state, so every
  matcher's `cache` returns its state unchanged and the budget it received; `Router::cache`'s
  loop (`RouterG.cache`) is modelled over any outermost matcher.
-/
import RioModel.Model.RouterBase

namespace Rio.Router

/-! ## PathAndQueryMatcher (innermost layer) -/

structure PathState where
  /-- `regex_tree_rule`, specification level: `(pattern, id) ↦ route`. -/
  tree : List ((Pat × String) × Route)
  /-- `static_rules : HashMap<String, HashMap<String, Arc<Route>>>` as one association list
  `(path, id) ↦ route` (an inner map exists iff some entry has that path; the code prunes empty
  inner maps, so this loses nothing). -/
  statics : List ((String × String) × Route)
  count : Nat
deriving Inhabited

def Path.empty : PathState := ⟨[], [], 0⟩

/-- `PathAndQueryMatcher::insert`. -/
def Path.insert (r : Route) (s : PathState) : PathState :=
  match r.path with
  | .static p =>
    { s with count := s.count + 1, statics := aupsert (fun _ => r) r (p, r.id) s.statics }
  | .dyn p =>
    { s with count := s.count + 1, tree := aupsert (fun _ => r) r (p, r.id) s.tree }

/-- `RegexTreeMap::remove(id)` (the first entry stored under `id`), and the
`static_rules.retain(..)` closure of `PathAndQueryMatcher::remove` (removes from the first inner
map containing `id`, then keeps everything else untouched). -/
def entryRemove {P : Type} (id : String) :
    List ((P × String) × Route) → List ((P × String) × Route) × Option Route
  | [] => ([], none)
  | e :: rest =>
    if e.1.2 = id then (rest, some e.2)
    else
      let res := entryRemove id rest
      (e :: res.1, res.2)

/-- `PathAndQueryMatcher::remove`. -/
def Path.remove (id : String) (s : PathState) : PathState × Option Route :=
  let t := entryRemove id s.tree
  match t.2 with
  | some r => ({ s with tree := t.1, count := s.count - 1 }, some r)
  | none =>
    let st := entryRemove id s.statics
    ({ s with statics := st.1, count := if st.2.isSome then s.count - 1 else s.count }, st.2)

/-- `PathAndQueryMatcher::batch_remove` (`count` is left untouched, as in the code). -/
def Path.batchRemove (ids : List String) (s : PathState) : PathState :=
  { s with
    statics := s.statics.filter (fun e => !ids.contains e.1.2),
    tree := s.tree.filter (fun e => !ids.contains e.1.2) }

section
variable (E : Env)

/-- `PathAndQueryMatcher::match_request`. -/
def Path.matchReq (s : PathState) (q : Req) : List Route :=
  (s.tree.filter (fun e => E.pathFind e.1.1 q.path)).map Prod.snd ++
    (s.statics.filter (fun e => e.1.1 == q.path)).map Prod.snd

/-- `self.static_rules.len()`: the number of distinct static paths (a path whose last rule is removed leaves the
map, in `remove` and in `batch_remove`). -/
def staticKeyCount (l : List ((String × String) × Route)) : Nat := (l.map (·.1.1)).eraseDups.length

/-- `PathAndQueryMatcher::trace` with the tree trace at specification level: one `Regex` node per
tree entry below a synthetic root; a `Storage` node lists the entry's route iff the pattern matched. -/
def Path.trace (s : PathState) (q : Req) : List Trace :=
  let leaves := s.tree.map (fun e =>
    let m := E.pathFind e.1.1 q.path
    Trace.mk m true 1 (.other "regex") [Trace.mk m true 1 (.storage (if m then [e.2] else [])) []])
  let root := Trace.mk true true s.tree.length (.other "regex") leaves
  let treeT := Trace.mk true true s.tree.length (.other "path_and_query_regex") [root]
  let found := (s.statics.filter (fun e => e.1.1 == q.path)).map Prod.snd
  let staticT : List Trace :=
    if found.isEmpty then [] else [Trace.mk true true found.length (.storage found) []]
  [treeT, Trace.mk (!staticT.isEmpty) true (staticKeyCount s.statics) (.other "path_and_query_static") staticT]

def pathOps : MOps where
  M := PathState
  empty := Path.empty
  insert := Path.insert
  remove := Path.remove
  batchRemove := Path.batchRemove
  matchReq := Path.matchReq E
  trace := Path.trace E
  len := fun s => s.count
  -- `regex_tree_rule.cache(limit, Some(level))`: the specification-level tree has no compiled state
  cache := fun limit _ s => (s, limit)

end

/-! ## The shared shape of the six outer matchers -/

structure LState (I : MOps) (K : Type) where
  any : I.M
  map : List (K × I.M)
  count : Nat

section
variable {K : Type} [DecidableEq K] (I : MOps)

def lEmpty : LState I K := ⟨I.empty, [], 0⟩

/-- `insert` of Scheme/Host/Ip/Method/Header/DateTime matcher: `count += 1`, then the route goes to
the always-present bucket or is upserted into the bucket of each of its keys (created on demand). -/
def lInsert (keysOf : Route → Option (List K)) (r : Route) (s : LState I K) : LState I K :=
  match keysOf r with
  | none => { s with any := I.insert r s.any, count := s.count + 1 }
  | some ks =>
    { s with map := ks.foldl (fun m k => aupsert (I.insert r) I.empty k m) s.map,
             count := s.count + 1 }

/-- `map.retain(|_, matcher| { if let Some(v) = matcher.remove(id) { removed = Some(v) } !matcher.is_empty() })`:
every bucket is visited, the last hit is reported, buckets whose `count` dropped to 0 are pruned. -/
def removeAll (id : String) : List (K × I.M) → List (K × I.M) × Option Route
  | [] => ([], none)
  | (k, b) :: rest =>
    let rb := I.remove id b
    let rr := removeAll id rest
    (if I.isEmpty rb.1 then rr.1 else (k, rb.1) :: rr.1, rr.2.orElse (fun _ => rb.2))

/-- `remove` of the six outer matchers. -/
def lRemove (id : String) (s : LState I K) : LState I K × Option Route :=
  let ra := I.remove id s.any
  if ra.2.isSome then
    ({ s with any := ra.1, count := s.count - 1 }, ra.2)
  else
    let rm := removeAll I id s.map
    ({ any := ra.1, map := rm.1, count := if rm.2.isSome then s.count - 1 else s.count }, rm.2)

/-- `map.retain(|_, matcher| { matcher.batch_remove(ids); !matcher.is_empty() })`. -/
def batchAll (ids : List String) (m : List (K × I.M)) : List (K × I.M) :=
  m.filterMap (fun e =>
    let b' := I.batchRemove ids e.2
    if I.isEmpty b' then none else some (e.1, b'))

/-- `batch_remove` of the six outer matchers: `count` is NOT updated (as in the code), so a bucket
emptied by a batch removal survives with a stale positive count. -/
def lBatchRemove (ids : List String) (s : LState I K) : LState I K :=
  { s with any := I.batchRemove ids s.any, map := batchAll I ids s.map }

/-- `for matcher in map.values_mut() { new_limit = matcher.cache(new_limit, level) }` (the budget is
threaded through the buckets in iteration order). -/
def cacheAll (level : Nat) : List (K × I.M) → Nat → List (K × I.M) × Nat
  | [], limit => ([], limit)
  | (k, b) :: rest, limit =>
    let rb := I.cache limit level b
    let rr := cacheAll level rest rb.2
    ((k, rb.1) :: rr.1, rr.2)

/-- `cache` of Scheme / Ip / Method / Header / DateTime matcher: the always-present bucket first,
then the keyed buckets.  Also `hostOps`', although `HostMatcher::cache` does the any-host bucket
last (nothing to compile at this level; `HostT.cache` has the code's order). -/
def lCache (limit level : Nat) (s : LState I K) : LState I K × Nat :=
  let ra := I.cache limit level s.any
  let rm := cacheAll I level s.map ra.2
  ({ s with any := ra.1, map := rm.1 }, rm.2)

/-- The bucket-union every `match_request` computes, in its simplest form (used as the common
reference the per-layer transcriptions are proved equivalent to). -/
def lMatchMap (accepts : K → Req → Bool) (m : List (K × I.M)) (q : Req) : List Route :=
  m.flatMap (fun e => if accepts e.1 q then I.matchReq e.2 q else [])

end

/-- An outer matcher: the shared `insert` / `remove` / `batch_remove` / `len`, with the layer's own
bucket selection, `match_request` and `trace`. -/
def outerOps {K : Type} [DecidableEq K] (I : MOps) (keysOf : Route → Option (List K))
    (matchReq : LState I K → Req → List Route) (trace : LState I K → Req → List Trace) : MOps where
  M := LState I K
  empty := lEmpty I
  insert := lInsert I keysOf
  remove := lRemove I
  batchRemove := lBatchRemove I
  matchReq := matchReq
  trace := trace
  len := fun s => s.count
  cache := lCache I

/-! ## DateTimeMatcher and HeaderMatcher: condition groups with a per-request memo -/

section
variable {C : Type} [DecidableEq C] (I : MOps)

/-- The inner `for condition in conditions` loop of `match_request` with `execute_conditions`
(`memo`); returns whether the group is accepted (no `continue 'group`) and the new memo. -/
def evalGroup (eval : C → Bool) : List C → List (C × Bool) → Bool × List (C × Bool)
  | [], memo => (true, memo)
  | c :: cs, memo =>
    match alookup c memo with
    | none =>
      let result := eval c
      let memo := (c, result) :: memo
      if !result then (false, memo) else evalGroup eval cs memo
    | some result =>
      if !result then (false, memo) else evalGroup eval cs memo

/-- The `'group` loop of `HeaderMatcher::match_request` / `DateTimeMatcher::match_request`. -/
def matchGroups (eval : C → Bool) (q : Req) :
    List (List C × I.M) → List (C × Bool) → List Route → List Route
  | [], _, rules => rules
  | (cs, b) :: rest, memo, rules =>
    let r := evalGroup eval cs memo
    matchGroups eval q rest r.2 (if r.1 then rules ++ I.matchReq b q else rules)

/-- The inner loop of `trace` ("mimic cache behaviour"): state is (`matched`, `executed`, memo). -/
def traceGroup (eval : C → Bool) : List C → Bool → Bool → List (C × Bool) → Bool × List (C × Bool)
  | [], matched, _, memo => (matched, memo)
  | c :: cs, matched, executed, memo =>
    match alookup c memo with
    | none =>
      let result := eval c
      let matched := matched && result
      let memo := if executed then (c, matched) :: memo else memo
      traceGroup eval cs matched matched memo
    | some result =>
      let matched := matched && result
      traceGroup eval cs matched matched memo

/-- The group loop of `HeaderMatcher::trace` / `DateTimeMatcher::trace`. -/
def traceGroups (eval : C → Bool) (q : Req) (kind : String) :
    List (List C × I.M) → List (C × Bool) → List Trace → List Trace
  | [], _, traces => traces
  | (cs, b) :: rest, memo, traces =>
    let r := traceGroup eval cs true true memo
    traceGroups eval q kind rest r.2
      (traces ++ [Trace.mk r.1 true (I.len b) (.other kind) (if r.1 then I.trace b q else [])])

end

/-- `DateTimeMatcher::insert`: the `BTreeSet` of the route's conditions, in the order of the
derived `Ord` (`DateTimeRange < TimeRange < Weekdays`). -/
def DateTime.conds (r : Route) : List DCond :=
  (match r.datetime with | some d => [DCond.dateRange d] | none => []) ++
  (match r.time with | some t => [DCond.timeRange t] | none => []) ++
  (match r.weekdays with | some w => [DCond.weekdays w] | none => [])

def DateTime.keysOf (r : Route) : Option (List (List DCond)) :=
  let cs := DateTime.conds r
  if cs.isEmpty then none else some [cs]

def DateTime.matchReq (I : MOps) (s : LState I (List DCond)) (q : Req) : List Route :=
  matchGroups I (fun c => DCond.eval c q) q s.map [] (I.matchReq s.any q)

def DateTime.trace (I : MOps) (s : LState I (List DCond)) (q : Req) : List Trace :=
  traceGroups I (fun c => DCond.eval c q) q "date_time_group" s.map [] (I.trace s.any q)

def dateTimeOps (I : MOps) : MOps := outerOps I DateTime.keysOf (DateTime.matchReq I) (DateTime.trace I)

/-! ### HeaderMatcher -/

/-- A total comparison used only to give `BTreeSet<HeaderCondition>` a canonical list form
(which canonical order is used cannot be observed: it only changes the order in which the memo
is filled). -/
def HKind.tag : HKind → String
  | .isDefined => "0"
  | .isNotDefined => "1"
  | .isEquals v => "2" ++ v
  | .isNotEqualTo v => "3" ++ v
  | .contains v => "4" ++ v
  | .doesNotContain v => "5" ++ v
  | .endsWith v => "6" ++ v
  | .startsWith v => "7" ++ v
  | .matchRegex p => "8" ++ toString (repr p)

def HCond.lt (a b : HCond) : Bool :=
  a.name < b.name || (a.name == b.name && a.kind.tag < b.kind.tag)

/-- `BTreeSet::insert`. -/
def insertCond (c : HCond) : List HCond → List HCond
  | [] => [c]
  | d :: ds => if c = d then d :: ds else if c.lt d then c :: d :: ds else d :: insertCond c ds

/-- The `condition_group` set built by `HeaderMatcher::insert`. -/
def canonH (cs : List HCond) : List HCond := cs.foldl (fun acc c => insertCond c acc) []

section
variable (E : Env)

def Header.keysOf (r : Route) : Option (List (List HCond)) :=
  if r.headers.isEmpty then none else some [canonH (r.headers.map (RouteHeader.toCond E))]

def Header.matchReq (I : MOps) (s : LState I (List HCond)) (q : Req) : List Route :=
  matchGroups I (fun c => HCond.eval E c q) q s.map [] (I.matchReq s.any q)

def Header.trace (I : MOps) (s : LState I (List HCond)) (q : Req) : List Trace :=
  traceGroups I (fun c => HCond.eval E c q) q "header_group" s.map [] (I.trace s.any q)

def headerOps (I : MOps) : MOps := outerOps I (Header.keysOf E) (Header.matchReq E I) (Header.trace E I)

end

/-! ## MethodMatcher -/

inductive MKey where
  | only (m : String)
  | exclude (ms : List String)
deriving DecidableEq, Repr, Inhabited

/-- Bucket selection of `MethodMatcher::insert`.  Exclusion is requested iff the field is present
(`route.exclude_methods().is_some()`, so `Some(false)` excludes too: observation O5). -/
def Method.keysOf (r : Route) : Option (List MKey) :=
  match r.methods with
  | none => none
  | some ms =>
    if ms.isEmpty then none
    else if r.excludeMethods.isSome then some [MKey.exclude ms]
    else some (ms.map MKey.only)

def Method.accepts (k : MKey) (q : Req) : Bool :=
  match k with
  | .only m => m == q.methodStr
  | .exclude ms => !ms.contains q.methodStr

/-- `MethodMatcher::match_request`. -/
def Method.matchReq (I : MOps) (s : LState I MKey) (q : Req) : List Route :=
  let routes := I.matchReq s.any q
  let routes :=
    match alookup (MKey.only q.methodStr) s.map with
    | some b => routes ++ I.matchReq b q
    | none => routes
  routes ++ s.map.flatMap (fun e =>
    match e.1 with
    | .exclude ms => if !ms.contains q.methodStr then I.matchReq e.2 q else []
    | .only _ => [])

/-- `MethodMatcher::trace`. -/
def Method.trace (I : MOps) (s : LState I MKey) (q : Req) : List Trace :=
  let traces := I.trace s.any q
  let excl := s.map.filterMap (fun e =>
    match e.1 with
    | .exclude ms =>
      some (if !ms.contains q.methodStr
        then Trace.mk true true (I.len e.2) (.other "exclude_methods") (I.trace e.2 q)
        else Trace.mk false false (I.len e.2) (.other "exclude_methods") [])
    | .only _ => none)
  let only := s.map.filterMap (fun e =>
    match e.1 with
    | .only m =>
      some (if m == q.methodStr
        then Trace.mk true true (I.len e.2) (.other "method") (I.trace e.2 q)
        else Trace.mk false false (I.len e.2) (.other "method") [])
    | .exclude _ => none)
  let found := s.map.any (fun e => Method.accepts e.1 q)
  traces ++ excl ++ only ++ (if !found then [Trace.mk true false 0 (.other "method") []] else [])

def methodOps (I : MOps) : MOps := outerOps I Method.keysOf (Method.matchReq I) (Method.trace I)

/-! ## IpMatcher -/

def Ip.keysOf (r : Route) : Option (List RouteIp) := r.ips

def Ip.accepts (k : RouteIp) (q : Req) : Bool :=
  match q.ip with
  | none => false
  | some a => k.matchIp a

/-- `IpMatcher::match_request`. -/
def Ip.matchReq (I : MOps) (s : LState I RouteIp) (q : Req) : List Route :=
  let routes := I.matchReq s.any q
  match q.ip with
  | none => routes
  | some a =>
    s.map.foldl (fun acc e => if e.1.matchIp a then pushNew acc (I.matchReq e.2 q) else acc) routes

/-- `IpMatcher::trace`. -/
def Ip.trace (I : MOps) (s : LState I RouteIp) (q : Req) : List Trace :=
  let traces := I.trace s.any q
  match q.ip with
  | none => traces
  | some a =>
    traces ++ s.map.map (fun e =>
      if e.1.matchIp a then Trace.mk true true (I.len e.2) (.other "ip") (I.trace e.2 q)
      else Trace.mk false true (I.len e.2) (.other "ip") [])

def ipOps (I : MOps) : MOps := outerOps I Ip.keysOf (Ip.matchReq I) (Ip.trace I)

/-! ## HostMatcher -/

/-- Keys of the host buckets: a static host, or the key `P` of a marker pattern in the regex tree
(`P = Pat` for the specification-level tree, `P = List Char` – the regex string – for the real tree
model). -/
inductive HKeyG (P : Type) where
  | static (h : String)
  | dyn (p : P)
deriving DecidableEq, Repr

/-- What `HostMatcher` reads of its environment: the tree key of a pattern (`MarkerString.regex`),
`always_match_any_host`, and whether the tree's leaf for a key matches a host
(`UniqueRegexTreeMap::find`, engine + `ignore_host_case`). -/
structure HostCfg (P : Type) where
  pk : Pat → P
  always : Bool
  find : P → String → Bool

section
variable {P : Type} [DecidableEq P] (H : HostCfg P)

/-- Bucket selection of `HostMatcher::insert` (`None` and `Static("")` go to `any_host`). -/
def Host.keysOf (r : Route) : Option (List (HKeyG P)) :=
  match r.host with
  | none => none
  | some (.static h) => if h = "" then none else some [HKeyG.static h]
  | some (.dyn p) => some [HKeyG.dyn (H.pk p)]

def Host.accepts (k : HKeyG P) (q : Req) : Bool :=
  match q.host with
  | none => false
  | some h =>
    match k with
    | .static s => s == h
    | .dyn p => H.find p h

/-- One step of `for matcher in self.regex_tree_rule.find(host)`, specification level: the bucket of
a pattern is consulted iff the pattern matches. -/
def Host.dynPart (I : MOps) (h : String) (q : Req) (e : HKeyG P × I.M) : List Route :=
  match e.1 with
  | .dyn p => if H.find p h then I.matchReq e.2 q else []
  | .static _ => []

/-- The host-bound part of `HostMatcher::match_request` for `request.host() = Some(h)`
(regex tree first, then `static_hosts.get(h)`). -/
def Host.boundFor (I : MOps) (s : LState I (HKeyG P)) (q : Req) (h : String) : List Route :=
  s.map.flatMap (Host.dynPart H I h q) ++
    ((alookup (HKeyG.static h) s.map).map (fun b => I.matchReq b q)).getD []

def Host.matchBound (I : MOps) (s : LState I (HKeyG P)) (q : Req) : List Route :=
  match q.host with
  | none => []
  | some h => Host.boundFor H I s q h

/-- `HostMatcher::match_request`: the any-host bucket is consulted iff `always_match_any_host` or
no host-bound route matched. -/
def Host.matchReq (I : MOps) (s : LState I (HKeyG P)) (q : Req) : List Route :=
  let routes := Host.matchBound H I s q
  if H.always || routes.isEmpty then routes ++ I.matchReq s.any q else routes

/-- `for (host, matcher) in &self.static_hosts` of `HostMatcher::trace`. -/
def Host.staticNode (I : MOps) (q : Req) (e : HKeyG P × I.M) : Option Trace :=
  match e.1 with
  | .static h =>
    some (if q.host == some h
      then Trace.mk true true (I.len e.2) (.other "host_static") (I.trace e.2 q)
      else Trace.mk false false (I.len e.2) (.other "host_static") [])
  | .dyn _ => none

/-- `tree_trace_to_trace` at specification level: one `Regex` node per pattern; its children are
the traces of the bucket iff the pattern matched. -/
def Host.dynNode (I : MOps) (h : String) (q : Req) (e : HKeyG P × I.M) : Option Trace :=
  match e.1 with
  | .dyn p =>
    some (Trace.mk (H.find p h) true 1 (.other "regex")
      (if H.find p h then I.trace e.2 q else []))
  | .static _ => none

/-- The part of `HostMatcher::trace` inside `if let Some(host) = request.host()`. -/
def Host.traceFor (I : MOps) (s : LState I (HKeyG P)) (q : Req) (h : String) : List Trace :=
  let nodes := s.map.filterMap (Host.dynNode H I h q)
  let root := Trace.mk true true nodes.length (.other "regex") nodes
  [Trace.mk true true nodes.length (.other "host_regex") [root]] ++
    (if (alookup (HKeyG.static h) s.map).isNone
     then [Trace.mk true false 0 (.other "host_static") []] else [])

/-- The host-bound part of `HostMatcher::trace` (everything before the any-host fallback). -/
def Host.traceBound (I : MOps) (s : LState I (HKeyG P)) (q : Req) : List Trace :=
  s.map.filterMap (Host.staticNode I q) ++
    (match q.host with
     | none => []
     | some h => Host.traceFor H I s q h)

/-- `HostMatcher::trace`: the any-host bucket is traced iff `always_match_any_host` or the traces so
far list no route. -/
def Host.trace (I : MOps) (s : LState I (HKeyG P)) (q : Req) : List Trace :=
  let traces := Host.traceBound H I s q
  if H.always || (routesOfList traces).isEmpty then traces ++ I.trace s.any q else traces

def hostOps (I : MOps) : MOps := outerOps I (Host.keysOf H) (Host.matchReq H I) (Host.trace H I)

end

/-! ## SchemeMatcher -/

/-- Bucket selection of `SchemeMatcher::insert` (`None` and `Some("")` go to `any_scheme`). -/
def Scheme.keysOf (r : Route) : Option (List String) :=
  match r.scheme with
  | none => none
  | some s => if s = "" then none else some [s]

def Scheme.accepts (k : String) (q : Req) : Bool := q.scheme == some k

/-- `SchemeMatcher::match_request`. -/
def Scheme.matchReq (I : MOps) (s : LState I String) (q : Req) : List Route :=
  let routes := I.matchReq s.any q
  match q.scheme with
  | none => routes
  | some sc =>
    match alookup sc s.map with
    | some b => routes ++ I.matchReq b q
    | none => routes

/-- `SchemeMatcher::trace`. -/
def Scheme.trace (I : MOps) (s : LState I String) (q : Req) : List Trace :=
  let traces := I.trace s.any q
  let rs := q.scheme.getD ""
  let traces := traces ++ s.map.map (fun e =>
    if e.1 == rs && rs != ""
    then Trace.mk true true (I.len e.2) (.other "scheme") (I.trace e.2 q)
    else Trace.mk false false (I.len e.2) (.other "scheme") [])
  if rs != "" && (alookup rs s.map).isNone
  then traces ++ [Trace.mk true false 0 (.other "scheme") []] else traces

def schemeOps (I : MOps) : MOps := outerOps I Scheme.keysOf (Scheme.matchReq I) (Scheme.trace I)

/-! ## Router -/

/-- `router::Router` over an arbitrary outermost matcher `O` (the code instantiates it with
`SchemeMatcher<T>`; the model with the specification-level tower `towerOps E` below, or with the
tower over the real regex-tree model, RouterTreeLayers.lean). -/
structure RouterG (O : MOps) where
  matcher : O.M
  routes : List (String × Route)

/-- `routes.sort_by_key(|b| Reverse(b.priority()))` (stable). -/
def sortByPriority (rs : List Route) : List Route :=
  rs.mergeSort (fun a b => decide (b.priority ≤ a.priority))

namespace RouterG
variable (O : MOps)

def empty : RouterG O := ⟨O.empty, []⟩

/-- `Router::insert_route`. -/
def insert (r : Route) (S : RouterG O) : RouterG O :=
  ⟨O.insert r S.matcher, aupsert (fun _ => r) r r.id S.routes⟩

/-- `Router::remove`. -/
def remove (id : String) (S : RouterG O) : RouterG O × Option Route :=
  if (alookup id S.routes).isSome then
    let rm := O.remove id S.matcher
    (⟨rm.1, S.routes.filter (fun e => e.1 != id)⟩, rm.2)
  else (S, none)

/-- `Router::batch_remove`. -/
def batchRemove (ids : List String) (S : RouterG O) : RouterG O :=
  ⟨O.batchRemove ids S.matcher, S.routes.filter (fun e => !ids.contains e.1)⟩

/-- `Router::apply_change_set` (on already converted routes). -/
def applyChangeSet (added updated : List Route) (removed : List String) (S : RouterG O) : RouterG O :=
  let removed := removed ++ updated.map (·.id)
  let S := batchRemove O removed S
  let S := updated.foldl (fun S r => insert O r S) S
  added.foldl (fun S r => insert O r S) S

/-- `Router::match_request`. -/
def matchReq (S : RouterG O) (q : Req) : List Route := O.matchReq S.matcher q

/-- `Router::len`. -/
def len (S : RouterG O) : Nat := S.routes.length

/-- `Router::get_route_by_id`. -/
def getRouteById (S : RouterG O) (id : String) : Option Route := alookup id S.routes

/-- `Router::trace_request` (on the already rebuilt request). -/
def trace (S : RouterG O) (q : Req) : List Trace := O.trace S.matcher q

/-- `Router::get_route`. -/
def getRoute (S : RouterG O) (q : Req) : Option Route :=
  (sortByPriority (matchReq O S q)).head?

/-- `Router::get_trace`: (routes listed by the trace, final route). -/
def getTrace (S : RouterG O) (q : Req) : List Route × Option Route :=
  let routes := routesOfList (trace O S q)
  (routes, (sortByPriority routes).head?)

/-- `build`: a router filled by successive `insert`s. -/
def build (R : List Route) : RouterG O := R.foldl (fun S r => insert O r S) (empty O)

/-- `limit as i64`. -/
def asI64 (n : Nat) : Int := if n % 2 ^ 64 < 2 ^ 63 then (n % 2 ^ 64 : Nat) else (n % 2 ^ 64 : Nat) - 2 ^ 64

/-- The `while prev_cache_limit > 0` loop of `Router::cache`: state = (`prev_cache_limit`, `level`,
`retry`, matcher).  `fuel` bounds the iterations; the Boolean result says that the fuel ran out
(never, with the fuel `Router.cache` passes: `cache_terminates`). -/
def cacheLoop : Nat → Int → Nat → Nat → O.M → O.M × Int × Bool
  | 0, prev, _, _, m => (m, prev, true)
  | fuel + 1, prev, level, retry, m =>
    if prev > 0 then
      let r := O.cache prev.toNat level m
      let next := asI64 r.2
      if next == prev then
        if retry + 1 > 5 then (r.1, next, false)      -- `break`
        else cacheLoop fuel next (level + 1) (retry + 1) r.1
      else cacheLoop fuel next (level + 1) retry r.1
    else (m, prev, false)

/-- The initial `prev_cache_limit` of `Router::cache`: `limit as i64`, or
`(routes.len() / 10).clamp(100, 10_000)`. -/
def cachePrev (limit : Option Nat) (S : RouterG O) : Int :=
  match limit with
  | some l => asI64 l
  | none => ((max 100 (min 10000 (S.routes.length / 10)) : Nat) : Int)

/-- `Router::cache(limit)`.  The second phase (`route.compile()` of the routes' own capture regexes
while budget is left) has no effect on this model's state (routes carry no compiled state; C10). -/
def cache (limit : Option Nat) (S : RouterG O) : RouterG O :=
  ⟨(cacheLoop O ((cachePrev O limit S).toNat + 7) (cachePrev O limit S) 0 0 S.matcher).1, S.routes⟩

end RouterG

/-- `HostMatcher` over the specification-level tree: keyed by the pattern itself. -/
def specHost (E : Env) : HostCfg Pat := ⟨id, E.alwaysAnyHost, E.hostFind⟩

section
variable (E : Env)

/-- The tower `SchemeMatcher<T>` of the code, regex trees at specification level. -/
def towerOps : MOps :=
  schemeOps (hostOps (specHost E) (ipOps (methodOps (headerOps E (dateTimeOps (pathOps E))))))

/-- The router model over the specification-level tower (`config` is the environment). -/
abbrev Router := RouterG (towerOps E)

@[reducible] def Router.empty : Router E := RouterG.empty (towerOps E)
@[reducible] def Router.insert (r : Route) (S : Router E) : Router E := RouterG.insert (towerOps E) r S
@[reducible] def Router.remove (id : String) (S : Router E) : Router E × Option Route :=
  RouterG.remove (towerOps E) id S
@[reducible] def Router.batchRemove (ids : List String) (S : Router E) : Router E :=
  RouterG.batchRemove (towerOps E) ids S
@[reducible] def Router.applyChangeSet (added updated : List Route) (removed : List String)
    (S : Router E) : Router E := RouterG.applyChangeSet (towerOps E) added updated removed S
@[reducible] def Router.matchReq (S : Router E) (q : Req) : List Route := RouterG.matchReq (towerOps E) S q
@[reducible] def Router.len (S : Router E) : Nat := RouterG.len (towerOps E) S
@[reducible] def Router.getRouteById (S : Router E) (id : String) : Option Route :=
  RouterG.getRouteById (towerOps E) S id
@[reducible] def Router.trace (S : Router E) (q : Req) : List Trace := RouterG.trace (towerOps E) S q
@[reducible] def Router.getRoute (S : Router E) (q : Req) : Option Route := RouterG.getRoute (towerOps E) S q
@[reducible] def Router.getTrace (S : Router E) (q : Req) : List Route × Option Route :=
  RouterG.getTrace (towerOps E) S q
@[reducible] def Router.build (R : List Route) : Router E := RouterG.build (towerOps E) R

end

end Rio.Router
