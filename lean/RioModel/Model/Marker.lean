/-
Model of `src/marker/mod.rs` on `List Char` (C10).

Part 1 — the code: `strReplace` (`str::replace`), `containsSub` (`str::contains`), `escape`
(`regex::escape`), `sortByLen` / `sortVars` (the two `sort_by` calls: stable, UTF-8 byte length,
descending), `MarkerString.new` (sequential guarded replace into the matching and the capturing regex),
`replaceVars` (`StaticOrDynamic::replace`, one pass; `replaceSeq` = the sequential code before repair 9f65cbb).

Part 2 — the specification view: a template is *parsed once*, left to right, into items (`lit c`, a stray
`@`, `ref name` = `@name` for the LONGEST known name that is a prefix of what follows the `@`); simultaneous
substitution `subst` fills every reference with the value of its name; `tokens` is the same view of a source
template (literal chars and marker groups).  Props/C10 proves that the code of part 1 computes the view of part 2:
`replaceVars` on a longest-first list without hypothesis (`substitution`), `MarkerString.new` and the earlier `replaceSeq`
under stated hypotheses (and exhibits the inputs where they do not).
-/
import RioModel.Generated.Consts

namespace Rio.Marker

abbrev Str := List Char

/-! ### Part 1: the code -/

/-- `str::len()`: UTF-8 byte length. -/
def blen : Str → Nat
  | [] => 0
  | c :: cs => c.utf8Size + blen cs

/-- `haystack.starts_with(p)` -/
def pre (p s : Str) : Bool := p.isPrefixOf s

/-- Scanner of `str::replace(p :: ps, w)`: `skip` chars of a matched occurrence are still to be passed over.
(Structural recursion with a skip counter so that the kernel can evaluate it.) -/
def replaceAux (p : Char) (ps w : Str) : Nat → Str → Str
  | _, [] => []
  | skip + 1, _ :: cs => replaceAux p ps w skip cs
  | 0, c :: cs =>
    if c = p ∧ pre ps cs = true then w ++ replaceAux p ps w ps.length cs
    else c :: replaceAux p ps w 0 cs

/-- `str::replace(p :: ps, w)` for the non-empty pattern `p :: ps`: leftmost non-overlapping occurrences. -/
def replaceAll1 (p : Char) (ps w : Str) (s : Str) : Str := replaceAux p ps w 0 s

/-- `str::replace(pat, w)`; the empty pattern matches at every char boundary. -/
def strReplace (pat w s : Str) : Str :=
  match pat with
  | [] => w ++ s.flatMap (fun c => c :: w)
  | p :: ps => replaceAll1 p ps w s

/-- `str::replacen(p :: ps, w, 1)`: the leftmost occurrence only. -/
def replaceFirst1 (p : Char) (ps w : Str) : Str → Str
  | [] => []
  | c :: cs =>
    if c = p ∧ pre ps cs = true then w ++ cs.drop ps.length
    else c :: replaceFirst1 p ps w cs

/-- `str::replacen(pat, w, 1)` -/
def strReplaceFirst (pat w s : Str) : Str :=
  match pat with
  | [] => w ++ s
  | p :: ps => replaceFirst1 p ps w s

/-- `str::contains(p :: ps)` -/
def containsSub1 (p : Char) (ps : Str) : Str → Bool
  | [] => false
  | c :: cs => (decide (c = p) && pre ps cs) || containsSub1 p ps cs

/-- `str::contains(pat)` -/
def containsSub (pat s : Str) : Bool :=
  match pat with
  | [] => true
  | p :: ps => containsSub1 p ps s

/-- `regex_syntax::is_meta_character` -/
def isMeta (c : Char) : Bool :=
  c = '\\' || c = '.' || c = '+' || c = '*' || c = '?' || c = '(' || c = ')' || c = '|' ||
  c = '[' || c = ']' || c = '{' || c = '}' || c = '^' || c = '$' || c = '#' || c = '&' ||
  c = '-' || c = '~'

/-- `regex::escape` on one char -/
def escChar (c : Char) : Str := if isMeta c then ['\\', c] else [c]

/-- `regex::escape` -/
def escape (s : Str) : Str := s.flatMap escChar

/-- Stable insertion for a strict "comes before" test on names: `x` (which precedes all of `l` in the original
order) goes in front of the first element that does not come strictly before it. -/
def insertBy {β : Type} (before : Str → Str → Bool) (x : Str × β) : List (Str × β) → List (Str × β)
  | [] => [x]
  | y :: ys => if before y.1 x.1 then y :: insertBy before x ys else x :: y :: ys

/-- `slice::sort_by` (stable) for the comparator whose `Less` is `before`. -/
def sortBy {β : Type} (before : Str → Str → Bool) : List (Str × β) → List (Str × β)
  | [] => []
  | x :: xs => insertBy before x (sortBy before xs)

/-- `b.name.len().cmp(&a.name.len()) == Less`: `a` is strictly longer (UTF-8 bytes). -/
def lenBefore (a b : Str) : Bool := decide (blen b < blen a)

/-- `markers.sort_by(|a, b| b.name.len().cmp(&a.name.len()))` in `MarkerString::new`. -/
def sortByLen {β : Type} (l : List (Str × β)) : List (Str × β) := sortBy lenBefore l

/-- `String::cmp == Less`: lexicographic on the UTF-8 bytes = lexicographic on the code points. -/
def strLt : Str → Str → Bool
  | [], [] => false
  | [], _ :: _ => true
  | _ :: _, [] => false
  | a :: as, b :: bs => decide (a.toNat < b.toNat) || (decide (a = b) && strLt as bs)

/-- `key_b.len().cmp(&key_a.len()).then_with(|| key_a.cmp(key_b)) == Less`: longer first, equal lengths by name
ascending (repair 96f3afa of the HashMap-order finding). -/
def varBefore (a b : Str) : Bool := decide (blen b < blen a) || (decide (blen a = blen b) && strLt a b)

/-- The final sort of `Rule::variables`. -/
def sortVars {β : Type} (l : List (Str × β)) : List (Str × β) := sortBy varBefore l

/-- `marker.format()` -/
def fmt (name : Str) : Str := '@' :: name

/-- `format!("(?:{})", re)` — the pieces of the format string are regenerated from the source
(tools/consts.d/marker.py). -/
def groupRegex (re : Str) : Str :=
  Rio.Consts.markerGroupRegexFormat.1.toList ++ re ++ Rio.Consts.markerGroupRegexFormat.2.toList
/-- `format!("(?P<{}>{})", name, re)` -/
def groupCapture (name re : Str) : Str :=
  Rio.Consts.markerGroupCaptureFormat.1.toList ++ name ++ Rio.Consts.markerGroupCaptureFormat.2.1.toList ++ re ++
    Rio.Consts.markerGroupCaptureFormat.2.2.toList

structure Build where
  regex : Str
  capture : Str
  /-- keys inserted into `marker_map`, in insertion order -/
  used : List Str
deriving Repr, DecidableEq

/-- Body of the `for marker in &markers` loop of `MarkerString::new`. -/
def buildStep (b : Build) (m : Str × Str) : Build :=
  if containsSub (fmt m.1) b.regex then
    { regex := strReplace (fmt m.1) (groupRegex m.2) b.regex
      -- a group name can be declared only once: the first occurrence captures, the next ones only match
      capture := strReplace (fmt m.1) (groupRegex m.2) (strReplaceFirst (fmt m.1) (groupCapture m.1 m.2) b.capture)
      used := b.used ++ [m.1] }
  else b

/-- `MarkerString::new` up to the emptiness test; `markers` are `(name, regex)` pairs. -/
def build (t : Str) (markers : List (Str × Str)) : Build :=
  (sortByLen markers).foldl buildStep ⟨escape t, escape t, []⟩

structure MarkerString where
  regex : Str
  capture : Str
  ignoreCase : Bool
deriving Repr, DecidableEq

/-- `MarkerString::new` -/
def MarkerString.new (t : Str) (markers : List (Str × Str)) (ic : Bool) : Option MarkerString :=
  let b := build t markers
  if b.used.isEmpty then none else some ⟨b.regex, b.capture, ic⟩

inductive StaticOrDynamic where
  | static (s : Str)
  | dynamic (m : MarkerString)
deriving Repr, DecidableEq

/-- `StaticOrDynamic::new_with_markers`; `lower` = `str::to_lowercase`. -/
def StaticOrDynamic.newWithMarkers (lower : Str → Str) (t : Str) (markers : List (Str × Str)) (ic : Bool) :
    StaticOrDynamic :=
  if markers.isEmpty then .static (if ic then lower t else t)
  else match MarkerString.new t markers ic with
    | none => .static (if ic then lower t else t)
    | some m => .dynamic m

/-- `StaticOrDynamic::replace` BEFORE repair 9f65cbb: sequential textual replace of `@name` by the value, in list
order (kept for the record: Props/C10 states what it computed and what the repair fixed). -/
def replaceSeq (t : Str) (vars : List (Str × Str)) : Str :=
  vars.foldl (fun s v => strReplace (fmt v.1) v.2 s) t

/-- `for (name, value) in variables { if after.starts_with(name) { … } }`: the first entry, in list order, whose
name is a prefix of the text after the `@`. -/
def firstMatch : List (Str × Str) → Str → Option (Str × Str)
  | [], _ => none
  | p :: rest, s => if pre p.1 s then some p else firstMatch rest s

/-- Scanner of `StaticOrDynamic::replace` (`skip` chars of a recognised name are still to be passed over):
text is copied; at an `@`, the first variable whose name follows gives its value and the name is skipped; if no
name fits the `@` is copied. -/
def scanAux (vars : List (Str × Str)) : Nat → Str → Str
  | _, [] => []
  | skip + 1, _ :: cs => scanAux vars skip cs
  | 0, c :: cs =>
    if c = '@' then
      match firstMatch vars cs with
      | some p => p.2 ++ scanAux vars p.1.length cs
      | none => '@' :: scanAux vars 0 cs
    else c :: scanAux vars 0 cs

/-- `StaticOrDynamic::replace` (repair 9f65cbb): ONE pass over the template; a substituted value is never scanned
again. -/
def replaceVars (t : Str) (vars : List (Str × Str)) : Str := scanAux vars 0 t

/-! ### Part 2: the simultaneous view -/

inductive Item where
  /-- a char of the template other than `@` -/
  | lit (c : Char)
  /-- inserted text -/
  | txt (s : Str)
  /-- an `@` that starts no reference -/
  | stray
  /-- `@name` -/
  | ref (n : Str)
deriving Repr, DecidableEq

def Item.render (esc : Char → Str) : Item → Str
  | .lit c => esc c
  | .txt s => s
  | .stray => ['@']
  | .ref n => '@' :: n

def render (esc : Char → Str) (is : List Item) : Str := is.flatMap (Item.render esc)

/-- No escaping. -/
def idEsc (c : Char) : Str := [c]

/-- The longest (byte length) name that is a prefix of `s` (two such names of equal length are equal). -/
def longest : List Str → Str → Option Str
  | [], _ => none
  | n :: ns, s =>
    match longest ns s with
    | some b => if pre n s && decide (blen b < blen n) then some n else some b
    | none => if pre n s then some n else none

/-- Scanner of `parse` (`skip` chars of a recognised name are still to be passed over). -/
def parseAux (names : List Str) : Nat → Str → List Item
  | _, [] => []
  | skip + 1, _ :: cs => parseAux names skip cs
  | 0, c :: cs =>
    if c = '@' then
      match longest names cs with
      | some n => .ref n :: parseAux names n.length cs
      | none => .stray :: parseAux names 0 cs
    else .lit c :: parseAux names 0 cs

/-- One left-to-right pass: at an `@`, the longest known name that follows is a reference. -/
def parse (names : List Str) (t : Str) : List Item := parseAux names 0 t

/-- Fill the references whose name has a value (the first entry of that name). -/
def fill (vs : List (Str × Str)) : Item → Item
  | .ref n => match vs.lookup n with
    | some w => .txt w
    | none => .ref n
  | i => i

def names {β : Type} (vs : List (Str × β)) : List Str := vs.map (·.1)

/-- **Simultaneous longest-match substitution**: every `@name` (longest known name) is replaced by the
value of that name; everything else is copied. -/
def subst (vs : List (Str × Str)) (t : Str) : Str :=
  render idEsc ((parse (names vs) t).map (fill vs))

/-! Hypotheses of `C10.sequential_replace_substitution` (about `replaceSeq`; `C10.substitution` has none), as executable
tests; `noStrayAt` is a test of the driver only. -/

def noAt (s : Str) : Bool := !s.contains '@'

/-- No name contains `@`. -/
def namesNoAt {β : Type} (vs : List (Str × β)) : Bool := vs.all fun v => noAt v.1
/-- No value contains `@` (a value containing `@shorter` would be substituted again). -/
def valuesNoAt (vs : List (Str × Str)) : Bool := vs.all fun v => noAt v.2

/-- `m` extends `n` properly. -/
def properExt (n m : Str) : Bool := pre n m && (n != m)

/-- After the simultaneous substitution nothing reads as a *longer* reference: for a reference `@n`
followed by the substituted rest `r`, no known name `m` properly extending `n` is a prefix of `n ++ r`; for a
stray `@` followed by `r`, no known name is a prefix of `r`.  (`esc` renders the literal chars.) -/
def noJoinItems (esc : Char → Str) (vs : List (Str × Str)) : List Item → Bool
  | [] => true
  | .ref n :: post =>
    (names vs).all (fun m => !(properExt n m && pre m (n ++ render esc (post.map (fill vs))))) &&
      noJoinItems esc vs post
  | .stray :: post =>
    (names vs).all (fun m => !(pre m (render esc (post.map (fill vs))))) && noJoinItems esc vs post
  | _ :: post => noJoinItems esc vs post

def noJoin (vs : List (Str × Str)) (t : Str) : Bool := noJoinItems idEsc vs (parse (names vs) t)

/-- Every `@` of the template starts a reference to a known name. -/
def noStrayAt {β : Type} (vs : List (Str × β)) (t : Str) : Bool := !(parse (names vs) t).contains .stray

/-! ### Tokens of a source template (path / host / header value with markers) -/

inductive Tok where
  | lit (c : Char)
  | grp (name re : Str)
deriving Repr, DecidableEq

def tokOf (ms : List (Str × Str)) : Item → Tok
  | .lit c => .lit c
  | .txt _ => .lit '@'          -- not produced by `parse`
  | .stray => .lit '@'
  | .ref n => match ms.lookup n with
    | some re => .grp n re
    | none => .lit '@'          -- not produced by `parse` (a reference is to a known name)

/-- The token view of template `t` with markers `ms` (`(name, regex)` pairs). -/
def tokens (t : Str) (ms : List (Str × Str)) : List Tok := (parse (names ms) t).map (tokOf ms)

def Tok.regex : Tok → Str
  | .lit c => escChar c
  | .grp _ re => groupRegex re

/-- The matching regex of a token list: escaped literals, `(?:re)` groups. -/
def renderRegex (ts : List Tok) : Str := ts.flatMap Tok.regex

/-- The capturing regex of a token list, `seen` = names already declared: escaped literals, `(?P<name>re)` for
the FIRST group of a name, `(?:re)` for the following ones. -/
def renderCaptureAux : List Str → List Tok → Str
  | _, [] => []
  | seen, .lit c :: ts => escChar c ++ renderCaptureAux seen ts
  | seen, .grp n re :: ts =>
    if n ∈ seen then groupRegex re ++ renderCaptureAux seen ts
    else groupCapture n re ++ renderCaptureAux (n :: seen) ts

def renderCapture (ts : List Tok) : Str := renderCaptureAux [] ts

/-- Marker names are plain: no regex meta character and no `@` (so escaping leaves `@name` intact). -/
def plainName (n : Str) : Bool := n.all fun c => !isMeta c && c != '@'
def namesPlain {β : Type} (ms : List (Str × β)) : Bool := ms.all fun m => plainName m.1
/-- No marker expression contains `@` (it would be searched again by the later, shorter markers). -/
def regexNoAt (ms : List (Str × Str)) : Bool := ms.all fun m => noAt m.2

end Rio.Marker
