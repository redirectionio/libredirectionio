/-
Router model, part 3: the flat specification `sat` of property C01, and `TreeSpec`: the laws under
which a tree implementation would refine the association lists that stand for the two regex trees.
-/
import RioModel.Model.RouterLayers

namespace Rio.Router

/-! ## The flat predicate: every trigger of the rule is satisfied by the request -/

/-- Scheme scope of a rule: `none` = any scheme (`scheme` absent or empty). -/
def schemeKey (r : Route) : Option String :=
  match r.scheme with
  | none => none
  | some s => if s = "" then none else some s

/-- scheme trigger -/
def schemeOk (r : Route) (q : Req) : Bool :=
  match schemeKey r with
  | none => true
  | some s => q.scheme == some s

/-- The rule is bound to a host (host present and not the empty string). -/
def hostBound (r : Route) : Bool :=
  match r.host with
  | none => false
  | some (.static h) => h != ""
  | some (.dyn _) => true

section
variable (E : Env)

/-- host trigger -/
def hostOk (r : Route) (q : Req) : Bool :=
  match r.host with
  | none => true
  | some (.static h) => h == "" || q.host == some h
  | some (.dyn p) =>
    match q.host with
    | none => false
    | some h => E.hostFind p h

/-- client-IP trigger: some listed range (or negated range) accepts the address. -/
def ipOk (r : Route) (q : Req) : Bool :=
  match r.ips with
  | none => true
  | some ks =>
    match q.ip with
    | none => false
    | some a => ks.any (fun k => k.matchIp a)

/-- method trigger: list or exclusion (exclusion iff the flag is present); no method = `GET`. -/
def methodOk (r : Route) (q : Req) : Bool :=
  match r.methods with
  | none => true
  | some ms =>
    ms.isEmpty ||
      (if r.excludeMethods.isSome then !ms.contains q.methodStr else ms.contains q.methodStr)

/-- header trigger: all conditions hold. -/
def headersOk (r : Route) (q : Req) : Bool :=
  r.headers.all (fun h => (h.toCond E).eval E q)

/-- date / time-of-day / week-day windows: each present constraint is satisfied by the request's
instant (no instant = not satisfied); windows are start-inclusive, end-exclusive. -/
def dateOk (r : Route) (q : Req) : Bool :=
  (match r.datetime with
   | none => true
   | some rs =>
     match q.createdAt with
     | none => false
     | some t => rs.any (fun w => w.matchInstant t)) &&
  (match r.time with
   | none => true
   | some rs =>
     match q.createdAt with
     | none => false
     | some t => rs.any (fun w => w.matchInstant (timeOfDay t))) &&
  (match r.weekdays with
   | none => true
   | some ws =>
     match q.createdAt with
     | none => false
     | some t => ws.contains (weekdayOf t))

/-- path-and-query trigger: literal equality or pattern match. -/
def pathOk (r : Route) (q : Req) : Bool :=
  match r.path with
  | .static p => p == q.path
  | .dyn p => E.pathFind p q.path

/-- All seven triggers. -/
def triggersOk (r : Route) (q : Req) : Bool :=
  schemeOk r q && hostOk E r q && ipOk r q && methodOk r q && headersOk E r q && dateOk r q &&
    pathOk E r q

/-- `sat E R r q`: the triggers hold, and a host-less rule is a candidate iff
`always_match_any_host` or no host-bound rule of the same scheme scope in `R` has all its
triggers satisfied by `q`. -/
def sat (R : List Route) (r : Route) (q : Req) : Bool :=
  triggersOk E r q &&
    (hostBound r || E.alwaysAnyHost ||
      !(R.any (fun r' => hostBound r' && schemeKey r' == schemeKey r && triggersOk E r' q)))

end

/-! ## What the specification-level layers assume about the regex radix tree

The two tree layers are modelled by association lists (`HKeyG.dyn p ↦ bucket` in `HostMatcher`,
`(p, id) ↦ route` in `PathAndQueryMatcher`) and `find` by filtering with `Env.hostFind` /
`Env.pathFind`.  `TreeSpec` states, for an arbitrary implementation `T` of the tree with values
`V`, the refinement obligations under which that is a faithful model.  No theorem takes a
`TreeSpec` and its only instance is the list itself (`listTree`): the model of
`regex_radix_tree/*.rs` (property C08) is tied in by proving the layer laws `MLaws` of the two
layers over it (`pathTLaws`, `hostTLaws`); the correspondence check of C01/C02/C17 exercises the
list model against the real tree on every run. -/

structure TreeSpec (T V : Type) where
  /-- abstraction: the `(pattern, id) ↦ value` entries stored in the tree -/
  entries : T → List ((Pat × String) × V)
  /-- one pattern of the tree matches a haystack (engine + `ignore_case` flag of the tree) -/
  pmatch : Pat → String → Bool
  empty : T
  insert : Pat → String → V → T → T
  find : T → String → List V
  get : T → Pat → String → Option V
  retain : (String → V → Option V) → T → T
  isEmpty : T → Bool
  entries_empty : entries empty = []
  /-- `insert` replaces the value under an existing `(pattern, id)` or adds an entry -/
  entries_insert : ∀ t p id v,
    (akeys (entries t)).Nodup →
      (akeys (entries (insert p id v t))).Nodup ∧
      ∀ k, alookup k (entries (insert p id v t)) = if k = (p, id) then some v else alookup k (entries t)
  /-- `find` returns exactly the values of the matching patterns (in some order) -/
  find_spec : ∀ t h v, v ∈ find t h ↔ ∃ e ∈ entries t, pmatch e.1.1 h = true ∧ e.2 = v
  /-- `get` / `get_mut` address one entry -/
  get_spec : ∀ t p id, get t p id = alookup (p, id) (entries t)
  /-- `retain` keeps (and updates) exactly the entries the closure keeps -/
  retain_spec : ∀ t f k, (akeys (entries t)).Nodup →
    (akeys (entries (retain f t))).Nodup ∧
    alookup k (entries (retain f t)) = (alookup k (entries t)).bind (f k.2)
  isEmpty_spec : ∀ t, isEmpty t = (entries t).isEmpty

end Rio.Router
