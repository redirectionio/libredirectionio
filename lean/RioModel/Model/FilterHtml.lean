/-
Instantiation of the abstract tokenizer of `Model/Filter.lean` with the tokenizer model of `Model/Html.lean` (W5),
plus the executable stand-ins the drivers use for the other parameters (scraper, the codecs).

`htmlTokenize.plain bs` (which is what `htmlTokenize bs` means) runs `Tokenizer::new(bs)` as `append_child` /
`prepend_child` do, `htmlTokenize.stream ctx bs` runs `Tokenizer::new_fragment(bs, ctx)`, the tokenizer
`HtmlFilterBodyAction::filter` builds: `next()` until the first `ErrorToken`, collecting for each token its kind,
`raw()` and — for tag tokens — `tag_name()`; the remainder is `raw() ++ buffered()` at the `ErrorToken`.  Any modelled
failure (a would-be panic, `Err(FromUtf8Error)`, the `hang` flag, fuel exhausted) makes `htmlTokenize?` / `htmlStream?`
return `none`; `htmlPlain` / `htmlStream` then answer "no token, everything held", which makes the model's output
differ visibly from the implementation's (such a case is a correspondence failure, never a silent default).  C16 proves
none of these failures happens.
-/
import RioModel.Model.Filter
import RioModel.Model.Html

namespace Rio.Filter
open Rio.Html

def kindOf : TokenType → TokKind
  | .text => .text
  | .startTag => .startTag
  | .endTag => .endTag
  | .selfClosing => .selfClosing
  | _ => .other

def tokenizeGo : Nat → Tokenizer → List Tok → Option (List Tok × Bytes)
  | 0, _, _ => none
  | n + 1, t, acc =>
    let t1 := t.next
    if t1.panic || t1.hang || t1.utf8Err then none
    else if t1.token == .error then
      match t1.raw, t1.buffered with
      | some r, some b => some (acc.reverse, r ++ b)
      | _, _ => none
    else
      match t1.raw with
      | none => none
      | some r =>
        if Tokenizer.isTagLike t1.token then
          match t1.tagName with
          | (.ok (some nm, _), t2) => tokenizeGo n t2 ({ kind := kindOf t1.token, raw := r, name := nm } :: acc)
          | (.ok (none, _), t2) => tokenizeGo n t2 ({ kind := kindOf t1.token, raw := r } :: acc)
          | _ => none
        else tokenizeGo n t1 ({ kind := kindOf t1.token, raw := r } :: acc)

def htmlTokenize? (bs : Bytes) : Option (List Tok × Bytes) :=
  tokenizeGo (bs.length + 2) (Tokenizer.new bs.toArray) []

/-- `Tokenizer::new(buffer)` run to the `ErrorToken` (append_child / prepend_child) -/
def htmlPlain (bs : Bytes) : List Tok × Bytes := (htmlTokenize? bs).getD ([], bs)

/-- The loop of `HtmlFilterBodyAction::filter` since fe7eac6, from any tokenizer state: before each `next()` the
context `raw_tag()` is read, after it `err().is_some()`.  Same failure exits as `tokenizeGo`. -/
def tokenizeGoX : Nat → Tokenizer → List TokX → Option (List TokX × Bytes × Bytes)
  | 0, _, _ => none
  | n + 1, t, acc =>
    let c := t.rawTag
    let t1 := t.next
    if t1.panic || t1.hang || t1.utf8Err then none
    else if t1.token == .error then
      match t1.raw, t1.buffered with
      | some r, some b => some (acc.reverse, r ++ b, c)
      | _, _ => none
    else
      match t1.raw with
      | none => none
      | some r =>
        if Tokenizer.isTagLike t1.token then
          match t1.tagName with
          | (.ok (some nm, _), t2) =>
            tokenizeGoX n t2 ({ tok := { kind := kindOf t1.token, raw := r, name := nm }, cut := t1.err, ctx := c } :: acc)
          | (.ok (none, _), t2) =>
            tokenizeGoX n t2 ({ tok := { kind := kindOf t1.token, raw := r }, cut := t1.err, ctx := c } :: acc)
          | _ => none
        else tokenizeGoX n t1 ({ tok := { kind := kindOf t1.token, raw := r }, cut := t1.err, ctx := c } :: acc)

/-- `Tokenizer::new_fragment(buffer, context)` run to the `ErrorToken`; the context is already lower case (it comes from
`raw_tag()`) -/
def htmlStream? (ctx bs : Bytes) : Option (List TokX × Bytes × Bytes) :=
  tokenizeGoX (bs.length + 2) (Tokenizer.newFragment bs.toArray ctx) []

def htmlStream (ctx bs : Bytes) : List TokX × Bytes × Bytes := (htmlStream? ctx bs).getD ([], bs, ctx)

/-- the tokenizer handed to the filter model by the drivers -/
def htmlTokenize : Tokenize := { plain := htmlPlain, stream := htmlStream }

@[simp] theorem htmlTokenize_apply (bs : Bytes) : htmlTokenize bs = (htmlTokenize? bs).getD ([], bs) := rfl

/-! ### stand-in for `scraper` (drivers only; the theorems hold for every `evaluate`) -/

def isIdentByte (b : Nat) : Bool :=
  (97 ≤ b && b ≤ 122) || (65 ≤ b && b ≤ 90) || (48 ≤ b && b ≤ 57) || b == 45

/-- `*` matches always; an element name matches iff the fragment contains a start / self-closing tag of that name
(as seen by the tokenizer model); anything else never matches.  The harnesses generate only selectors on which
this agrees with scraper (checked by the implementation-side oracle of C15 on every run). -/
def evalStandIn (data sel : Bytes) : Bool :=
  if sel == [42] then true
  else if !sel.isEmpty && sel.all isIdentByte then
    (htmlTokenize data).1.any fun t => (t.kind == .startTag || t.kind == .selfClosing) && t.name == sel
  else false

/-! ### scripted codec (drivers of C14 and of the compressed cases of C04)

The decoder is replaced by the list of outputs the real decoder produced under the schedule (computed by the harness
with a replica of `DecodeFilterBody`), the encoder by the identity: the model then computes what the chain hands to the
encoder, i.e. (by the codec laws, `Rio.C14.compressed_equiv`) the decoding of the chain's output. -/

structure ScriptDec where
  /-- outputs of the remaining `filter` calls; an exhausted script = the call fails -/
  outs : List Bytes
  /-- output of `end()`; `none` = it fails -/
  fin : Option Bytes

def scriptCodec (d : ScriptDec) : Codec ScriptDec Unit where
  create _ := (d, ())
  decWrite s _ :=
    match s.outs with
    | [] => none
    | o :: rest => some ({ s with outs := rest }, o)
  decFinish s := s.fin
  encWrite _ b := some ((), b)
  encFinish _ := some []

/-! ### helpers shared by the drivers -/

def utf8Bytes (s : String) : Bytes := s.toUTF8.toList.map (·.toNat)

/-- pieces of `body` between consecutive cut positions (cuts non-decreasing, within range) -/
def splitAt (body : Bytes) (cuts : List Nat) : List Bytes :=
  go body 0 cuts
where
  go (rest : Bytes) (pos : Nat) : List Nat → List Bytes
    | [] => [rest]
    | c :: cs => rest.take (c - pos) :: go (rest.drop (c - pos)) c cs

/-- feed chunks, recording the index of the `filter` call during which the chain entered its error state -/
def feedTrack {D E : Type} (tk : Tokenize) (ev : Bytes → Bytes → Bool) (codec : Codec D E) :
    Chain D E → List Bytes → Nat → Option Nat → List Bytes → Chain D E × List Bytes × Option Nat
  | c, [], _, err, acc => (c, acc.reverse, err)
  | c, x :: xs, i, err, acc =>
    let (c1, o) := c.filter tk ev codec x
    let err1 := if err.isNone && c1.inError then some i else err
    feedTrack tk ev codec c1 xs (i + 1) err1 (o :: acc)

/-- (concatenated output, index of the failing call: `#chunks` = during `end`) -/
def runTrack {D E : Type} (tk : Tokenize) (ev : Bytes → Bytes → Bool) (codec : Codec D E)
    (c : Chain D E) (chunks : List Bytes) : Bytes × Option Nat :=
  let (c1, outs, err) := feedTrack tk ev codec c chunks 0 none []
  let (c2, e) := c1.end tk ev codec
  let err2 := if err.isNone && c2.inError then some chunks.length else err
  (outs.flatten ++ e, err2)

end Rio.Filter
