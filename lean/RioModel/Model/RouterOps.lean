/-
Router model, part 6: operation histories (property C02).

`Op.run` executes one operation of the history on the router model, `Op.live` is its effect on the
list of live rules (the specification), `Op.Valid` says that live ids stay unique (an inserted id is
not live at the moment of its insertion; ids inside one change-set are consistent).
`clone-then-mutate` needs no operation: states are values.  `cache n` runs `Router::cache`
(`RouterG.cache`): on the specification-level tower it changes nothing, on the tower over the real
tree model it sets compiled values (property C12); it never changes the live rules.
-/
import RioModel.Model.RouterLayers

namespace Rio.Router

/-- the live list after inserting `rs` one by one -/
def insertAll (rs : List Route) (L : List Route) : List Route := rs.foldl (fun L r => r :: L) L

/-- every id is fresh at the moment it is inserted -/
def FreshAll : List Route → List Route → Prop
  | [], _ => True
  | r :: rs, L => r.id ∉ L.map (·.id) ∧ FreshAll rs (r :: L)

/-- the live list after `apply_change_set(added, updated, removed)`: the removed and the updated
ids leave, then the updated and the added routes enter -/
def liveChangeSet (added updated : List Route) (removed : List String) (L : List Route) : List Route :=
  insertAll added (insertAll updated
    (L.filter (fun r => !(removed ++ updated.map (·.id)).contains r.id)))

inductive Op where
  | insert (r : Route)
  | remove (id : String)
  | batchRemove (ids : List String)
  | changeSet (added updated : List Route) (removed : List String)
  | cache (limit : Option Nat)
deriving Repr, Inhabited

/-- one operation on the router (over any outermost matcher) -/
def Op.runG (O : MOps) : Op → RouterG O → RouterG O
  | .insert r, S => RouterG.insert O r S
  | .remove id, S => (RouterG.remove O id S).1
  | .batchRemove ids, S => RouterG.batchRemove O ids S
  | .changeSet a u d, S => RouterG.applyChangeSet O a u d S
  | .cache n, S => RouterG.cache O n S

def runOpsG (O : MOps) (h : List Op) (S : RouterG O) : RouterG O := h.foldl (fun S op => op.runG O S) S

section
variable (E : Env)

/-- one operation on the router -/
@[reducible] def Op.run (op : Op) (S : Router E) : Router E := Op.runG (towerOps E) op S

/-- `run h`: the router after the history `h` -/
@[reducible] def runOps (h : List Op) (S : Router E) : Router E := runOpsG (towerOps E) h S

end

/-- one operation on the live rule list -/
def Op.live : Op → List Route → List Route
  | .insert r, L => r :: L
  | .remove id, L => L.filter (fun r => r.id != id)
  | .batchRemove ids, L => L.filter (fun r => !ids.contains r.id)
  | .changeSet a u d, L => liveChangeSet a u d L
  | .cache _, L => L

/-- `live h`: the live rules after the history `h` -/
def liveOps (h : List Op) (L : List Route) : List Route := h.foldl (fun L op => op.live L) L

/-- the operation keeps live ids unique -/
def Op.Valid : Op → List Route → Prop
  | .insert r, L => r.id ∉ L.map (·.id)
  | .changeSet a u d, L =>
    FreshAll (u ++ a) (L.filter (fun r => !(d ++ u.map (·.id)).contains r.id))
  | _, _ => True

/-- every operation of the history keeps live ids unique -/
def ValidHistory : List Op → List Route → Prop
  | [], _ => True
  | op :: h, L => op.Valid L ∧ ValidHistory h (op.live L)

end Rio.Router
