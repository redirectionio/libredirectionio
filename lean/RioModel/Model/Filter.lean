/-
Model of the streaming body-filter chain (C03, C04, C14, C15):

  src/filter/html_filter_body.rs        `HtmlFilterBodyAction` (filter / end / on_start_tag_token / on_end_tag_token, BufferLink)
  src/filter/html_body_action/*.rs      the three visitors (`enter` / `leave`, `append_child`, `prepend_child`)
  src/filter/text_filter_body.rs        `TextFilterBodyAction`
  src/filter/filter_body.rs             `FilterBodyAction` (new / filter / do_filter / end / do_end, `in_error`),
                                        `FilterBodyActionItem::new` (content-type gate)
  src/filter/encoding/*.rs              as an abstract `Codec` (state machines with write+flush and finish)

Conventions.
* Bytes are `Nat`s in a `List` (same as `Model/Html.lean`).  Strings that only ever meet bytes (element names of a
  path, css selectors, values) are their UTF-8 bytes.
* The tokenizer is a PARAMETER (`structure Tokenize`): `plain` for `html::Tokenizer::new` (append_child /
  prepend_child), `stream` for `Tokenizer::new_fragment(data, last_context)` (the filter loop): the complete tokens in
  order (kind, raw bytes, lower-cased tag name; for `stream` also the cut flag and the context) and the remainder
  (`raw()` of the final `ErrorToken` followed by `buffered()`).  `Model/FilterHtml.lean` instantiates it with the
  tokenizer model of W5; the theorems are stated for every tokenizer satisfying the laws they name.
* `scraper` is a PARAMETER: `evaluate data selector : Bool`.
* A visitor's `element_tree` + `position` is a zipper (`before` reversed, `cur = element_tree[position]`, `after`):
  `position + 1 < len` is `after ≠ []`, `position > 0` is `before ≠ []`; the indexing `element_tree[position]`
  cannot be out of range by construction (the Rust maintains `position < len`, the zipper is that invariant).
* `?` exits of `filter` other than the UTF-8 validation (`tokenizer.next()?`, `raw_as_string()?`, `tag_name()?`) cannot
  fire on validated input (C16 `accessors_ok_of_utf8`); the instantiation (`Model/FilterHtml.lean`) does not hide them:
  there they make the tokenizer answer "no token, everything held", so that the model's output differs visibly from the
  code's.  `tag_name.unwrap()` on a tag token: the tokenizer always has a name there (C16 `tag_name_some`).
-/
import RioModel.Generated.Consts

namespace Rio.Filter
open Rio.Consts

abbrev Bytes := List Nat

/-! ### `std::str::from_utf8`: valid / incomplete trailing sequence (`error_len() == None`) / invalid -/

structure U8St where
  /-- continuation bytes still expected -/
  need : Nat := 0
  /-- admissible range of the next byte -/
  lo : Nat := 128
  hi : Nat := 191
  deriving Repr, DecidableEq

/-- one byte of the validator; `none` = an invalid sequence (`error_len() == Some(_)`) -/
def u8Step (s : U8St) (b : Nat) : Option U8St :=
  if s.need = 0 then
    if b < 128 then some {}
    else if 194 ≤ b && b ≤ 223 then some { need := 1 }
    else if b == 224 then some { need := 2, lo := 160 }
    else if (225 ≤ b && b ≤ 236) || b == 238 || b == 239 then some { need := 2 }
    else if b == 237 then some { need := 2, hi := 159 }
    else if b == 240 then some { need := 3, lo := 144 }
    else if 241 ≤ b && b ≤ 243 then some { need := 3 }
    else if b == 244 then some { need := 3, hi := 143 }
    else none
  else if s.lo ≤ b && b ≤ s.hi then some { need := s.need - 1 }
  else none

inductive U8Res where
  | ok
  /-- the input ends inside a sequence that is valid so far; `validUpTo` = `err.valid_up_to()` -/
  | incomplete (validUpTo : Nat)
  | invalid
  deriving Repr, DecidableEq

/-- scan from position `pos` in state `st`; `bd` = end of the last complete character -/
def utf8Go : Bytes → U8St → Nat → Nat → U8Res
  | [], st, _, bd => if st.need = 0 then .ok else .incomplete bd
  | b :: rest, st, pos, bd =>
    match u8Step st b with
    | none => .invalid
    | some st' => utf8Go rest st' (pos + 1) (if st'.need = 0 then pos + 1 else bd)

def utf8Scan (bs : Bytes) : U8Res := utf8Go bs {} 0 0

/-! ### tokens (the tokenizer is a parameter) -/

inductive TokKind where
  | text | startTag | endTag | selfClosing
  /-- comment or doctype -/
  | other
  deriving DecidableEq, Repr, Inhabited

structure Tok where
  kind : TokKind
  /-- `raw()` -/
  raw : Bytes
  /-- `tag_name()` lower-cased (`[]` for a non-tag token) -/
  name : Bytes := []
  deriving DecidableEq, Repr, Inhabited

/-- a token of the stream tokenizer of `HtmlFilterBodyAction::filter`, with what the filter reads around `next()` -/
structure TokX where
  tok : Tok
  /-- `tokenizer.err().is_some()` after the `next()` that produced the token: the end of the data was reached -/
  cut : Bool
  /-- `tokenizer.raw_tag()` before that `next()`: the raw-text element in whose content the token starts (`[]` = none) -/
  ctx : Bytes
  deriving DecidableEq, Repr, Inhabited

/-- The tokenizer as the filters use it (a parameter of the model).
`plain b` = `Tokenizer::new(b)` run to the `ErrorToken`: complete tokens in order and `raw() ++ buffered()` at the
`ErrorToken` (`append_child`, `prepend_child`).
`stream c b` = `Tokenizer::new_fragment(b, c)` run to the `ErrorToken`: tokens with `cut` and `ctx`, the remainder, and
`raw_tag()` before the `next()` that returned the `ErrorToken` (`HtmlFilterBodyAction::filter` since fe7eac6). -/
structure Tokenize where
  plain : Bytes → List Tok × Bytes
  stream : Bytes → Bytes → List TokX × Bytes × Bytes

instance : CoeFun Tokenize (fun _ => Bytes → List Tok × Bytes) := ⟨Tokenize.plain⟩

def rawsOf (ts : List Tok) : Bytes := ts.flatMap (·.raw)

/-- `VOID_ELEMENTS.contains(name)` (table regenerated from the source) -/
def isVoid (name : Bytes) : Bool := filterVoidElements.contains name

/-- `token_data.contains('<') || token_data.contains("</")` (the second disjunct implies the first) -/
def hasLt (bs : Bytes) : Bool := bs.contains 60

/-! ### the three visitors -/

inductive VKind where
  | append | prepend | replace
  deriving DecidableEq, Repr, Inhabited

/-- `BodyAppend` / `BodyPrepend` / `BodyReplace` (same fields; `is_buffering` unused by append) -/
structure Visitor where
  kind : VKind
  /-- `element_tree[..position]`, reversed -/
  before : List Bytes := []
  /-- `element_tree[position]` -/
  cur : Bytes
  /-- `element_tree[position+1..]` -/
  after : List Bytes := []
  /-- `css_selector` -/
  sel : Option Bytes := none
  /-- `content` -/
  content : Bytes
  isBuffering : Bool := false
  deriving Repr, DecidableEq, Inhabited

namespace Visitor

/-- `self.css_selector.is_some() && !self.css_selector.as_ref().unwrap().is_empty()` -/
def hasSel (v : Visitor) : Bool :=
  match v.sel with
  | some s => !s.isEmpty
  | none => false

def selector (v : Visitor) : Bytes := v.sel.getD []

/-- `self.position += 1` (only called when `after ≠ []`) -/
def advance (v : Visitor) : Visitor :=
  match v.after with
  | [] => v
  | a :: rest => { v with before := v.cur :: v.before, cur := a, after := rest }

/-- `self.position -= 1` (only called when `before ≠ []`) -/
def retreat (v : Visitor) : Visitor :=
  match v.before with
  | [] => v
  | b :: rest => { v with before := rest, cur := b, after := v.cur :: v.after }

/-- `first()` -/
def first (v : Visitor) : Bytes :=
  match v.before.reverse with
  | [] => v.cur
  | f :: _ => f

/-- `enter(data)` → ((next_enter, next_leave, start_buffer, data), self) -/
def enter (v : Visitor) (data : Bytes) : (Option Bytes × Option Bytes × Bool × Bytes) × Visitor :=
  let nextLeave := some v.cur
  if v.after ≠ [] then
    let v' := v.advance
    ((some v'.cur, nextLeave, false, data), v')
  else
    match v.kind with
    | .append => ((none, nextLeave, v.hasSel, data), v)
    | .prepend =>
      if !v.hasSel then ((none, nextLeave, v.isBuffering, data ++ v.content), v)
      else
        let v' := { v with isBuffering := true }
        ((none, nextLeave, true, data), v')
    | .replace =>
      let v' := { v with isBuffering := true }
      ((none, nextLeave, true, data), v')

end Visitor

section
variable (tk : Tokenize) (evaluate : Bytes → Bytes → Bool)

/-- the token loop of `append_child(content, child)`; `none` = the `ErrorToken` exit (content unchanged) -/
def appendChildGo (child : Bytes) : List Tok → Bytes → Int → Bytes → Option Bytes
  | [], _, _, _ => none
  | t :: ts, rest, level, out =>
    let level1 := if t.kind = .startTag then (if isVoid t.name then level else level + 1) else level
    if t.kind = .endTag then
      let level2 := level1 - 1
      if level2 = 0 then some (out ++ child ++ t.raw ++ rawsOf ts ++ rest)
      else appendChildGo child ts rest level2 (out ++ t.raw)
    else appendChildGo child ts rest level1 (out ++ t.raw)

/-- `append_child(content, child)` of body_append.rs -/
def appendChild (content child : Bytes) : Bytes :=
  let (ts, rest) := tk content
  (appendChildGo child ts rest 0 []).getD content

/-- the token loop of `prepend_child` -/
def prependChildGo (child : Bytes) : List Tok → Bytes → Bytes → Option Bytes
  | [], _, _ => none
  | t :: ts, rest, out =>
    if t.kind = .startTag then some (out ++ t.raw ++ child ++ rawsOf ts ++ rest)
    else prependChildGo child ts rest (out ++ t.raw)

/-- `prepend_child(content, child)` of body_prepend.rs -/
def prependChild (content child : Bytes) : Bytes :=
  let (ts, rest) := tk content
  (prependChildGo child ts rest []).getD content

namespace Visitor

/-- the `next_leave` computation shared by the three `leave`s; `guard` = the extra `!self.is_buffering` of replace -/
def leaveMove (v : Visitor) (guard : Bool) : Option Bytes × Visitor :=
  if v.before ≠ [] ∧ guard then
    let v' := v.retreat
    (some v'.cur, v')
  else (none, v)

/-- `leave(data)` → ((next_enter, next_leave, data), self) -/
def leave (v : Visitor) (data : Bytes) : (Option Bytes × Option Bytes × Bytes) × Visitor :=
  let nextEnter := some v.cur
  match v.kind with
  | .append =>
    let isProcessing := v.after = []
    let (nextLeave, v1) := v.leaveMove true
    if isProcessing then
      if v.hasSel then
        if !evaluate data v.selector then ((nextEnter, nextLeave, appendChild tk data v.content), v1)
        else ((nextEnter, nextLeave, data), v1)
      else ((nextEnter, nextLeave, v.content ++ data), v1)
    else ((nextEnter, nextLeave, data), v1)
  | .prepend =>
    let (nextLeave, v1) := v.leaveMove true
    if v.isBuffering && v.hasSel then
      let v2 := { v1 with isBuffering := false }
      if !evaluate data v.selector then ((nextEnter, nextLeave, prependChild tk data v.content), v2)
      else ((nextEnter, nextLeave, data), v2)
    else ((nextEnter, nextLeave, data), v1)
  | .replace =>
    let (nextLeave, v1) := v.leaveMove (!v.isBuffering)
    if v.isBuffering then
      let v2 := { v1 with isBuffering := false }
      if !v.hasSel then ((nextEnter, nextLeave, v.content), v2)
      else if evaluate data v.selector then ((nextEnter, nextLeave, v.content), v2)
      else ((nextEnter, nextLeave, data), v2)
    else ((nextEnter, nextLeave, data), v1)

end Visitor

/-! ### `HtmlFilterBodyAction` -/

/-- `BufferLink` (the `previous` pointer is the tail of the list) -/
structure Link where
  buffer : Bytes
  tagName : Bytes
  deriving Repr, DecidableEq, Inhabited

structure HtmlSt where
  enter : Option Bytes
  leave : Option Bytes := none
  visitor : Visitor
  /-- `current_buffer` and its `previous` chain, innermost first -/
  stack : List Link := []
  /-- `last_buffer` -/
  last : Bytes := []
  /-- `last_context`: the raw-text element in whose content `last_buffer` starts (`[]` outside one) -/
  ctx : Bytes := []
  deriving Repr, DecidableEq, Inhabited

/-- `HtmlFilterBodyAction::new` -/
def HtmlSt.new (v : Visitor) : HtmlSt := { enter := some v.first, visitor := v }

def topMatches (stack : List Link) (name : Bytes) : Bool :=
  match stack with
  | l :: _ => l.tagName == name
  | [] => false

def topBuffer (stack : List Link) : Bytes :=
  match stack with
  | l :: _ => l.buffer
  | [] => []

/-- `on_start_tag_token` -/
def onStart (s : HtmlSt) (name data : Bytes) : HtmlSt × Bytes :=
  if s.enter = some name then
    let ((ne, nl, startBuffer, data'), v') := s.visitor.enter data
    let s1 := { s with enter := ne, leave := nl, visitor := v' }
    if startBuffer then ({ s1 with stack := ⟨[], name⟩ :: s1.stack }, data') else (s1, data')
  else (s, data)

/-- `on_end_tag_token` -/
def onEnd (s : HtmlSt) (name data : Bytes) : HtmlSt × Bytes :=
  let tm := topMatches s.stack name
  let buffer := if tm then topBuffer s.stack ++ data else data
  let (s1, buffer1) :=
    if s.leave = some name then
      let ((ne, nl, b), v') := s.visitor.leave tk evaluate buffer
      ({ s with enter := ne, leave := nl, visitor := v' }, b)
    else (s, buffer)
  if tm then ({ s1 with stack := s1.stack.tail }, buffer1) else (s1, buffer1)

/-- `if self.current_buffer.is_some() { buffer.push_str(data) } else { to_return.push_str(data) }` -/
def push (s : HtmlSt) (out data : Bytes) : HtmlSt × Bytes :=
  match s.stack with
  | l :: rest => ({ s with stack := { l with buffer := l.buffer ++ data } :: rest }, out)
  | [] => (s, out ++ data)

/-- one iteration of the token loop of `filter` (state, `to_return`) -/
def stepTok (so : HtmlSt × Bytes) (t : Tok) : HtmlSt × Bytes :=
  let (s, out) := so
  match t.kind with
  | .startTag =>
    let (s1, d1) := onStart s t.name t.raw
    let (s2, d2) := if isVoid t.name then onEnd tk evaluate s1 t.name d1 else (s1, d1)
    push s2 out d2
  | .endTag =>
    let (s1, d1) := onEnd tk evaluate s t.name t.raw
    push s1 out d1
  | .selfClosing =>
    let (s1, d1) := onStart s t.name t.raw
    let (s2, d2) := onEnd tk evaluate s1 t.name d1
    push s2 out d2
  | _ => push s out t.raw

/-- The inner `while` of `filter`: a text token containing `<` is emitted only once the following token is known;
if it is the last token before the `ErrorToken` it is held back.  Returns (tokens to process, held text). -/
def splitHeld (ts : List Tok) : List Tok × Bytes :=
  match ts.getLast? with
  | some t => if t.kind = .text ∧ hasLt t.raw then (ts.dropLast, t.raw) else (ts, [])
  | none => ([], [])

/-- the UTF-8 prologue of `filter`: `none` = invalid bytes (`Err` before any state change), else (data, pending) -/
def utf8Split (data : Bytes) : Option (Bytes × Bytes) :=
  match utf8Scan data with
  | .ok => some (data, [])
  | .incomplete n => some (data.take n, data.drop n)
  | .invalid => none

/-- `is_cut`: the token was ended by the end of the data and not by its own syntax; plain text (and `plaintext`
content) is emitted as it is -/
def isCut (x : TokX) : Bool :=
  x.cut && (x.tok.kind != .text || (x.ctx != [] && x.ctx != htmlPlaintext))

/-- the tokens before the first cut one, and the cut one with whatever follows it -/
def cutSplit (xs : List TokX) : List TokX × List TokX :=
  (xs.takeWhile fun x => !isCut x, xs.dropWhile fun x => !isCut x)

def toksOf (xs : List TokX) : List Tok := xs.map (·.tok)

/-- `last_context` after the call: the context of the first held token -/
def heldCtx (pre post : List TokX) (held ctxE : Bytes) : Bytes :=
  match post with
  | x :: _ => x.ctx
  | [] => if held.isEmpty then ctxE else (pre.getLast?.map (·.ctx)).getD ctxE

/-- `HtmlFilterBodyAction::filter` (since fe7eac6); `none` = `Err` (state unchanged).
The tokenizer is built with `new_fragment(data, last_context)`.  The loop stops at the `ErrorToken` or at the first
token for which `is_cut` holds; that token and what follows are kept (`raw() ++ buffered()`).  The "text containing `<`
is held" rule only applies when the loop stopped at the `ErrorToken`. -/
def filterHtml (s : HtmlSt) (input : Bytes) : Option (HtmlSt × Bytes) :=
  match utf8Split (s.last ++ input) with
  | none => none
  | some (data, pending) =>
    let (xs, rest, ctxE) := tk.stream s.ctx data
    let (pre, post) := cutSplit xs
    let (todo, held) := if post.isEmpty then splitHeld (toksOf pre) else (toksOf pre, [])
    let (s', out) := todo.foldl (stepTok tk evaluate) (s, [])
    some ({ s' with last := held ++ rawsOf (toksOf post) ++ rest ++ pending, ctx := heldCtx pre post held ctxE }, out)

/-- `HtmlFilterBodyAction::end` (reads only): outer buffers first, then `last_buffer` -/
def endHtml (s : HtmlSt) : Bytes :=
  (s.stack.reverse.flatMap (·.buffer)) ++ s.last

/-! ### `TextFilterBodyAction` -/

inductive TextAction where
  | append | prepend | replace
  deriving DecidableEq, Repr, Inhabited

structure TextSt where
  action : TextAction
  content : Bytes
  executed : Bool := false
  deriving Repr, DecidableEq, Inhabited

/-- `TextFilterBodyAction::filter` -/
def filterText (s : TextSt) (data : Bytes) : TextSt × Bytes :=
  match s.action with
  | .replace => if s.executed then (s, []) else ({ s with executed := true }, s.content)
  | .append => (s, data)
  | .prepend => if s.executed then (s, data) else ({ s with executed := true }, s.content ++ data)

/-- `TextFilterBodyAction::end` -/
def endText (s : TextSt) : TextSt × Bytes :=
  if s.executed then (s, []) else ({ s with executed := true }, s.content)

/-! ### codec stages (abstract) -/

/-- `DecodeFilterBody` / `EncodeFilterBody` as state machines: `write` = `write_all + flush + take the buffer`,
`finish` = `end()`; `none` = `Err(IoError)`.  (`end()` swaps in a fresh coder; the chain is never used after `end`.) -/
structure Codec (D E : Type) where
  /-- `get_encoding_filters(encoding)` for a supported encoding -/
  create : String → D × E
  decWrite : D → Bytes → Option (D × Bytes)
  decFinish : D → Option Bytes
  encWrite : E → Bytes → Option (E × Bytes)
  encFinish : E → Option Bytes

/-! ### the chain -/

inductive Stage (D E : Type) where
  | html (s : HtmlSt)
  | text (s : TextSt)
  | decode (d : D)
  | encode (e : E)

variable {D E : Type} (codec : Codec D E)

/-- `FilterBodyActionItem::filter`; `none` = `Err` (the stage keeps its state) -/
def Stage.filter (st : Stage D E) (data : Bytes) : Option (Stage D E × Bytes) :=
  match st with
  | .html s => (filterHtml tk evaluate s data).map fun (s', o) => (.html s', o)
  | .text s => let (s', o) := filterText s data; some (.text s', o)
  | .decode d => (codec.decWrite d data).map fun (d', o) => (.decode d', o)
  | .encode e => (codec.encWrite e data).map fun (e', o) => (.encode e', o)

/-- `FilterBodyActionItem::end` -/
def Stage.end (st : Stage D E) : Option (Stage D E × Bytes) :=
  match st with
  | .html s => some (.html s, endHtml s)
  | .text s => let (s', o) := endText s; some (.text s', o)
  | .decode d => (codec.decFinish d).map fun o => (.decode d, o)
  | .encode e => (codec.encFinish e).map fun o => (.encode e, o)

/-- `do_filter`: the stages after the call (also when it failed: the stages before the failing one have
consumed their input) and `Some(data)` / `None` = `Err`.  Note the `break` on an empty intermediate result. -/
def doFilter : List (Stage D E) → Bytes → List (Stage D E) × Option Bytes
  | [], data => ([], some data)
  | st :: rest, data =>
    match st.filter tk evaluate codec data with
    | none => (st :: rest, none)
    | some (st', out) =>
      if out.isEmpty then (st' :: rest, some out)
      else
        let (rest', r) := doFilter rest out
        (st' :: rest', r)

/-- one stage of `do_end`: `None => item.end()`, `Some(str) => item.filter(str) ++ item.end()` -/
def Stage.endWith (st : Stage D E) (data : Option Bytes) : Stage D E × Option Bytes :=
  match data with
  | none =>
    match st.end codec with
    | none => (st, none)
    | some (st', o) => (st', some o)
  | some str =>
    match st.filter tk evaluate codec str with
    | none => (st, none)
    | some (st1, o1) =>
      match st1.end codec with
      | none => (st1, none)
      | some (st2, o2) => (st2, some (o1 ++ o2))

/-- the error branches: what the html stages hold, last stage first -/
def flushHtml {D E : Type} (items : List (Stage D E)) : Bytes :=
  items.reverse.flatMap fun st =>
    match st with
    | .html s => endHtml s
    | _ => []

/-- `do_end` (as repaired by 7be7ac2): `data` is the `Option<Vec<u8>>` threaded through the stages.
`.error passthrough` = `Err((err, passthrough))`: what the stages from the failing one to the last still hold, last
stage first, then the in-flight data that was handed to the failing stage. -/
def doEnd : List (Stage D E) → Option Bytes → List (Stage D E) × Except Bytes (Option Bytes)
  | [], data => ([], .ok data)
  | st :: rest, data =>
    match st.endWith tk evaluate codec data with
    | (st', none) => (st' :: rest, .error (flushHtml (st' :: rest) ++ data.getD []))
    | (st', some newData) =>
      let (rest', r) := doEnd rest (if newData.isEmpty then none else some newData)
      (st' :: rest', r)

/-- `FilterBodyAction` -/
structure Chain (D E : Type) where
  items : List (Stage D E)
  inError : Bool := false

/-- `FilterBodyAction::filter` -/
def Chain.filter (c : Chain D E) (data : Bytes) : Chain D E × Bytes :=
  if c.inError then (c, data)
  else
    match doFilter tk evaluate codec c.items data with
    | (items', some out) => ({ c with items := items' }, out)
    | (items', none) => ({ items := items', inError := true }, flushHtml items' ++ data)

/-- `FilterBodyAction::end` -/
def Chain.end (c : Chain D E) : Chain D E × Bytes :=
  if c.inError then (c, [])
  else
    match doEnd tk evaluate codec c.items none with
    | (items', .ok out) => ({ c with items := items' }, out.getD [])
    | (items', .error passthrough) => ({ items := items', inError := true }, passthrough)

/-- feed the chunks in order: (chain afterwards, outputs of the `filter` calls) -/
def Chain.feed (c : Chain D E) : List Bytes → Chain D E × List Bytes
  | [] => (c, [])
  | x :: xs =>
    let (c1, o) := c.filter tk evaluate codec x
    let (c2, os) := c1.feed xs
    (c2, o :: os)

/-- what a client observes: outputs of the `filter` calls, then the output of `end` -/
def Chain.runOuts (c : Chain D E) (chunks : List Bytes) : List Bytes × Bytes :=
  let (c1, os) := c.feed tk evaluate codec chunks
  (os, (c1.end tk evaluate codec).2)

/-- concatenation of everything emitted -/
def Chain.run (c : Chain D E) (chunks : List Bytes) : Bytes :=
  let (os, e) := c.runOuts tk evaluate codec chunks
  os.flatten ++ e

end

/-! ### construction: `FilterBodyAction::new`, `FilterBodyActionItem::new`, `HtmlBodyVisitor::new` -/

/-- `api::BodyFilter` (ids / target hashes / inner_value only feed the unit trace) -/
inductive BodyFilter where
  | html (action : String) (path : List Bytes) (sel : Option Bytes) (value : Bytes)
  | text (action : TextAction) (content : Bytes)
  deriving Repr, DecidableEq, Inhabited

/-- `HtmlBodyVisitor::new` -/
def Visitor.new (action : String) (path : List Bytes) (sel : Option Bytes) (value : Bytes) : Option Visitor :=
  match path with
  | [] => none
  | p :: ps =>
    if action = filterActionAppend then some { kind := .append, cur := p, after := ps, sel := sel, content := value }
    else if action = filterActionPrepend then some { kind := .prepend, cur := p, after := ps, sel := sel, content := value }
    else if action = filterActionReplace then some { kind := .replace, cur := p, after := ps, sel := sel, content := value }
    else none

/-- `haystack.contains(needle)` on characters -/
def isInfix (needle : List Char) : List Char → Bool
  | [] => needle.isEmpty
  | c :: cs => needle.isPrefixOf (c :: cs) || isInfix needle cs

/-- the content-type gate of `FilterBodyActionItem::new` for an html filter:
`Some(ct) if ct.contains("text/html")` or `None` -/
def htmlAllowed (contentType : Option String) : Bool :=
  match contentType with
  | none => true
  | some ct => isInfix filterHtmlContentTypeNeedle.toList ct.toList

/-- `FilterBodyActionItem::new` -/
def Stage.new {D E : Type} (f : BodyFilter) (contentType : Option String) : Option (Stage D E) :=
  match f with
  | .html action path sel value =>
    if htmlAllowed contentType then (Visitor.new action path sel value).map fun v => .html (HtmlSt.new v)
    else none
  | .text a content => some (.text { action := a, content := content })

/-- the header scan of `FilterBodyAction::new`: the last header with that lower-cased name wins, value lower-cased -/
def headerValue (lower : String → String) (name : String) (headers : List (String × String)) : Option String :=
  headers.foldl (fun acc h => if lower h.1 = name then some (lower h.2) else acc) none

/-- `FilterBodyAction::new` (feature `compress` on) -/
def Chain.new {D E : Type} (codec : Codec D E) (lower : String → String) (filters : List BodyFilter)
    (headers : List (String × String)) : Chain D E :=
  let contentType := headerValue lower filterHeaderContentType headers
  let contentEncoding := headerValue lower filterHeaderContentEncoding headers
  let chain : List (Stage D E) := filters.filterMap fun f => Stage.new f contentType
  if chain.isEmpty then { items := chain }
  else
    match contentEncoding with
    | none => { items := chain }
    | some enc =>
      if filterSupportedEncodings.contains enc then
        let (d, e) := codec.create enc
        { items := .decode d :: chain ++ [.encode e] }
      else { items := [] }

/-- `verif_chain_kinds()` -/
def Stage.kind {D E : Type} : Stage D E → String
  | .html _ => "html"
  | .text _ => "text"
  | .decode _ => "decode"
  | .encode _ => "encode"

/-- a codec for chains without codec stages (C03 / C04 / C15) -/
def noCodec : Codec Unit Unit where
  create _ := ((), ())
  decWrite _ b := some ((), b)
  decFinish _ := some []
  encWrite _ b := some ((), b)
  encFinish _ := some []

end Rio.Filter
