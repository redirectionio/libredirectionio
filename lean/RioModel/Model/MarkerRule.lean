/-
Model of the marker pipeline around `MarkerString` (C10): transformers (`src/marker/transformer/*.rs`,
`src/api/transformer.rs`), api markers / variables (`src/api/{marker,variable}.rs`), `Rule::markers`,
`Rule::path_and_query` / `host` / `headers` (marker part), `Rule::variables` (`src/api/rule.rs`),
`Route::capture` (`src/router/route.rs`), the marker-relevant part of matching one rule, and the places where
`StaticOrDynamic::replace` is applied in `Action::from_route_rule` / `get_target` (`src/action/mod.rs`).

The regex engine is a parameter (`Engine`); `str::to_lowercase` / `to_uppercase` and the three `heck`
conversions are parameters of the theorems too (`CaseFns`), with ASCII stand-ins for the driver.
-/
import RioModel.Model.Marker
import RioModel.Generated.Consts

namespace Rio.Marker

/-! ### UTF-8 byte offsets (for `Slice`) -/

/-- `str::is_char_boundary(i)` for `i ≤ len`: `i` is the byte length of a prefix. -/
def isBoundary : Str → Nat → Bool
  | _, 0 => true
  | [], _ + 1 => false
  | c :: cs, i + 1 => decide (c.utf8Size ≤ i + 1) && isBoundary cs (i + 1 - c.utf8Size)

/-- Drop the chars that start before byte offset `i`. -/
def dropBytes : Str → Nat → Str
  | s, 0 => s
  | [], _ + 1 => []
  | c :: cs, i + 1 => dropBytes cs (i + 1 - c.utf8Size)

/-- Keep the chars that end at or before byte offset `i`. -/
def takeBytes : Str → Nat → Str
  | _, 0 => []
  | [], _ + 1 => []
  | c :: cs, i + 1 => if c.utf8Size ≤ i + 1 then c :: takeBytes cs (i + 1 - c.utf8Size) else []

/-- `str.get(a..b)` -/
def strGet (s : Str) (a b : Nat) : Option Str :=
  if a ≤ b ∧ b ≤ blen s ∧ isBoundary s a = true ∧ isBoundary s b = true then
    some (takeBytes (dropBytes s a) (b - a))
  else none

/-- `impl Transform for Slice` after the repair of D7 (`str.get(from..to).unwrap_or_default()`). -/
def sliceT (from_ : Nat) (to : Option Nat) (s : Str) : Str :=
  let to0 := to.getD (blen s)
  if from_ > blen s then []
  else
    let to1 := if to0 > blen s then blen s else to0
    (strGet s from_ to1).getD []

/-! ### Case functions -/

/-- The library functions the case transformers call. -/
structure CaseFns where
  lower : Str → Str          -- str::to_lowercase
  upper : Str → Str          -- str::to_uppercase
  camel : Str → Str          -- heck::ToLowerCamelCase
  kebab : Str → Str          -- heck::ToKebabCase
  snake : Str → Str          -- heck::ToSnakeCase

def isLowerA (c : Char) : Bool := decide ('a' ≤ c) && decide (c ≤ 'z')
def isUpperA (c : Char) : Bool := decide ('A' ≤ c) && decide (c ≤ 'Z')
def isDigitA (c : Char) : Bool := decide ('0' ≤ c) && decide (c ≤ '9')
/-- `char::is_alphanumeric`: ASCII exact; the generator only uses non-ASCII chars that are uncased letters. -/
def isAlnum (c : Char) : Bool := isLowerA c || isUpperA c || isDigitA c || decide (c.toNat ≥ 128)
def lowerA (s : Str) : Str := s.map Char.toLower
def upperA (s : Str) : Str := s.map Char.toUpper

/-- `s.split(|c| !c.is_alphanumeric())` (empty pieces included) -/
def splitWords : Str → Str → List Str
  | [], cur => [cur.reverse]
  | c :: cs, cur => if isAlnum c then splitWords cs (c :: cur) else cur.reverse :: splitWords cs []

inductive WordMode where
  | boundary | lowercase | uppercase
deriving DecidableEq

/-- The `while let` loop of heck's `transform` over one alphanumeric run: returns the sub-words.
`cur` = chars of the sub-word being collected (reversed), `mode` as in the source. -/
def heckWord : Str → Str → WordMode → List Str
  | [], _, _ => []
  | [c], cur, _ => [(c :: cur).reverse]                      -- trailing characters
  | c :: next :: rest, cur, mode =>
    let nextMode := if isLowerA c then WordMode.lowercase else if isUpperA c then WordMode.uppercase else mode
    if nextMode = .lowercase && isUpperA next then
      (c :: cur).reverse :: heckWord (next :: rest) [] .boundary
    else if mode = .uppercase && isUpperA c && isLowerA next then
      cur.reverse :: heckWord (next :: rest) [c] .boundary
    else heckWord (next :: rest) (c :: cur) nextMode

/-- All sub-words heck hands to `with_word`, in order. -/
def heckWords (s : Str) : List Str := (splitWords s []).flatMap fun w => heckWord w [] .boundary

def capitalizeA : Str → Str
  | [] => []
  | c :: cs => c.toUpper :: lowerA cs

def joinWith (sep : Str) : List Str → Str
  | [] => []
  | [w] => w
  | w :: ws => w ++ sep ++ joinWith sep ws

def kebabA (s : Str) : Str := joinWith ['-'] ((heckWords s).map lowerA)
def snakeA (s : Str) : Str := joinWith ['_'] ((heckWords s).map lowerA)
def camelA (s : Str) : Str :=
  match heckWords s with
  | [] => []
  | w :: ws => lowerA w ++ (ws.flatMap capitalizeA)

/-- ASCII stand-ins used by the driver. -/
def asciiCase : CaseFns := ⟨lowerA, upperA, camelA, kebabA, snakeA⟩

/-! ### Transformers -/

/-- `api::Transformer` (JSON: `type`, `options`). -/
structure Transformer where
  kind : Option Str
  options : Option (List (Str × Str))
deriving Repr, DecidableEq

inductive Transform where
  | camelize | dasherize | lowercase | underscorize | uppercase
  | replace (something with_ : Str)
  | slice (from_ : Nat) (to : Option Nat)
deriving Repr, DecidableEq

/-- `usize::from_str` (64-bit): optional `+`, at least one ASCII digit, no overflow. -/
def parseUsize (s : Str) : Option Nat :=
  let ds := match s with
    | '+' :: rest => rest
    | _ => s
  if ds.isEmpty || !ds.all isDigitA then none
  else
    let n := ds.foldl (fun acc c => acc * 10 + (c.toNat - '0'.toNat)) 0
    if n < 2 ^ 64 then some n else none

/-- `Transformer::to_transform`; `none` = the transformer is skipped. -/
def Transformer.toTransform (t : Transformer) : Option Transform :=
  match t.kind with
  | none => none
  | some k =>
    if k = "camelize".toList then some .camelize
    else if k = "dasherize".toList then some .dasherize
    else if k = "lowercase".toList then some .lowercase
    else if k = "replace".toList then
      match t.options with
      | none => none
      | some o =>
        match o.lookup "something".toList, o.lookup "with".toList with
        | some a, some b => some (.replace a b)
        | _, _ => none
    else if k = "slice".toList then
      match t.options with
      | none => none
      | some o =>
        match o.lookup "from".toList, o.lookup "to".toList with
        | some a, some b => some (.slice ((parseUsize a).getD 0) (parseUsize b))
        | _, _ => none
    else if k = "underscorize".toList then some .underscorize
    else if k = "uppercase".toList then some .uppercase
    else none

/-- `Transform::transform` -/
def Transform.apply (cf : CaseFns) : Transform → Str → Str
  | .camelize, s => cf.camel s
  | .dasherize, s => cf.kebab s
  | .lowercase, s => cf.lower s
  | .underscorize, s => cf.snake s
  | .uppercase, s => cf.upper s
  | .replace a b, s => strReplace a b s
  | .slice f t, s => sliceT f t s

/-- The loop `for transformer in &self.transformers { match to_transform() { None => (), Some(t) => value = t.transform(value) } }`
(`api::Marker::transform` and the tail of `Variable::get_value`). -/
def applyTransformers (cf : CaseFns) (ts : List Transformer) (v : Str) : Str :=
  ts.foldl (fun acc t => match t.toTransform with
    | none => acc
    | some tr => tr.apply cf acc) v

/-! ### Rule, request -/

/-- `api::Marker` -/
structure ApiMarker where
  name : Str
  regex : Str
  transformers : List Transformer
deriving Repr

inductive VarKind where
  | marker (name : Str)
  | requestHeader (name : Str) (default : Option Str)
  | requestHost | requestMethod | requestPath | requestScheme | requestRemoteAddress | requestTime
deriving Repr

/-- `api::Variable` -/
structure Variable where
  name : Str
  kind : VarKind
  transformers : List Transformer
deriving Repr

/-- The part of `api::Rule` that C10 is about; every header trigger is `match_regex`. -/
structure Rule where
  path : Str
  host : Option Str
  headers : List (Str × Str)          -- (name, value template)
  markers : List ApiMarker
  variables : List Variable
  target : Option Str
  headerFilters : List Str            -- value templates of the custom header filters
  bodyFilters : List Str              -- content templates of the text body filters
  htmlFilters : List (Str × Option Str) := []   -- (value, inner_value) templates of the html body filters
deriving Repr

structure Config where
  ignorePathCase : Bool
  ignoreHostCase : Bool
  ignoreHeaderCase : Bool
deriving Repr

/-- `request.created_at`: the year and chrono's two renderings (`to_rfc2822` panics outside years 0..=9999, so the
code picks by year; the renderings themselves are a table for the model). -/
structure TimeInfo where
  year : Int
  rfc2822 : Str
  rfc3339 : Str
deriving Repr

/-- `http::Request` as built by `Request::from_config` + `add_header(.., ignore_header_case)` for a path without
query string. -/
structure Request where
  original : Str                      -- path_and_query_skipped.original
  path : Str                          -- path_and_query_skipped.path_and_query (sanitised)
  matching : Str                      -- path_and_query_skipped.path_and_query_matching
  host : Option Str
  scheme : Option Str
  method : Option Str
  headers : List (Str × Str)
  remoteAddr : Option Str := none     -- `remote_addr.to_string()`
  createdAt : Option TimeInfo := none
deriving Repr

/-- What the model needs from the `regex` crate. -/
structure Engine where
  /-- `RegexBuilder::new("^p$").case_insensitive(ic)` compiles and `is_match(s)` (tree leaf). -/
  full : Bool → Str → Str → Bool
  /-- `Regex::new(p)` compiles and `is_match(s)` (unanchored; header `match_regex`). -/
  search : Str → Str → Bool
  /-- `RegexBuilder::new("^p$").case_insensitive(ic)`: `captures(s)` restricted to the named groups that
  participated; `none` = does not compile or does not match. -/
  caps : Bool → Str → Str → Option (List (Str × Str))

/-! percent-encoding -/

def hexDigitU (n : Nat) : Char := if n < 10 then Char.ofNat (n + 48) else Char.ofNat (n - 10 + 65)

def utf8Bytes (c : Char) : List Nat := (String.singleton c).toUTF8.toList.map (·.toNat)

/-- `utf8_percent_encode(s, CONTROLS.add(extra…))` -/
def pctEncode (extra : List Nat) (s : Str) : Str :=
  s.flatMap fun c =>
    let n := c.toNat
    if n < 32 || n = 127 || n ≥ 128 || extra.contains n then
      (utf8Bytes c).flatMap fun b => ['%', hexDigitU (b / 16), hexDigitU (b % 16)]
    else [c]

/-- `Rule::markers()` as `(name, regex)` pairs. -/
def Rule.routeMarkers (r : Rule) : List (Str × Str) :=
  r.markers.map fun m => (m.name, pctEncode Rio.Consts.markerRegexEncodeSet m.regex)

/-- `Rule::path_and_query` without query. -/
def Rule.pathSoD (cf : CaseFns) (r : Rule) (cfg : Config) : StaticOrDynamic :=
  .newWithMarkers cf.lower (pctEncode Rio.Consts.markerPathEncodeSet r.path) r.routeMarkers cfg.ignorePathCase

/-- `Rule::host` -/
def Rule.hostSoD (cf : CaseFns) (r : Rule) (cfg : Config) : Option StaticOrDynamic :=
  r.host.map fun h => .newWithMarkers cf.lower h r.routeMarkers cfg.ignoreHostCase

/-- `Rule::headers`: a `match_regex` trigger whose value uses no marker is dropped (`None => continue`). -/
def Rule.routeHeaders (r : Rule) (cfg : Config) : List (Str × MarkerString) :=
  r.headers.filterMap fun h => (MarkerString.new h.2 r.routeMarkers cfg.ignoreHeaderCase).map fun m => (h.1, m)

/-- `Request::from_config` (+ `add_header`) for a path without `?`. -/
def Request.fromConfig (cf : CaseFns) (cfg : Config) (path : Str) (host scheme method : Option Str)
    (headers : List (Str × Str)) : Request :=
  let url := pctEncode Rio.Consts.encSetQueryRsUrlEncodeSet path
  { original := path
    path := url
    matching := if cfg.ignorePathCase then cf.lower url else url
    host := host.map fun h => if cfg.ignoreHostCase then cf.lower h else h
    scheme := scheme
    method := method
    headers := headers.map fun h => (h.1, if cfg.ignoreHeaderCase then cf.lower h.2 else h.2) }

/-- `Request::header_values(name)` -/
def Request.headerValues (cf : CaseFns) (q : Request) (name : Str) : List Str :=
  (q.headers.filter fun h => cf.lower h.1 == cf.lower name).map (·.2)

/-- Does the one rule match the request (path, host and header layers of the router)? -/
def Rule.matches (E : Engine) (cf : CaseFns) (r : Rule) (cfg : Config) (q : Request) : Bool :=
  let pathOk := match r.pathSoD cf cfg with
    | .static s => s == q.matching
    | .dynamic m => E.full cfg.ignorePathCase m.regex q.matching
  let hostOk := match r.hostSoD cf cfg with
    | none => true
    | some (.static s) => s.isEmpty || q.host == some s
    | some (.dynamic m) => match q.host with
      | some h => E.full cfg.ignoreHostCase m.regex h
      | none => false
  let hdrOk := (r.routeHeaders cfg).all fun h => (q.headerValues cf h.1).any fun v => E.search h.2.regex v
  pathOk && hostOk && hdrOk

/-- `HashMap::extend`: later entries overwrite. -/
def extendMap (m : List (Str × Str)) (kv : List (Str × Str)) : List (Str × Str) :=
  kv.foldl (fun acc p => (acc.filter fun e => e.1 != p.1) ++ [p]) m

def capOf (E : Engine) (m : MarkerString) (s : Str) : List (Str × Str) :=
  (E.caps m.ignoreCase m.capture s).getD []

def sodCapture (E : Engine) : StaticOrDynamic → Str → List (Str × Str)
  | .static _, _ => []
  | .dynamic m, s => capOf E m s

/-- `Route::capture` -/
def Rule.capture (E : Engine) (cf : CaseFns) (r : Rule) (cfg : Config) (q : Request) : List (Str × Str) :=
  let p := extendMap [] (sodCapture E (r.pathSoD cf cfg) q.path)
  let h := match r.hostSoD cf cfg, q.host with
    | some sod, some host => extendMap p (sodCapture E sod host)
    | _, _ => p
  (r.routeHeaders cfg).foldl (fun acc rh =>
    q.headers.foldl (fun acc2 qh =>
      if cf.lower qh.1 != cf.lower rh.1 then acc2 else extendMap acc2 (capOf E rh.2 qh.2)) acc) h

/-- `Rule::get_marker` -/
def Rule.getMarker (r : Rule) (name : Str) : Option ApiMarker := r.markers.find? fun m => m.name == name

/-- The `input` map of `Rule::variables`: every captured value through its marker's transformers. -/
def Rule.transformed (cf : CaseFns) (r : Rule) (captured : List (Str × Str)) : List (Str × Str) :=
  captured.map fun p => match r.getMarker p.1 with
    | none => p
    | some m => (p.1, applyTransformers cf m.transformers p.2)

/-- `Variable::get_value` -/
def Variable.getValue (cf : CaseFns) (v : Variable) (input : List (Str × Str)) (q : Request) : Str :=
  let value : Str := match v.kind with
    | .requestHeader name default =>
      match q.headerValues cf name with
      | [] => default.getD []
      | vs => joinWith [','] vs
    | .requestHost => q.host.getD []
    | .requestMethod => q.method.getD []
    | .requestPath => q.original
    | .requestScheme => q.scheme.getD []
    | .requestRemoteAddress => q.remoteAddr.getD []
    | .requestTime => match q.createdAt with
      | none => []
      | some d => if 0 ≤ d.year ∧ d.year ≤ 9999 then d.rfc2822 else d.rfc3339
    | .marker name => (input.lookup name).getD []
  applyTransformers cf v.transformers value

/-- `Rule::variables` before the final sort; `captured` in the iteration order of the HashMap. -/
def Rule.variablesUnsorted (cf : CaseFns) (r : Rule) (captured : List (Str × Str)) (q : Request) : List (Str × Str) :=
  let input := r.transformed cf captured
  if r.variables.isEmpty then input
  else r.variables.map fun v => (v.name, v.getValue cf input q)

/-- `Rule::variables` -/
def Rule.vars (cf : CaseFns) (r : Rule) (captured : List (Str × Str)) (q : Request) : List (Str × Str) :=
  sortVars (r.variablesUnsorted cf captured q)

/-- What is observed of the action of one matched rule. -/
structure Outcome where
  location : List Str      -- values of the `Location` header after `filter_headers`
  headers : List Str       -- values of the custom header filters
  body : Str               -- output of the text body filters on the probe (`""` without filters)
  html : List (Str × Str)  -- (value, inner_value) of the html body filters carried by the action
  target : Option Str      -- `Action::get_target`
deriving Repr, DecidableEq

/-- Every place where `from_route_rule` / `get_target` substitute, with substitution function `sub`. -/
def Rule.outcomeWith (r : Rule) (probe : Str) (sub : Str → Str) : Outcome :=
  { location := match r.target with
      | some t => if t.isEmpty then [] else [sub t]
      | none => []
    headers := r.headerFilters.map sub
    body := if r.bodyFilters.isEmpty then [] else probe ++ r.bodyFilters.flatMap sub
    -- `inner_value: Some(replace(inner_value.unwrap_or(value)))`
    html := r.htmlFilters.map fun f => (sub f.1, sub (f.2.getD f.1))
    target := r.target.map sub }

/-- The code: the one-pass `replaceVars` with the sorted variable list. -/
def Rule.outcome (cf : CaseFns) (r : Rule) (probe : Str) (captured : List (Str × Str)) (q : Request) : Outcome :=
  r.outcomeWith probe fun t => replaceVars t (r.vars cf captured q)

/-- The specification: simultaneous substitution with the (unsorted) variable list. -/
def Rule.outcomeSpec (cf : CaseFns) (r : Rule) (probe : Str) (captured : List (Str × Str)) (q : Request) : Outcome :=
  r.outcomeWith probe fun t => subst (r.variablesUnsorted cf captured q) t

/-- The outcomes the library can produce: one (since repair 96f3afa the variable order is fixed by the code). -/
def Rule.outcomes (cf : CaseFns) (r : Rule) (probe : Str) (captured : List (Str × Str)) (q : Request) : List Outcome :=
  [r.outcome cf probe captured q]

end Rio.Marker
