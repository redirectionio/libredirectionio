/-
Stand-in for the `regex` crate on the rule fragment (DESIGN §3: the engine is *modelled, not verified*;
this model is validated against the real crate on every run, per pattern × haystack, by the `rx`
cases of the C08 correspondence).

* `Re`    – regular expressions over character classes; `Lang` their denotation (with the
            case-insensitive flag: simple case folding, `caseOrbit`), `fmatch` / `pmatch` an executable Brzozowski-derivative matcher for
            `^r$` / `^r` (proved equivalent to `Lang` in Proofs/Regex.lean).
* `parseBody` – recursive-descent parser for the text of one parenthesised group (the fragment:
            literals, `\`-escaped meta characters, `.`, classes `[a-z0-9_]` / `[^…]`, nested groups
            `( … )` / `(?: … )`, alternation, `* + ?` (and lazy variants), `{n}` `{n,}` `{n,m}`).
            `none` = "does not compile" (or outside the fragment).
* `tokTop` – splitter of a whole pattern into top-level tokens `lit c | grp body` following the *real*
            regex syntax (a parenthesis inside a character class is a literal) – unlike the tree's own
            scanner (`Model/Scan`), which is what DESIGN §6-O1 is about.
* `render` – `regex::escape` on literals (`regex_syntax::is_meta_character`), `( body )` on groups.
* `compileStr`, `stdEngine` – `Regex::new` on a rule-shaped string, packaged as the `Engine` the tree
            model is parameterised by.
-/
import RioModel.Model.Scan

namespace Rio.Regex

/-! ### Regular expressions and their language -/

/-- A character class: inclusive ranges, possibly negated.  `.` is `[^\n]`, a literal `c` is `[c-c]`. -/
structure Cls where
  neg : Bool
  ranges : List (Char × Char)
deriving DecidableEq, Repr

/-- ASCII case swap. -/
def flipCase (c : Char) : Char :=
  if 'a' ≤ c ∧ c ≤ 'z' then Char.ofNat (c.toNat - 32)
  else if 'A' ≤ c ∧ c ≤ 'Z' then Char.ofNat (c.toNat + 32)
  else c

/-- The other members of the *simple case folding* orbit of `c` (Unicode `CaseFolding.txt`, status C+S – what the
regex crate uses for `(?i)`): ASCII, plus the non-ASCII letters the harness generates – Latin-1 letters
(`é/É` …, incl. `ÿ/Ÿ`, `å/Å/Å`, `µ/μ/Μ` whose partners lie outside the block), `ß/ẞ`, `ſ` and the
Kelvin sign (partners of `s` / `k`), Cyrillic `а–я/А–Я`, Greek `σ/Σ/ς`, and the digraph `Ǆ/ǅ/ǆ`.  Characters
without a simple folding partner (`İ`, `ı`, digits, CJK, emoji, …) have an empty orbit.  Validated against the crate
by the `rx` cases of the C08 correspondence. -/
def caseOrbit (c : Char) : List Char :=
  let n := c.toNat
  if 'a' ≤ c ∧ c ≤ 'z' then
    flipCase c :: (if c = 'k' then [Char.ofNat 0x212A] else if c = 's' then [Char.ofNat 0x17F] else [])
  else if 'A' ≤ c ∧ c ≤ 'Z' then
    flipCase c :: (if c = 'K' then [Char.ofNat 0x212A] else if c = 'S' then [Char.ofNat 0x17F] else [])
  else if n = 0x212A then ['k', 'K']
  else if n = 0x17F then ['s', 'S']
  else if n = 0xDF then [Char.ofNat 0x1E9E]
  else if n = 0x1E9E then [Char.ofNat 0xDF]
  -- ÿ / Ÿ,  å / Å / Å (ANGSTROM SIGN)
  else if n = 0xFF then [Char.ofNat 0x178]
  else if n = 0x178 then [Char.ofNat 0xFF]
  else if n = 0xE5 then [Char.ofNat 0xC5, Char.ofNat 0x212B]
  else if n = 0xC5 then [Char.ofNat 0xE5, Char.ofNat 0x212B]
  else if n = 0x212B then [Char.ofNat 0xE5, Char.ofNat 0xC5]
  -- Latin-1 Supplement: à–þ (except ÷, å) ↔ À–Þ (except ×, Å)
  else if 0xE0 ≤ n ∧ n ≤ 0xFE ∧ n ≠ 0xF7 ∧ n ≠ 0xE5 then [Char.ofNat (n - 0x20)]
  else if 0xC0 ≤ n ∧ n ≤ 0xDE ∧ n ≠ 0xD7 ∧ n ≠ 0xC5 then [Char.ofNat (n + 0x20)]
  -- Cyrillic а–я ↔ А–Я
  else if 0x430 ≤ n ∧ n ≤ 0x44F then [Char.ofNat (n - 0x20)]
  else if 0x410 ≤ n ∧ n ≤ 0x42F then [Char.ofNat (n + 0x20)]
  -- micro sign / Greek mu
  else if n = 0xB5 then [Char.ofNat 0x3BC, Char.ofNat 0x39C]
  else if n = 0x3BC then [Char.ofNat 0xB5, Char.ofNat 0x39C]
  else if n = 0x39C then [Char.ofNat 0xB5, Char.ofNat 0x3BC]
  -- Greek sigma
  else if n = 0x3C3 then [Char.ofNat 0x3A3, Char.ofNat 0x3C2]
  else if n = 0x3A3 then [Char.ofNat 0x3C3, Char.ofNat 0x3C2]
  else if n = 0x3C2 then [Char.ofNat 0x3C3, Char.ofNat 0x3A3]
  -- Greek α–ω ↔ Α–Ω (the further partners ϐ ϑ ϕ ϖ ϰ ϱ ϵ, Ω U+2126, ι U+1FBE lie outside `knownChar`)
  else if 0x3B1 ≤ n ∧ n ≤ 0x3C9 then [Char.ofNat (n - 0x20)]
  else if 0x391 ≤ n ∧ n ≤ 0x3A9 ∧ n ≠ 0x3A2 then [Char.ofNat (n + 0x20)]
  -- Ǆ ǅ ǆ
  else if n = 0x1C4 then [Char.ofNat 0x1C5, Char.ofNat 0x1C6]
  else if n = 0x1C5 then [Char.ofNat 0x1C4, Char.ofNat 0x1C6]
  else if n = 0x1C6 then [Char.ofNat 0x1C4, Char.ofNat 0x1C5]
  else []

def inRange (c : Char) (r : Char × Char) : Bool := decide (r.1 ≤ c) && decide (c ≤ r.2)

/-- Class membership; with `ic` the class is closed under simple case folding *before* negation (as regex-syntax
does): `c` is in the folded class iff `c` or a member of its folding orbit is in the class. -/
def Cls.mem (ic : Bool) (k : Cls) (c : Char) : Bool :=
  (k.ranges.any (inRange c) ||
    (ic && (caseOrbit c).any fun d => k.ranges.any (inRange d))) != k.neg

inductive Re where
  | none                     -- ∅
  | eps
  | cls (k : Cls)
  | cat (a b : Re)
  | alt (a b : Re)
  | star (a : Re)
deriving DecidableEq, Repr

def Re.chr (c : Char) : Re := .cls ⟨false, [(c, c)]⟩
def Re.any : Re := .cls ⟨true, [('\n', '\n')]⟩
def Re.plus (r : Re) : Re := .cat r (.star r)
def Re.opt (r : Re) : Re := .alt .eps r
def Re.pow (r : Re) : Nat → Re
  | 0 => .eps
  | n + 1 => .cat r (Re.pow r n)
/-- `r{n,m}` (`m = none`: `r{n,}`). -/
def Re.rep (r : Re) (n : Nat) : Option Nat → Re
  | .none => .cat (r.pow n) (.star r)
  | some m => .cat (r.pow n) ((Re.opt r).pow (m - n))
def catAll : List Re → Re
  | [] => .eps
  | r :: rs => .cat r (catAll rs)

/-- Denotation. -/
inductive Lang (ic : Bool) : Re → List Char → Prop where
  | eps : Lang ic .eps []
  | cls {k c} : k.mem ic c = true → Lang ic (.cls k) [c]
  | cat {a b u v} : Lang ic a u → Lang ic b v → Lang ic (.cat a b) (u ++ v)
  | altL {a b u} : Lang ic a u → Lang ic (.alt a b) u
  | altR {a b u} : Lang ic b u → Lang ic (.alt a b) u
  | starNil {a} : Lang ic (.star a) []
  | starCons {a u v} : Lang ic a u → Lang ic (.star a) v → Lang ic (.star a) (u ++ v)

/-! ### Derivative matcher -/

def nullable : Re → Bool
  | .none => false
  | .eps => true
  | .cls _ => false
  | .cat a b => nullable a && nullable b
  | .alt a b => nullable a || nullable b
  | .star _ => true

/-- `cat` that absorbs ∅ (keeps derivatives small). -/
def mkCat : Re → Re → Re
  | .none, _ => .none
  | _, .none => .none
  | a, b => .cat a b

def mkAlt : Re → Re → Re
  | .none, b => b
  | a, .none => a
  | a, b => .alt a b

def der (ic : Bool) (c : Char) : Re → Re
  | .none => .none
  | .eps => .none
  | .cls k => if k.mem ic c then .eps else .none
  | .cat a b => if nullable a then mkAlt (mkCat (der ic c a) b) (der ic c b) else mkCat (der ic c a) b
  | .alt a b => mkAlt (der ic c a) (der ic c b)
  | .star a => mkCat (der ic c a) (.star a)

/-- `Regex::new("^r$").is_match(s)`. -/
def fmatch (ic : Bool) (r : Re) : List Char → Bool
  | [] => nullable r
  | c :: cs => fmatch ic (der ic c r) cs

/-- `Regex::new("^r").is_match(s)`: some prefix of `s` is in the language. -/
def pmatch (ic : Bool) (r : Re) : List Char → Bool
  | [] => nullable r
  | c :: cs => nullable r || pmatch ic (der ic c r) cs

/-! ### `regex::escape` and top-level tokens -/

/-- `regex_syntax::is_meta_character`. -/
def isMeta (c : Char) : Bool :=
  c = '\\' || c = '.' || c = '+' || c = '*' || c = '?' || c = '(' || c = ')' || c = '|' ||
  c = '[' || c = ']' || c = '{' || c = '}' || c = '^' || c = '$' || c = '#' || c = '&' ||
  c = '-' || c = '~'

/-- A top-level token of a rule-shaped pattern: an (escaped) literal char or a parenthesised group
with its raw text (without the outer parentheses, e.g. `?:[a-z]+`). -/
inductive Tok where
  | lit (c : Char)
  | grp (body : List Char)
deriving DecidableEq, Repr

def Tok.render : Tok → List Char
  | .lit c => if isMeta c then ['\\', c] else [c]
  | .grp b => '(' :: (b ++ [')'])

/-- The regex string of a token list (what the tree sees). -/
def render (ts : List Tok) : List Char := ts.flatMap Tok.render

mutual
/-- Top-level splitter (real regex syntax).  `none`: not rule-shaped (an unescaped meta character at
top level) or not well-formed (dangling `\`, unclosed group). -/
def tokTop : List Char → Option (List Tok)
  | [] => some []
  | c :: rest =>
    if c = '\\' then
      match rest with
      | [] => none
      | d :: rest' => if isMeta d then (tokTop rest').map (Tok.lit d :: ·) else none
    else if c = '(' then tokGrp rest 1 false []
    else if isMeta c then none
    else (tokTop rest).map (Tok.lit c :: ·)
/-- Inside a group: `depth` open parentheses, `inCls` inside `[ … ]`, `acc` the body so far (reversed). -/
def tokGrp : List Char → Nat → Bool → List Char → Option (List Tok)
  | [], _, _, _ => none
  | c :: rest, depth, inCls, acc =>
    if c = '\\' then
      match rest with
      | [] => none
      | d :: rest' => tokGrp rest' depth inCls (d :: c :: acc)
    else if inCls then
      tokGrp rest depth (c != ']') (c :: acc)
    else if c = '[' then tokGrp rest depth true (c :: acc)
    else if c = '(' then tokGrp rest (depth + 1) false (c :: acc)
    else if c = ')' then
      if depth ≤ 1 then (tokTop rest).map (Tok.grp acc.reverse :: ·)
      else tokGrp rest (depth - 1) false (c :: acc)
    else tokGrp rest depth false (c :: acc)
end

/-- The state machine of `tokGrp` alone, over a group body: `(depth, inCls)` after the body, `none` if
the group would already be closed inside the body or the body ends in a dangling `\`. -/
def gscan : List Char → Nat → Bool → Option (Nat × Bool)
  | [], depth, inCls => some (depth, inCls)
  | c :: rest, depth, inCls =>
    if c = '\\' then
      match rest with
      | [] => none
      | _ :: rest' => gscan rest' depth inCls
    else if inCls then gscan rest depth (c != ']')
    else if c = '[' then gscan rest depth true
    else if c = '(' then gscan rest (depth + 1) false
    else if c = ')' then
      if depth ≤ 1 then none else gscan rest (depth - 1) false
    else gscan rest depth false

/-- The real syntax closes the group exactly at the `)` that follows `body`. -/
def realClosed (body : List Char) : Bool := gscan body 1 false == some (1, false)

open Rio.Scan in
/-- From scanner state `s`, the string returns to the boundary state exactly at its last char and at
no earlier char. -/
def closedFrom (s : St) : List Char → Bool
  | [] => false
  | [c] => (s.step c) == b0
  | c :: rest => !(s.step c).atBoundary && closedFrom (s.step c) rest

/-- The tree's own scanner sees the group `( body )` as one bracket: depth returns to 0 at the closing
parenthesis and not before. -/
def scanClosed (body : List Char) : Bool := closedFrom Rio.Scan.b0 ('(' :: (body ++ [')']))

/-- Rule-shaped token: for a group, the tree's scanner and the real syntax agree on where it ends. -/
def Tok.good : Tok → Bool
  | .lit _ => true
  | .grp b => realClosed b && scanClosed b

/-- The domain of C08 (`C08.RulePat` adds `p ≠ []`): `p` is the rendering of good tokens. -/
def GoodPat (p : List Char) : Prop := ∃ ts : List Tok, p = render ts ∧ ∀ t ∈ ts, t.good = true

/-- Executable version of `GoodPat` (equivalent: Proofs/RegexTok.lean `goodPatB_iff`; the test
`render ts == p` always succeeds and is there to make that equivalence immediate). -/
def goodPatB (p : List Char) : Bool :=
  match tokTop p with
  | some ts => ts.all Tok.good && render ts == p
  | none => false

/-- The pattern tokenises under the real syntax but the tree's scanner mis-brackets one of its
groups (DESIGN §6-O1, signature `class-paren`). -/
def misBracketed (p : List Char) : Bool :=
  match tokTop p with
  | some ts => ts.any fun t => match t with
    | .lit _ => false
    | .grp b => !scanClosed b
  | none => false

/-! ### Parser for group bodies (the fragment) -/

def isDigit (c : Char) : Bool := decide ('0' ≤ c) && decide (c ≤ '9')

/-- Decimal number (at least one digit). -/
def pNum : List Char → Nat → Bool → Option (Nat × List Char)
  | c :: rest, acc, seen =>
    if isDigit c then pNum rest (acc * 10 + (c.toNat - '0'.toNat)) true
    else if seen then some (acc, c :: rest) else none
  | [], acc, seen => if seen then some (acc, []) else none

/-- Characters that are literals outside a class without escaping (the fragment is conservative:
`]` and `}` are excluded although the crate accepts them). -/
def isPlain (c : Char) : Bool :=
  !(c = '\\' || c = '.' || c = '+' || c = '*' || c = '?' || c = '(' || c = ')' || c = '|' ||
    c = '[' || c = ']' || c = '{' || c = '}' || c = '^' || c = '$')

/-- Characters that are literals inside a class without escaping. -/
def isClsPlain (c : Char) : Bool :=
  !(c = '\\' || c = '[' || c = ']' || c = '^' || c = '-' || c = '&' || c = '~')

/-! #### Unicode-aware classes, as tables over the code points the generators draw

`\w`, `\d`, `\s`, `\pL` of the regex crate are Unicode classes (thousands of ranges).  The model carries them as range tables
restricted to the blocks the harness generators use – ASCII, Latin-1, Latin Extended-A/B (`İ`, `ſ`, `ǅ`), combining marks
U+0300–036F, Greek capital and small letters, Cyrillic U+0400–045F, the Arabic-Indic / Devanagari / full-width digits, the Kelvin
sign, Latin Extended Additional (`ẞ`), CJK U+4E00–9FFF, and the Unicode spaces – and says for which characters the tables are
authoritative (`knownChar`: everything else is outside the model; the driver then leaves the case to the implementation-side
oracles).  Validated against the crate in mode `rx` and on every twin case that gets an `s`. -/

def rg (a b : Nat) : Char × Char := (Char.ofNat a, Char.ofNat b)

/-- `\d` = `\p{Nd}`. -/
def digitRanges : List (Char × Char) := [rg 0x30 0x39, rg 0x660 0x669, rg 0x966 0x96F, rg 0xFF10 0xFF19]

/-- `\s` = `\p{White_Space}`. -/
def spaceRanges : List (Char × Char) :=
  [rg 0x09 0x0D, rg 0x20 0x20, rg 0x85 0x85, rg 0xA0 0xA0, rg 0x1680 0x1680, rg 0x2000 0x200A, rg 0x2028 0x2029,
   rg 0x202F 0x202F, rg 0x205F 0x205F, rg 0x3000 0x3000]

/-- `\pL` (letters) on the covered blocks. -/
def letterRanges : List (Char × Char) :=
  [rg 0x41 0x5A, rg 0x61 0x7A, rg 0xAA 0xAA, rg 0xB5 0xB5, rg 0xBA 0xBA, rg 0xC0 0xD6, rg 0xD8 0xF6, rg 0xF8 0x24F,
   rg 0x391 0x3A1, rg 0x3A3 0x3C9, rg 0x400 0x45F, rg 0x1E00 0x1EFF, rg 0x212A 0x212B, rg 0x4E00 0x9FFF]

/-- `\w` = Alphabetic ∪ marks ∪ decimal digits ∪ connector punctuation ∪ join controls, on the covered blocks. -/
def wordRanges : List (Char × Char) :=
  letterRanges ++ digitRanges ++ [rg 0x5F 0x5F, rg 0x300 0x36F, rg 0x200C 0x200D]

/-- Characters on which the tables above are authoritative: the covered blocks, ASCII, the Latin-1 block, general
punctuation U+2000–206F, `€`, and the emoji the generators use. -/
def knownChar (c : Char) : Bool :=
  let n := c.toNat
  n < 0x250 || (0x300 ≤ n && n ≤ 0x36F) || (0x391 ≤ n && n ≤ 0x3C9 && n != 0x3A2) || (0x400 ≤ n && n ≤ 0x45F) ||
    (0x660 ≤ n && n ≤ 0x669) || (0x966 ≤ n && n ≤ 0x96F) || (0x1E00 ≤ n && n ≤ 0x1EFF) || (0x2000 ≤ n && n ≤ 0x206F) ||
    n == 0x20AC || n == 0x212A || n == 0x212B || n == 0x3000 || (0x4E00 ≤ n && n ≤ 0x9FFF) || (0xFF10 ≤ n && n ≤ 0xFF19) ||
    n == 0x1F918 || n == 0x1680

/-- `\w \d \s \W \D \S`. -/
def perlClass (d : Char) : Option Cls :=
  if d = 'w' then some ⟨false, wordRanges⟩ else if d = 'W' then some ⟨true, wordRanges⟩
  else if d = 'd' then some ⟨false, digitRanges⟩ else if d = 'D' then some ⟨true, digitRanges⟩
  else if d = 's' then some ⟨false, spaceRanges⟩ else if d = 'S' then some ⟨true, spaceRanges⟩
  else none

/-- POSIX bracket classes (ASCII-only in the crate): `[:alpha:]` … inside `[ ]`. -/
def posixClass (name : List Char) : Option (List (Char × Char)) :=
  if name = "alpha".toList then some [('A', 'Z'), ('a', 'z')]
  else if name = "digit".toList then some [('0', '9')]
  else if name = "alnum".toList then some [('0', '9'), ('A', 'Z'), ('a', 'z')]
  else if name = "upper".toList then some [('A', 'Z')]
  else if name = "lower".toList then some [('a', 'z')]
  else none

/-- One class atom: a plain char or an escaped meta char. -/
def pClsChar : List Char → Option (Char × List Char)
  | '\\' :: d :: rest => if isMeta d then some (d, rest) else none
  | c :: rest => if isClsPlain c then some (c, rest) else none
  | [] => none

/-- Items of a class up to the closing `]`. -/
def pClsItems : Nat → List Char → List (Char × Char) → Option (List (Char × Char) × List Char)
  | 0, _, _ => none
  | fuel + 1, inp, acc =>
    match inp with
    | ']' :: rest => if acc.isEmpty then none else some (acc.reverse, rest)
    | '[' :: ':' :: rest =>
      -- `[:name:]`
      let name := rest.takeWhile fun c => c != ':'
      match posixClass name, rest.drop name.length with
      | some rs, ':' :: ']' :: rest' => pClsItems fuel rest' (rs.reverse ++ acc)
      | _, _ => none
    | _ =>
      match pClsChar inp with
      | none => none
      | some (a, rest) =>
        match rest with
        | '-' :: rest2 =>
          match rest2 with
          | ']' :: _ => none        -- trailing `-`: outside the fragment
          | _ =>
            match pClsChar rest2 with
            | none => none
            | some (b, rest3) => if a ≤ b then pClsItems fuel rest3 ((a, b) :: acc) else none
        | _ => pClsItems fuel rest ((a, a) :: acc)

/-- After `[`. -/
def pCls (inp : List Char) : Option (Re × List Char) :=
  let (neg, inp) := match inp with
    | '^' :: rest => (true, rest)
    | _ => (false, inp)
  match pClsItems (inp.length + 1) inp [] with
  | some (rs, rest) => some (.cls ⟨neg, rs⟩, rest)
  | none => none

/-- Optional lazy marker `?` after a quantifier. -/
def skipLazy : List Char → List Char
  | '?' :: rest => rest
  | inp => inp

/-- Quantifiers applied to `r` (the crate accepts stacked quantifiers). -/
def pQuant : Nat → Re → List Char → Option (Re × List Char)
  | 0, _, _ => none
  | fuel + 1, r, inp =>
    match inp with
    | '*' :: rest => pQuant fuel (.star r) (skipLazy rest)
    | '+' :: rest => pQuant fuel (r.plus) (skipLazy rest)
    | '?' :: rest => pQuant fuel (r.opt) (skipLazy rest)
    | '{' :: rest =>
      match pNum rest 0 false with
      | none => none
      | some (n, rest1) =>
        match rest1 with
        | '}' :: rest2 => pQuant fuel (r.rep n (some n)) (skipLazy rest2)
        | ',' :: '}' :: rest2 => pQuant fuel (r.rep n .none) (skipLazy rest2)
        | ',' :: rest2 =>
          match pNum rest2 0 false with
          | none => none
          | some (m, rest3) =>
            match rest3 with
            | '}' :: rest4 => if n ≤ m then pQuant fuel (r.rep n (some m)) (skipLazy rest4) else none
            | _ => none
        | _ => none
    | _ => some (r, inp)

mutual
/-- `alt := seq ('|' seq)*` -/
def pAlt : Nat → List Char → Option (Re × List Char)
  | 0, _ => none
  | fuel + 1, inp =>
    match pSeq fuel inp with
    | none => none
    | some (r, rest) =>
      match rest with
      | '|' :: rest' =>
        match pAlt fuel rest' with
        | none => none
        | some (r2, rest2) => some (.alt r r2, rest2)
      | _ => some (r, rest)
/-- `seq := (atom quant*)*` up to `|`, `)` or the end. -/
def pSeq : Nat → List Char → Option (Re × List Char)
  | 0, _ => none
  | fuel + 1, inp =>
    match inp with
    | [] => some (.eps, [])
    | '|' :: _ => some (.eps, inp)
    | ')' :: _ => some (.eps, inp)
    | _ =>
      match pAtom fuel inp with
      | none => none
      | some (a, rest) =>
        match pQuant (rest.length + 1) a rest with
        | none => none
        | some (q, rest1) =>
          match pSeq fuel rest1 with
          | none => none
          | some (r, rest2) => some (.cat q r, rest2)
def pAtom : Nat → List Char → Option (Re × List Char)
  | 0, _ => none
  | fuel + 1, inp =>
    match inp with
    | [] => none
    | '(' :: rest =>
      let rest := match rest with
        | '?' :: ':' :: rest' => rest'
        | _ => rest
      match pAlt fuel rest with
      | some (r, ')' :: rest') => some (r, rest')
      | _ => none
    | '[' :: rest => pCls rest
    | '.' :: rest => some (Re.any, rest)
    | '\\' :: d :: rest =>
      if isMeta d then some (Re.chr d, rest)
      else
        match perlClass d with
        | some k => some (.cls k, rest)
        | none =>
          -- `\pL`, `\p{L}` (letters); `\b` and everything else: outside the fragment
          if d = 'p' then
            match rest with
            | 'L' :: rest' => some (.cls ⟨false, letterRanges⟩, rest')
            | '{' :: 'L' :: '}' :: rest' => some (.cls ⟨false, letterRanges⟩, rest')
            | _ => none
          else none
    | c :: rest => if isPlain c then some (Re.chr c, rest) else none
end

/-- Meaning of the text between the outer parentheses of a group (`?:` prefix optional). -/
def parseBody (body : List Char) : Option Re :=
  let inp := match body with
    | '?' :: ':' :: rest => rest
    | _ => body
  match pAlt (4 * inp.length + 8) inp with
  | some (r, []) => some r
  | _ => none

/-! ### `Regex::new` on a rule-shaped string -/

/-- Meaning of one token, given the meaning `G` of group bodies. -/
def Tok.re (G : List Char → Option Re) : Tok → Option Re
  | .lit c => some (Re.chr c)
  | .grp b => G b

def mapOpt {α β : Type} (f : α → Option β) : List α → Option (List β)
  | [] => some []
  | a :: as =>
    match f a with
    | none => none
    | some b => (mapOpt f as).map (b :: ·)

/-- `Regex::new(p)` (anchors are added by the callers): split, give every token its meaning,
concatenate.  `none` = compile error. -/
def compileStr (G : List Char → Option Re) (p : List Char) : Option Re :=
  match tokTop p with
  | none => none
  | some ts => (mapOpt (Tok.re G) ts).map catAll

/-- What the tree model needs from the regex engine (`src/regex.rs` builds `^p$` for leaves and `^q`
for nodes with `RegexBuilder::case_insensitive(ignore_case)`).  First argument: `ignore_case`. -/
structure Engine where
  /-- `Regex::new("^p$")` succeeds. -/
  leafOk : Bool → List Char → Bool
  /-- `Regex::new("^p$")` succeeds and `is_match(s)`. -/
  full : Bool → List Char → List Char → Bool
  /-- `Regex::new("^q")` succeeds. -/
  nodeOk : Bool → List Char → Bool
  /-- `Regex::new("^q")` succeeds and `is_match(s)`. -/
  pre : Bool → List Char → List Char → Bool

/-- The engine induced by a meaning `G` of group bodies. -/
def engineOf (G : List Char → Option Re) : Engine where
  leafOk _ p := (compileStr G p).isSome
  full ic p s := match compileStr G p with
    | some r => fmatch ic r s
    | none => false
  nodeOk _ q := (compileStr G q).isSome
  pre ic q s := match compileStr G q with
    | some r => pmatch ic r s
    | none => false

/-- The engine used by the drivers. -/
def stdEngine : Engine := engineOf parseBody

end Rio.Regex
