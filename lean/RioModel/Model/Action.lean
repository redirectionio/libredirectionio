/-
Model of `src/action/mod.rs` (`from_route_rule`, `merge`, `from_routes_rule`, `get_status_code`,
`get_final_status_code_with_fallback`, `filter_headers`, `create_filter_body`, `should_log_request`,
`get_applied_rule_ids`), `src/action/status_code_update.rs`, `src/action/log_override.rs`,
`impl Ord for Rule` (`src/api/rule.rs`; `Route::cmp` delegates to it) and of the insertion
behaviour of `linked_hash_set::LinkedHashSet` (an `insert` of a present value moves it to the back).

Conventions
* A `Rule` here is the part of `api::Rule` + `api::Source` that these functions read, with marker
  substitution already done (`StaticOrDynamic::replace` with the captured variables is the identity
  on the strings carried here; it belongs to C10).
* Rule ids are `List Nat` = the UTF-8 bytes of the Rust `String`; Rust compares `String`s bytewise
  (`cmpBytes`).  Every other text is an opaque `String`.
* `rand::random::<u32>() % 100 + 1` is the parameter `draw` (one value per rule: `draw : Rule → Nat`).
* `unit_trace` is `None` everywhere in this file; the `UnitTrace` side effects are modelled on top of it, function
  by function, in Model/UnitTrace.lean.

Part 1 is the transcription of the code (the *model*, `"m"` of the driver).  Part 2 (`namespace Spec`)
is the independent executable *specification* (`"s"`): closed forms over the sorted list of matched
rules, written without the fold.  Props/C05.lean proves Part 1 = Part 2.
-/
import RioModel.Generated.Consts
import RioModel.Model.Header

namespace Rio.Action

/-! ## Part 0 — data -/

abbrev RuleId := List Nat

/-- `api::HeaderFilter`. -/
structure HeaderFilter where
  action : String
  header : String
  value : String
  id : Option String
  targetHash : Option String
deriving DecidableEq, Repr, Inhabited

/-- `api::TextAction`. -/
inductive TextAction where
  | append | prepend | replace
deriving DecidableEq, Repr, Inhabited

/-- `api::TextBodyFilter`. -/
structure TextBodyFilter where
  action : TextAction
  content : String
  id : Option String
  targetHash : Option String
deriving DecidableEq, Repr, Inhabited

/-- `api::HTMLBodyFilter`. -/
structure HtmlBodyFilter where
  action : String
  value : String
  innerValue : Option String
  elementTree : List String
  cssSelector : Option String
  id : Option String
  targetHash : Option String
deriving DecidableEq, Repr, Inhabited

/-- `api::BodyFilter` (untagged enum). -/
inductive BodyFilter where
  | text (f : TextBodyFilter)
  | html (f : HtmlBodyFilter)
deriving DecidableEq, Repr, Inhabited

/-- The fields of `api::Rule` / `api::Source` read by `Action::from_route_rule` and `Rule::cmp`. -/
structure Rule where
  id : RuleId
  rank : Nat
  /-- `rule.status_code` -/
  statusCode : Option Nat
  /-- `rule.target`, markers already substituted -/
  target : Option String
  /-- `rule.source.response_status_codes` -/
  responseStatusCodes : Option (List Nat)
  /-- `rule.source.exclude_response_status_codes` (the code tests `is_some()`) -/
  excludeResponseStatusCodes : Option Bool
  /-- `rule.source.sampling` -/
  sampling : Option Nat
  headerFilters : Option (List HeaderFilter)
  bodyFilters : Option (List BodyFilter)
  logOverride : Option Bool
  reset : Option Bool
  stop : Option Bool
  redirectUnitId : Option String
  configurationLogUnitId : Option String
  targetHash : Option String
  /-- `rule.configuration_reset_unit_id`: only feeds the unit trace (Model/UnitTrace.lean), for `reset` AND `stop` -/
  configurationResetUnitId : Option String := none
deriving DecidableEq, Repr, Inhabited

/-- The fields of `http::Request` read by `from_route_rule`. -/
structure Req where
  samplingOverride : Option Bool
  /-- `request.path_and_query_skipped.skipped_query_params` -/
  skippedQueryParams : Option String
deriving DecidableEq, Repr, Inhabited

/-- `action::StatusCodeUpdate`. -/
structure StatusCodeUpdate where
  statusCode : Nat
  onResponseStatusCodes : List Nat
  excludeResponseStatusCodes : Bool
  fallbackStatusCode : Nat
  ruleId : Option RuleId
  fallbackRuleId : Option RuleId
  unitId : Option String
  targetHash : Option String
deriving DecidableEq, Repr, Inhabited

/-- `action::LogOverride`. -/
structure LogOverride where
  logOverride : Bool
  ruleId : Option RuleId
  onResponseStatusCodes : List Nat
  excludeResponseStatusCodes : Bool
  fallbackLogOverride : Option Bool
  fallbackRuleId : Option RuleId
  unitId : Option String
deriving DecidableEq, Repr, Inhabited

structure HeaderFilterAction where
  filter : HeaderFilter
  onResponseStatusCodes : List Nat
  excludeResponseStatusCodes : Bool
  ruleId : Option RuleId
deriving DecidableEq, Repr, Inhabited

structure BodyFilterAction where
  filter : BodyFilter
  onResponseStatusCodes : List Nat
  excludeResponseStatusCodes : Bool
  ruleId : Option RuleId
deriving DecidableEq, Repr, Inhabited

structure RuleTrace where
  id : RuleId
  onResponseStatusCodes : List Nat
  excludeResponseStatusCodes : Bool
deriving DecidableEq, Repr, Inhabited

/-- `action::Action`; the two `LinkedHashSet<String>` are lists in insertion order. -/
structure Action where
  statusCodeUpdate : Option StatusCodeUpdate
  headerFilters : List HeaderFilterAction
  bodyFilters : List BodyFilterAction
  ruleIds : List RuleId
  ruleTraces : List RuleTrace
  rulesApplied : List RuleId
  logOverride : Option LogOverride
deriving DecidableEq, Repr, Inhabited

/-- `Action::default()`. -/
def Action.empty : Action := ⟨none, [], [], [], [], [], none⟩

/-! ## Part 1 — the model -/

/-! ### `impl Ord for Rule` -/

/-- `u16::cmp`. -/
def cmpNat (a b : Nat) : Ordering :=
  if a < b then .lt else if b < a then .gt else .eq

/-- `String::cmp` = `<[u8] as Ord>::cmp`: lexicographic on bytes, a proper prefix is smaller. -/
def cmpBytes : List Nat → List Nat → Ordering
  | [], [] => .eq
  | [], _ :: _ => .lt
  | _ :: _, [] => .gt
  | a :: as, b :: bs => if a < b then .lt else if b < a then .gt else cmpBytes as bs

/-- One key of `Rule::cmp`: `other.k.cmp(&self.k)` (descending) or `self.k.cmp(&other.k)`;
which of the two the source uses is read from the source on every run (Generated/Consts.lean). -/
def keyCmp {α : Type} (cmp : α → α → Ordering) (desc : Bool) (self other : α) : Ordering :=
  if desc then cmp other self else cmp self other

/-- `impl Ord for Rule { fn cmp(&self, other) }`: rank first, then id. -/
def ruleCmp (self other : Rule) : Ordering :=
  let orderOnRank := keyCmp cmpNat Rio.Consts.ruleCmpRankDescending self.rank other.rank
  if orderOnRank != .eq then orderOnRank
  else keyCmp cmpBytes Rio.Consts.ruleCmpIdDescending self.id other.id

/-- `a <= b` for the order above: what `sort` guarantees between an earlier and a later element. -/
def ruleLe (a b : Rule) : Bool := ruleCmp a b != .gt

/-- `routes.sort()` (a stable merge sort; `List.mergeSort` is stable as well). -/
def sortRules (rs : List Rule) : List Rule := rs.mergeSort ruleLe

/-! ### `LinkedHashSet<String>` -/

/-- The test used when re-inserting: keep the other elements. -/
def idNe (x y : RuleId) : Bool := !(y == x)

/-- `LinkedHashSet::insert`: a value already present is moved to the back. -/
def lhsInsert (s : List RuleId) (x : RuleId) : List RuleId := s.filter (idNe x) ++ [x]

/-- `rules_applied.insert(id)` when `id` is `Some`. -/
def lhsInsertOpt (s : List RuleId) (x : Option RuleId) : List RuleId :=
  match x with
  | none => s
  | some x => lhsInsert s x

/-! ### `Action::from_route_rule` -/

/-- The sampling test at the top of `from_route_rule`: `true` = the early `return (None, …)`. -/
def sampledOut (sampling : Option Nat) (override : Option Bool) (draw : Nat) : Bool :=
  match sampling with
  | none => false
  | some s =>
    let percentRand := min s 100          -- `sampling.clamp(0, 100)` on a `u32`
    match override, decide (draw > percentRand) with
    | some false, _ => true
    | none, true => true
    | _, _ => false

/-- `target.is_empty()` (a named test: see the builder guide on `simp` and Boolean tests). -/
def emptyTarget (t : String) : Bool := t.isEmpty

/-- The value of the `Location` filter: the target plus the skipped query parameters. -/
def locationValue (target : String) (q : Req) : String :=
  match q.skippedQueryParams with
  | none => target
  | some skipped =>
    (if target.toList.any (· == '?') then target ++ "&" else target ++ "?") ++ skipped

/-- Body filter after "substitution": an HTML filter gets `inner_value = Some(inner_value.unwrap_or(value))`. -/
def bodyFilterOfRule (f : BodyFilter) : BodyFilter :=
  match f with
  | .html h => .html { h with innerValue := some (match h.innerValue with | some v => v | none => h.value) }
  | .text t => .text t

/-- `Action::from_route_rule`: `(action, reset, stop)` (the fourth component only feeds the unit trace). -/
def fromRouteRule (r : Rule) (q : Req) (draw : Nat) : Option Action × Bool × Bool :=
  if sampledOut r.sampling q.samplingOverride draw then (none, false, false)
  else
    let onCodes : List Nat := match r.responseStatusCodes with | none => [] | some codes => codes
    let excl : Bool := r.excludeResponseStatusCodes.isSome
    let redirectCode : Nat := match r.statusCode with | none => 0 | some c => c
    let statusCodeUpdate : Option StatusCodeUpdate :=
      if redirectCode == 0 then none
      else some {
        statusCode := redirectCode, onResponseStatusCodes := onCodes,
        excludeResponseStatusCodes := excl, fallbackStatusCode := 0,
        ruleId := some r.id, fallbackRuleId := none,
        unitId := r.redirectUnitId, targetHash := some "status_code" }
    let location : List HeaderFilterAction :=
      match r.target with
      | none => []
      | some target =>
        if emptyTarget target then []
        else [{ filter := { action := "override", value := locationValue target q, header := "Location",
                            id := r.redirectUnitId, targetHash := r.targetHash },
                onResponseStatusCodes := onCodes, excludeResponseStatusCodes := excl,
                ruleId := some r.id }]
    let ruleHeaderFilters : List HeaderFilterAction :=
      match r.headerFilters with
      | none => []
      | some fs => fs.map fun f =>
          { filter := f, onResponseStatusCodes := onCodes, excludeResponseStatusCodes := excl,
            ruleId := some r.id }
    let ruleBodyFilters : List BodyFilterAction :=
      match r.bodyFilters with
      | none => []
      | some fs => fs.map fun f =>
          { filter := bodyFilterOfRule f, onResponseStatusCodes := onCodes,
            excludeResponseStatusCodes := excl, ruleId := some r.id }
    let action : Action := {
      statusCodeUpdate := statusCodeUpdate
      headerFilters := location ++ ruleHeaderFilters
      bodyFilters := ruleBodyFilters
      ruleIds := [r.id]
      ruleTraces := [{ id := r.id, onResponseStatusCodes := onCodes, excludeResponseStatusCodes := excl }]
      rulesApplied := []
      logOverride := r.logOverride.map fun lo =>
        { logOverride := lo, ruleId := some r.id, onResponseStatusCodes := onCodes,
          excludeResponseStatusCodes := excl, fallbackLogOverride := none, fallbackRuleId := none,
          unitId := r.configurationLogUnitId } }
    (some action, (match r.reset with | none => false | some b => b),
                  (match r.stop with | none => false | some b => b))

/-! ### `Action::merge` -/

def mergeStatus (self other : Option StatusCodeUpdate) : Option StatusCodeUpdate :=
  match other with
  | none => self
  | some new =>
    match self with
    | none => some new
    | some old =>
      if !old.onResponseStatusCodes.isEmpty || new.onResponseStatusCodes.isEmpty then some new
      else some {
        statusCode := new.statusCode, onResponseStatusCodes := new.onResponseStatusCodes,
        excludeResponseStatusCodes := new.excludeResponseStatusCodes,
        fallbackStatusCode := old.statusCode, ruleId := new.ruleId, targetHash := new.targetHash,
        fallbackRuleId := old.ruleId, unitId := new.unitId }

def mergeLog (self other : Option LogOverride) : Option LogOverride :=
  match other with
  | none => self
  | some o =>
    match self with
    | none => some o
    | some s =>
      if !s.onResponseStatusCodes.isEmpty || o.onResponseStatusCodes.isEmpty then some o
      else some {
        logOverride := o.logOverride, ruleId := o.ruleId,
        onResponseStatusCodes := o.onResponseStatusCodes,
        excludeResponseStatusCodes := o.excludeResponseStatusCodes,
        fallbackLogOverride := some s.logOverride, fallbackRuleId := s.ruleId,
        unitId := s.unitId }     -- sic: the unit id of the *old* override

/-- `Action::merge(&mut self, other)`. -/
def Action.merge (self other : Action) : Action := {
  statusCodeUpdate := mergeStatus self.statusCodeUpdate other.statusCodeUpdate
  headerFilters := self.headerFilters ++ other.headerFilters
  bodyFilters := self.bodyFilters ++ other.bodyFilters
  ruleIds := other.ruleIds.foldl lhsInsert self.ruleIds
  ruleTraces := self.ruleTraces ++ other.ruleTraces
  rulesApplied := self.rulesApplied
  logOverride := mergeLog self.logOverride other.logOverride }

/-! ### `Action::from_routes_rule` -/

/-- The `for route in routes` loop (after the sort), with its early `return` on `stop`. -/
def foldRoutes (q : Req) (draw : Rule → Nat) : Action → List Rule → Action
  | action, [] => action
  | action, r :: rest =>
    match fromRouteRule r q (draw r) with
    | (none, _, _) => foldRoutes q draw action rest
    | (some actionRule, reset, stop) =>
      let action' := if reset then actionRule else action.merge actionRule
      if stop then action' else foldRoutes q draw action' rest

/-- `Action::from_routes_rule(routes, request, None)`. -/
def fromRoutesRule (routes : List Rule) (q : Req) (draw : Rule → Nat) : Action :=
  foldRoutes q draw Action.empty (sortRules routes)

/-! ### Use-time observers -/

/-- `StatusCodeUpdate::get_status_code`: the body is TRANSLATED from the source on every run
(`Rio.Consts.statusGetStatusCode`, tools/consts.d/action.py); at the time of writing it reads
```
  if c == 0 && codes.isEmpty then (statusCode, ruleId)
  else if excl && !codes.contains c then (statusCode, ruleId)
  else if !excl && codes.any (fun v => v == c) then (statusCode, ruleId)
  else if c != 0 then (fallbackStatusCode, fallbackRuleId)
  else (0, none)
``` -/
def StatusCodeUpdate.getStatusCode (u : StatusCodeUpdate) (c : Nat) : Nat × Option RuleId :=
  Rio.Consts.statusGetStatusCode u.statusCode u.onResponseStatusCodes u.excludeResponseStatusCodes
    u.fallbackStatusCode u.ruleId u.fallbackRuleId c

/-- `LogOverride::get_log_override` (translated from the source as well: `Rio.Consts.logGetLogOverride`);
the third component `handled` only feeds the unit trace and is dropped here. -/
def LogOverride.getLogOverride (l : LogOverride) (c : Nat) : Option Bool × Option RuleId :=
  let r := Rio.Consts.logGetLogOverride l.logOverride l.onResponseStatusCodes
    l.excludeResponseStatusCodes l.fallbackLogOverride l.ruleId l.fallbackRuleId c
  (r.1, r.2.1)

/-- `Action::get_status_code(response_status_code, None)`. -/
def Action.getStatusCode (a : Action) (c : Nat) : Nat × Action :=
  match a.statusCodeUpdate with
  | none => (0, a)
  | some u =>
    let r := u.getStatusCode c
    (r.1, { a with rulesApplied := lhsInsertOpt a.rulesApplied r.2 })

/-- `Action::get_final_status_code_with_fallback`. -/
def Action.getFinalStatusCodeWithFallback (a : Action) (c fallback : Nat) : (Nat × Nat) × Action :=
  let r := a.getStatusCode c
  if c == 0 && r.1 == 0 then
    let r2 := r.2.getStatusCode fallback
    ((r2.1, fallback), r2.2)
  else ((r.1, c), r.2)

/-- The three `if`s of the `for trace in &self.rule_traces` loop of `filter_headers`:
`true` = `rules_applied.insert(trace.id)`. -/
def traceApplies (codes : List Nat) (excl : Bool) (c : Nat) : Bool :=
  if codes.isEmpty then true
  else if !excl && codes.contains c then true
  else if excl && !codes.contains c then true
  else false

/-- The guard of the filter loops of `filter_headers` / `create_filter_body`: `true` = `continue`. -/
def filterSkipped (codes : List Nat) (excl : Bool) (c : Nat) : Bool :=
  if !codes.isEmpty then
    if !excl && !codes.contains c then true
    else if excl && codes.contains c then true
    else false
  else false

/-- What `filter_headers` hands over: the selected filters (input of `FilterHeaderAction::new`, C13),
the ids joined into the `X-RedirectionIo-RuleIds` header when asked for, and the new `self`. -/
structure FilterHeadersResult where
  filters : List HeaderFilter
  ruleIdsHeader : Option (List RuleId)
  action : Action
deriving DecidableEq, Repr

/-- `Action::filter_headers(headers, response_status_code, add_rule_ids_header, None)` up to the
application of the selected filters to `headers` (which is `Rio.Header.filterHeaders`, C13). -/
def Action.filterHeaders (a : Action) (c : Nat) (addRuleIdsHeader : Bool) : FilterHeadersResult :=
  let applied1 := a.ruleTraces.foldl
    (fun s t => if traceApplies t.onResponseStatusCodes t.excludeResponseStatusCodes c
                then lhsInsert s t.id else s)
    a.rulesApplied
  let r := a.headerFilters.foldl
    (fun (st : List HeaderFilter × List RuleId) f =>
      if filterSkipped f.onResponseStatusCodes f.excludeResponseStatusCodes c then st
      else (st.1 ++ [f.filter], lhsInsertOpt st.2 f.ruleId))
    ([], applied1)
  { filters := r.1
    ruleIdsHeader := if addRuleIdsHeader then some r.2 else none
    action := { a with rulesApplied := r.2 } }

/-- The part of an `api::HeaderFilter` the header actions read (C13 model). -/
def toHeaderOp (f : HeaderFilter) : Rio.Header.HeaderFilter := ⟨f.action, f.header, f.value⟩

/-- The whole of `Action::filter_headers(headers, response_status_code, add_rule_ids_header, None)`:
selection (above), `FilterHeaderAction::new(filters)` + `filter(headers)` (the C13 model, `lower` =
`str::to_lowercase`), then the `X-RedirectionIo-RuleIds` header (`showId` renders an id; the driver
decodes the UTF-8 bytes). -/
def Action.filterHeadersFull (lower : String → String) (showId : RuleId → String) (a : Action)
    (headers : List Rio.Header.Header) (c : Nat) (addRuleIdsHeader : Bool) :
    List Rio.Header.Header × Action :=
  let r := a.filterHeaders c addRuleIdsHeader
  let newHeaders := Rio.Header.filterHeaders lower (r.filters.map toHeaderOp) headers
  ((match r.ruleIdsHeader with
    | none => newHeaders
    | some ids => newHeaders ++ [⟨"X-RedirectionIo-RuleIds", String.intercalate ";" (ids.map showId)⟩]),
   r.action)

/-- `Action::create_filter_body` up to `FilterBodyAction::new(filters, headers)`: the selected filters. -/
def Action.createFilterBody (a : Action) (c : Nat) : List BodyFilter × Action :=
  let r := a.bodyFilters.foldl
    (fun (st : List BodyFilter × List RuleId) f =>
      if filterSkipped f.onResponseStatusCodes f.excludeResponseStatusCodes c then st
      else (st.1 ++ [f.filter], lhsInsertOpt st.2 f.ruleId))
    ([], a.rulesApplied)
  (r.1, { a with rulesApplied := r.2 })

/-- `Action::should_log_request(allow_log_config, response_status_code, None)`. -/
def Action.shouldLogRequest (a : Action) (allowLogConfig : Bool) (c : Nat) : Bool × Action :=
  match a.logOverride with
  | none => (allowLogConfig, a)
  | some l =>
    let r := l.getLogOverride c
    ((match r.1 with | some b => b | none => allowLogConfig),
     { a with rulesApplied := lhsInsertOpt a.rulesApplied r.2 })

/-! ### A sequence of observer calls on one action (what a proxy does with it) -/

inductive Op where
  | status | headers | body | log
  | final (fallback : Nat)
deriving DecidableEq, Repr

inductive OpResult where
  | status (code : Nat)
  | headers (filters : List HeaderFilter) (ruleIdsHeader : Option (List RuleId))
  | body (filters : List BodyFilter)
  | log (allow : Bool)
  | final (code response : Nat)
deriving DecidableEq, Repr

def runOp (allowLogConfig : Bool) (c : Nat) (a : Action) (op : Op) : OpResult × Action :=
  match op with
  | .status => let r := a.getStatusCode c; (.status r.1, r.2)
  | .headers => let r := a.filterHeaders c true; (.headers r.filters r.ruleIdsHeader, r.action)
  | .body => let r := a.createFilterBody c; (.body r.1, r.2)
  | .log => let r := a.shouldLogRequest allowLogConfig c; (.log r.1, r.2)
  | .final fb => let r := a.getFinalStatusCodeWithFallback c fb; (.final r.1.1 r.1.2, r.2)

/-- Run the observers in sequence; after each, record its result and `get_applied_rule_ids()`. -/
def runOps (allowLogConfig : Bool) (c : Nat) : Action → List Op → List (OpResult × List RuleId)
  | _, [] => []
  | a, op :: ops =>
    let r := runOp allowLogConfig c a op
    (r.1, r.2.rulesApplied) :: runOps allowLogConfig c r.2 ops

/-- The same with a response code PER CALL: what a proxy really does with one action — `get_status_code(0)` at
request time, then `get_status_code` / `filter_headers` / `create_filter_body` / `should_log_request` with the
backend's code, all on the same `&mut self` (`rules_applied` accumulates across the codes). -/
def runOpsC (allowLogConfig : Bool) : Action → List (Op × Nat) → List (OpResult × List RuleId)
  | _, [] => []
  | a, (op, c) :: ops =>
    let r := runOp allowLogConfig c a op
    (r.1, r.2.rulesApplied) :: runOpsC allowLogConfig r.2 ops

/-- The proxy order (`unit_ids.rs` / `test_examples.rs` / the proxy modules): `s0` = the status returned at request
time, `s1` = the status returned for the backend's code (only asked when `s0 = 0`). -/
def proxySequence (s0 s1 backend : Nat) : List (Op × Nat) :=
  let backend' := if s0 != 0 then s0 else backend
  let final := if s0 != 0 then s0 else s1
  [(.status, 0)] ++ (if s0 != 0 then [] else [(.status, backend)]) ++
    [(.headers, backend'), (.body, backend'), (.log, final)]

/-! ## Part 2 — the specification: closed forms over the sorted matched rules -/

namespace Spec

/-- A rule is *effective* for a request: not sampled, or kept by the sampling decision. -/
def effective (q : Req) (draw : Rule → Nat) (r : Rule) : Bool :=
  match r.sampling with
  | none => true
  | some s =>
    match q.samplingOverride with
    | some true => true
    | some false => false
    | none => decide (draw r ≤ min s 100)

def isStop (r : Rule) : Bool := r.stop == some true
def isReset (r : Rule) : Bool := r.reset == some true

/-- Prefix up to and including the first `stop` rule. -/
def throughFirstStop : List Rule → List Rule
  | [] => []
  | r :: rs => if isStop r then [r] else r :: throughFirstStop rs

/-- Suffix starting at the last `reset` rule (the whole list if there is none). -/
def fromLastReset : List Rule → List Rule
  | [] => []
  | r :: rs => if rs.any isReset then fromLastReset rs else r :: rs

/-- The rules that contribute to the action, in application order (lowest priority first),
given the matched rules sorted by (rank desc, id desc). -/
def contributing (q : Req) (draw : Rule → Nat) (sorted : List Rule) : List Rule :=
  fromLastReset (throughFirstStop (sorted.filter (effective q draw)))

def codesOf (r : Rule) : List Nat := r.responseStatusCodes.getD []
def exclOf (r : Rule) : Bool := r.excludeResponseStatusCodes.isSome

/-- The response-status condition of a rule *admits* the response code `c` (for its filters, its
trace and its log override): no code list, or listed / not excluded. -/
def admits (r : Rule) (c : Nat) : Bool :=
  codesOf r == [] || (if exclOf r then !(codesOf r).contains c else (codesOf r).contains c)

/-- The condition under which the *status code* of a rule applies to `c`: an unconditional rule
only at request time (`c = 0`) — unless it carries the exclude flag with an empty list, which the
code treats as "every code" —, a conditional rule when the code is listed / not excluded. -/
def admitsStatus (r : Rule) (c : Nat) : Bool :=
  (c == 0 && codesOf r == []) || (if exclOf r then !(codesOf r).contains c else (codesOf r).contains c)

def carriesStatus (r : Rule) : Bool := !(r.statusCode.getD 0 == 0)
def carriesLog (r : Rule) : Bool := r.logOverride.isSome
def unconditional (r : Rule) : Bool := codesOf r == []

/-- `(primary, fallback)` among the rules satisfying `carries`: the primary is the last one (highest
priority); the one before it is its fallback iff it is unconditional and the primary is conditional. -/
def primaryFallback (carries : Rule → Bool) (C : List Rule) : Option (Rule × Option Rule) :=
  match (C.filter carries).reverse with
  | [] => none
  | [p] => some (p, none)
  | p :: q :: _ => some (p, if unconditional q && !unconditional p then some q else none)

/-- The status rule of a rule (`from_route_rule`) with the fallback taken from `fb`. -/
def statusUpdateOf (p : Rule) (fb : Option Rule) : StatusCodeUpdate := {
  statusCode := p.statusCode.getD 0, onResponseStatusCodes := codesOf p,
  excludeResponseStatusCodes := exclOf p,
  fallbackStatusCode := match fb with | some q => q.statusCode.getD 0 | none => 0,
  ruleId := some p.id, fallbackRuleId := fb.map (·.id),
  unitId := p.redirectUnitId, targetHash := some "status_code" }

def logOverrideOf (p : Rule) (fb : Option Rule) : LogOverride := {
  logOverride := p.logOverride.getD false, ruleId := some p.id,
  onResponseStatusCodes := codesOf p, excludeResponseStatusCodes := exclOf p,
  fallbackLogOverride := fb.map (fun q => q.logOverride.getD false),
  fallbackRuleId := fb.map (·.id),
  unitId := match fb with | some q => q.configurationLogUnitId | none => p.configurationLogUnitId }

/-- The header filters a rule contributes: `Location` override first (non-empty target), then its own. -/
def ruleHeaderFilters (q : Req) (r : Rule) : List HeaderFilterAction :=
  ((match r.target with
    | some t => if emptyTarget t then [] else
        [({ action := "override", header := "Location", value := locationValue t q,
            id := r.redirectUnitId, targetHash := r.targetHash } : HeaderFilter)]
    | none => []) ++ r.headerFilters.getD []).map fun f =>
      { filter := f, onResponseStatusCodes := codesOf r, excludeResponseStatusCodes := exclOf r,
        ruleId := some r.id }

def ruleBodyFilters (r : Rule) : List BodyFilterAction :=
  (r.bodyFilters.getD []).map fun f =>
    { filter := bodyFilterOfRule f, onResponseStatusCodes := codesOf r,
      excludeResponseStatusCodes := exclOf r, ruleId := some r.id }

def ruleTrace (r : Rule) : RuleTrace :=
  { id := r.id, onResponseStatusCodes := codesOf r, excludeResponseStatusCodes := exclOf r }

/-- Keep the last occurrence of every element: the content of a `LinkedHashSet` after inserting
the elements of the list one after the other. -/
def dedupLast : List RuleId → List RuleId
  | [] => []
  | x :: xs => if xs.contains x then dedupLast xs else x :: dedupLast xs

/-- The action, field by field, from the contributing rules. -/
def action (q : Req) (C : List Rule) : Action := {
  statusCodeUpdate := (primaryFallback carriesStatus C).map fun pf => statusUpdateOf pf.1 pf.2
  headerFilters := C.flatMap (ruleHeaderFilters q)
  bodyFilters := C.flatMap ruleBodyFilters
  ruleIds := dedupLast (C.map (·.id))
  ruleTraces := C.map ruleTrace
  rulesApplied := []
  logOverride := (primaryFallback carriesLog C).map fun pf => logOverrideOf pf.1 pf.2 }

/-- `get_status_code` as a table over the contributing rules: `(status, rule it is attributed to)`. -/
def statusAt (C : List Rule) (c : Nat) : Nat × Option RuleId :=
  match primaryFallback carriesStatus C with
  | none => (0, none)
  | some (p, fb) =>
    if admitsStatus p c then (p.statusCode.getD 0, some p.id)
    else if c == 0 then (0, none)
    else match fb with
      | some f => (f.statusCode.getD 0, some f.id)
      | none => (0, none)

/-- `should_log_request`: `(override decided, rule it is attributed to)`. -/
def logAt (C : List Rule) (c : Nat) : Option Bool × Option RuleId :=
  match primaryFallback carriesLog C with
  | none => (none, none)
  | some (p, fb) =>
    if admits p c then (p.logOverride, some p.id)
    else match fb with
      | some f => (f.logOverride, some f.id)
      | none => (none, none)

/-- Header filters applied for response code `c`, in order. -/
def headerFiltersAt (q : Req) (C : List Rule) (c : Nat) : List HeaderFilter :=
  (C.filter (admits · c)).flatMap fun r => (ruleHeaderFilters q r).map (·.filter)

def bodyFiltersAt (C : List Rule) (c : Nat) : List BodyFilter :=
  (C.filter (admits · c)).flatMap fun r => (ruleBodyFilters r).map (·.filter)

/-- Ids inserted into `rules_applied` by one observer call, in insertion order. -/
def insertedBy (q : Req) (C : List Rule) (c : Nat) : Op → List RuleId
  | .status => (statusAt C c).2.toList
  | .headers =>
    (C.filter (admits · c)).map (·.id) ++
      (C.filter (admits · c)).flatMap fun r => (ruleHeaderFilters q r).map fun _ => r.id
  | .body => (C.filter (admits · c)).flatMap fun r => (ruleBodyFilters r).map fun _ => r.id
  | .log => (logAt C c).2.toList
  | .final fb =>
    (statusAt C c).2.toList ++
      (if c == 0 && (statusAt C c).1 == 0 then (statusAt C fb).2.toList else [])

def resultOf (q : Req) (C : List Rule) (allowLogConfig : Bool) (c : Nat) (applied : List RuleId) :
    Op → OpResult
  | .status => .status (statusAt C c).1
  | .headers => .headers (headerFiltersAt q C c) (some applied)
  | .body => .body (bodyFiltersAt C c)
  | .log => .log ((logAt C c).1.getD allowLogConfig)
  | .final fb =>
    if c == 0 && (statusAt C c).1 == 0 then .final (statusAt C fb).1 fb else .final (statusAt C c).1 c

/-- The observations of a sequence of observer calls on a fresh action: result of each call and the
applied-rule ids after it (`done` = ids inserted so far, oldest first). -/
def observe (q : Req) (C : List Rule) (allowLogConfig : Bool) (c : Nat) :
    List RuleId → List Op → List (OpResult × List RuleId)
  | _, [] => []
  | done, op :: ops =>
    let done' := done ++ insertedBy q C c op
    let applied := dedupLast done'
    (resultOf q C allowLogConfig c applied op, applied) :: observe q C allowLogConfig c done' ops

/-- The same for a response code per call: the ids inserted so far come from calls with different codes. -/
def observeC (q : Req) (C : List Rule) (allowLogConfig : Bool) :
    List RuleId → List (Op × Nat) → List (OpResult × List RuleId)
  | _, [] => []
  | done, (op, c) :: ops =>
    let done' := done ++ insertedBy q C c op
    let applied := dedupLast done'
    (resultOf q C allowLogConfig c applied op, applied) :: observeC q C allowLogConfig done' ops

/-- An independent sort for the specification: stable insertion sort by `ruleLe`. -/
def insertRule (r : Rule) : List Rule → List Rule
  | [] => [r]
  | x :: xs => if ruleLe r x then r :: x :: xs else x :: insertRule r xs

def insertionSort (rs : List Rule) : List Rule := rs.foldr insertRule []

end Spec

/-! ## Part 3 — probe helpers for the correspondence (not subject to theorems)

`FilterBodyAction` restricted to text filters, one chunk then `end()`:
`filter/text_filter_body.rs`, `filter/filter_body.rs::{new, do_filter, do_end}`. -/

namespace Probe

structure TextItem where
  action : TextAction
  content : String
  executed : Bool
deriving Repr

/-- `TextFilterBodyAction::filter`. -/
def TextItem.filter (it : TextItem) (data : String) : TextItem × String :=
  match it.action with
  | .replace => if it.executed then (it, "") else ({ it with executed := true }, it.content)
  | .append => (it, data)
  | .prepend => if it.executed then (it, data) else ({ it with executed := true }, it.content ++ data)

/-- `TextFilterBodyAction::end`. -/
def TextItem.finish (it : TextItem) : TextItem × String :=
  if it.executed then (it, "") else ({ it with executed := true }, it.content)

/-- `FilterBodyAction::do_filter`: stages in order, `break` as soon as the data is empty. -/
def doFilter : List TextItem → String → List TextItem × String
  | [], data => ([], data)
  | it :: rest, data =>
    let r := it.filter data
    if r.2.isEmpty then (r.1 :: rest, r.2)
    else
      let r' := doFilter rest r.2
      (r.1 :: r'.1, r'.2)

/-- `FilterBodyAction::do_end`. -/
def doEnd : List TextItem → Option String → String
  | [], data => data.getD ""
  | it :: rest, data =>
    let newData :=
      match data with
      | none => it.finish.2
      | some s =>
        let r := it.filter s
        r.2 ++ r.1.finish.2
    doEnd rest (if newData.isEmpty then none else some newData)

/-- `FilterBodyAction::new(filters, headers)` for a response whose content type is *not* `text/html`
(HTML filters are dropped) and that carries no content encoding; `none` = `is_empty()`. -/
def chainOf (filters : List BodyFilter) : List TextItem :=
  filters.filterMap fun f =>
    match f with
    | .text t => some ⟨t.action, t.content, false⟩
    | .html _ => none

/-- `filter(body)` followed by `end()`. -/
def runChain (chain : List TextItem) (body : String) : String :=
  let r := doFilter chain body
  r.2 ++ doEnd r.1 none

end Probe

end Rio.Action
