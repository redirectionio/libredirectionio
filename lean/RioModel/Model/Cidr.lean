/-
Model of the client-IP primitives: `std::net::IpAddr`, `cidr::AnyIpCidr` (crate cidr 0.3: `new`,
`contains`, `FromStr`) and `router::RouteIp::match_ip` (src/router/route_ip.rs), with the part of
`api::Rule::route_ips` (src/api/rule.rs) that turns the texts of a rule into `RouteIp`s.

Addresses are natural numbers (`u32` / `u128` in network byte order = `Ipv4Addr::to_bits`), a network
is (base, length).  The crate computes with masks:
  `native_host_mask(len) = u32::MAX >> len` (0 for len = 32)      = `2^(w-len) - 1`
  `_has_zero_host_part(a, len) = (a & host_mask) == 0`
  `_prefix_match(a, b, len)    = (a & !host_mask) == (b & !host_mask)`
which on numbers `< 2^w` are `a % 2^(w-len) = 0` and `a / 2^(w-len) = b / 2^(w-len)`
(`hostPart_eq_land` proves the first reading; both are differential-tested in mode `prim`).

Family mismatch (read in `AnyIpCidr::contains`): a V4 network contains no V6 address and vice versa –
*also* for IPv4-mapped IPv6 addresses `::ffff:a.b.c.d` (no mapping is applied anywhere, neither by the
crate nor by `RouteIp::match_ip` nor by `Request`); `Any` contains every address of both families.

Parser: exactly the canonical texts the harness generates – `any`, dotted-quad IPv4 (`std` syntax: 1–3
decimal digits per octet, no leading zero), IPv6 as `:`-separated groups of 1–4 hex digits, eight of them or
fewer with one `::`, the last 32 bits optionally as an embedded dotted quad, optional `/len` with a plain decimal length; anything else is `none`
(= `Err`, and `route_ips` then drops the entry).
-/

namespace Rio.Cidr

/-- `std::net::IpAddr` (value `< 2^32` resp. `< 2^128`). -/
inductive IpAddr where
  | v4 (n : Nat)
  | v6 (n : Nat)
deriving DecidableEq, Repr, Inhabited

/-- Address width of a family. -/
def width (v6 : Bool) : Nat := if v6 then 128 else 32

def IpAddr.isV6 : IpAddr → Bool
  | .v4 _ => false
  | .v6 _ => true

def IpAddr.val : IpAddr → Nat
  | .v4 n => n
  | .v6 n => n

/-- The address is a value of its type. -/
def IpAddr.WF (a : IpAddr) : Prop := a.val < 2 ^ width a.isV6

/-- `native_host_mask(len)` applied: the host part of `a` in a `/len` network of width `w`. -/
def hostPart (w a len : Nat) : Nat := a % 2 ^ (w - len)

/-- `a & !host_mask` compared: the network part, as a number. -/
def netPart (w a len : Nat) : Nat := a / 2 ^ (w - len)

/-- `_has_zero_host_part`. -/
def hasZeroHostPart (w a len : Nat) : Bool := hostPart w a len == 0

/-- `_prefix_match(address, other, prefix_len)`. -/
def prefixMatch (w base a len : Nat) : Bool := netPart w base len == netPart w a len

/-- `cidr::AnyIpCidr`: `Any`, or a network of one family (address with zero host part, length ≤ width). -/
inductive AnyIpCidr where
  | any
  | v4 (base len : Nat)
  | v6 (base len : Nat)
deriving DecidableEq, Repr, Inhabited

/-- `AnyIpCidr::new(addr, len)`: `NetworkLengthTooLongError` / `InvalidHostPart` are `none`. -/
def AnyIpCidr.new? (addr : IpAddr) (len : Nat) : Option AnyIpCidr :=
  let w := width addr.isV6
  if len > w then none
  else if !hasZeroHostPart w addr.val len then none
  else match addr with
    | .v4 n => some (.v4 n len)
    | .v6 n => some (.v6 n len)

/-- `IpCidr::new_host(addr)` (a bare address is the network containing only itself). -/
def AnyIpCidr.newHost : IpAddr → AnyIpCidr
  | .v4 n => .v4 n 32
  | .v6 n => .v6 n 128

/-- `AnyIpCidr::contains`. -/
def AnyIpCidr.contains : AnyIpCidr → IpAddr → Bool
  | .any, _ => true
  | .v4 base len, .v4 a => prefixMatch 32 base a len
  | .v4 _ _, .v6 _ => false
  | .v6 _ _, .v4 _ => false
  | .v6 base len, .v6 a => prefixMatch 128 base a len

/-- The invariant `AnyIpCidr::new` establishes. -/
def AnyIpCidr.WF : AnyIpCidr → Prop
  | .any => True
  | .v4 base len => len ≤ 32 ∧ base < 2 ^ 32 ∧ hostPart 32 base len = 0
  | .v6 base len => len ≤ 128 ∧ base < 2 ^ 128 ∧ hostPart 128 base len = 0

/-- `router::RouteIp`. -/
inductive RouteIp where
  | inRange (c : AnyIpCidr)
  | notInRange (c : AnyIpCidr)
deriving DecidableEq, Repr, Inhabited

/-- `RouteIp::match_ip`. -/
def RouteIp.matchIp : RouteIp → IpAddr → Bool
  | .inRange c, a => c.contains a
  | .notInRange c, a => !c.contains a

/-! ### Parsing the canonical texts -/

def isDigit (c : Char) : Bool := decide ('0' ≤ c) && decide (c ≤ '9')

def hexVal (c : Char) : Option Nat :=
  if '0' ≤ c ∧ c ≤ '9' then some (c.toNat - '0'.toNat)
  else if 'a' ≤ c ∧ c ≤ 'f' then some (c.toNat - 'a'.toNat + 10)
  else if 'A' ≤ c ∧ c ≤ 'F' then some (c.toNat - 'A'.toNat + 10)
  else none

/-- A plain decimal number: at least one digit, digits only. -/
def parseDec (cs : List Char) : Option Nat :=
  if cs.isEmpty || !cs.all isDigit then none
  else some (cs.foldl (fun acc c => acc * 10 + (c.toNat - '0'.toNat)) 0)

/-- One IPv4 octet in `std` syntax: 1–3 digits, no leading zero (except `0` itself), ≤ 255. -/
def parseOctet (cs : List Char) : Option Nat :=
  if cs.length > 3 then none
  else if cs.length > 1 && cs.head? == some '0' then none
  else match parseDec cs with
    | some n => if n ≤ 255 then some n else none
    | none => none

/-- Split at every occurrence of `sep` (like `str::split`). -/
def splitOn (sep : Char) : List Char → List (List Char)
  | [] => [[]]
  | c :: cs =>
    match splitOn sep cs with
    | [] => [[]]          -- unreachable
    | g :: gs => if c = sep then [] :: g :: gs else (c :: g) :: gs

def allSome {α : Type} : List (Option α) → Option (List α)
  | [] => some []
  | none :: _ => none
  | some a :: rest => (allSome rest).map (a :: ·)

/-- `Ipv4Addr::from_str` on dotted-quad text. -/
def parseV4 (cs : List Char) : Option Nat :=
  match allSome ((splitOn '.' cs).map parseOctet) with
  | some [a, b, c, d] => some (((a * 256 + b) * 256 + c) * 256 + d)
  | _ => none

/-- One IPv6 group: 1–4 hex digits. -/
def parseGroup (cs : List Char) : Option Nat :=
  if cs.isEmpty || cs.length > 4 then none
  else (allSome (cs.map hexVal)).map fun ds => ds.foldl (fun acc d => acc * 16 + d) 0

/-- Groups of one side of a `::` (the empty text is no group).  With `tail` (the text runs to the end of the address) the last
group may be an embedded dotted quad (`::ffff:10.1.2.3`), which stands for two groups. -/
def parseGroups (tail : Bool) (cs : List Char) : Option (List Nat) :=
  if cs.isEmpty then some []
  else
    let parts := splitOn ':' cs
    match parts.getLast? with
    | some last =>
      if tail && last.contains '.' then
        match parseV4 last, allSome ((parts.dropLast).map parseGroup) with
        | some v, some gs => some (gs ++ [v / 65536, v % 65536])
        | _, _ => none
      else allSome (parts.map parseGroup)
    | none => some []

/-- Split at the first `::`. -/
def splitDoubleColon : List Char → Option (List Char × List Char)
  | [] => none
  | ':' :: ':' :: rest => some ([], rest)
  | c :: rest => (splitDoubleColon rest).map fun (l, r) => (c :: l, r)

def v6OfGroups (gs : List Nat) : Nat := gs.foldl (fun acc g => acc * 65536 + g) 0

/-- `Ipv6Addr::from_str`: eight groups, or fewer with one `::` standing for the missing zero groups (the form
`Ipv6Addr`'s `Display` prints); the last 32 bits may be an embedded dotted quad (`parseGroups true`). -/
def parseV6 (cs : List Char) : Option Nat :=
  match splitDoubleColon cs with
  | none =>
    match parseGroups true cs with
    | some gs => if gs.length = 8 then some (v6OfGroups gs) else none
    | none => none
  | some (l, r) =>
    match parseGroups false l, parseGroups true r with
    | some gl, some gr =>
      if gl.length + gr.length ≤ 7 ∧ (splitDoubleColon r).isNone ∧ r.head? ≠ some ':' then
        some (v6OfGroups (gl ++ List.replicate (8 - gl.length - gr.length) 0 ++ gr))
      else none
    | _, _ => none

/-- `str::parse::<IpAddr>()`. -/
def parseAddr (cs : List Char) : Option IpAddr :=
  match parseV4 cs with
  | some n => some (.v4 n)
  | none => (parseV6 cs).map .v6

/-- Split at the last `/` (`s.rfind('/')`). -/
def rsplitSlash (cs : List Char) : Option (List Char × List Char) :=
  match (splitOn '/' cs).reverse with
  | [] => none
  | [_] => none
  | last :: restRev =>
    some ((restRev.reverse.intersperse ['/']).flatten, last)

/-- `parse_prefix_len`: `u8::from_str` (an optional leading `+`, then digits). -/
def parsePrefixLen (cs : List Char) : Option Nat :=
  let cs := match cs with
    | '+' :: rest => rest
    | _ => cs
  match parseDec cs with
  | some n => if n ≤ 255 then some n else none
  | none => none

/-- `str::parse::<AnyIpCidr>()` (`parse_any_cidr(s, str::parse)`). -/
def parseAnyCidr (s : String) : Option AnyIpCidr :=
  let cs := s.toList
  if s = "any" then some .any
  else match rsplitSlash cs with
    | none => (parseAddr cs).map AnyIpCidr.newHost
    | some (a, l) =>
      match parseAddr a, parsePrefixLen l with
      | some addr, some len => AnyIpCidr.new? addr len
      | _, _ => none

/-- One entry of `source.ips` (`IpConstraint::{InRange, NotInRange}` with its text). -/
structure IpConstraint where
  neg : Bool
  range : String
deriving DecidableEq, Repr

/-- `Rule::route_ips`: unparsable ranges are dropped (logged); no range left = no ip trigger at all. -/
def routeIps (ips : Option (List IpConstraint)) : Option (List RouteIp) :=
  match ips with
  | none => none
  | some l =>
    let rs := l.filterMap fun c =>
      (parseAnyCidr c.range).map fun k => if c.neg then RouteIp.notInRange k else RouteIp.inRange k
    if rs.isEmpty then none else some rs

end Rio.Cidr
