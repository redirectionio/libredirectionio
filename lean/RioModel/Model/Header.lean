/-
Model of `src/filter/filter_header.rs` and `src/filter/header_action/*.rs`.

Each header action is transcribed as the loop the Rust code runs (accumulator
`new_headers`, flag `found`); the closed forms the property talks about are
*theorems* (Props/C13.lean), not definitions.  Name comparison in the code is
`a.to_lowercase() == b.to_lowercase()`; the model takes `lower` as a parameter
(theorems hold for every `lower`), the driver (Drivers/C13.lean, `lowerTable`)
instantiates it per case with the table of `to_lowercase` values that Rust
computed for the names of the case (ASCII lower-casing for a case without table).
-/
import RioModel.Generated.Consts

namespace Rio.Header

structure Header where
  name : String
  value : String
deriving DecidableEq, Repr, Inhabited

/-- `api::HeaderFilter` (id / target_hash only feed the unit trace, not the result). -/
structure HeaderFilter where
  action : String
  header : String
  value : String
deriving DecidableEq, Repr, Inhabited

section
variable (lower : String → String)

/-- `header.name.to_lowercase() == self.name.to_lowercase()`. -/
def sameName (n : String) (h : Header) : Bool := lower h.name == lower n

/-- `HeaderAddAction::filter`. -/
def addAction (n v : String) (hs : List Header) : List Header :=
  hs ++ [⟨n, v⟩]

/-- `HeaderRemoveAction::filter`: the `for header in headers` loop pushing into `new_headers`. -/
def removeAction (n : String) (hs : List Header) : List Header :=
  hs.foldl (fun acc h => if !sameName lower n h then acc ++ [h] else acc) []

/-- `HeaderReplaceAction::filter`. -/
def replaceAction (n v : String) (hs : List Header) : List Header :=
  hs.foldl (fun acc h => if sameName lower n h then acc ++ [⟨n, v⟩] else acc ++ [h]) []

/-- `HeaderOverrideAction::filter`: loop with the `found` flag, then the conditional push. -/
def overrideAction (n v : String) (hs : List Header) : List Header :=
  let r := hs.foldl
    (fun (st : List Header × Bool) h =>
      if !sameName lower n h then (st.1 ++ [h], st.2) else (st.1 ++ [⟨n, v⟩], true))
    ([], false)
  if !r.2 then r.1 ++ [⟨n, v⟩] else r.1

/-- The `found` loop of `HeaderDefaultAction::filter` (with its `break`). -/
def defaultFound (n : String) : List Header → Bool
  | [] => false
  | h :: rest => if sameName lower n h then true else defaultFound n rest

/-- `HeaderDefaultAction::filter`. -/
def defaultAction (n v : String) (hs : List Header) : List Header :=
  if !defaultFound lower n hs then hs ++ [⟨n, v⟩] else hs

/-- The five actions of `create_header_action`; `none` = the final `None` of that function.
The action names are read from the source on every run (Generated/Consts.lean). -/
inductive Act where
  | add (n v : String) | remove (n : String) | replace (n v : String)
  | override (n v : String) | default (n v : String)
deriving DecidableEq, Repr

def createHeaderAction (f : HeaderFilter) : Option Act :=
  if f.action == Rio.Consts.headerActionAdd then some (.add f.header f.value)
  else if f.action == Rio.Consts.headerActionRemove then some (.remove f.header)
  else if f.action == Rio.Consts.headerActionReplace then some (.replace f.header f.value)
  else if f.action == Rio.Consts.headerActionOverride then some (.override f.header f.value)
  else if f.action == Rio.Consts.headerActionDefault then some (.default f.header f.value)
  else none

def Act.run (a : Act) (hs : List Header) : List Header :=
  match a with
  | .add n v => addAction n v hs
  | .remove n => removeAction lower n hs
  | .replace n v => replaceAction lower n v hs
  | .override n v => overrideAction lower n v hs
  | .default n v => defaultAction lower n v hs

/-- `FilterHeaderAction::new` followed by `FilterHeaderAction::filter`; `new` returning `None`
(no filter, or no known action) makes `Action::filter_headers` keep the headers. -/
def filterHeaders (fs : List HeaderFilter) (hs : List Header) : List Header :=
  if fs.isEmpty then hs
  else
    let actions := fs.filterMap createHeaderAction
    if actions.isEmpty then hs
    else actions.foldl (fun hs a => a.run lower hs) hs

/-! ### Reference operations (the specification the property states) -/

def refOp (f : HeaderFilter) (hs : List Header) : List Header :=
  if f.action == "add" then hs ++ [⟨f.header, f.value⟩]
  else if f.action == "remove" then hs.filter (fun h => !sameName lower f.header h)
  else if f.action == "replace" then
    hs.map (fun h => if sameName lower f.header h then ⟨f.header, f.value⟩ else h)
  else if f.action == "override" then
    (if hs.any (sameName lower f.header)
     then hs.map (fun h => if sameName lower f.header h then ⟨f.header, f.value⟩ else h)
     else hs ++ [⟨f.header, f.value⟩])
  else if f.action == "default" then
    (if hs.any (sameName lower f.header) then hs else hs ++ [⟨f.header, f.value⟩])
  else hs

def refFold (fs : List HeaderFilter) (hs : List Header) : List Header :=
  fs.foldl (fun hs f => refOp lower f hs) hs

end
end Rio.Header
