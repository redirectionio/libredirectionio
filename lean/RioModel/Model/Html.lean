/-
Model of the streaming HTML tokenizer `/repo/src/html/mod.rs` (C16; used by C03 C04 C14 C15 C07).

A function-by-function port.  Bytes are `Nat`s in an `Array Nat` (random access in the driver,
`omega`-friendly in proofs; the theorems hold for arbitrary `Nat` entries, a fortiori for bytes),
positions are `Nat`.  `&mut self` methods are functions returning the new state.  Every Rust panic
possibility (usize underflow of `raw.end -= k` / `raw.end - k`, `u8` underflow, index / slice out of
range) is an explicit guard whose failure sets the sticky flag `panic` (the look-ups and `raw` / `buffered`, which return
no state, answer `none` instead; the accessors that do return `Res.panic` as well); the one loop whose progress
depends on the *content* of the input (the attribute loop of `read_tag`) carries an explicit progress
check whose failure sets the sticky flag `hang` (the Rust loop would spin for ever).  `Props/C16.lean`
proves both flags are never set.  Position loops are well-founded recursions on `size - raw.end`.

API:
  `Tokenizer.new bytes`, `Tokenizer.newFragment bytes ctxLower`, `Tokenizer.setAllowCdata`, `Tokenizer.next`, `Tokenizer.raw`,
  `Tokenizer.buffered`, `Tokenizer.text`, `Tokenizer.tagName`, `Tokenizer.tagAttr`, `Tokenizer.attrsAll`,
  fields `token err panic hang utf8Err rawS rawE dataS dataE rawTag textIsRaw convertNull allowCdata`.
-/
import RioModel.Generated.Consts

namespace Rio.Html
open Rio.Consts

/-- `enum TokenType` -/
inductive TokenType where
  | none | error | text | startTag | endTag | selfClosing | comment | doctype
  deriving DecidableEq, Repr, Inhabited

/-- one saved attribute: `[Span; 2]` = key span, value span -/
structure AttrSpan where
  ks : Nat
  ke : Nat
  vs : Nat
  ve : Nat
  deriving Repr, DecidableEq, Inhabited

/-- `struct Tokenizer` (spans flattened to their two ends). -/
structure Tokenizer where
  /-- `reader` -/
  buf : Array Nat
  token : TokenType := .none
  /-- `err.is_some()` (the only error kind ever stored is EOF) -/
  err : Bool := false
  rawS : Nat := 0
  rawE : Nat := 0
  dataS : Nat := 0
  dataE : Nat := 0
  /-- `pending_attribute[0]` -/
  pkS : Nat := 0
  pkE : Nat := 0
  /-- `pending_attribute[1]` -/
  pvS : Nat := 0
  pvE : Nat := 0
  /-- `attribute` -/
  attrs : Array AttrSpan := #[]
  /-- `number_attribute_returned` -/
  nAttrRet : Nat := 0
  /-- `raw_tag` as bytes (`[]` = empty string) -/
  rawTag : List Nat := []
  textIsRaw : Bool := false
  convertNull : Bool := false
  allowCdata : Bool := true
  /-- a Rust panic (arithmetic underflow, index/slice out of range) would have happened -/
  panic : Bool := false
  /-- the attribute loop of `read_tag` made no progress (the Rust loop would not terminate) -/
  hang : Bool := false
  /-- `next()` returned `Err(FromUtf8Error)` (only possible in `read_start_tag`) -/
  utf8Err : Bool := false

namespace Tokenizer

/-! ### byte classes -/

def isWs (b : Nat) : Bool := b == 32 || b == 10 || b == 13 || b == 9 || b == 12
def isAlpha (b : Nat) : Bool := (65 ≤ b && b ≤ 90) || (97 ≤ b && b ≤ 122)
def isUpper (b : Nat) : Bool := 65 ≤ b && b ≤ 90
/-- `if c.is_ascii_uppercase() { c += b'a' - b'A' }` -/
def lowerByte (b : Nat) : Nat := if isUpper b then b + 32 else b
/-- ' ' | '\n' | '\r' | '\t' | '\x0c' | '/' | '>' -/
def isTagEnd (b : Nat) : Bool := isWs b || b == 47 || b == 62

/-! ### UTF-8 validity (`String::from_utf8`) as a byte automaton -/

/-- state: number of continuation bytes still expected, and the admissible range of the next one -/
structure U8St where
  need : Nat := 0
  lo : Nat := 128
  hi : Nat := 191

def utf8Step (s : Option U8St) (b : Nat) : Option U8St :=
  match s with
  | .none => .none
  | .some s =>
    if s.need = 0 then
      if b < 128 then some {}
      else if 194 ≤ b && b ≤ 223 then some { need := 1 }
      else if b == 224 then some { need := 2, lo := 160 }
      else if (225 ≤ b && b ≤ 236) || b == 238 || b == 239 then some { need := 2 }
      else if b == 237 then some { need := 2, hi := 159 }
      else if b == 240 then some { need := 3, lo := 144 }
      else if 241 ≤ b && b ≤ 243 then some { need := 3 }
      else if b == 244 then some { need := 3, hi := 143 }
      else .none
    else if s.lo ≤ b && b ≤ s.hi then some { need := s.need - 1 }
    else .none

/-- `String::from_utf8(bytes).is_ok()` -/
def validUtf8 (bs : List Nat) : Bool :=
  match bs.foldl utf8Step (some {}) with
  | some s => s.need == 0
  | .none => false

/-! ### primitive moves -/

/-- `read_byte` -/
def readByte (t : Tokenizer) : Tokenizer × Nat :=
  if h : t.rawE < t.buf.size then ({ t with rawE := t.rawE + 1 }, t.buf[t.rawE])
  else ({ t with err := true }, 0)

/-- `self.raw.end -= k` (usize: underflow panics) -/
def unread (t : Tokenizer) (k : Nat) : Tokenizer :=
  if k ≤ t.rawE then { t with rawE := t.rawE - k } else { t with panic := true }

/-- `self.data.end = self.raw.end - k` -/
def setDataEndBack (t : Tokenizer) (k : Nat) : Tokenizer :=
  if k ≤ t.rawE then { t with dataE := t.rawE - k } else { t with panic := true }

/-- `self.raw.end += k` -/
def addRawE (t : Tokenizer) (k : Nat) : Tokenizer := { t with rawE := t.rawE + k }

theorem readByte_buf (t : Tokenizer) : t.readByte.1.buf = t.buf := by
  unfold readByte; split <;> rfl

theorem readByte_decr (t : Tokenizer) (h : ¬ t.readByte.1.err = true) :
    t.readByte.1.buf.size - t.readByte.1.rawE < t.buf.size - t.rawE := by
  unfold readByte at *; split <;> simp_all; omega

theorem readByte_rawE_ge (t : Tokenizer) : t.rawE ≤ t.readByte.1.rawE := by
  unfold readByte; split <;> simp

theorem unread_buf (t : Tokenizer) (k : Nat) : (t.unread k).buf = t.buf := by
  unfold unread; split <;> rfl

theorem unread_rawE (t : Tokenizer) (k : Nat) : t.rawE ≤ (t.unread k).rawE + k := by
  unfold unread; split <;> simp <;> omega

/-! ### `skip_white_space` -/

def skipWsGo (t : Tokenizer) : Tokenizer :=
  let r := t.readByte
  if _h : r.1.err then r.1
  else if isWs r.2 then skipWsGo r.1
  else r.1.unread 1
termination_by t.buf.size - t.rawE
decreasing_by exact readByte_decr t _h

/-- `skip_white_space` -/
def skipWhiteSpace (t : Tokenizer) : Tokenizer :=
  if t.err then t else skipWsGo t

/-! ### raw text: `read_raw_end_tag`, `read_raw_or_cdata` -/

/-- the `for i in 0..self.raw_tag.len()` loop of `read_raw_end_tag`; `true` = every byte matched.
`false` with `err` = EOF, `false` without = mismatch (the byte was unread). -/
def rawEndTagLoop (t : Tokenizer) : List Nat → Tokenizer × Bool
  | [] => (t, true)
  | c :: cs =>
    let r := t.readByte
    if r.1.err then (r.1, false)
    else if r.2 != c then
      -- `byte != raw_tag[i] - (b'a' - b'A')`: u8 subtraction, evaluated only when byte != raw_tag[i]
      if c < 32 then ({ r.1 with panic := true }, false)
      else if r.2 != c - 32 then (r.1.unread 1, false)
      else rawEndTagLoop r.1 cs
    else rawEndTagLoop r.1 cs

/-- `read_raw_end_tag` (the `3`, a literal in the source too: `</` and the byte behind the name) -/
def readRawEndTag (t : Tokenizer) : Tokenizer × Bool :=
  let l := rawEndTagLoop t t.rawTag
  if !l.2 then (l.1, false)
  else
    let r := l.1.readByte
    if r.1.err then (r.1, false)
    else if isTagEnd r.2 then (r.1.unread (3 + t.rawTag.length), true)
    else (r.1.unread 1, false)

/-- states of the script sub-automaton = the mutually tail-calling `read_script_data_*` functions -/
inductive SS where
  | data | lessThanSign | endTagOpen | escapeStart | escapeStartDash
  | escaped | escapedDash | escapedDashDash | escapedLessThanSign | escapedEndTagOpen
  | doubleEscapeStart | doubleEscaped | doubleEscapedDash | doubleEscapedDashDash
  | doubleEscapedLessThanSign | doubleEscapedEnd
  deriving DecidableEq, Repr, Inhabited

/-- Rank for the lexicographic termination measure: an edge that consumes no byte (unread then
re-dispatch) goes to a state of strictly smaller rank; chains of such edges have length ≤ 2. -/
def SS.rank : SS → Nat
  | .data | .escaped | .escapedDash | .escapedDashDash
  | .doubleEscaped | .doubleEscapedDash | .doubleEscapedDashDash => 0
  | .doubleEscapeStart => 1
  | _ => 2

/-- the `for i in 0.."script".len()` loop of `read_script_data_double_escape_start` -/
def dblEscLoop (t : Tokenizer) : List (Nat × Nat) → Tokenizer × Bool
  | [] => (t, true)
  | (lo, up) :: cs =>
    let r := t.readByte
    if r.1.err then (r.1, false)
    else if r.2 != lo && r.2 != up then (r.1.unread 1, false)
    else dblEscLoop r.1 cs

theorem readByte_cases (t : Tokenizer) :
    (t.readByte.1.rawE = t.rawE + 1 ∧ t.rawE < t.buf.size ∧ t.readByte.1.err = t.err) ∨
    (t.readByte.1.rawE = t.rawE ∧ t.readByte.1.err = true) := by
  unfold readByte; split <;> simp_all

theorem readByte_ok {t : Tokenizer} (h : ¬ t.readByte.1.err = true) :
    t.readByte.1.rawE = t.rawE + 1 ∧ t.rawE < t.buf.size := by
  rcases readByte_cases t with h' | h'
  · exact ⟨h'.1, h'.2.1⟩
  · exact absurd h'.2 h

theorem readByte_rawE_le (t : Tokenizer) : t.readByte.1.rawE ≤ t.rawE + 1 := by
  rcases readByte_cases t with h | h <;> omega

theorem unread_rawE_le (t : Tokenizer) (k : Nat) : (t.unread k).rawE ≤ t.rawE := by
  unfold unread; split <;> simp

theorem rawEndTagLoop_buf (t : Tokenizer) (cs : List Nat) : (rawEndTagLoop t cs).1.buf = t.buf := by
  induction cs generalizing t with
  | nil => rfl
  | cons c cs ih =>
    simp only [rawEndTagLoop, apply_ite Prod.fst, apply_ite Tokenizer.buf, ih, unread_buf, readByte_buf, ite_self]

theorem rawEndTagLoop_rawE (t : Tokenizer) (cs : List Nat) :
    t.rawE ≤ (rawEndTagLoop t cs).1.rawE ∧
    ((rawEndTagLoop t cs).2 = true → (rawEndTagLoop t cs).1.rawE = t.rawE + cs.length) := by
  induction cs generalizing t with
  | nil => exact ⟨Nat.le_refl _, fun _ => rfl⟩
  | cons c cs ih =>
    have ih' := ih t.readByte.1
    have hge := readByte_rawE_ge t
    simp only [rawEndTagLoop, List.length_cons]
    by_cases herr : t.readByte.1.err = true
    · rw [if_pos herr]; exact ⟨hge, nofun⟩
    rw [if_neg herr]
    have h1 := (readByte_ok herr).1
    rw [show t.rawE + (cs.length + 1) = t.readByte.1.rawE + cs.length by omega]
    have hrec := And.intro (Nat.le_trans hge ih'.1) ih'.2
    by_cases hc : (t.readByte.2 != c) = true
    · rw [if_pos hc]
      by_cases h32 : c < 32
      · rw [if_pos h32]; exact ⟨hge, nofun⟩
      rw [if_neg h32]
      by_cases hu : (t.readByte.2 != c - 32) = true
      · rw [if_pos hu]
        have hu1 := unread_rawE t.readByte.1 1
        exact ⟨by simp only; omega, nofun⟩
      · rw [if_neg hu]; exact hrec
    · rw [if_neg hc]; exact hrec

theorem readRawEndTag_buf (t : Tokenizer) : t.readRawEndTag.1.buf = t.buf := by
  simp only [readRawEndTag, apply_ite Prod.fst, apply_ite Tokenizer.buf, unread_buf, readByte_buf,
    rawEndTagLoop_buf, ite_self]

/-- what the termination argument of the script automaton needs from `read_raw_end_tag` -/
theorem readRawEndTag_rawE (t : Tokenizer) :
    t.rawE ≤ t.readRawEndTag.1.rawE + 2 ∧ (t.readRawEndTag.2 = false → t.rawE ≤ t.readRawEndTag.1.rawE) ∧
    (t.readRawEndTag.2 = true → t.rawE < t.buf.size) := by
  have hl := rawEndTagLoop_rawE t t.rawTag
  have hb := rawEndTagLoop_buf t t.rawTag
  unfold readRawEndTag
  simp only
  generalize rawEndTagLoop t t.rawTag = l at *
  by_cases hok : (!l.2) = true
  · rw [if_pos hok]; dsimp only; exact ⟨by omega, fun _ => hl.1, nofun⟩
  rw [if_neg hok]
  have he := hl.2 (by simpa using hok)
  have hge := readByte_rawE_ge l.1
  by_cases herr : l.1.readByte.1.err = true
  · rw [if_pos herr]; dsimp only; exact ⟨by omega, fun _ => by omega, nofun⟩
  rw [if_neg herr]
  have h1 := readByte_ok herr
  rw [hb] at h1
  by_cases hte : isTagEnd l.1.readByte.2 = true
  · rw [if_pos hte]; dsimp only
    have hu := unread_rawE l.1.readByte.1 (3 + t.rawTag.length)
    exact ⟨by omega, nofun, fun _ => by omega⟩
  · rw [if_neg hte]; dsimp only
    have hu := unread_rawE l.1.readByte.1 1
    exact ⟨by omega, fun _ => by omega, nofun⟩

theorem dblEscLoop_buf (t : Tokenizer) (cs : List (Nat × Nat)) : (dblEscLoop t cs).1.buf = t.buf := by
  induction cs generalizing t with
  | nil => rfl
  | cons c cs ih =>
    simp only [dblEscLoop, apply_ite Prod.fst, apply_ite Tokenizer.buf, ih, unread_buf, readByte_buf, ite_self]

theorem dblEscLoop_rawE (t : Tokenizer) (cs : List (Nat × Nat)) : t.rawE ≤ (dblEscLoop t cs).1.rawE := by
  induction cs generalizing t with
  | nil => exact Nat.le_refl _
  | cons c cs ih =>
    have hge := readByte_rawE_ge t
    simp only [dblEscLoop]
    by_cases herr : t.readByte.1.err = true
    · rw [if_pos herr]; exact hge
    rw [if_neg herr]
    have h1 := readByte_ok herr
    by_cases hc : (t.readByte.2 != c.1 && t.readByte.2 != c.2) = true
    · rw [if_pos hc]
      have hu := unread_rawE t.readByte.1 1
      simp only; omega
    · rw [if_neg hc]; exact Nat.le_trans hge (ih _)

/-! ### the script sub-automaton: `read_script_data*` as one function over the explicit state -/

/-- the lexicographic step of the script automaton's termination measure (bytes left, `SS.rank`): an edge that consumes
no byte must go to a state of smaller rank -/
theorem lex_of_le {x m a b : Nat} (h : x ≤ m) (hab : a < b) : x < m ∨ x = m ∧ a < b :=
  (Nat.lt_or_eq_of_le h).imp_right fun e => ⟨e, hab⟩

theorem read_unread_le {t : Tokenizer} (h : ¬ t.readByte.1.err = true) :
    (t.readByte.1.unread 1).buf.size - (t.readByte.1.unread 1).rawE ≤ t.buf.size - t.rawE := by
  have hd := readByte_decr t h
  have hur := unread_rawE t.readByte.1 1
  rw [unread_buf]
  omega

theorem rawEnd_le {t : Tokenizer} (h : ¬ t.readRawEndTag.2 = true) :
    t.readRawEndTag.1.buf.size - t.readRawEndTag.1.rawE ≤ t.buf.size - t.rawE := by
  have hr := (readRawEndTag_rawE t).2.1 (Bool.eq_false_iff.mpr h)
  rw [readRawEndTag_buf]
  omega

theorem rawEnd_add_lt {t : Tokenizer} (h : t.readRawEndTag.2 = true) :
    (t.readRawEndTag.1.addRawE htmlScriptEndTagLen).buf.size - (t.readRawEndTag.1.addRawE htmlScriptEndTagLen).rawE <
      t.buf.size - t.rawE := by
  have hr := readRawEndTag_rawE t
  have h3 := hr.2.2 h
  have hb : t.readRawEndTag.1.buf.size = t.buf.size := by rw [readRawEndTag_buf]
  simp only [htmlScriptEndTagLen, addRawE]
  omega

theorem dblEsc_le (t : Tokenizer) (cs : List (Nat × Nat)) :
    (dblEscLoop t cs).1.buf.size - (dblEscLoop t cs).1.rawE ≤ t.buf.size - t.rawE := by
  have hr := dblEscLoop_rawE t cs
  rw [dblEscLoop_buf]
  omega

/-- `read_script_data` and the fifteen functions it tail-calls.  Termination: lexicographic in
(bytes left, `SS.rank`). -/
def scriptGo (st : SS) (t : Tokenizer) : Tokenizer :=
  match st with
  | .data =>                       -- read_script_data
    let r := t.readByte
    if _h : r.1.err then r.1
    else if r.2 == 60 then scriptGo .lessThanSign r.1
    else scriptGo .data r.1
  | .lessThanSign =>               -- read_script_data_less_than_sign
    let r := t.readByte
    if _h : r.1.err then r.1
    else if r.2 == 47 then scriptGo .endTagOpen r.1
    else if r.2 == 33 then scriptGo .escapeStart r.1
    else scriptGo .data (r.1.unread 1)
  | .endTagOpen =>                 -- read_script_data_end_tag_open
    let r := t.readRawEndTag
    if _h : r.2 || r.1.err then r.1
    else scriptGo .data r.1
  | .escapeStart =>                -- read_script_data_escape_start
    let r := t.readByte
    if _h : r.1.err then r.1
    else if r.2 == 45 then scriptGo .escapeStartDash r.1
    else scriptGo .data (r.1.unread 1)
  | .escapeStartDash =>            -- read_script_data_escape_start_dash
    let r := t.readByte
    if _h : r.1.err then r.1
    else if r.2 == 45 then scriptGo .escapedDashDash r.1
    else scriptGo .data (r.1.unread 1)
  | .escaped =>                    -- read_script_data_escaped
    let r := t.readByte
    if _h : r.1.err then r.1
    else if r.2 == 45 then scriptGo .escapedDash r.1
    else if r.2 == 60 then scriptGo .escapedLessThanSign r.1
    else scriptGo .escaped r.1
  | .escapedDash =>                -- read_script_data_escaped_dash
    let r := t.readByte
    if _h : r.1.err then r.1
    else if r.2 == 45 then scriptGo .escapedDashDash r.1
    else if r.2 == 60 then scriptGo .escapedLessThanSign r.1
    else scriptGo .escaped r.1
  | .escapedDashDash =>            -- read_script_data_escaped_dash_dash
    let r := t.readByte
    if _h : r.1.err then r.1
    else if r.2 == 45 then scriptGo .escapedDashDash r.1
    else if r.2 == 60 then scriptGo .escapedLessThanSign r.1
    else if r.2 == 62 then scriptGo .data r.1
    else scriptGo .escaped r.1
  | .escapedLessThanSign =>        -- read_script_data_escaped_less_than_sign
    let r := t.readByte
    if _h : r.1.err then r.1
    else if r.2 == 47 then scriptGo .escapedEndTagOpen r.1
    -- the callee's first statement `self.raw.end -= 1` is performed here (its only call site)
    else if isAlpha r.2 then scriptGo .doubleEscapeStart (r.1.unread 1)
    else scriptGo .data (r.1.unread 1)
  | .escapedEndTagOpen =>          -- read_script_data_escaped_end_tag_open
    let r := t.readRawEndTag
    if _h : r.2 || r.1.err then r.1
    else scriptGo .escaped r.1
  | .doubleEscapeStart =>          -- read_script_data_double_escape_start
    -- (after its first statement `self.raw.end -= 1`, see `escapedLessThanSign`)
    let l := dblEscLoop t htmlDoubleEscapePat
    if _h1 : l.1.err then l.1
    else if _h2 : !l.2 then scriptGo .escaped l.1   -- mismatch: the byte was unread in the loop
    else
      let r := l.1.readByte
      if _h : r.1.err then r.1
      else if isTagEnd r.2 then scriptGo .doubleEscaped r.1
      else scriptGo .escaped (r.1.unread 1)
  | .doubleEscaped =>              -- read_script_data_double_escaped
    let r := t.readByte
    if _h : r.1.err then r.1
    else if r.2 == 45 then scriptGo .doubleEscapedDash r.1
    else if r.2 == 60 then scriptGo .doubleEscapedLessThanSign r.1
    else scriptGo .doubleEscaped r.1
  | .doubleEscapedDash =>          -- read_script_data_double_escaped_dash
    let r := t.readByte
    if _h : r.1.err then r.1
    else if r.2 == 45 then scriptGo .doubleEscapedDashDash r.1
    else if r.2 == 60 then scriptGo .doubleEscapedLessThanSign r.1
    else scriptGo .doubleEscaped r.1
  | .doubleEscapedDashDash =>      -- read_script_data_double_escaped_dash_dash
    let r := t.readByte
    if _h : r.1.err then r.1
    else if r.2 == 45 then scriptGo .doubleEscapedDashDash r.1
    else if r.2 == 60 then scriptGo .doubleEscapedLessThanSign r.1
    else if r.2 == 62 then scriptGo .data r.1
    else scriptGo .doubleEscaped r.1
  | .doubleEscapedLessThanSign =>  -- read_script_data_double_escaped_less_than_sign
    let r := t.readByte
    if _h : r.1.err then r.1
    else if r.2 == 47 then scriptGo .doubleEscapedEnd r.1
    else scriptGo .doubleEscaped (r.1.unread 1)
  | .doubleEscapedEnd =>           -- read_script_data_double_escaped_end
    let r := t.readRawEndTag
    if _h : r.2 then scriptGo .escaped (r.1.addRawE htmlScriptEndTagLen)
    else if _h' : r.1.err then r.1
    else scriptGo .doubleEscaped r.1
termination_by (t.buf.size - t.rawE, st.rank)
decreasing_by
  all_goals simp_wf
  all_goals simp only [Prod.lex_def, SS.rank]
  -- one goal per recursive call, in source order
  · exact Or.inl (readByte_decr t _h)
  · exact Or.inl (readByte_decr t _h)
  · exact Or.inl (readByte_decr t _h)
  · exact Or.inl (readByte_decr t _h)
  · exact lex_of_le (read_unread_le _h) (by decide)
  · exact lex_of_le (rawEnd_le fun h => _h (by rw [h]; rfl)) (by decide)
  · exact Or.inl (readByte_decr t _h)
  · exact lex_of_le (read_unread_le _h) (by decide)
  · exact Or.inl (readByte_decr t _h)
  · exact lex_of_le (read_unread_le _h) (by decide)
  · exact Or.inl (readByte_decr t _h)
  · exact Or.inl (readByte_decr t _h)
  · exact Or.inl (readByte_decr t _h)
  · exact Or.inl (readByte_decr t _h)
  · exact Or.inl (readByte_decr t _h)
  · exact Or.inl (readByte_decr t _h)
  · exact Or.inl (readByte_decr t _h)
  · exact Or.inl (readByte_decr t _h)
  · exact Or.inl (readByte_decr t _h)
  · exact Or.inl (readByte_decr t _h)
  · exact Or.inl (readByte_decr t _h)
  · exact lex_of_le (read_unread_le _h) (by decide)
  · exact lex_of_le (read_unread_le _h) (by decide)
  · exact lex_of_le (rawEnd_le fun h => _h (by rw [h]; rfl)) (by decide)
  · exact lex_of_le (dblEsc_le t _) (by decide)
  · exact Or.inl (Nat.lt_of_lt_of_le (readByte_decr _ _h) (dblEsc_le t _))
  · exact lex_of_le (Nat.le_trans (read_unread_le _h) (dblEsc_le t _)) (by decide)
  · exact Or.inl (readByte_decr t _h)
  · exact Or.inl (readByte_decr t _h)
  · exact Or.inl (readByte_decr t _h)
  · exact Or.inl (readByte_decr t _h)
  · exact Or.inl (readByte_decr t _h)
  · exact Or.inl (readByte_decr t _h)
  · exact Or.inl (readByte_decr t _h)
  · exact Or.inl (readByte_decr t _h)
  · exact Or.inl (readByte_decr t _h)
  · exact Or.inl (readByte_decr t _h)
  · exact Or.inl (readByte_decr t _h)
  · exact lex_of_le (read_unread_le _h) (by decide)
  · exact Or.inl (rawEnd_add_lt _h)
  · exact lex_of_le (rawEnd_le _h) (by decide)

/-- `read_script` -/
def readScript (t : Tokenizer) : Tokenizer :=
  let t1 := scriptGo .data t
  { t1 with dataE := t1.rawE }

/-- the `loop` of `read_raw_or_cdata` (non-script raw text / RCDATA) -/
def rawTextGo (t : Tokenizer) : Tokenizer :=
  let r := t.readByte
  if _h : r.1.err then r.1
  else if r.2 != 60 then rawTextGo r.1
  else
    let r2 := r.1.readByte
    if _h2 : r2.1.err then r2.1
    else if r2.2 != 47 then rawTextGo r2.1   -- as in the source the byte is not put back: `<</title>` is not an end tag
    else
      let e := r2.1.readRawEndTag
      if _h3 : e.2 || e.1.err then e.1
      else rawTextGo e.1
termination_by t.buf.size - t.rawE
decreasing_by
  · exact readByte_decr t _h
  · have h1 := readByte_decr t _h
    have h2 := readByte_decr t.readByte.1 _h2
    omega
  · exact Nat.lt_of_le_of_lt (rawEnd_le fun h => _h3 (by rw [h]; rfl))
      (Nat.lt_trans (readByte_decr _ _h2) (readByte_decr t _h))

/-- `read_raw_or_cdata` -/
def readRawOrCdata (t : Tokenizer) : Tokenizer :=
  if t.rawTag == htmlScript then
    let t1 := readScript t
    { t1 with textIsRaw := true, rawTag := [] }
  else
    let t1 := rawTextGo t
    { t1 with dataE := t1.rawE,
              textIsRaw := t1.rawTag != htmlTextarea && t1.rawTag != htmlTitle,
              rawTag := [] }

/-- `while self.err.is_none() { self.read_byte(); }` (plaintext) -/
def readToEnd (t : Tokenizer) : Tokenizer :=
  if t.err then t
  else
    let r := t.readByte
    if _h : r.1.err then r.1 else readToEnd r.1
termination_by t.buf.size - t.rawE
decreasing_by exact readByte_decr t _h

/-! ### comments, declarations -/

/-- the `loop` of `read_comment` -/
def commentGo (t : Tokenizer) (dash : Nat) : Tokenizer :=
  let r := t.readByte
  if _h : r.1.err then
    r.1.setDataEndBack (if dash > 2 then 2 else dash)
  else if r.2 == 45 then commentGo r.1 (dash + 1)
  else if r.2 == 62 then
    if dash ≥ 2 then r.1.setDataEndBack htmlCommentEndLen
    else commentGo r.1 0
  else if r.2 == 33 then
    if dash ≥ 2 then
      let r2 := r.1.readByte
      if _h2 : r2.1.err then { r2.1 with dataE := r2.1.rawE }
      else if r2.2 == 62 then r2.1.setDataEndBack htmlCommentBangEndLen
      else commentGo r2.1 0
    else commentGo r.1 0
  else commentGo r.1 0
termination_by t.buf.size - t.rawE
decreasing_by
  · exact readByte_decr t _h
  · exact readByte_decr t _h
  · exact Nat.lt_trans (readByte_decr _ _h2) (readByte_decr t _h)
  · exact readByte_decr t _h
  · exact readByte_decr t _h

/-- `read_comment` -/
def readComment (t : Tokenizer) : Tokenizer :=
  let t1 := commentGo { t with dataS := t.rawE } 2
  if t1.dataE < t1.dataS then { t1 with dataE := t1.dataS } else t1

def untilCloseAngleGo (t : Tokenizer) : Tokenizer :=
  let r := t.readByte
  if _h : r.1.err then { r.1 with dataE := r.1.rawE }
  else if r.2 == 62 then r.1.setDataEndBack 1
  else untilCloseAngleGo r.1
termination_by t.buf.size - t.rawE
decreasing_by exact readByte_decr t _h

/-- `read_until_close_angle` -/
def readUntilCloseAngle (t : Tokenizer) : Tokenizer :=
  untilCloseAngleGo { t with dataS := t.rawE }

/-- the `for i in 0..lit.len()` loops of `read_doc_type` (`(b, b + 32)` pairs) and `read_cdata`
(`(b, b)` pairs): EOF → `data.end = raw.end`, mismatch → `raw.end = data.start`; `true` = all matched -/
def declLoop (t : Tokenizer) : List (Nat × Nat) → Tokenizer × Bool
  | [] => (t, true)
  | (c, c') :: cs =>
    let r := t.readByte
    if r.1.err then ({ r.1 with dataE := r.1.rawE }, false)
    else if r.2 != c && r.2 != c' then ({ r.1 with rawE := r.1.dataS }, false)
    else declLoop r.1 cs

/-- `read_doc_type` -/
def readDocType (t : Tokenizer) : Tokenizer × Bool :=
  let l := declLoop t htmlDoctypePat
  if !l.2 then (l.1, false)
  else
    let t1 := l.1.skipWhiteSpace
    if t1.err then ({ t1 with dataS := t1.rawE, dataE := t1.rawE }, true)
    else (t1.readUntilCloseAngle, true)

/-- the `loop` of `read_cdata` -/
def cdataGo (t : Tokenizer) (brackets : Nat) : Tokenizer :=
  let r := t.readByte
  if _h : r.1.err then { r.1 with dataE := r.1.rawE }
  else if r.2 == 93 then cdataGo r.1 (brackets + 1)
  else if r.2 == 62 then
    -- `brackets > 2` in the source: three `]`, not the two of `]]>`
    if brackets ≥ htmlCdataBracketMin then r.1.setDataEndBack htmlCdataEndLen
    else cdataGo r.1 0
  else cdataGo r.1 0
termination_by t.buf.size - t.rawE
decreasing_by all_goals exact readByte_decr t _h

/-- `read_cdata` -/
def readCdata (t : Tokenizer) : Tokenizer × Bool :=
  let l := declLoop t htmlCdataPat
  if !l.2 then (l.1, false)
  else (cdataGo { l.1 with dataS := l.1.rawE } 0, true)

/-- `read_markup_declaration`, after `self.raw.end -= 2`: doctype, CDATA or bogus comment -/
def markupRest (t : Tokenizer) : Tokenizer × TokenType :=
  let d := t.readDocType
  if d.2 then (d.1, .doctype)
  else if d.1.allowCdata then
    let c := d.1.readCdata
    if c.2 then ({ c.1 with convertNull := true }, .text)
    else (c.1.readUntilCloseAngle, .comment)
  else (d.1.readUntilCloseAngle, .comment)

/-- `read_markup_declaration`, after `self.data.start = self.raw.end` -/
def markupGo (t : Tokenizer) : Tokenizer × TokenType :=
  let r1 := t.readByte
  if r1.1.err then ({ r1.1 with dataE := r1.1.rawE }, .comment)
  else
    let r2 := r1.1.readByte
    if r2.1.err then ({ r2.1 with dataE := r2.1.rawE }, .comment)
    else if r1.2 == 45 && r2.2 == 45 then (r2.1.readComment, .comment)
    else markupRest (r2.1.unread 2)

/-- `read_markup_declaration` -/
def readMarkupDeclaration (t : Tokenizer) : Tokenizer × TokenType :=
  markupGo { t with dataS := t.rawE }

/-! ### tags -/

def tagNameGo (t : Tokenizer) : Tokenizer :=
  let r := t.readByte
  if _h : r.1.err then { r.1 with dataE := r.1.rawE }
  else if isWs r.2 then r.1.setDataEndBack 1
  else if r.2 == 47 || r.2 == 62 then
    let u := r.1.unread 1
    { u with dataE := u.rawE }
  else tagNameGo r.1
termination_by t.buf.size - t.rawE
decreasing_by exact readByte_decr t _h

/-- `read_tag_name` (`self.data.start = self.raw.end - 1`) -/
def readTagName (t : Tokenizer) : Tokenizer :=
  if t.rawE = 0 then { t with panic := true }
  else tagNameGo { t with dataS := t.rawE - 1 }

def attrKeyGo (t : Tokenizer) : Tokenizer :=
  let r := t.readByte
  if _h : r.1.err then { r.1 with pkE := r.1.rawE }
  else if isWs r.2 || r.2 == 47 then
    if r.1.rawE = 0 then { r.1 with panic := true } else { r.1 with pkE := r.1.rawE - 1 }
  else if r.2 == 61 || r.2 == 62 then
    let u := r.1.unread 1
    { u with pkE := u.rawE }
  else attrKeyGo r.1
termination_by t.buf.size - t.rawE
decreasing_by exact readByte_decr t _h

/-- `read_tag_name_attr_key` -/
def readTagAttrKey (t : Tokenizer) : Tokenizer :=
  attrKeyGo { t with pkS := t.rawE }

/-- quoted value loop of `read_tag_name_attr_value` -/
def attrValQuotedGo (t : Tokenizer) (quote : Nat) : Tokenizer :=
  let r := t.readByte
  if _h : r.1.err then { r.1 with pvE := r.1.rawE }
  else if r.2 == quote then
    if r.1.rawE = 0 then { r.1 with panic := true } else { r.1 with pvE := r.1.rawE - 1 }
  else attrValQuotedGo r.1 quote
termination_by t.buf.size - t.rawE
decreasing_by exact readByte_decr t _h

/-- unquoted value loop of `read_tag_name_attr_value` -/
def attrValUnquotedGo (t : Tokenizer) : Tokenizer :=
  let r := t.readByte
  if _h : r.1.err then { r.1 with pvE := r.1.rawE }
  else if isWs r.2 then
    if r.1.rawE = 0 then { r.1 with panic := true } else { r.1 with pvE := r.1.rawE - 1 }
  else if r.2 == 62 then
    let u := r.1.unread 1
    { u with pvE := u.rawE }
  else attrValUnquotedGo r.1
termination_by t.buf.size - t.rawE
decreasing_by exact readByte_decr t _h

/-- `read_tag_name_attr_value`, after the `=` was read -/
def attrValRest (t : Tokenizer) : Tokenizer :=
  let t2 := t.skipWhiteSpace
  if t2.err then t2
  else
    let q := t2.readByte
    if q.1.err then q.1
    else if q.2 == 62 then q.1.unread 1
    else if q.2 == 39 || q.2 == 34 then attrValQuotedGo { q.1 with pvS := q.1.rawE } q.2
    else if q.1.rawE = 0 then { q.1 with panic := true }
    else attrValUnquotedGo { q.1 with pvS := q.1.rawE - 1 }

/-- `read_tag_name_attr_value`, after the pending value span was reset -/
def attrValGo (t : Tokenizer) : Tokenizer :=
  let t1 := t.skipWhiteSpace
  if t1.err then t1
  else
    let r := t1.readByte
    if r.1.err then r.1
    else if r.2 != 61 then r.1.unread 1
    else attrValRest r.1

/-- `read_tag_name_attr_value` -/
def readTagAttrVal (t : Tokenizer) : Tokenizer :=
  attrValGo { t with pvS := t.rawE, pvE := t.rawE }

/-- `self.attribute.push(self.pending_attribute.clone())` -/
def pushPending (t : Tokenizer) : Tokenizer :=
  { t with attrs := t.attrs.push ⟨t.pkS, t.pkE, t.pvS, t.pvE⟩ }

/-- one iteration body of the attribute loop of `read_tag`, after the look-ahead byte was unread -/
def readAttr (t : Tokenizer) (saveAttr : Bool) : Tokenizer :=
  let t1 := t.readTagAttrKey
  let t2 := t1.readTagAttrVal
  let t3 := if saveAttr && t2.pkS != t2.pkE then t2.pushPending else t2
  t3.skipWhiteSpace

/-- the attribute `loop` of `read_tag`.  Progress of one iteration depends on the bytes read (a key
may be empty when the next byte is `=`, which the value part then consumes), so the recursion is
guarded by an explicit progress check: no progress = the Rust loop would spin for ever = `hang`. -/
def tagAttrsGo (t : Tokenizer) (saveAttr : Bool) : Tokenizer :=
  let r := t.readByte
  if r.1.err || r.2 == 62 then r.1
  else
    let t1 := readAttr (r.1.unread 1) saveAttr
    if t1.err then t1
    else if _h : t1.buf.size - t1.rawE < t.buf.size - t.rawE then tagAttrsGo t1 saveAttr
    else { t1 with hang := true }
termination_by t.buf.size - t.rawE
decreasing_by exact _h

/-- `read_tag` -/
def readTag (t : Tokenizer) (saveAttr : Bool) : Tokenizer :=
  let t0 := { t with attrs := #[], nAttrRet := 0 }
  let t1 := t0.readTagName
  let t2 := t1.skipWhiteSpace
  if t2.err then t2 else tagAttrsGo t2 saveAttr

/-- `&self.reader[a..b]` (panics unless `a ≤ b ≤ len`) -/
def slice? (t : Tokenizer) (a b : Nat) : Option (List Nat) :=
  if a ≤ b ∧ b ≤ t.buf.size then some (t.buf.extract a b).toList else none

/-- one candidate of `start_tag_in`: `none` = index out of range (panic) -/
def matchLower (t : Tokenizer) (p : Nat) : List Nat → Option Bool
  | [] => some true
  | c :: cs =>
    if h : p < t.buf.size then
      if lowerByte t.buf[p] != c then some false else matchLower t (p + 1) cs
    else none

/-- `start_tag_in`: `none` = panic (`data.end - data.start` underflow or index out of range) -/
def startTagIn (t : Tokenizer) : List (List Nat) → Option Bool
  | [] => some false
  | s :: ss =>
    if t.dataE < t.dataS then none
    else if t.dataE - t.dataS != s.length then startTagIn t ss
    else match matchLower t t.dataS s with
      | none => none
      | some true => some true
      | some false => startTagIn t ss

/-- the `match byte_char` of `read_start_tag` over the regenerated dispatch table -/
def rawLookup (t : Tokenizer) (first : Nat) : List (Nat × List (List Nat)) → Option Bool
  | [] => some false
  | (l, names) :: rest => if first == l then startTagIn t names else rawLookup t first rest

/-- `read_start_tag`: raw-text element detection (`self.raw_tag = ...to_lowercase()`) -/
def startTagRaw (t1 : Tokenizer) : Tokenizer :=
  if h : t1.dataS < t1.buf.size then
    let first := lowerByte t1.buf[t1.dataS]
    match rawLookup t1 first htmlRawDispatch with
    | none => { t1 with panic := true }
    | some false => t1
    | some true =>
      -- `String::from_utf8(self.reader[data.start..data.end].to_vec())?.to_lowercase()`
      match t1.slice? t1.dataS t1.dataE with
      | none => { t1 with panic := true }
      | some bs => if validUtf8 bs then { t1 with rawTag := bs.map lowerByte } else { t1 with utf8Err := true }
  else { t1 with panic := true }

/-- `read_start_tag`: `if self.err.is_none() && self.reader[self.raw.end - 2] == b'/'` (`.error` is not reached from
`readStartTag`, which tests the index first: its panic) -/
def startTagKind (t2 : Tokenizer) : TokenType :=
  if h2 : t2.rawE - 2 < t2.buf.size then
    if !t2.err && t2.buf[t2.rawE - 2] == 47 then .selfClosing else .startTag
  else .error

/-- `read_start_tag` -/
def readStartTag (t : Tokenizer) : Tokenizer × TokenType :=
  let t1 := t.readTag true
  if t1.err then (t1, .error)
  else
    let t2 := t1.startTagRaw
    -- (on `Err` the source returns before `self.token` is assigned; never taken: only ASCII table names are converted)
    if t2.panic || t2.utf8Err then (t2, .error)
    else if t2.rawE < 2 || t2.buf.size ≤ t2.rawE - 2 then ({ t2 with panic := true }, .error)
    else (t2, t2.startTagKind)

/-! ### `next` -/

/-- after the `'main` loop -/
def finishText (t : Tokenizer) : Tokenizer :=
  if t.rawS < t.rawE then { t with dataE := t.rawE, token := .text }
  else { t with token := .error }

/-- the body of the `'main` loop of `next` once `<` and a tag-opening byte `c` (letter, `/`, `!`, `?`)
have been read: flush pending text, or read the tag / comment / declaration -/
def dispatchTag (t2 : Tokenizer) (c : Nat) : Tokenizer :=
  -- `let x = self.raw.end - "<a".len();`
  if t2.rawE < htmlTagOpenLen then { t2 with panic := true }
  else
    let x := t2.rawE - htmlTagOpenLen
    if t2.rawS < x then { t2 with rawE := x, dataE := x, token := .text }
    else if isAlpha c then
      let s := t2.readStartTag
      { s.1 with token := s.2 }
    else if c == 47 then
      let r3 := t2.readByte
      if r3.1.err then finishText r3.1
      else if r3.2 == 62 then { r3.1 with token := .comment }
      else if isAlpha r3.2 then
        let t4 := r3.1.readTag false
        if t4.err then { t4 with token := .error } else { t4 with token := .endTag }
      else
        let t4 := (r3.1.unread 1).readUntilCloseAngle
        { t4 with token := .comment }
    else if c == 33 then
      let m := t2.readMarkupDeclaration
      { m.1 with token := m.2 }
    else
      let t4 := (t2.unread 1).readUntilCloseAngle
      { t4 with token := .comment }

/-- the `'main: loop` of `next` -/
def mainLoop (t : Tokenizer) : Tokenizer :=
  let r := t.readByte
  if _h : r.1.err then finishText r.1
  else if r.2 != 60 then mainLoop r.1
  else
    let r2 := r.1.readByte
    if _h2 : r2.1.err then finishText r2.1
    else if !(isAlpha r2.2 || r2.2 == 47 || r2.2 == 33 || r2.2 == 63) then mainLoop (r2.1.unread 1)
    else dispatchTag r2.1 r2.2
termination_by t.buf.size - t.rawE
decreasing_by
  · exact readByte_decr t _h
  · exact Nat.lt_of_le_of_lt (read_unread_le _h2) (readByte_decr t _h)

/-- `Tokenizer::next` after the three span assignments at its top -/
def nextGo (t : Tokenizer) : Tokenizer :=
  if t.err then { t with token := .error }
  else
    let cont (t : Tokenizer) : Tokenizer :=
      mainLoop { t with textIsRaw := false, convertNull := false }
    if t.rawTag != [] then
      let t1 :=
        if t.rawTag == htmlPlaintext then
          let t1 := t.readToEnd
          { t1 with dataE := t1.rawE, textIsRaw := true }
        else t.readRawOrCdata
      if t1.dataE > t1.dataS then { t1 with token := .text, convertNull := true }
      else cont t1
    else cont t

/-- `Tokenizer::next`.  (`Err(FromUtf8Error)` is the flag `utf8Err`; the returned token type is the
field `token`.) -/
def next (t : Tokenizer) : Tokenizer :=
  nextGo { t with rawS := t.rawE, dataS := t.rawE, dataE := t.rawE }

/-! ### construction and accessors -/

/-- `Tokenizer::new` -/
def new (bytes : Array Nat) : Tokenizer := { buf := bytes }

/-- `Tokenizer::new_fragment`; `ctxLower` = bytes of `context_tag.to_lowercase()` -/
def newFragment (bytes : Array Nat) (ctxLower : List Nat) : Tokenizer :=
  if htmlFragmentRawTags.contains ctxLower then { buf := bytes, rawTag := ctxLower } else { buf := bytes }

/-- `allow_cdata` -/
def setAllowCdata (t : Tokenizer) (b : Bool) : Tokenizer := { t with allowCdata := b }

/-- outcome of an accessor: `Err(FromUtf8Error)` or a (would-be) panic are explicit -/
inductive Res (α : Type) where
  | ok (a : α)
  | utf8Err
  | panic
  deriving Repr

/-- `raw()`: `none` = slice out of range (panic) -/
def raw (t : Tokenizer) : Option (List Nat) := t.slice? t.rawS t.rawE

/-- `buffered()`: `none` = slice out of range (panic) -/
def buffered (t : Tokenizer) : Option (List Nat) := t.slice? t.rawE t.buf.size

/-- `s.replace('\x00', "\u{fffd}")` on UTF-8 bytes -/
def replaceNul (bs : List Nat) : List Nat :=
  bs.flatMap fun b => if b == 0 then [239, 191, 189] else [b]

def isTextLike (k : TokenType) : Bool := k == .text || k == .comment || k == .doctype
def isTagLike (k : TokenType) : Bool := k == .startTag || k == .endTag || k == .selfClosing

/-- `text()` → UTF-8 bytes of the returned string -/
def text (t : Tokenizer) : Res (Option (List Nat)) × Tokenizer :=
  if isTextLike t.token then
    match t.slice? t.dataS t.dataE with
    | none => (.panic, { t with panic := true })
    | some bs =>
      if !validUtf8 bs then (.utf8Err, t)
      else
        let t' := { t with dataS := t.rawE, dataE := t.rawE }
        let out := if t.convertNull || (t.token == .text && bs.contains 0) then replaceNul bs else bs
        (.ok (some out), t')
  else (.ok none, t)

/-- `tag_name()` → (name bytes, has_attr).  `String::to_lowercase` is modelled by ASCII lower-casing:
exact for ASCII names; for names with non-ASCII letters Rust applies Unicode lower-casing, which is not
modelled (the correspondence compares such names only up to validity). -/
def tagName (t : Tokenizer) : Res (Option (List Nat) × Bool) × Tokenizer :=
  if t.dataS < t.dataE && isTagLike t.token then
    match t.slice? t.dataS t.dataE with
    | none => (.panic, { t with panic := true })
    | some bs =>
      if !validUtf8 bs then (.utf8Err, t)
      else (.ok (some (bs.map lowerByte), t.nAttrRet < t.attrs.size),
            { t with dataS := t.rawE, dataE := t.rawE })
  else (.ok (none, false), t)

/-- `tag_attr()` → (key bytes lower-cased as in `tagName`, value bytes, has_more).  As in the Rust,
`number_attribute_returned` is incremented before the UTF-8 checks. -/
def tagAttr (t : Tokenizer) : Res (Option (List Nat) × Option (List Nat) × Bool) × Tokenizer :=
  if h : t.nAttrRet < t.attrs.size then
    if t.token == .startTag || t.token == .selfClosing then
      let a := t.attrs[t.nAttrRet]
      let t' := { t with nAttrRet := t.nAttrRet + 1 }
      match t.slice? a.ks a.ke with
      | none => (.panic, { t' with panic := true })
      | some k =>
        if !validUtf8 k then (.utf8Err, t')
        else match t.slice? a.vs a.ve with
          | none => (.panic, { t' with panic := true })
          | some v =>
            if !validUtf8 v then (.utf8Err, t')
            else (.ok (some (k.map lowerByte), some v, t'.nAttrRet < t'.attrs.size), t')
    else (.ok (none, none, false), t)
  else (.ok (none, none, false), t)

/-- the `while has_attr { tag_attr()? }` loop of `token()`: all remaining attributes, or the first
failure.  (`None`s from `tag_attr()`, impossible while `has_attr` holds, end the list here; the source pushes them.) -/
def attrsAll (t : Tokenizer) : Res (List (List Nat × List Nat)) × Tokenizer :=
  go (t.attrs.size - t.nAttrRet) t []
where
  go : Nat → Tokenizer → List (List Nat × List Nat) → Res (List (List Nat × List Nat)) × Tokenizer
    | 0, t, acc => (.ok acc.reverse, t)
    | n + 1, t, acc =>
      match t.tagAttr with
      | (.ok (some k, some v, more), t') => if more then go n t' ((k, v) :: acc) else (.ok ((k, v) :: acc).reverse, t')
      | (.ok _, t') => (.ok acc.reverse, t')
      | (.utf8Err, t') => (.utf8Err, t')
      | (.panic, t') => (.panic, t')

/-- The state after each `next()` up to and including the first `ErrorToken`.
The fuel `size + 2` always suffices (`Rio.C16.token_count_le`). -/
def run (t : Tokenizer) : List Tokenizer :=
  go (t.buf.size + 2) t []
where
  go : Nat → Tokenizer → List Tokenizer → List Tokenizer
    | 0, _, acc => acc.reverse
    | n + 1, t, acc =>
      let t' := t.next
      if t'.token == .error then (t' :: acc).reverse else go n t' (t' :: acc)

end Tokenizer
end Rio.Html
