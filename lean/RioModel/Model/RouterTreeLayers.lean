/-
Router model, part 7: the two regex-tree layers over the REAL tree model (Model/Tree.lean, property
C08) instead of its specification, and the tower / router built from them.

  `PathT`  = `PathAndQueryMatcher` with `regex_tree_rule : RegexTreeMap<Arc<Route>>` = `Item String Route`
  `HostT`  = `HostMatcher` with `regex_tree_rule : UniqueRegexTreeMap<IpMatcher>` = `Item (List Char) I.M`
             (the id of a value is its pattern), `static_hosts` a separate association list

The other five layers are the ones of RouterLayers.lean.  Tree keys are regex *strings*: `TEnv.render`
is `MarkerString.regex` of a pattern; the engine is W1's `Engine` record.  `TEnv.env` is the
specification-level environment this induces (`find` of a leaf = `^pattern$` under the tree's case
flag), so that the flat specification `sat (T.env)` is the same predicate as for the
specification-level tower.  Proofs/RouterTree*.lean prove the layer laws for these two layers from
the theorems of C08 and instantiate the tower; the statements of C01 / C02 / C17 then hold for
`RouterT` with the additional hypothesis that the marker patterns of inserted rules are in C08's domain.
-/
import RioModel.Model.RouterLayers
import RioModel.Model.Tree

namespace Rio.Router
open Rio.Regex

/-- Parameters of the tower over the real regex-tree model. -/
structure TEnv where
  alwaysAnyHost : Bool
  engine : Engine
  /-- `MarkerString.regex`: the regex string of a pattern – the key under which it is stored -/
  render : Pat → List Char
  /-- `config.ignore_host_case` / `config.ignore_path_and_query_case`: the trees' `ignore_case` -/
  icHost : Bool
  icPath : Bool
  headerRegex : Pat → String → Bool
  lower : String → String

/-- The specification-level environment induced by the engine: a pattern matches iff its anchored
regex does under the tree's case flag. -/
def TEnv.env (T : TEnv) : Env where
  alwaysAnyHost := T.alwaysAnyHost
  hostFind := fun p h => T.engine.full T.icHost (T.render p) h.toList
  pathFind := fun p s => T.engine.full T.icPath (T.render p) s.toList
  headerRegex := T.headerRegex
  lower := T.lower

/-- `HostMatcher`'s view: keys are regex strings. -/
def TEnv.host (T : TEnv) : HostCfg (List Char) :=
  ⟨T.render, T.alwaysAnyHost, fun k h => T.engine.full T.icHost k h.toList⟩

/-! ## PathAndQueryMatcher over the real tree -/

structure PathTState where
  /-- `regex_tree_rule : RegexTreeMap<Arc<Route<T>>>` -/
  tree : Tree.Item String Route
  /-- `static_rules` (as in RouterLayers.lean: one association list keyed `(path, id)`) -/
  statics : List ((String × String) × Route)
  count : Nat

section
variable (T : TEnv)

/-- `PathAndQueryMatcher::new`: `RegexTreeMap::new(config.ignore_path_and_query_case)`. -/
def PathT.empty : PathTState := ⟨.empty T.icPath, [], 0⟩

/-- `PathAndQueryMatcher::insert`. -/
def PathT.insert (r : Route) (s : PathTState) : PathTState :=
  match r.path with
  | .static p =>
    { s with count := s.count + 1, statics := aupsert (fun _ => r) r (p, r.id) s.statics }
  | .dyn p =>
    { s with count := s.count + 1, tree := s.tree.insert (T.render p) r.id r }

/-- `PathAndQueryMatcher::remove`.  When `regex_tree_rule.remove(id)` finds nothing the code keeps
the tree `remove` left, the model the old one: the same tree under the tree invariant, not outside
it (`Rio.C02.gen_path_remove_eq_model_unrestricted_fails`). -/
def PathT.remove (id : String) (s : PathTState) : PathTState × Option Route :=
  let t := s.tree.remove id
  match t.2 with
  | some r => ({ s with tree := t.1, count := s.count - 1 }, some r)
  | none =>
    let st := entryRemove id s.statics
    ({ s with statics := st.1, count := if st.2.isSome then s.count - 1 else s.count }, st.2)

/-- `PathAndQueryMatcher::batch_remove`: `regex_tree_rule.retain(&|id, _| !ids.contains(id))`. -/
def PathT.batchRemove (ids : List String) (s : PathTState) : PathTState :=
  { s with
    statics := s.statics.filter (fun e => !ids.contains e.1.2),
    tree := s.tree.retain (Tree.keepIf fun id _ => !ids.contains id) }

/-- `PathAndQueryMatcher::match_request`. -/
def PathT.matchReq (s : PathTState) (q : Req) : List Route :=
  s.tree.find T.engine q.path.toList ++
    (s.statics.filter (fun e => e.1.1 == q.path)).map Prod.snd

mutual
/-- `tree_trace_to_trace` of path_and_query.rs: children first, then – if the node lists values –
a `Storage` node holding them iff the node matched. -/
def pathTreeTrace : Tree.Trace Route → Trace
  | .mk _ count matched children values =>
    Trace.mk matched true count (.other "regex")
      (pathTreeTraceL children ++
        (if values.isEmpty then []
         else [Trace.mk matched true values.length (.storage (if matched then values else [])) []]))
def pathTreeTraceL : List (Tree.Trace Route) → List Trace
  | [] => []
  | t :: ts => pathTreeTrace t :: pathTreeTraceL ts
end

/-- `PathAndQueryMatcher::trace`. -/
def PathT.trace (s : PathTState) (q : Req) : List Trace :=
  let tr := pathTreeTrace (s.tree.trace T.engine q.path.toList)
  let treeT := Trace.mk tr.matched true tr.count (.other "path_and_query_regex") [tr]
  let found := (s.statics.filter (fun e => e.1.1 == q.path)).map Prod.snd
  let staticT : List Trace :=
    if found.isEmpty then [] else [Trace.mk true true found.length (.storage found) []]
  [treeT, Trace.mk (!staticT.isEmpty) true (staticKeyCount s.statics) (.other "path_and_query_static") staticT]

/-- `PathAndQueryMatcher::cache`: `self.regex_tree_rule.cache(limit, Some(level))`.  `treeCache`
returns `none` on a `u64` underflow of the budget; it never does (`Rio.C12.cache_total`), the
fallback value is unreachable (`pathT_cache_ok`). -/
def PathT.cache (limit level : Nat) (s : PathTState) : PathTState × Nat :=
  match Tree.treeCache T.engine s.tree limit (some level) with
  | some r => ({ s with tree := r.1 }, r.2)
  | none => (s, limit)

def pathTOps : MOps where
  M := PathTState
  empty := PathT.empty T
  insert := PathT.insert T
  remove := PathT.remove
  batchRemove := PathT.batchRemove
  matchReq := PathT.matchReq T
  trace := PathT.trace T
  len := fun s => s.count
  cache := PathT.cache T

end

/-! ## HostMatcher over the real tree -/

structure HostTState (I : MOps) where
  /-- `static_hosts` -/
  statics : List (String × I.M)
  /-- `regex_tree_rule : UniqueRegexTreeMap<IpMatcher<T>>` -/
  tree : Tree.Item (List Char) I.M
  any : I.M
  count : Nat

section
variable (T : TEnv) (I : MOps)

/-- `HostMatcher::new`: `UniqueRegexTreeMap::new(config.ignore_host_case)`. -/
def HostT.empty : HostTState I := ⟨[], .empty T.icHost, I.empty, 0⟩

/-- `HostMatcher::insert`: `match regex_tree_rule.get_mut(regex) { Some(m) => m.insert(route),
None => { let mut m = IpMatcher::new(..); m.insert(route); regex_tree_rule.insert(regex, m) } }`. -/
def HostT.insert (r : Route) (s : HostTState I) : HostTState I :=
  match r.host with
  | none => { s with any := I.insert r s.any, count := s.count + 1 }
  | some (.static h) =>
    if h = "" then { s with any := I.insert r s.any, count := s.count + 1 }
    else { s with statics := aupsert (I.insert r) I.empty h s.statics, count := s.count + 1 }
  | some (.dyn p) =>
    let k := T.render p
    match Tree.uGet s.tree k with
    | some _ => { s with tree := s.tree.modifyAt k (fun _ m => I.insert r m), count := s.count + 1 }
    | none => { s with tree := Tree.uInsert s.tree k (I.insert r I.empty), count := s.count + 1 }

/-- The `retain` closure of `HostMatcher::remove` / `batch_remove` on one bucket: update it, drop it
when it became empty. -/
def pruneVal (g : I.M → I.M) (m : I.M) : Option I.M :=
  if I.isEmpty (g m) then none else some (g m)

/-- One visit of the closure: `if let Some(value) = matcher.remove(id) { *removed_in_tree = Some(value) }`. -/
def hitStep (id : String) (acc : Option Route) (m : I.M) : Option Route :=
  ((I.remove id m).2).orElse (fun _ => acc)

/-- `removed_in_tree`: the `RefCell` written by the closure for every bucket that held the route
(the last writer wins; the buckets are visited in tree order). -/
def lastHit (id : String) (ms : List I.M) : Option Route := ms.foldl (hitStep I id) none

/-- `HostMatcher::remove`. -/
def HostT.remove (id : String) (s : HostTState I) : HostTState I × Option Route :=
  let ra := I.remove id s.any
  if ra.2.isSome then ({ s with any := ra.1, count := s.count - 1 }, ra.2)
  else
    let rs := removeAll I id s.statics
    let inTree := lastHit I id (s.tree.contents.map (·.val))
    let tree' := s.tree.retain (fun _ m => pruneVal I (fun m => (I.remove id m).1) m)
    let removed := if rs.2.isSome then rs.2 else inTree
    ({ statics := rs.1, tree := tree', any := ra.1,
       count := if removed.isSome then s.count - 1 else s.count }, removed)

/-- `HostMatcher::batch_remove`. -/
def HostT.batchRemove (ids : List String) (s : HostTState I) : HostTState I :=
  { s with any := I.batchRemove ids s.any, statics := batchAll I ids s.statics,
           tree := s.tree.retain (fun _ m => pruneVal I (I.batchRemove ids) m) }

/-- The host-bound part of `HostMatcher::match_request`. -/
def HostT.matchBound (s : HostTState I) (q : Req) : List Route :=
  match q.host with
  | none => []
  | some h =>
    (s.tree.find T.engine h.toList).flatMap (fun m => I.matchReq m q) ++
      ((alookup h s.statics).map (fun b => I.matchReq b q)).getD []

/-- `HostMatcher::match_request`. -/
def HostT.matchReq (s : HostTState I) (q : Req) : List Route :=
  let routes := HostT.matchBound T I s q
  if T.alwaysAnyHost || routes.isEmpty then routes ++ I.matchReq s.any q else routes

mutual
/-- `tree_trace_to_trace` of host.rs: children first, then the traces of the node's buckets iff it
matched. -/
def hostTreeTrace (q : Req) : Tree.Trace I.M → Trace
  | .mk _ count matched children values =>
    Trace.mk matched true count (.other "regex")
      (hostTreeTraceL q children ++ (if matched then values.flatMap (fun m => I.trace m q) else []))
def hostTreeTraceL (q : Req) : List (Tree.Trace I.M) → List Trace
  | [] => []
  | t :: ts => hostTreeTrace q t :: hostTreeTraceL q ts
end

/-- `for (host, matcher) in &self.static_hosts` of `HostMatcher::trace`. -/
def HostT.staticNode (q : Req) (e : String × I.M) : Trace :=
  if q.host == some e.1
  then Trace.mk true true (I.len e.2) (.other "host_static") (I.trace e.2 q)
  else Trace.mk false false (I.len e.2) (.other "host_static") []

/-- The host-bound part of `HostMatcher::trace`. -/
def HostT.traceBound (s : HostTState I) (q : Req) : List Trace :=
  s.statics.map (HostT.staticNode I q) ++
    (match q.host with
     | none => []
     | some h =>
       let tr := hostTreeTrace I q (s.tree.trace T.engine h.toList)
       [Trace.mk tr.matched true tr.count (.other "host_regex") [tr]] ++
         (if (alookup h s.statics).isNone
          then [Trace.mk true false 0 (.other "host_static") []] else []))

/-- `HostMatcher::trace`. -/
def HostT.trace (s : HostTState I) (q : Req) : List Trace :=
  let traces := HostT.traceBound T I s q
  if T.alwaysAnyHost || (routesOfList traces).isEmpty then traces ++ I.trace s.any q else traces

/-- `HostMatcher::cache`: the tree's own regexes (`regex_tree_rule.cache(limit, Some(level))`), the
static buckets, the tree's buckets (`for matcher in regex_tree_rule.iter_mut()`: the budget is
threaded through the stored buckets in tree order – `Item.contents`, property C08
`iter_enumerates` – and every bucket is stored back under its id), then the any-host bucket. -/
def HostT.cache (limit level : Nat) (s : HostTState I) : HostTState I × Nat :=
  let rt := (Tree.treeCache T.engine s.tree limit (some level)).getD (s.tree, limit)
  let rs := cacheAll I level s.statics rt.2
  let rb := cacheAll I level (rt.1.contents.map (fun e => (e.id, e.val))) rs.2
  let tree' := rt.1.retain (fun id m => some ((alookup id rb.1).getD m))
  let ra := I.cache rb.2 level s.any
  ({ s with statics := rs.1, tree := tree', any := ra.1 }, ra.2)

def hostTOps : MOps where
  M := HostTState I
  empty := HostT.empty T I
  insert := HostT.insert T I
  remove := HostT.remove I
  batchRemove := HostT.batchRemove I
  matchReq := HostT.matchReq T I
  trace := HostT.trace T I
  len := fun s => s.count
  cache := HostT.cache T I

end

/-! ## The tower and the router over the real trees -/

section
variable (T : TEnv)

/-- `SchemeMatcher<T>` with both regex trees modelled as trees. -/
def towerTOps : MOps :=
  schemeOps (hostTOps T (ipOps (methodOps (headerOps T.env (dateTimeOps (pathTOps T))))))

/-- The router model over the real tree model. -/
abbrev RouterT := RouterG (towerTOps T)

end

end Rio.Router
