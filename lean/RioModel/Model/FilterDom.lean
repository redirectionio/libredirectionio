/-
C15: the document side of the specification — a DOM type, its serialisation and the reference edit.

  `Node`       text / comment / declaration / inserted value (all emitted verbatim) or an element
               (normal, void, self-closing, raw-text) with raw attribute text and a display name (case variant)
  `serialize`  the bytes of a document
  `edit`       the reference edit of one html filter: child semantics along the path (first element anywhere),
               append = last child, prepend = first child, replace = substitute the element; selector decision =
               `selMatches`, the element-name stand-in, applied to the target node

The token list a tokenizer is expected to produce for `serialize d` (`tokensOf`) and the copy of `edit` with the selector
decision a parameter (`editD`), of which the theorems speak, are in Proofs/FilterDom.lean.

The harness (`harness/src/bin/c15.rs`) contains the same definitions in Rust; the driver compares the real filter
output with `serialize (editAll d filters)` computed here.
-/
import RioModel.Model.Filter

namespace Rio.Filter

inductive ElKind where
  | normal | void | selfClosing | raw
  deriving DecidableEq, Repr, Inhabited

inductive Node where
  /-- emitted verbatim; `marks` = names of the elements it contains (inserted values: `valueMarks`), read by `hasElement`,
  hence by `selMatches`, only: the theorems take the selector decision from the bytes (`decOf`) and hold for any `marks` -/
  | verb (raw : Bytes) (marks : List Bytes)
  | el (name disp attrs : Bytes) (kind : ElKind) (children : List Node)
  deriving Repr, Inhabited

mutual
  def serialize : Node → Bytes
    | .verb raw _ => raw
    | .el _ disp attrs kind children =>
      match kind with
      | .selfClosing => [60] ++ disp ++ attrs ++ [47, 62]
      | .void => [60] ++ disp ++ attrs ++ [62]
      | _ => [60] ++ disp ++ attrs ++ [62] ++ serializeList children ++ [60, 47] ++ disp ++ [62]
  def serializeList : List Node → Bytes
    | [] => []
    | n :: ns => serialize n ++ serializeList ns
end

mutual
  /-- does the subtree (the node itself included) contain an element named `name`?  Raw-text content is text. -/
  def hasElement (name : Bytes) : Node → Bool
    | .verb _ marks => marks.contains name
    | .el nm _ _ kind children => nm == name || (kind != .raw && hasElementList name children)
  def hasElementList (name : Bytes) : List Node → Bool
    | [] => false
    | n :: ns => hasElement name n || hasElementList name ns
end

def isIdentB (b : Nat) : Bool :=
  (97 ≤ b && b ≤ 122) || (65 ≤ b && b ≤ 90) || (48 ≤ b && b ≤ 57) || b == 45

/-- the selector decision of the reference on a node (same stand-in as the drivers use for scraper) -/
def selMatches (n : Node) (sel : Bytes) : Bool :=
  if sel == [42] then true
  else if !sel.isEmpty && sel.all isIdentB then hasElement sel n
  else false

def lowerB (b : Nat) : Nat := if 65 ≤ b && b ≤ 90 then b + 32 else b

/-- names of the elements occurring in a value: every `<` followed by a letter starts one -/
def valueMarks : Bytes → List Bytes
  | [] => []
  | b :: rest =>
    if b == 60 then
      match rest with
      | c :: _ =>
        if (65 ≤ c && c ≤ 90) || (97 ≤ c && c ≤ 122) then
          ((rest.takeWhile isIdentB).map lowerB) :: valueMarks rest
        else valueMarks rest
      | [] => []
    else valueMarks rest

inductive EditOp where
  | append | prepend | replace
  deriving DecidableEq, Repr, Inhabited

/-- apply the operation to a target node -/
def applyOp (op : EditOp) (sel : Option Bytes) (ins : Node) (n : Node) : Node :=
  match op with
  | .replace => if (sel.map (selMatches n)).getD true then ins else n
  | .append =>
    if (sel.map fun s => !selMatches n s).getD true then
      match n with
      | .el nm d a k cs => .el nm d a k (cs ++ [ins])
      | v => v
    else n
  | .prepend =>
    if (sel.map fun s => !selMatches n s).getD true then
      match n with
      | .el nm d a k cs => .el nm d a k (ins :: cs)
      | v => v
    else n

def nodeName : Node → Option Bytes
  | .el nm _ _ _ _ => some nm
  | _ => none

mutual
  /-- children lists: look for `p :: ps` (child semantics below the first element; `anywhere` = still looking for the
  first element, at any depth outside raw-text elements) -/
  def editList (op : EditOp) (sel : Option Bytes) (ins : Node) (p : Bytes) (ps : List Bytes) (anywhere : Bool) :
      List Node → List Node
    | [] => []
    | n :: ns => editNode op sel ins p ps anywhere n :: editList op sel ins p ps anywhere ns
  def editNode (op : EditOp) (sel : Option Bytes) (ins : Node) (p : Bytes) (ps : List Bytes) (anywhere : Bool) :
      Node → Node
    | .verb r m => .verb r m
    | .el nm d a k cs =>
      if nm == p then
        match ps with
        | [] => applyOp op sel ins (.el nm d a k cs)
        | q :: qs => .el nm d a k (editList op sel ins q qs false cs)
      else if anywhere && k != .raw then .el nm d a k (editList op sel ins p ps true cs)
      else .el nm d a k cs
end

/-- reference edit of one html filter (`action`, path, selector, value) on a document -/
def edit (doc : List Node) (f : BodyFilter) : List Node :=
  match f with
  | .html action path sel value =>
    let op : Option EditOp :=
      if action = Rio.Consts.filterActionAppend then some .append
      else if action = Rio.Consts.filterActionPrepend then some .prepend
      else if action = Rio.Consts.filterActionReplace then some .replace
      else none
    let sel := match sel with
      | some s => if s.isEmpty then none else some s
      | none => none
    match op, path with
    | some op, p :: ps => editList op sel (.verb value (valueMarks value)) p ps true doc
    | _, _ => doc
  | .text _ _ => doc

def editAll (doc : List Node) (fs : List BodyFilter) : List Node := fs.foldl edit doc

end Rio.Filter
